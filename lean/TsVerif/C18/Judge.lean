import TsVerif.C18.Pos
/-!
# C18 judge: the property's clauses decided on one real tag / one real tag list

`judgeTag src tag` uses only the source text and the tag the implementation emitted (spec
functions `posOf`, `lineSpec`, `utf16Spec`), never the ports of `line_range`/`utf16_len`/cache.
`judgeDocs`/`judgeLocal` additionally use the query matches obtained through the public API.
-/
namespace TsVerif.C18

inductive Verdict where
  | ok
  /-- a clause whose precondition does not hold for this tag (counted, not judged) -/
  | skip (why : String)
  /-- UTF-16 column differs from the spec and the line prefix / name is not well-formed UTF-8
  (LossyUtf8 defect, C17) -/
  | lossy (msg : String)
  | fail (clause : String) (msg : String)
  deriving Repr

/-- Clauses: `range` name ⊆ range ⊆ text; `span` = row/column of the name's ends; `line` =
`lineSpec`; `utf16` = UTF-16 length of the line prefix and of the name. -/
def judgeTag (src : Bytes) (t : Tag) : Verdict :=
  if t.isIgnored then
    .fail "ignored-emitted" s!"a Tag::ignored placeholder for name [{t.name.s},{t.name.e}) was returned (range = usize::MAX)"
  else if !(decide (t.range.s ≤ t.name.s) && decide (t.name.s ≤ t.name.e) && decide (t.name.e ≤ t.range.e)
       && decide (t.range.e ≤ src.length)) then
    .fail "range" s!"name [{t.name.s},{t.name.e}) range [{t.range.s},{t.range.e}) text {src.length}"
  else
    let ps := posOf src t.name.s
    let pe := posOf src t.name.e
    if !(decide (ps = t.spanS) && decide (pe = t.spanE)) then
      .fail "span" s!"span ({t.spanS.row},{t.spanS.col})-({t.spanE.row},{t.spanE.col}) expected ({ps.row},{ps.col})-({pe.row},{pe.col})"
    else
      let ls0 := t.name.s - ps.col
      let nameNonWs := match src[t.name.s]? with
        | some b => !isWs b
        | none => false
      if !nameNonWs then .skip "name-starts-with-whitespace-or-empty-at-eof"
      else
        let l := lineSpec src ls0 maxLineLen
        if !decide (l = t.line) then
          .fail "line" s!"line [{t.line.s},{t.line.e}) expected [{l.s},{l.e})"
        else
          let pre := slice src ls0 t.name.s
          let nm := slice src t.name.s t.name.e
          let us := utf16Spec pre
          let ue := us + utf16Spec nm
          if decide (us = t.u16.s) && decide (ue = t.u16.e) then .ok
          else if !validUtf8 (slice src ls0 t.name.e) || !validUtf8 pre then
            .lossy s!"utf16 [{t.u16.s},{t.u16.e}) expected [{us},{ue}) on ill-formed UTF-8"
          else .fail "utf16" s!"utf16 [{t.u16.s},{t.u16.e}) expected [{us},{ue})"

/-- `judgeTag`, with a failing `line`/`utf16` clause attributed to the multi-row-name cache defect
when some match's name spans rows and ends on the row of this tag. -/
def judgeTagM (src : Bytes) (cfg : Cfg) (ms : List Mat) (t : Tag) : Verdict :=
  match judgeTag src t with
  | .fail c msg =>
    if (c == "line" || c == "utf16") && ms.any (fun m =>
        match (capLoop cfg (cfg.pats[m.pat]?.getD {}) m.caps).name with
        | some n => decide (m.pat ≥ cfg.tagsFrom) && decide (n.sp.row < n.ep.row) && n.ep.row == t.spanS.row
        | none => false)
    then .fail "cache-after-multirow-name" (c ++ ": " ++ msg)
    else .fail c msg
  | v => v

/-- Emitted tags are strictly increasing in `(name.end, name.start)` (hence one per name range). -/
def judgeOrder : List Tag → Option String
  | a :: b :: rest =>
    if keyLt (key a) (key b) then judgeOrder (b :: rest)
    else some s!"[{a.name.s},{a.name.e}) before [{b.name.s},{b.name.e})"
  | _ => none

/-- First adjacent pair of emitted tags that is not strictly increasing. -/
def judgeOrderPair : List Tag → Option (Tag × Tag)
  | a :: b :: rest => if keyLt (key a) (key b) then judgeOrderPair (b :: rest) else some (a, b)
  | _ => none

/-! Docs and locals, judged against the matches (spec-level recomputation). -/

/-- Matches of tags patterns that produce a tag for name range `r` (name capture = r, a tag capture). -/
def matchesFor (cfg : Cfg) (ms : List Mat) (r : R) : List Mat :=
  ms.filter (fun m =>
    decide (m.pat ≥ cfg.tagsFrom) &&
    (let a := capLoop cfg (cfg.pats[m.pat]?.getD {}) m.caps
     match a.name, a.tag with
     | some n, some _ => n.sb == r.s && n.eb == r.e
     | _, _ => false))

/-- Docs clause: the tag's docs are the stripped texts of the doc captures of one of the matches
with the lowest pattern index for that name node, computed with the SPEC `docsSpec`. -/
def judgeDocs (cfg : Cfg) (src : Bytes) (ms : List Mat) (t : Tag) : Bool :=
  let cands := matchesFor cfg ms t.name
  match cands.map (·.pat) |>.min? with
  | none => false
  | some p =>
    (cands.filter (·.pat == p)).any (fun m =>
      let pi := cfg.pats[m.pat]?.getD {}
      let a := capLoop cfg pi m.caps
      docsSpec (pi.strip.map stripFn) src a.adj a.docs == t.docs)

/-- Kind clause (spec level, from the capture NAMES): for one of the lowest-index matches of the tag's name
node, the last capture named `definition.K` / `reference.K` decides `is_definition` and the tag's
`syntax_type_id` indexes `K` in the kinds table the implementation reports. -/
def judgeKind (cfg : Cfg) (names kinds : List String) (ms : List Mat) (t : Tag) : Bool :=
  let cands := matchesFor cfg ms t.name
  match cands.map (·.pat) |>.min? with
  | none => false
  | some p =>
    (cands.filter (·.pat == p)).any (fun m =>
      let kindsOf := m.caps.filterMap (fun c =>
        let n := names[c.idx]?.getD ""
        if n.startsWith "definition." then some (true, (n.drop 11).toString)
        else if n.startsWith "reference." then some (false, (n.drop 10).toString)
        else none)
      match kindsOf.getLast? with
      | some (d, k) => t.isDef == d && kinds[t.stid]? == some k
      | none => false)

/-- Hull clause: the tag range is the smallest range covering the tagged node and the name node of one of the
lowest-index matches of the tag's name node (so it covers the tagged node, not only the name). -/
def judgeHull (cfg : Cfg) (ms : List Mat) (t : Tag) : Bool :=
  let cands := matchesFor cfg ms t.name
  match cands.map (·.pat) |>.min? with
  | none => false
  | some p =>
    -- ties of equal index: the FIRST such match wins (replacement needs a strictly lower index)
    ((cands.filter (·.pat == p)).take 1).any (fun m =>
      let a := capLoop cfg (cfg.pats[m.pat]?.getD {}) m.caps
      match a.name, a.tag with
      | some n, some g => t.range.s == min g.sb n.sb && t.range.e == max g.eb n.eb
      | _, _ => false)

/-- Placement of the name node relative to the tagged node in one of the lowest-index matches of a tag:
0 inside, 1 equal, 2 in front (name starts before the node), 3 behind (name ends after the node). -/
def placementOf (cfg : Cfg) (ms : List Mat) (t : Tag) : Option Nat :=
  let cands := matchesFor cfg ms t.name
  match cands.map (·.pat) |>.min? with
  | none => none
  | some p =>
    match (cands.filter (·.pat == p)).head? with
    | none => none
    | some m =>
      let a := capLoop cfg (cfg.pats[m.pat]?.getD {}) m.caps
      match a.name, a.tag with
      | some n, some g =>
        if n.sb == g.sb && n.eb == g.eb then some 1
        else if decide (n.sb < g.sb) then some 2
        else if decide (n.eb > g.eb) then some 3
        else some 0
      | _, _ => none

/-! Local-scope clause: which names must be present, recomputed from the matches with the spec walk. -/

structure Cand where
  r : R
  pat : Nat
  isTag : Bool
  deriving Repr

/-- Candidates a match sequence inserts according to the SPEC (`isLocalSpec`): scopes and definitions
are accumulated from the locals-pattern matches seen so far. -/
def candidates (cfg : Cfg) (src : Bytes) : List Mat → Scopes → List Cand
  | [], _ => []
  | m :: ms, sc =>
    let pi := cfg.pats[m.pat]?.getD {}
    if m.pat < cfg.tagsFrom then candidates cfg src ms (processLocal cfg src pi m.caps sc)
    else
      let a := capLoop cfg pi m.caps
      let rest := candidates cfg src ms sc
      match a.name with
      | none => rest
      | some n =>
        let r : R := ⟨n.sb, n.eb⟩
        match a.tag with
        | some _ =>
          if n.err || (pi.nonLocal && isLocalSpec (slice src n.sb n.eb) r sc) then rest
          else ⟨r, m.pat, true⟩ :: rest
        | none => if a.ignored then ⟨r, m.pat, false⟩ :: rest else rest

/-- Name ranges for which a tag must be emitted: the first candidate with the lowest pattern index
for that range is a tag (not an ignore placeholder). -/
def expectedNames (cs : List Cand) : List R :=
  (cs.filter (fun c => c.isTag && cs.all (fun d => !(d.r == c.r) || decide (c.pat ≤ d.pat)) &&
      -- among equal lowest index the first wins: no earlier placeholder with the same index
      true)).map (·.r)

def placeholderWins (cs : List Cand) (r : R) : Bool :=
  match (cs.filter (·.r == r)).map (·.pat) |>.min? with
  | none => false
  | some p => match (cs.filter (fun c => c.r == r && c.pat == p)).head? with
    | some c => !c.isTag
    | none => false

/-- Local clause: a (non-placeholder) tag is present for exactly the name ranges the spec keeps. -/
def judgeLocal (cfg : Cfg) (src : Bytes) (ms : List Mat) (real : List Tag) : Option String :=
  let cs := candidates cfg src ms (initSt src).scopes
  let expected := (expectedNames cs).filter (fun r => !placeholderWins cs r)
  let actual := (real.filter (!·.isIgnored)).map (·.name)
  match actual.find? (fun r => !expected.contains r) with
  | some r => some s!"tag [{r.s},{r.e}) present but the spec omits it (local definition in a visible scope, error, or ignored)"
  | none =>
    match expected.find? (fun r => !actual.contains r) with
    | some r => some s!"tag [{r.s},{r.e}) missing: no visible enclosing scope defines the name"
    | none => none

def fieldsEq (a b : Tag) : Option String :=
  if a.range != b.range then some "range" else
  if a.name != b.name then some "name" else
  if a.line != b.line then some "line" else
  if a.spanS != b.spanS || a.spanE != b.spanE then some "span" else
  if a.u16 != b.u16 then some "utf16" else
  if a.docs != b.docs then some "docs" else
  if a.isDef != b.isDef then some "is_definition" else
  if a.stid != b.stid then some "syntax_type" else none

/-- Correspondence: model output vs real output, first difference. -/
def diffTags : List Tag → List Tag → Nat → Option String
  | [], [], _ => none
  | a :: ra, b :: rb, i =>
    match fieldsEq a b with
    | some f => some s!"tag#{i}.{f}"
    | none => diffTags ra rb (i + 1)
  | m, r, i => some s!"count model={i + m.length} real={i + r.length}"

end TsVerif.C18
