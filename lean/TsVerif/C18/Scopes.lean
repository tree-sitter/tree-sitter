import TsVerif.C18.Model
/-! Local scopes: the walk of `name_must_be_non_local`, recording definitions and scopes. -/
namespace TsVerif.C18

theorem visible_any_iff (p : Scope → Bool) (l : List Scope) :
    (visibleScopes l).any p = true ↔
      ∃ pre s post, l = pre ++ s :: post ∧ (∀ x ∈ pre, x.inherits = true) ∧ p s = true := by
  fun_induction visibleScopes l with
  | case1 => simp
  | case2 a l hi ih =>
    rw [List.any_cons, Bool.or_eq_true, ih]
    constructor
    · rintro (h | ⟨pre, s, post, rfl, hpre, hs⟩)
      · exact ⟨[], a, l, rfl, nofun, h⟩
      · exact ⟨a :: pre, s, post, rfl, List.forall_mem_cons.2 ⟨hi, hpre⟩, hs⟩
    · rintro ⟨pre, s, post, hl, hpre, hs⟩
      cases pre with
      | nil => cases hl; exact Or.inl hs
      | cons b pre =>
        cases hl
        exact Or.inr ⟨pre, s, post, rfl, fun x hx => hpre x (List.mem_cons_of_mem _ hx), hs⟩
  | case3 a l hi =>
    rw [List.any_cons, List.any_nil, Bool.or_false]
    constructor
    · exact fun h => ⟨[], a, l, rfl, nofun, h⟩
    · rintro ⟨pre, s, post, hl, hpre, hs⟩
      cases pre with
      | nil => cases hl; exact hs
      | cons b pre => cases hl; exact absurd (hpre _ List.mem_cons_self) hi

/-- For every name, range and scope stack, the port of the
`name_must_be_non_local` walk answers exactly the spec: among the scopes that enclose the name (most
recently pushed first), walking outwards while `inherits` holds — up to and including the first scope
that does not inherit — some scope holds a definition with the same text. -/
theorem local_filter_spec (name : Bytes) (r : R) (scopes : Scopes) :
    isLocal name r scopes = isLocalSpec name r scopes := by
  unfold isLocalSpec
  induction scopes with
  | nil => simp [isLocal, visibleScopes]
  | cons s rest ih =>
    by_cases hc : s.contains r = true
    · simp only [isLocal, hc, if_true, List.filter_cons, visibleScopes]
      by_cases hd : s.defs.any (· == name) = true
      · by_cases hi : s.inherits = true <;> simp [hd, hi]
      · by_cases hi : s.inherits = true
        · simp only [hd, hi, if_true, List.any_cons, Bool.false_eq_true, if_false, Bool.not_true]
          rw [ih]; simp
        · simp [hd, hi]
    · simp only [isLocal, hc, List.filter_cons, Bool.false_eq_true, if_false]
      exact ih

/-- The spec in words: the name is omitted iff the enclosing scopes split as
`pre ++ s :: post` with every scope of `pre` inheriting and `s` defining the same text. -/
theorem local_filter_iff (name : Bytes) (r : R) (scopes : Scopes) :
    isLocal name r scopes = true ↔
      ∃ pre s post, scopes.filter (·.contains r) = pre ++ s :: post ∧
        (∀ x ∈ pre, x.inherits = true) ∧ s.defs.any (· == name) = true := by
  rw [local_filter_spec]; exact visible_any_iff _ _

/-- Non-vacuity: `x` defined in the outer scope, seen from an inheriting inner scope (omitted) and
from a non-inheriting one (kept). -/
example : isLocal [120] ⟨5, 6⟩ [⟨true, ⟨4, 8⟩, []⟩, ⟨false, ⟨0, 10⟩, [[120]]⟩] = true ∧
          isLocal [120] ⟨5, 6⟩ [⟨false, ⟨4, 8⟩, []⟩, ⟨false, ⟨0, 10⟩, [[120]]⟩] = false := by decide

def scopeShape (s : Scope) : R × Bool := (s.range, s.inherits)

theorem addDef_shape (name : Bytes) (r : R) (scopes : Scopes) :
    (addDef name r scopes).map scopeShape = scopes.map scopeShape := by
  fun_induction addDef name r scopes with
  | case1 => rfl
  | case2 s rest hc => rfl
  | case3 s rest hc ih => rw [List.map_cons, ih, List.map_cons]

/-- Recording a `@local.definition`: either no scope contains its range and
nothing changes, or the stack splits as `pre ++ s :: post` where no scope of `pre` (the more recently
pushed ones) contains the range, `s` does, and exactly `s` gains the definition (at the end of its
list).  I.e. "the most recently pushed scope that contains it, and nowhere else". -/
theorem record_def_spec (name : Bytes) (r : R) (scopes : Scopes) :
    ((∀ s ∈ scopes, s.contains r = false) ∧ addDef name r scopes = scopes) ∨
    ∃ pre s post, scopes = pre ++ s :: post ∧ (∀ x ∈ pre, x.contains r = false) ∧ s.contains r = true ∧
      addDef name r scopes = pre ++ { s with defs := s.defs ++ [name] } :: post := by
  fun_induction addDef name r scopes with
  | case1 => exact Or.inl ⟨nofun, rfl⟩
  | case2 s rest hc => exact Or.inr ⟨[], s, rest, rfl, nofun, hc, rfl⟩
  | case3 s rest hc ih =>
    have hc' : s.contains r = false := by simpa using hc
    rcases ih with ⟨hno, heq⟩ | ⟨pre, s', post, hsp, hpre, hs, heq⟩
    · exact Or.inl ⟨List.forall_mem_cons.2 ⟨hc', hno⟩, by rw [heq]⟩
    · exact Or.inr ⟨s :: pre, s', post, by rw [hsp]; rfl, List.forall_mem_cons.2 ⟨hc', hpre⟩, hs, by rw [heq]; rfl⟩

/-- Processing the captures of a locals-pattern match (`processLocal` is
a fold: push a scope for `@local.scope`, `addDef` for `@local.definition`, nothing
otherwise) never drops, reorders or resizes a scope: the (range, inherits) list of the new stack is
the `@local.scope` captures of this match, most recent first, in front of the old list.  (The code
never pops a scope; enclosure is decided by range containment alone — `local_filter_spec`.) -/
theorem record_scopes_shape (cfg : Cfg) (src : Bytes) (pi : PatInfo) (caps : List Cap) (sc : Scopes) :
    (processLocal cfg src pi caps sc).map scopeShape =
      ((caps.filter (fun c => some c.idx == cfg.scopeIdx)).reverse.map
          (fun c => ((⟨c.sb, c.eb⟩ : R), pi.inherits))) ++ sc.map scopeShape := by
  induction caps generalizing sc with
  | nil => simp [processLocal]
  | cons c cs ih =>
    unfold processLocal at ih ⊢
    rw [List.foldl_cons, ih]
    by_cases h1 : (some c.idx == cfg.scopeIdx) = true
    · simp [h1, scopeShape]
    · by_cases h2 : (some c.idx == cfg.defIdx) = true
      · simp [h1, h2, addDef_shape]
      · simp [h1, h2]

end TsVerif.C18
