import TsVerif.C18.Props
#print axioms TsVerif.C18.line_range_spec
#print axioms TsVerif.C18.line_spec_bounds
#print axioms TsVerif.C18.line_range_char_boundary
#print axioms TsVerif.C18.line_range_contains_name_start
#print axioms TsVerif.C18.utf16_len_append_partial
#print axioms TsVerif.C18.utf16_spec_append
#print axioms TsVerif.C18.utf16_len_eq_spec
#print axioms TsVerif.C18.utf16_len_fixed_eq_spec
#print axioms TsVerif.C18.utf16_len_append
#print axioms TsVerif.C18.utf16_len_valid_prefix
#print axioms TsVerif.C18.cache_correct
#print axioms TsVerif.C18.cache_reset_ok
#print axioms TsVerif.C18.cache_correct_utf16
#print axioms TsVerif.C18.cache_correct_utf16_fixed
#print axioms TsVerif.C18.utf16_column_prefix
#print axioms TsVerif.C18.tag_ranges_and_span
#print axioms TsVerif.C18.drain_skips_ignored
#print axioms TsVerif.C18.queue_insert_sorted
#print axioms TsVerif.C18.queue_lowest_pattern_wins
#print axioms TsVerif.C18.queue_release_strict
#print axioms TsVerif.C18.queue_touching_head_replaced
#print axioms TsVerif.C18.queue_batches_sorted
#print axioms TsVerif.C18.queue_emitted_are_arrivals
#print axioms TsVerif.C18.queue_sorted_of_no_late
#print axioms TsVerif.C18.no_late_of_arrival_order
#print axioms TsVerif.C18.queue_sorted_dedup_partial
#print axioms TsVerif.C18.queue_lowest_pattern_run_partial
#print axioms TsVerif.C18.queue_lowest_within_residence
#print axioms TsVerif.C18.docs_spec
#print axioms TsVerif.C18.docs_select_spec
#print axioms TsVerif.C18.docs_chain_maximal
#print axioms TsVerif.C18.local_filter_spec
#print axioms TsVerif.C18.local_filter_iff
#print axioms TsVerif.C18.record_def_spec
#print axioms TsVerif.C18.record_scopes_shape
