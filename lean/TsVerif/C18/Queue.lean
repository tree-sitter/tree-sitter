import TsVerif.C18.Tag
/-! The tag queue and the loop of `TagsIter::next`: insertion, release, emission order, lowest pattern index.

`Model.lean` holds the loop four times — `run`, and the instrumented `runP` (pattern indices kept), `runB` (flush batches
kept apart), `runH` (residence histories) — with their own copies of the release loop and the drain; a change to one is
a change to all. -/
namespace TsVerif.C18

def KeyLt (a b : Tag × Nat) : Prop := keyLt (key a.1) (key b.1) = true

def QSorted (q : Queue) : Prop := q.Pairwise KeyLt

theorem keyLt_trans {a b c : Nat × Nat} (h1 : keyLt a b = true) (h2 : keyLt b c = true) : keyLt a c = true := by
  simp [keyLt] at *; omega

theorem keyLt_total {a b : Nat × Nat} (h1 : (a == b) = false) (h2 : keyLt b a = false) : keyLt a b = true := by
  obtain ⟨a1, a2⟩ := a; obtain ⟨b1, b2⟩ := b
  simp [keyLt] at *; omega

theorem mem_qInsert {tag : Tag} {pat : Nat} {q : Queue} {x : Tag × Nat} (h : x ∈ qInsert tag pat q) :
    x ∈ q ∨ x = (tag, pat) := by
  fun_induction qInsert tag pat q with
  | case1 => exact Or.inr (List.mem_singleton.1 h)
  | case2 t p rest heq =>
    rcases List.mem_cons.1 h with h | h
    · split at h
      · exact Or.inr h
      · exact Or.inl (h ▸ List.mem_cons_self)
    · exact Or.inl (List.mem_cons_of_mem _ h)
  | case3 t p rest hne hlt => exact (List.mem_cons.1 h).symm
  | case4 t p rest hne hlt ih =>
    rcases List.mem_cons.1 h with h | h
    · exact Or.inl (h ▸ List.mem_cons_self)
    · exact (ih h).imp_left (List.mem_cons_of_mem _)

/-- `binary_search_by_key` + insert/replace keeps the queue strictly
sorted by `(name_range.end, name_range.start)` — hence at most one entry per name range. -/
theorem queue_insert_sorted (tag : Tag) (pat : Nat) (q : Queue) (h : QSorted q) :
    QSorted (qInsert tag pat q) := by
  unfold QSorted at *
  fun_induction qInsert tag pat q with
  | case1 => exact List.pairwise_singleton _ _
  | case2 t p rest heq =>
    rw [List.pairwise_cons] at h ⊢
    refine ⟨fun x hx => ?_, h.2⟩
    have := h.1 x hx
    split
    · unfold KeyLt at *
      rwa [← eq_of_beq heq]
    · exact this
  | case3 t p rest hne hlt =>
    refine List.pairwise_cons.2 ⟨fun x hx => ?_, h⟩
    rcases List.mem_cons.mp hx with rfl | hx
    · exact hlt
    · exact keyLt_trans hlt ((List.pairwise_cons.1 h).1 x hx)
  | case4 t p rest hne hlt ih =>
    rw [List.pairwise_cons] at h ⊢
    refine ⟨fun x hx => ?_, ih h.2⟩
    rcases mem_qInsert hx with hx | rfl
    · exact h.1 x hx
    · exact keyLt_total (by simpa using hne) (by simpa using hlt)

/-- After an insertion the entry for the inserted name range carries
a pattern index ≤ the inserted one, and no entry's pattern index ever grows.  (What this gives for the tag that
finally leaves is `queue_lowest_within_residence`.) -/
theorem queue_lowest_pattern_wins (tag : Tag) (pat : Nat) (q : Queue) :
    (∃ x ∈ qInsert tag pat q, key x.1 = key tag ∧ x.2 ≤ pat) ∧
    ∀ y ∈ q, ∃ x ∈ qInsert tag pat q, key x.1 = key y.1 ∧ x.2 ≤ y.2 := by
  fun_induction qInsert tag pat q with
  | case1 => exact ⟨⟨_, List.mem_singleton.2 rfl, rfl, Nat.le_refl _⟩, nofun⟩
  | case2 t p rest heq =>
    have heq' : key t = key tag := eq_of_beq heq
    by_cases hgt : p > pat
    · rw [if_pos hgt]
      refine ⟨⟨_, List.mem_cons_self, rfl, Nat.le_refl _⟩, fun y hy => ?_⟩
      rcases List.mem_cons.mp hy with rfl | hy
      · exact ⟨_, List.mem_cons_self, heq'.symm, Nat.le_of_lt hgt⟩
      · exact ⟨y, List.mem_cons_of_mem _ hy, rfl, Nat.le_refl _⟩
    · rw [if_neg hgt]
      exact ⟨⟨_, List.mem_cons_self, heq', Nat.le_of_not_lt hgt⟩, fun y hy => ⟨y, hy, rfl, Nat.le_refl _⟩⟩
  | case3 t p rest hne hlt =>
    exact ⟨⟨_, List.mem_cons_self, rfl, Nat.le_refl _⟩, fun y hy => ⟨y, List.mem_cons_of_mem _ hy, rfl, Nat.le_refl _⟩⟩
  | case4 t p rest hne hlt ih =>
    obtain ⟨⟨x, hx, hk, hle⟩, ih2⟩ := ih
    refine ⟨⟨x, List.mem_cons_of_mem _ hx, hk, hle⟩, fun y hy => ?_⟩
    rcases List.mem_cons.mp hy with rfl | hy
    · exact ⟨_, List.mem_cons_self, rfl, Nat.le_refl _⟩
    · obtain ⟨x, hx, hk, hle⟩ := ih2 y hy
      exact ⟨x, List.mem_cons_of_mem _ hx, hk, hle⟩

def TagLt (a b : Tag) : Prop := keyLt (key a) (key b) = true

theorem qsorted_map (q : Queue) (h : QSorted q) : (q.map Prod.fst).Pairwise TagLt :=
  List.pairwise_map.2 h

theorem KeyLt.ne {a b : Tag × Nat} (h : KeyLt a b) : key a.1 ≠ key b.1 := by
  intro hk
  unfold KeyLt at h
  rw [hk] at h
  simp [keyLt] at h

theorem qsorted_key_inj {q : Queue} (h : QSorted q) {a b : Tag × Nat} (ha : a ∈ q) (hb : b ∈ q)
    (hk : key a.1 = key b.1) : a = b :=
  List.Pairwise.forall_of_forall_of_flip (R := fun a b => key a.1 = key b.1 → a = b) (fun _ _ _ => rfl)
    (h.imp fun hlt hk => absurd hk hlt.ne) (h.imp fun hlt hk => absurd hk.symm hlt.ne) ha hb hk

theorem bLt_trans {b : Option (Nat × Nat)} {k k' : Nat × Nat} (h1 : bLt b k = true) (h2 : keyLt k k' = true) :
    bLt b k' = true := by
  cases b with
  | none => rfl
  | some b => exact keyLt_trans h1 h2

theorem ready_iff (q : Queue) : ready q = true ↔
    ∃ first last, q.head? = some first ∧ q.getLast? = some last ∧ 1 < q.length ∧ first.1.name.e < last.1.name.s := by
  unfold ready
  split
  next last first hl hf => simp [hl, hf]
  next h =>
    refine ⟨nofun, fun ⟨first, last, hf, hl, _⟩ => absurd hf (h last first hl)⟩

theorem flushReady_eq_P (n : Nat) (q : Queue) :
    flushReady n q = ((flushReadyP n q).1.map Prod.fst, (flushReadyP n q).2) := by
  fun_induction flushReadyP n q with
  | case1 q => rfl
  | case2 fuel hr => simp [flushReady, hr]
  | case3 fuel t p rest out q' heq hr ih =>
    simp only [flushReady, hr, if_true, ih, heq]
    split <;> rfl
  | case4 fuel q hr => simp [flushReady, hr]

theorem drain_eq_P (skip : Bool) (n : Nat) (q : Queue) : drain skip n q = (drainP skip n q).map Prod.fst := by
  fun_induction drainP skip n q with
  | case1 => rfl
  | case2 => rfl
  | case3 fuel t p rest hig hrd ih => rw [if_pos hrd, if_pos hig, drain, if_pos hrd, if_pos hig, ih]
  | case4 fuel t p rest hig hrd ih => rw [if_pos hrd, if_neg hig, drain, if_pos hrd, if_neg hig, ih]; rfl
  | case5 fuel t p rest hig hrd ih => rw [if_neg hrd, if_pos hig, drain, if_neg hrd, if_pos hig, ih]
  | case6 fuel t p rest hig hrd ih => rw [if_neg hrd, if_neg hig, drain, if_neg hrd, if_neg hig, ih]; rfl

theorem run_eq_P (v : Variant) (cfg : Cfg) (src : Bytes) (ms : List Mat) (st : St) :
    run v cfg src ms st = (runP v cfg src ms st).map Prod.fst := by
  induction ms generalizing st with
  | nil => simp [run, runP, drain_eq_P]
  | cons m ms ih => simp only [run, runP, flushReady_eq_P, List.map_append, ih]

theorem drainP_sublist (skip : Bool) (n : Nat) (q : Queue) : (drainP skip n q).Sublist q := by
  fun_induction drainP skip n q with
  | case1 => exact List.nil_sublist _
  | case2 => exact List.nil_sublist _
  | case3 fuel t p rest hig hrd ih => rw [if_pos hrd, if_pos hig]; exact ih.cons _
  | case4 fuel t p rest hig hrd ih => rw [if_pos hrd, if_neg hig]; exact ih.cons_cons _
  | case5 fuel t p rest hig hrd ih => rw [if_neg hrd, if_pos hig]; exact ih.cons _
  | case6 fuel t p rest hig hrd ih => rw [if_neg hrd, if_neg hig]; exact ih.cons_cons _

/-- The drain that skips placeholders (`skip = true`, variant `drainSkips`) never returns one. -/
theorem drain_skips_ignored : ∀ (n : Nat) (q : Queue), ∀ x ∈ drain true n q, x.isIgnored = false := by
  intro n
  induction n with
  | zero => intro q x hx; cases hx
  | succ n ih =>
    intro q x hx
    cases q with
    | nil => cases hx
    | cons hd rest =>
      -- with `skip`, a ready head and a head that is not ready are treated alike
      simp only [drain, Bool.true_and, ite_self] at hx
      split at hx
      · exact ih rest x hx
      · rename_i hni
        rcases List.mem_cons.mp hx with rfl | hx
        · simpa using hni
        · exact ih rest x hx

/-- `drain false` does return a placeholder (finding C18-ignored-placeholder-emitted; `drain true`, which does not —
`drain_skips_ignored` — is its repair): witness `a 1` of grammar `lst`, reduced to the queue. -/
example : (drain false 1 [(Tag.ignored ⟨2, 3⟩, 0)]).map (·.isIgnored) = [true] := by
  decide

theorem flushP_spec (n : Nat) (q : Queue) :
    ∃ pre, q = pre ++ (flushReadyP n q).2 ∧ (flushReadyP n q).1.Sublist pre ∧
      ∀ x ∈ pre, ∃ y ∈ q, x.1.name.e < y.1.name.s := by
  fun_induction flushReadyP n q with
  | case1 q => exact ⟨[], rfl, .slnil, nofun⟩
  | case2 fuel hr => exact ⟨[], rfl, .slnil, nofun⟩
  | case3 fuel t p rest out q' heq hr ih =>
    obtain ⟨pre, h1, h2, h3⟩ := ih
    rw [heq] at h1 h2
    refine ⟨(t, p) :: pre, congrArg _ h1, ?_, fun x hx => ?_⟩
    · show List.Sublist (if t.isIgnored = true then out else (t, p) :: out) ((t, p) :: pre)
      split
      · exact h2.cons _
      · exact h2.cons_cons _
    · rcases List.mem_cons.mp hx with rfl | hx
      · obtain ⟨first, last, hf, hl, _, hlt⟩ := (ready_iff _).1 hr
        cases hf
        exact ⟨last, List.mem_of_getLast? hl, hlt⟩
      · obtain ⟨y, hy, hlt⟩ := h3 x hx
        exact ⟨y, List.mem_cons_of_mem _ hy, hlt⟩
  | case4 fuel q hr => exact ⟨[], rfl, .slnil, nofun⟩

/-- `last` is `tag_queue.last()`, the entry with the largest key; touching names (`first.name.e = last.name.s`) are included. -/
theorem queue_release_strict (n : Nat) (q : Queue) (first last : Tag × Nat)
    (hf : q.head? = some first) (hl : q.getLast? = some last) (h : last.1.name.s ≤ first.1.name.e) :
    ready q = false ∧ flushReady n q = ([], q) := by
  have hr : ready q = false := by
    cases hrd : ready q with
    | false => rfl
    | true =>
      obtain ⟨f, l, hf', hl', _, hlt⟩ := (ready_iff q).1 hrd
      rw [hf] at hf'
      rw [hl] at hl'
      cases hf'
      cases hl'
      omega
  refine ⟨hr, ?_⟩
  cases n with
  | zero => rfl
  | succ k => unfold flushReady; simp [hr]

/-- The touching case: if the last entry's name starts exactly where (or before) the head's name ends, the head
survives one release step, and an insertion right after it for the head's name range with a lower pattern index
replaces the head. -/
theorem queue_touching_head_replaced (n : Nat) (t : Tag) (p : Nat) (rest : Queue) (last : Tag × Nat)
    (hl : ((t, p) :: rest).getLast? = some last) (h : last.1.name.s ≤ t.name.e)
    (tag : Tag) (pat : Nat) (hk : key tag = key t) (hp : pat < p) :
    qInsert tag pat (flushReady n ((t, p) :: rest)).2 = (tag, pat) :: rest := by
  rw [(queue_release_strict n ((t, p) :: rest) (t, p) last rfl hl h).2]
  simp [qInsert, hk, hp]

/-- The release test on `a1b`: with `1` [1,2) queued behind `a` [0,1) (touching) the head is not ready; with one
byte between the names it is. -/
example :
    let a : Tag := { (default : Tag) with name := ⟨0, 1⟩ }
    let one : Tag := { (default : Tag) with name := ⟨1, 2⟩ }
    let far : Tag := { (default : Tag) with name := ⟨2, 3⟩ }
    ready [(a, 2), (one, 1)] = false ∧ ready [(a, 2), (far, 1)] = true := by
  decide

/-! One round of the loop: the release loop splits the queue into `popped` (ignored placeholders included) and `kept`. -/

def kept (q : Queue) : Queue := (flushReadyP q.length q).2
def popped (q : Queue) : Queue := q.take (q.length - (kept q).length)

theorem popped_spec (q : Queue) :
    q = popped q ++ kept q ∧ (flushReadyP q.length q).1.Sublist (popped q) ∧
    ∀ x ∈ popped q, ∃ y ∈ q, x.1.name.e < y.1.name.s := by
  obtain ⟨pre, h1, h2, h3⟩ := flushP_spec q.length q
  have hp : popped q = pre := by
    unfold popped kept
    generalize (flushReadyP q.length q).2 = q' at h1
    subst h1; simp
  rw [hp]; exact ⟨h1, h2, h3⟩

theorem processMatch_sorted {v : Variant} {cfg : Cfg} {src : Bytes} {m : Mat} {st : St} (h : QSorted st.queue) :
    QSorted (processMatch v cfg src m st).queue := by
  rw [processMatch_queue]
  cases inserted v cfg src m st with
  | none => exact h
  | some a => exact queue_insert_sorted _ _ _ h

theorem mem_processMatch {v : Variant} {cfg : Cfg} {src : Bytes} {m : Mat} {st : St} {y : Tag × Nat}
    (h : y ∈ (processMatch v cfg src m st).queue) : y ∈ st.queue ∨ inserted v cfg src m st = some y := by
  rw [processMatch_queue] at h
  cases hi : inserted v cfg src m st with
  | none => rw [hi] at h; exact Or.inl h
  | some a =>
    rw [hi] at h
    exact (mem_qInsert h).imp_right (congrArg some ·.symm)

theorem names_cons (cfg : Cfg) (m : Mat) (ms : List Mat) :
    names cfg (m :: ms) = (nameOf cfg m).toList ++ names cfg ms := by
  unfold names
  rw [List.filterMap_cons]
  cases nameOf cfg m <;> rfl

theorem inserted_mem_names {v : Variant} {cfg : Cfg} {src : Bytes} {m : Mat} {st : St} {a : Tag × Nat}
    (h : inserted v cfg src m st = some a) (ms : List Mat) : a.1.name ∈ names cfg (m :: ms) := by
  rw [names_cons, (inserted_name h).1]
  exact List.mem_append_left _ (List.mem_singleton.2 rfl)

theorem run_eq_flatten (v : Variant) (cfg : Cfg) (src : Bytes) (ms : List Mat) (st : St) :
    run v cfg src ms st = (runB v cfg src ms st).flatten := by
  induction ms generalizing st with
  | nil => simp [run, runB]
  | cons m ms ih => simp only [run, runB, List.flatten_cons, ih]

theorem runB_sorted (v : Variant) (cfg : Cfg) (src : Bytes) (ms : List Mat) (st : St) (hs : QSorted st.queue) :
    ∀ b ∈ runB v cfg src ms st, b.Pairwise TagLt := by
  induction ms generalizing st with
  | nil =>
    intro b hb
    simp only [runB, List.mem_singleton, drain_eq_P] at hb
    subst hb
    exact (qsorted_map _ hs).sublist ((drainP_sublist _ _ _).map _)
  | cons m ms ih =>
    intro b hb
    obtain ⟨h1, h2, _⟩ := popped_spec st.queue
    simp only [runB, flushReady_eq_P] at hb
    unfold QSorted at hs
    rw [h1, List.pairwise_append] at hs
    rcases List.mem_cons.mp hb with rfl | hb
    · exact (qsorted_map _ hs.1).sublist (h2.map _)
    · exact ih _ (processMatch_sorted (st := { st with queue := _ }) hs.2.1) b hb

theorem runP_mem (v : Variant) (cfg : Cfg) (src : Bytes) (ms : List Mat) (st : St) :
    ∀ e ∈ runP v cfg src ms st, e ∈ st.queue ∨ e ∈ arrivals v cfg src ms st := by
  induction ms generalizing st with
  | nil => exact fun e he => Or.inl ((drainP_sublist _ _ _).subset he)
  | cons m ms ih =>
    intro e he
    obtain ⟨h1, h2, _⟩ := popped_spec st.queue
    simp only [runP, List.mem_append] at he
    simp only [arrivals, List.mem_append]
    rcases he with he | he
    · exact Or.inl (h1 ▸ List.mem_append_left _ (h2.subset he))
    · rcases ih _ e he with hq | ha
      · rcases mem_processMatch hq with hq | hq
        · exact Or.inl (h1 ▸ List.mem_append_right _ hq)
        · exact Or.inr (Or.inl (hq ▸ List.mem_singleton.2 rfl))
      · exact Or.inr (Or.inr ha)

theorem mem_arrivals {v : Variant} {cfg : Cfg} {src : Bytes} {a : Tag × Nat} {ms : List Mat} {st : St}
    (ha : a ∈ arrivals v cfg src ms st) : ∃ m ∈ ms, ∃ st', inserted v cfg src m st' = some a := by
  induction ms generalizing st with
  | nil => exact nomatch ha
  | cons m ms ih =>
    simp only [arrivals, List.mem_append, Option.mem_toList] at ha
    rcases ha with ha | ha
    · exact ⟨m, List.mem_cons_self, _, ha⟩
    · obtain ⟨m', hm', h⟩ := ih ha
      exact ⟨m', List.mem_cons_of_mem _ hm', h⟩

theorem arrivals_names {v : Variant} {cfg : Cfg} {src : Bytes} {ms : List Mat} {st : St} {a : Tag × Nat}
    (ha : a ∈ arrivals v cfg src ms st) : a.1.name ∈ names cfg ms := by
  obtain ⟨m, hm, st', h⟩ := mem_arrivals ha
  exact List.mem_filterMap.2 ⟨m, hm, (inserted_name h).1⟩

theorem newBound_eq (pre : Queue) (bound : Option (Nat × Nat)) :
    (pre = [] ∧ newBound pre bound = bound) ∨ ∃ l z, pre = l ++ [z] ∧ newBound pre bound = some (key z.1) := by
  unfold newBound
  cases hl : pre.getLast? with
  | none => exact Or.inl ⟨List.getLast?_eq_none_iff.1 hl, rfl⟩
  | some z =>
    obtain ⟨l, rfl⟩ := List.getLast?_eq_some_iff.1 hl
    exact Or.inr ⟨l, z, rfl, rfl⟩

theorem newBound_spec {pre q' : Queue} {bound : Option (Nat × Nat)} (hs : QSorted (pre ++ q'))
    (hb : ∀ y ∈ pre ++ q', bLt bound (key y.1) = true) :
    (∀ y ∈ q', bLt (newBound pre bound) (key y.1) = true) ∧
    ∀ k, bLt (newBound pre bound) k = true → bLt bound k = true ∧ ∀ p ∈ pre, keyLt (key p.1) k = true := by
  obtain ⟨hpre, _, hcross⟩ := List.pairwise_append.1 hs
  rcases newBound_eq pre bound with ⟨rfl, he⟩ | ⟨l, z, rfl, he⟩ <;> rw [he]
  · exact ⟨fun y hy => hb y hy, fun k hk => ⟨hk, nofun⟩⟩
  · -- `z` is the last and so the largest of `pre`
    have hz : z ∈ l ++ [z] := List.mem_append_right _ (List.mem_singleton.2 rfl)
    refine ⟨fun y hy => hcross z hz y hy, fun k hk => ⟨bLt_trans (hb z (List.mem_append_left _ hz)) hk, fun p hp => ?_⟩⟩
    rcases List.mem_append.1 hp with hp | hp
    · exact keyLt_trans (hpre.rel_of_mem_append hp (List.mem_singleton.2 rfl)) hk
    · exact List.mem_singleton.1 hp ▸ hk

section
variable (v : Variant) (cfg : Cfg) (src : Bytes) (m : Mat) (ms : List Mat) (st : St)

abbrev nextSt : St := processMatch v cfg src m { st with queue := kept st.queue }

theorem runP_cons : runP v cfg src (m :: ms) st =
    (flushReadyP st.queue.length st.queue).1 ++ runP v cfg src ms (nextSt v cfg src m st) := rfl

theorem noLate_cons (bound : Option (Nat × Nat)) : noLate v cfg src bound (m :: ms) st =
    ((match inserted v cfg src m { st with queue := kept st.queue } with
      | some a => bLt (newBound (popped st.queue) bound) (key a.1)
      | none => true) && noLate v cfg src (newBound (popped st.queue) bound) ms (nextSt v cfg src m st)) := rfl

theorem processMatch_pat_le :
    (∀ a, inserted v cfg src m st = some a → ∃ x ∈ (processMatch v cfg src m st).queue, key x.1 = key a.1 ∧ x.2 ≤ a.2) ∧
    ∀ y ∈ st.queue, ∃ x ∈ (processMatch v cfg src m st).queue, key x.1 = key y.1 ∧ x.2 ≤ y.2 := by
  rw [processMatch_queue]
  cases inserted v cfg src m st with
  | none => exact ⟨nofun, fun y hy => ⟨y, hy, rfl, Nat.le_refl _⟩⟩
  | some b => exact ⟨fun a ha => Option.some.inj ha ▸ (queue_lowest_pattern_wins b.1 b.2 _).1, (queue_lowest_pattern_wins b.1 b.2 _).2⟩
end

/-- `bound` is the largest key popped so far (`none`: nothing popped yet).  If no match arrives late: the emission is strictly
sorted; every emitted key and every later arrival lies above `bound`; an emitted entry's index is ≤ that of every later arrival
of its key and of the queued entry of its key.  Key uniqueness comes from strict sortedness, "popped keys lie below all later
keys" from `noLate`. -/
theorem runP_noLate (v : Variant) (cfg : Cfg) (src : Bytes) (ms : List Mat) (st : St) (bound : Option (Nat × Nat))
    (hs : QSorted st.queue) (hb : ∀ y ∈ st.queue, bLt bound (key y.1) = true)
    (hn : noLate v cfg src bound ms st = true) :
    QSorted (runP v cfg src ms st) ∧ (∀ x ∈ runP v cfg src ms st, bLt bound (key x.1) = true) ∧
    (∀ a ∈ arrivals v cfg src ms st, bLt bound (key a.1) = true) ∧
    ∀ e ∈ runP v cfg src ms st,
      (∀ a ∈ arrivals v cfg src ms st, key a.1 = key e.1 → e.2 ≤ a.2) ∧
      (∀ y ∈ st.queue, key y.1 = key e.1 → e.2 ≤ y.2) := by
  induction ms generalizing st bound with
  | nil =>
    have hsub := drainP_sublist v.drainSkips st.queue.length st.queue
    refine ⟨hs.sublist hsub, fun x hx => hb x (hsub.subset hx), nofun, fun e he => ⟨nofun, fun y hy hk => ?_⟩⟩
    rw [qsorted_key_inj hs hy (hsub.subset he) hk]; exact Nat.le_refl _
  | cons m ms ih =>
    obtain ⟨h1, h2, h3⟩ := popped_spec st.queue
    rw [noLate_cons, Bool.and_eq_true] at hn
    have hs0 := hs
    rw [h1] at hs hb
    obtain ⟨hbq', hbk⟩ := newBound_spec hs hb
    obtain ⟨hpre, hq', hcross⟩ := List.pairwise_append.1 hs
    have hins : ∀ a, inserted v cfg src m { st with queue := kept st.queue } = some a →
        bLt (newBound (popped st.queue) bound) (key a.1) = true := fun a ha => by rw [ha] at hn; exact hn.1
    obtain ⟨ihs, ihb, iha, ihl⟩ := ih (nextSt v cfg src m st) _ (processMatch_sorted hq')
      (fun y hy => (mem_processMatch hy).elim (hbq' y) (hins y)) hn.2
    -- every arrival from now on lies above the new bound, hence above everything popped now
    have harr : ∀ a ∈ arrivals v cfg src (m :: ms) st, bLt (newBound (popped st.queue) bound) (key a.1) = true :=
      fun a ha => (List.mem_append.1 ha).elim (fun ha => hins a (Option.mem_toList.1 ha)) (iha a)
    rw [runP_cons]
    refine ⟨List.pairwise_append.2 ⟨hpre.sublist h2, ihs, fun a ha b hb2 => (hbk _ (ihb b hb2)).2 a (h2.subset ha)⟩,
      fun x hx => ?_, fun a ha => (hbk _ (harr a ha)).1, fun e he => ?_⟩
    · rcases List.mem_append.1 hx with hx | hx
      · exact hb x (List.mem_append_left _ (h2.subset hx))
      · exact (hbk _ (ihb x hx)).1
    · rcases List.mem_append.1 he with he | he
      · -- popped now: no later arrival has its key
        have hep := h2.subset he
        refine ⟨fun a ha hk => absurd hk.symm (KeyLt.ne (a := e) (b := a) ((hbk _ (harr a ha)).2 e hep)), fun y hy hk => ?_⟩
        rw [qsorted_key_inj hs0 hy (h1 ▸ List.mem_append_left _ hep) hk]; exact Nat.le_refl _
      · obtain ⟨iB, iC⟩ := ihl e he
        obtain ⟨pA, pQ⟩ := processMatch_pat_le v cfg src m { st with queue := kept st.queue }
        refine ⟨fun a ha hk => ?_, fun y hy hk => ?_⟩
        · rcases List.mem_append.1 ha with ha | ha
          · obtain ⟨x, hx, hxk, hxle⟩ := pA a (Option.mem_toList.1 ha)
            exact Nat.le_trans (iC x hx (hxk.trans hk)) hxle
          · exact iB a ha hk
        · rw [h1] at hy
          rcases List.mem_append.1 hy with hy | hy
          · exact absurd hk (KeyLt.ne (a := y) (b := e) ((hbk _ (ihb e he)).2 y hy))
          · obtain ⟨x, hx, hxk, hxle⟩ := pQ y hy
            exact Nat.le_trans (iC x hx (hxk.trans hk)) hxle

/-- Under the hypotheses whatever is popped ends before every name still to come ends; so does the bound. -/
theorem noLate_of_arrival (v : Variant) (cfg : Cfg) (src : Bytes) (ms : List Mat) (st : St) (bound : Option (Nat × Nat))
    (hs : QSorted st.queue) (hc : ∀ y ∈ st.queue, ∀ r ∈ names cfg ms, y.1.name.s ≤ r.e)
    (hp : (names cfg ms).Pairwise (fun a b => a.s ≤ b.e)) (hbd : ∀ b, bound = some b → ∀ r ∈ names cfg ms, b.1 < r.e) :
    noLate v cfg src bound ms st = true := by
  induction ms generalizing st bound with
  | nil => rfl
  | cons m ms ih =>
    obtain ⟨h1, _, h3⟩ := popped_spec st.queue
    rw [names_cons, List.pairwise_append] at hp
    have hbd' : ∀ b, newBound (popped st.queue) bound = some b → ∀ r ∈ names cfg (m :: ms), b.1 < r.e := by
      intro b hb r hr
      rcases newBound_eq (popped st.queue) bound with ⟨_, he⟩ | ⟨l, z, hp, he⟩ <;> rw [he] at hb
      · exact hbd b hb r hr
      · cases hb
        obtain ⟨y, hy, hlt⟩ := h3 z (hp ▸ List.mem_append_right _ (List.mem_singleton.2 rfl))
        exact Nat.lt_of_lt_of_le hlt (hc y hy r hr)
    have hin : ∀ r ∈ names cfg ms, r ∈ names cfg (m :: ms) := fun r hr => by
      rw [names_cons]; exact List.mem_append_right _ hr
    rw [noLate_cons, Bool.and_eq_true]
    refine ⟨?_, ih _ _ (processMatch_sorted (List.pairwise_append.1 (h1 ▸ hs)).2.1) (fun y hy r hr => ?_) hp.2.1
      fun b hb r hr => hbd' b hb r (hin r hr)⟩
    · cases hi : inserted v cfg src m { st with queue := kept st.queue } with
      | none => rfl
      | some a =>
        cases hb : newBound (popped st.queue) bound with
        | none => rfl
        | some b =>
          have := hbd' b hb _ (inserted_mem_names hi ms)
          simp [bLt, keyLt, key, this]
    · rcases mem_processMatch hy with hy | hy
      · exact hc y (h1 ▸ List.mem_append_right _ hy) r (hin r hr)
      · exact hp.2.2 _ (by rw [(inserted_name hy).1]; exact List.mem_singleton.2 rfl) r hr

/-- The second hypothesis (every queued name starts no later than every coming name ends) is what the arrival hypothesis keeps
true round the loop; at `initSt` the first two hypotheses are empty. -/
theorem runP_lowest (v : Variant) (cfg : Cfg) (src : Bytes) : ∀ (ms : List Mat) (st : St),
    QSorted st.queue →
    (∀ y ∈ st.queue, ∀ r ∈ names cfg ms, y.1.name.s ≤ r.e) →
    (names cfg ms).Pairwise (fun a b => a.s ≤ b.e) →
    ∀ e ∈ runP v cfg src ms st,
      (e ∈ st.queue ∨ e ∈ arrivals v cfg src ms st) ∧
      (∀ a ∈ arrivals v cfg src ms st, key a.1 = key e.1 → e.2 ≤ a.2) ∧
      (∀ y ∈ st.queue, key y.1 = key e.1 → e.2 ≤ y.2) :=
  fun ms st hs hc hp e he => ⟨runP_mem v cfg src ms st e he,
    (runP_noLate v cfg src ms st none hs (fun _ _ => rfl)
      (noLate_of_arrival v cfg src ms st none hs hc hp nofun)).2.2.2 e he⟩

theorem run_sorted (v : Variant) (cfg : Cfg) (src : Bytes) : ∀ (ms : List Mat) (st : St),
    QSorted st.queue →
    (∀ y ∈ st.queue, ∀ r ∈ names cfg ms, y.1.name.s ≤ r.e) →
    (names cfg ms).Pairwise (fun a b => a.s ≤ b.e) →
    (run v cfg src ms st).Pairwise TagLt ∧
    ∀ x ∈ run v cfg src ms st, (∃ y ∈ st.queue, x = y.1) ∨ (∃ r ∈ names cfg ms, x.name = r) := by
  intro ms st hs hc hp
  rw [run_eq_P]
  refine ⟨qsorted_map _ (runP_noLate v cfg src ms st none hs (fun _ _ => rfl)
    (noLate_of_arrival v cfg src ms st none hs hc hp nofun)).1, fun x hx => ?_⟩
  obtain ⟨e, he, rfl⟩ := List.mem_map.1 hx
  exact (runP_mem v cfg src ms st e he).imp (fun hq => ⟨e, hq, rfl⟩) (fun ha => ⟨_, arrivals_names ha, rfl⟩)

end TsVerif.C18
