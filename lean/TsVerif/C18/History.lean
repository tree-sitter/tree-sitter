import TsVerif.C18.Tag
/-! The loop on a queue whose entries carry the arrivals merged into them: forgetting the histories gives `runP`, and
what every insertion preserves holds of every emitted entry. -/
namespace TsVerif.C18

theorem projH_qInsertH (tag : Tag) (pat : Nat) (q : QueueH) :
    projH (qInsertH tag pat q) = qInsert tag pat (projH q) := by
  unfold projH
  fun_induction qInsertH tag pat q with
  | case1 => rfl
  | case2 t p hs rest heq => simp only [List.map_cons, qInsert, if_pos heq]
  | case3 t p hs rest hne hlt => simp only [List.map_cons, qInsert, if_neg hne, if_pos hlt]
  | case4 t p hs rest hne hlt ih => simp only [List.map_cons, qInsert, if_neg hne, if_neg hlt, ih]

theorem flushReadyH_proj (n : Nat) (q : QueueH) :
    projH (flushReadyH n q).1 = (flushReadyP n (projH q)).1 ∧ projH (flushReadyH n q).2 = (flushReadyP n (projH q)).2 := by
  induction n generalizing q with
  | zero => simp [flushReadyH, flushReadyP, projH]
  | succ n ih =>
    by_cases hr : ready (projH q) = true
    · cases q with
      | nil => simp [flushReadyH, flushReadyP, projH]
      | cons hd rest =>
        obtain ⟨⟨t, p⟩, h⟩ := hd
        have := ih rest
        simp only [projH, List.map_cons] at hr this ⊢
        simp only [flushReadyH, flushReadyP, projH, List.map_cons, hr, if_true]
        split <;> simp [this.1, this.2]
    · have hr' : ¬ ready (List.map Prod.fst q) = true := by simpa [projH] using hr
      simp [flushReadyH, flushReadyP, hr', projH]

theorem drainH_proj (skip : Bool) (n : Nat) (q : QueueH) : projH (drainH skip n q) = drainP skip n (projH q) := by
  induction n generalizing q with
  | zero => simp [drainH, drainP, projH]
  | succ n ih =>
    cases q with
    | nil => simp [drainH, drainP, projH]
    | cons hd rest =>
      obtain ⟨⟨t, p⟩, h⟩ := hd
      have := ih rest
      simp only [projH, List.map_cons] at this ⊢
      simp only [drainH, drainP, projH, List.map_cons]
      split
      · split <;> simp [this]
      · split <;> simp [this]

theorem processMatch_projH (v : Variant) (cfg : Cfg) (src : Bytes) (m : Mat) (st : St) (qh : QueueH)
    (h : st.queue = projH qh) :
    (processMatch v cfg src m st).queue =
      projH (match inserted v cfg src m st with
        | some a => qInsertH a.1 a.2 qh
        | none => qh) := by
  rw [processMatch_queue, h]
  cases inserted v cfg src m st with
  | none => rfl
  | some a => exact (projH_qInsertH _ _ _).symm

theorem runH_proj (v : Variant) (cfg : Cfg) (src : Bytes) (ms : List Mat) (st : St) (qh : QueueH)
    (hq : st.queue = projH qh) : projH (runH v cfg src ms st qh) = runP v cfg src ms st := by
  induction ms generalizing st qh with
  | nil =>
    simp only [runH, runP, drainH_proj, hq]
    simp [projH]
  | cons m ms ih =>
    have h := flushReadyH_proj qh.length qh
    simp only [projH] at h
    simp only [runH, runP, hq, projH, List.length_map, ← h.1, ← h.2, List.map_append]
    congr 1
    exact ih _ _ (processMatch_projH v cfg src m _ _ rfl)

/-- The entry is one of the arrivals merged into it, all of them have its name range and satisfy `S`, and its pattern
index is minimal among them. -/
def HistOK (S : Tag × Nat → Prop) (x : (Tag × Nat) × List (Tag × Nat)) : Prop :=
  x.1 ∈ x.2 ∧ ∀ a ∈ x.2, key a.1 = key x.1.1 ∧ x.1.2 ≤ a.2 ∧ S a

theorem qInsertH_hist (S : Tag × Nat → Prop) (tag : Tag) (pat : Nat) (q : QueueH) (hS : S (tag, pat))
    (h : ∀ x ∈ q, HistOK S x) : ∀ x ∈ qInsertH tag pat q, HistOK S x := by
  have hnew : HistOK S ((tag, pat), [(tag, pat)]) :=
    ⟨List.mem_singleton.2 rfl, fun a ha => by cases List.mem_singleton.1 ha; exact ⟨rfl, Nat.le_refl _, hS⟩⟩
  fun_induction qInsertH tag pat q with
  | case1 => exact fun x hx => List.mem_singleton.1 hx ▸ hnew
  | case2 t p hs rest heq =>
    have heq' : key t = key tag := eq_of_beq heq
    obtain ⟨h1, h2⟩ := h _ List.mem_cons_self
    intro x hx
    rcases List.mem_cons.mp hx with rfl | hx
    · by_cases hgt : p > pat
      · rw [if_pos hgt]
        refine ⟨List.mem_append_right _ (List.mem_singleton.2 rfl), fun a ha => ?_⟩
        rcases List.mem_append.mp ha with ha | ha
        · exact ⟨(h2 a ha).1.trans heq', Nat.le_trans (Nat.le_of_lt hgt) (h2 a ha).2.1, (h2 a ha).2.2⟩
        · cases List.mem_singleton.1 ha; exact ⟨rfl, Nat.le_refl _, hS⟩
      · rw [if_neg hgt]
        refine ⟨List.mem_append_left _ h1, fun a ha => ?_⟩
        rcases List.mem_append.mp ha with ha | ha
        · exact h2 a ha
        · cases List.mem_singleton.1 ha; exact ⟨heq'.symm, Nat.le_of_not_lt hgt, hS⟩
    · exact h x (List.mem_cons_of_mem _ hx)
  | case3 t p hs rest hne hlt =>
    intro x hx
    rcases List.mem_cons.mp hx with rfl | hx
    · exact hnew
    · exact h x hx
  | case4 t p hs rest hne hlt ih =>
    intro x hx
    rcases List.mem_cons.mp hx with rfl | hx
    · exact h _ List.mem_cons_self
    · exact ih (fun x hx => h x (List.mem_cons_of_mem _ hx)) x hx

theorem drainH_sublist (skip : Bool) (n : Nat) (q : QueueH) : (drainH skip n q).Sublist q := by
  fun_induction drainH skip n q with
  | case1 => exact List.nil_sublist _
  | case2 => exact List.nil_sublist _
  | case3 fuel t p h rest hig hrd ih => rw [if_pos hrd, if_pos hig]; exact ih.cons _
  | case4 fuel t p h rest hig hrd ih => rw [if_pos hrd, if_neg hig]; exact ih.cons_cons _
  | case5 fuel t p h rest hig hrd ih => rw [if_neg hrd, if_pos hig]; exact ih.cons _
  | case6 fuel t p h rest hig hrd ih => rw [if_neg hrd, if_neg hig]; exact ih.cons_cons _

theorem flushReadyH_sublist (n : Nat) (q : QueueH) : (flushReadyH n q).1.Sublist q ∧ (flushReadyH n q).2.Sublist q := by
  fun_induction flushReadyH n q with
  | case1 q => exact ⟨List.nil_sublist _, List.Sublist.refl _⟩
  | case2 fuel hr => exact ⟨List.nil_sublist _, List.Sublist.refl _⟩
  | case3 fuel t p h rest out q' heq hr ih =>
    rw [heq] at ih
    refine ⟨?_, ih.2.cons _⟩
    show List.Sublist (if t.isIgnored = true then out else ((t, p), h) :: out) _
    split
    · exact ih.1.cons _
    · exact ih.1.cons_cons _
  | case4 fuel q hr => exact ⟨List.nil_sublist _, List.Sublist.refl _⟩

/-- `hins` asks that inserting an ARRIVAL keeps `P`, not any entry: this is what lets `P` speak of `arrivals`. -/
theorem runH_forall (P : (Tag × Nat) × List (Tag × Nat) → Prop) (v : Variant) (cfg : Cfg) (src : Bytes)
    (ms : List Mat) (st : St) (qh : QueueH) (hq : st.queue = projH qh)
    (hins : ∀ a ∈ arrivals v cfg src ms st, ∀ q : QueueH, (∀ x ∈ q, P x) → ∀ x ∈ qInsertH a.1 a.2 q, P x)
    (h : ∀ x ∈ qh, P x) : ∀ x ∈ runH v cfg src ms st qh, P x := by
  induction ms generalizing st qh with
  | nil => exact fun x hx => h x ((drainH_sublist _ _ _).subset hx)
  | cons m ms ih =>
    intro x hx
    have hm := flushReadyH_sublist qh.length qh
    have hp := (flushReadyH_proj qh.length qh).2
    simp only [projH] at hp
    simp only [arrivals, hq, projH, List.length_map, ← hp, List.mem_append, Option.mem_toList] at hins
    simp only [runH, List.mem_append] at hx
    have hq' : ∀ y ∈ (flushReadyH qh.length qh).2, P y := fun y hy => h y (hm.2.subset hy)
    rcases hx with hx | hx
    · exact h x (hm.1.subset hx)
    · refine ih _ _ (processMatch_projH v cfg src m _ _ rfl) (fun a ha => hins a (Or.inr ha)) ?_ x hx
      split
      next b hi => exact hins b (Or.inl hi) _ hq'
      next => exact hq'

end TsVerif.C18
