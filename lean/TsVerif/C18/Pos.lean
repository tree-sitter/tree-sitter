import TsVerif.C18.Model
/-! The spec function of the span clause, shared by the judge and by `tag_ranges_and_span`. -/
namespace TsVerif.C18

/-- Row / byte column of offset `i`: number of newlines before `i`, bytes since the last one. -/
def posOf (src : Bytes) (i : Nat) : Pt :=
  let pre := src.take i
  ⟨pre.count 10, (pre.reverse.takeWhile (· != 10)).length⟩

end TsVerif.C18
