import TsVerif.C18.Model
/-! Docs selection: `select-adjacent!` against the longest chain.  The spec read from the LAST capture backwards
(`selectSpec_snoc`) is the recursion of the `docs_start_index` loop (`adjacentDocs_eq`). -/
namespace TsVerif.C18

theorem suffixes_snoc {α : Type} (l : List α) (d : α) :
    suffixes (l ++ [d]) = (suffixes l).map (· ++ [d]) ++ [[]] := by
  induction l with
  | nil => simp [suffixes]
  | cons a l ih => simp [suffixes, ih]

theorem chainOK_snoc (s : List Cap) (d : Cap) (row : Nat) :
    chainOK (s ++ [d]) row = (chainOK s d.sp.row && decide (d.ep.row + 1 ≥ row)) := by
  induction s with
  | nil => simp [chainOK]
  | cons a s ih =>
    cases s with
    | nil => simp [chainOK]
    | cons b s =>
      simp only [List.cons_append, chainOK] at ih ⊢
      rw [ih]; simp [Bool.and_assoc]

theorem nil_mem_suffixes {α : Type} (l : List α) : [] ∈ suffixes l := by
  induction l with
  | nil => simp [suffixes]
  | cons a l ih => simp [suffixes, ih]

theorem selectSpec_snoc (l : List Cap) (d : Cap) (row : Nat) :
    selectSpec (l ++ [d]) row = if d.ep.row + 1 ≥ row then selectSpec l d.sp.row ++ [d] else [] := by
  unfold selectSpec
  rw [suffixes_snoc, List.find?_append, List.find?_map]
  by_cases h : d.ep.row + 1 ≥ row
  · simp only [h, if_true]
    have hf : ((fun x => chainOK x row) ∘ fun x => x ++ [d]) = fun x => chainOK x d.sp.row := by
      funext x; simp [chainOK_snoc, h]
    rw [hf]
    cases hfind : (suffixes l).find? (fun x => chainOK x d.sp.row) with
    | none =>
      have := List.find?_eq_none.mp hfind [] (nil_mem_suffixes l)
      simp [chainOK] at this
    | some t => simp
  · simp only [h, if_false]
    have hf : ((fun x => chainOK x row) ∘ fun x => x ++ [d]) = fun _ => false := by
      funext x; simp [chainOK_snoc, h]
    rw [hf]
    have : (suffixes l).find? (fun _ => false) = none := List.find?_eq_none.mpr (by simp)
    simp [this, chainOK]

theorem selectSpec_nil (row : Nat) : selectSpec [] row = [] := rfl

theorem adjacentDocs_eq (rev : List Cap) (row : Nat) (kept : List Cap) :
    adjacentDocs rev row kept = selectSpec rev.reverse row ++ kept := by
  fun_induction adjacentDocs rev row kept with
  | case1 => rw [List.reverse_nil, selectSpec_nil, List.nil_append]
  | case2 d rest row kept h ih => rw [List.reverse_cons, selectSpec_snoc, if_pos h, ih, List.append_assoc]; rfl
  | case3 d rest row kept h => rw [List.reverse_cons, selectSpec_snoc, if_neg h]; rfl

theorem selectAdjacent_eq_spec (docs : List Cap) (row : Nat) : selectAdjacent docs row = selectSpec docs row := by
  unfold selectAdjacent
  rw [adjacentDocs_eq]; simp

theorem selectSpec_cons (a : Cap) (l : List Cap) (row : Nat) :
    selectSpec (a :: l) row = if chainOK (a :: l) row then a :: l else selectSpec l row := by
  unfold selectSpec
  simp only [suffixes, List.find?_cons]
  by_cases h : chainOK (a :: l) row = true <;> simp [h]

/-- What `selectSpec` (hence the `docs_start_index` loop) selects: a suffix of the
doc captures that is a chain (every node — single- or multi-row — ENDS on the row just above the next one's FIRST row, or later;
the last one just above the selected node) and is the LONGEST such suffix. -/
theorem docs_select_spec (docs : List Cap) (row : Nat) :
    selectAdjacent docs row = selectSpec docs row ∧
    (∃ pre, docs = pre ++ selectSpec docs row) ∧ chainOK (selectSpec docs row) row = true ∧
    ∀ pre s, docs = pre ++ s → chainOK s row = true → s.length ≤ (selectSpec docs row).length := by
  refine ⟨selectAdjacent_eq_spec docs row, ?_⟩
  induction docs with
  | nil =>
    refine ⟨⟨[], rfl⟩, rfl, ?_⟩
    intro pre s h _
    rw [(List.nil_eq_append_iff.1 h).2]
    exact Nat.zero_le _
  | cons a l ih =>
    rw [selectSpec_cons]
    by_cases h : chainOK (a :: l) row = true
    · simp only [h, if_true]
      refine ⟨⟨[], rfl⟩, trivial, ?_⟩
      intro pre s hs _
      have := congrArg List.length hs; simp at this ⊢; omega
    · simp only [h, Bool.false_eq_true, if_false]
      obtain ⟨⟨pre, hpre⟩, hc, hmax⟩ := ih
      refine ⟨⟨a :: pre, by rw [List.cons_append, ← hpre]⟩, hc, ?_⟩
      intro pre' s hs hcs
      cases pre' with
      | nil => simp at hs; rw [← hs] at hcs; exact absurd hcs h
      | cons b p =>
        simp only [List.cons_append, List.cons.injEq] at hs
        exact hmax p s hs.2 hcs

/-- For every strip function (the regex is a parameter), source, `select-adjacent!` node
and list of `@doc` captures, the port of the docs pipeline equals the spec: the stripped texts (not-UTF-8
nodes skipped) of all doc captures — or, with `select-adjacent!`, of `selectSpec` — joined by `\n`.
Full strength. -/
theorem docs_spec (strip : Option (Bytes → Bytes)) (src : Bytes) (adj : Option Cap) (docs : List Cap) :
    docsOfP strip src adj docs = docsSpec strip src adj docs := by
  unfold docsOfP docsSpec
  cases adj with
  | none => rfl
  | some a =>
    cases docs with
    | nil => simp [selectSpec_nil]
    | cons d ds => simp [selectAdjacent_eq_spec]

/-- Multi-row doc nodes: a comment on row 0, a block comment on rows 1–2, the node on row 3 — adjacency compares
the END row of the earlier node with the START row of the later one, so both are selected (a walk that
compared with the END row of the block comment would drop the first: seeded C18-r4). -/
example : (selectSpec [⟨5, 0, 5, ⟨0, 0⟩, ⟨0, 5⟩, false⟩, ⟨5, 6, 20, ⟨1, 0⟩, ⟨2, 8⟩, false⟩] 3).map (·.sb) = [0, 6] := by decide

/-- Non-vacuity: comments on rows 0, 2, 3 above a node on row 4 — the row-0 comment is cut off by the gap. -/
example : (selectSpec [⟨5, 0, 6, ⟨0, 0⟩, ⟨0, 6⟩, false⟩, ⟨5, 8, 14, ⟨2, 0⟩, ⟨2, 6⟩, false⟩,
                       ⟨5, 15, 21, ⟨3, 0⟩, ⟨3, 6⟩, false⟩] 4).map (·.sb) = [8, 15] := by decide

/-- The selected docs are the MAXIMAL chain: if one more (earlier) doc node `d`
stands right in front of the selected suffix, prepending it breaks the chain condition. -/
theorem docs_chain_maximal (docs pre : List Cap) (d : Cap) (row : Nat)
    (h : docs = pre ++ d :: selectSpec docs row) : chainOK (d :: selectSpec docs row) row = false := by
  cases hc : chainOK (d :: selectSpec docs row) row with
  | false => rfl
  | true =>
    have := (docs_select_spec docs row).2.2.2 pre (d :: selectSpec docs row) h hc
    simp at this; omega

end TsVerif.C18
