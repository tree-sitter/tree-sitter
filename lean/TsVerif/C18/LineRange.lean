import TsVerif.C18.Utf8
/-! `line_range` against `lineSpec`: both as functions of the text from the row start on (`codeCore`, `specCore`). -/
namespace TsVerif.C18

theorem mem_takeWhile_sat {α} {p : α → Bool} {l : List α} {x : α} (h : x ∈ l.takeWhile p) : p x = true :=
  List.all_eq_true.1 List.all_takeWhile x h

theorem takeWhile_all {α} {p : α → Bool} {l : List α} (h : ∀ x ∈ l, p x = true) : l.takeWhile p = l := by
  have := List.takeWhile_append_of_pos (l₂ := []) h
  rwa [List.append_nil, List.takeWhile_nil, List.append_nil] at this

theorem takeWhile_append_neg {α} (p : α → Bool) (l1 l2 : List α) (h : ∃ x ∈ l1, p x = false) :
    (l1 ++ l2).takeWhile p = l1.takeWhile p := by
  rw [List.takeWhile_append, if_neg]
  intro hlen
  obtain ⟨x, hx, hpx⟩ := h
  rw [← (List.takeWhile_sublist p).eq_of_length hlen] at hx
  rw [mem_takeWhile_sat hx] at hpx
  cases hpx

/-- The part of `line_range` after the line start is known, as a function of `rest = text[ls0..]`. -/
def codeCore (rest : Bytes) (limit : Nat) : Nat × Nat :=
  let lead := (rest.takeWhile isWs).length
  let maxLen := min limit (rest.length - lead)
  let window := (rest.drop lead).take maxLen
  let nl := (window.takeWhile (· != 10)).length
  let lineLen :=
    if nl < window.length then nl
    else
      let r := scan window
      if r.err.isSome then r.validUpTo else maxLen
  (lead, (((window.take lineLen).reverse.dropWhile isWs)).length)

theorem lineRange_core (text : Bytes) (sb col limit : Nat) :
    lineRange text sb col limit =
      ⟨sb - col + (codeCore (text.drop (sb - col)) limit).1,
       sb - col + (codeCore (text.drop (sb - col)) limit).1 + (codeCore (text.drop (sb - col)) limit).2⟩ := by
  simp only [lineRange, codeCore, List.drop_drop, List.length_drop, Nat.sub_add_eq]

/-- `lineSpec` as a function of `rest = text[ls0..]`: (number of leading blanks of the row, length of the trimmed cut). -/
def specCore (rest : Bytes) (limit : Nat) : Nat × Nat :=
  let line := rest.takeWhile (· != 10)
  let lead := (line.takeWhile isWs).length
  let body := line.drop lead
  let terminated := decide (line.length < rest.length)
  let cut :=
    if terminated && decide (body.length < limit) then body
    else
      let w := body.take limit
      w.take (scan w).validUpTo
  (lead, (cut.reverse.dropWhile isWs).length)

theorem lineSpec_core (text : Bytes) (ls0 limit : Nat) :
    lineSpec text ls0 limit =
      ⟨ls0 + (specCore (text.drop ls0) limit).1,
       ls0 + (specCore (text.drop ls0) limit).1 + (specCore (text.drop ls0) limit).2⟩ := by
  simp only [lineSpec, specCore]

/-- The untrimmed cut of `lineSpec` (a prefix of the row without its leading blanks): what
`line_range_contains_name_start` asks the name start to lie in. -/
def cutOf (rest : Bytes) (limit : Nat) : Bytes :=
  let line := rest.takeWhile (· != 10)
  let body := line.drop (line.takeWhile isWs).length
  if decide (line.length < rest.length) && decide (body.length < limit) then body
  else (body.take limit).take (scan (body.take limit)).validUpTo

theorem specCore_eq (rest : Bytes) (limit : Nat) : specCore rest limit =
    (((rest.takeWhile (· != 10)).takeWhile isWs).length, ((cutOf rest limit).reverse.dropWhile isWs).length) := rfl

theorem isWs_ascii {c : Nat} (h : isWs c = true) : c < 0x80 := by
  simp [isWs] at h; omega

theorem rev_dropWhile_split {α} (p : α → Bool) (l : List α) :
    l = (l.reverse.dropWhile p).reverse ++ (l.reverse.takeWhile p).reverse ∧
    l.take (l.reverse.dropWhile p).length = (l.reverse.dropWhile p).reverse := by
  have h : (l.reverse.dropWhile p).reverse ++ (l.reverse.takeWhile p).reverse = l := by
    rw [← List.reverse_append, List.takeWhile_append_dropWhile, List.reverse_reverse]
  refine ⟨h.symm, ?_⟩
  conv => lhs; arg 2; rw [← h]
  exact List.take_left' List.length_reverse

theorem takeWhile_len_le_of_neg {α} {p : α → Bool} : ∀ (l : List α) (j : Nat) (b : α), l[j]? = some b → p b = false →
    (l.takeWhile p).length ≤ j := by
  intro l
  induction l with
  | nil => intro j b h; simp at h
  | cons a l ih =>
    intro j b h hb
    cases j with
    | zero => simp at h; subst h; simp [hb]
    | succ j =>
      simp at h
      by_cases hp : p a = true
      · simp [hp]; exact ih j b h hb
      · simp [hp]

theorem drop_length_takeWhile {α} (p : α → Bool) (l : List α) : l.drop (l.takeWhile p).length = l.dropWhile p := by
  conv => lhs; arg 2; rw [← List.takeWhile_append_dropWhile (p := p) (l := l)]
  exact List.drop_left' rfl

/-- The cut is a prefix of the row without its leading blanks, at most `limit` long, and well formed if the row is. -/
theorem cutOf_spec (rest : Bytes) (limit : Nat) :
    (∃ m, cutOf rest limit = ((rest.takeWhile (· != 10)).dropWhile isWs).take m) ∧ (cutOf rest limit).length ≤ limit ∧
    (validUtf8 (rest.takeWhile (· != 10)) = true → validUtf8 (cutOf rest limit) = true) := by
  unfold cutOf
  simp only [drop_length_takeWhile]
  split
  next h =>
    simp only [Bool.and_eq_true, decide_eq_true_eq] at h
    refine ⟨⟨_, List.take_length.symm⟩, Nat.le_of_lt h.2, fun hv => ?_⟩
    refine (valid_append_iff _ (ascii_valid ((rest.takeWhile (· != 10)).takeWhile isWs)
      fun c hc => isWs_ascii (mem_takeWhile_sat hc))).1 ?_
    rw [List.takeWhile_append_dropWhile]; exact hv
  · refine ⟨⟨_, List.take_take⟩, ?_, fun _ => scan_take_valid _⟩
    rw [List.length_take, List.length_take]
    omega

/-- Trimming trailing blanks: what is left is a prefix of the cut, no longer than it, well formed if the cut is, and holds every
non-blank position of the cut. -/
theorem trim_spec (cut : Bytes) :
    cut.take (cut.reverse.dropWhile isWs).length = (cut.reverse.dropWhile isWs).reverse ∧
    (cut.reverse.dropWhile isWs).length ≤ cut.length ∧
    (validUtf8 cut = true → validUtf8 (cut.reverse.dropWhile isWs).reverse = true) ∧
    ∀ i b, cut[i]? = some b → isWs b = false → i < (cut.reverse.dropWhile isWs).length := by
  obtain ⟨hsp, htk⟩ := rev_dropWhile_split isWs cut
  have hws : ∀ c ∈ (cut.reverse.takeWhile isWs).reverse, isWs c = true :=
    fun c hc => mem_takeWhile_sat (List.mem_reverse.mp hc)
  refine ⟨htk, ?_, fun hv => ?_, fun i b h hb => Nat.lt_of_not_le fun hle => ?_⟩
  · simpa using (List.dropWhile_sublist isWs (l := cut.reverse)).length_le
  · exact valid_of_append_ascii _ _ (fun c hc => isWs_ascii (hws c hc)) (hsp ▸ hv)
  · rw [hsp, List.getElem?_append_right (by rw [List.length_reverse]; exact hle)] at h
    rw [hws b (List.mem_of_getElem? h)] at hb
    cases hb

theorem take_drop_row {line tail : Bytes} {m k : Nat} (hk : k ≤ ((line.dropWhile isWs).take m).length) :
    ((line ++ tail).drop (line.takeWhile isWs).length).take k = ((line.dropWhile isWs).take m).take k := by
  rw [List.length_take] at hk
  rw [List.drop_append_of_le_length (List.takeWhile_sublist _).length_le, drop_length_takeWhile,
    List.take_append_of_le_length (by omega), List.take_take, Nat.min_eq_left (by omega)]

theorem specCore_valid (rest : Bytes) (limit : Nat)
    (hv : validUtf8 (rest.takeWhile (· != 10)) = true) :
    validUtf8 ((rest.drop (specCore rest limit).1).take (specCore rest limit).2) = true := by
  obtain ⟨⟨m, hm⟩, _, hcv⟩ := cutOf_spec rest limit
  obtain ⟨htk, hle, htv, _⟩ := trim_spec (cutOf rest limit)
  have := take_drop_row (line := rest.takeWhile (· != 10)) (tail := rest.dropWhile (· != 10)) (m := m) (hm ▸ hle)
  rw [List.takeWhile_append_dropWhile, ← hm, htk] at this
  rw [specCore_eq, this]
  exact htv (hcv hv)

theorem specCore_contains (rest : Bytes) (limit j b : Nat)
    (hline : (rest.takeWhile (· != 10))[j]? = some b) (hnw : isWs b = false)
    (hcut : j < (specCore rest limit).1 + (cutOf rest limit).length) :
    (specCore rest limit).1 ≤ j ∧ j < (specCore rest limit).1 + (specCore rest limit).2 := by
  rw [specCore_eq] at hcut ⊢
  simp only at hcut ⊢
  obtain ⟨⟨m, hm⟩, _, _⟩ := cutOf_spec rest limit
  have hlead := takeWhile_len_le_of_neg _ j b hline hnw
  have hjc : (cutOf rest limit)[j - ((rest.takeWhile (· != 10)).takeWhile isWs).length]? = some b := by
    have hlt := hcut
    rw [hm, List.length_take] at hlt
    rw [hm, List.getElem?_take_of_lt (by omega), ← drop_length_takeWhile, List.getElem?_drop,
      Nat.add_sub_cancel' hlead]
    exact hline
  have := (trim_spec (cutOf rest limit)).2.2.2 _ b hjc hnw
  omega

/-- The code trims leading whitespace over the whole text and looks
for the newline inside the cut window; the spec takes the row first.  The hypothesis is what makes the two trims agree
(`takeWhile_append_neg`): a non-blank byte on the row stops the code's trim before the newline. -/
theorem core_eq (rest : Bytes) (limit : Nat) (h : ∃ b ∈ rest.takeWhile (· != 10), isWs b = false) :
    codeCore rest limit = specCore rest limit := by
  have hsplit : rest.takeWhile (· != 10) ++ rest.dropWhile (· != 10) = rest := List.takeWhile_append_dropWhile
  have hline_ne : ∀ x ∈ rest.takeWhile (· != 10), (x != 10) = true := fun x hx => mem_takeWhile_sat (p := (· != 10)) hx
  have htail : rest.dropWhile (· != 10) = [] ∨ ∃ t, rest.dropWhile (· != 10) = 10 :: t := by
    cases hd : rest.dropWhile (· != 10) with
    | nil => exact Or.inl rfl
    | cons a t =>
      have := List.head_dropWhile_not (· != 10) (l := rest) (by rw [hd]; exact List.cons_ne_nil _ _)
      simp only [hd, List.head_cons, bne_eq_false_iff_eq] at this
      exact Or.inr ⟨t, by rw [this]⟩
  rw [specCore_eq]
  unfold codeCore cutOf
  generalize rest.takeWhile (· != 10) = line at *
  generalize rest.dropWhile (· != 10) = tail at *
  subst hsplit
  have hbody_ne : ∀ x ∈ line.dropWhile isWs, (x != 10) = true :=
    fun x hx => hline_ne x ((List.dropWhile_sublist _).subset hx)
  have hlen := congrArg List.length (List.takeWhile_append_dropWhile (p := isWs) (l := line))
  rw [List.length_append] at hlen
  simp only [takeWhile_append_neg _ _ _ h, drop_length_takeWhile,
    List.drop_append_of_le_length (List.takeWhile_sublist _).length_le, List.length_append]
  generalize line.dropWhile isWs = body at *
  refine congrArg (fun c : Bytes => ((line.takeWhile isWs).length, (c.reverse.dropWhile isWs).length)) ?_
  have hwin : (body ++ tail).take (min limit (line.length + tail.length - (line.takeWhile isWs).length)) =
      (body ++ tail).take limit := by
    rw [show line.length + tail.length - (line.takeWhile isWs).length = (body ++ tail).length by
      rw [List.length_append]; omega]
    exact List.take_eq_take_min.symm
  rw [hwin]
  by_cases hA : tail ≠ [] ∧ body.length < limit
  · -- the newline lies inside the window: the line ends there
    obtain ⟨t, rfl⟩ := htail.resolve_left hA.1
    obtain ⟨k, hk⟩ : ∃ k, limit - body.length = k + 1 := ⟨limit - body.length - 1, by omega⟩
    have htw : (body ++ 10 :: t.take k).takeWhile (· != 10) = body := by
      rw [List.takeWhile_append_of_pos hbody_ne, List.takeWhile_cons_of_neg (by decide), List.append_nil]
    rw [List.take_append, hk, List.take_of_length_le (l := body) (by omega), List.take_succ_cons, htw,
      if_pos (by rw [List.length_append, List.length_cons]; omega), List.take_left' rfl, if_pos (by simp [hA.2])]
  · -- no newline in the window, which is the first `limit` bytes of the body
    have hB : tail = [] ∨ limit ≤ body.length := by
      rcases htail with rfl | ⟨t, rfl⟩
      · exact Or.inl rfl
      · exact Or.inr (Nat.le_of_not_lt fun h' => hA ⟨List.cons_ne_nil _ _, h'⟩)
    have hw : (body ++ tail).take limit = body.take limit := by
      rcases hB with rfl | hB
      · rw [List.append_nil]
      · exact List.take_append_of_le_length hB
    have hc : (decide (line.length < line.length + tail.length) && decide (body.length < limit)) = false := by
      rcases hB with rfl | hB
      · simp
      · simp; omega
    have hl : min limit (line.length + tail.length - (line.takeWhile isWs).length) = (body.take limit).length := by
      rw [List.length_take]
      rcases hB with rfl | hB
      · rw [List.length_nil]; omega
      · omega
    rw [hw, hc, takeWhile_all (fun x hx => hbody_ne x (List.mem_of_mem_take hx)), if_neg (Nat.lt_irrefl _),
      if_neg Bool.false_ne_true]
    cases he : (scan (body.take limit)).err with
    | none => rw [scan_valid_len _ he, hl]; rfl
    | some e => rfl

/-- For a start byte whose row (starting at `startByte - col`) contains a
non-whitespace byte — in particular whenever the name itself starts with one — the port of
`line_range` returns exactly `lineSpec`: the line containing the start byte, ASCII whitespace
trimmed at both ends, cut after at most `limit` bytes at the end of the longest well-formed UTF-8
prefix of the first `limit` bytes (`valid_up_to`).
The hypothesis is what the proof forces: on an all-whitespace row the code's leading trim runs
across the newline into later lines (witness below); tags cannot name such a row. -/
theorem line_range_spec (text : Bytes) (startByte col limit : Nat)
    (h : ∃ b ∈ (text.drop (startByte - col)).takeWhile (· != 10), isWs b = false) :
    lineRange text startByte col limit = lineSpec text (startByte - col) limit := by
  rw [lineRange_core, lineSpec_core, core_eq _ _ h]

/-- Non-vacuity: `"  foo \nbar"`, start byte 2 column 2 — the row contains `f`. -/
example : ∃ b ∈ (([32, 32, 102, 111, 111, 32, 10, 98, 97, 114] : Bytes).drop (2 - 2)).takeWhile (· != 10), isWs b = false :=
  ⟨102, by decide, by decide⟩

/-- Witness for the dropped hypothesis (`lineRange = lineSpec` for every row is FALSE): on the all-blank first row of `" \nab"` the code answers `[2,4)`, a range on the
NEXT row, while the trimmed first row is the empty range `[1,1)`. -/
example : lineRange [32, 10, 97, 98] 0 0 180 = ⟨2, 4⟩ ∧ lineSpec [32, 10, 97, 98] 0 180 = ⟨1, 1⟩ := by
  decide +kernel

/-- `lineSpec` stays inside the row that starts at `ls0` and is at most
`limit` bytes long. -/
theorem line_spec_bounds (text : Bytes) (ls0 limit : Nat) :
    let r := lineSpec text ls0 limit
    ls0 ≤ r.s ∧ r.s ≤ r.e ∧ r.e ≤ ls0 + ((text.drop ls0).takeWhile (· != 10)).length ∧ r.e - r.s ≤ limit := by
  simp only [lineSpec_core, specCore_eq]
  obtain ⟨⟨m, hm⟩, hlim, _⟩ := cutOf_spec (text.drop ls0) limit
  have hk := (trim_spec (cutOf (text.drop ls0) limit)).2.1
  have hc := congrArg List.length hm
  have hl := congrArg List.length (List.takeWhile_append_dropWhile (p := isWs) (l := (text.drop ls0).takeWhile (· != 10)))
  rw [List.length_take] at hc
  rw [List.length_append] at hl
  omega

/-- If the row of the tag is well-formed UTF-8, the bytes of the returned
line range are well-formed UTF-8: the cut at `MAX_LINE_LEN` (and the trimming) never splits a character —
the range starts and ends on character boundaries.  Stated for `lineSpec` and, under the hypothesis of
`line_range_spec`, for the port of `line_range`. -/
theorem line_range_char_boundary (text : Bytes) (startByte col limit : Nat)
    (hv : validUtf8 ((text.drop (startByte - col)).takeWhile (· != 10)) = true) :
    validUtf8 (slice text (lineSpec text (startByte - col) limit).s (lineSpec text (startByte - col) limit).e) = true ∧
    ((∃ b ∈ (text.drop (startByte - col)).takeWhile (· != 10), isWs b = false) →
      validUtf8 (slice text (lineRange text startByte col limit).s (lineRange text startByte col limit).e) = true) := by
  -- under the hypothesis of `line_range_spec` the second claim is the first
  rw [and_iff_left_of_imp fun h1 h => by rw [line_range_spec text startByte col limit h]; exact h1, lineSpec_core]
  simp only []
  rw [show ∀ a k, slice text (startByte - col + a) (startByte - col + a + k) = ((text.drop (startByte - col)).drop a).take k from
    fun a k => by unfold slice; rw [List.drop_drop]; congr 1; omega]
  exact specCore_valid _ limit hv

/-- Non-vacuity: limit 4 on `é€x` (2+3+1 bytes): the cut falls inside `€` and retreats to `[0,2)` = `é`. -/
example : lineSpec [0xC3, 0xA9, 0xE2, 0x82, 0xAC, 0x78] 0 4 = ⟨0, 2⟩ ∧
          lineSpec [0xF0, 0x9F, 0x98, 0x80, 0xF0, 0x9F, 0x98, 0x80] 0 6 = ⟨0, 4⟩ := by
  decide +kernel

/-- Hypotheses: the name starts at `startByte` in column `col` of its
row (`col ≤ startByte`, the column lies on the row), with a non-whitespace byte, inside the untrimmed cut
(`cutOf`: the row without leading blanks, cut at the limit on a character boundary).  Then the returned
range contains the name start. -/
theorem line_range_contains_name_start (text : Bytes) (startByte col limit b : Nat) (hcol : col ≤ startByte)
    (hrow : col < ((text.drop (startByte - col)).takeWhile (· != 10)).length)
    (hb : text[startByte]? = some b) (hnw : isWs b = false)
    (hcut : col < (specCore (text.drop (startByte - col)) limit).1 + (cutOf (text.drop (startByte - col)) limit).length) :
    (lineRange text startByte col limit).s ≤ startByte ∧ startByte < (lineRange text startByte col limit).e := by
  have hline : ((text.drop (startByte - col)).takeWhile (· != 10))[col]? = some b := by
    rw [← Nat.sub_add_cancel hcol, ← List.getElem?_drop,
      ← List.takeWhile_append_dropWhile (p := (· != 10)) (l := text.drop (startByte - col)),
      List.getElem?_append_left hrow] at hb
    exact hb
  have := specCore_contains (text.drop (startByte - col)) limit col b hline hnw hcut
  have hex : ∃ c ∈ (text.drop (startByte - col)).takeWhile (· != 10), isWs c = false :=
    ⟨b, List.mem_of_getElem? hline, hnw⟩
  rw [line_range_spec text startByte col limit hex, lineSpec_core]
  simp only []
  omega

/-- Non-vacuity: `  é = foo(1);` — the name `foo` starts at byte 7, column 7. -/
example : lineRange [32, 32, 0xC3, 0xA9, 32, 61, 32, 102, 111, 111, 40, 49, 41, 59] 7 7 180 = ⟨2, 14⟩ := by
  decide +kernel

end TsVerif.C18
