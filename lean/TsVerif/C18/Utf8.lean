import TsVerif.C18.Model
import TsVerif.Common.Utf8Walk
/-!
UTF-8: one step of the validation loop, `scan`, the lossy UTF-16 length, the spec decoder.

A step is read as: the lead byte fixes a list of tests for the bytes that follow (`tests`, the rows of
Unicode Table 3-7), and the step runs them along the rest (`Utf8Walk.walk`, shared with C17).  What the proofs need of
`stepAt` is then an induction over the list of tests.
-/
namespace TsVerif.C18
open Utf8Walk (walk)

/-- The tests the bytes after lead byte `a` have to pass, in order; `none` if `a` starts no sequence. -/
def tests (a : Nat) : Option (List (Nat → Bool)) :=
  if a < 0x80 then some []
  else if 0xC2 ≤ a ∧ a ≤ 0xDF then some [isCont]
  else if 0xE0 ≤ a ∧ a ≤ 0xEF then some [second3ok a, isCont]
  else if 0xF0 ≤ a ∧ a ≤ 0xF4 then some [second4ok a, isCont, isCont]
  else none

def Step.ofWalk : Utf8Walk.Res → Step
  | .char n => .char n
  | .invalid k => .invalid k
  | .incomplete => .incomplete

theorem Step.ofWalk_inj {r s : Utf8Walk.Res} (h : Step.ofWalk r = Step.ofWalk s) : r = s := by
  cases r <;> cases s <;> cases h <;> rfl

theorem isCont_iff (b : Nat) : isCont b = true ↔ 0x80 ≤ b ∧ b ≤ 0xBF := by
  simp [isCont]

theorem stepAt_eq (a : Nat) (rest : Bytes) :
    stepAt a rest = match tests a with
      | some ps => .ofWalk (walk ps rest 0)
      | none => .invalid 0 := by
  unfold stepAt width tests
  by_cases h1 : a < 0x80
  · simp only [if_pos h1, walk]; rfl
  by_cases h2 : 0xC2 ≤ a ∧ a ≤ 0xDF
  · simp only [if_neg h1, if_pos h2, if_true]
    cases rest with
    | nil => rfl
    | cons b r => simp only [walk, apply_ite Step.ofWalk]; rfl
  by_cases h3 : 0xE0 ≤ a ∧ a ≤ 0xEF
  · simp only [if_neg h1, if_neg h2, if_pos h3, Nat.reduceEqDiff, if_true, if_false]
    rcases rest with _ | ⟨b, _ | ⟨c, r⟩⟩
    · rfl
    all_goals
      simp only [walk, apply_ite Step.ofWalk]
      cases second3ok a b <;> rfl
  by_cases h4 : 0xF0 ≤ a ∧ a ≤ 0xF4
  · simp only [if_neg h1, if_neg h2, if_neg h3, if_pos h4, Nat.reduceEqDiff, if_true, if_false]
    rcases rest with _ | ⟨b, _ | ⟨c, _ | ⟨d, r⟩⟩⟩
    · rfl
    · simp only [walk, apply_ite Step.ofWalk]
      cases second4ok a b <;> rfl
    all_goals
      simp only [walk, apply_ite Step.ofWalk]
      cases second4ok a b <;> cases isCont c <;> rfl
  · simp only [if_neg h1, if_neg h2, if_neg h3, if_neg h4, Nat.reduceEqDiff, if_false]

theorem second3ok_iff (a b : Nat) : second3ok a b = true ↔
    (a = 0xE0 ∧ 0xA0 ≤ b ∧ b ≤ 0xBF) ∨ (0xE1 ≤ a ∧ a ≤ 0xEC ∧ 0x80 ≤ b ∧ b ≤ 0xBF) ∨
    (a = 0xED ∧ 0x80 ≤ b ∧ b ≤ 0x9F) ∨ (0xEE ≤ a ∧ a ≤ 0xEF ∧ 0x80 ≤ b ∧ b ≤ 0xBF) := by
  simp only [second3ok, isCont, Bool.or_eq_true, Bool.and_eq_true, beq_iff_eq, decide_eq_true_eq, and_assoc, or_assoc]

theorem second4ok_iff (a b : Nat) : second4ok a b = true ↔
    (a = 0xF0 ∧ 0x90 ≤ b ∧ b ≤ 0xBF) ∨ (0xF1 ≤ a ∧ a ≤ 0xF3 ∧ 0x80 ≤ b ∧ b ≤ 0xBF) ∨
    (a = 0xF4 ∧ 0x80 ≤ b ∧ b ≤ 0x8F) := by
  simp only [second4ok, isCont, Bool.or_eq_true, Bool.and_eq_true, beq_iff_eq, decide_eq_true_eq, and_assoc, or_assoc]

theorem second3ok_cont {a b : Nat} (h : second3ok a b = true) : isCont b = true := by
  rw [isCont_iff]
  rcases (second3ok_iff a b).1 h with h | h | h | h <;> omega

theorem second4ok_cont {a b : Nat} (h : second4ok a b = true) : isCont b = true := by
  rw [isCont_iff]
  rcases (second4ok_iff a b).1 h with h | h | h <;> omega

theorem tests_cont {a c : Nat} {ps : List (Nat → Bool)} (h : tests a = some ps) :
    ∀ p ∈ ps, p c = true → isCont c = true := by
  unfold tests at h
  by_cases h1 : a < 0x80
  · rw [if_pos h1] at h; cases h; nofun
  rw [if_neg h1] at h
  by_cases h2 : 0xC2 ≤ a ∧ a ≤ 0xDF
  · rw [if_pos h2] at h; cases h
    exact List.forall_mem_singleton.2 id
  rw [if_neg h2] at h
  by_cases h3 : 0xE0 ≤ a ∧ a ≤ 0xEF
  · rw [if_pos h3] at h; cases h
    exact List.forall_mem_cons.2 ⟨second3ok_cont, List.forall_mem_singleton.2 id⟩
  rw [if_neg h3] at h
  by_cases h4 : 0xF0 ≤ a ∧ a ≤ 0xF4
  · rw [if_pos h4] at h; cases h
    exact List.forall_mem_cons.2 ⟨second4ok_cont, List.forall_mem_cons.2 ⟨id, List.forall_mem_singleton.2 id⟩⟩
  · rw [if_neg h4] at h; cases h

theorem stepAt_char {x n : Nat} {rest : Bytes} (h : stepAt x rest = .char n) :
    1 ≤ n ∧ n - 1 ≤ rest.length ∧ ∀ z, stepAt x (rest.take (n - 1) ++ z) = .char n := by
  rw [stepAt_eq] at h
  cases ht : tests x with
  | none => rw [ht] at h; cases h
  | some ps =>
    simp only [ht] at h
    obtain ⟨h1, h2, h3⟩ := Utf8Walk.walk_char (Step.ofWalk_inj (s := .char n) h)
    have hn : n - 1 = ps.length := by omega
    refine ⟨by omega, by omega, fun z => ?_⟩
    rw [stepAt_eq, ht, hn]
    exact congrArg Step.ofWalk (h3 z)

theorem stepAt_char_prefix {x n : Nat} {rest : Bytes} (z : Bytes) (h : stepAt x rest = .char n) :
    stepAt x (rest.take (n - 1) ++ z) = .char n :=
  (stepAt_char h).2.2 z

theorem stepAt_char_append {x n : Nat} {rest : Bytes} (b : Bytes) (h : stepAt x rest = .char n) :
    stepAt x (rest ++ b) = .char n := by
  have := stepAt_char_prefix (rest.drop (n - 1) ++ b) h
  rwa [← List.append_assoc, List.take_append_drop] at this

theorem stepAt_invalid_append {x k : Nat} {rest : Bytes} (z : Bytes) (h : stepAt x rest = .invalid k) :
    stepAt x (rest ++ z) = .invalid k := by
  rw [stepAt_eq] at h ⊢
  cases ht : tests x with
  | none => rw [ht] at h; exact h
  | some ps =>
    simp only [ht] at h ⊢
    rw [Utf8Walk.walk_append z fun hi => by rw [hi] at h; cases h]
    exact h

theorem stepAt_incomplete_cons {x c : Nat} {rest : Bytes} (z : Bytes) (hc : ¬ isCont c = true)
    (h : stepAt x rest = .incomplete) : ∃ k, stepAt x (rest ++ c :: z) = .invalid k := by
  rw [stepAt_eq] at h
  cases ht : tests x with
  | none => rw [ht] at h; cases h
  | some ps =>
    simp only [ht] at h
    obtain ⟨k, hk⟩ := Utf8Walk.walk_incomplete_cons z (fun p hp hpc => hc (tests_cont ht p hp hpc))
      (Step.ofWalk_inj (s := .incomplete) h)
    exact ⟨k, by rw [stepAt_eq, ht]; exact congrArg Step.ofWalk hk⟩

theorem stepAt_lead {c n : Nat} {r : Bytes} (h : stepAt c r = .char n) : ¬ isCont c = true := by
  intro hc
  rw [isCont_iff] at hc
  rw [stepAt_eq, tests, if_neg (by omega), if_neg (by omega), if_neg (by omega), if_neg (by omega)] at h
  cases h

theorem stepAt_ascii {a : Nat} (h : a < 0x80) (rest : Bytes) : stepAt a rest = .char 1 := by
  unfold stepAt; rw [if_pos h]

theorem scan_nil : scan [] = ⟨0, 0, none⟩ := by
  rw [scan]

theorem validUtf8_nil : validUtf8 [] = true := by
  rw [validUtf8, scan_nil]; rfl

theorem validUtf8_iff (a : Bytes) : validUtf8 a = true ↔ (scan a).err = none := by
  simp [validUtf8]

theorem scan_cons_char {x n : Nat} {rest : Bytes} (h : stepAt x rest = .char n) :
    scan (x :: rest) = ⟨n + (scan (rest.drop (n - 1))).validUpTo, units n + (scan (rest.drop (n - 1))).u16,
                        (scan (rest.drop (n - 1))).err⟩ := by
  rw [scan]; simp only [h]

theorem scan_cons_invalid {x k : Nat} {rest : Bytes} (h : stepAt x rest = .invalid k) :
    scan (x :: rest) = ⟨0, 0, some (some k)⟩ := by
  rw [scan]; simp only [h]

theorem scan_cons_incomplete {x : Nat} {rest : Bytes} (h : stepAt x rest = .incomplete) :
    scan (x :: rest) = ⟨0, 0, some none⟩ := by
  rw [scan]; simp only [h]

theorem scan_append (a b : Bytes) (h : (scan a).err = none) :
    scan (a ++ b) = ⟨(scan a).validUpTo + (scan b).validUpTo, (scan a).u16 + (scan b).u16, (scan b).err⟩ := by
  fun_induction scan a with
  | case1 => simp
  | case2 x rest n hs r ih =>
    rw [List.cons_append, scan_cons_char (stepAt_char_append b hs),
      List.drop_append_of_le_length (stepAt_char hs).2.1, ih h]
    simp only [r, Nat.add_assoc]
  | case3 x rest k hs => cases h
  | case4 x rest hs => cases h

theorem scan_valid_len (a : Bytes) (h : (scan a).err = none) : (scan a).validUpTo = a.length := by
  fun_induction scan a with
  | case1 => rfl
  | case2 x rest n hs r ih =>
    have hn := stepAt_char hs
    simp only [r, ih h, List.length_drop, List.length_cons]
    omega
  | case3 x rest k hs => cases h
  | case4 x rest hs => cases h

theorem scan_u16_zero (b : Bytes) (h : (scan b).validUpTo = 0) : (scan b).u16 = 0 := by
  fun_induction scan b with
  | case1 => rfl
  | case2 x rest n hs r ih =>
    have hn := (stepAt_char hs).1
    simp only at h
    omega
  | case3 x rest k hs => rfl
  | case4 x rest hs => rfl

theorem valid_append_iff {a : Bytes} (b : Bytes) (ha : validUtf8 a = true) :
    validUtf8 (a ++ b) = true ↔ validUtf8 b = true := by
  rw [validUtf8_iff] at ha
  rw [validUtf8_iff, validUtf8_iff, scan_append a b ha]

/-- A non-empty well-formed `w` starts with a lead byte, which no unfinished sequence of `x` accepts. -/
theorem valid_prefix (x w : Bytes) (hxw : validUtf8 (x ++ w) = true) (hw : validUtf8 w = true) : validUtf8 x = true := by
  rw [validUtf8_iff] at *
  fun_induction scan x with
  | case1 => rfl
  | case2 a rest n hs r ih =>
    rw [List.cons_append, scan_cons_char (stepAt_char_append w hs),
      List.drop_append_of_le_length (stepAt_char hs).2.1] at hxw
    exact ih hxw
  | case3 a rest k hs =>
    rw [List.cons_append, scan_cons_invalid (stepAt_invalid_append w hs)] at hxw
    cases hxw
  | case4 a rest hs =>
    cases w with
    | nil => rw [List.append_nil, scan_cons_incomplete hs] at hxw; cases hxw
    | cons c w =>
      cases hc : stepAt c w with
      | char m =>
        obtain ⟨k, hk⟩ := stepAt_incomplete_cons w (stepAt_lead hc) hs
        rw [List.cons_append, scan_cons_invalid hk] at hxw
        cases hxw
      | invalid k => rw [scan_cons_invalid hc] at hw; cases hw
      | incomplete => rw [scan_cons_incomplete hc] at hw; cases hw

theorem ascii_valid (l : Bytes) (h : ∀ c ∈ l, c < 0x80) : validUtf8 l = true := by
  induction l with
  | nil => exact validUtf8_nil
  | cons a l ih =>
    have := ih (fun c hc => h c (List.mem_cons_of_mem _ hc))
    rw [validUtf8_iff] at this ⊢
    rw [scan_cons_char (stepAt_ascii (h a List.mem_cons_self) l)]
    exact this

theorem valid_of_append_ascii (w : Bytes) : ∀ (x : Bytes), (∀ c ∈ w, c < 0x80) →
    validUtf8 (x ++ w) = true → validUtf8 x = true :=
  fun x hw h => valid_prefix x w h (ascii_valid w hw)

theorem scan_take_valid (w : Bytes) : validUtf8 (w.take (scan w).validUpTo) = true := by
  fun_induction scan w with
  | case1 => exact validUtf8_nil
  | case2 a rest n hs r ih =>
    obtain ⟨h1, h2, _⟩ := stepAt_char hs
    have : (a :: rest).take (n + r.validUpTo) = a :: (rest.take (n - 1) ++ (rest.drop (n - 1)).take r.validUpTo) := by
      obtain ⟨m, rfl⟩ : ∃ m, n = m + 1 := ⟨n - 1, by omega⟩
      rw [Nat.add_right_comm, List.take_succ_cons, List.take_add]
      rfl
    rw [validUtf8_iff] at ih ⊢
    rw [this, scan_cons_char (stepAt_char_prefix _ hs), List.drop_left' (by rw [List.length_take]; omega)]
    exact ih
  | case3 a rest k hs => exact validUtf8_nil
  | case4 a rest hs => exact validUtf8_nil

theorem utf16Len_valid (a : Bytes) (h : (scan a).err = none) : utf16Len a = (scan a).u16 := by
  unfold utf16Len
  rw [lossyUnits]
  by_cases ha : a = []
  · subst ha; simp [scan_nil]
  · simp [ha, h]

/-- The spec unfolded along ONE call of `scan`.  This is the shape of one round of `LossyUtf8::next`. -/
theorem utf16Spec_scan (b : Bytes) :
    utf16Spec b = match (scan b).err with
      | none => (scan b).u16
      | some (some k) => (scan b).u16 + (1 + utf16Spec (b.drop ((scan b).validUpTo + (k + 1))))
      | some none => (scan b).u16 + 1 := by
  fun_induction scan b with
  | case1 => simp [utf16Spec]
  | case2 x rest n hs r ih =>
    obtain ⟨m, rfl⟩ : ∃ m, n = m + 1 := ⟨n - 1, by have := (stepAt_char hs).1; omega⟩
    rw [utf16Spec]
    simp only [hs]
    rw [ih]
    cases he : (scan (List.drop (m + 1 - 1) rest)).err with
    | none => simp [r]
    | some e =>
      cases e with
      | none => simp [r]; omega
      | some k =>
        simp only [r, Nat.add_sub_cancel, List.drop_drop]
        rw [show m + 1 + (scan (rest.drop m)).validUpTo + (k + 1) = m + ((scan (rest.drop m)).validUpTo + (k + 1)) + 1 by omega,
          List.drop_succ_cons]
        omega
  | case3 x rest k hs =>
    rw [utf16Spec]; simp [hs]
  | case4 x rest hs =>
    rw [utf16Spec]; simp [hs]

theorem utf16Spec_valid (a : Bytes) (h : (scan a).err = none) : utf16Spec a = (scan a).u16 := by
  rw [utf16Spec_scan, h]

/-- Each case of the recursion of `lossyUnitsF` is one case of `utf16Spec_scan`; `inRepl` is the replacement still owed
from the round before. -/
theorem lossyF_eq_spec (b : Bytes) (inRepl : Bool) :
    lossyUnitsF b inRepl = (if inRepl then 1 else 0) + utf16Spec b := by
  induction b, inRepl using lossyUnitsF.induct with
  | case1 bytes ih => rw [lossyUnitsF]; simp [ih]
  | case2 inRepl hr => rw [lossyUnitsF]; simp [hr, utf16Spec]
  | case3 bytes inRepl hr hne r he =>
    rw [lossyUnitsF, utf16Spec_scan]; simp only [r] at he; simp [hr, hne, he]
  | case4 bytes inRepl hr hne r k he hv ih =>
    rw [lossyUnitsF, utf16Spec_scan bytes]; simp only [r] at he hv ih
    simp [hr, hne, he, hv, ih]
  | case5 bytes inRepl hr hne r k he hv ih =>
    rw [lossyUnitsF, utf16Spec_scan bytes]; simp only [r] at he hv ih
    have hv0 : (scan bytes).validUpTo = 0 := by omega
    simp [hr, hne, he, hv0, ih, scan_u16_zero bytes hv0]
  | case6 bytes inRepl hr hne r he hv ih =>
    rw [lossyUnitsF, utf16Spec_scan bytes]; simp only [r] at he hv ih
    have : bytes.drop ((scan bytes).validUpTo + (bytes.length - (scan bytes).validUpTo)) = [] := by
      apply List.drop_eq_nil_of_le; omega
    rw [this] at ih
    simp [hr, hne, he, hv, ih, this, utf16Spec]
  | case7 bytes inRepl hr hne r he hv ih =>
    rw [lossyUnitsF, utf16Spec_scan bytes]; simp only [r] at he hv ih
    have hv0 : (scan bytes).validUpTo = 0 := by omega
    rw [hv0] at ih
    simp at ih
    simp [hr, hne, he, hv0, ih, utf16Spec, scan_u16_zero bytes hv0]

/-- The spec length (lossy decoding à la `from_utf8_lossy`) is additive at
every character boundary, whatever follows. -/
theorem utf16_spec_append (a b : Bytes) (ha : validUtf8 a = true) :
    utf16Spec (a ++ b) = utf16Spec a + utf16Spec b := by
  rw [validUtf8_iff] at ha
  have hd : ∀ x, (a ++ b).drop (a.length + x) = b.drop x := fun x => by rw [← List.drop_drop, List.drop_left]
  -- both sides read off `scan`: the scan of `a ++ b` is that of `b` behind the whole of `a`
  rw [utf16Spec_scan (a ++ b), utf16Spec_scan b, utf16Spec_valid a ha, scan_append a b ha, scan_valid_len a ha]
  simp only [Nat.add_assoc, hd]
  split <;> rfl

/-- On well-formed UTF-8 the port of `utf16_len` equals the spec
(Σ `char::len_utf16`), so the judge's `utf16Spec` and the code agree there. -/
theorem utf16_len_eq_spec (a : Bytes) (ha : validUtf8 a = true) : utf16Len a = utf16Spec a := by
  rw [validUtf8_iff] at ha
  rw [utf16Len_valid a ha, utf16Spec_valid a ha]

/-- The classes of `decodeStep` are those of `tests`. -/
theorem decodeStep_stepAt {a : Nat} {rest : Bytes} {cp n : Nat} (h : decodeStep (a :: rest) = some (cp, n)) :
    stepAt a rest = .char n ∧ units n = (if cp ≥ 0x10000 then 2 else 1) := by
  rw [stepAt_eq]
  unfold tests
  simp only [decodeStep] at h
  by_cases h1 : a < 0x80
  · rw [if_pos h1] at h ⊢
    obtain ⟨rfl, rfl⟩ := Prod.mk.inj (Option.some.inj h)
    exact ⟨rfl, by rw [if_neg (by omega)]; rfl⟩
  rw [if_neg h1] at h ⊢
  by_cases h2 : 0xC2 ≤ a ∧ a ≤ 0xDF
  · rw [if_pos h2] at h ⊢
    cases rest with
    | nil => cases h
    | cons b r =>
      obtain ⟨hb, h⟩ := Option.ite_none_right_eq_some.1 h
      obtain ⟨rfl, rfl⟩ := Prod.mk.inj (Option.some.inj h)
      exact ⟨by simp only [walk, Step.ofWalk, (isCont_iff b).2 hb, if_true], by rw [if_neg (by omega)]; rfl⟩
  rw [if_neg h2] at h ⊢
  by_cases h3 : 0xE0 ≤ a ∧ a ≤ 0xEF
  · rw [if_pos h3] at h ⊢
    rcases rest with _ | ⟨b, _ | ⟨c, r⟩⟩
    · cases h
    · cases h
    obtain ⟨hbc, h⟩ := Option.ite_none_right_eq_some.1 h
    obtain ⟨rfl, rfl⟩ := Prod.mk.inj (Option.some.inj h)
    have hb : second3ok a b = true :=
      (second3ok_iff a b).2 (hbc.1.imp_right (Or.imp_right (Or.imp_right fun h => ⟨h.1, h3.2, h.2⟩)))
    exact ⟨by simp only [walk, Step.ofWalk, (isCont_iff c).2 hbc.2, hb, if_true], by rw [if_neg (by omega)]; rfl⟩
  rw [if_neg h3] at h ⊢
  by_cases h4 : 0xF0 ≤ a ∧ a ≤ 0xF4
  · rw [if_pos h4] at h ⊢
    rcases rest with _ | ⟨b, _ | ⟨c, _ | ⟨d, r⟩⟩⟩
    · cases h
    · cases h
    · cases h
    obtain ⟨hbc, h⟩ := Option.ite_none_right_eq_some.1 h
    obtain ⟨rfl, rfl⟩ := Prod.mk.inj (Option.some.inj h)
    exact ⟨by simp only [walk, Step.ofWalk, (isCont_iff c).2 ⟨hbc.2.1, hbc.2.2.1⟩, (isCont_iff d).2 hbc.2.2.2,
      (second4ok_iff a b).2 hbc.1, if_true], by rw [if_pos (by omega)]; rfl⟩
  · rw [if_neg h4] at h; cases h

theorem decode_scan (fuel : Nat) (b : Bytes) (cps : List Nat) (h : decodeUtf8 fuel b = some cps) :
    (scan b).err = none ∧ (scan b).u16 = utf16Units cps := by
  fun_induction decodeUtf8 fuel b generalizing cps with
  | case1 => cases h; exact ⟨by rw [scan_nil], by rw [scan_nil]; rfl⟩
  | case2 => cases h
  | case3 fuel a rest cp n hd ih =>
    cases ht : decodeUtf8 fuel (rest.drop (n - 1)) with
    | none => rw [ht] at h; cases h
    | some tl =>
      rw [ht] at h
      cases h
      obtain ⟨hs, hu⟩ := decodeStep_stepAt hd
      obtain ⟨e1, e2⟩ := ih _ ht
      rw [scan_cons_char hs]
      exact ⟨e1, by simp only [e2, hu, utf16Units, List.map_cons, List.sum_cons]⟩
  | case4 => cases h

theorem unitsOf_eq {b : Bytes} (h : (decodeUtf8 b.length b).isSome = true) :
    utf16Spec b = unitsOf b ∧ validUtf8 b = true := by
  obtain ⟨cps, hd⟩ := Option.isSome_iff_exists.1 h
  obtain ⟨e1, e2⟩ := decode_scan _ b cps hd
  exact ⟨by rw [utf16Spec_valid b e1, e2, unitsOf, hd]; rfl, (validUtf8_iff b).2 e1⟩

/-- `utf16_len` is additive when both parts are well-formed UTF-8
(i.e. the split is a character boundary of a well-formed line).
FALSE for this port (witnesses below): additivity at every character boundary with an
arbitrary right part, which is what `utf16Spec` — the `from_utf8_lossy` reading — satisfies
(`utf16_spec_append`). -/
theorem utf16_len_append_partial (a b : Bytes) (ha : validUtf8 a = true) (hb : validUtf8 b = true) :
    utf16Len (a ++ b) = utf16Len a + utf16Len b := by
  rw [utf16_len_eq_spec _ ((valid_append_iff b ha).2 hb), utf16_len_eq_spec a ha, utf16_len_eq_spec b hb,
    utf16_spec_append a b ha]

/-- Non-vacuity of the hypotheses of `utf16_len_append_partial`: `é` and `😀` are well-formed. -/
example : validUtf8 [0xC3, 0xA9] = true ∧ validUtf8 [0xF0, 0x9F, 0x98, 0x80] = true := by
  decide +kernel

/-- Witnesses for the dropped hypothesis (the LossyUtf8 defect, C17): after the well-formed `"a"`,
a lone `0xFF` is dropped (its replacement character would be the last chunk), and a truncated
`0xE2` makes the whole chunk — the `a` included — disappear. -/
example : utf16Len ([97] ++ [0xFF]) = 1 ∧ utf16Len [97] + utf16Len [0xFF] = 2 := by
  constructor <;> simp [utf16Len, lossyUnits, scan, stepAt, width, units]

example : utf16Len ([97] ++ [0xE2]) = 0 ∧ utf16Len [97] = 1 := by
  constructor <;> simp [utf16Len, lossyUnits, scan, stepAt, width, units]

/-- For EVERY byte string the port of `utf16_len` over the repaired
`LossyUtf8` equals the spec (`from_utf8_lossy` reading): one U+FFFD per maximal ill-formed subpart,
including a final one and a truncated final sequence. -/
theorem utf16_len_fixed_eq_spec (b : Bytes) : utf16LenF b = utf16Spec b := by
  unfold utf16LenF; rw [lossyF_eq_spec]; simp

/-- Full strength, for the repaired code: additive at every character
boundary, whatever follows.  (`utf16_len_append_partial`, with its counterexamples, is the statement for the pinned
code.) -/
theorem utf16_len_append (a b : Bytes) (ha : validUtf8 a = true) :
    utf16LenF (a ++ b) = utf16LenF a + utf16LenF b := by
  simp only [utf16_len_fixed_eq_spec]; exact utf16_spec_append a b ha

/-- For a VALID UTF-8 byte string (the spec decoder `decodeUtf8`, Unicode
Table 3-7, yields scalar values `cps`) the port of `utf16_len` — over the pinned and over the repaired
`LossyUtf8` — equals the number of UTF-16 code units of the decoding: 1 per BMP scalar, 2 per
supplementary scalar. -/
theorem utf16_len_valid_prefix (b : Bytes) (cps : List Nat) (h : decodeUtf8 b.length b = some cps) :
    utf16Len b = utf16Units cps ∧ utf16LenF b = utf16Units cps := by
  obtain ⟨e1, e2⟩ := decode_scan _ b cps h
  rw [utf16_len_fixed_eq_spec, utf16Len_valid b e1, utf16Spec_valid b e1, e2]
  exact ⟨rfl, rfl⟩

/-- Non-vacuity with 1-, 2-, 3- and 4-byte characters: `aé€😀` decodes to U+61, U+E9, U+20AC, U+1F600 = 5 units. -/
example : decodeUtf8 10 [0x61, 0xC3, 0xA9, 0xE2, 0x82, 0xAC, 0xF0, 0x9F, 0x98, 0x80] = some [0x61, 0xE9, 0x20AC, 0x1F600] ∧
          utf16Units [0x61, 0xE9, 0x20AC, 0x1F600] = 5 := by decide

/-- … and ill-formed input does not decode (overlong `C0 AF`, surrogate `ED A0 80`, truncated `E2 82`). -/
example : decodeUtf8 2 [0xC0, 0xAF] = none ∧ decodeUtf8 3 [0xED, 0xA0, 0x80] = none ∧ decodeUtf8 2 [0xE2, 0x82] = none := by decide

end TsVerif.C18
