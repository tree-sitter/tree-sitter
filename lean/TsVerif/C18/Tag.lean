import TsVerif.C18.Model
/-! What one match contributes: the capture loop and `tagOf`. -/
namespace TsVerif.C18

def Keeps (c : Cap) (a b : Acc) : Prop :=
  (b.name = a.name ∨ b.name = some c) ∧ (b.tag = a.tag ∨ b.tag = some c)

theorem Keeps.trans {c : Cap} {a b d : Acc} (h1 : Keeps c a b) (h2 : Keeps c b d) : Keeps c a d :=
  ⟨h2.1.elim (fun h => h ▸ h1.1) Or.inr, h2.2.elim (fun h => h ▸ h1.2) Or.inr⟩

theorem Keeps.mem {caps : List Cap} {c : Cap} {a b : Acc} (k : Keeps c a b) (hc : c ∈ caps)
    (h : (∀ n, a.name = some n → n ∈ caps) ∧ (∀ t, a.tag = some t → t ∈ caps)) :
    (∀ n, b.name = some n → n ∈ caps) ∧ (∀ t, b.tag = some t → t ∈ caps) := by
  constructor
  · intro n hn
    rcases k.1 with e | e
    · exact h.1 n (e ▸ hn)
    · rw [e] at hn; cases hn; exact hc
  · intro t ht
    rcases k.2 with e | e
    · exact h.2 t (e ▸ ht)
    · rw [e] at ht; cases ht; exact hc

/-- Each of the four stages of one round keeps the name and the tag capture or puts the current capture in their place. -/
theorem capLoop_mem (cfg : Cfg) (pi : PatInfo) (caps : List Cap) :
    (∀ c, (capLoop cfg pi caps).name = some c → c ∈ caps) ∧ (∀ c, (capLoop cfg pi caps).tag = some c → c ∈ caps) := by
  unfold capLoop
  refine List.foldlRecOn (motive := fun a : Acc => (∀ c, a.name = some c → c ∈ caps) ∧ (∀ c, a.tag = some c → c ∈ caps))
    caps _ ⟨nofun, nofun⟩ fun a h x hx => ?_
  · extract_lets a1 a2 a3
    have k1 : Keeps x a a1 := by
      unfold a1; split
      · exact ⟨Or.inr rfl, Or.inl rfl⟩
      · exact ⟨Or.inl rfl, Or.inl rfl⟩
    have k2 : Keeps x a1 a2 := by
      unfold a2; split <;> exact ⟨Or.inl rfl, Or.inl rfl⟩
    have k3 : Keeps x a2 a3 := by
      unfold a3; split
      · exact ⟨Or.inr rfl, Or.inl rfl⟩
      · split <;> exact ⟨Or.inl rfl, Or.inl rfl⟩
    refine ((k1.trans k2).trans (k3.trans ?_)).mem hx h
    split
    · exact ⟨Or.inl rfl, Or.inr rfl⟩
    · exact ⟨Or.inl rfl, Or.inl rfl⟩

theorem tagOf_eq {v : Variant} {cfg : Cfg} {src : Bytes} {pi : PatInfo} {m : Mat} {st : St} {t : Tag}
    {pv : Option LineInfo} (h : tagOf v cfg src pi m st = some (t, pv)) :
    ∃ nameC, (capLoop cfg pi m.caps).name = some nameC ∧ t.name = ⟨nameC.sb, nameC.eb⟩ ∧
      (t.isIgnored = true ∨ ∃ tagC, (capLoop cfg pi m.caps).tag = some tagC ∧
        t.range = ⟨min tagC.sb nameC.sb, max tagC.eb nameC.eb⟩ ∧ t.spanS = nameC.sp ∧ t.spanE = nameC.ep) := by
  unfold tagOf at h
  generalize capLoop cfg pi m.caps = a at h ⊢
  obtain ⟨name, docs, tag, stid, isDef, adj, ignored⟩ := a
  cases name with
  | none => cases h
  | some nameNode =>
    refine ⟨nameNode, rfl, ?_⟩
    cases tag with
    | some tagNode =>
      simp only at h
      split at h
      · cases h
      · split at h
        · cases h
        · simp only [Option.some.injEq, Prod.mk.injEq] at h
          rw [← h.1]
          exact ⟨rfl, Or.inr ⟨tagNode, rfl, rfl, rfl, rfl⟩⟩
    | none =>
      simp only at h
      split at h
      · simp only [Option.some.injEq, Prod.mk.injEq] at h
        rw [← h.1]
        exact ⟨rfl, Or.inl (by simp [Tag.ignored, Tag.isIgnored])⟩
      · cases h

theorem inserted_name {v : Variant} {cfg : Cfg} {src : Bytes} {m : Mat} {st : St} {e : Tag × Nat}
    (h : inserted v cfg src m st = some e) :
    nameOf cfg m = some e.1.name ∧ ∃ pv, tagOf v cfg src (cfg.pats[m.pat]?.getD {}) m st = some (e.1, pv) := by
  unfold inserted at h
  unfold nameOf
  by_cases hp : m.pat < cfg.tagsFrom
  · rw [if_pos hp] at h; cases h
  · rw [if_neg hp] at h ⊢
    cases ht : tagOf v cfg src (cfg.pats[m.pat]?.getD {}) m st with
    | none => rw [ht] at h; cases h
    | some x =>
      rw [ht] at h
      cases h
      obtain ⟨nameC, hn, h1, _⟩ := tagOf_eq ht
      exact ⟨by rw [hn, h1]; rfl, x.2, rfl⟩

theorem processMatch_queue (v : Variant) (cfg : Cfg) (src : Bytes) (m : Mat) (st : St) :
    (processMatch v cfg src m st).queue =
      match inserted v cfg src m st with
      | none => st.queue
      | some e => qInsert e.1 e.2 st.queue := by
  unfold processMatch inserted
  by_cases hp : m.pat < cfg.tagsFrom
  · simp only [if_pos hp]
  · simp only [if_neg hp]
    unfold processTag
    cases tagOf v cfg src (cfg.pats[m.pat]?.getD {}) m st with
    | none => rfl
    | some x => rfl

end TsVerif.C18
