import TsVerif.C18.Pos
import TsVerif.C18.Cache
import TsVerif.C18.LineRange
import TsVerif.C18.Queue
import TsVerif.C18.History
import TsVerif.C18.Scopes
import TsVerif.C18.Docs
/-!
# C18 — Tags describe the source consistently (ranges, lines, columns, docs)

Property text: "Every emitted tag has its name range inside its tag range inside the text, a line
range that is the trimmed line containing the name (cut at the length limit on a character
boundary), a row/column span equal to the name's position, and a UTF-16 column range equal to the
UTF-16 length of the line prefix and of the name. Docs are the text of the captured doc nodes after
the configured stripping, and names that resolve to a local definition in an enclosing scope are
omitted where the query asks for it."

The spec functions of the theorems (`lineSpec`, `utf16Spec`, `posOf`) are what `judgeTag` evaluates on
the real tags.

Clause map (property text of /verif/properties.jsonl, phrase by phrase).  Status: **proved** = ∀-theorem about the
port, no hypothesis beyond well-formed inputs; **partial** = proved under the stated hypothesis (witness for dropping
it in this file); **judged only** = no theorem, decided on every real tag by the Lean judge.  EVERY theorem speaks
about the hand ports of `Model.lean`; the ports are tied to tags.rs / c_lib.rs / LossyUtf8 by correspondence on the
explored inputs (sampled), never by proof.

1. "Every emitted tag has its name range inside its tag range inside the text" —
   `tag_ranges_and_span` (**partial**: assumes every capture of every match is a node range of the text,
   `sb ≤ eb ≤ |src|` — a property of the parse tree, C02): every tag the loop emits is an ignore placeholder or has
   `range.s ≤ name.s ≤ name.e ≤ range.e ≤ |src|`.  The tag range is the HULL of tag node and name node, so no
   "ancestor-or-equal" assumption is needed; the name may lie inside, on, in FRONT of or BEHIND the tagged node
   (example after `tag_ranges_and_span`; all four placements are exercised on real tags, obligation `inputs:every-name-placement`).  Placeholders: `drain_skips_ignored` (**proved** about the function
   `drain true` alone: it returns no placeholder; there is no theorem about `runTags`).  Judge clause `range` / `ignored-emitted` on every real tag.
2. "a line range that is the trimmed line containing the name (cut at the length limit on a character boundary)" —
   `line_range_spec` (**partial**: the row has a non-blank byte; implied by a non-blank name start; witness: all-blank
   row), `line_spec_bounds` (**proved**), `line_range_char_boundary` (**partial**: the row is well-formed UTF-8 — for an
   ill-formed row "character boundary" is the end of the longest well-formed prefix, by definition of `lineSpec`),
   `line_range_contains_name_start` (**partial**: name start non-blank and inside the untrimmed cut);
   that a tag carries the line range of ITS OWN row: `cache_correct`, second component (**partial**: single-row
   names; witness = finding C18-cache-after-multirow-name, repaired).  GAP: the row start is taken as
   `name.start − column`, i.e. the name node's column is trusted (see 3).  Judge clause `line`.
3. "a row/column span equal to the name's position" — `tag_ranges_and_span` (**partial**: assumes the points of
   each capture are the row/column of its bytes, `sp = posOf src sb`, `ep = posOf src eb` — tree/text consistency,
   C02/C10): `span = posOf name.start .. posOf name.end`.  The port copies the name node's points, so without that
   assumption the clause is **judged only** (`span`, recomputed from the text).
4. "a UTF-16 column range equal to the UTF-16 length of the line prefix and of the name" — `cache_correct`,
   `cache_reset_ok`, `cache_correct_utf16_fixed`, `utf16_column_prefix` (**partial**: names start and end at character
   boundaries of a well-formed row prefix — intrinsic, a cut inside an ill-formed part is not additive even for the
   spec — and single-row names); length function: `utf16_len_fixed_eq_spec`, `utf16_len_append` (**proved**, repaired
   `LossyUtf8`), `utf16_len_valid_prefix` (**proved**), `utf16_len_append_partial` (pinned code, **partial** with
   counterexamples).  GAP: `cacheFold` models the sequence of `prev_line_info` updates for single-row names; that the
   loop feeds the cache exactly with the non-omitted tags, and the repaired branch `prev := none` after a multi-row
   name, are covered by correspondence and judge only.  Judge clause `utf16`.
5. "Docs are the text of the captured doc nodes after the configured stripping" — `docs_spec`, `docs_select_spec`,
   `docs_chain_maximal` (**proved**, for every strip FUNCTION).  GAP: the regex → function step (Rust `regex`) is a
   parameter; the two regex shapes of the check's queries are tied by correspondence only.  Which match's docs a
   name node gets: `queue_lowest_pattern_wins`, `queue_lowest_within_residence` (**proved**),
   `queue_release_strict`, `queue_touching_head_replaced` (**proved**: the head of the queue is not released while
   the LAST entry of the queue starts at or before its end, and an insertion right after such a release step with a
   lower index replaces it),
   `queue_lowest_pattern_run_partial` (**partial**: arrival order).  Judge clause `docs`.
6. "names that resolve to a local definition in an enclosing scope are omitted where the query asks for it" —
   `local_filter_spec`, `local_filter_iff` (**proved**), `record_def_spec`, `record_scopes_shape` (**proved**).
   Reading fixed by the code: "enclosing" = range containment, innermost = most recently pushed, walking outwards
   stops after the first scope that does not inherit; "where the query asks" = `(#is-not? local)` on the pattern
   (re-derived by the harness, correspondence only).  Judge clause `local`.
Not in the property's sentence but anchored: queue order/dedup — `queue_insert_sorted`, `queue_batches_sorted`,
`queue_emitted_are_arrivals`, `queue_sorted_of_no_late`, `no_late_of_arrival_order`, `queue_sorted_dedup_partial`
(global order is FALSE without a hypothesis: known finding C18-late-match-duplicate); kinds / `is_definition`:
**judged only** (`kind`) + correspondence of the ported `mkCfg`.

This file holds the theorems about the whole loop (`runTags`); a theorem about ONE definition of the model stands, with
its examples, in the module of that definition (`Utf8`, `LineRange`, `Cache`, `Queue`, `Scopes`, `Docs`).

Boundary conventions the English leaves open (read off the code, see `lineSpec`): whitespace = ASCII
space/TAB/LF/FF/CR; limit 180 bytes; a row not newline-terminated within the limit is cut at its first
ill-formed byte even if shorter than the limit; ill-formed UTF-8 counts one U+FFFD per maximal
ill-formed subpart (`utf16Spec`); doc adjacency = END row of the earlier node + 1 ≥ START row of the later one.
-/
namespace TsVerif.C18

/-- No arrival hypothesis.  The batches are one per `flushReady` call plus the final drain. -/
theorem queue_batches_sorted (v : Variant) (cfg : Cfg) (src : Bytes) (ms : List Mat) :
    runTags v cfg src ms = (runB v cfg src ms (initSt src)).flatten ∧
    ∀ b ∈ runB v cfg src ms (initSt src), b.Pairwise TagLt :=
  ⟨run_eq_flatten v cfg src ms (initSt src),
   runB_sorted v cfg src ms (initSt src) List.Pairwise.nil⟩

/-- No arrival hypothesis: the queue never invents or alters a tag (nor its pattern index). -/
theorem queue_emitted_are_arrivals (v : Variant) (cfg : Cfg) (src : Bytes) (ms : List Mat) :
    runTags v cfg src ms = (runP v cfg src ms (initSt src)).map Prod.fst ∧
    ∀ e ∈ runP v cfg src ms (initSt src), e ∈ arrivals v cfg src ms (initSt src) := by
  refine ⟨run_eq_P v cfg src ms (initSt src), fun e he => ?_⟩
  rcases runP_mem v cfg src ms (initSt src) e he with hq | ha
  · cases hq
  · exact ha

/-- The exact condition the pop rule needs: if no match arrives late
(`noLate`: every inserted entry's key exceeds the key of every entry popped before it — a
decidable property of the run, measured on every real run as `late=`), the whole emission is
strictly increasing (sorted, one tag per name range).  Together with `queue_batches_sorted`: the
only way order or dedup can fail is a late arrival, which then starts a new increasing run. -/
theorem queue_sorted_of_no_late (v : Variant) (cfg : Cfg) (src : Bytes) (ms : List Mat)
    (h : noLate v cfg src none ms (initSt src) = true) : (runTags v cfg src ms).Pairwise TagLt := by
  rw [runTags, run_eq_P]
  exact qsorted_map _ (runP_noLate v cfg src ms (initSt src) none List.Pairwise.nil (fun _ h => nomatch h) h).1

/-- The name-based hypothesis of the `_partial` theorems implies
`noLate`; so `queue_sorted_dedup_partial`'s order claim is a corollary of `queue_sorted_of_no_late`. -/
theorem no_late_of_arrival_order (v : Variant) (cfg : Cfg) (src : Bytes) (ms : List Mat)
    (h : (names cfg ms).Pairwise (fun a b => a.s ≤ b.e)) : noLate v cfg src none ms (initSt src) = true :=
  noLate_of_arrival v cfg src ms (initSt src) none List.Pairwise.nil (fun _ h => nomatch h) h
    (by intro b hb; cases hb)

example (v : Variant) (cfg : Cfg) (src : Bytes) (ms : List Mat)
    (h : (names cfg ms).Pairwise (fun a b => a.s ≤ b.e)) : (runTags v cfg src ms).Pairwise TagLt :=
  queue_sorted_of_no_late v cfg src ms (no_late_of_arrival_order v cfg src ms h)

/-- Witness that the unconditional GLOBAL statement is false (the real stream of finding
C18-late-match-duplicate: `x = f(1) + g(2) + 3;`, patterns 0 = definition finishing at the far `3`,
1 = call, 2 = identifier): `x` [0,1) leaves with pattern 2, is flushed when `g` arrives, and the
pattern-0 match for the same node arrives late — emitted again, after `f`, with the lower index. -/
example : (runP {} wcfg3 [] [wmp 2 0 1, wmp 1 4 5, wmp 2 4 5, wmp 1 11 12, wmp 2 11 12, wmp 0 0 1] (initSt [])).map
      (fun e => (e.1.name, e.2)) = [(⟨0, 1⟩, 2), (⟨4, 5⟩, 1), (⟨0, 1⟩, 0), (⟨11, 12⟩, 1)] ∧
    noLate {} wcfg3 [] none [wmp 2 0 1, wmp 1 4 5, wmp 2 4 5, wmp 1 11 12, wmp 2 11 12, wmp 0 0 1] (initSt []) = false := by
  decide

/-- Queue order and dedup, under the arrival discipline the pop condition relies on: a later match's name never ends before
an earlier match's name starts (`names cfg ms` pairwise `a.s ≤ b.e`).  FALSE without it (witness below). -/
theorem queue_sorted_dedup_partial (v : Variant) (cfg : Cfg) (src : Bytes) (ms : List Mat)
    (h : (names cfg ms).Pairwise (fun a b => a.s ≤ b.e)) :
    (runTags v cfg src ms).Pairwise TagLt ∧ ∀ x ∈ runTags v cfg src ms, x.name ∈ names cfg ms := by
  have := run_sorted v cfg src ms (initSt src) List.Pairwise.nil (fun _ h => nomatch h) h
  refine ⟨this.1, fun x hx => ?_⟩
  rcases this.2 x hx with ⟨y, hy, _⟩ | ⟨r, hr, hxr⟩
  · cases hy
  · rw [hxr]; exact hr

/-- Non-vacuity and witness.  Configuration: capture 0 = `@name`, capture 1 = a reference kind.
Names arriving as `[4,7) [20,23) [30,31)` satisfy the hypothesis; arriving as `[4,7) [20,23) [0,1)`
they do not, and the code emits `[4,7)` (flushed when `[20,23)` arrived) BEFORE `[0,1)`. -/
example : (names wcfg [wm 4 7, wm 20 23, wm 30 31]).Pairwise (fun a b => a.s ≤ b.e) := by
  decide

example : (runTags {} wcfg [] [wm 4 7, wm 20 23, wm 0 1]).map (·.name) = [⟨4, 7⟩, ⟨0, 1⟩, ⟨20, 23⟩] := by
  decide

/-- The per-insertion fact lifted to the whole loop: under the
same arrival hypothesis as `queue_sorted_dedup_partial`, `runTags` is `runP` (the loop keeping the
pattern indices) with the indices forgotten, every emitted entry is one of the entries inserted
(`arrivals`), and its pattern index is minimal among ALL entries inserted for the same name range
during the run.  Without the hypothesis it is false for the real code: see the finding
C18-late-match-duplicate (a lower-index match arriving after its name range was flushed is
emitted as a second tag). -/
theorem queue_lowest_pattern_run_partial (v : Variant) (cfg : Cfg) (src : Bytes) (ms : List Mat)
    (h : (names cfg ms).Pairwise (fun a b => a.s ≤ b.e)) :
    runTags v cfg src ms = (runP v cfg src ms (initSt src)).map Prod.fst ∧
    ∀ e ∈ runP v cfg src ms (initSt src),
      e ∈ arrivals v cfg src ms (initSt src) ∧
      ∀ a ∈ arrivals v cfg src ms (initSt src), key a.1 = key e.1 → e.2 ≤ a.2 := by
  obtain ⟨h1, h2⟩ := queue_emitted_are_arrivals v cfg src ms
  exact ⟨h1, fun e he => ⟨h2 e he, (runP_lowest v cfg src ms (initSt src) List.Pairwise.nil (fun _ h => nomatch h) h e he).2.1⟩⟩

/-- No arrival hypothesis.  On the loop whose queue entries carry the arrivals merged into them since they entered
(`runH`): forgetting the histories gives exactly `runP` (hence `runTags`); every emitted entry is one of the arrivals of its own residence, all of them have its name
range, and its pattern index is minimal among them; and every recorded arrival is an entry some match
inserted.  (A later residence of the same name range — finding C18-late-match-duplicate — has its own
history; across residences nothing is promised, and nothing holds.) -/
theorem queue_lowest_within_residence (v : Variant) (cfg : Cfg) (src : Bytes) (ms : List Mat) :
    projH (runH v cfg src ms (initSt src) []) = runP v cfg src ms (initSt src) ∧
    (∀ x ∈ runH v cfg src ms (initSt src) [],
       x.1 ∈ x.2 ∧ (∀ a ∈ x.2, key a.1 = key x.1.1 ∧ x.1.2 ≤ a.2) ∧
       ∀ a ∈ x.2, a ∈ arrivals v cfg src ms (initSt src)) := by
  have h0 : (initSt src).queue = projH [] := rfl
  refine ⟨runH_proj v cfg src ms (initSt src) [] h0, fun x hx => ?_⟩
  have h := runH_forall (HistOK (· ∈ arrivals v cfg src ms (initSt src))) v cfg src ms _ [] h0
    (fun a ha q hq => qInsertH_hist _ a.1 a.2 q ha hq) nofun x hx
  exact ⟨h.1, fun a ha => ⟨(h.2 a ha).1, (h.2 a ha).2.1⟩, fun a ha => (h.2 a ha).2.2⟩

/-- Non-vacuity on the late-match stream: `x` [0,1) has two residences with histories
`[(x,2)]` and `[(x,0)]`; `f` [4,5) merges patterns 1 and 2 and leaves with 1. -/
example : (runH {} wcfg3 [] [wmp 2 0 1, wmp 1 4 5, wmp 2 4 5, wmp 1 11 12, wmp 2 11 12, wmp 0 0 1] (initSt []) []).map
      (fun x => (x.1.1.name, x.1.2, x.2.map (·.2))) =
    [(⟨0, 1⟩, 2, [2]), (⟨4, 5⟩, 1, [1, 2]), (⟨0, 1⟩, 0, [0]), (⟨11, 12⟩, 1, [1, 2])] := by
  decide

/-- ASSUMING every capture of every match is a node of the text (`sb ≤ eb ≤ |src|`) whose
points are the row/column of its bytes (`posOf`) — properties of the parse tree the tags code takes for granted —
every tag emitted by the whole loop is an ignore placeholder or satisfies
`range.s ≤ name.s ≤ name.e ≤ range.e ≤ |src|` and `span = posOf name.s .. posOf name.e`.  Both assumptions are the ONE
hypothesis `hcaps`: as stated, the range half is not to be had from `sb ≤ eb ≤ |src|` alone. -/
theorem tag_ranges_and_span (v : Variant) (cfg : Cfg) (src : Bytes) (ms : List Mat)
    (hcaps : ∀ m ∈ ms, ∀ c ∈ m.caps, c.sb ≤ c.eb ∧ c.eb ≤ src.length ∧ c.sp = posOf src c.sb ∧ c.ep = posOf src c.eb) :
    ∀ t ∈ runTags v cfg src ms, t.isIgnored = true ∨
      (t.range.s ≤ t.name.s ∧ t.name.s ≤ t.name.e ∧ t.name.e ≤ t.range.e ∧ t.range.e ≤ src.length ∧
       t.spanS = posOf src t.name.s ∧ t.spanE = posOf src t.name.e) := by
  intro t ht
  obtain ⟨hmap, harr⟩ := queue_emitted_are_arrivals v cfg src ms
  rw [hmap, List.mem_map] at ht
  obtain ⟨e, he, rfl⟩ := ht
  obtain ⟨m, hm, st', hi⟩ := mem_arrivals (harr e he)
  obtain ⟨_, pv, htag⟩ := inserted_name hi
  obtain ⟨nameC, hn, h1, hi | ⟨tagC, htc, h2, h3, h4⟩⟩ := tagOf_eq htag
  · exact Or.inl hi
  · right
    obtain ⟨n1, n2, n3, n4⟩ := hcaps m hm nameC ((capLoop_mem _ _ _).1 _ hn)
    obtain ⟨t1, t2, _, _⟩ := hcaps m hm tagC ((capLoop_mem _ _ _).2 _ htc)
    rw [h1, h2, h3, h4]
    simp only
    refine ⟨by omega, n1, by omega, by omega, n3, n4⟩

/-- Non-vacuity: the test matches `wm` are such captures for a one-row text of 40 bytes without newline. -/
example : ∀ c ∈ (wm 4 7).caps, c.sb ≤ c.eb ∧ c.eb ≤ (List.replicate 40 97).length ∧
    c.sp = posOf (List.replicate 40 97) c.sb ∧ c.ep = posOf (List.replicate 40 97) c.eb := by decide

/-- The hull in both directions: tagged node [4,7) with the name BEHIND it at [10,12) gives range [4,12); tagged
node [10,12) with the name in FRONT at [4,7) gives the same hull (seeded C18-r6 dropped the `max` on the end). -/
example :
    (runTags {} wcfg [] [{ pat := 0, caps := [⟨1, 4, 7, ⟨0, 4⟩, ⟨0, 7⟩, false⟩, ⟨0, 10, 12, ⟨0, 10⟩, ⟨0, 12⟩, false⟩] }]).map
      (fun t => (t.name, t.range)) = [(⟨10, 12⟩, ⟨4, 12⟩)] ∧
    (runTags {} wcfg [] [{ pat := 0, caps := [⟨0, 4, 7, ⟨0, 4⟩, ⟨0, 7⟩, false⟩, ⟨1, 10, 12, ⟨0, 10⟩, ⟨0, 12⟩, false⟩] }]).map
      (fun t => (t.name, t.range)) = [(⟨4, 7⟩, ⟨4, 12⟩)] := by
  decide

end TsVerif.C18
