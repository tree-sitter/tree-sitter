import TsVerif.C18.Utf8
/-! The `prev_line_info` cache: what `cacheStep` computes when it misses and when it hits, what is kept between two tags of
a row (`Good`), and that folding `cacheStep` keeps it. -/
namespace TsVerif.C18

theorem slice_append (src : Bytes) (a b c : Nat) (h1 : a ≤ b) (h2 : b ≤ c) :
    slice src a c = slice src a b ++ slice src b c := by
  unfold slice
  have : c - a = (b - a) + (c - b) := by omega
  rw [this, List.take_add, List.drop_drop]
  congr 3
  omega

theorem lineRange_sub (text : Bytes) (sb col limit : Nat) :
    lineRange text sb col limit = lineRange text (sb - col) 0 limit := by
  unfold lineRange; simp

section
variable (f : Bytes → Nat) (src : Bytes) (limit : Nat) (prev : Option LineInfo) (name : R) (sp ep : Pt)

theorem cacheStep_miss (h : ∀ info, prev = some info → info.pos.row ≠ sp.row) :
    (cacheStep f src limit prev name sp ep).line = lineRange src name.s sp.col limit ∧
    (cacheStep f src limit prev name sp ep).u16.s = f (slice src (name.s - sp.col) name.s) := by
  cases prev with
  | none => simp [cacheStep, Option.filter]
  | some info =>
    have : (info.pos.row == sp.row) = false := by simpa using h info rfl
    simp [cacheStep, Option.filter, this]

theorem cacheStep_hit {info : LineInfo} (h : prev = some info) (hr : info.pos.row = sp.row) :
    (cacheStep f src limit prev name sp ep).line = info.line ∧
    (cacheStep f src limit prev name sp ep).u16.s =
      if info.pos.col ≤ sp.col then info.u16 + f (slice src info.byte name.s) else f (slice src (name.s - sp.col) name.s) := by
  subst h
  by_cases hc : info.pos.col ≤ sp.col <;> simp [cacheStep, Option.filter, hr, hc]

end

/-- Whatever is cached, when the row differs or the column decreased the
start column is recomputed from the line start `name.s - column`. -/
theorem cache_reset_ok (f : Bytes → Nat) (src : Bytes) (limit : Nat) (prev : Option LineInfo)
    (name : R) (sp ep : Pt)
    (h : ∀ info, prev = some info → info.pos.row ≠ sp.row ∨ sp.col < info.pos.col) :
    (cacheStep f src limit prev name sp ep).u16.s = f (slice src (name.s - sp.col) name.s) := by
  by_cases hm : ∀ info, prev = some info → info.pos.row ≠ sp.row
  · exact (cacheStep_miss f src limit prev name sp ep hm).2
  · obtain ⟨info, hi, hr⟩ : ∃ info, prev = some info ∧ info.pos.row = sp.row := by
      simpa using hm
    rw [(cacheStep_hit f src limit prev name sp ep hi hr).2, if_neg]
    have := (h info hi).resolve_left (fun h => h hr)
    omega

def CutOK (f : Bytes → Nat) (src : Bytes) (ls b c : Nat) : Prop :=
  f (slice src ls c) = f (slice src ls b) + f (slice src b c)

/-- What is asked of a name occurrence: it lies behind its row start `ls`, starts at a boundary, and `f` is additive at its
start and from its end to every later boundary.  `Bd ls c`: offset `c` is a boundary (of the row starting at `ls`) at which `f`
may be cut. -/
def OccOK (f : Bytes → Nat) (src : Bytes) (Bd : Nat → Nat → Prop) (o : Occ) : Prop :=
  o.ls ≤ o.name.s ∧ o.name.s ≤ o.name.e ∧ Bd o.ls o.name.s ∧ CutOK f src o.ls o.name.s o.name.e ∧
  ∀ c, o.name.e ≤ c → Bd o.ls c → CutOK f src o.ls o.name.e c

/-- What the proof keeps true of the cached entry; `rowLs` maps a row to the byte offset of its start.  `Bd` is a parameter so that one proof serves "boundary = well-formed
prefix" (`cache_u16_of`) and any other notion of a place where `f` may be cut. -/
def Good (f : Bytes → Nat) (src : Bytes) (Bd : Nat → Nat → Prop) (limit : Nat) (rowLs : Nat → Nat) (prev : Option LineInfo) : Prop :=
  ∀ info, prev = some info →
    info.pos.col = info.byte - rowLs info.pos.row ∧ rowLs info.pos.row ≤ info.byte ∧
    info.u16 = f (slice src (rowLs info.pos.row) info.byte) ∧
    (∀ c, info.byte ≤ c → Bd (rowLs info.pos.row) c → CutOK f src (rowLs info.pos.row) info.byte c) ∧
    info.line = lineRange src (rowLs info.pos.row) 0 limit

theorem cacheStep_ok (f : Bytes → Nat) (src : Bytes) (Bd : Nat → Nat → Prop) (limit : Nat) (rowLs : Nat → Nat)
    (prev : Option LineInfo) (o : Occ) (hg : Good f src Bd limit rowLs prev)
    (hls : o.ls = rowLs o.row) (ho : OccOK f src Bd o) :
    let co := cacheStep f src limit prev o.name o.sp o.ep
    co.u16 = ⟨f (slice src o.ls o.name.s), f (slice src o.ls o.name.e)⟩ ∧
    co.line = lineRange src o.ls 0 limit ∧ Good f src Bd limit rowLs (some co.info) := by
  obtain ⟨h1, h2, hbd, h3, h4⟩ := ho
  have hsub : o.name.s - o.sp.col = o.ls := by show o.name.s - (o.name.s - o.ls) = o.ls; omega
  -- it is enough to know the line and the start column: the end column and the new entry are built from them
  suffices h : (cacheStep f src limit prev o.name o.sp o.ep).line = lineRange src o.ls 0 limit ∧
      (cacheStep f src limit prev o.name o.sp o.ep).u16.s = f (slice src o.ls o.name.s) by
    intro co
    have hu : co.u16 = ⟨f (slice src o.ls o.name.s), f (slice src o.ls o.name.e)⟩ := by
      show (⟨co.u16.s, co.u16.s + f (slice src o.name.s o.name.e)⟩ : R) = _
      rw [h.2, ← h3]
    refine ⟨hu, h.1, fun info hi => ?_⟩
    have : info = { pos := o.ep, byte := o.name.e, u16 := co.u16.e, line := co.line } := (Option.some.inj hi).symm
    rw [this, hu, h.1]
    simp only [Occ.ep, ← hls]
    exact ⟨trivial, by omega, trivial, h4, trivial⟩
  by_cases hm : ∀ info, prev = some info → info.pos.row ≠ o.sp.row
  · rw [(cacheStep_miss f src limit prev o.name o.sp o.ep hm).1, (cacheStep_miss f src limit prev o.name o.sp o.ep hm).2,
      lineRange_sub, hsub]
    exact ⟨rfl, rfl⟩
  · obtain ⟨info, hi, hr⟩ : ∃ info, prev = some info ∧ info.pos.row = o.sp.row := by simpa using hm
    obtain ⟨g1, g2, g3, g4, g5⟩ := hg info hi
    have hrl : rowLs info.pos.row = o.ls := by rw [hr, hls]; rfl
    rw [hrl] at g1 g2 g3 g4 g5
    rw [(cacheStep_hit f src limit prev o.name o.sp o.ep hi hr).1, (cacheStep_hit f src limit prev o.name o.sp o.ep hi hr).2,
      hsub, g5]
    refine ⟨rfl, ?_⟩
    split
    next hc =>
      -- the name starts at or behind the cached byte, a boundary: `f` is additive there
      have hb : info.byte ≤ o.name.s := by have : info.pos.col ≤ o.name.s - o.ls := hc; omega
      rw [g3]; exact (g4 o.name.s hb hbd).symm
    next => rfl

/-- Fold the port of the `prev_line_info` block over ANY sequence of
single-row names (rows and columns in any order), where a
row determines its line start (`o.ls = rowLs o.row`) and the length function `f` is additive at the
ends of each name (`OccOK`).  Then every tag gets `utf16_column_range = f(line prefix) ..
f(line prefix ++ name)` and the `line_range` of its own row. -/
theorem cache_correct (f : Bytes → Nat) (src : Bytes) (Bd : Nat → Nat → Prop) (limit : Nat)
    (rowLs : Nat → Nat) (os : List Occ)
    (hos : ∀ o ∈ os, o.ls = rowLs o.row ∧ OccOK f src Bd o) :
    (cacheFold f src limit none os).map (fun co => (co.u16, co.line)) =
      os.map (fun o => ((⟨f (slice src o.ls o.name.s), f (slice src o.ls o.name.e)⟩ : R),
                        lineRange src o.ls 0 limit)) := by
  have hg : Good f src Bd limit rowLs none := fun _ h => nomatch h
  generalize (none : Option LineInfo) = prev at hg ⊢
  induction os generalizing prev with
  | nil => rfl
  | cons o os ih =>
    have ho := hos o List.mem_cons_self
    have st := cacheStep_ok f src Bd limit rowLs prev o hg ho.1 ho.2
    simp only [cacheFold, List.map_cons]
    rw [ih (fun o' h => hos o' (List.mem_cons_of_mem _ h)) _ st.2.2, st.1, st.2.1]

/-- The UTF-16 columns the cache yields for ANY length function that agrees with the spec on well-formed input: such a
function is additive at well-formed row prefixes, which is all the cache asks of it. -/
theorem cache_u16_of (f : Bytes → Nat) (src : Bytes) (limit : Nat) (rowLs : Nat → Nat) (os : List Occ)
    (hf : ∀ b, validUtf8 b = true → f b = utf16Spec b)
    (hos : ∀ o ∈ os, o.ls = rowLs o.row ∧ o.ls ≤ o.name.s ∧ o.name.s ≤ o.name.e ∧
             validUtf8 (slice src o.ls o.name.s) = true ∧ validUtf8 (slice src o.ls o.name.e) = true) :
    (cacheFold f src limit none os).map (fun co => co.u16) =
      os.map (fun o => (⟨utf16Spec (slice src o.ls o.name.s), utf16Spec (slice src o.ls o.name.e)⟩ : R)) := by
  have hcut : ∀ ls b c, ls ≤ b → b ≤ c → validUtf8 (slice src ls b) = true → validUtf8 (slice src ls c) = true →
      CutOK f src ls b c := by
    intro ls b c h1 h2 hb hc
    have hs := slice_append src ls b c h1 h2
    have hm : validUtf8 (slice src b c) = true := (valid_append_iff _ hb).1 (hs ▸ hc)
    unfold CutOK
    rw [hf _ hc, hs, utf16_spec_append _ _ hb, hf _ hb, hf _ hm]
  have h := cache_correct f src (fun ls c => validUtf8 (slice src ls c) = true) limit rowLs os (fun o ho => by
    obtain ⟨h0, h1, h2, h3, h4⟩ := hos o ho
    exact ⟨h0, h1, h2, h3, hcut _ _ _ h1 h2 h3 h4, fun c hc hv => hcut _ _ _ (by omega) hc h4 hv⟩)
  have h' := congrArg (List.map Prod.fst) h
  simp only [List.map_map] at h'
  refine h'.trans (List.map_congr_left fun o ho => ?_)
  obtain ⟨_, _, _, h3, h4⟩ := hos o ho
  simp only [Function.comp, hf _ h3, hf _ h4]

/-- The instance for `utf16Len` (`LossyUtf8` before its repair): if every name on the explored
rows starts and ends at a character boundary of its row (the row prefixes up to the name's start
and end are well-formed UTF-8; names are single-row, `o.ls = rowLs o.row`), then for tags
processed in ANY order the cache yields
`utf16_column_range = utf16Spec(row prefix) .. utf16Spec(row prefix ++ name)`.
Not covered: ill-formed prefixes (there this `LossyUtf8` is not additive, see the witnesses above) and
multi-row names (witness below). -/
theorem cache_correct_utf16 (src : Bytes) (limit : Nat) (rowLs : Nat → Nat) (os : List Occ)
    (hos : ∀ o ∈ os, o.ls = rowLs o.row ∧ o.ls ≤ o.name.s ∧ o.name.s ≤ o.name.e ∧
             validUtf8 (slice src o.ls o.name.s) = true ∧ validUtf8 (slice src o.ls o.name.e) = true) :
    (cacheFold utf16Len src limit none os).map (·.u16) =
      os.map (fun o => (⟨utf16Spec (slice src o.ls o.name.s), utf16Spec (slice src o.ls o.name.e)⟩ : R)) :=
  cache_u16_of utf16Len src limit rowLs os utf16_len_eq_spec hos

/-- Non-vacuity of `cache_correct_utf16`: `"é = 'é'; b"` — names `'é'` [5,9) and `b` [11,12) on row 0. -/
example :
    let src : Bytes := [0xC3, 0xA9, 32, 61, 32, 39, 0xC3, 0xA9, 39, 59, 32, 98]
    ∀ o ∈ ([⟨⟨5, 9⟩, 0, 0⟩, ⟨⟨11, 12⟩, 0, 0⟩] : List Occ), o.ls = (fun _ => 0) o.row ∧ o.ls ≤ o.name.s ∧ o.name.s ≤ o.name.e ∧
      validUtf8 (slice src o.ls o.name.s) = true ∧ validUtf8 (slice src o.ls o.name.e) = true := by
  decide +kernel

/-- Witness for the dropped "single-row names" hypothesis: a name spanning rows 0–1 of
`"(a\nb) c;"` (`[0,5)`, ending at row 1 column 2) leaves `utf16_column = 5` and the `line_range` of
row 0 in the cache; the next name `c` at row 1 column 3 then gets column 6 instead of 3 and the
line of row 0 instead of `[3,8)`.  Reproduced on the real code with `(parenthesized) @name`
(finding C18-cache-after-multirow-name, corpus/c18.txt; repair fixes/C18-cache-multirow.diff =
model variant `multiRowFixed`). -/
example :
    let src : Bytes := [40, 97, 10, 98, 41, 32, 99, 59]
    let c1 := cacheStep utf16Len src 180 none ⟨0, 5⟩ ⟨0, 0⟩ ⟨1, 2⟩
    let c2 := cacheStep utf16Len src 180 (some c1.info) ⟨6, 7⟩ ⟨1, 3⟩ ⟨1, 4⟩
    c2.u16 = ⟨6, 7⟩ ∧ c2.line = ⟨0, 2⟩ ∧ lineSpec src 3 180 = ⟨3, 8⟩ := by
  simp [cacheStep, Option.filter, utf16Len, lossyUnits, slice, scan, stepAt, units, lineRange, lineSpec, isWs]

/-- The same instance for `utf16LenF` (the repaired `LossyUtf8`), under the same hypothesis: names that start and
end at character boundaries of their row get `utf16Spec(prefix) .. utf16Spec(prefix ++ name)` in any processing
order.  (Neither instance assumes anything about the row behind the name: the cache only measures prefixes.) -/
theorem cache_correct_utf16_fixed (src : Bytes) (limit : Nat) (rowLs : Nat → Nat) (os : List Occ)
    (hos : ∀ o ∈ os, o.ls = rowLs o.row ∧ o.ls ≤ o.name.s ∧ o.name.s ≤ o.name.e ∧
             validUtf8 (slice src o.ls o.name.s) = true ∧ validUtf8 (slice src o.ls o.name.e) = true) :
    (cacheFold utf16LenF src limit none os).map (·.u16) =
      os.map (fun o => (⟨utf16Spec (slice src o.ls o.name.s), utf16Spec (slice src o.ls o.name.e)⟩ : R)) :=
  cache_u16_of utf16LenF src limit rowLs os (fun b _ => utf16_len_fixed_eq_spec b) hos

/-- For tags (processed in any order) whose row prefix up to the name and whose
name decode as UTF-8, `utf16_column_range.start` = UTF-16 code units of the row prefix and `.end` = start +
units of the name — for the repaired `LossyUtf8` port and for the port pinned before the repair. -/
theorem utf16_column_prefix (src : Bytes) (limit : Nat) (rowLs : Nat → Nat) (os : List Occ)
    (hos : ∀ o ∈ os, o.ls = rowLs o.row ∧ o.ls ≤ o.name.s ∧ o.name.s ≤ o.name.e ∧
             (decodeUtf8 (slice src o.ls o.name.s).length (slice src o.ls o.name.s)).isSome = true ∧
             (decodeUtf8 (slice src o.name.s o.name.e).length (slice src o.name.s o.name.e)).isSome = true) :
    let expected := os.map (fun o => (⟨unitsOf (slice src o.ls o.name.s),
                                       unitsOf (slice src o.ls o.name.s) + unitsOf (slice src o.name.s o.name.e)⟩ : R))
    (cacheFold utf16LenF src limit none os).map (·.u16) = expected ∧
    (cacheFold utf16Len src limit none os).map (·.u16) = expected := by
  intro expected
  refine ⟨(cache_correct_utf16_fixed src limit rowLs os ?hv).trans (List.map_congr_left ?he),
    (cache_correct_utf16 src limit rowLs os ?hv).trans (List.map_congr_left ?he)⟩
  case hv =>
    intro o ho
    obtain ⟨h0, h1, h2, h3, h4⟩ := hos o ho
    refine ⟨h0, h1, h2, (unitsOf_eq h3).2, ?_⟩
    rw [slice_append src _ _ _ h1 h2]
    exact (valid_append_iff _ (unitsOf_eq h3).2).2 (unitsOf_eq h4).2
  case he =>
    intro o ho
    obtain ⟨h0, h1, h2, h3, h4⟩ := hos o ho
    rw [slice_append src _ _ _ h1 h2, utf16_spec_append _ _ (unitsOf_eq h3).2, (unitsOf_eq h3).1, (unitsOf_eq h4).1]

end TsVerif.C18
