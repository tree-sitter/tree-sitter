import TsVerif.Gen.Consts
/-!
# C07 — bounds logic of the runtime's containers

* `Arr` — `lib/src/array.h` (`_array__reserve`, `_array__grow`, `_array__splice`, `_array__erase`,
  `_array__assign`, `array_push/pop/grow_by/insert/extend`) as list operations with an explicit
  `capacity`; every operation also returns the element ranges `[lo, hi)` of the (re)allocated buffer
  that its `memmove`/`memcpy`/`memset`/store touches, so "in bounds" is a statement about them.
* `addLink` — the control flow of `stack_node_add_link` (`lib/src/stack.c`) that decides whether
  `links[link_count++]` is written, on a graph of stack nodes.
* inline subtrees: the bit-field widths of `SubtreeInlineData` (`lib/src/subtree.h`, tied
  syntactically by the check) against the *generated* `ts_subtree_can_inline`.
Arithmetic is in `Nat`: sizes stay below 2³² (documents < 4 GiB) is the standing assumption.
-/
namespace TsVerif.C07
open TsGen

/-! ## array.h -/

structure Arr where
  contents : List Nat
  capacity : Nat
  deriving DecidableEq, Repr, Inhabited

def Arr.size (a : Arr) : Nat := a.contents.length

abbrev Access := List (Nat × Nat)

/-- `_array__reserve` -/
def Arr.reserve (a : Arr) (newCapacity : Nat) : Arr :=
  if newCapacity > a.capacity then { a with capacity := newCapacity } else a

/-- `_array__grow` -/
def Arr.grow (a : Arr) (count : Nat) : Arr :=
  let newSize := a.size + count
  if newSize > a.capacity then
    let c := a.capacity * 2
    let c := if c < 8 then 8 else c
    let c := if c < newSize then newSize else c
    a.reserve c
  else a

/-- `array_push` -/
def Arr.push (a : Arr) (x : Nat) : Arr × Access :=
  let g := a.grow 1
  ({ g with contents := g.contents ++ [x] }, [(a.size, a.size + 1)])

/-- `array_grow_by` (zero-filled) -/
def Arr.growBy (a : Arr) (count : Nat) : Arr × Access :=
  if count = 0 then (a, [])
  else
    let g := a.grow count
    ({ g with contents := g.contents ++ List.replicate count 0 }, [(a.size, a.size + count)])

/-- `array_pop`; contract: `size > 0` -/
def Arr.pop (a : Arr) : Arr × Access :=
  ({ a with contents := a.contents.dropLast }, [(a.size - 1, a.size)])

/-- `_array__splice`; contract (`ts_assert`): `index + oldCount ≤ size`; `elems.length = newCount` -/
def Arr.splice (a : Arr) (index oldCount : Nat) (elems : List Nat) : Arr × Access :=
  let newCount := elems.length
  let newSize := a.size + newCount - oldCount
  let oldEnd := index + oldCount
  let newEnd := index + newCount
  let r := a.reserve newSize
  let move : Access := if a.size > oldEnd then [(newEnd, newEnd + (a.size - oldEnd)), (oldEnd, a.size)] else []
  let copy : Access := if newCount > 0 then [(index, index + newCount)] else []
  ({ r with contents := a.contents.take index ++ elems ++ a.contents.drop oldEnd }, move ++ copy)

/-- `_array__erase`; contract: `index < size` -/
def Arr.erase (a : Arr) (index : Nat) : Arr × Access :=
  ({ a with contents := a.contents.take index ++ a.contents.drop (index + 1) },
   [(index, index + (a.size - index - 1)), (index + 1, index + 1 + (a.size - index - 1))])

/-- `_array__assign` -/
def Arr.assign (a : Arr) (other : List Nat) : Arr × Access :=
  let r := a.reserve other.length
  ({ r with contents := other }, [(0, other.length)])

def Arr.insert (a : Arr) (index : Nat) (x : Nat) : Arr × Access := a.splice index 0 [x]
def Arr.extend (a : Arr) (elems : List Nat) : Arr × Access := a.splice a.size 0 elems

/-- The representation invariant of `Array(T)`. -/
def Arr.Ok (a : Arr) : Prop := a.size ≤ a.capacity

/-- Every touched range is a proper range inside the buffer. -/
def InBounds (cap : Nat) (acc : Access) : Prop := ∀ r ∈ acc, r.1 ≤ r.2 ∧ r.2 ≤ cap

/-! ## stack_node_add_link -/

structure Link where
  node : Nat
  /-- equivalence class of the link's subtree under `stack__subtree_is_equivalent` -/
  sub : Nat
  prec : Int
  deriving DecidableEq, Repr, Inhabited

structure SNode where
  links : List Link
  state : Nat
  pos : Nat
  cost : Nat
  deriving DecidableEq, Repr, Inhabited

abbrev Graph := List SNode

def mergeable (g : Graph) (a b : Nat) : Bool :=
  match g[a]?, g[b]? with
  | some x, some y => x.state == y.state && x.pos == y.pos && x.cost == y.cost
  | _, _ => false

/-- First existing link of `self` that is equivalent to `link`'s subtree and either goes to the same
node or to a mergeable one (the two early-return arms of the `for` loop). -/
def findArm (g : Graph) (links : List Link) (link : Link) : Option (Nat × Link × Bool) :=
  (links.zipIdx.findSome? fun (e, i) =>
    if e.sub == link.sub then
      if e.node == link.node then some (i, e, true)
      else if mergeable g e.node link.node then some (i, e, false)
      else none
    else none)

/-- `stack_node_add_link(self, link)`; `fuel` bounds the recursive merging. Reference counts and
dynamic precedence bookkeeping do not influence `link_count` and are left out. -/
def addLink : Nat → Graph → Nat → Link → Graph
  | 0, g, _, _ => g
  | fuel + 1, g, self, link =>
    if link.node = self then g
    else match g[self]? with
      | none => g
      | some s =>
        match findArm g s.links link with
        | some (i, e, true) =>
          -- same pair of nodes: keep the link with the higher dynamic precedence
          if link.prec > e.prec then g.set self { s with links := s.links.set i { e with prec := link.prec } } else g
        | some (_, e, false) =>
          -- merge the previous nodes recursively
          match g[link.node]? with
          | some ln => ln.links.foldl (fun g l => addLink fuel g e.node l) g
          | none => g
        | none =>
          if s.links.length = MAX_LINK_COUNT then g
          else g.set self { s with links := s.links ++ [link] }

def Graph.Bounded (g : Graph) : Prop := ∀ n ∈ g, n.links.length ≤ MAX_LINK_COUNT

/-! ## inline subtrees -/

/-- Bit widths of the fields of `SubtreeInlineData` that `ts_subtree_new_leaf` / `ts_subtree_edit`
store a `Length`/look-ahead into (checked against subtree.h on every run). -/
structure InlineWidths where
  padding_columns : Nat := 8
  padding_rows : Nat := 4
  lookahead_bytes : Nat := 4
  padding_bytes : Nat := 8
  size_bytes : Nat := 8

def widths : InlineWidths := {}

/-- The values stored into the inline representation fit their fields. -/
def fitsInline (w : InlineWidths) (padding size : Length) (lookahead : Nat) : Prop :=
  padding.bytes < 2 ^ w.padding_bytes ∧ padding.extent.row < 2 ^ w.padding_rows ∧
  padding.extent.column < 2 ^ w.padding_columns ∧ size.bytes < 2 ^ w.size_bytes ∧
  lookahead < 2 ^ w.lookahead_bytes

instance (w : InlineWidths) (p s : Length) (la : Nat) : Decidable (fitsInline w p s la) := by
  unfold fitsInline; infer_instance

end TsVerif.C07
