/-!
# C07 — object pools, capture-list pool, external scanner state

* `PoolW` — the recycling pools of the runtime: `SubtreePool.free_trees` (`ts_subtree_pool_allocate`
  / `ts_subtree_pool_free`, cap `TS_MAX_TREE_POOL_SIZE`, only when the pool was created with a
  capacity) and the stack's `node_pool` (`stack_node_new` / `stack_node_release`, cap
  `MAX_NODE_POOL_SIZE`).  Objects are numbers; `live` = handed out, `pool` = cached (a stack, head =
  most recently cached = `array_pop`'s result), `released` = given back to the allocator.
* `CapPool` — `CaptureListPool` of query.c: `acquire`, `release`, `is_empty`, `reset`, with the
  limit `max_capture_list_count`.
* `Ess` — `ExternalScannerState`: up to 24 bytes inline, longer states on the heap.
-/
namespace TsVerif.C07

/-! ## recycling pools -/

structure PoolW where
  cap : Nat
  /-- `free_trees.capacity > 0` (always true for the node pool) -/
  enabled : Bool
  pool : List Nat
  live : List Nat
  released : List Nat
  next : Nat
  deriving DecidableEq, Repr, Inhabited

/-- `ts_subtree_pool_allocate` / `stack_node_new`: reuse the most recently cached object, else malloc. -/
def PoolW.alloc (w : PoolW) : PoolW × Nat :=
  match w.pool with
  | x :: rest => ({ w with pool := rest, live := x :: w.live }, x)
  | [] => ({ w with live := w.next :: w.live, next := w.next + 1 }, w.next)

/-- `ts_subtree_pool_free` / `stack_node_release` (count reached zero); contract: `x` is live. -/
def PoolW.free (w : PoolW) (x : Nat) : PoolW :=
  if w.enabled && decide (w.pool.length + 1 ≤ w.cap) then
    { w with pool := x :: w.pool, live := w.live.erase x }
  else
    { w with released := x :: w.released, live := w.live.erase x }

/-- Every object is in exactly one place, and everything that exists was created below `next`. -/
structure PoolW.Ok (w : PoolW) : Prop where
  bounded : w.pool.length ≤ w.cap
  nodupP : w.pool.Nodup
  nodupL : w.live.Nodup
  nodupR : w.released.Nodup
  dPL : ∀ x, x ∈ w.pool → x ∉ w.live
  dPR : ∀ x, x ∈ w.pool → x ∉ w.released
  dLR : ∀ x, x ∈ w.live → x ∉ w.released
  below : ∀ x, x ∈ w.pool ∨ x ∈ w.live ∨ x ∈ w.released → x < w.next

/-! ## capture-list pool -/

structure CapPool where
  /-- per allocated list: is it in use? (`size != UINT32_MAX`) -/
  inUse : List Bool
  max : Nat
  freeCount : Nat
  deriving DecidableEq, Repr, Inhabited

def firstUnused : List Bool → Option Nat
  | [] => none
  | false :: _ => some 0
  | true :: rest => (firstUnused rest).map (· + 1)

/-- `capture_list_pool_acquire`; `none` = `CAPTURE_LIST_NONE`. -/
def CapPool.acquire (p : CapPool) : CapPool × Option Nat :=
  match (if p.freeCount > 0 then firstUnused p.inUse else none) with
  | some i => ({ p with inUse := p.inUse.set i true, freeCount := p.freeCount - 1 }, some i)
  | none =>
    if p.inUse.length ≥ p.max then (p, none)
    else ({ p with inUse := p.inUse ++ [true] }, some p.inUse.length)

/-- `capture_list_pool_release`; contract: `id` is in use (or out of range: no-op). -/
def CapPool.release (p : CapPool) (id : Nat) : CapPool :=
  if id ≥ p.inUse.length then p
  else { p with inUse := p.inUse.set id false, freeCount := p.freeCount + 1 }

def CapPool.isEmpty (p : CapPool) : Bool := p.freeCount == 0 && decide (p.inUse.length ≥ p.max)

/-- `capture_list_pool_reset` (with the limit possibly lowered since the last execution). -/
def CapPool.reset (p : CapPool) : CapPool :=
  let n := min p.inUse.length p.max
  { p with inUse := List.replicate n false, freeCount := n }

def unusedCount (l : List Bool) : Nat := (l.filter (· == false)).length

structure CapPool.Ok (p : CapPool) : Prop where
  count : p.freeCount = unusedCount p.inUse
  limit : p.inUse.length ≤ p.max

/-! ## external scanner state -/

def ESS_INLINE : Nat := 24

structure Ess where
  bytes : List Nat
  onHeap : Bool
  deriving DecidableEq, Repr, Inhabited

/-- `ts_external_scanner_state_init`; second component: number of allocations made. -/
def Ess.init (data : List Nat) : Ess × Nat :=
  if data.length > ESS_INLINE then ({ bytes := data, onHeap := true }, 1) else ({ bytes := data, onHeap := false }, 0)

/-- `ts_external_scanner_state_copy` -/
def Ess.copy (s : Ess) : Ess × Nat := if s.onHeap then (s, 1) else (s, 0)

/-- `ts_external_scanner_state_delete`: number of frees. -/
def Ess.delete (s : Ess) : Nat := if s.onHeap then 1 else 0

def Ess.data (s : Ess) : List Nat := s.bytes

def Ess.eq (s : Ess) (buf : List Nat) : Bool := decide (s.bytes = buf)

/-! ## Capture ids of a query step (`capture_ids[MAX_STEP_CAPTURE_COUNT]`, `query_step__add_capture`) -/

/-- `MAX_STEP_CAPTURE_COUNT` of query.c (measured on the real code by the `bits` probe on every run). -/
def maxStepCaptureCount : Nat := 3

/-- `query_step__add_capture`: the id goes into the first free slot; with all slots taken it is dropped. -/
def addCapture (caps : List Nat) (c : Nat) : List Nat :=
  if caps.length < maxStepCaptureCount then caps ++ [c] else caps

end TsVerif.C07
