import TsVerif.C07.Model
import TsVerif.C07.Pools
import TsVerif.C07.Ranges
import TsVerif.C07.Walks
/-!
# C07 — No memory-unsafe behaviour, assertion failure or leak for any conforming use

> For any sequence of API calls that respects the documented contracts […] the library performs no
> out-of-bounds or use-after-free access, no undefined behaviour and trips no internal assertion.
> Once every handle has been released, every allocation made through the library's allocator has
> been freed exactly once.

## Clause map (phrase of the property text → theorems)

Marks: **proved** = kernel-checked statement about a Lean model of the bounds / ownership LOGIC, tied
to the real static functions by correspondence through the unity build; **judged only** = decided on
real executions by the Lean judge; **searched** = a dynamic detector that can only find violations;
**not expressible** = a behaviour no Lean model of this technique can exhibit.  C07 is PARTIAL by nature.

| # | phrase | theorems | mark |
|---|---|---|---|
| 1 | "for any sequence of API calls that respects the documented contracts (any source bytes, any query source, any edit with start ≤ old end, any ranges accepted by the setter, any interleaving of parse, edit, copy, query, cursor, cancel, reset and delete)" | none over API histories | **judged only / searched**: ~1000 adversarial histories per quick run (11 kinds × 8–10 languages), range lists only if `ts_lexer_set_included_ranges` accepts them |
| 2 | "performs no out-of-bounds … access" | per ported array walk: `changed_ranges_reads_in_bounds`, `lexer_advance_reads_in_bounds` (both were violated as found: `…_asis_reads_out_of_bounds`), `add_link_accesses_in_bounds(_graph)`, `stack_links_bounded`, `cap_accesses_in_bounds`, `cap_history_in_bounds`, `cap_acquired_id_in_bounds`, `consumed_read_in_bounds`, `step_captures_bounded`, `array_ops_in_bounds` family, `can_inline_fits` | **proved for these walks only**; every other index computation (children-before-header layout, iterators, serialization/debug buffers, lexer chunk decoding) is **searched**: guard-page allocator (quick, `cr`/`lx`), ASan (thorough) |
| 3 | "… or use-after-free access" | ownership logic: C08 (`persistence`, `rc_invariant`, `heap_empty_after_last_delete`), `pool_alloc_ok`, `pool_free_ok`, `capture_acquire_ok/release_ok/reset_ok` | **not expressible** as such (a model has no dangling pointers); **searched**: poisoning always-moving allocator in both explorers (quick), guard allocator keeps freed blocks inaccessible (`cr`/`lx`), ASan (thorough) |
| 4 | "no undefined behaviour" | none | **not expressible**; **searched**: fresh memory poisoned + dump judge for flags only a scanner may set (uninitialised reads), UBSan (thorough); data races: not modelled, C08's 16-thread probes and threaded-vs-sequential runs (no TSan) |
| 5 | "and trips no internal assertion" | none | **judged only**: the runtime is built with assertions on; any abort/signal of an explorer is a violation with the history as replay |
| 6 | "once every handle has been released, every allocation made through the library's allocator has been freed exactly once" | parts: `pool_alloc_ok`, `pool_free_ok`, `capture_*_ok`, `ess_roundtrip`, C08 `heap_empty_after_last_delete`; OPEN `no_leak_no_double_free` for full API histories | **judged only** for histories: counting allocator balance = 0 per history, free of a non-live block aborts (double free), external-scanner instance counter; LSan (thorough) |

## What the models cannot exhibit, and which dynamic search covers it

| runtime behaviour | why no theorem | quick tier | thorough tier |
|---|---|---|---|
| use after free through a pointer into a REALLOCATED array (`capture_list_pool`, `Array` growth) | models have values, not addresses | realloc always moves + freed memory poisoned 0xA5 ⇒ crash or garbage (`qcursor`, all histories) | ASan |
| use after free / double free of a subtree or stack node | same | poison + size header: free of a non-live block aborts; C08 `ref_count = owners` judge on dumps | ASan |
| out-of-bounds read/write outside the ported walks | not ported | guard pages for `cr`/`lx` only | ASan (unity build + `fuzz`, corpus lines) |
| in-struct overflow (`links[8]`, `capture_ids[3]`) | invisible to sanitizers too | `bits` probe + correspondence (`al`, 4-capture patterns) | — |
| uninitialised read | no indeterminate values in Lean | 0xA5-filled fresh memory + dump judge | UBSan (bool loads), ASan does not see it |
| data race | no memory model | 16-thread probes (`cunit_c08`), threaded vs sequential | — (no TSan) |
| signed overflow, misalignment, invalid shifts | no C semantics | — | UBSan |
| leak | histories not modelled | allocator balance per history, scanner instance counter | LSan |
| non-termination (not a C07 clause) | — | explorer timeout ⇒ "died or hung" with the history | — |

## Theorem index by clause

**What is and is not proved.**  Memory safety and absence of undefined behaviour are properties of
the *C execution*; no Lean model here exhibits an out-of-bounds pointer, a stale `TSNode`, a
misaligned or uninitialised read or a signed overflow, so no theorem below (or anywhere in this
technique) establishes them.  What is proved is the *bounds and ownership logic* the C code relies
on, on models tied to the code; the property itself is decided on real executions by the judge
(allocator balance) and searched with sanitizers (thorough tier) — reported as such.

| clause (logic behind it) | theorem |
|---|---|
| inline subtrees never truncate what they store | `can_inline_fits` (over the *generated* `ts_subtree_can_inline`, widths of `SubtreeInlineData`) |
| `Array(T)` operations stay inside the allocation | `array_ops_in_bounds` = `push_in_bounds`, `growBy_in_bounds`, `pop_in_bounds`, `splice_in_bounds`, `erase_in_bounds`, `assign_in_bounds` (+ `insert`/`extend` as instances) |
| `links[link_count++]` never overruns `links[MAX_LINK_COUNT]` | `stack_links_bounded` |
| reference counts = owners after every history of tree copy/edit/delete (incl. the release cascade), no dangling link, no cell without owner, copy-on-write writes only exclusively owned cells, freed ids never reused | proved in `TsVerif/C08/Props.lean` (`rc_invariant`, `no_dangling_no_garbage`, `writes_exclusive`, `freed_never_reused_*`) |
| every allocation freed exactly once (leak freedom) | OPEN `no_leak_no_double_free` for full API histories (the tree-handle part is C08's `rc_invariant`; missing: the parser-held references — token cache, `finished_tree`, `old_tree`, reusable node, stack heads —, query/cursor objects, and acyclicity): **judged** on every history by the counting allocator |
| the recycling pools never hand out a live object, never cache more than their cap, never free twice | `pool_alloc_ok`, `pool_free_ok` (subtree pool `TS_MAX_TREE_POOL_SIZE`, stack node pool `MAX_NODE_POOL_SIZE`) |
| capture lists are never shared between query states, the pool respects its limit | `capture_acquire_ok`, `capture_release_ok`, `capture_reset_ok` |
| external scanner states: inline ≤ 24 bytes, heap otherwise; allocations = frees | `ess_roundtrip` |
| an exhausted cursor into a `TSRange` array is never dereferenced: `ts_range_array_get_changed_ranges` (after the fix; the loop as found reads `ranges[count]`, see `changed_ranges_asis_reads_out_of_bounds`) and `ts_lexer__advance` (after the fix; as found: `lexer_advance_asis_reads_out_of_bounds`) | `changed_ranges_reads_in_bounds`, `lexer_advance_reads_in_bounds` |
| `links[i]` / `links[link_count++]` of a stack node, `list.contents[i]` of the capture-list pool, `captures->contents[consumed]`: every touched element exists — all in bounds AS FOUND; unguarded variants refuted | `add_link_accesses_in_bounds` (+ `_graph`, from `stack_links_bounded`), `add_link_unguarded_stores_out_of_bounds`; `cap_accesses_in_bounds`, `cap_history_in_bounds`, `cap_acquired_id_in_bounds`; `consumed_read_in_bounds`, `consumed_read_unguarded_out_of_bounds` (Walks.lean) |
| `capture_ids[MAX_STEP_CAPTURE_COUNT]` of a query step is never overrun | `step_captures_bounded` (tied by the `bits` probe: slots, surplus captures dropped, `depth` untouched) |
| `iterators_bounded`, `children_before_header` | OPEN (not ported) |
-/
namespace TsVerif.C07
open TsGen

/-- Whenever the generated `ts_subtree_can_inline` says yes, every value that
`ts_subtree_new_leaf` / `ts_subtree_edit` then stores into `SubtreeInlineData` is below
`2^width` of its bit-field: no silent truncation. -/
theorem can_inline_fits (padding size : Length) (lookahead : Nat)
    (h : ts_subtree_can_inline padding size lookahead = true) : fitsInline widths padding size lookahead := by
  -- the seven conjuncts in the order of the generated test; the fifth and sixth bound the extent of the SIZE, which
  -- `SubtreeInlineData` does not store
  obtain ⟨⟨⟨⟨⟨⟨h1, h2⟩, h3⟩, h4⟩, _⟩, _⟩, h7⟩ := of_decide_eq_true h
  have hw : TS_MAX_INLINE_TREE_LENGTH ≤ 2 ^ 8 := by decide
  exact ⟨Nat.lt_of_lt_of_le h1 hw, h2, Nat.lt_of_lt_of_le h3 hw, Nat.lt_of_lt_of_le h4 hw, h7⟩

example : ts_subtree_can_inline ⟨3, ⟨1, 2⟩⟩ ⟨7, ⟨0, 7⟩⟩ 1 = true := rfl
/-- The bound is tight: 255 bytes of padding are refused (255 is the all-ones pattern). -/
example : ts_subtree_can_inline ⟨255, ⟨0, 0⟩⟩ ⟨7, ⟨0, 7⟩⟩ 1 = false := rfl

theorem inBounds_nil (cap : Nat) : InBounds cap [] := nofun

theorem inBounds_cons {cap lo hi : Nat} {acc : Access} :
    InBounds cap ((lo, hi) :: acc) ↔ (lo ≤ hi ∧ hi ≤ cap) ∧ InBounds cap acc :=
  List.forall_mem_cons

theorem inBounds_append {cap : Nat} {acc acc' : Access} :
    InBounds cap (acc ++ acc') ↔ InBounds cap acc ∧ InBounds cap acc' :=
  List.forall_mem_append

theorem inBounds_ite {cap : Nat} {c : Prop} {_ : Decidable c} {acc : Access} :
    InBounds cap (if c then acc else []) ↔ (c → InBounds cap acc) := by
  split
  · simp [*]
  · simp [*, inBounds_nil]

theorem reserve_eq (a : Arr) (n : Nat) : a.reserve n = { a with capacity := max a.capacity n } := by
  unfold Arr.reserve
  split
  · rw [Nat.max_eq_right (Nat.le_of_lt ‹_›)]
  · rw [Nat.max_eq_left (Nat.le_of_not_gt ‹_›)]

theorem grow_contents (a : Arr) (count : Nat) : (a.grow count).contents = a.contents := by
  by_cases h : a.size + count > a.capacity
  · simp only [Arr.grow, if_pos h, reserve_eq]
  · simp only [Arr.grow, if_neg h]

theorem le_grow_capacity (a : Arr) (count : Nat) : a.size + count ≤ (a.grow count).capacity := by
  by_cases h : a.size + count > a.capacity
  · rw [Arr.grow, if_pos h, reserve_eq]
    refine Nat.le_trans ?_ (Nat.le_max_right ..)
    generalize (if a.capacity * 2 < 8 then 8 else a.capacity * 2) = c
    split
    · exact Nat.le_refl _
    · exact Nat.le_of_not_lt ‹_›
  · rw [Arr.grow, if_neg h]
    exact Nat.le_of_not_gt h

theorem push_in_bounds (a : Arr) (x : Nat) (h : a.Ok) :
    (a.push x).1.Ok ∧ InBounds (a.push x).1.capacity (a.push x).2 ∧ (a.push x).1.contents = a.contents ++ [x] := by
  have g := le_grow_capacity a 1
  simp only [Arr.push, Arr.Ok, Arr.size, grow_contents, inBounds_cons, inBounds_nil, List.length_append,
    List.length_singleton, and_true] at g ⊢
  exact ⟨g, Nat.le_succ _, g⟩

theorem growBy_in_bounds (a : Arr) (count : Nat) (h : a.Ok) :
    (a.growBy count).1.Ok ∧ InBounds (a.growBy count).1.capacity (a.growBy count).2 := by
  unfold Arr.growBy
  split
  · exact ⟨h, inBounds_nil _⟩
  · have g := le_grow_capacity a count
    simp only [Arr.Ok, Arr.size, grow_contents, inBounds_cons, inBounds_nil, List.length_append,
      List.length_replicate, and_true] at g ⊢
    exact ⟨g, Nat.le_add_right .., g⟩

theorem pop_in_bounds (a : Arr) (h : a.Ok) (hne : 0 < a.size) :
    (a.pop).1.Ok ∧ InBounds (a.pop).1.capacity (a.pop).2 ∧ (a.pop).1.size + 1 = a.size := by
  simp only [Arr.pop, Arr.Ok, Arr.size, inBounds_cons, inBounds_nil, List.length_dropLast, and_true] at *
  exact ⟨Nat.le_trans (Nat.sub_le ..) h, ⟨Nat.sub_le .., h⟩, Nat.sub_add_cancel hne⟩

/-- `_array__splice` under its asserted contract `index + old_count ≤ size`. -/
theorem splice_in_bounds (a : Arr) (index oldCount : Nat) (elems : List Nat) (h : a.Ok)
    (hpre : index + oldCount ≤ a.size) :
    (a.splice index oldCount elems).1.Ok ∧
    InBounds (a.splice index oldCount elems).1.capacity (a.splice index oldCount elems).2 ∧
    (a.splice index oldCount elems).1.size + oldCount = a.size + elems.length := by
  simp only [Arr.splice, reserve_eq, inBounds_append, inBounds_ite, inBounds_cons, inBounds_nil, and_true]
  have hidx : index ≤ a.contents.length := Nat.le_trans (Nat.le_add_right ..) hpre
  simp only [Arr.Ok, Arr.size, List.length_append, List.length_take_of_le hidx, List.length_drop] at *
  -- the new size, which is where the moved tail ends
  have hsz : index + elems.length + (a.contents.length - (index + oldCount)) + oldCount
      = a.contents.length + elems.length := by omega
  have hle := Nat.le_trans (Nat.le_sub_of_add_le (Nat.le_of_eq hsz)) (Nat.le_max_right a.capacity _)
  exact ⟨hle, ⟨fun _ => ⟨⟨Nat.le_add_right .., hle⟩, hpre, Nat.le_trans h (Nat.le_max_left ..)⟩,
    fun _ => ⟨Nat.le_add_right .., Nat.le_trans (Nat.le_add_right ..) hle⟩⟩, hsz⟩

theorem insert_in_bounds (a : Arr) (index x : Nat) (h : a.Ok) (hpre : index ≤ a.size) :
    (a.insert index x).1.Ok ∧ InBounds (a.insert index x).1.capacity (a.insert index x).2 := by
  have := splice_in_bounds a index 0 [x] h (by omega)
  exact ⟨this.1, this.2.1⟩

theorem extend_in_bounds (a : Arr) (elems : List Nat) (h : a.Ok) :
    (a.extend elems).1.Ok ∧ InBounds (a.extend elems).1.capacity (a.extend elems).2 := by
  have := splice_in_bounds a a.size 0 elems h (by omega)
  exact ⟨this.1, this.2.1⟩

/-- `_array__erase` under its asserted contract `index < size`. -/
theorem erase_in_bounds (a : Arr) (index : Nat) (h : a.Ok) (hpre : index < a.size) :
    (a.erase index).1.Ok ∧ InBounds (a.erase index).1.capacity (a.erase index).2 ∧
    (a.erase index).1.size + 1 = a.size := by
  simp only [Arr.erase, Arr.Ok, Arr.size, inBounds_cons, inBounds_nil, List.length_append,
    List.length_take_of_le (Nat.le_of_lt hpre), List.length_drop, and_true] at *
  omega

theorem assign_in_bounds (a : Arr) (other : List Nat) (h : a.Ok) :
    (a.assign other).1.Ok ∧ InBounds (a.assign other).1.capacity (a.assign other).2 := by
  simp only [Arr.assign, Arr.Ok, reserve_eq, Arr.size, inBounds_cons, inBounds_nil, and_true]
  exact ⟨Nat.le_max_right .., Nat.zero_le _, Nat.le_max_right ..⟩

/-- The contracts are necessary: splicing past the end touches memory beyond the buffer. -/
example : ¬ InBounds (({ contents := [1, 2], capacity := 2 } : Arr).splice 1 0 [7]).1.capacity
    [(5, 6)] :=
  fun h => absurd (h (5, 6) (List.mem_singleton_self _)).2 (by decide)

example : ({ contents := [1, 2, 3], capacity := 4 } : Arr).Ok := Nat.le_succ 3

theorem bounded_set {g : Graph} {i : Nat} {n : SNode} (hg : g.Bounded) (hn : n.links.length ≤ MAX_LINK_COUNT) :
    Graph.Bounded (g.set i n) := by
  intro m hm
  rcases List.mem_or_eq_of_mem_set hm with h | h
  · exact hg m h
  · subst h; exact hn

/-- `stack_node_add_link` (with all its recursive merging) never makes any
node's `link_count` exceed `MAX_LINK_COUNT` — the index written by `links[link_count++]` is below
the array length. -/
theorem stack_links_bounded : ∀ (fuel : Nat) (g : Graph) (self : Nat) (link : Link),
    g.Bounded → (addLink fuel g self link).Bounded
  | 0, g, _, _, hg => hg
  | fuel + 1, g, self, link, hg => by
    unfold addLink
    by_cases hself : link.node = self
    · rw [if_pos hself]
      exact hg
    rw [if_neg hself]
    split
    · exact hg
    · rename_i s hs
      have hsb : s.links.length ≤ MAX_LINK_COUNT := hg s (List.mem_of_getElem? hs)
      split
      · split
        · exact bounded_set hg (Nat.le_trans (Nat.le_of_eq List.length_set) hsb)
        · exact hg
      · split
        · exact List.foldlRecOn _ _ hg fun g hg l _ => stack_links_bounded fuel g _ l hg
        · exact hg
      · split
        · exact hg
        · rename_i hne
          exact bounded_set hg (List.length_append ▸ Nat.lt_of_le_of_ne hsb hne)

example : Graph.Bounded [{ links := [], state := 0, pos := 0, cost := 0 }] :=
  List.forall_mem_singleton.mpr (Nat.zero_le _)

def PoolW.all (w : PoolW) : List Nat := w.pool ++ (w.live ++ w.released)

/-- "Every object is in exactly one place": `all` has no duplicates.  `alloc` and `free` permute it,
or add the fresh object `next`. -/
theorem poolW_ok_iff (w : PoolW) :
    w.Ok ↔ w.pool.length ≤ w.cap ∧ w.all.Nodup ∧ ∀ x ∈ w.all, x < w.next := by
  simp only [PoolW.all, List.nodup_append, List.mem_append]
  constructor
  · intro h
    exact ⟨h.bounded, ⟨h.nodupP, ⟨h.nodupL, h.nodupR, fun a ha b hb e => h.dLR a ha (e ▸ hb)⟩,
      fun a ha b hb e => hb.elim (fun hb => h.dPL a ha (e ▸ hb)) fun hb => h.dPR a ha (e ▸ hb)⟩, h.below⟩
  · intro ⟨hb, ⟨hP, ⟨hL, hR, hLR⟩, hPLR⟩, hlt⟩
    exact ⟨hb, hP, hL, hR, fun x hx hl => hPLR x hx x (.inl hl) rfl, fun x hx hr => hPLR x hx x (.inr hr) rfl,
      fun x hx hr => hLR x hx x hr rfl, hlt⟩

/-- Allocation keeps "every object is in exactly one place", the cache bound, and
never hands out an object that is live or that was already returned to the allocator. -/
theorem pool_alloc_ok (w : PoolW) (h : w.Ok) :
    (w.alloc).1.Ok ∧ (w.alloc).2 ∉ w.live ∧ (w.alloc).2 ∉ w.released ∧ (w.alloc).2 ∈ (w.alloc).1.live := by
  rw [poolW_ok_iff] at h ⊢
  obtain ⟨cap, enabled, pool, live, released, next⟩ := w
  obtain ⟨hb, hnd, hlt⟩ := h
  cases pool with
  | nil =>
    have hfresh : next ∉ live ++ released := fun hm => Nat.lt_irrefl _ (hlt _ hm)
    exact ⟨⟨hb, List.nodup_cons.mpr ⟨hfresh, hnd⟩, fun y hy => (List.mem_cons.mp hy).elim
      (fun e => e ▸ Nat.lt_succ_self _) fun hy => Nat.lt_succ_of_lt (hlt y hy)⟩,
      fun hl => hfresh (List.mem_append_left _ hl), fun hr => hfresh (List.mem_append_right _ hr),
      List.mem_cons_self⟩
  | cons x rest =>
    have hperm : (rest ++ (x :: live ++ released)).Perm (x :: rest ++ (live ++ released)) := List.perm_middle
    have hx := (List.nodup_cons.mp hnd).1
    exact ⟨⟨Nat.le_of_succ_le hb, hperm.nodup_iff.mpr hnd, fun y hy => hlt y (hperm.mem_iff.mp hy)⟩,
      fun hl => hx (List.mem_append_right _ (List.mem_append_left _ hl)),
      fun hr => hx (List.mem_append_right _ (List.mem_append_right _ hr)), List.mem_cons_self⟩

/-- Freeing a live object keeps the invariant: the object goes to the cache (never
beyond its capacity) or back to the allocator — where it was not before: **no double free**. -/
theorem pool_free_ok (w : PoolW) (x : Nat) (h : w.Ok) (hx : x ∈ w.live) :
    (w.free x).Ok ∧ x ∉ (w.free x).live ∧ x ∉ w.released := by
  rw [poolW_ok_iff] at h ⊢
  obtain ⟨hb, hnd, hlt⟩ := h
  -- take `x` out of `live`, and move it to the front
  have h1 : w.all.Perm (w.pool ++ x :: (w.live.erase x ++ w.released)) :=
    ((List.perm_cons_erase hx).append_right _).append_left _
  have h2 := h1.trans List.perm_middle
  have hx' := (List.nodup_cons.mp (h2.nodup hnd)).1
  have hl : x ∉ w.live.erase x := fun hl => hx' (List.mem_append_right _ (List.mem_append_left _ hl))
  have hr : x ∉ w.released := fun hr => hx' (List.mem_append_right _ (List.mem_append_right _ hr))
  unfold PoolW.free
  split
  · rename_i hc
    exact ⟨⟨of_decide_eq_true (Bool.and_eq_true _ _ ▸ hc).2, h2.nodup hnd, fun y hy => hlt y (h2.mem_iff.mpr hy)⟩,
      hl, hr⟩
  · have h3 := h1.trans (List.perm_middle.symm.append_left w.pool)
    exact ⟨⟨hb, h3.nodup hnd, fun y hy => hlt y (h3.mem_iff.mpr hy)⟩, hl, hr⟩

example : PoolW.Ok { cap := TS_MAX_TREE_POOL_SIZE, enabled := true, pool := [], live := [], released := [], next := 0 } :=
  (poolW_ok_iff _).mpr ⟨Nat.zero_le _, .nil, nofun⟩

theorem unusedCount_eq_count (l : List Bool) : unusedCount l = l.count false :=
  List.count_eq_length_filter.symm

theorem firstUnused_spec : ∀ (l : List Bool) (i : Nat), firstUnused l = some i → l[i]? = some false
  | false :: _, _, h => by cases h; rfl
  | true :: rest, i, h => by
    obtain ⟨j, hj, rfl⟩ := Option.map_eq_some_iff.mp h
    exact firstUnused_spec rest j hj

theorem firstUnused_none : ∀ (l : List Bool), firstUnused l = none → l.count false = 0
  | [], _ => rfl
  | true :: rest, h => firstUnused_none rest (Option.map_eq_none_iff.mp h)

theorem capPool_ok_iff (p : CapPool) : p.Ok ↔ p.freeCount = p.inUse.count false ∧ p.inUse.length ≤ p.max :=
  ⟨fun h => ⟨unusedCount_eq_count _ ▸ h.count, h.limit⟩, fun h => ⟨unusedCount_eq_count _ ▸ h.1, h.2⟩⟩

/-- Acquire keeps "free count = number of unused lists" and the limit; the id
it returns is inside the pool and was **not in use** (no two query states ever share a capture
list); it returns NONE exactly when the pool is empty in the sense of `capture_list_pool_is_empty`. -/
theorem capture_acquire_ok (p : CapPool) (h : p.Ok) :
    (p.acquire).1.Ok ∧
    (match (p.acquire).2 with
     | some i => i < (p.acquire).1.inUse.length ∧ p.inUse[i]? ≠ some true ∧ (p.acquire).1.inUse[i]? = some true
     | none => p.isEmpty = true ∧ (p.acquire).1 = p) := by
  rw [capPool_ok_iff] at h ⊢
  by_cases hf : p.freeCount > 0
  · cases hu : firstUnused p.inUse with
    | none =>
      have := firstUnused_none _ hu
      omega
    | some i =>
      have hi := firstUnused_spec _ _ hu
      obtain ⟨hlt, hget⟩ := List.getElem?_eq_some_iff.mp hi
      simp only [CapPool.acquire, if_pos hf, hu, List.length_set, List.getElem?_set_self hlt, hi,
        List.count_set hlt, hget]
      exact ⟨⟨congrArg (· - 1) h.1, h.2⟩, hlt, nofun, trivial⟩
  · by_cases hm : p.inUse.length ≥ p.max
    · simp only [CapPool.acquire, if_neg hf, if_pos hm, CapPool.isEmpty]
      exact ⟨h, by rw [Nat.eq_zero_of_not_pos hf, decide_eq_true hm]; rfl, trivial⟩
    · simp only [CapPool.acquire, if_neg hf, if_neg hm, List.length_append, List.length_singleton,
        List.getElem?_append_right (Nat.le_refl _), Nat.sub_self, List.count_append,
        List.getElem?_eq_none (Nat.le_refl _)]
      exact ⟨⟨h.1, Nat.lt_of_not_ge hm⟩, Nat.lt_succ_self _, nofun, rfl⟩

/-- Releasing a list that is in use keeps the invariant and makes it available again. -/
theorem capture_release_ok (p : CapPool) (id : Nat) (h : p.Ok) (hu : p.inUse[id]? = some true) :
    (p.release id).Ok ∧ (p.release id).inUse[id]? = some false := by
  obtain ⟨hlt, hget⟩ := List.getElem?_eq_some_iff.mp hu
  rw [capPool_ok_iff] at h ⊢
  simp only [CapPool.release, if_neg (Nat.not_le_of_lt hlt), List.length_set, List.getElem?_set_self hlt,
    List.count_set hlt, hget]
  exact ⟨⟨congrArg (· + 1) h.1, h.2⟩, trivial⟩

/-- After a reset (even with a lowered limit) everything is free and within the limit. -/
theorem capture_reset_ok (p : CapPool) : (p.reset).Ok ∧ (p.reset).inUse.length ≤ p.max := by
  simp only [capPool_ok_iff, CapPool.reset, List.count_replicate_self, List.length_replicate, true_and, and_self]
  exact Nat.min_le_right ..

/-- What is stored is read back unchanged, inline (≤ 24 bytes) or on the heap, and
`init`/`copy` allocate exactly what `delete` frees: no leak, no free of inline storage. -/
theorem ess_roundtrip (data : List Nat) :
    (Ess.init data).1.data = data ∧ (Ess.init data).1.eq data = true ∧
    ((Ess.init data).1.onHeap = true ↔ data.length > ESS_INLINE) ∧
    (Ess.init data).2 = (Ess.init data).1.delete ∧
    ((Ess.init data).1.copy).2 = ((Ess.init data).1.copy).1.delete ∧
    ((Ess.init data).1.copy).1.data = data := by
  unfold Ess.init
  by_cases h : data.length > ESS_INLINE <;> simp [h, Ess.data, Ess.eq, Ess.delete, Ess.copy]

/-- A query step never holds more capture ids than its array has slots, whatever is added. -/
theorem step_captures_bounded (cs : List Nat) :
    (cs.foldl addCapture []).length ≤ maxStepCaptureCount := by
  refine List.foldlRecOn (motive := fun acc : List Nat => acc.length ≤ maxStepCaptureCount) cs _
    (Nat.zero_le _) fun acc h c _ => ?_
  unfold addCapture
  split
  · rwa [List.length_append]
  · exact h

example : [1, 2, 3, 4, 5, 6].foldl addCapture [] = [1, 2, 3] := rfl

/-- **`stack_node_add_link` (as found)**: on a node whose `link_count` is within the array, every
`links[i]` the scanning loop reads is a valid element, every `links[j]` of the node being merged is
valid, and the store `links[link_count++]` hits a slot of the array. -/
theorem add_link_accesses_in_bounds (count otherCount : Nat) (stop : Option (Nat × Bool))
    (hc : count ≤ MAX_LINK_COUNT) :
    let a := addLinkAccesses .eqMax count otherCount stop
    (∀ i ∈ a.reads, i < count) ∧ (∀ j ∈ a.mergeReads, j < otherCount) ∧ (∀ k, a.store = some k → k < MAX_LINK_COUNT) := by
  match stop with
  | some (i, merges) =>
    refine ⟨fun x hx => Nat.lt_of_lt_of_le (List.mem_range.mp hx) (Nat.min_le_right ..), fun x hx => ?_, nofun⟩
    simp only [addLinkAccesses, List.mem_ite_nil_right, List.mem_range] at hx
    exact hx.2
  | none =>
    refine ⟨fun x hx => List.mem_range.mp hx, nofun, fun k hk => ?_⟩
    simp only [addLinkAccesses, beq_iff_eq, Option.ite_none_left_eq_some, Option.some.injEq] at hk
    exact hk.2 ▸ Nat.lt_of_le_of_ne hc hk.1

/-- The precondition `link_count ≤ MAX_LINK_COUNT` of `add_link_accesses_in_bounds` is an invariant of every graph under every
call, recursion included (`stack_links_bounded`), so it holds for every node the next call sees. -/
theorem add_link_accesses_in_bounds_graph (fuel : Nat) (g : Graph) (self : Nat) (link : Link) (hg : g.Bounded)
    (n : SNode) (hn : n ∈ addLink fuel g self link) (otherCount : Nat) (stop : Option (Nat × Bool)) :
    ∀ k, (addLinkAccesses .eqMax n.links.length otherCount stop).store = some k → k < MAX_LINK_COUNT :=
  (add_link_accesses_in_bounds n.links.length otherCount stop (stack_links_bounded fuel g self link hg n hn)).2.2

/-- Refuted without the guard, and with `>` for `==`: a full node stores at
index `MAX_LINK_COUNT`, one past the array (inside the struct: no sanitizer sees it). -/
theorem add_link_unguarded_stores_out_of_bounds :
    (addLinkAccesses .none MAX_LINK_COUNT 0 none).store = some MAX_LINK_COUNT ∧
    (addLinkAccesses .gtMax MAX_LINK_COUNT 0 none).store = some MAX_LINK_COUNT := by decide

/-- **Capture-list pool (as found)**: every element of `list.contents` that `get`, `acquire`,
`release` or `reset` touches exists at that moment — for ANY id (stale ids of lists dropped by a
lowered limit included: `get` answers with the empty list, `release` does nothing). -/
theorem cap_accesses_in_bounds (p : CapPool) (op : CapOp) : ∀ i ∈ capAccesses p op, i < p.inUse.length := by
  intro i hi
  cases op with
  | get id | release id =>
    simp only [capAccesses, List.mem_ite_nil_left, List.mem_singleton] at hi
    exact hi.2 ▸ Nat.lt_of_not_ge hi.1
  | setMax m => cases hi
  | acquire =>
    simp only [capAccesses, List.mem_ite_nil_right] at hi
    cases hu : firstUnused p.inUse with
    | none => simpa only [hu, List.mem_range] using hi.2
    | some k =>
      obtain ⟨hlt, _⟩ := List.getElem?_eq_some_iff.mp (firstUnused_spec _ _ hu)
      simp only [hu, List.mem_range] at hi
      exact Nat.lt_of_lt_of_le hi.2 hlt
  | reset =>
    simp only [capAccesses, List.mem_append, List.mem_map, List.mem_range] at hi
    rcases hi with ⟨k, hk, rfl⟩ | hi
    · omega
    · exact Nat.lt_of_lt_of_le hi (Nat.min_le_left ..)

theorem cap_history_in_bounds : ∀ (ops : List CapOp) (p : CapPool), ∀ a ∈ capHistory p ops, a.1 < a.2
  | [], _, _, ha => nomatch ha
  | op :: ops, p, a, ha => by
    simp only [capHistory, List.mem_append, List.mem_map] at ha
    rcases ha with ⟨i, hi, rfl⟩ | ha
    · exact cap_accesses_in_bounds p op i hi
    · exact cap_history_in_bounds ops _ a ha

/-- The id `acquire` hands out is a valid element afterwards (the `ts_assert(id < list.size)` of
`capture_list_pool_get_mut` holds for it). -/
theorem cap_acquired_id_in_bounds (p : CapPool) (h : p.Ok) (i : Nat) (hi : p.acquire.2 = some i) :
    i < p.acquire.1.inUse.length := by
  have := (capture_acquire_ok p h).2
  rw [hi] at this
  exact this.1

/-- The read at a state's consumed-capture cursor: in bounds behind the size test (as found), refuted
without it. -/
theorem consumed_read_in_bounds (consumed size : Nat) : ∀ i, consumedRead true consumed size = some i → i < size := by
  intro i h
  simp only [consumedRead, Bool.true_and, decide_eq_true_eq, Option.ite_none_left_eq_some, Option.some.injEq] at h
  exact h.2 ▸ Nat.lt_of_not_ge h.1

theorem consumed_read_unguarded_out_of_bounds : ∃ i, consumedRead false 3 3 = some i ∧ ¬ i < 3 := ⟨3, by decide, by decide⟩

/-- Non-vacuity: a history that grows the pool to three lists, lowers the limit to one, resets
(elements 2 and 1 are dropped through `array_back`, element 0 is cleared) and then uses a stale id. -/
example : capHistory { inUse := [], max := 4294967295, freeCount := 0 }
    [.acquire, .acquire, .acquire, .release 1, .acquire, .setMax 1, .reset, .get 2, .release 2, .get 0]
    = [(1, 3), (0, 3), (1, 3), (2, 3), (1, 3), (0, 3), (0, 1)] := rfl


/-- **`ts_range_array_get_changed_ranges`, fixed loop**: for any two lists of 32-bit ranges, every
element of either array that the loop dereferences exists.  (No ordering or non-overlap assumption: the statement covers every list the setter accepts
and more.  `changedRanges` runs the loop with fuel `2 * (|old| + |new|) + 2`; the statement behind this one,
`crRun_fixed_reads_in_bounds`, holds for every fuel, so it is about every iteration the loop can make.) -/
theorem changed_ranges_reads_in_bounds (old new : List BR) (hbo : Bounded old) (hbn : Bounded new) :
    ∀ r ∈ (changedRanges .fixed old new).1, ReadOk old new r :=
  crRun_fixed_reads_in_bounds hbo hbn _ _ ⟨nofun, nofun⟩

/-- The loop before /repo 958e7c7 dereferences `new_ranges[new_range_count]` on two lists that
`ts_lexer_set_included_ranges` accepts: old = `[0,MAX) [MAX,MAX)`, new = `[0,5)` (the finding). -/
theorem changed_ranges_asis_reads_out_of_bounds :
    ∃ r ∈ (changedRanges .asis [⟨0, U32MAX⟩, ⟨U32MAX, U32MAX⟩] [⟨0, 5⟩]).1,
      ¬ ReadOk [⟨0, U32MAX⟩, ⟨U32MAX, U32MAX⟩] [⟨0, 5⟩] r :=
  ⟨(true, 1), by decide, by decide⟩

/-- Non-vacuity: on the same input the fixed loop terminates with the expected difference. -/
example : (changedRanges .fixed [⟨0, U32MAX⟩, ⟨U32MAX, U32MAX⟩] [⟨0, 5⟩]).2 = some [(5, U32MAX)] := rfl
example : (changedRanges .fixed [⟨0, 3⟩, ⟨7, 9⟩] [⟨2, 8⟩]).2 = some [(0, 2), (3, 7), (8, 9)] := rfl
example : Bounded [⟨0, U32MAX⟩, ⟨U32MAX, U32MAX⟩] := by
  unfold Bounded
  decide

/-- **`ts_lexer__advance`, fixed entry test**: from any lexer state whose range cursor is at most
the count, every element of `included_ranges` it dereferences exists. -/
theorem lexer_advance_reads_in_bounds (s : LxS) (h : s.idx ≤ s.count) :
    ∀ i ∈ advanceReads .fixed s, i < s.count := by
  intro i hi
  simp only [advanceReads, advanceEnters, List.mem_ite_nil_right, Bool.and_eq_true, bne_iff_ne,
    List.mem_cons, List.mem_map, List.mem_range] at hi
  omega

/-- Before /repo 5e58eb0, a lexer at the end of its ranges that still holds a chunk (reachable: `get_column`
re-fetches a chunk at the line start after `ts_lexer_goto` has reached the end) reads
`included_ranges[count]`. -/
theorem lexer_advance_asis_reads_out_of_bounds :
    ∃ s : LxS, s.idx ≤ s.count ∧ ∃ i ∈ advanceReads .asis s, ¬ i < s.count :=
  ⟨⟨1, 1, true⟩, by decide, 1, by decide, by decide⟩

end TsVerif.C07
