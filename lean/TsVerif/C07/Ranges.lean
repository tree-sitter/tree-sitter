/-!
# C07 — which array elements two range loops dereference

Two loops of the runtime index a `TSRange` array with a cursor that may legitimately be equal to the
element count ("exhausted"); memory safety needs that an exhausted cursor is never dereferenced.

* `ts_range_array_get_changed_ranges` (`lib/src/get_changed_ranges.c`): `crStep` / `crRun` are a port
  of the loop that records, for every iteration, WHICH elements of the two arrays are dereferenced.
  `Variant.asis` is the loop before /repo 958e7c7 (at equal boundaries both `in_*_range` flags are toggled
  blindly, also for an exhausted list); `Variant.fixed`, the loop since then, toggles a flag only for a list that is not
  exhausted.  The invariant of the fixed loop and its lemmas (`CRInv` … `crRun_fixed_reads_in_bounds`) stand in this file,
  behind the port, which is a fixed definition and stays where they are.  `TsVerif.C04.symDiff` (`C04/Ranges.lean`) is a second port of the same C function, for its OUTPUT; a change
  to the function has to be followed in both.
* `ts_lexer__advance` (`lib/src/lexer.c`): the lexer state is abstracted to
  `(current_included_range_index, included_range_count, chunk != NULL)`; `advanceReads` are the
  elements of `included_ranges` that `ts_lexer__advance` dereferences from such a state (`asis`: before /repo 5e58eb0).

Only byte offsets drive the control flow of both loops; points are carried along in C and dropped here.
-/
namespace TsVerif.C07

/-- `UINT32_MAX`: the byte offset of `LENGTH_MAX`, the position of an exhausted list. -/
def U32MAX : Nat := 4294967295

structure BR where
  s : Nat
  e : Nat
  deriving Repr, DecidableEq, Inhabited

inductive Variant | asis | fixed
  deriving Repr, DecidableEq, Inhabited

structure CRState where
  oi : Nat := 0
  ni : Nat := 0
  cur : Nat := 0
  inOld : Bool := false
  inNew : Bool := false
  /-- `differences`, newest first -/
  out : List (Nat × Nat) := []
  deriving Repr, DecidableEq, Inhabited

/-- A dereferenced element: `(is it the new list?, index)`. -/
abbrev Read := Bool × Nat

/-- The elements one iteration dereferences: `old_range->…` is read iff `in_old_range` or
`old_index < old_range_count` (the pointer `&old_ranges[old_index]` itself is only formed). -/
def readsOf (old new : List BR) (st : CRState) : List Read :=
  (if st.inOld || decide (st.oi < old.length) then [(false, st.oi)] else []) ++
  (if st.inNew || decide (st.ni < new.length) then [(true, st.ni)] else [])

def ReadOk (old new : List BR) (r : Read) : Prop :=
  if r.1 then r.2 < new.length else r.2 < old.length

instance (old new : List BR) (r : Read) : Decidable (ReadOk old new r) := by
  unfold ReadOk; split <;> infer_instance

inductive CRRes
  | done
  /-- the iteration dereferences an element that does not exist: the C execution is undefined -/
  | stuck
  | next (st : CRState)
  deriving Repr, DecidableEq

/-- `ts_range_array_add` on byte offsets (`out` newest first). -/
def addDiff (out : List (Nat × Nat)) (a b : Nat) : List (Nat × Nat) :=
  match out with
  | (s, e) :: rest => if a ≤ e then (s, b) :: rest else if a < b then (a, b) :: out else out
  | [] => if a < b then [(a, b)] else []

/-- `next_old_position` / `next_new_position` (byte offset); `none` = the element does not exist. -/
def nextPos (l : List BR) (i : Nat) (inR : Bool) : Option Nat :=
  if inR then (l[i]?).map (·.e)
  else if i < l.length then (l[i]?).map (·.s) else some U32MAX

/-- One iteration of the `while` loop. -/
def crStep (v : Variant) (old new : List BR) (st : CRState) : CRRes :=
  if ¬ (st.oi < old.length ∨ st.ni < new.length) then .done else
  match nextPos old st.oi st.inOld, nextPos new st.ni st.inNew with
  | some po, some pn =>
    let out := if st.inOld != st.inNew then addDiff st.out st.cur (if po < pn then po else pn) else st.out
    if po < pn then
      .next { st with oi := if st.inOld then st.oi + 1 else st.oi, cur := po, inOld := !st.inOld, out := out }
    else if pn < po then
      .next { st with ni := if st.inNew then st.ni + 1 else st.ni, cur := pn, inNew := !st.inNew, out := out }
    else
      let oldDone := !st.inOld && !decide (st.oi < old.length)
      let newDone := !st.inNew && !decide (st.ni < new.length)
      .next { st with
        oi := if st.inOld then st.oi + 1 else st.oi
        ni := if st.inNew then st.ni + 1 else st.ni
        inOld := if v == .fixed && oldDone then st.inOld else !st.inOld
        inNew := if v == .fixed && newDone then st.inNew else !st.inNew
        cur := pn, out := out }
  | _, _ => .stuck

/-- The whole loop: `(elements dereferenced, result)`; the result is `none` when an iteration reads an
element that does not exist (or the fuel runs out: `2 * (|old| + |new|) + 2` iterations suffice). -/
def crRun (v : Variant) (old new : List BR) : Nat → CRState → List Read × Option (List (Nat × Nat))
  | 0, _ => ([], none)
  | fuel + 1, st =>
    match crStep v old new st with
    | .done => ([], some st.out.reverse)
    | .stuck => (readsOf old new st, none)
    | .next st' =>
      let r := crRun v old new fuel st'
      (readsOf old new st ++ r.1, r.2)

def crFuel (old new : List BR) : Nat := 2 * (old.length + new.length) + 2

def changedRanges (v : Variant) (old new : List BR) : List Read × Option (List (Nat × Nat)) :=
  crRun v old new (crFuel old new) {}

def Bounded (l : List BR) : Prop := ∀ r ∈ l, r.s ≤ U32MAX ∧ r.e ≤ U32MAX

/-- The loop invariant that makes every dereference legal. -/
def CRInv (old new : List BR) (st : CRState) : Prop :=
  (st.inOld = true → st.oi < old.length) ∧ (st.inNew = true → st.ni < new.length)

theorem reads_in_bounds_of_inv {old new : List BR} {st : CRState} (h : CRInv old new st) :
    ∀ r ∈ readsOf old new st, ReadOk old new r := by
  intro r hr
  simp only [readsOf, List.mem_append, List.mem_ite_nil_right, List.mem_singleton, Bool.or_eq_true,
    decide_eq_true_eq] at hr
  rcases hr with ⟨hc, rfl⟩ | ⟨hc, rfl⟩
  · exact hc.elim h.1 id
  · exact hc.elim h.2 id

theorem nextPos_spec {l : List BR} (hb : Bounded l) {i : Nat} {inR : Bool} (h : inR = true → i < l.length) :
    ∃ p, nextPos l i inR = some p ∧ p ≤ U32MAX ∧ (p < U32MAX → i < l.length) := by
  by_cases hi : i < l.length
  · have hbi := hb _ (List.getElem_mem hi)
    cases inR
    · exact ⟨l[i].s, by simp [nextPos, hi], hbi.1, fun _ => hi⟩
    · exact ⟨l[i].e, by simp [nextPos, hi], hbi.2, fun _ => hi⟩
  · cases inR
    · exact ⟨U32MAX, by simp [nextPos, hi], Nat.le_refl _, (absurd · (Nat.lt_irrefl _))⟩
    · exact absurd (h rfl) hi

/-- Toggling the flag of a list that is not exhausted keeps its half of the invariant. -/
theorem toggle_inv {b : Bool} {i n : Nat} (h : i < n) : (!b) = true → (if b then i + 1 else i) < n := by
  cases b with
  | true => nofun
  | false => exact fun _ => h

/-- The fixed loop's toggle at equal boundaries keeps it unconditionally. -/
theorem toggle_fixed_inv {b : Bool} {i n : Nat} :
    (if Variant.fixed == .fixed && (!b && !decide (i < n)) then b else !b) = true →
      (if b then i + 1 else i) < n := by
  cases b <;> simp

/-- Under the invariant an iteration of the fixed loop ends the loop or yields a state with the invariant; in particular it
is never stuck. -/
theorem crStep_fixed_spec {old new : List BR} {st : CRState} (hbo : Bounded old) (hbn : Bounded new)
    (h : CRInv old new st) :
    crStep .fixed old new st = .done ∨ ∃ st', crStep .fixed old new st = .next st' ∧ CRInv old new st' := by
  by_cases hc : st.oi < old.length ∨ st.ni < new.length
  · obtain ⟨po, hpo, hpoB, hpoX⟩ := nextPos_spec hbo h.1
    obtain ⟨pn, hpn, hpnB, hpnX⟩ := nextPos_spec hbn h.2
    right
    simp only [crStep, not_not_intro hc, hpo, hpn, if_false]
    -- the boundary that comes strictly first is below `U32MAX`: its list is not exhausted
    rcases Nat.lt_trichotomy po pn with hlt | rfl | hgt
    · rw [if_pos hlt]
      exact ⟨_, rfl, toggle_inv (hpoX (Nat.lt_of_lt_of_le hlt hpnB)), h.2⟩
    · rw [if_neg (Nat.lt_irrefl _), if_neg (Nat.lt_irrefl _)]
      exact ⟨_, rfl, toggle_fixed_inv, toggle_fixed_inv⟩
    · rw [if_neg (Nat.lt_asymm hgt), if_pos hgt]
      exact ⟨_, rfl, h.1, toggle_inv (hpnX (Nat.lt_of_lt_of_le hgt hpoB))⟩
  · exact .inl (if_pos hc)

theorem crRun_fixed_reads_in_bounds {old new : List BR} (hbo : Bounded old) (hbn : Bounded new) :
    ∀ (fuel : Nat) (st : CRState), CRInv old new st →
      ∀ r ∈ (crRun .fixed old new fuel st).1, ReadOk old new r := by
  intro fuel
  induction fuel with
  | zero => intro st _ r hr; simp [crRun] at hr
  | succ n ih =>
    intro st hinv r hr
    rcases crStep_fixed_spec hbo hbn hinv with hs | ⟨st', hs, hinv'⟩
    · simp [crRun, hs] at hr
    · simp only [crRun, hs, List.mem_append] at hr
      exact hr.elim (reads_in_bounds_of_inv hinv r) (ih st' hinv' r)

theorem crStep_fixed_not_stuck {old new : List BR} {st : CRState} (hbo : Bounded old) (hbn : Bounded new)
    (h : CRInv old new st) : crStep .fixed old new st ≠ .stuck := by
  rcases crStep_fixed_spec hbo hbn h with hs | ⟨_, hs, _⟩
  · rw [hs]
    nofun
  · rw [hs]
    nofun

/-- `(current_included_range_index, included_range_count, chunk != NULL)`. -/
structure LxS where
  idx : Nat
  count : Nat
  chunk : Bool
  deriving Repr, DecidableEq, Inhabited

/-- Does `ts_lexer__advance` get past its entry test?  Before /repo 5e58eb0: `if (!self->chunk) return;`.
Since: `if (!self->chunk || ts_lexer__eof(_self)) return;`. -/
def advanceEnters (v : Variant) (s : LxS) : Bool :=
  match v with
  | .asis => s.chunk
  | .fixed => s.chunk && s.idx != s.count

/-- The elements of `included_ranges` that `ts_lexer__advance` dereferences when it is entered:
`included_ranges[current_included_range_index].end_byte` (the fast-path test), then — in
`ts_lexer__do_advance` — the same element again and its successors as long as the index stays below
the count (`current_range++` happens only after the test `index < count`). -/
def advanceReads (v : Variant) (s : LxS) : List Nat :=
  if advanceEnters v s then s.idx :: (List.range (s.count - s.idx - 1)).map (· + s.idx + 1) else []

end TsVerif.C07
