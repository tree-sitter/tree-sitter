import TsVerif.Gen.Consts
import TsVerif.C07.Pools
/-!
# C07 — which elements the other ported array walks touch

`Ranges.lean` lists the elements dereferenced by the two `TSRange` loops.  This file does the same for
the remaining fixed-size / growable arrays whose walks are ported: the `links[MAX_LINK_COUNT]` array of
a stack node (`stack_node_add_link`, stack.c) and the list array of the capture-list pool
(`capture_list_pool_*`, query.c), plus the read of a capture list at a state's consumed-capture
cursor.  An *access* is an index into the array; it is in bounds iff it is below the number of
valid elements (`link_count` resp. `list.size`) for a read, below the number of slots for a store.

Status of the real code (see the theorems in Props.lean): every walk here is in bounds AS FOUND; the
unguarded variants that the hand mutations / seeded changes produce are refuted.
-/
namespace TsVerif.C07
open TsGen

/-! ## `stack_node_add_link`: `links[MAX_LINK_COUNT]` -/

/-- The test in front of `self->links[self->link_count++] = link`. -/
inductive LinkGuard
  | eqMax    -- as found: `if (self->link_count == MAX_LINK_COUNT) return;`
  | gtMax    -- hand mutation `mutP3`: `>` instead of `==`
  | none     -- no test
  deriving DecidableEq, Repr

structure LinkAccesses where
  /-- indices `i` of `self->links[i]` read by the scanning loop -/
  reads : List Nat
  /-- indices `j` of `link.node->links[j]` read by the merging loop (of the OTHER node) -/
  mergeReads : List Nat
  /-- index written by `links[link_count++] = link`, if the call gets there -/
  store : Option Nat
  deriving DecidableEq, Repr

/-- One (non-recursive frame of a) call on a node with `count` links; the scanning loop stops at the
first equivalent link `stop` (if any; then the call returns after possibly walking the `otherCount`
links of the node being merged), otherwise the link is appended if the guard lets it. -/
def addLinkAccesses (g : LinkGuard) (count otherCount : Nat) (stop : Option (Nat × Bool)) : LinkAccesses :=
  match stop with
  | some (i, merges) =>
    { reads := List.range (min (i + 1) count), mergeReads := if merges then List.range otherCount else [], store := none }
  | none =>
    let blocked := match g with
      | .eqMax => count == MAX_LINK_COUNT
      | .gtMax => decide (count > MAX_LINK_COUNT)
      | .none => false
    { reads := List.range count, mergeReads := [], store := if blocked then none else some count }

/-! ## `CaptureListPool`: `list.contents[0 .. list.size)` -/

inductive CapOp
  | get (id : Nat)        -- capture_list_pool_get
  | acquire               -- capture_list_pool_acquire
  | release (id : Nat)    -- capture_list_pool_release
  | reset                 -- capture_list_pool_reset
  | setMax (m : Nat)      -- ts_query_cursor_set_match_limit
  deriving DecidableEq, Repr

/-- Indices of `list.contents` touched by one operation on pool `p` (valid elements: `p.inUse.length`).
`acquire`: the scan for an unused list stops at the first one; a new list is *pushed* (`array_push`,
whose own bounds are `push_in_bounds`) — that is not an access to an existing element.
`reset`: `array_back` while the size exceeds a lowered limit, then every remaining element. -/
def capAccesses (p : CapPool) : CapOp → List Nat
  | .get id => if id ≥ p.inUse.length then [] else [id]
  | .acquire =>
    if p.freeCount > 0 then
      match firstUnused p.inUse with
      | some i => List.range (i + 1)
      | none => List.range p.inUse.length
    else []
  | .release id => if id ≥ p.inUse.length then [] else [id]
  | .reset =>
    -- sizes at which `array_back` is taken: size, size-1, …, max+1 → element size-1, …, max
    ((List.range (p.inUse.length - p.max)).map fun k => p.inUse.length - 1 - k) ++ List.range (min p.inUse.length p.max)
  | .setMax _ => []

def CapPool.applyOp (p : CapPool) : CapOp → CapPool
  | .get _ => p
  | .acquire => p.acquire.1
  | .release id => p.release id
  | .reset => p.reset
  | .setMax m => { p with max := m }

/-- All accesses of a whole history of operations, each relative to the size at that moment:
`(index, size when accessed)`. -/
def capHistory : CapPool → List CapOp → List (Nat × Nat)
  | _, [] => []
  | p, op :: ops => (capAccesses p op).map (fun i => (i, p.inUse.length)) ++ capHistory (p.applyOp op) ops

/-- `captures->contents[state->consumed_capture_count]` in `ts_query_cursor_next_capture` /
`finished_state_precedes`, behind the test `consumed_capture_count >= captures->size`. -/
def consumedRead (guarded : Bool) (consumed size : Nat) : Option Nat :=
  if guarded && decide (consumed ≥ size) then none else some consumed

end TsVerif.C07
