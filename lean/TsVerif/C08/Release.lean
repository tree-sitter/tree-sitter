import TsVerif.C08.Invariant
import TsVerif.C08.Frame
/-!
# C08 — the release cascade (`ts_subtree_release` with its explicit stack)

Loop invariant `WFS` (Invariant.lean): counts are exact and the cells with count 0 are exactly those
waiting on the stack, each once.  Two steps keep it: dropping one owned reference — decrement, push
on zero (`decr_wfs`; this is `releaseKid`, and also the first step of `release`) — and popping a
cell, whose children thereby become owned references (`wfs_pop`).  The C code frees the popped cell *after* its
children have been released; no child is the cell itself, so freeing first gives the same heap
(`releaseKids_set_none`).  Nobody refers to the freed cell, so one iteration is a frame for all
remaining owners (`pop_step_frame`); everything said about a whole release follows by iterating.
-/
namespace TsVerif.C08

variable {D : Type}

theorem releaseKid_ptr (hs : Heap D × List Nat) (kid : Nat) :
    releaseKid hs (.ptr kid) =
      (decr hs.1 kid, if rcOf (decr hs.1 kid) kid = 0 then kid :: hs.2 else hs.2) := by
  simp only [releaseKid]
  split <;> rfl

theorem releaseKids_wfs {owners : List (Ref D)} : ∀ (ks : List (Ref D)) {h : Heap D} {st : List Nat},
    WFS h (ks ++ owners) st → WFS (ks.foldl releaseKid (h, st)).1 owners (ks.foldl releaseKid (h, st)).2
  | [], _, _, w => w
  | .inl _ :: ks, _, _, w => releaseKids_wfs ks ⟨w.count, w.pos, w.stack, w.nodup⟩
  | .ptr kid :: ks, _, _, w => by
    rw [List.foldl_cons, releaseKid_ptr]
    exact releaseKids_wfs ks (decr_wfs w)

theorem wfs_pop {h : Heap D} {owners : List (Ref D)} {i : Nat} {st : List Nat} {ci : Cell D}
    (w : WFS h owners (i :: st)) (hci : cellAt h i = some ci) :
    WFS (h.set i none) (ci.kids ++ owners) st := by
  have hnd := List.nodup_cons.mp w.nodup
  refine ⟨fun a => ?_, fun a c hc => ?_, fun a ha => ?_, hnd.2⟩
  · have hk := cnt_kidsOf_free a hci
    have := w.count a
    rw [rcOf_set_none, cnt_append]
    by_cases hai : a = i
    · obtain ⟨c, hc, hz⟩ := w.stack i List.mem_cons_self
      rw [hci] at hc
      cases hc
      rw [hai, rcOf_of_cell hci, hz] at this
      rw [hai] at hk ⊢
      rw [if_pos rfl]
      omega
    · rw [if_neg hai]; omega
  · rw [cellAt_set_none] at hc
    split at hc
    · cases hc
    · next hai => exact (w.pos a c hc).imp_right fun hm => (List.mem_cons.mp hm).resolve_left hai
  · rw [cellAt_set_none, if_neg (fun (e : a = i) => hnd.1 (e ▸ ha))]
    exact w.stack a (List.mem_cons_of_mem _ ha)

theorem setRc_set_none (h : Heap D) {i k : Nat} (hne : k ≠ i) (f : Nat → Nat) :
    setRc (h.set i none) k f = (setRc h k f).set i none := by
  have e : cellAt (h.set i none) k = cellAt h k := by rw [cellAt_set_none, if_neg hne]
  cases hc : cellAt h k with
  | none => rw [setRc_of_dead (e.trans hc), setRc_of_dead hc]
  | some c => rw [setRc_of_cell (e.trans hc), setRc_of_cell hc, List.set_comm _ _ (Ne.symm hne)]

theorem releaseKid_set_none (hs : Heap D × List Nat) (i : Nat) : ∀ k : Ref D, k ≠ .ptr i →
    releaseKid (hs.1.set i none, hs.2) k = ((releaseKid hs k).1.set i none, (releaseKid hs k).2)
  | .inl _, _ => rfl
  | .ptr kid, hne => by
    have hki : kid ≠ i := fun e => hne (e ▸ rfl)
    have e : decr (hs.1.set i none) kid = (decr hs.1 kid).set i none := setRc_set_none hs.1 hki _
    rw [releaseKid_ptr, releaseKid_ptr, e, rcOf_set_none, if_neg hki]

theorem releaseKids_set_none (i : Nat) : ∀ (ks : List (Ref D)) (hs : Heap D × List Nat), cnt i ks = 0 →
    ks.foldl releaseKid (hs.1.set i none, hs.2) =
      ((ks.foldl releaseKid hs).1.set i none, (ks.foldl releaseKid hs).2)
  | [], _, _ => rfl
  | k :: ks, hs, hk => by
    rw [cnt_cons] at hk
    have hne : k ≠ .ptr i := fun e => by rw [e, cnt_cons_ptr, if_pos rfl] at hk; omega
    rw [List.foldl_cons, List.foldl_cons, releaseKid_set_none hs i k hne]
    exact releaseKids_set_none i ks (releaseKid hs k) (by omega)

theorem liveCount_releaseKids : ∀ (ks : List (Ref D)) (hs : Heap D × List Nat),
    liveCount (ks.foldl releaseKid hs).1 = liveCount hs.1
  | [], _ => rfl
  | .inl _ :: ks, hs => liveCount_releaseKids ks hs
  | .ptr kid :: ks, hs => by
    rw [List.foldl_cons, liveCount_releaseKids ks, releaseKid_ptr]
    exact liveCount_setRc hs.1 kid (· - 1)

theorem pop_step_frame {h : Heap D} {owners : List (Ref D)} {i : Nat} {st : List Nat}
    (w : WFS h owners (i :: st)) :
    ∃ ci, cellAt h i = some ci ∧
      WFS ((ci.kids.foldl releaseKid (h, st)).1.set i none) owners (ci.kids.foldl releaseKid (h, st)).2 ∧
      liveCount ((ci.kids.foldl releaseKid (h, st)).1.set i none) + 1 = liveCount h ∧
      Frame h ((ci.kids.foldl releaseKid (h, st)).1.set i none) owners := by
  obtain ⟨ci, hci, hz⟩ := w.stack i List.mem_cons_self
  refine ⟨ci, hci, ?_⟩
  -- nobody refers to the cell being freed
  have h0 := w.count i
  rw [rcOf_of_cell hci, hz] at h0
  have hkz : cnt i ci.kids = 0 := Nat.le_zero.mp (Nat.le_trans (cnt_kids_le i h i ci hci) (by omega))
  -- free first, then release the children: the same heap and stack
  have w1 := releaseKids_wfs ci.kids (wfs_pop w hci)
  have F : Frame h (ci.kids.foldl releaseKid (h.set i none, st)).1 owners :=
    frame_trans (frame_set_unref none (cellAt_lt hci) (by omega) (by omega))
      (frame_of_ext (rcEq_releaseKids ci.kids (h.set i none, st)).ext owners)
  have hl := liveCount_releaseKids ci.kids (h.set i none, st)
  rw [releaseKids_set_none i ci.kids (h, st) hkz] at w1 F hl
  exact ⟨w1, (congrArg (· + 1) hl).trans (liveCount_set_none hci), F⟩

theorem pop_step {h : Heap D} {owners : List (Ref D)} {i : Nat} {st : List Nat} (w : WFS h owners (i :: st)) :
    ∃ ci, cellAt h i = some ci ∧
      WFS ((ci.kids.foldl releaseKid (h, st)).1.set i none) owners (ci.kids.foldl releaseKid (h, st)).2 ∧
      liveCount ((ci.kids.foldl releaseKid (h, st)).1.set i none) + 1 = liveCount h ∧
      (∀ x, x ∈ owners → ∀ (f : Nat) (t : OTree D), unfold f h x = some t →
        unfold f ((ci.kids.foldl releaseKid (h, st)).1.set i none) x = some t) := by
  obtain ⟨ci, hci, w', hl, hf⟩ := pop_step_frame w
  exact ⟨ci, hci, w', hl, fun x hx => hf.unfold hx⟩

theorem pop_step_cellframe {h : Heap D} {owners : List (Ref D)} {i : Nat} {st : List Nat}
    (w : WFS h owners (i :: st)) :
    ∃ ci, cellAt h i = some ci ∧
      Frame h ((ci.kids.foldl releaseKid (h, st)).1.set i none) owners := by
  obtain ⟨ci, hci, _, _, hf⟩ := pop_step_frame w
  exact ⟨ci, hci, hf⟩

/-- `fuel ≥` number of live cells suffices: each iteration frees one. -/
theorem releaseLoop_wf_frame {owners : List (Ref D)} : ∀ (f : Nat) (h : Heap D) (st : List Nat),
    WFS h owners st → (liveCount h ≤ f → WF (releaseLoop f h st) owners) ∧ Frame h (releaseLoop f h st) owners
  | 0, h, st, w => by
    refine ⟨fun hf => ?_, frame_of_ext (Ext.refl h) owners⟩
    cases st with
    | nil => exact wfs_nil w
    | cons a st =>
      obtain ⟨c, hc, _⟩ := w.stack a List.mem_cons_self
      have := liveCount_set_none hc
      omega
  | f + 1, h, [], w => ⟨fun _ => wfs_nil w, frame_of_ext (Ext.refl h) owners⟩
  | f + 1, h, i :: st, w => by
    obtain ⟨ci, hci, w', hl, hfr⟩ := pop_step_frame w
    have ih := releaseLoop_wf_frame f _ _ w'
    simp only [releaseLoop, hci]
    exact ⟨fun hf => ih.1 (by omega), frame_trans hfr ih.2⟩

theorem releaseLoop_cellframe {owners : List (Ref D)} : ∀ (fuel : Nat) (h : Heap D) (st : List Nat),
    WFS h owners st → Frame h (releaseLoop fuel h st) owners :=
  fun fuel h st w => (releaseLoop_wf_frame fuel h st w).2

theorem release_wf {h : Heap D} {X : List (Ref D)} (r : Ref D) (hw : WF h (r :: X)) : WF (release h r) X := by
  cases r with
  | inl d => exact (wf_inl_cons d).mp hw
  | ptr i =>
    have w := decr_wfs (wfs_of_wf hw)
    simp only [release]
    split
    · next hz =>
      rw [if_pos hz] at w
      refine (releaseLoop_wf_frame _ _ _ w).1 ?_
      -- the model's fuel `h.length + 1` covers the live cells
      have : liveCount (decr h i) ≤ (decr h i).length := List.length_filter_le _ _
      have : (decr h i).length = h.length := length_setRc _ _ _
      omega
    · next hz => rw [if_neg hz] at w; exact wfs_nil w

theorem release_cellframe {h : Heap D} {X : List (Ref D)} (r : Ref D) (hw : WF h (r :: X)) :
    Frame h (release h r) X := by
  cases r with
  | inl d => exact frame_of_ext (Ext.refl h) X
  | ptr i =>
    have F1 : Frame h (decr h i) X := frame_of_ext (rcEq_setRc h i _).ext X
    have w := decr_wfs (wfs_of_wf hw)
    simp only [release]
    split
    · next hz => rw [if_pos hz] at w; exact frame_trans F1 (releaseLoop_cellframe _ _ _ w)
    · exact F1

theorem release_frame {h : Heap D} {X : List (Ref D)} (r : Ref D) (hw : WF h (r :: X)) :
    ∀ x, x ∈ X → ∀ (f : Nat) (t : OTree D), unfold f h x = some t → unfold f (release h r) x = some t :=
  fun _ hx => (release_cellframe r hw).unfold hx

end TsVerif.C08
