import TsVerif.C08.Shape
/-!
# C08 — what a set of references can see, and heap changes it cannot see

`Reach h X i`: cell `i` is reachable from the references `X` through child links of live cells — the
read footprint of anything that starts from `X` (copy, query, walk, re-parse reuse, edit, delete).
`Frame h h' X`: every cell reachable from `X` keeps its children and payload from `h` to `h'`.
`unfold` visits reachable cells only, so a frame for `X` keeps every tree observed through `X`
(`unfold_frame`); the two ways a frame arises are `Ext` (no cell changes) and overwriting a slot
nobody refers to (`frame_set_unref`).
-/
namespace TsVerif.C08

variable {D : Type}

inductive Reach (h : Heap D) (X : List (Ref D)) : Nat → Prop
  | root {i : Nat} : Ref.ptr i ∈ X → Reach h X i
  | kid {j i : Nat} {c : Cell D} : Reach h X j → cellAt h j = some c → Ref.ptr i ∈ c.kids → Reach h X i

def Frame (h h' : Heap D) (X : List (Ref D)) : Prop :=
  ∀ i, Reach h X i → ∀ c, cellAt h i = some c →
    ∃ c', cellAt h' i = some c' ∧ c'.kids = c.kids ∧ c'.data = c.data

theorem reach_mono {h : Heap D} {X X' : List (Ref D)} (hs : ∀ x, x ∈ X → x ∈ X') {i : Nat}
    (hr : Reach h X i) : Reach h X' i := by
  induction hr with
  | root hm => exact Reach.root (hs _ hm)
  | kid _ hc hk ih => exact Reach.kid ih hc hk

theorem frame_reach {h h' : Heap D} {X : List (Ref D)} (hf : Frame h h' X) {i : Nat}
    (hr : Reach h X i) : Reach h' X i := by
  induction hr with
  | root hm => exact Reach.root hm
  | kid hj hc hk ih =>
    obtain ⟨c', hc', hkids, _⟩ := hf _ hj _ hc
    exact Reach.kid ih hc' (by rw [hkids]; exact hk)

theorem frame_trans {a b c : Heap D} {X : List (Ref D)} (h1 : Frame a b X) (h2 : Frame b c X) :
    Frame a c X := by
  intro i hr ci hci
  obtain ⟨c1, hc1, hk1, hd1⟩ := h1 i hr ci hci
  obtain ⟨c2, hc2, hk2, hd2⟩ := h2 i (frame_reach h1 hr) c1 hc1
  exact ⟨c2, hc2, hk2.trans hk1, hd2.trans hd1⟩

theorem frame_mono {h h' : Heap D} {X X' : List (Ref D)} (hs : ∀ x, x ∈ X → x ∈ X')
    (hf : Frame h h' X') : Frame h h' X :=
  fun i hr c hc => hf i (reach_mono hs hr) c hc

theorem frame_of_ext {h h' : Heap D} (he : Ext h h') (X : List (Ref D)) : Frame h h' X :=
  fun i _ c hc => he i c hc

theorem reach_ne {h : Heap D} {X : List (Ref D)} {i0 : Nat} (hx : cnt i0 X = 0)
    (hk : cnt i0 (kidsOf h) = 0) {i : Nat} (hr : Reach h X i) : i ≠ i0 := by
  intro e
  subst e
  cases hr with
  | root hm => exact cnt_zero_not_mem hx hm
  | kid _ hc hkid => exact cnt_zero_not_mem (Nat.le_zero.mp (hk ▸ cnt_kids_le i h _ _ hc)) hkid

theorem frame_set_unref {h : Heap D} {X : List (Ref D)} {i0 : Nat} (o : Option (Cell D))
    (hi : i0 < h.length) (hx : cnt i0 X = 0) (hk : cnt i0 (kidsOf h) = 0) : Frame h (h.set i0 o) X := by
  intro i hr c hc
  refine ⟨c, ?_, rfl, rfl⟩
  rw [cellAt_set hi, if_neg (reach_ne hx hk hr)]
  exact hc

theorem unfold_inl (f : Nat) (h : Heap D) (d : D) : unfold f h (.inl d) = some (.mk d []) := by
  unfold unfold; rfl

theorem unfold_ptr_some {f : Nat} {h : Heap D} {i : Nat} {t : OTree D} :
    unfold (f + 1) h (.ptr i) = some t ↔
      ∃ c ts, cellAt h i = some c ∧ unfoldL f h c.kids = some ts ∧ .mk c.data ts = t := by
  rw [unfold]
  cases cellAt h i <;> simp

theorem unfoldL_nil (f : Nat) (h : Heap D) : unfoldL f h [] = some [] := by
  unfold unfoldL; rfl

theorem unfoldL_cons_some {f : Nat} {h : Heap D} {k : Ref D} {ks : List (Ref D)} {ts : List (OTree D)} :
    unfoldL f h (k :: ks) = some ts ↔
      ∃ t ts', unfold f h k = some t ∧ unfoldL f h ks = some ts' ∧ t :: ts' = ts := by
  rw [unfoldL]
  cases unfold f h k <;> cases unfoldL f h ks <;> simp

/-- The list half of `unfold_frame`, with the single-reference half at the same fuel as a hypothesis:
this way `unfold_frame` is a plain recursion on the fuel and not a mutual one. -/
theorem unfoldL_frame_of {h h' : Heap D} {X : List (Ref D)} {f : Nat}
    (hu1 : ∀ (r : Ref D) (t : OTree D), (∀ i, r = .ptr i → Reach h X i) → unfold f h r = some t →
      unfold f h' r = some t) :
    ∀ (ks : List (Ref D)) (ts : List (OTree D)), (∀ i, Ref.ptr i ∈ ks → Reach h X i) →
      unfoldL f h ks = some ts → unfoldL f h' ks = some ts
  | [], ts, _, hu => by rw [unfoldL_nil] at hu ⊢; exact hu
  | k :: ks, ts, hr, hu => by
    obtain ⟨t, ts', h1, h2, rfl⟩ := unfoldL_cons_some.mp hu
    exact unfoldL_cons_some.mpr ⟨t, ts', hu1 k t (fun i e => hr i (e ▸ List.mem_cons_self)) h1,
      unfoldL_frame_of hu1 ks ts' (fun i hi => hr i (List.mem_cons_of_mem _ hi)) h2, rfl⟩

theorem unfold_frame {h h' : Heap D} {X : List (Ref D)} (hf : Frame h h' X) : ∀ (f : Nat) (r : Ref D)
    (t : OTree D), (∀ i, r = .ptr i → Reach h X i) → unfold f h r = some t → unfold f h' r = some t
  | _, .inl d, t, _, hu => by rw [unfold_inl] at hu ⊢; exact hu
  | 0, .ptr i, t, _, hu => by rw [unfold] at hu; cases hu
  | f + 1, .ptr i, t, hr, hu => by
    obtain ⟨c, ts, hc, hts, rfl⟩ := unfold_ptr_some.mp hu
    obtain ⟨c', hc', hk, hd⟩ := hf i (hr i rfl) c hc
    refine unfold_ptr_some.mpr ⟨c', ts, hc', ?_, by rw [hd]⟩
    rw [hk]
    exact unfoldL_frame_of (unfold_frame hf f) c.kids ts (fun j hj => Reach.kid (hr i rfl) hc hj) hts

theorem unfoldL_frame {h h' : Heap D} {X : List (Ref D)} (hf : Frame h h' X) (f : Nat) :
    ∀ (ks : List (Ref D)) (ts : List (OTree D)), (∀ i, Ref.ptr i ∈ ks → Reach h X i) →
      unfoldL f h ks = some ts → unfoldL f h' ks = some ts :=
  unfoldL_frame_of (unfold_frame hf f)

theorem Frame.unfold {h h' : Heap D} {X : List (Ref D)} (hf : Frame h h' X) {x : Ref D} (hx : x ∈ X)
    (f : Nat) (t : OTree D) (hu : unfold f h x = some t) : unfold f h' x = some t :=
  unfold_frame hf f x t (fun i (e : x = .ptr i) => Reach.root (e ▸ hx)) hu

theorem unfold_ext {h h' : Heap D} (he : Ext h h') : ∀ (f : Nat) (r : Ref D) (t : OTree D),
    unfold f h r = some t → unfold f h' r = some t :=
  fun f r t => (frame_of_ext he [r]).unfold (List.mem_singleton_self r) f t

theorem unfoldL_ext {h h' : Heap D} (he : Ext h h') : ∀ (f : Nat) (ks : List (Ref D)) (ts : List (OTree D)),
    unfoldL f h ks = some ts → unfoldL f h' ks = some ts :=
  fun f ks ts => unfoldL_frame (frame_of_ext he ks) f ks ts (fun _ hi => Reach.root hi)

theorem cnt_singleton_of_ne {i : Nat} {r : Ref D} (hne : r ≠ .ptr i) : cnt i [r] = 0 := by
  cases r with
  | inl _ => rfl
  | ptr j => exact if_neg (fun (e : j = i) => hne (e ▸ rfl))

theorem unfold_set_unref {h : Heap D} {i : Nat} (o : Option (Cell D)) (hi : i < h.length)
    (hz : cnt i (kidsOf h) = 0) : ∀ (f : Nat) (r : Ref D) (t : OTree D), r ≠ .ptr i →
    unfold f h r = some t → unfold f (h.set i o) r = some t :=
  fun f r t hne =>
    (frame_set_unref o hi (cnt_singleton_of_ne hne) hz).unfold (List.mem_singleton_self r) f t

theorem unfoldL_set_unref {h : Heap D} {i : Nat} (o : Option (Cell D)) (hi : i < h.length)
    (hz : cnt i (kidsOf h) = 0) : ∀ (f : Nat) (ks : List (Ref D)) (ts : List (OTree D)), cnt i ks = 0 →
    unfoldL f h ks = some ts → unfoldL f (h.set i o) ks = some ts :=
  fun f ks ts hk => unfoldL_frame (frame_set_unref o hi hk hz) f ks ts (fun _ hj => Reach.root hj)

end TsVerif.C08
