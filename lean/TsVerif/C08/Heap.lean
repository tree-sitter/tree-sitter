import TsVerif.C08.Model
/-!
# C08 — the heap slot by slot: what a cell, its count and the child links look like after one update

Every operation of the model is a sequence of three kinds of update: a count update of one cell
(`setRc`), overwriting one slot (`List.set`), appending a fresh cell.  This file says, for each kind,
what every cell (`cellAt`), every count (`rcOf`), the number of child links to an id
(`cnt id (kidsOf h)`) and the number of live cells are afterwards.
-/
namespace TsVerif.C08

variable {D : Type}

def cnt (id : Nat) : List (Ref D) → Nat
  | [] => 0
  | .ptr j :: rs => (if j = id then 1 else 0) + cnt id rs
  | .inl _ :: rs => cnt id rs

@[simp] theorem cnt_nil (id : Nat) : cnt id ([] : List (Ref D)) = 0 := rfl
theorem cnt_cons_ptr (id j : Nat) (rs : List (Ref D)) : cnt id (.ptr j :: rs) = (if j = id then 1 else 0) + cnt id rs := rfl
theorem cnt_cons_inl (id : Nat) (d : D) (rs : List (Ref D)) : cnt id (.inl d :: rs) = cnt id rs := rfl

theorem cnt_cons (id : Nat) (r : Ref D) (rs : List (Ref D)) : cnt id (r :: rs) = cnt id [r] + cnt id rs := by
  cases r <;> simp [cnt]

theorem cnt_append (id : Nat) : ∀ a b : List (Ref D), cnt id (a ++ b) = cnt id a + cnt id b
  | [], b => (Nat.zero_add _).symm
  | .inl _ :: a, b => cnt_append id a b
  | .ptr j :: a, b => by
    show _ + cnt id (a ++ b) = _ + cnt id a + cnt id b
    rw [cnt_append id a b, Nat.add_assoc]

theorem cnt_pos_of_mem {id : Nat} : ∀ {rs : List (Ref D)}, Ref.ptr id ∈ rs → 0 < cnt id rs
  | r :: rs, h => by
    rw [cnt_cons]
    rcases List.mem_cons.mp h with e | h'
    · rw [← e, cnt_cons_ptr, if_pos rfl]; omega
    · have := cnt_pos_of_mem h'; omega

theorem mem_of_cnt_pos {id : Nat} : ∀ {rs : List (Ref D)}, 0 < cnt id rs → Ref.ptr id ∈ rs
  | .inl _ :: _, h => List.mem_cons_of_mem _ (mem_of_cnt_pos h)
  | .ptr j :: rs, h => by
    by_cases hj : j = id
    · rw [hj]; exact List.mem_cons_self
    · rw [cnt_cons_ptr, if_neg hj, Nat.zero_add] at h
      exact List.mem_cons_of_mem _ (mem_of_cnt_pos h)

theorem cnt_zero_not_mem {i : Nat} {rs : List (Ref D)} (h : cnt i rs = 0) : Ref.ptr i ∉ rs := by
  intro hm; have := cnt_pos_of_mem hm; omega

theorem cellAt_some {h : Heap D} {id : Nat} {c : Cell D} (hc : cellAt h id = some c) :
    h[id]? = some (some c) := by
  unfold cellAt at hc
  split at hc
  · rename_i c' heq; cases hc; exact heq
  · cases hc

theorem cellAt_ge (h : Heap D) (j : Nat) (hj : h.length ≤ j) : cellAt h j = none := by
  unfold cellAt
  rw [List.getElem?_eq_none hj]

theorem cellAt_lt {h : Heap D} {id : Nat} {c : Cell D} (hc : cellAt h id = some c) : id < h.length :=
  (List.getElem?_eq_some_iff.mp (cellAt_some hc)).1

theorem cellAt_set {h : Heap D} {i j : Nat} {o : Option (Cell D)} (hi : i < h.length) :
    cellAt (h.set i o) j = if j = i then o else cellAt h j := by
  unfold cellAt
  rw [List.getElem?_set]
  by_cases hji : j = i
  · subst hji; simp [hi]; cases o <;> rfl
  · have : ¬ i = j := fun e => hji e.symm
    simp [hji, this]

theorem cellAt_set_none (h : Heap D) (i j : Nat) : cellAt (h.set i none) j = if j = i then none else cellAt h j := by
  rcases Nat.lt_or_ge i h.length with hi | hi
  · exact cellAt_set hi
  · rw [List.set_eq_of_length_le hi]
    split
    · next hji => rw [hji]; exact cellAt_ge h i hi
    · rfl

theorem cellAt_append_left {h x : Heap D} {j : Nat} (hj : j < h.length) : cellAt (h ++ x) j = cellAt h j := by
  unfold cellAt
  rw [List.getElem?_append_left hj]

theorem cellAt_append_new (h : Heap D) (c : Cell D) : cellAt (h ++ [some c]) h.length = some c := by
  unfold cellAt
  simp

theorem cellAt_append_one (h : Heap D) (c : Cell D) (j : Nat) :
    cellAt (h ++ [some c]) j = if j = h.length then some c else cellAt h j := by
  split
  · next e => rw [e]; exact cellAt_append_new h c
  · next hne =>
    rcases Nat.lt_or_ge j h.length with hlt | hge
    · exact cellAt_append_left hlt
    · rw [cellAt_ge h j hge, cellAt_ge _ j (by rw [List.length_append, List.length_singleton]; omega)]

theorem rcOf_of_cell {h : Heap D} {i : Nat} {c : Cell D} (hc : cellAt h i = some c) : rcOf h i = c.rc := by
  unfold rcOf; rw [hc]

theorem rcOf_of_dead {h : Heap D} {i : Nat} (hd : cellAt h i = none) : rcOf h i = 0 := by
  unfold rcOf; rw [hd]

theorem cellAt_of_rcOf_pos {h : Heap D} {i : Nat} (hp : 0 < rcOf h i) : ∃ c, cellAt h i = some c := by
  cases hc : cellAt h i with
  | some c => exact ⟨c, rfl⟩
  | none => rw [rcOf_of_dead hc] at hp; cases hp

theorem rcOf_set (h : Heap D) (i j : Nat) (c : Cell D) (hi : i < h.length) :
    rcOf (h.set i (some c)) j = if j = i then c.rc else rcOf h j := by
  unfold rcOf
  rw [cellAt_set hi]
  by_cases hji : j = i <;> simp only [hji, if_true, if_false]

theorem rcOf_set_none (h : Heap D) (i j : Nat) : rcOf (h.set i none) j = if j = i then 0 else rcOf h j := by
  unfold rcOf
  rw [cellAt_set_none]
  by_cases hji : j = i <;> simp only [hji, if_true, if_false]

theorem rcOf_append_one (h : Heap D) (c : Cell D) (j : Nat) :
    rcOf (h ++ [some c]) j = if j = h.length then c.rc else rcOf h j := by
  unfold rcOf
  rw [cellAt_append_one]
  by_cases hj : j = h.length <;> simp only [hj, if_true, if_false]

theorem setRc_of_cell {h : Heap D} {id : Nat} {c : Cell D} (hc : cellAt h id = some c) (f : Nat → Nat) :
    setRc h id f = h.set id (some { c with rc := f c.rc }) := by
  unfold setRc; rw [hc]

theorem setRc_of_dead {h : Heap D} {id : Nat} (hd : cellAt h id = none) (f : Nat → Nat) : setRc h id f = h := by
  unfold setRc; rw [hd]

/-- The `match` is the common shape of `setRc` and of the `write` access of Concurrency.lean: both
rewrite a live cell in place and leave a dead slot alone. -/
theorem cellAt_modify (h : Heap D) (i j : Nat) (g : Cell D → Cell D) :
    cellAt (match cellAt h i with
      | some c => h.set i (some (g c))
      | none => h) j = if j = i then (cellAt h j).map g else cellAt h j := by
  cases hc : cellAt h i with
  | none =>
    show cellAt h j = _
    split
    · next hji => rw [hji, hc]; rfl
    · rfl
  | some c =>
    show cellAt (h.set i _) j = _
    rw [cellAt_set (cellAt_lt hc)]
    split
    · next hji => rw [hji, hc]; rfl
    · rfl

theorem cellAt_setRc (h : Heap D) (i j : Nat) (f : Nat → Nat) :
    cellAt (setRc h i f) j = if j = i then (cellAt h j).map fun c => { c with rc := f c.rc } else cellAt h j :=
  cellAt_modify h i j _

theorem length_setRc (h : Heap D) (id : Nat) (f : Nat → Nat) : (setRc h id f).length = h.length := by
  unfold setRc; split <;> simp

theorem cellAt_setRc_live {h : Heap D} {i : Nat} {c : Cell D} (hc : cellAt h i = some c) (j : Nat) (f : Nat → Nat) :
    cellAt (setRc h i f) j = if j = i then some { c with rc := f c.rc } else cellAt h j := by
  rw [setRc_of_cell hc, cellAt_set (cellAt_lt hc)]

theorem rcOf_setRc {h : Heap D} {i : Nat} {c : Cell D} (hc : cellAt h i = some c) (j : Nat) (f : Nat → Nat) :
    rcOf (setRc h i f) j = if j = i then f c.rc else rcOf h j := by
  unfold rcOf
  rw [cellAt_setRc_live hc]
  by_cases hji : j = i
  · rw [if_pos hji, if_pos hji]
  · rw [if_neg hji, if_neg hji]

theorem rcOf_decr_self {h : Heap D} {i : Nat} {c : Cell D} (hc : cellAt h i = some c) :
    rcOf (decr h i) i = c.rc - 1 := by
  unfold decr
  rw [rcOf_setRc hc, if_pos rfl]

theorem rcOf_setRc_ge (h : Heap D) (i j : Nat) {f : Nat → Nat} (hf : ∀ n, n ≤ f n) :
    rcOf h j ≤ rcOf (setRc h i f) j := by
  unfold rcOf
  rw [cellAt_setRc]
  by_cases hji : j = i
  · rw [if_pos hji]
    cases cellAt h j with
    | none => exact Nat.le_refl _
    | some c => exact hf c.rc
  · rw [if_neg hji]
    exact Nat.le_refl _

def kidsOpt : Option (Cell D) → List (Ref D)
  | some c => c.kids
  | none => []

theorem kidsOf_eq (h : Heap D) : kidsOf h = h.flatMap kidsOpt := by
  unfold kidsOf
  congr 1

theorem kidsOf_nil : kidsOf ([] : Heap D) = [] := rfl

theorem kidsOf_cons (o : Option (Cell D)) (h : Heap D) : kidsOf (o :: h) = kidsOpt o ++ kidsOf h := by
  simp [kidsOf_eq]

theorem kidsOf_append (a b : Heap D) : kidsOf (a ++ b) = kidsOf a ++ kidsOf b := by
  simp [kidsOf_eq]

theorem cnt_kidsOf_set (id : Nat) : ∀ (h : Heap D) (i : Nat) (x o : Option (Cell D)), h[i]? = some x →
    cnt id (kidsOf (h.set i o)) + cnt id (kidsOpt x) = cnt id (kidsOf h) + cnt id (kidsOpt o)
  | [], i, x, o, hx => nomatch hx
  | y :: h, 0, x, o, hx => by
    have : y = x := Option.some.inj hx
    rw [this, List.set_cons_zero, kidsOf_cons, kidsOf_cons, cnt_append, cnt_append]
    omega
  | y :: h, i + 1, x, o, hx => by
    have := cnt_kidsOf_set id h i x o hx
    rw [List.set_cons_succ, kidsOf_cons, kidsOf_cons, cnt_append, cnt_append]
    omega

theorem cnt_kidsOf_set_live (id : Nat) {h : Heap D} {i : Nat} {c : Cell D} (hc : cellAt h i = some c)
    (o : Option (Cell D)) :
    cnt id (kidsOf (h.set i o)) + cnt id c.kids = cnt id (kidsOf h) + cnt id (kidsOpt o) :=
  cnt_kidsOf_set id h i _ o (cellAt_some hc)

theorem cnt_kidsOf_set_dead (id : Nat) {h : Heap D} {i : Nat} (hd : cellAt h i = none) (hi : i < h.length)
    (o : Option (Cell D)) : cnt id (kidsOf (h.set i o)) = cnt id (kidsOf h) + cnt id (kidsOpt o) := by
  refine cnt_kidsOf_set id h i none o ?_
  unfold cellAt at hd
  rw [List.getElem?_eq_getElem hi] at hd ⊢
  cases hx : h[i] with
  | none => rfl
  | some c => rw [hx] at hd; cases hd

theorem cnt_kidsOf_free (id : Nat) {h : Heap D} {i : Nat} {c : Cell D} (hc : cellAt h i = some c) :
    cnt id (kidsOf (h.set i none)) + cnt id c.kids = cnt id (kidsOf h) :=
  cnt_kidsOf_set_live id hc none

theorem cnt_kids_le (a : Nat) : ∀ (h : Heap D) (i : Nat) (c : Cell D), cellAt h i = some c →
    cnt a c.kids ≤ cnt a (kidsOf h) := by
  intro h i c hc
  have := cnt_kidsOf_free a hc
  omega

theorem cnt_kidsOf_setRc (h : Heap D) (id : Nat) (f : Nat → Nat) (a : Nat) :
    cnt a (kidsOf (setRc h id f)) = cnt a (kidsOf h) := by
  cases hc : cellAt h id with
  | none => rw [setRc_of_dead hc]
  | some c =>
    rw [setRc_of_cell hc]
    have := cnt_kidsOf_set_live a hc (some { c with rc := f c.rc })
    simp only [kidsOpt] at this
    omega

theorem exists_parent {i : Nat} (h : Heap D) (hp : 0 < cnt i (kidsOf h)) :
    ∃ p c, cellAt h p = some c ∧ Ref.ptr i ∈ c.kids := by
  have hm := mem_of_cnt_pos hp
  rw [kidsOf_eq, List.mem_flatMap] at hm
  obtain ⟨o, ho, hk⟩ := hm
  cases o with
  | none => cases hk
  | some c =>
    obtain ⟨p, hp⟩ := List.getElem?_of_mem ho
    exact ⟨p, c, by unfold cellAt; rw [hp], hk⟩

theorem liveCount_cons (x : Option (Cell D)) (h : Heap D) :
    liveCount (x :: h) = (if x.isSome then 1 else 0) + liveCount h := by
  unfold liveCount
  rw [List.filter_cons]
  split <;> simp [Nat.add_comm]

theorem liveCount_set : ∀ (h : Heap D) (i : Nat) (x o : Option (Cell D)), h[i]? = some x →
    liveCount (h.set i o) + (if x.isSome then 1 else 0) = liveCount h + (if o.isSome then 1 else 0)
  | [], i, x, o, hx => nomatch hx
  | y :: h, 0, x, o, hx => by
    have : y = x := Option.some.inj hx
    rw [this, List.set_cons_zero, liveCount_cons, liveCount_cons]
    omega
  | y :: h, i + 1, x, o, hx => by
    have := liveCount_set h i x o hx
    rw [List.set_cons_succ, liveCount_cons, liveCount_cons]
    omega

theorem liveCount_set_none {h : Heap D} {i : Nat} {c : Cell D} (hc : cellAt h i = some c) :
    liveCount (h.set i none) + 1 = liveCount h := by
  have := liveCount_set h i _ none (cellAt_some hc)
  simpa using this

theorem liveCount_setRc (h : Heap D) (i : Nat) (f : Nat → Nat) : liveCount (setRc h i f) = liveCount h := by
  cases hc : cellAt h i with
  | none => rw [setRc_of_dead hc]
  | some c =>
    rw [setRc_of_cell hc]
    have := liveCount_set h i _ (some { c with rc := f c.rc }) (cellAt_some hc)
    simpa using this

end TsVerif.C08
