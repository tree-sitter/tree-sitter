import TsVerif.C08.Owns
/-!
# C08 — (re-)parse as an abstract build: reuse = retain, everything else is fresh
-/
namespace TsVerif.C08

variable {D : Type}

mutual
  /-- The contract `reusedLive` is checked once, on the heap the build starts from; the sub-builds run
  on later heaps, to which `Ext` carries liveness over. -/
  theorem reusedLive_ext {h h' : Heap D} (he : Ext h h') : ∀ (s : BuildSpec D), reusedLive h s = true → reusedLive h' s = true
    | .reuse (.ptr i), hl => by unfold reusedLive at hl ⊢; exact Ext.isSome he hl
    | .reuse (.inl _), _ => by unfold reusedLive; rfl
    | .leaf _, _ => by unfold reusedLive; rfl
    | .node _ specs, hl => by unfold reusedLive at hl ⊢; exact reusedLiveL_ext he specs hl
  theorem reusedLiveL_ext {h h' : Heap D} (he : Ext h h') : ∀ (ss : List (BuildSpec D)), reusedLiveL h ss = true → reusedLiveL h' ss = true
    | [], _ => by unfold reusedLiveL; rfl
    | s :: ss, hl => by
      unfold reusedLiveL at hl ⊢
      rw [Bool.and_eq_true] at hl ⊢
      exact ⟨reusedLive_ext he s hl.1, reusedLiveL_ext he ss hl.2⟩
end

mutual
  /-- A build only updates counts and appends cells (no invariant needed). -/
  theorem build_rel {R : Heap D → Heap D → Prop} (refl : ∀ h, R h h) (trans : ∀ {a b c}, R a b → R b c → R a c)
      (hrc : ∀ {h h'}, RcEq h h' → R h h') (happ : ∀ h x, R h (h ++ x)) :
      ∀ (spec : BuildSpec D) (h : Heap D), R h (build h spec).1
    | .reuse r, h => by unfold build; exact hrc (rcEq_retain h r)
    | .leaf d, h => by unfold build; exact refl h
    | .node d specs, h => by
      unfold build
      exact trans (buildKids_rel refl trans hrc happ specs h) (happ _ _)
  theorem buildKids_rel {R : Heap D → Heap D → Prop} (refl : ∀ h, R h h) (trans : ∀ {a b c}, R a b → R b c → R a c)
      (hrc : ∀ {h h'}, RcEq h h' → R h h') (happ : ∀ h x, R h (h ++ x)) :
      ∀ (specs : List (BuildSpec D)) (h : Heap D), R h (buildKids h specs).1
    | [], h => by unfold buildKids; exact refl h
    | s :: ss, h => by
      unfold buildKids
      exact trans (build_rel refl trans hrc happ s h) (buildKids_rel refl trans hrc happ ss _)
end

theorem build_ext : ∀ (spec : BuildSpec D) (h : Heap D), Ext h (build h spec).1 :=
  build_rel Ext.refl Ext.trans RcEq.ext ext_append

theorem buildKids_ext : ∀ (specs : List (BuildSpec D)) (h : Heap D), Ext h (buildKids h specs).1 :=
  buildKids_rel Ext.refl Ext.trans RcEq.ext ext_append

theorem build_deadMono : ∀ (spec : BuildSpec D) (h : Heap D), DeadMono h (build h spec).1 :=
  build_rel DeadMono.refl DeadMono.trans RcEq.deadMono deadMono_append

theorem buildKids_deadMono : ∀ (specs : List (BuildSpec D)) (h : Heap D), DeadMono h (buildKids h specs).1 :=
  buildKids_rel DeadMono.refl DeadMono.trans RcEq.deadMono deadMono_append

mutual
  theorem owns_build : ∀ (spec : BuildSpec D) (h : Heap D), reusedLive h spec = true →
      Owns [] h [] (build h spec).1 [(build h spec).2]
    | .reuse r, h, hl => by
      unfold build
      refine owns_retain r fun id hid => ?_
      subst hid
      unfold reusedLive at hl
      exact Option.isSome_iff_exists.mp hl
    | .leaf d, h, _ => by
      unfold build
      exact Owns.perm h fun _ => rfl
    | .node d specs, h, hl => by
      unfold reusedLive at hl
      unfold build
      exact (owns_buildKids specs h hl).seq (owns_alloc _ _ d)
  theorem owns_buildKids : ∀ (specs : List (BuildSpec D)) (h : Heap D), reusedLiveL h specs = true →
      Owns [] h [] (buildKids h specs).1 (buildKids h specs).2
    | [], h, _ => by
      unfold buildKids
      exact Owns.perm h fun _ => rfl
    | s :: ss, h, hl => by
      unfold reusedLiveL at hl
      rw [Bool.and_eq_true] at hl
      unfold buildKids
      exact (owns_build s h hl.1).par (owns_buildKids ss _ (reusedLiveL_ext (build_ext s h) ss hl.2))
end

theorem build_ok : ∀ (spec : BuildSpec D) (h : Heap D) (X : List (Ref D)), WF h X → reusedLive h spec = true →
    WF (build h spec).1 ((build h spec).2 :: X) ∧ Ext h (build h spec).1 ∧ DeadMono h (build h spec).1 :=
  fun spec h X hw hl => ⟨(owns_build spec h hl X hw).wf, build_ext spec h, build_deadMono spec h⟩

theorem buildKids_ok : ∀ (specs : List (BuildSpec D)) (h : Heap D) (X : List (Ref D)), WF h X →
    reusedLiveL h specs = true →
    WF (buildKids h specs).1 ((buildKids h specs).2 ++ X) ∧ Ext h (buildKids h specs).1 ∧
      DeadMono h (buildKids h specs).1 :=
  fun specs h X hw hl => ⟨(owns_buildKids specs h hl X hw).wf, buildKids_ext specs h, buildKids_deadMono specs h⟩

end TsVerif.C08
