import TsVerif.C08.Shape
/-!
# C08 — the counting invariant and the primitive steps that keep it

`WF h owners`: every id's stored count equals the number of references to it — in `owners` (handle
roots, references an operation in progress holds) plus child links of live cells.  Each primitive
step of the model moves references between the owner list and the heap: `retain` adds an owner,
`decr` drops one, a fresh cell takes over its children from the owner list, `make_mut` exchanges the
owned reference for an exclusively owned one, and an exclusively owned cell can be taken out of the
heap (its children become owned) and put back.  `WFS` is `WF` with a stack of cells whose count has
reached zero and that wait to be freed; dropping an owner is proved once, in that form (`decr_wfs`).
-/
namespace TsVerif.C08

variable {D : Type}

structure WF (h : Heap D) (owners : List (Ref D)) : Prop where
  count : ∀ id, rcOf h id = cnt id owners + cnt id (kidsOf h)
  pos : ∀ id c, cellAt h id = some c → 1 ≤ c.rc

theorem wf_perm {h : Heap D} {a b : List (Ref D)} (hw : WF h a) (hp : ∀ id, cnt id a = cnt id b) : WF h b :=
  ⟨fun id => by rw [hw.count id, hp id], hw.pos⟩

theorem WF.live {h : Heap D} {owners : List (Ref D)} (hw : WF h owners) {id : Nat}
    (hpos : 0 < cnt id owners + cnt id (kidsOf h)) : ∃ c, cellAt h id = some c :=
  cellAt_of_rcOf_pos (by rw [hw.count id]; exact hpos)

theorem WF.mem_live {h : Heap D} {X : List (Ref D)} (hw : WF h X) {i : Nat} (hm : Ref.ptr i ∈ X) :
    ∃ c, cellAt h i = some c :=
  hw.live (Nat.lt_of_lt_of_le (cnt_pos_of_mem hm) (Nat.le_add_right _ _))

theorem WF.head_live {h : Heap D} {X : List (Ref D)} {i : Nat} (hw : WF h (.ptr i :: X)) :
    ∃ c, cellAt h i = some c :=
  hw.mem_live List.mem_cons_self

theorem WF.kids_live {h : Heap D} {X : List (Ref D)} (hw : WF h X) {i j : Nat} {c : Cell D}
    (hc : cellAt h i = some c) (hj : Ref.ptr j ∈ c.kids) : ∃ c', cellAt h j = some c' := by
  apply hw.live
  have := cnt_kids_le j h i c hc
  have := cnt_pos_of_mem hj
  omega

theorem WF.excl {h : Heap D} {X : List (Ref D)} {i : Nat} (hw : WF h (.ptr i :: X)) (h1 : rcOf h i = 1) :
    cnt i X = 0 ∧ cnt i (kidsOf h) = 0 := by
  have := hw.count i
  rw [cnt_cons_ptr, if_pos rfl, h1] at this
  omega

theorem wf_inl_cons {h : Heap D} {X : List (Ref D)} (d : D) : WF h (.inl d :: X) ↔ WF h X :=
  ⟨fun hw => ⟨hw.count, hw.pos⟩, fun hw => ⟨hw.count, hw.pos⟩⟩

theorem wf_comm {h : Heap D} {A B X : List (Ref D)} (hw : WF h (A ++ (B ++ X))) : WF h (B ++ (A ++ X)) :=
  wf_perm hw fun id => by rw [cnt_append, cnt_append, cnt_append, cnt_append]; omega

theorem wf_swap {h : Heap D} {r : Ref D} {A B : List (Ref D)} : WF h (r :: (A ++ B)) ↔ WF h (A ++ r :: B) :=
  ⟨wf_comm (A := [r]), wf_comm (B := [r])⟩

structure WFS (h : Heap D) (owners : List (Ref D)) (st : List Nat) : Prop where
  count : ∀ a, rcOf h a = cnt a owners + cnt a (kidsOf h)
  pos : ∀ a c, cellAt h a = some c → 1 ≤ c.rc ∨ a ∈ st
  stack : ∀ a, a ∈ st → ∃ c, cellAt h a = some c ∧ c.rc = 0
  nodup : st.Nodup

theorem wfs_nil {h : Heap D} {owners : List (Ref D)} (w : WFS h owners []) : WF h owners :=
  ⟨w.count, fun a c hc => (w.pos a c hc).resolve_right (List.not_mem_nil)⟩

theorem wfs_of_wf {h : Heap D} {owners : List (Ref D)} (hw : WF h owners) : WFS h owners [] :=
  ⟨hw.count, fun a c hc => Or.inl (hw.pos a c hc), fun _ ha => (nomatch ha), List.nodup_nil⟩

theorem decr_wfs {h : Heap D} {owners : List (Ref D)} {st : List Nat} {kid : Nat}
    (w : WFS h (.ptr kid :: owners) st) :
    WFS (decr h kid) owners (if rcOf (decr h kid) kid = 0 then kid :: st else st) := by
  have hcnt := w.count kid
  rw [cnt_cons_ptr, if_pos rfl] at hcnt
  obtain ⟨ck, hck⟩ : ∃ c, cellAt h kid = some c := cellAt_of_rcOf_pos (by omega)
  rw [rcOf_of_cell hck] at hcnt
  -- the reference being dropped is itself an owner: the count is positive, the cell is not waiting
  have hnotst : kid ∉ st := by
    intro hm
    obtain ⟨c, hc, hz⟩ := w.stack kid hm
    rw [hck] at hc
    cases hc
    omega
  have hcell : ∀ a, cellAt (decr h kid) a =
      if a = kid then some { ck with rc := ck.rc - 1 } else cellAt h a :=
    fun a => cellAt_setRc_live hck a _
  have hcount : ∀ a, rcOf (decr h kid) a = cnt a owners + cnt a (kidsOf (decr h kid)) := by
    intro a
    have := w.count a
    rw [cnt_cons_ptr] at this
    unfold decr
    rw [rcOf_setRc hck, cnt_kidsOf_setRc]
    by_cases ha : a = kid
    · rw [ha, if_pos rfl, rcOf_of_cell hck] at this; rw [ha, if_pos rfl]; omega
    · rw [if_neg (Ne.symm ha)] at this; rw [if_neg ha]; omega
  have hstack : ∀ a, a ∈ st → ∃ c, cellAt (decr h kid) a = some c ∧ c.rc = 0 := by
    intro a ha
    rw [hcell, if_neg (fun (e : a = kid) => hnotst (e ▸ ha))]
    exact w.stack a ha
  rw [rcOf_decr_self hck]
  by_cases hz0 : ck.rc - 1 = 0
  · rw [if_pos hz0]
    refine ⟨hcount, fun a c hc => ?_, fun a ha => ?_, List.nodup_cons.mpr ⟨hnotst, w.nodup⟩⟩
    · rw [hcell] at hc
      split at hc
      · next e => exact Or.inr (e ▸ List.mem_cons_self)
      · exact (w.pos a c hc).imp_right (List.mem_cons_of_mem _)
    · rcases List.mem_cons.mp ha with h1 | h1
      · rw [h1, hcell, if_pos rfl]; exact ⟨_, rfl, hz0⟩
      · exact hstack a h1
  · rw [if_neg hz0]
    refine ⟨hcount, fun a c hc => ?_, hstack, w.nodup⟩
    rw [hcell] at hc
    split at hc
    · cases hc; exact Or.inl (Nat.one_le_iff_ne_zero.mpr hz0)
    · exact w.pos a c hc

theorem retain_wf {h : Heap D} {owners : List (Ref D)} (r : Ref D) (hw : WF h owners)
    (hlive : ∀ id, r = .ptr id → ∃ c, cellAt h id = some c) : WF (retain h r) (r :: owners) := by
  cases r with
  | inl d => exact (wf_inl_cons d).mpr hw
  | ptr i =>
    obtain ⟨c, hc⟩ := hlive i rfl
    refine ⟨fun a => ?_, fun a c' hc' => ?_⟩
    · have := hw.count a
      show rcOf (setRc h i (· + 1)) a = _ + cnt a (kidsOf (setRc h i (· + 1)))
      rw [rcOf_setRc hc, cnt_kidsOf_setRc, cnt_cons_ptr]
      by_cases hai : a = i
      · rw [hai, rcOf_of_cell hc] at this; rw [hai, if_pos rfl, if_pos rfl]; omega
      · rw [if_neg hai, if_neg (Ne.symm hai)]; omega
    · have hc' : cellAt (setRc h i (· + 1)) a = some c' := hc'
      rw [cellAt_setRc_live hc] at hc'
      split at hc'
      · cases hc'; exact Nat.le_add_left 1 _
      · exact hw.pos a c' hc'

theorem decr_wf {h : Heap D} {owners : List (Ref D)} {i : Nat} (hw : WF h (.ptr i :: owners))
    (hrc : 2 ≤ rcOf h i) : WF (decr h i) owners := by
  obtain ⟨c, hc⟩ := hw.head_live
  have w := decr_wfs (wfs_of_wf hw)
  rw [rcOf_decr_self hc, if_neg (by rw [rcOf_of_cell hc] at hrc; omega)] at w
  exact wfs_nil w

theorem retainAll_wf (ks : List (Ref D)) : ∀ (h : Heap D) (owners : List (Ref D)), WF h owners →
    (∀ id, Ref.ptr id ∈ ks → ∃ c, cellAt h id = some c) → WF (retainAll h ks) (ks ++ owners) := by
  induction ks with
  | nil => intro h owners hw _; exact hw
  | cons k ks ih =>
    intro h owners hw hl
    have h1 : WF (retain h k) (k :: owners) :=
      retain_wf k hw (fun id hk => hl id (hk ▸ List.mem_cons_self))
    refine wf_swap.mpr (ih (retain h k) (k :: owners) h1 (fun id hid => ?_))
    obtain ⟨c, hc⟩ := hl id (List.mem_cons_of_mem _ hid)
    exact Option.isSome_iff_exists.mp (by rw [(rcEq_retain h k).isSome, hc]; rfl)

theorem rcOf_retainAll_ge : ∀ (ks : List (Ref D)) (h : Heap D) (j : Nat), rcOf h j ≤ rcOf (retainAll h ks) j
  | [], _, _ => Nat.le_refl _
  | .inl _ :: ks, h, j => rcOf_retainAll_ge ks h j
  | .ptr i :: ks, h, j =>
    Nat.le_trans (rcOf_setRc_ge h i j (fun n => Nat.le_add_right n 1)) (rcOf_retainAll_ge ks (incr h i) j)

theorem alloc_wf {h : Heap D} {owners : List (Ref D)} (kids : List (Ref D)) (d : D)
    (hw : WF h (kids ++ owners)) : WF (h ++ [some { rc := 1, kids := kids, data := d }]) (.ptr h.length :: owners) := by
  have hfresh := hw.count h.length
  rw [rcOf_of_dead (cellAt_ge h _ (Nat.le_refl _)), cnt_append] at hfresh
  refine ⟨fun id => ?_, fun id c hc => ?_⟩
  · have := hw.count id
    rw [cnt_append] at this
    rw [rcOf_append_one, kidsOf_append, cnt_append, kidsOf_cons, kidsOf_nil, List.append_nil, cnt_cons_ptr]
    show _ = _ + _ + (_ + cnt id kids)
    by_cases hid : id = h.length
    · subst hid; rw [if_pos rfl, if_pos rfl]; show 1 = _; omega
    · rw [if_neg hid, if_neg (Ne.symm hid)]; omega
  · rw [cellAt_append_one] at hc
    split at hc
    · cases hc; exact Nat.le_refl 1
    · exact hw.pos id c hc

theorem clone_wf {h : Heap D} {owners : List (Ref D)} {i : Nat} {c : Cell D} (hw : WF h owners)
    (hc : cellAt h i = some c) : WF (clone h c).1 (.ptr (clone h c).2 :: owners) :=
  alloc_wf c.kids c.data (retainAll_wf c.kids h owners hw (fun _ hid => hw.kids_live hc hid))

theorem makeMut_unshared {h : Heap D} {i : Nat} {c : Cell D} (hc : cellAt h i = some c) (h1 : c.rc = 1) :
    makeMut h i = (h, i) := by
  unfold makeMut
  rw [hc]
  exact if_pos h1

theorem release_shared {h : Heap D} {i : Nat} (h2 : 2 ≤ rcOf h i) : release h (.ptr i) = decr h i := by
  obtain ⟨c, hc⟩ := cellAt_of_rcOf_pos (Nat.lt_of_lt_of_le Nat.zero_lt_two h2)
  rw [rcOf_of_cell hc] at h2
  have : rcOf (decr h i) i ≠ 0 := by rw [rcOf_decr_self hc]; omega
  simp only [release, this, if_false]

/-- The clone retains the original's children; the original, shared, still has two owners. -/
theorem rcOf_clone_shared {h : Heap D} {X : List (Ref D)} {i : Nat} {c : Cell D} (hw : WF h (.ptr i :: X))
    (hc : cellAt h i = some c) (h1 : c.rc ≠ 1) : 2 ≤ rcOf (clone h c).1 i := by
  have hpos := hw.pos i c hc
  have hge := rcOf_retainAll_ge c.kids h i
  have e : rcOf (clone h c).1 i = rcOf (retainAll h c.kids) i := by
    unfold rcOf clone
    rw [cellAt_append_left (by rw [(rcEq_retainAll c.kids h).length_eq]; exact cellAt_lt hc)]
  rw [rcOf_of_cell hc] at hge
  omega

theorem makeMut_shared_eq {h : Heap D} {X : List (Ref D)} {i : Nat} {c : Cell D} (hw : WF h (.ptr i :: X))
    (hc : cellAt h i = some c) (h1 : c.rc ≠ 1) : makeMut h i = (decr (clone h c).1 i, (clone h c).2) := by
  unfold makeMut
  simp only [hc, h1, if_false, release_shared (rcOf_clone_shared hw hc h1)]

/-- In every case `make_mut` hands back a cell with count 1, the same children
and payload, and the invariant holds with the caller owning that cell instead of the argument.
(That every cell that existed before keeps children and payload is `makeMut_ext`.) -/
theorem make_mut_result {h : Heap D} {X : List (Ref D)} {i : Nat} (hw : WF h (.ptr i :: X)) :
    WF (makeMut h i).1 (.ptr (makeMut h i).2 :: X) ∧
    ∃ c c', cellAt h i = some c ∧ cellAt (makeMut h i).1 (makeMut h i).2 = some c' ∧
      c'.rc = 1 ∧ c'.kids = c.kids ∧ c'.data = c.data := by
  obtain ⟨c, hc⟩ := hw.head_live
  by_cases h1 : c.rc = 1
  · rw [makeMut_unshared hc h1]
    exact ⟨hw, c, c, hc, hc, h1, rfl, rfl⟩
  · rw [makeMut_shared_eq hw hc h1]
    have hne : (clone h c).2 ≠ i := by
      have := cellAt_lt hc
      have := (rcEq_retainAll c.kids h).length_eq
      simp only [clone]
      omega
    -- the clone's reference joins the owners, then the original loses one of its ≥ 2 counts
    have hw2 : WF (clone h c).1 (.ptr i :: .ptr (clone h c).2 :: X) :=
      wf_swap (A := [_]).mpr (clone_wf hw hc)
    refine ⟨decr_wf hw2 (rcOf_clone_shared hw hc h1), c, { rc := 1, kids := c.kids, data := c.data }, hc, ?_, rfl, rfl, rfl⟩
    unfold decr
    rw [cellAt_setRc, if_neg hne]
    exact cellAt_append_new _ _

theorem makeMut_ext {h : Heap D} {X : List (Ref D)} {i : Nat} (hw : WF h (.ptr i :: X)) : Ext h (makeMut h i).1 := by
  obtain ⟨c, hc⟩ := hw.head_live
  by_cases h1 : c.rc = 1
  · rw [makeMut_unshared hc h1]; exact Ext.refl h
  · rw [makeMut_shared_eq hw hc h1]
    exact ((rcEq_retainAll c.kids h).ext.trans (ext_append _ _)).trans (rcEq_setRc (clone h c).1 i (· - 1)).ext

/-- If the reference being edited points to a cell with count 1 (the only case
in which `ts_subtree_make_mut` returns the cell itself for writing), then under the invariant that
reference is the *only* one: no other owner in the context (other handles, other pending
references) and no child link of any live cell points to it. -/
theorem writes_exclusive {h : Heap D} {X : List (Ref D)} {i : Nat} (hw : WF h (.ptr i :: X))
    (h1 : rcOf h i = 1) : cnt i X = 0 ∧ cnt i (kidsOf h) = 0 ∧ (makeMut h i) = (h, i) := by
  obtain ⟨c, hc⟩ := hw.head_live
  exact ⟨(hw.excl h1).1, (hw.excl h1).2, makeMut_unshared hc ((rcOf_of_cell hc).symm.trans h1)⟩

/-- Clause 7: the cell `make_mut` hands to the writer has count 1 and no other reference at all — no
other owner in `X`, no child link — and every cell that existed before keeps children and payload. -/
theorem make_mut_never_mutates_shared {h : Heap D} {X : List (Ref D)} {i : Nat} (hw : WF h (.ptr i :: X)) :
    rcOf (makeMut h i).1 (makeMut h i).2 = 1 ∧
    cnt (makeMut h i).2 X = 0 ∧ cnt (makeMut h i).2 (kidsOf (makeMut h i).1) = 0 ∧
    Ext h (makeMut h i).1 := by
  obtain ⟨hw', c, c', _, hc', hrc, _, _⟩ := make_mut_result hw
  have h1 : rcOf (makeMut h i).1 (makeMut h i).2 = 1 := (rcOf_of_cell hc').trans hrc
  exact ⟨h1, (hw'.excl h1).1, (hw'.excl h1).2, makeMut_ext hw⟩

theorem takeOut_wf {h : Heap D} {X : List (Ref D)} {i : Nat} {c : Cell D} (hw : WF h (.ptr i :: X))
    (hc : cellAt h i = some c) (h1 : c.rc = 1) : WF (h.set i none) (c.kids ++ X) := by
  refine ⟨fun j => ?_, fun j c' hc' => ?_⟩
  · have hk := cnt_kidsOf_free j hc
    have hwj := hw.count j
    rw [cnt_cons_ptr] at hwj
    rw [rcOf_set_none, cnt_append]
    by_cases hji : j = i
    · rw [hji, if_pos rfl, rcOf_of_cell hc] at hwj
      rw [hji] at hk ⊢
      rw [if_pos rfl]
      omega
    · rw [if_neg (Ne.symm hji)] at hwj
      rw [if_neg hji]
      omega
  · rw [cellAt_set_none] at hc'
    split at hc'
    · cases hc'
    · exact hw.pos j c' hc'

theorem putBack_wf {h : Heap D} {X ks : List (Ref D)} {i : Nat} (d : D) (hw : WF h (ks ++ X))
    (hd : cellAt h i = none) (hi : i < h.length) :
    WF (h.set i (some { rc := 1, kids := ks, data := d })) (.ptr i :: X) := by
  refine ⟨fun j => ?_, fun j c' hc' => ?_⟩
  · have hk : _ = _ + cnt j ks := cnt_kidsOf_set_dead j hd hi (some { rc := 1, kids := ks, data := d })
    have hwj := hw.count j
    rw [cnt_append] at hwj
    rw [rcOf_set _ _ _ _ hi, cnt_cons_ptr, hk]
    by_cases hji : j = i
    · subst hji
      rw [rcOf_of_dead hd] at hwj
      rw [if_pos rfl, if_pos rfl]
      show 1 = _
      omega
    · rw [if_neg hji, if_neg (Ne.symm hji)]
      omega
  · rw [cellAt_set hi] at hc'
    split at hc'
    · cases hc'; exact Nat.le_refl 1
    · exact hw.pos j c' hc'

end TsVerif.C08
