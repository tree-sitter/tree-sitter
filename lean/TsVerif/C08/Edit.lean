import TsVerif.C08.Owns
/-!
# C08 — `ts_subtree_edit`: counts stay exact, and the cells it writes are its own

`editWrites`: the plain-write footprint of an edit — the id of every cell rewritten in place (the
`set`s of `editRef`; a fresh clone made by `make_mut` counts too).  All other accesses of an edit are
appends of fresh cells, reads, and atomic count updates.  `owns_editRef`: the edit as an ownership
triple (Owns.lean) with that footprint.
-/
namespace TsVerif.C08

variable {D : Type}

mutual
  def editWrites (h : Heap D) (r : Ref D) : EditSpec D → List Nat
    | .skip => []
    | .visit _ _ specs =>
      match r with
      | .inl _ => []
      | .ptr id0 =>
        let (h1, id) := makeMut h id0
        match cellAt h1 id with
        | some c => id :: editKidsWrites (h1.set id none) c.kids specs
        | none => []
  def editKidsWrites (h : Heap D) : List (Ref D) → List (EditSpec D) → List Nat
    | [], _ => []
    | _, [] => []
    | k :: ks, s :: ss => editWrites h k s ++ editKidsWrites (editRef h k s).1 ks ss
end

mutual
  theorem owns_editRef : ∀ (spec : EditSpec D) (h : Heap D) (r : Ref D),
      Owns (editWrites h r spec) h [r] (editRef h r spec).1 [(editRef h r spec).2]
    | .skip, h, r => by
      unfold editRef editWrites
      exact Owns.perm h fun _ => rfl
    | .visit nd promote specs, h, .inl d => by
      unfold editRef editWrites
      cases promote with
      | true => exact (Owns.perm h (A := [.inl d]) (B := []) fun _ => rfl).seq (owns_alloc h [] nd)
      | false => exact Owns.perm h fun _ => rfl
    | .visit nd promote specs, h, .ptr id0 => by
      -- which cell `make_mut` hands back is known only under the invariant: the context comes first
      intro X hw
      obtain ⟨_, c, c', _, hc', hrc, _, _⟩ := make_mut_result hw
      have o := (owns_makeMut h id0).seq
        (Owns.rewrite hc' hrc nd (owns_editKids specs ((makeMut h id0).1.set (makeMut h id0).2 none) c'.kids))
      unfold editRef editWrites
      simp only [hc']
      exact o X hw
  theorem owns_editKids : ∀ (specs : List (EditSpec D)) (h : Heap D) (ks : List (Ref D)),
      Owns (editKidsWrites h ks specs) h ks (editKids h ks specs).1 (editKids h ks specs).2
    | _, h, [] => by
      unfold editKids editKidsWrites
      exact Owns.perm h fun _ => rfl
    | [], h, k :: ks => by
      unfold editKids editKidsWrites
      exact Owns.perm h fun _ => rfl
    | s :: ss, h, k :: ks => by
      unfold editKids editKidsWrites
      exact (owns_editRef s h k).par (owns_editKids ss (editRef h k s).1 ks)
end

/-- The ownership skeleton of `ts_subtree_edit` keeps the counting invariant: the caller hands
in one owned reference and gets one owned reference back. Freed ids are never reused. -/
theorem editRef_ok : ∀ (spec : EditSpec D) (h : Heap D) (r : Ref D) (X : List (Ref D)), WF h (r :: X) →
    WF (editRef h r spec).1 ((editRef h r spec).2 :: X) ∧ DeadMono h (editRef h r spec).1 :=
  fun spec h r X hw => ⟨(owns_editRef spec h r X hw).wf, (owns_editRef spec h r X hw).deadMono⟩

theorem editKids_ok : ∀ (specs : List (EditSpec D)) (h : Heap D) (ks : List (Ref D)) (X : List (Ref D)),
    WF h (ks ++ X) → WF (editKids h ks specs).1 ((editKids h ks specs).2 ++ X) ∧ DeadMono h (editKids h ks specs).1 :=
  fun specs h ks X hw => ⟨(owns_editKids specs h ks X hw).wf, (owns_editKids specs h ks X hw).deadMono⟩

theorem editRef_footprint : ∀ (spec : EditSpec D) (h : Heap D) (r : Ref D) (X : List (Ref D)),
    WF h (r :: X) →
    Frame h (editRef h r spec).1 X ∧ ∀ i, i ∈ editWrites h r spec → ¬ Reach h X i :=
  fun spec h r X hw => ⟨(owns_editRef spec h r X hw).frame, (owns_editRef spec h r X hw).footprint⟩

theorem editKids_footprint : ∀ (specs : List (EditSpec D)) (h : Heap D) (ks : List (Ref D))
    (X : List (Ref D)), WF h (ks ++ X) →
    Frame h (editKids h ks specs).1 X ∧ ∀ i, i ∈ editKidsWrites h ks specs → ¬ Reach h X i :=
  fun specs h ks X hw => ⟨(owns_editKids specs h ks X hw).frame, (owns_editKids specs h ks X hw).footprint⟩

theorem editRef_frame : ∀ (spec : EditSpec D) (h : Heap D) (r : Ref D) (X : List (Ref D)), WF h (r :: X) →
    ∀ x, x ∈ X → ∀ (f : Nat) (t : OTree D), unfold f h x = some t → unfold f (editRef h r spec).1 x = some t :=
  fun spec h r X hw _ hx => (editRef_footprint spec h r X hw).1.unfold hx

theorem editKids_frame : ∀ (specs : List (EditSpec D)) (h : Heap D) (ks : List (Ref D)) (X : List (Ref D)),
    WF h (ks ++ X) → ∀ x, x ∈ X → ∀ (f : Nat) (t : OTree D), unfold f h x = some t →
      unfold f (editKids h ks specs).1 x = some t :=
  fun specs h ks X hw _ hx => (editKids_footprint specs h ks X hw).1.unfold hx

end TsVerif.C08
