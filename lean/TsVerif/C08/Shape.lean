import TsVerif.C08.Heap
/-!
# C08 — how two heaps can be related: same cells up to counts, cells kept, freed ids kept

`RcEq h h'`: `h'` is `h` with other counts — what `retain`, `retainAll` and the child loop of a
release do.  `Ext h h'`: every live cell of `h` is still there with the same children and payload
(counts may differ, cells may have been added).  `DeadMono h h'`: no slot disappears, no freed id is
live again.  A release is a composition of count updates and frees, so it stays inside every
preorder that contains those two kinds of step (`release_rel`).
-/
namespace TsVerif.C08

variable {D : Type}

structure RcEq (h h' : Heap D) : Prop where
  length_eq : h'.length = h.length
  cell : ∀ j, (cellAt h' j).map (fun c => (c.kids, c.data)) = (cellAt h j).map (fun c => (c.kids, c.data))

theorem RcEq.refl (h : Heap D) : RcEq h h := ⟨rfl, fun _ => rfl⟩

theorem RcEq.symm {h h' : Heap D} (e : RcEq h h') : RcEq h' h := ⟨e.length_eq.symm, fun j => (e.cell j).symm⟩

theorem RcEq.trans {a b c : Heap D} (e1 : RcEq a b) (e2 : RcEq b c) : RcEq a c :=
  ⟨e2.length_eq.trans e1.length_eq, fun j => (e2.cell j).trans (e1.cell j)⟩

theorem rcEq_setRc (h : Heap D) (i : Nat) (f : Nat → Nat) : RcEq h (setRc h i f) := by
  refine ⟨length_setRc h i f, fun j => ?_⟩
  rw [cellAt_setRc]
  split
  · cases cellAt h j <;> rfl
  · rfl

theorem rcEq_retain (h : Heap D) : ∀ r : Ref D, RcEq h (retain h r)
  | .inl _ => RcEq.refl h
  | .ptr i => rcEq_setRc h i _

theorem rcEq_retainAll : ∀ (ks : List (Ref D)) (h : Heap D), RcEq h (retainAll h ks)
  | [], h => RcEq.refl h
  | k :: ks, h => (rcEq_retain h k).trans (rcEq_retainAll ks (retain h k))

theorem cell_retainAll (ks : List (Ref D)) : ∀ (h : Heap D) (j : Nat),
    (cellAt (retainAll h ks) j).map (fun c => (c.kids, c.data)) = (cellAt h j).map (fun c => (c.kids, c.data)) :=
  fun h => (rcEq_retainAll ks h).cell

theorem rcEq_releaseKids : ∀ (ks : List (Ref D)) (hs : Heap D × List Nat), RcEq hs.1 (ks.foldl releaseKid hs).1
  | [], _ => RcEq.refl _
  | .inl _ :: ks, hs => rcEq_releaseKids ks hs
  | .ptr kid :: ks, hs => by
    refine RcEq.trans ?_ (rcEq_releaseKids ks (releaseKid hs (.ptr kid)))
    simp only [releaseKid]
    split <;> exact rcEq_setRc hs.1 kid (· - 1)

theorem RcEq.isSome {h h' : Heap D} (e : RcEq h h') (j : Nat) : (cellAt h' j).isSome = (cellAt h j).isSome := by
  have := congrArg Option.isSome (e.cell j)
  rwa [Option.isSome_map, Option.isSome_map] at this

def Ext (h h' : Heap D) : Prop :=
  ∀ j c, cellAt h j = some c → ∃ c', cellAt h' j = some c' ∧ c'.kids = c.kids ∧ c'.data = c.data

theorem Ext.refl (h : Heap D) : Ext h h := fun _ c hc => ⟨c, hc, rfl, rfl⟩

theorem Ext.trans {a b c : Heap D} (h1 : Ext a b) (h2 : Ext b c) : Ext a c := by
  intro j x hx
  obtain ⟨y, hy, hk, hd⟩ := h1 j x hx
  obtain ⟨z, hz, hk', hd'⟩ := h2 j y hy
  exact ⟨z, hz, hk'.trans hk, hd'.trans hd⟩

theorem RcEq.ext {h h' : Heap D} (e : RcEq h h') : Ext h h' := by
  intro j c hc
  have ej := e.cell j
  rw [hc] at ej
  cases hc' : cellAt h' j with
  | none => rw [hc'] at ej; cases ej
  | some c' =>
    rw [hc'] at ej
    simp only [Option.map_some, Option.some.injEq, Prod.mk.injEq] at ej
    exact ⟨c', rfl, ej.1, ej.2⟩

theorem ext_append (h x : Heap D) : Ext h (h ++ x) := by
  intro j c hc
  exact ⟨c, by rw [cellAt_append_left (cellAt_lt hc)]; exact hc, rfl, rfl⟩

theorem Ext.isSome {h h' : Heap D} (he : Ext h h') {i : Nat} (hl : (cellAt h i).isSome = true) :
    (cellAt h' i).isSome = true := by
  cases hc : cellAt h i with
  | none => rw [hc] at hl; cases hl
  | some c => obtain ⟨c', hc', _, _⟩ := he i c hc; rw [hc']; rfl

def DeadMono (h h' : Heap D) : Prop :=
  h.length ≤ h'.length ∧ ∀ j, j < h.length → cellAt h j = none → cellAt h' j = none

theorem DeadMono.refl (h : Heap D) : DeadMono h h := ⟨Nat.le_refl _, fun _ _ hj => hj⟩

theorem DeadMono.trans {a b c : Heap D} (h1 : DeadMono a b) (h2 : DeadMono b c) : DeadMono a c :=
  ⟨Nat.le_trans h1.1 h2.1, fun j hj hd => h2.2 j (Nat.lt_of_lt_of_le hj h1.1) (h1.2 j hj hd)⟩

theorem RcEq.deadMono {h h' : Heap D} (e : RcEq h h') : DeadMono h h' := by
  refine ⟨Nat.le_of_eq e.length_eq.symm, fun j _ hd => ?_⟩
  have := e.isSome j
  rw [hd] at this
  exact Option.isSome_eq_false_iff.mp this |> Option.isNone_iff_eq_none.mp

theorem deadMono_append (h x : Heap D) : DeadMono h (h ++ x) :=
  ⟨by simp, fun j hj hd => by rw [cellAt_append_left hj]; exact hd⟩

theorem deadMono_set_none (h : Heap D) (i : Nat) : DeadMono h (h.set i none) := by
  refine ⟨by simp, fun j _ hd => ?_⟩
  rw [cellAt_set_none]
  split
  · rfl
  · exact hd

theorem DeadMono.slot {h h' : Heap D} {i : Nat} (hd : DeadMono (h.set i none) h') (hi : i < h.length) :
    cellAt h' i = none ∧ i < h'.length := by
  have hi2 : i < (h.set i none).length := by rw [List.length_set]; exact hi
  exact ⟨hd.2 i hi2 (by rw [cellAt_set_none, if_pos rfl]), Nat.lt_of_lt_of_le hi2 hd.1⟩

section
variable {R : Heap D → Heap D → Prop} (refl : ∀ h, R h h) (trans : ∀ {a b c}, R a b → R b c → R a c)
  (hrc : ∀ {h h'}, RcEq h h' → R h h') (hfree : ∀ h i, R h (h.set i none))
include refl trans hrc hfree

theorem releaseLoop_rel : ∀ (f : Nat) (h : Heap D) (st : List Nat), R h (releaseLoop f h st)
  | 0, h, _ => refl h
  | _ + 1, h, [] => refl h
  | f + 1, h, id :: st => by
    simp only [releaseLoop]
    split
    · exact trans (trans (hrc (rcEq_releaseKids _ (h, st))) (hfree _ id)) (releaseLoop_rel f _ _)
    · exact releaseLoop_rel f h st

theorem release_rel (h : Heap D) : ∀ r : Ref D, R h (release h r)
  | .inl _ => refl h
  | .ptr i => by
    simp only [release]
    split
    · exact trans (hrc (rcEq_setRc h i _)) (releaseLoop_rel refl trans hrc hfree _ _ _)
    · exact hrc (rcEq_setRc h i _)

end

theorem deadMono_release (h : Heap D) (r : Ref D) : DeadMono h (release h r) :=
  release_rel DeadMono.refl DeadMono.trans RcEq.deadMono deadMono_set_none h r

/-- What lets a height function of `h` serve for `h'` (`hgt_kidsFrom`, Acyclic.lean). -/
def KidsFrom (h h' : Heap D) : Prop :=
  h.length ≤ h'.length ∧ ∀ i c', cellAt h' i = some c' → ∃ c, cellAt h i = some c ∧ c.kids = c'.kids

theorem KidsFrom.refl (h : Heap D) : KidsFrom h h := ⟨Nat.le_refl _, fun _ c hc => ⟨c, hc, rfl⟩⟩

theorem KidsFrom.trans {a b c : Heap D} (h1 : KidsFrom a b) (h2 : KidsFrom b c) : KidsFrom a c := by
  refine ⟨Nat.le_trans h1.1 h2.1, fun i z hz => ?_⟩
  obtain ⟨y, hy, hyk⟩ := h2.2 i z hz
  obtain ⟨x, hx, hxk⟩ := h1.2 i y hy
  exact ⟨x, hx, hxk.trans hyk⟩

theorem RcEq.kidsFrom {h h' : Heap D} (e : RcEq h h') : KidsFrom h h' :=
  ⟨Nat.le_of_eq e.length_eq.symm, fun i c' hc' => by
    obtain ⟨c, hc, hk, _⟩ := e.symm.ext i c' hc'
    exact ⟨c, hc, hk⟩⟩

theorem kidsFrom_set_none (h : Heap D) (i : Nat) : KidsFrom h (h.set i none) := by
  refine ⟨by rw [List.length_set]; exact Nat.le_refl _, fun j c' hc' => ?_⟩
  rw [cellAt_set_none] at hc'
  split at hc'
  · cases hc'
  · exact ⟨c', hc', rfl⟩

theorem kidsFrom_release (h : Heap D) (r : Ref D) : KidsFrom h (release h r) :=
  release_rel KidsFrom.refl KidsFrom.trans RcEq.kidsFrom kidsFrom_set_none h r

theorem deadMono_makeMut (h : Heap D) (i : Nat) : DeadMono h (makeMut h i).1 := by
  unfold makeMut
  split
  · split
    · exact DeadMono.refl h
    · next c _ _ =>
      exact ((rcEq_retainAll c.kids h).deadMono.trans (deadMono_append _ _)).trans
        (deadMono_release (clone h c).1 (.ptr i))
  · exact DeadMono.refl h

end TsVerif.C08
