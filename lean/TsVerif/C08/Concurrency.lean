import TsVerif.C08.Heap
/-!
# C08 — small-step accesses of concurrent operations and their commutation

Operations on *distinct* tree handles running on different threads touch the shared heap through
these atomic accesses (sequential consistency is the tied assumption, see the check's atomic.h
obligations):

* `inc i` / `dec i` — `atomic_inc` / `atomic_dec` of a reference count; `dec` returns the new value
  (the thread that reads 0 frees the cell);
* `read i`        — read the immutable part (children, payload) of a cell;
* `write i …`     — rewrite children/payload of a cell — only ever done to a cell that the writing
                    thread owns exclusively (`writes_exclusive`, `edit_isolated`);
* `free i`        — give the cell back (after the thread's own `dec` returned 0).

`indep a b` is the syntactic independence of two accesses of different threads: different cells,
or two increments, or a read against anything that only changes the count.  Independent accesses
commute — same heap (cell by cell) and same values returned to each thread — and therefore every
interleaving of two threads' access sequences whose cross pairs are independent is equivalent to
running one thread after the other.
-/
namespace TsVerif.C08

variable {D : Type}

inductive SAcc (D : Type) where
  | inc (i : Nat)
  | dec (i : Nat)
  | read (i : Nat)
  | write (i : Nat) (kids : List (Ref D)) (data : D)
  | free (i : Nat)

def SAcc.cell : SAcc D → Nat
  | .inc i | .dec i | .read i | .write i _ _ | .free i => i

/-- What an access returns: `inc`, `write`, `free` nothing; `dec` the new count; `read` children and payload. -/
inductive Obs (D : Type) where
  | none
  | count (n : Nat)
  | cell (c : Option (List (Ref D) × D))

def SAcc.eff : SAcc D → Option (Cell D) → Option (Cell D)
  | .inc _, c => c.map fun c => { c with rc := c.rc + 1 }
  | .dec _, c => c.map fun c => { c with rc := c.rc - 1 }
  | .read _, c => c
  | .write _ ks d, c => c.map fun c => { c with kids := ks, data := d }
  | .free _, _ => Option.none

/-- Value returned, as a function of the accessed cell *before* the access. -/
def SAcc.obs : SAcc D → Option (Cell D) → Obs D
  | .inc _, _ => .none
  | .dec _, c => .count (match c with | some c => c.rc - 1 | Option.none => 0)
  | .read _, c => .cell (c.map fun c => (c.kids, c.data))
  | .write _ _ _, _ => .none
  | .free _, _ => .none

def sstep (h : Heap D) : SAcc D → Heap D × Obs D
  | .inc i => (incr h i, .none)
  | .dec i => (decr h i, .count (rcOf (decr h i) i))
  | .read i => (h, .cell ((cellAt h i).map fun c => (c.kids, c.data)))
  | .write i ks d =>
    (match cellAt h i with
     | some c => h.set i (some { c with kids := ks, data := d })
     | Option.none => h, .none)
  | .free i => (h.set i Option.none, .none)

theorem sstep_cell (h : Heap D) (a : SAcc D) (j : Nat) :
    cellAt (sstep h a).1 j = if j = a.cell then a.eff (cellAt h j) else cellAt h j := by
  cases a with
  | inc i => exact cellAt_setRc h i j (· + 1)
  | dec i => exact cellAt_setRc h i j (· - 1)
  | read i => exact (ite_self _).symm
  | free i => exact cellAt_set_none h i j
  | write i ks d => exact cellAt_modify h i j _

theorem sstep_obs (h : Heap D) (a : SAcc D) : (sstep h a).2 = a.obs (cellAt h a.cell) := by
  cases a with
  | dec i =>
    show Obs.count (rcOf (setRc h i (· - 1)) i) = Obs.count (match cellAt h i with | some c => c.rc - 1 | none => 0)
    unfold rcOf
    rw [cellAt_setRc, if_pos rfl]
    cases cellAt h i <;> rfl
  | _ => rfl

/-- Heaps are compared cell by cell (freed and never-allocated ids look the same). -/
def HeapEq (h h' : Heap D) : Prop := ∀ j, cellAt h j = cellAt h' j

theorem HeapEq.refl (h : Heap D) : HeapEq h h := fun _ => rfl
theorem HeapEq.symm {h h' : Heap D} (e : HeapEq h h') : HeapEq h' h := fun j => (e j).symm
theorem HeapEq.trans {a b c : Heap D} (e1 : HeapEq a b) (e2 : HeapEq b c) : HeapEq a c := fun j => (e1 j).trans (e2 j)

theorem sstep_congr {h h' : Heap D} (e : HeapEq h h') (a : SAcc D) :
    HeapEq (sstep h a).1 (sstep h' a).1 ∧ (sstep h a).2 = (sstep h' a).2 :=
  ⟨fun j => by rw [sstep_cell, sstep_cell, e j], by rw [sstep_obs, sstep_obs, e a.cell]⟩

def sameCellOk : SAcc D → SAcc D → Prop
  | .inc _, .inc _ => True
  | .read _, .read _ => True
  | .read _, .inc _ | .inc _, .read _ => True
  | .read _, .dec _ | .dec _, .read _ => True
  | _, _ => False

def indep (a b : SAcc D) : Prop := a.cell ≠ b.cell ∨ sameCellOk a b

theorem indep_symm {a b : SAcc D} (h : indep a b) : indep b a :=
  h.imp Ne.symm (by cases a <;> cases b <;> exact id)

/-- On one cell: a read changes nothing, count updates leave alone what a read returns, and an
increment returns nothing — so the admitted pairs commute in effect and in returned values. -/
theorem sameCell_commute {a b : SAcc D} (hs : sameCellOk a b) (c : Option (Cell D)) :
    b.eff (a.eff c) = a.eff (b.eff c) ∧ a.obs (b.eff c) = a.obs c ∧ b.obs (a.eff c) = b.obs c := by
  cases a <;> cases b <;> first | exact hs.elim | (cases c <;> exact ⟨rfl, rfl, rfl⟩)

theorem accesses_commute (h : Heap D) (a b : SAcc D) (hi : indep a b) :
    HeapEq (sstep (sstep h a).1 b).1 (sstep (sstep h b).1 a).1 ∧
    (sstep h a).2 = (sstep (sstep h b).1 a).2 ∧ (sstep (sstep h a).1 b).2 = (sstep h b).2 := by
  by_cases hc : a.cell = b.cell
  · have k := sameCell_commute (hi.resolve_left (not_not_intro hc))
    refine ⟨fun j => ?_, ?_, ?_⟩
    · rw [sstep_cell, sstep_cell, sstep_cell, sstep_cell, ← hc]
      split
      · exact (k _).1
      · rfl
    · rw [sstep_obs, sstep_obs, sstep_cell, if_pos hc, (k _).2.1]
    · rw [sstep_obs, sstep_obs, sstep_cell, if_pos hc.symm, (k _).2.2]
  · refine ⟨fun j => ?_, ?_, ?_⟩
    · rw [sstep_cell, sstep_cell, sstep_cell, sstep_cell]
      by_cases ha : j = a.cell
      · have hb : j ≠ b.cell := fun e => hc (ha.symm.trans e)
        simp only [if_pos ha, if_neg hb]
      · simp only [if_neg ha]
    · rw [sstep_obs, sstep_obs, sstep_cell, if_neg hc]
    · rw [sstep_obs, sstep_obs, sstep_cell, if_neg (Ne.symm hc)]

/-- The one kind of cross pair of copy ‖ delete (or copy ‖ the `make_mut` release of an edit) on handles
sharing their root that is not `indep`: `inc i` against `dec i`.  With a count of at least 2 (both
handles hold a reference) the two orders give the same heap, and the `dec` returns a NON-ZERO count in
both orders (`rc` resp. `rc - 1`): the decrementing thread does not free in either order. -/
theorem inc_dec_commute (h : Heap D) (i : Nat) (h2 : 2 ≤ rcOf h i) :
    HeapEq (sstep (sstep h (.inc i)).1 (.dec i)).1 (sstep (sstep h (.dec i)).1 (.inc i)).1 ∧
    (sstep (sstep h (.inc i)).1 (.dec i)).2 = .count (rcOf h i) ∧
    (sstep h (.dec i)).2 = .count (rcOf h i - 1) ∧ rcOf h i ≠ 0 ∧ rcOf h i - 1 ≠ 0 := by
  cases hc : cellAt h i with
  | none => simp [rcOf, hc] at h2
  | some c =>
    rw [rcOf_of_cell hc] at h2 ⊢
    refine ⟨fun j => ?_, ?_, ?_, by omega, by omega⟩
    · rw [sstep_cell, sstep_cell, sstep_cell, sstep_cell]
      simp only [SAcc.cell]
      by_cases hj : j = i
      · simp only [hj, if_true, hc, SAcc.eff, Option.map_some]
        congr 2
        omega
      · simp only [hj, if_false]
    · rw [sstep_obs, sstep_cell]
      simp only [SAcc.cell, if_true, hc, SAcc.eff, SAcc.obs, Option.map_some, Nat.add_sub_cancel]
    · rw [sstep_obs]
      simp only [SAcc.cell, hc, SAcc.obs]

def srun (h : Heap D) : List (SAcc D) → Heap D × List (Obs D)
  | [] => (h, [])
  | a :: rest =>
    let r := sstep h a
    let rr := srun r.1 rest
    (rr.1, r.2 :: rr.2)

/-- Run an interleaving: each access is tagged with its thread (`true` = thread A); returns the heap
and the values returned to A and to B, in each thread's own order. -/
def srunT (h : Heap D) : List (Bool × SAcc D) → Heap D × List (Obs D) × List (Obs D)
  | [] => (h, [], [])
  | (t, a) :: rest =>
    let r := sstep h a
    let rr := srunT r.1 rest
    if t then (rr.1, r.2 :: rr.2.1, rr.2.2) else (rr.1, rr.2.1, r.2 :: rr.2.2)

def projT (t : Bool) (S : List (Bool × SAcc D)) : List (SAcc D) := (S.filter (·.1 == t)).map (·.2)

theorem projT_cons_same (t : Bool) (a : SAcc D) (S : List (Bool × SAcc D)) :
    projT t ((t, a) :: S) = a :: projT t S := by simp [projT]

theorem projT_cons_other (t : Bool) (a : SAcc D) (S : List (Bool × SAcc D)) :
    projT t ((!t, a) :: S) = projT t S := by cases t <;> simp [projT]

theorem mem_projT {t : Bool} {a : SAcc D} {S : List (Bool × SAcc D)} : a ∈ projT t S ↔ (t, a) ∈ S := by
  simp only [projT, List.mem_map, List.mem_filter, beq_iff_eq]
  constructor
  · rintro ⟨⟨t', a'⟩, ⟨hm, rfl⟩, rfl⟩; exact hm
  · exact fun hm => ⟨(t, a), ⟨hm, rfl⟩, rfl⟩

theorem srun_congr : ∀ (A : List (SAcc D)) {h h' : Heap D}, HeapEq h h' →
    HeapEq (srun h A).1 (srun h' A).1 ∧ (srun h A).2 = (srun h' A).2
  | [], h, h', e => ⟨e, rfl⟩
  | a :: A, h, h', e => by
    have c := sstep_congr e a
    have ih := srun_congr A c.1
    simp only [srun]
    exact ⟨ih.1, by rw [c.2, ih.2]⟩

/-- The step of `interleaving_eq_sequential`: an access of the other thread is pulled in front of what
this thread still has to run. -/
theorem move_across : ∀ (A : List (SAcc D)) (h : Heap D) (b : SAcc D), (∀ a, a ∈ A → indep a b) →
    HeapEq (sstep (srun h A).1 b).1 (srun (sstep h b).1 A).1 ∧
    (sstep (srun h A).1 b).2 = (sstep h b).2 ∧ (srun h A).2 = (srun (sstep h b).1 A).2
  | [], h, b, _ => ⟨HeapEq.refl _, rfl, rfl⟩
  | a :: A, h, b, hi => by
    have hab := accesses_commute h a b (hi a List.mem_cons_self)
    have ih := move_across A (sstep h a).1 b (fun x hx => hi x (List.mem_cons_of_mem _ hx))
    have cg := srun_congr A hab.1
    simp only [srun]
    refine ⟨ih.1.trans cg.1, ?_, ?_⟩
    · rw [ih.2.1, hab.2.2]
    · rw [hab.2.1, ih.2.2, cg.2]

/-- For **every** interleaving `S` of the access sequences of two
threads whose cross pairs are independent — different cells, or count updates / reads of the same
cell — the final heap equals (cell by cell) the heap after "thread A, then thread B", and each thread
is returned exactly the values it would get in that sequential execution (in particular every
`atomic_dec` returns the same count, so the same thread frees each cell).  The hypothesis asks
independence of ALL cross pairs, whatever their order in `S`: more than an induction along `S` needs,
and what a caller can establish without knowing the schedule. -/
theorem interleaving_eq_sequential : ∀ (S : List (Bool × SAcc D)) (h : Heap D),
    (∀ a b, (true, a) ∈ S → (false, b) ∈ S → indep a b) →
    HeapEq (srunT h S).1 (srun (srun h (projT true S)).1 (projT false S)).1 ∧
    (srunT h S).2.1 = (srun h (projT true S)).2 ∧
    (srunT h S).2.2 = (srun (srun h (projT true S)).1 (projT false S)).2
  | [], h, _ => ⟨HeapEq.refl _, rfl, rfl⟩
  | (true, a) :: S, h, hi => by
    have ih := interleaving_eq_sequential S (sstep h a).1
      (fun x y hx hy => hi x y (List.mem_cons_of_mem _ hx) (List.mem_cons_of_mem _ hy))
    have p2 : projT false ((true, a) :: S) = projT false S := projT_cons_other false a S
    rw [projT_cons_same true a S, p2]
    simp only [srunT, srun, if_true]
    exact ⟨ih.1, by rw [ih.2.1], ih.2.2⟩
  | (false, b) :: S, h, hi => by
    have ih := interleaving_eq_sequential S (sstep h b).1
      (fun x y hx hy => hi x y (List.mem_cons_of_mem _ hx) (List.mem_cons_of_mem _ hy))
    have hind : ∀ a, a ∈ projT true S → indep a b := fun a ha =>
      hi a b (List.mem_cons_of_mem _ (mem_projT.mp ha)) List.mem_cons_self
    have mv := move_across (projT true S) h b hind
    have cg := srun_congr (projT false S) mv.1
    have p1 : projT true ((false, b) :: S) = projT true S := projT_cons_other true b S
    rw [p1, projT_cons_same false b S]
    simp only [srunT, srun, Bool.false_eq_true, if_false]
    refine ⟨ih.1.trans cg.1.symm, ?_, ?_⟩
    · rw [ih.2.1, ← mv.2.2]
    · rw [mv.2.1, ih.2.2, cg.2]

end TsVerif.C08
