import TsVerif.C08.Owns
/-!
# C08 — states: the invariant on a state, histories, and the table of handles

Each API operation is nothing (no such handle, or a build outside its contract), or one heap
operation on the root of one handle (`State.copy_cases` … `State.reparse_cases`).  `swf_split` puts
that root in front of the other owners, so that a triple `Owns W s.heap [r] …` (Owns.lean) applies with
all other handles as its context; `SWF.others` says what such a triple means for any other handle.
-/
namespace TsVerif.C08

variable {D : Type}

def SWF (s : State D) : Prop := WF s.heap (rootsOf s.handles)

/-- The state before the first parse. -/
def State.empty : State D := { heap := [], handles := [] }

inductive Op (D : Type) where
  | copy (h : Nat)
  | edit (h : Nat) (spec : EditSpec D)
  | delete (h : Nat)
  | reparse (spec : BuildSpec D)

def State.apply (s : State D) : Op D → State D
  | .copy h => s.copy h
  | .edit h spec => s.edit h spec
  | .delete h => s.delete h
  | .reparse spec => s.reparse spec

theorem root_handles {s : State D} {h : Nat} {r : Ref D} (hr : s.root h = some r) : s.handles[h]? = some (some r) := by
  unfold State.root at hr
  split at hr
  · rename_i r' heq; cases hr; exact heq
  · cases hr

theorem mem_rootsOf {l : List (Option (Ref D))} {k : Nat} {r : Ref D} (hl : l[k]? = some (some r)) : r ∈ rootsOf l :=
  List.mem_filterMap.mpr ⟨some r, List.mem_of_getElem? hl, rfl⟩

theorem root_mem {s : State D} {h : Nat} {r : Ref D} (hr : s.root h = some r) : r ∈ rootsOf s.handles :=
  mem_rootsOf (root_handles hr)

theorem rootsOf_nil : rootsOf ([] : List (Option (Ref D))) = [] := rfl
theorem rootsOf_cons_some (r : Ref D) (l : List (Option (Ref D))) : rootsOf (some r :: l) = r :: rootsOf l := rfl
theorem rootsOf_cons_none (l : List (Option (Ref D))) : rootsOf (none :: l) = rootsOf l := rfl

theorem rootsOf_cons (x : Option (Ref D)) (l : List (Option (Ref D))) : rootsOf (x :: l) = rootsOf [x] ++ rootsOf l := by
  cases x <;> rfl

theorem rootsOf_append_some (l : List (Option (Ref D))) (r : Ref D) : rootsOf (l ++ [some r]) = rootsOf l ++ [r] := by
  simp [rootsOf, List.filterMap_append]

theorem cnt_rootsOf_set_some (a : Nat) (r : Ref D) : ∀ (l : List (Option (Ref D))) (k : Nat), k < l.length →
    cnt a (rootsOf (l.set k (some r))) = cnt a [r] + cnt a (rootsOf (l.set k none))
  | _ :: l, 0, _ => cnt_cons a r (rootsOf l)
  | x :: l, k + 1, hk => by
    rw [List.set_cons_succ, List.set_cons_succ, rootsOf_cons x (l.set k _), rootsOf_cons x (l.set k _), cnt_append, cnt_append,
      cnt_rootsOf_set_some a r l k (Nat.lt_of_succ_lt_succ hk), Nat.add_left_comm]

theorem wf_set_root {h : Heap D} {l : List (Option (Ref D))} {k : Nat} {r : Ref D} (hk : k < l.length) :
    WF h (rootsOf (l.set k (some r))) ↔ WF h (r :: rootsOf (l.set k none)) := by
  have e : ∀ a, cnt a (rootsOf (l.set k (some r))) = cnt a (r :: rootsOf (l.set k none)) := fun a => by
    rw [cnt_rootsOf_set_some a r l k hk, ← cnt_cons]
  exact ⟨fun hw => wf_perm hw e, fun hw => wf_perm hw fun a => (e a).symm⟩

theorem wf_append_root {h : Heap D} {l : List (Option (Ref D))} {r : Ref D} (hw : WF h (r :: rootsOf l)) :
    WF h (rootsOf (l ++ [some r])) := by
  rw [rootsOf_append_some]
  exact (wf_swap (B := [])).mp (by rwa [List.append_nil])

theorem swf_split {s : State D} {h : Nat} {r : Ref D} (hw : SWF s) (hr : s.root h = some r) :
    WF s.heap (r :: rootsOf (s.handles.set h none)) := by
  obtain ⟨hlt, hget⟩ := List.getElem?_eq_some_iff.mp (root_handles hr)
  refine (wf_set_root hlt).mp ?_
  rw [← hget, List.set_getElem_self]
  exact hw

theorem root_set_other (s : State D) (h h' : Nat) (o : Option (Ref D)) (hne : h' ≠ h) (heap : Heap D) :
    State.root { heap := heap, handles := s.handles.set h o } h' = s.root h' := by
  unfold State.root
  simp only
  rw [List.getElem?_set_ne (Ne.symm hne)]

theorem root_append {s : State D} {h' : Nat} {r' : Ref D} (hr' : s.root h' = some r') (heap : Heap D)
    (x : Option (Ref D)) : State.root { heap := heap, handles := s.handles ++ [x] } h' = some r' := by
  have hk := root_handles hr'
  have hlt : h' < s.handles.length := (List.getElem?_eq_some_iff.mp hk).1
  unfold State.root
  simp only
  rw [List.getElem?_append_left hlt, hk]

theorem mem_rootsOf_set_other {l : List (Option (Ref D))} {h h' : Nat} {r' : Ref D} (o : Option (Ref D))
    (hne : h' ≠ h) (hr : l[h']? = some (some r')) : r' ∈ rootsOf (l.set h o) :=
  mem_rootsOf (by rw [List.getElem?_set_ne (Ne.symm hne)]; exact hr)

theorem reach_other_handle {s : State D} {h h' : Nat} {r' : Ref D} (hne : h' ≠ h) (hr' : s.root h' = some r')
    {i : Nat} (hreach : Reach s.heap [r'] i) : Reach s.heap (rootsOf (s.handles.set h none)) i :=
  reach_mono (fun _ hx => List.mem_singleton.mp hx ▸ mem_rootsOf_set_other none hne (root_handles hr')) hreach

@[elab_as_elim]
theorem State.copy_cases {motive : State D → Prop} (s : State D) (h : Nat) (noop : motive s)
    (step : ∀ r, s.root h = some r → motive { heap := retain s.heap r, handles := s.handles ++ [some r] }) :
    motive (s.copy h) := by
  unfold State.copy
  cases hr : s.root h with
  | none => exact noop
  | some r => exact step r hr

@[elab_as_elim]
theorem State.delete_cases {motive : State D → Prop} (s : State D) (h : Nat) (noop : motive s)
    (step : ∀ r, s.root h = some r → motive { heap := release s.heap r, handles := s.handles.set h none }) :
    motive (s.delete h) := by
  unfold State.delete
  cases hr : s.root h with
  | none => exact noop
  | some r => exact step r hr

@[elab_as_elim]
theorem State.edit_cases {motive : State D → Prop} (s : State D) (h : Nat) (spec : EditSpec D) (noop : motive s)
    (step : ∀ r, s.root h = some r →
      motive { heap := (editRef s.heap r spec).1, handles := s.handles.set h (some (editRef s.heap r spec).2) }) :
    motive (s.edit h spec) := by
  unfold State.edit
  cases hr : s.root h with
  | none => exact noop
  | some r => exact step r hr

@[elab_as_elim]
theorem State.reparse_cases {motive : State D → Prop} (s : State D) (spec : BuildSpec D) (noop : motive s)
    (step : reusedLive s.heap spec = true →
      motive { heap := (build s.heap spec).1, handles := s.handles ++ [some (build s.heap spec).2] }) :
    motive (s.reparse spec) := by
  unfold State.reparse
  by_cases hl : reusedLive s.heap spec = true
  · simp only [hl, if_true]
    exact step hl
  · simp only [hl]
    exact noop

theorem rcEq_copy (s : State D) (h : Nat) : RcEq s.heap (s.copy h).heap :=
  s.copy_cases h (RcEq.refl _) fun r _ => rcEq_retain s.heap r

/-- `o` is any triple on the root of handle `h`.  The first conclusion is isolation of `h'`, the second
footprint and cell frame for everything `h'` reaches; the isolation and footprint theorems of Props.lean
are this at `owns_editRef` or `owns_release`. -/
theorem SWF.others {s : State D} {h : Nat} {r : Ref D} (hw : SWF s) (hr : s.root h = some r)
    {W : List Nat} {heap' : Heap D} {A' : List (Ref D)} (o : Owns W s.heap [r] heap' A')
    {h' : Nat} (hne : h' ≠ h) {r' : Ref D} (hr' : s.root h' = some r') :
    (∀ (f : Nat) (t : OTree D), unfold f s.heap r' = some t → unfold f heap' r' = some t) ∧
    ∀ i, Reach s.heap [r'] i → i ∉ W ∧ ∀ c, cellAt s.heap i = some c →
      ∃ c', cellAt heap' i = some c' ∧ c'.kids = c.kids ∧ c'.data = c.data := by
  have k := o _ (swf_split hw hr)
  exact ⟨k.frame.unfold (mem_rootsOf_set_other none hne (root_handles hr')), fun i hi =>
    ⟨fun hm => k.footprint i hm (reach_other_handle hne hr' hi), k.frame i (reach_other_handle hne hr' hi)⟩⟩

end TsVerif.C08
