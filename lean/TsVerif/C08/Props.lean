import TsVerif.C08.Acyclic
import TsVerif.C08.Concurrency
import TsVerif.C08.Counts
/-!
# C08 — Trees are persistent values: copies are isolated and safe across threads

> What is observable through one tree handle changes only through an edit applied to that handle:
> editing a copy, using any copy as the old tree of a re-parse, or deleting other copies never
> alters it, although structure is shared. Distinct copies may be edited, re-parsed, queried and
> deleted concurrently on different threads with the same results as sequentially: no shared node
> is written without exclusive ownership, no reference-count update is lost, and every shared
> node is freed exactly once after the last handle goes away.

## Clause map (phrase of the property text → theorems)

Marks: **proved** = kernel-checked statement about the reference-count heap model (`Model.lean`), tied
to the C code by replaying every real operation on the model and comparing the predicted heap (counts,
sharing, payloads) with the dump of the real heap, and by the probes of `cunit_c08`; **partial (H)** =
proved under hypothesis H; **judged only** = no theorem, Lean judge on every real dump; **assumed**.

| # | phrase | theorems | mark |
|---|---|---|---|
| 1 | "what is observable through one tree handle changes only through an edit applied to that handle" | `persistence` (c) = `observation_stable`: over ANY history, a handle that is neither edited nor deleted keeps its root and its whole unfolded tree; `observation_defined` / `unfold_total` (the observation exists in every valid acyclic state, so the statement is not empty); `persistence_from_empty` (the hypotheses hold for every family of handles that descends from parses) | proved; "observable" = `unfold` (payload + children, recursively); the payload is abstract (`D` = all node fields), the judge normalises the real dump (drops `ref_count`, address, and one scanner-only bit) |
| 2 | "editing a copy … never alters it" | `edit_isolated` (every edit, any visited set, incl. clone and inline promotion), `copy_isolated`, `copy_root` | proved |
| 3 | "using any copy as the old tree of a re-parse … never alters it" | `reparse_isolated`, `rc_invariant_reparse` | **partial (H = the parser's ownership contract)**: a re-parse is an abstract build in which "reuse = retain, everything else is a fresh cell"; that the real parser never WRITES into a reused node (`ts_parser__shift` flag flip, `breakdown_*`, balancing) is not modelled — **judged only** (role / breakdown histories, wave 5/6 seeds) |
| 4 | "deleting other copies never alters it" | `delete_isolated` (the whole release cascade), `rc_invariant_delete` | proved |
| 5 | "although structure is shared" | no theorem assumes unshared structure; `decide` examples with a shared cell (`Props.lean`, `Persistence.lean`) | proved (non-vacuity) |
| 6 | "distinct copies may be edited, re-parsed, queried and deleted concurrently on different threads with the same results as sequentially" | `interleaving_eq_sequential`, `accesses_commute` (Concurrency.lean): every interleaving of two threads' access sequences with independent cross pairs equals "A then B" in final heap and in everything each thread reads; `interleaving_eq_sequential_counts` | **partial (H = independence of the cross pairs)**; the last section of this file derives part of H (from Edit.lean, Release.lean): `edit_footprint_owned` / `editRef_footprint` (the plain-write footprint `editWrites` of a whole `ts_tree_edit` — every cell rewritten in place, along any visited set — contains no cell reachable from another handle, and every such cell keeps children and payload), `edit_writes_indep` (so every `write` of an edit is `indep` of every access another thread makes to a cell reachable from its own handle), `delete_footprint_owned` / `release_cellframe` (the release cascade frees / changes no cell reachable from another handle), `copy_footprint_owned`, and H discharged completely for copy‖copy (`copy_accesses`, `copy_copy_interleaving`).  Two `dec`s of the same cell by different threads are the one dependent pair: the heap does not depend on their order (`interleaving_eq_sequential_counts`), only *which* thread reads 0 and frees does.  Still not derived: the full ordered small-step access sequences of edit / delete (reads, `dec`/`dec` and `inc`/`dec` on a shared count, which are not `indep`) — **judged only**: 2–16 threads vs sequential, equal results |
| 7 | "no shared node is written without exclusive ownership" | `writes_exclusive`, `make_mut_result`, `make_mut_never_mutates_shared` (the cell handed to the writer has count 1 and no other reference at all; every pre-existing cell keeps children and payload) | proved for `ts_subtree_make_mut`, the only writer in the model; the other `ref_count == 1` licences (`ts_subtree_compress`, `ts_parser__balance_subtree`) are **judged only** (seed C08-r2); probe `mm` on the real function |
| 8 | "no reference-count update is lost" | `rc_invariant` (any history: count = number of owners for every id; operation by operation `rc_invariant_copy`, `rc_invariant_edit` (from `owns_editRef`: make_mut / clone / inline promotion along any visited set), `rc_invariant_delete`, `rc_invariant_reparse`), `no_lost_update_counts`, `interleaving_eq_sequential_counts` | proved; concurrency part **assumed**: `atomic_inc/dec` are atomic and sequentially consistent (probed with 16 threads; tied syntactically to SEQ_CST atomics, memory order at token level) |
| 9 | "every shared node is freed exactly once after the last handle goes away" | `heap_empty_after_last_delete` (no live cell once no handle is left, via `acyclic_invariant`), `persistence` (a) = `reachable_live` (nothing reachable is freed early), `no_dangling_no_garbage`, `freed_never_reused_edit/_release` (a freed id never becomes live again: no confusion of a second free with a new cell) | proved (model); "exactly once" on the real heap **judged**: poisoning allocator aborts on a free of a non-live block, balance 0 at the end |
| 10 | quantifier: "all histories of copy/edit/re-parse/query/delete over a family of handles descending from one parse, all interleavings … 2..16 threads" | histories: `Op` lists of any length from any valid state / from `State.empty`; query and walk are reads (no `Op`, `read` accesses in Concurrency.lean); threads: 6 | proved for histories; threads see 6 |

## Gaps between the statements and the text

* 3, 6 and the second half of 7 are the places where the English says more than the theorems: the
  parser as a writer, whole operations as access sequences, and the writers other than `make_mut`.  All
  three are covered by the judge on real runs only.
* `observation_stable` is conditional on `unfold … = some t`; that such a `t` exists is `unfold_total`,
  `observation_defined`.  `persistence` assumes `SWF s`; that it is reachable from a parse is `swf_empty`,
  `persistence_from_empty`.
* `Send/Sync` declarations of the Rust wrappers and real memory ordering are not modelled (assumed).

## What the statements speak of

Statements are about the heap model of `Model.lean` (`State` = cells with counts + tree handles).
`SWF s` is the reference-count invariant: for **every** id, the stored count (0 for a freed or
never allocated id) equals the number of references to it — handle roots plus child links of live
cells — and live cells have a positive count.  Consequences: no dangling reference, no lost or
spurious count.
-/
namespace TsVerif.C08

variable {D : Type}

/-- `ts_tree_copy` keeps the invariant (the new handle owns one more count
of the shared root). -/
theorem rc_invariant_copy (s : State D) (h : Nat) (hw : SWF s) : SWF (s.copy h) :=
  s.copy_cases h hw fun r hr => wf_append_root (retain_wf r hw fun _ hid => hw.mem_live (hid ▸ root_mem hr))

/-- `ts_tree_edit` keeps the invariant whatever set of nodes the edit visits
(`spec`), whichever of them are shared, inline or promoted. -/
theorem rc_invariant_edit (s : State D) (h : Nat) (spec : EditSpec D) (hw : SWF s) : SWF (s.edit h spec) :=
  -- view the edited handle's root as the owned reference, the other handles as the context
  s.edit_cases h spec hw fun r hr => (wf_set_root (List.getElem?_eq_some_iff.mp (root_handles hr)).1).mpr
    (owns_editRef spec s.heap r _ (swf_split hw hr)).wf

/-- Non-vacuity: a two-cell heap with one handle satisfies the invariant. -/
example : SWF ({ heap := [some { rc := 1, kids := [], data := 0 }, some { rc := 1, kids := [.ptr 0, .inl 7], data := 1 }],
                 handles := [some (.ptr 1)] } : State Nat) := by
  refine ⟨fun id => ?_, ?_⟩
  · match id with
    | 0 => rfl
    | 1 => rfl
    | n + 2 => rfl
  · intro id c hc
    match id with
    | 0 => cases hc; decide
    | 1 => cases hc; decide
    | n + 2 => cases hc

/-- `ts_tree_delete` — one decrement and the whole cascade of
`ts_subtree_release` with its explicit stack — keeps the invariant: afterwards every remaining
cell's count is exactly its number of owners, every cell without owners has been freed, and no
freed cell is still referenced. -/
theorem rc_invariant_delete (s : State D) (h : Nat) (hw : SWF s) : SWF (s.delete h) :=
  s.delete_cases h hw fun r hr => release_wf r (swf_split hw hr)

/-- A (re-)parse — any build that reuses existing subtrees by retaining them
and otherwise creates fresh cells — keeps the invariant, with the result as a new handle. -/
theorem rc_invariant_reparse (s : State D) (spec : BuildSpec D) (hw : SWF s) : SWF (s.reparse spec) :=
  s.reparse_cases spec hw fun hl => wf_append_root (build_ok spec s.heap _ hw hl).1

theorem apply_swf (s : State D) (op : Op D) (hw : SWF s) : SWF (s.apply op) := by
  cases op with
  | copy h => exact rc_invariant_copy s h hw
  | edit h spec => exact rc_invariant_edit s h spec hw
  | delete h => exact rc_invariant_delete s h hw
  | reparse spec => exact rc_invariant_reparse s spec hw

/-- Clause 8 for whole histories. -/
theorem rc_invariant (ops : List (Op D)) : ∀ (s : State D), SWF s → SWF (ops.foldl State.apply s) :=
  fun _ hw => List.foldlRecOn ops State.apply hw fun s hw op _ => apply_swf s op hw

/-- Consequences of the invariant in any reachable state: no dangling root or child link, and no
live cell without an owner (nothing leaked, nothing freed too early). -/
theorem no_dangling_no_garbage {s : State D} (hw : SWF s) :
    (∀ i, Ref.ptr i ∈ s.refs → ∃ c, cellAt s.heap i = some c) ∧
    (∀ i c, cellAt s.heap i = some c → 0 < cnt i s.refs) := by
  refine ⟨fun i hi => ?_, fun i c hc => ?_⟩
  · apply hw.live
    have := cnt_pos_of_mem hi
    simp only [State.refs, cnt_append] at this
    exact this
  · have h1 := hw.pos i c hc
    have h2 := hw.count i
    have h3 := rcOf_of_cell hc
    simp only [State.refs, cnt_append]
    omega

theorem swf_empty : SWF (State.empty : State D) :=
  ⟨fun _ => rfl, fun _ _ hc => by cases hc⟩

/-- Clause 2 for `ts_tree_copy`, in two halves: every handle keeps its root, and (`copy_isolated`) what is
observed through any reference. -/
theorem copy_root (s : State D) (h h' : Nat) (r' : Ref D) (hr' : s.root h' = some r') :
    (s.copy h).root h' = some r' :=
  s.copy_cases h hr' fun _ _ => root_append hr' _ _

theorem copy_isolated (s : State D) (h : Nat) (r' : Ref D) (f : Nat) (t : OTree D)
    (hu : unfold f s.heap r' = some t) : unfold f (s.copy h).heap r' = some t :=
  unfold_ext (rcEq_copy s h).ext f r' t hu

/-- An edit applied to handle `h` changes neither the root stored in another
handle `h'` nor anything observable through it — for every edit (any visited set), although
structure is shared. -/
theorem edit_isolated (s : State D) (h h' : Nat) (spec : EditSpec D) (hw : SWF s) (hne : h' ≠ h)
    (r' : Ref D) (hr' : s.root h' = some r') :
    (s.edit h spec).root h' = some r' ∧
    ∀ (f : Nat) (t : OTree D), unfold f s.heap r' = some t → unfold f (s.edit h spec).heap r' = some t :=
  s.edit_cases h spec ⟨hr', fun _ _ hu => hu⟩ fun r hr =>
    ⟨(root_set_other s h h' _ hne _).trans hr', (hw.others hr (owns_editRef spec s.heap r) hne hr').1⟩

/-- Deleting handle `h` (with every free it triggers) changes nothing that is
observable through another handle `h'`. -/
theorem delete_isolated (s : State D) (h h' : Nat) (hw : SWF s) (hne : h' ≠ h)
    (r' : Ref D) (hr' : s.root h' = some r') :
    (s.delete h).root h' = some r' ∧
    ∀ (f : Nat) (t : OTree D), unfold f s.heap r' = some t → unfold f (s.delete h).heap r' = some t :=
  s.delete_cases h ⟨hr', fun _ _ hu => hu⟩ fun r hr =>
    ⟨(root_set_other s h h' _ hne _).trans hr', (hw.others hr (owns_release s.heap r) hne hr').1⟩

/-- Using any tree as the old tree of a re-parse (reusing any of its subtrees)
changes no existing handle's root and nothing observable through it. -/
theorem reparse_isolated (s : State D) (spec : BuildSpec D) (h' : Nat) (r' : Ref D) (hr' : s.root h' = some r') :
    (s.reparse spec).root h' = some r' ∧
    ∀ (f : Nat) (t : OTree D), unfold f s.heap r' = some t → unfold f (s.reparse spec).heap r' = some t :=
  -- every existing cell keeps children and payload: nothing to see
  s.reparse_cases spec ⟨hr', fun _ _ hu => hu⟩ fun _ =>
    ⟨root_append hr' _ _, fun f t => unfold_ext (build_ext spec s.heap) f r' t⟩

/-- Non-vacuity of the isolation theorems: two handles share a cell; editing one of them in a way
that rewrites the shared cell leaves the other one's observation intact (and really clones). -/
example :
    let s : State Nat := { heap := [some { rc := 2, kids := [.inl 5], data := 1 }], handles := [some (.ptr 0), some (.ptr 0)] }
    let s' := s.edit 0 (.visit 9 false [.visit 6 false []])
    s'.root 0 = some (.ptr 1) ∧ s'.root 1 = some (.ptr 0) ∧
    cellAt s'.heap 0 = some { rc := 1, kids := [.inl 5], data := 1 } ∧
    cellAt s'.heap 1 = some { rc := 1, kids := [.inl 6], data := 9 } := by
  decide +kernel

/-- Clause 9: the `DeadMono` half of `editRef_ok`, id by id. -/
theorem freed_never_reused_edit (spec : EditSpec D) (h : Heap D) (r : Ref D) (X : List (Ref D))
    (hw : WF h (r :: X)) (j : Nat) (hj : j < h.length) (hd : cellAt h j = none) :
    cellAt (editRef h r spec).1 j = none := (editRef_ok spec h r X hw).2.2 j hj hd

/-- `ts_subtree_release` (decrement, explicit stack, cascade) never
makes a freed id live again. -/
theorem freed_never_reused_release (h : Heap D) (r : Ref D) (j : Nat) (hj : j < h.length)
    (hd : cellAt h j = none) : cellAt (release h r) j = none := (deadMono_release h r).2 j hj hd

/-- What `heap_empty_after_last_delete` needs at the end of a history. -/
theorem acyclic_invariant (ops : List (Op D)) : ∀ (s : State D), SWF s → Acyclic s →
    SWF (ops.foldl State.apply s) ∧ Acyclic (ops.foldl State.apply s) :=
  fun _ hw ha => List.foldlRecOn (motive := fun s => SWF s ∧ Acyclic s) ops State.apply ⟨hw, ha⟩
    fun s k op _ => ⟨apply_swf s op k.1, apply_acyclic s op k.1 k.2⟩

/-- Clause 9, second half: after **any** history of copies,
edits, re-parses and deletes that leaves no live handle, no cell is live — every shared node has
been freed (exactly once: ids are never reused, `freed_never_reused_*`) after the last handle went
away.  Nothing leaks from tree handles. -/
theorem heap_empty_after_last_delete (ops : List (Op D)) (s : State D) (hw : SWF s) (ha : Acyclic s)
    (hnone : rootsOf (ops.foldl State.apply s).handles = []) :
    ∀ i, cellAt (ops.foldl State.apply s).heap i = none := by
  obtain ⟨hw', ⟨f, hf⟩⟩ := acyclic_invariant ops s hw ha
  unfold SWF at hw'
  rw [hnone] at hw'
  exact empty_of_no_roots hw' hf

/-- Non-vacuity: the empty state (before the first parse) is well-formed and acyclic. -/
example : SWF ({ heap := [], handles := [] } : State Nat) ∧ Acyclic ({ heap := [], handles := [] } : State Nat) :=
  ⟨swf_empty, acyclic_empty⟩

/-- Clause 8 across threads, on the access language `Acc` of Model.lean (count updates only;
`interleaving_eq_sequential` is about `SAcc`, which also has reads, writes, frees and returned
values): operations on *distinct* handles touch common cells only through atomic count
updates (`writes_exclusive`, `edit_isolated`, `delete_isolated`: every other write goes to a cell
that no other handle can reach).  For those accesses **every** interleaving of the threads'
sequences `A` and `B` — any permutation of `A ++ B`, executed under sequential consistency — leaves
every cell in exactly the state the sequential execution "`A` then `B`" produces: no update is lost.
Any permutation is allowed, not only order-preserving interleavings: as long as all the
decrements of a cell are covered by its INITIAL count (`hd`: more than "no count is driven below zero
along the run", and what an arbitrary permutation needs) count updates of one cell commute among
themselves, so not even a thread's own order matters for the heap. -/
theorem interleaving_eq_sequential_counts (h : Heap D) (A B inter : List Acc) (hp : inter.Perm (A ++ B))
    (hl : ∀ a, a ∈ A ++ B → (cellAt h a.id).isSome = true) (hd : ∀ i, decsOf i (A ++ B) ≤ rcOf h i) (i : Nat) :
    cellAt (applyAll h inter) i = cellAt (applyAll (applyAll h A) B) i := by
  have hdi : decsOf i inter = decsOf i (A ++ B) := by rw [decsOf_eq, decsOf_eq, hp.count_eq]
  have hii : incsOf i inter = incsOf i (A ++ B) := by rw [incsOf_eq, incsOf_eq, hp.count_eq]
  have e : applyAll (applyAll h A) B = applyAll h (A ++ B) := (List.foldl_append ..).symm
  rw [e, cellAt_applyAll i _ h (hd i), cellAt_applyAll i inter h (hdi ▸ hd i), hdi, hii]

/-- The closed form — after any such interleaving a cell's count is its
initial count plus the number of increments minus the number of decrements. -/
theorem no_lost_update_counts (h : Heap D) (accs : List Acc)
    (hl : ∀ a, a ∈ accs → (cellAt h a.id).isSome = true) (hd : ∀ i, decsOf i accs ≤ rcOf h i) (i : Nat) :
    rcOf (applyAll h accs) i + decsOf i accs = rcOf h i + incsOf i accs := by
  have hi := hd i
  have hcell := cellAt_applyAll i accs h hi
  cases hc : cellAt h i with
  | some c =>
    rw [hc] at hcell
    rw [rcOf_of_cell hc] at hi ⊢
    rw [rcOf_of_cell hcell]
    show c.rc - _ + _ + _ = _
    rw [Nat.add_right_comm, Nat.sub_add_cancel hi]
  | none =>
    rw [hc] at hcell
    rw [rcOf_of_dead hc] at hi ⊢
    -- a dead cell is not accessed
    have h0 : (Acc.inc i) ∉ accs := fun hm => by
      have : (cellAt h i).isSome = true := hl _ hm
      rw [hc] at this
      cases this
    rw [rcOf_of_dead hcell, incsOf_eq, List.count_eq_zero.mpr h0, Nat.le_zero.mp hi]

example : applyAll ([some { rc := 2, kids := [], data := 0 }] : Heap Nat) [.inc 0, .dec 0, .dec 0, .inc 0]
    = applyAll [some { rc := 2, kids := [], data := 0 }] [.dec 0, .dec 0, .inc 0, .inc 0] := by decide +kernel

/-! ## Operations on distinct handles conflict only on reference counts

The independence hypothesis of `interleaving_eq_sequential`, derived for the plain writes and frees of
whole API operations: no cell another handle can reach is in the write footprint of an edit
(`edit_footprint_owned`) or freed by a delete (`delete_footprint_owned`) — both are `SWF.others` read at the
triple of the operation (`owns_editRef`, `owns_release`), a copy writes nothing but one count; for copy ‖ copy the
whole hypothesis holds. -/

/-- For handles `h' ≠ h` of a valid state, a cell reachable from the root of
`h'` is never in the plain-write footprint of `s.edit h spec`, and keeps children and payload. -/
theorem edit_footprint_owned (s : State D) (h h' : Nat) (spec : EditSpec D) (hw : SWF s) (hne : h' ≠ h)
    (r r' : Ref D) (hr : s.root h = some r) (hr' : s.root h' = some r') (i : Nat)
    (hreach : Reach s.heap [r'] i) :
    i ∉ editWrites s.heap r spec ∧
    ∀ c, cellAt s.heap i = some c →
      ∃ c', cellAt (s.edit h spec).heap i = some c' ∧ c'.kids = c.kids ∧ c'.data = c.data := by
  have k := (hw.others hr (owns_editRef spec s.heap r) hne hr').2 i hreach
  unfold State.edit
  simp only [hr]
  exact k

/-- The cross pairs "plain write of the edit" vs "read / inc / dec of a cell reachable from another
handle" satisfy the independence hypothesis of `interleaving_eq_sequential`. -/
theorem edit_writes_indep (s : State D) (h h' : Nat) (spec : EditSpec D) (hw : SWF s) (hne : h' ≠ h)
    (r r' : Ref D) (hr : s.root h = some r) (hr' : s.root h' = some r')
    (a b : SAcc D) (ks : List (Ref D)) (d : D) (i : Nat) (ha : a = .write i ks d)
    (hi : i ∈ editWrites s.heap r spec) (hb : Reach s.heap [r'] b.cell) : indep a b := by
  subst ha
  exact Or.inl fun (e : i = b.cell) => (edit_footprint_owned s h h' spec hw hne r r' hr hr' b.cell hb).1 (e ▸ hi)

/-- For handles `h' ≠ h` of a valid state, no cell reachable from the root of
`h'` is freed by `s.delete h` (with its whole cascade), and each keeps children and payload: the frees of
a delete — its only plain writes — never meet a cell another handle can read. -/
theorem delete_footprint_owned (s : State D) (h h' : Nat) (hw : SWF s) (hne : h' ≠ h)
    (r' : Ref D) (hr' : s.root h' = some r') (i : Nat) (hreach : Reach s.heap [r'] i) :
    ∀ c, cellAt s.heap i = some c →
      ∃ c', cellAt (s.delete h).heap i = some c' ∧ c'.kids = c.kids ∧ c'.data = c.data :=
  s.delete_cases h (fun c hc => ⟨c, hc, rfl, rfl⟩) fun r hr =>
    ((hw.others hr (owns_release s.heap r) hne hr').2 i hreach).2

/-- `ts_tree_copy` changes no cell's children or payload at all. -/
theorem copy_footprint_owned (s : State D) (h : Nat) : Ext s.heap (s.copy h).heap :=
  (rcEq_copy s h).ext

/-- The accesses of `ts_tree_copy`: one atomic increment of the root's count. -/
def copyAccesses (s : State D) (h : Nat) : List (SAcc D) :=
  match s.root h with
  | some (.ptr i) => [.inc i]
  | _ => []

/-- The one place where a whole API operation is shown to be the run of a list of accesses. -/
theorem copy_accesses (s : State D) (h : Nat) : (srun s.heap (copyAccesses s h)).1 = (s.copy h).heap := by
  unfold copyAccesses State.copy
  cases hr : s.root h with
  | none => rfl
  | some r =>
    cases r with
    | inl d => rfl
    | ptr i => rfl

theorem copy_copy_indep (s : State D) (h h' : Nat) (a b : SAcc D) (ha : a ∈ copyAccesses s h)
    (hb : b ∈ copyAccesses s h') : indep a b := by
  unfold copyAccesses at ha hb
  right
  split at ha <;> split at hb <;> simp at ha hb
  subst ha; subst hb; trivial

/-- For two `ts_tree_copy` calls, the second on a handle `h'` that exists before the first (`hr'`; it
may be the same handle), the independence hypothesis of
`interleaving_eq_sequential` is *derived*: every interleaving `S` of their access sequences ends in the
heap of `(s.copy h).copy h'` (cell by cell), and each call is returned what it is returned when the
two run one after the other. -/
theorem copy_copy_interleaving_obs (s : State D) (h h' : Nat) (r' : Ref D) (hr' : s.root h' = some r')
    (S : List (Bool × SAcc D)) (hA : projT true S = copyAccesses s h) (hB : projT false S = copyAccesses s h') :
    HeapEq (srunT s.heap S).1 ((s.copy h).copy h').heap ∧
    (srunT s.heap S).2.1 = (srun s.heap (copyAccesses s h)).2 ∧
    (srunT s.heap S).2.2 = (srun (s.copy h).heap (copyAccesses (s.copy h) h')).2 := by
  have key := interleaving_eq_sequential S s.heap (fun a b ha hb =>
    copy_copy_indep s h h' a b (hA ▸ mem_projT.mpr ha) (hB ▸ mem_projT.mpr hb))
  have e2 : copyAccesses (s.copy h) h' = copyAccesses s h' := by
    unfold copyAccesses; rw [copy_root s h h' r' hr', hr']
  rw [hA, hB, copy_accesses s h, ← e2, copy_accesses (s.copy h) h'] at key
  exact key

theorem copy_copy_interleaving (s : State D) (h h' : Nat) (r' : Ref D) (hr' : s.root h' = some r')
    (S : List (Bool × SAcc D)) (hA : projT true S = copyAccesses s h) (hB : projT false S = copyAccesses s h') :
    HeapEq (srunT s.heap S).1 ((s.copy h).copy h').heap :=
  (copy_copy_interleaving_obs s h h' r' hr' S hA hB).1

theorem edit_writes_indep_copy (s : State D) (h h' : Nat) (spec : EditSpec D) (hw : SWF s) (hne : h' ≠ h)
    (r r' : Ref D) (hr : s.root h = some r) (hr' : s.root h' = some r')
    (ks : List (Ref D)) (d : D) (i : Nat) (hi : i ∈ editWrites s.heap r spec)
    (b : SAcc D) (hb : b ∈ copyAccesses s h') : indep (.write i ks d) b := by
  refine edit_writes_indep s h h' spec hw hne r r' hr hr' _ b ks d i rfl hi ?_
  unfold copyAccesses at hb
  rw [hr'] at hb
  cases r' with
  | inl d' => simp at hb
  | ptr j =>
    simp at hb; subst hb
    show Reach s.heap [Ref.ptr j] j
    exact Reach.root (by simp)

theorem shared_root_count_ge_two (s : State D) (h h' i : Nat) (hw : SWF s) (hne : h' ≠ h)
    (hr : s.root h = some (.ptr i)) (hr' : s.root h' = some (.ptr i)) : 2 ≤ rcOf s.heap i := by
  have w := swf_split hw hr
  have hc := w.count i
  simp only [cnt_cons_ptr, if_true] at hc
  have := cnt_pos_of_mem (mem_rootsOf_set_other none hne (root_handles hr'))
  omega

/-- `copy h' ‖ delete h` on two handles with the same root: the count is at least 2, so the `inc` and
the `dec` commute and the `dec` reads a non-zero count in either order (nobody frees). -/
theorem copy_delete_shared_root (s : State D) (h h' i : Nat) (hw : SWF s) (hne : h' ≠ h)
    (hr : s.root h = some (.ptr i)) (hr' : s.root h' = some (.ptr i)) :
    HeapEq (sstep (sstep s.heap (.inc i)).1 (.dec i)).1 (sstep (sstep s.heap (.dec i)).1 (.inc i)).1 ∧
    (∃ n m, (sstep (sstep s.heap (.inc i)).1 (.dec i)).2 = .count n ∧ (sstep s.heap (.dec i)).2 = .count m ∧
      n ≠ 0 ∧ m ≠ 0) := by
  have k := inc_dec_commute s.heap i (shared_root_count_ge_two s h h' i hw hne hr hr')
  exact ⟨k.1, _, _, k.2.1, k.2.2.1, k.2.2.2.1, k.2.2.2.2⟩

example :
    let s : State Nat :=
      { heap := [some { rc := 2, kids := [.ptr 1], data := 1 }, some { rc := 1, kids := [], data := 5 }],
        handles := [some (.ptr 0), some (.ptr 0)] }
    let spec : EditSpec Nat := .visit 9 false [.visit 6 false []]
    -- the edit clones the shared root (cell 2), then must clone the now shared child too (cell 3):
    editWrites s.heap (.ptr 0) spec = [2, 3] ∧
    cellAt (s.edit 0 spec).heap 0 = some { rc := 1, kids := [.ptr 1], data := 1 } ∧
    cellAt (s.edit 0 spec).heap 1 = some { rc := 1, kids := [], data := 5 } ∧
    cellAt (s.edit 0 spec).heap 2 = some { rc := 1, kids := [.ptr 3], data := 9 } := by
  decide +kernel

example :
    let s : State Nat :=
      { heap := [some { rc := 1, kids := [.ptr 1], data := 1 }, some { rc := 2, kids := [], data := 5 }],
        handles := [some (.ptr 0), some (.ptr 1)] }
    -- unshared root: written in place (cell 0); shared child: cloned (cell 2), never written
    editWrites s.heap (.ptr 0) (.visit 9 false [.visit 6 false []]) = [0, 2] := by
  decide +kernel

example : Reach ([some { rc := 2, kids := [.ptr 1], data := 1 }, some { rc := 1, kids := [], data := 5 }] : Heap Nat)
    [.ptr 0] 1 :=
  Reach.kid (j := 0) (c := { rc := 2, kids := [.ptr 1], data := 1 }) (Reach.root (by simp)) (by decide) (by simp)

/-- The hypotheses of `edit_footprint_owned`, `delete_footprint_owned`, `copy_delete_shared_root` hold for
the shared state of the first example: valid, two distinct handles with the same root. -/
example :
    let s : State Nat :=
      { heap := [some { rc := 2, kids := [.ptr 1], data := 1 }, some { rc := 1, kids := [], data := 5 }],
        handles := [some (.ptr 0), some (.ptr 0)] }
    SWF s ∧ s.root 0 = some (.ptr 0) ∧ s.root 1 = some (.ptr 0) ∧ (1 : Nat) ≠ 0 := by
  refine ⟨⟨fun id => ?_, ?_⟩, rfl, rfl, by decide⟩
  · match id with
    | 0 => rfl
    | 1 => rfl
    | n + 2 => rfl
  · intro id c hc
    match id with
    | 0 => cases hc; decide
    | 1 => cases hc; decide
    | n + 2 => cases hc

end TsVerif.C08
