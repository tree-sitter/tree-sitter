import TsVerif.C08.Release
/-!
# C08 — one statement per heap operation: the ownership triple

`Owns W h A h' A'`: an operation is handed the references `A` and hands back `A'`; in EVERY context
`X` of other owners the counting invariant is re-established, the operation is a frame for `X`
(nothing observed through `X` changes), no freed id comes back, and no cell of the plain-write
footprint `W` is reachable from `X`.  The context is quantified inside, so the frame rule is built
in: triples compose in sequence (`Owns.seq`) and side by side (`Owns.par`, the second operation runs
with the first one's result among its other owners).
-/
namespace TsVerif.C08

variable {D : Type}

/-- What an operation from `h` to `h'` that hands back `A'` and writes the cells `W` leaves to a
context `X` of other owners.  `footprint` speaks of reachability in the START heap `h`. -/
structure OwnsIn (W : List Nat) (h h' : Heap D) (A' X : List (Ref D)) : Prop where
  wf : WF h' (A' ++ X)
  frame : Frame h h' X
  deadMono : DeadMono h h'
  footprint : ∀ i ∈ W, ¬ Reach h X i

def Owns (W : List Nat) (h : Heap D) (A : List (Ref D)) (h' : Heap D) (A' : List (Ref D)) : Prop :=
  ∀ X, WF h (A ++ X) → OwnsIn W h h' A' X

theorem Owns.perm (h : Heap D) {A B : List (Ref D)} (e : ∀ id, cnt id A = cnt id B) : Owns [] h A h B :=
  fun X hw => ⟨wf_perm hw fun id => by rw [cnt_append, cnt_append, e id], frame_of_ext (Ext.refl h) X,
    DeadMono.refl h, nofun⟩

theorem Owns.seq {W1 W2 : List Nat} {h h1 h2 : Heap D} {A A1 A2 : List (Ref D)} (o1 : Owns W1 h A h1 A1)
    (o2 : Owns W2 h1 A1 h2 A2) : Owns (W1 ++ W2) h A h2 A2 := by
  intro X hw
  obtain ⟨w1, f1, d1, r1⟩ := o1 X hw
  obtain ⟨w2, f2, d2, r2⟩ := o2 X w1
  exact ⟨w2, frame_trans f1 f2, d1.trans d2, fun i hi hr =>
    (List.mem_append.mp hi).elim (fun m => r1 i m hr) fun m => r2 i m (frame_reach f1 hr)⟩

theorem Owns.par {W1 W2 : List Nat} {h h1 h2 : Heap D} {A A1 B B1 : List (Ref D)} (o1 : Owns W1 h A h1 A1)
    (o2 : Owns W2 h1 B h2 B1) : Owns (W1 ++ W2) h (A ++ B) h2 (A1 ++ B1) := by
  intro X hw
  rw [List.append_assoc] at hw
  obtain ⟨w1, f1, d1, r1⟩ := o1 (B ++ X) hw
  obtain ⟨w2, f2, d2, r2⟩ := o2 (A1 ++ X) (wf_comm w1)
  have f1' : Frame h h1 X := frame_mono (fun x hx => List.mem_append_right _ hx) f1
  refine ⟨List.append_assoc .. ▸ wf_comm w2,
    frame_trans f1' (frame_mono (fun x hx => List.mem_append_right _ hx) f2), d1.trans d2, fun i hi hr => ?_⟩
  rcases List.mem_append.mp hi with m | m
  · exact r1 i m (reach_mono (fun x hx => List.mem_append_right _ hx) hr)
  · exact r2 i m (reach_mono (fun x hx => List.mem_append_right _ hx) (frame_reach f1' hr))

theorem owns_retain {h : Heap D} (r : Ref D) (hlive : ∀ id, r = .ptr id → ∃ c, cellAt h id = some c) :
    Owns [] h [] (retain h r) [r] :=
  fun X hw => ⟨retain_wf r hw hlive, frame_of_ext (rcEq_retain h r).ext X, (rcEq_retain h r).deadMono, nofun⟩

theorem owns_alloc (h : Heap D) (ks : List (Ref D)) (d : D) :
    Owns [] h ks (h ++ [some { rc := 1, kids := ks, data := d }]) [.ptr h.length] :=
  fun X hw => ⟨alloc_wf ks d hw, frame_of_ext (ext_append _ _) X, deadMono_append _ _, nofun⟩

theorem owns_makeMut (h : Heap D) (i : Nat) : Owns [] h [.ptr i] (makeMut h i).1 [.ptr (makeMut h i).2] :=
  fun X hw => ⟨(make_mut_result hw).1, frame_of_ext (makeMut_ext hw) X, deadMono_makeMut h i, nofun⟩

theorem owns_release (h : Heap D) (r : Ref D) : Owns [] h [r] (release h r) [] :=
  fun _ hw => ⟨release_wf r hw, release_cellframe r hw, deadMono_release h r, nofun⟩

/-- Copy-on-write's licence: an exclusively owned cell may be taken out of the heap, its children
handed to any operation, and put back with the result and a new payload.  It is the one cell
written. -/
theorem Owns.rewrite {W : List Nat} {h h3 : Heap D} {i : Nat} {c : Cell D} {ks : List (Ref D)}
    (hc : cellAt h i = some c) (h1 : c.rc = 1) (nd : D) (body : Owns W (h.set i none) c.kids h3 ks) :
    Owns (i :: W) h [.ptr i] (h3.set i (some { rc := c.rc, kids := ks, data := nd })) [.ptr i] := by
  intro X hw
  have hi := cellAt_lt hc
  -- nobody else refers to the cell …
  obtain ⟨hx, hk⟩ := WF.excl hw ((rcOf_of_cell hc).trans h1)
  have F1 : Frame h (h.set i none) X := frame_set_unref none hi hx hk
  obtain ⟨w3, f3, d3, r3⟩ := body X (takeOut_wf hw hc h1)
  obtain ⟨hdead3, hi3⟩ := d3.slot hi
  -- … and still nobody when it is put back
  have hz3 := w3.count i
  rw [rcOf_of_dead hdead3, cnt_append] at hz3
  rw [h1]
  refine ⟨putBack_wf nd w3 hdead3 hi3, frame_trans (frame_trans F1 f3) (frame_set_unref _ hi3 hx (by omega)),
    ⟨?_, fun j hj hd => ?_⟩, fun j hj hr => ?_⟩
  · rw [List.length_set]; exact Nat.le_trans (Nat.le_of_eq List.length_set.symm) d3.1
  · -- a dead id is not the slot (which was live), and stays dead through the children's operation
    have hne : j ≠ i := fun e => by rw [e, hc] at hd; cases hd
    rw [cellAt_set hi3, if_neg hne]
    exact d3.2 j (by rw [List.length_set]; exact hj) (by rw [cellAt_set_none, if_neg hne]; exact hd)
  · rcases List.mem_cons.mp hj with e | m
    · exact reach_ne hx hk hr e
    · exact r3 j m (frame_reach F1 hr)

end TsVerif.C08
