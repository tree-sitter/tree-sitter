import TsVerif.C08.Persistence
#print axioms TsVerif.C08.rc_invariant_copy
#print axioms TsVerif.C08.rc_invariant_edit
#print axioms TsVerif.C08.writes_exclusive
#print axioms TsVerif.C08.make_mut_result
#print axioms TsVerif.C08.freed_never_reused_edit
#print axioms TsVerif.C08.freed_never_reused_release
#print axioms TsVerif.C08.rc_invariant_delete
#print axioms TsVerif.C08.rc_invariant
#print axioms TsVerif.C08.no_dangling_no_garbage
#print axioms TsVerif.C08.edit_isolated
#print axioms TsVerif.C08.delete_isolated
#print axioms TsVerif.C08.copy_isolated
#print axioms TsVerif.C08.rc_invariant_reparse
#print axioms TsVerif.C08.reparse_isolated
#print axioms TsVerif.C08.interleaving_eq_sequential_counts
#print axioms TsVerif.C08.no_lost_update_counts
#print axioms TsVerif.C08.acyclic_invariant
#print axioms TsVerif.C08.heap_empty_after_last_delete
#print axioms TsVerif.C08.accesses_commute
#print axioms TsVerif.C08.interleaving_eq_sequential
#print axioms TsVerif.C08.reachable_live
#print axioms TsVerif.C08.make_mut_never_mutates_shared
#print axioms TsVerif.C08.observation_stable
#print axioms TsVerif.C08.persistence
#print axioms TsVerif.C08.unfold_total
#print axioms TsVerif.C08.observation_defined
#print axioms TsVerif.C08.persistence_from_empty
#print axioms TsVerif.C08.editRef_footprint
#print axioms TsVerif.C08.edit_footprint_owned
#print axioms TsVerif.C08.edit_writes_indep
#print axioms TsVerif.C08.release_cellframe
#print axioms TsVerif.C08.delete_footprint_owned
#print axioms TsVerif.C08.copy_footprint_owned
#print axioms TsVerif.C08.copy_accesses
#print axioms TsVerif.C08.copy_copy_interleaving
#print axioms TsVerif.C08.edit_writes_indep_copy
#print axioms TsVerif.C08.shared_root_count_ge_two
#print axioms TsVerif.C08.inc_dec_commute
#print axioms TsVerif.C08.copy_delete_shared_root
