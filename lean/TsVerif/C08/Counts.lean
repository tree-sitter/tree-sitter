import TsVerif.C08.Heap
/-!
# C08 — a cell after any sequence of atomic count updates, in closed form (`cellAt_applyAll`)

The result depends on how many increments and decrements there were, not on their order: this is what
`no_lost_update_counts` and `interleaving_eq_sequential_counts` (Props.lean) read off.
-/
namespace TsVerif.C08

variable {D : Type}

theorem incsOf_eq (i : Nat) (accs : List Acc) : incsOf i accs = accs.count (.inc i) := by
  unfold incsOf; rw [List.count_eq_countP, List.countP_eq_length_filter]

theorem decsOf_eq (i : Nat) (accs : List Acc) : decsOf i accs = accs.count (.dec i) := by
  unfold decsOf; rw [List.count_eq_countP, List.countP_eq_length_filter]

theorem cellAt_apply (h : Heap D) (a : Acc) (i : Nat) :
    cellAt (a.apply h) i = (cellAt h i).map fun c =>
      { c with rc := c.rc - (if (a == .dec i) = true then 1 else 0) + (if (a == .inc i) = true then 1 else 0) } := by
  cases a with
  | inc j =>
    show cellAt (setRc h j (· + 1)) i = _
    rw [cellAt_setRc]
    simp only [beq_iff_eq, Acc.inc.injEq, reduceCtorEq, if_false, Nat.sub_zero]
    by_cases hij : i = j
    · rw [if_pos hij, if_pos hij.symm]
    · rw [if_neg hij, if_neg (Ne.symm hij)]; cases cellAt h i <;> rfl
  | dec j =>
    show cellAt (setRc h j (· - 1)) i = _
    rw [cellAt_setRc]
    simp only [beq_iff_eq, Acc.dec.injEq, reduceCtorEq, if_false, Nat.add_zero]
    by_cases hij : i = j
    · rw [if_pos hij, if_pos hij.symm]
    · rw [if_neg hij, if_neg (Ne.symm hij)]; cases cellAt h i <;> rfl

/-- The decrements of cell `i` are covered by its initial count, so that no order of them drives it below
zero.  The right-hand side does not depend on the order of the accesses: no update is lost. -/
theorem cellAt_applyAll (i : Nat) : ∀ (accs : List Acc) (h : Heap D), decsOf i accs ≤ rcOf h i →
    cellAt (applyAll h accs) i =
      (cellAt h i).map fun c => { c with rc := c.rc - decsOf i accs + incsOf i accs }
  | [], h, _ => by
    show cellAt h i = _
    cases cellAt h i <;> rfl
  | a :: accs, h, hd => by
    have hstep := cellAt_apply h a i
    rw [decsOf_eq, List.count_cons, ← decsOf_eq] at hd
    rw [incsOf_eq i (a :: accs), decsOf_eq i (a :: accs), List.count_cons, List.count_cons, ← incsOf_eq, ← decsOf_eq]
    show cellAt (applyAll (a.apply h) accs) i = _
    cases hc : cellAt h i with
    | none =>
      rw [hc] at hstep
      rw [rcOf_of_dead hc] at hd
      rw [cellAt_applyAll i accs (a.apply h) (by rw [rcOf_of_dead hstep]; omega), hstep]
      rfl
    | some c =>
      rw [hc] at hstep
      rw [rcOf_of_cell hc] at hd
      have hd' : decsOf i accs ≤ c.rc - (if (a == .dec i) = true then 1 else 0) := by omega
      rw [cellAt_applyAll i accs (a.apply h) (by rw [rcOf_of_cell hstep]; exact Nat.le_trans hd' (Nat.le_add_right _ _)), hstep]
      simp only [Option.map_some]
      rw [Nat.sub_add_comm hd', Nat.add_assoc, Nat.add_comm _ (incsOf i accs), Nat.add_comm (decsOf i accs), Nat.sub_add_eq]

end TsVerif.C08
