import TsVerif.C08.Edit
import TsVerif.C08.Build
import TsVerif.C08.Handles
/-!
# C08 — acyclicity: a height function on cells, preserved by every operation

Clones get the height of their original, a leaf promoted from an inline subtree gets height 0, a freshly
built node gets 1 + the sum of its children's heights.  With the counting invariant this gives: when the
last handle is gone, the heap is empty.

`Hgt.pos` is there for one step only: an edit may promote an inline child (height 0 by convention) to a
heap leaf of height 0, which must stay below its parent.  `Hgt.lt` also keeps child links inside the
heap, so that `hgt_alloc` is free in the height it gives to the fresh id `h.length`.  `editRef_hgt` and `build_hgt` walk the
recursions of `editRef` and `build` a second time, beside `owns_editRef` and `owns_build`: the height
function changes with the heap (`∃ f'`), so it cannot be a component of a triple that is stated for
every context at once.
-/
namespace TsVerif.C08

variable {D : Type}

theorem le_sum_of_mem {l : List Nat} {x : Nat} (hx : x ∈ l) : x ≤ l.sum := by
  induction l with
  | nil => cases hx
  | cons y ys ih =>
    rcases List.mem_cons.mp hx with h | h
    · subst h; simp
    · have := ih h; simp only [List.sum_cons]; omega

structure Hgt (h : Heap D) (f : Nat → Nat) : Prop where
  lt : ∀ i c, cellAt h i = some c → ∀ j, Ref.ptr j ∈ c.kids → f j < f i ∧ j < h.length
  pos : ∀ i c, cellAt h i = some c → c.kids ≠ [] → 1 ≤ f i

/-- The heap has no cycles: some height function decreases along every child link. -/
def Acyclic (s : State D) : Prop := ∃ f, Hgt s.heap f

def kidH (f : Nat → Nat) : Ref D → Nat
  | .inl _ => 0
  | .ptr j => f j

def InRange (h : Heap D) : Ref D → Prop
  | .inl _ => True
  | .ptr j => j < h.length

def Agree (n : Nat) (f f' : Nat → Nat) : Prop := ∀ j, j < n → f' j = f j

theorem Agree.refl (n : Nat) (f : Nat → Nat) : Agree n f f := fun _ _ => rfl

theorem Agree.trans {n m : Nat} {f g k : Nat → Nat} (h1 : Agree n f g) (h2 : Agree m g k) (hnm : n ≤ m) :
    Agree n f k := fun j hj => by rw [h2 j (by omega), h1 j hj]

theorem hgt_kidsFrom {h h' : Heap D} {f : Nat → Nat} (hk : KidsFrom h h') (hh : Hgt h f) : Hgt h' f := by
  refine ⟨fun i c' hc' j hj => ?_, fun i c' hc' hne => ?_⟩
  · obtain ⟨c, hc, hkk⟩ := hk.2 i c' hc'
    have := hh.lt i c hc j (hkk ▸ hj)
    have hlen := hk.1
    exact ⟨this.1, by omega⟩
  · obtain ⟨c, hc, hkk⟩ := hk.2 i c' hc'
    exact hh.pos i c hc (hkk ▸ hne)

theorem hgt_alloc {h : Heap D} {f : Nat → Nat} (hh : Hgt h f) (ks : List (Ref D)) (d : D) (v : Nat)
    (hks : ∀ j, Ref.ptr j ∈ ks → f j < v ∧ j < h.length) (hv : ks ≠ [] → 1 ≤ v) :
    ∃ f', Agree h.length f f' ∧ f' h.length = v ∧ Hgt (h ++ [some { rc := 1, kids := ks, data := d }]) f' := by
  refine ⟨fun j => if j = h.length then v else f j, fun j hj => if_neg (Nat.ne_of_lt hj), if_pos rfl, ?_, ?_⟩
  · intro i c hc j hj
    rw [cellAt_append_one] at hc
    rw [List.length_append, List.length_singleton]
    split at hc
    · next hi =>
      cases hc
      have := hks j hj
      rw [hi, if_pos rfl, if_neg (Nat.ne_of_lt this.2)]
      exact ⟨this.1, by omega⟩
    · have := hh.lt i c hc j hj
      rw [if_neg (Nat.ne_of_lt (cellAt_lt hc)), if_neg (Nat.ne_of_lt this.2)]
      exact ⟨this.1, by omega⟩
  · intro i c hc hne
    rw [cellAt_append_one] at hc
    split at hc
    · next hi => cases hc; rw [hi, if_pos rfl]; exact hv hne
    · rw [if_neg (Nat.ne_of_lt (cellAt_lt hc))]; exact hh.pos i c hc hne

theorem makeMut_hgt {h : Heap D} {X : List (Ref D)} {i : Nat} {f : Nat → Nat} (hw : WF h (.ptr i :: X))
    (hh : Hgt h f) : ∃ f1, Agree h.length f f1 ∧ Hgt (makeMut h i).1 f1 ∧ f1 (makeMut h i).2 = f i := by
  obtain ⟨c, hc⟩ := hw.head_live
  by_cases h1 : c.rc = 1
  · rw [makeMut_unshared hc h1]; exact ⟨f, Agree.refl _ _, hh, rfl⟩
  · rw [makeMut_shared_eq hw hc h1]
    have hr := rcEq_retainAll c.kids h
    obtain ⟨f', hag, hv, hh2⟩ := hgt_alloc (hgt_kidsFrom hr.kidsFrom hh) c.kids c.data (f i)
      (fun j hj => by rw [hr.length_eq]; exact hh.lt i c hc j hj) (hh.pos i c hc)
    exact ⟨f', by rw [← hr.length_eq]; exact hag, hgt_kidsFrom (rcEq_setRc _ i (· - 1)).kidsFrom hh2, hv⟩

theorem inRange_mono {h h' : Heap D} (hl : h.length ≤ h'.length) {r : Ref D} (hr : InRange h r) : InRange h' r := by
  cases r with
  | inl d => trivial
  | ptr j => exact Nat.lt_of_lt_of_le hr hl

theorem WF.inRange {h : Heap D} {A : List (Ref D)} (hw : WF h A) {r : Ref D} (hr : r ∈ A) : InRange h r := by
  cases r with
  | inl d => trivial
  | ptr j =>
    obtain ⟨c, hc⟩ := hw.mem_live hr
    exact cellAt_lt hc

theorem kidH_agree {h : Heap D} {f f' : Nat → Nat} (ha : Agree h.length f f') {r : Ref D} (hr : InRange h r) :
    kidH f' r = kidH f r := by
  cases r with
  | inl d => rfl
  | ptr j => exact ha j hr

mutual
  theorem editRef_hgt : ∀ (spec : EditSpec D) (h : Heap D) (r : Ref D) (X : List (Ref D)) (f : Nat → Nat),
      WF h (r :: X) → Hgt h f → InRange h r →
      ∃ f', Agree h.length f f' ∧ Hgt (editRef h r spec).1 f' ∧ kidH f' (editRef h r spec).2 = kidH f r ∧
        InRange (editRef h r spec).1 (editRef h r spec).2
    | .skip, h, r, X, f, _, hh, hr => by
      unfold editRef
      exact ⟨f, Agree.refl _ _, hh, rfl, hr⟩
    | .visit nd promote specs, h, .inl d, X, f, _, hh, _ => by
      unfold editRef
      cases promote with
      | true =>
        obtain ⟨f', hag, hv, hh'⟩ := hgt_alloc hh [] nd 0 (fun _ hj => nomatch hj) (fun hne => absurd rfl hne)
        exact ⟨f', hag, hh', hv, by simp [InRange]⟩
      | false => exact ⟨f, Agree.refl _ _, hh, rfl, trivial⟩
    | .visit nd promote specs, h, .ptr id0, X, f, hw, hh, _ => by
      obtain ⟨hw1, c, c', hc, hc', hrc, hkids, hdata⟩ := make_mut_result hw
      obtain ⟨f1, hag1, hh1, hf1⟩ := makeMut_hgt hw hh
      have hdm1 := deadMono_makeMut h id0
      have hi := cellAt_lt hc'
      have hw2 := takeOut_wf hw1 hc' hrc
      have hlen2 : ((makeMut h id0).1.set (makeMut h id0).2 none).length = (makeMut h id0).1.length :=
        List.length_set
      obtain ⟨f3, hag3, hh3, hbound, hne3⟩ := editKids_hgt specs _ c'.kids X f1 (f1 (makeMut h id0).2) hw2
        (hgt_kidsFrom (kidsFrom_set_none _ _) hh1) (fun _ hk => hw2.inRange (List.mem_append_left _ hk))
        (fun j hj => (hh1.lt _ c' hc' j hj).1) (hh1.pos _ c' hc')
      obtain ⟨_, hi3⟩ := (editKids_ok specs _ c'.kids X hw2).2.slot hi
      have hf3id : f3 (makeMut h id0).2 = f1 (makeMut h id0).2 := hag3 _ (by rw [hlen2]; exact hi)
      unfold editRef
      simp only [hc']
      refine ⟨f3, Agree.trans hag1 (by rw [hlen2] at hag3; exact hag3) hdm1.1, ?_, ?_, ?_⟩
      · refine ⟨fun i c2 hc2 j hj => ?_, fun i c2 hc2 hne => ?_⟩
        · rw [List.length_set]
          rw [cellAt_set hi3] at hc2
          split at hc2
          · next hii => cases hc2; rw [hii, hf3id]; exact hbound j hj
          · exact hh3.lt i c2 hc2 j hj
        · rw [cellAt_set hi3] at hc2
          split at hc2
          · next hii => cases hc2; rw [hii, hf3id]; exact hh1.pos _ c' hc' (hne3 hne)
          · exact hh3.pos i c2 hc2 hne
      · show f3 _ = f id0; rw [hf3id, hf1]
      · show _ < _; rw [List.length_set]; exact hi3
  /-- `B` is the height of the cell the children will be put back under: every child stays below it,
  a promoted inline child (new height 0) because `1 ≤ B`. -/
  theorem editKids_hgt : ∀ (specs : List (EditSpec D)) (h : Heap D) (ks : List (Ref D)) (X : List (Ref D))
      (f : Nat → Nat) (B : Nat), WF h (ks ++ X) → Hgt h f → (∀ k, k ∈ ks → InRange h k) →
      (∀ j, Ref.ptr j ∈ ks → f j < B) → (ks ≠ [] → 1 ≤ B) →
      ∃ f', Agree h.length f f' ∧ Hgt (editKids h ks specs).1 f' ∧
        (∀ j, Ref.ptr j ∈ (editKids h ks specs).2 → f' j < B ∧ j < (editKids h ks specs).1.length) ∧
        ((editKids h ks specs).2 ≠ [] → ks ≠ [])
    | _, h, [], X, f, B, _, hh, _, _, _ => by
      unfold editKids
      exact ⟨f, Agree.refl _ _, hh, (fun j hj => by simp at hj), (fun hne => hne)⟩
    | [], h, k :: ks, X, f, B, _, hh, hkr, hb, _ => by
      unfold editKids
      refine ⟨f, Agree.refl _ _, hh, (fun j hj => ⟨hb j hj, ?_⟩), (fun hne => hne)⟩
      exact hkr _ hj
    | s :: ss, h, k :: ks, X, f, B, hw, hh, hkr, hb, hB => by
      obtain ⟨f1, hag1, hh1, hk1, hr1⟩ := editRef_hgt s h k (ks ++ X) f hw hh (hkr k List.mem_cons_self)
      have h1 := editRef_ok s h k (ks ++ X) hw
      have hw1' := wf_swap.mp h1.1
      obtain ⟨f2, hag2, hh2, hb2, _⟩ := editKids_hgt ss (editRef h k s).1 ks ((editRef h k s).2 :: X) f1 B hw1' hh1
        (fun _ hk' => hw1'.inRange (List.mem_append_left _ hk'))
        (fun j hj => hag1 j (hkr _ (List.mem_cons_of_mem _ hj)) ▸ hb j (List.mem_cons_of_mem _ hj))
        (fun _ => hB (List.cons_ne_nil _ _))
      have h2 := editKids_ok ss (editRef h k s).1 ks ((editRef h k s).2 :: X) hw1'
      unfold editKids
      simp only
      refine ⟨f2, Agree.trans hag1 hag2 h1.2.1, hh2, ?_, fun _ => List.cons_ne_nil _ _⟩
      intro j hj
      rcases List.mem_cons.mp hj with hj | hj
      · -- the edited first child: same height as before
        rw [← hj] at hr1 hk1
        have hr1 : j < _ := hr1
        refine ⟨?_, Nat.lt_of_lt_of_le hr1 h2.2.1⟩
        rw [hag2 j hr1, show f1 j = kidH f k from hk1]
        cases k with
        | inl d => exact hB (List.cons_ne_nil _ _)
        | ptr j0 => exact hb j0 List.mem_cons_self
      · exact hb2 j hj
end

theorem kidsFrom_of_ext_rev {h h' : Heap D} (hl : h.length ≤ h'.length)
    (hk : ∀ i c', cellAt h' i = some c' → ∃ c, cellAt h i = some c ∧ c.kids = c'.kids) : KidsFrom h h' := ⟨hl, hk⟩

mutual
  theorem build_hgt : ∀ (spec : BuildSpec D) (h : Heap D) (f : Nat → Nat), Hgt h f → reusedLive h spec = true →
      ∃ f', Agree h.length f f' ∧ Hgt (build h spec).1 f' ∧ InRange (build h spec).1 (build h spec).2
    | .reuse (.inl d), h, f, hh, _ => by
      unfold build
      exact ⟨f, Agree.refl _ _, hh, trivial⟩
    | .reuse (.ptr i), h, f, hh, hl => by
      unfold reusedLive at hl
      unfold build
      refine ⟨f, Agree.refl _ _, hgt_kidsFrom (rcEq_retain h (.ptr i)).kidsFrom hh, ?_⟩
      obtain ⟨c, hc⟩ := Option.isSome_iff_exists.mp hl
      exact Nat.lt_of_lt_of_eq (cellAt_lt hc) (rcEq_retain h (.ptr i)).length_eq.symm
    | .leaf d, h, f, hh, _ => by
      unfold build
      exact ⟨f, Agree.refl _ _, hh, trivial⟩
    | .node d specs, h, f, hh, hl => by
      unfold reusedLive at hl
      obtain ⟨f1, hag1, hh1, hr1⟩ := buildKids_hgt specs h f hh hl
      unfold build
      simp only
      obtain ⟨f2, hag2, hv, hh2⟩ := hgt_alloc hh1 (buildKids h specs).2 d
        (1 + ((buildKids h specs).2.map (kidH f1)).sum)
        (fun j hj => by
          have hm : kidH f1 (Ref.ptr j : Ref D) ∈ (buildKids h specs).2.map (kidH f1) := List.mem_map_of_mem hj
          have := le_sum_of_mem hm
          simp only [kidH] at this
          exact ⟨by omega, hr1 _ hj⟩)
        (fun _ => by omega)
      refine ⟨f2, Agree.trans hag1 hag2 (buildKids_deadMono specs h).1, hh2, ?_⟩
      simp [InRange]
  theorem buildKids_hgt : ∀ (specs : List (BuildSpec D)) (h : Heap D) (f : Nat → Nat), Hgt h f →
      reusedLiveL h specs = true →
      ∃ f', Agree h.length f f' ∧ Hgt (buildKids h specs).1 f' ∧
        ∀ k, k ∈ (buildKids h specs).2 → InRange (buildKids h specs).1 k
    | [], h, f, hh, _ => by
      unfold buildKids
      exact ⟨f, Agree.refl _ _, hh, fun k hk => by cases hk⟩
    | s :: ss, h, f, hh, hl => by
      unfold reusedLiveL at hl
      simp only [Bool.and_eq_true] at hl
      obtain ⟨f1, hag1, hh1, hr1⟩ := build_hgt s h f hh hl.1
      have hl2 := reusedLiveL_ext (build_ext s h) ss hl.2
      obtain ⟨f2, hag2, hh2, hr2⟩ := buildKids_hgt ss (build h s).1 f1 hh1 hl2
      unfold buildKids
      simp only
      refine ⟨f2, Agree.trans hag1 hag2 (build_deadMono s h).1, hh2, ?_⟩
      intro k hk
      rcases List.mem_cons.mp hk with hk | hk
      · subst hk; exact inRange_mono (buildKids_deadMono ss _).1 hr1
      · exact hr2 k hk
end

/-- A live cell that no root owns has a live parent, which is strictly higher; heights of live cells
are bounded by the sum of `f` over the heap, so climbing must stop: strong induction on that bound
minus `f i`. -/
theorem empty_of_no_roots {h : Heap D} {f : Nat → Nat} (hw : WF h []) (hh : Hgt h f) :
    ∀ i, cellAt h i = none := by
  have key : ∀ d i c, cellAt h i = some c → (1 + ((List.range h.length).map f).sum) - f i = d → False := by
    intro d
    induction d using Nat.strongRecOn with
    | ind d ih =>
      intro i c hc hd
      have hpos := hw.pos i c hc
      have hcount := hw.count i
      rw [rcOf_of_cell hc, cnt_nil] at hcount
      have hp2 : 0 < cnt i (kidsOf h) := by omega
      obtain ⟨p, cp, hcp, hm⟩ := exists_parent h hp2
      have hlt := (hh.lt p cp hcp i hm).1
      have hb : f p ≤ ((List.range h.length).map f).sum :=
        le_sum_of_mem (List.mem_map_of_mem (List.mem_range.mpr (cellAt_lt hcp)))
      exact ih _ (by omega) p cp hcp rfl
  intro i
  cases hc : cellAt h i with
  | none => rfl
  | some c => exact (key _ i c hc rfl).elim

theorem acyclic_copy (s : State D) (h : Nat) (ha : Acyclic s) : Acyclic (s.copy h) := by
  obtain ⟨f, hf⟩ := ha
  exact ⟨f, hgt_kidsFrom (rcEq_copy s h).kidsFrom hf⟩

theorem acyclic_delete (s : State D) (h : Nat) (ha : Acyclic s) : Acyclic (s.delete h) := by
  obtain ⟨f, hf⟩ := ha
  exact s.delete_cases h ⟨f, hf⟩ fun r _ => ⟨f, hgt_kidsFrom (kidsFrom_release s.heap r) hf⟩

theorem acyclic_edit (s : State D) (h : Nat) (spec : EditSpec D) (hw : SWF s) (ha : Acyclic s) :
    Acyclic (s.edit h spec) := by
  obtain ⟨f, hf⟩ := ha
  refine s.edit_cases h spec ⟨f, hf⟩ fun r hr => ?_
  have hw0 := swf_split hw hr
  obtain ⟨f', _, hf', _, _⟩ := editRef_hgt spec s.heap r _ f hw0 hf (hw0.inRange List.mem_cons_self)
  exact ⟨f', hf'⟩

theorem acyclic_reparse (s : State D) (spec : BuildSpec D) (ha : Acyclic s) : Acyclic (s.reparse spec) := by
  obtain ⟨f, hf⟩ := ha
  refine s.reparse_cases spec ⟨f, hf⟩ fun hl => ?_
  obtain ⟨f', _, hf', _⟩ := build_hgt spec s.heap f hf hl
  exact ⟨f', hf'⟩

theorem apply_acyclic (s : State D) (op : Op D) (hw : SWF s) (ha : Acyclic s) : Acyclic (s.apply op) := by
  cases op with
  | copy h => exact acyclic_copy s h ha
  | edit h spec => exact acyclic_edit s h spec hw ha
  | delete h => exact acyclic_delete s h ha
  | reparse spec => exact acyclic_reparse s spec ha

theorem acyclic_empty : Acyclic (State.empty : State D) :=
  ⟨fun _ => 0, ⟨fun _ _ hc => (by cases hc), fun _ _ hc => (by cases hc)⟩⟩

end TsVerif.C08
