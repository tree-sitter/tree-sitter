import TsVerif.C08.Props
/-!
# C08 — the persistence theorem, as one invariant by induction over operations

`persistence` packages what `Props.lean` proves operation by operation into the shape of the
property: take ANY history of `copy / edit / delete / reparse` operations (each of which is a
composition of the primitive `retain / release / make_mut / clone` steps of `Model.lean`) from
any valid state.  Then, in every state the history passes through,

* (a) **no cell is freed while it is reachable from a live handle** (`Reachable`: a handle's root,
  or a child of a reachable live cell) — `reachable_live`;
* (b) **`make_mut` never lets a shared cell be written**: the cell it hands to the writer has count
  1 and *no other reference at all* — no other owner in the context, no child link of any live cell
  — and every cell that existed before (the shared original included) keeps its children and payload
  — `make_mut_never_mutates_shared` (Invariant.lean: a fact about every single `make_mut` on a valid
  heap, hence about every one a history performs; it is not a conjunct of `persistence`);
* (c) **what a handle observes changes only through an edit (or delete) of that very handle**: for
  every handle `h'` that the history neither edits nor deletes, the root stored in `h'` and the
  whole tree unfolded from it are the same after the history as before — `observation_stable`.

The ties are those of the check: every operation of a real history is replayed on the model and the
predicted heap (counts, sharing, payloads) is compared with the dump of the real heap
(correspondence), the invariant `SWF` and the isolation of every other handle are evaluated on the
real dumps (judge), and the atomicity / exclusivity assumptions are probed on the real code
(`cunit_c08`: 16-thread lost-update probe, concurrent retain/release, `make_mut` in place iff
unshared).
-/
namespace TsVerif.C08

variable {D : Type}

inductive Reachable (s : State D) : Nat → Prop
  | root {h i : Nat} : s.root h = some (.ptr i) → Reachable s i
  | kid {i j : Nat} {c : Cell D} : Reachable s i → cellAt s.heap i = some c → Ref.ptr j ∈ c.kids → Reachable s j

theorem reachable_live {s : State D} (hw : SWF s) : ∀ i, Reachable s i → ∃ c, cellAt s.heap i = some c := by
  intro i hr
  induction hr with
  | root hroot => exact hw.mem_live (root_mem hroot)
  | kid _ hc hj _ => exact hw.kids_live hc hj

def Op.touches (h' : Nat) : Op D → Prop
  | .edit h _ => h = h'
  | .delete h => h = h'
  | .copy _ => False
  | .reparse _ => False

theorem apply_isolated (s : State D) (op : Op D) (hw : SWF s) (h' : Nat) (hnt : ¬ op.touches h')
    (r' : Ref D) (hr' : s.root h' = some r') :
    (s.apply op).root h' = some r' ∧
    ∀ (f : Nat) (t : OTree D), unfold f s.heap r' = some t → unfold f (s.apply op).heap r' = some t := by
  cases op with
  | copy h => exact ⟨copy_root s h h' r' hr', fun f t hu => copy_isolated s h r' f t hu⟩
  | edit h spec => exact edit_isolated s h h' spec hw (fun e => hnt e.symm) r' hr'
  | delete h => exact delete_isolated s h h' hw (fun e => hnt e.symm) r' hr'
  | reparse spec => exact reparse_isolated s spec h' r' hr'

theorem observation_stable (ops : List (Op D)) : ∀ (s : State D), SWF s → ∀ (h' : Nat),
    (∀ op ∈ ops, ¬ Op.touches h' op) → ∀ (r' : Ref D), s.root h' = some r' →
    (ops.foldl State.apply s).root h' = some r' ∧
    ∀ (f : Nat) (t : OTree D), unfold f s.heap r' = some t → unfold f (ops.foldl State.apply s).heap r' = some t := by
  intro s hw h' hnt r' hr'
  refine (List.foldlRecOn (motive := fun s' => SWF s' ∧ s'.root h' = some r' ∧
    ∀ (f : Nat) (t : OTree D), unfold f s.heap r' = some t → unfold f s'.heap r' = some t)
    ops State.apply ⟨hw, hr', fun _ _ hu => hu⟩ fun s' k op hop => ?_).2
  have h1 := apply_isolated s' op k.1 h' (hnt op hop) r' k.2.1
  exact ⟨apply_swf s' op k.1, h1.1, fun f t hu => h1.2 f t (k.2.2 f t hu)⟩

/-- The property's statement over the reference-count model: from any valid state,
after any history of copy / edit / delete / re-parse operations (`ops` is arbitrary, so also after every prefix),
the state is valid (`ref_count = number of owners` for every id), nothing reachable from a live handle
is freed, and every handle that the history neither edited nor deleted still holds the same root and
observes the same tree. -/
theorem persistence (ops : List (Op D)) (s : State D) (hw : SWF s) :
    SWF (ops.foldl State.apply s) ∧
    (∀ i, Reachable (ops.foldl State.apply s) i → ∃ c, cellAt (ops.foldl State.apply s).heap i = some c) ∧
    (∀ (h' : Nat), (∀ op ∈ ops, ¬ Op.touches h' op) → ∀ (r' : Ref D), s.root h' = some r' →
      (ops.foldl State.apply s).root h' = some r' ∧
      ∀ (f : Nat) (t : OTree D), unfold f s.heap r' = some t → unfold f (ops.foldl State.apply s).heap r' = some t) :=
  ⟨rc_invariant ops s hw, reachable_live (rc_invariant ops s hw), fun h' hnt r' hr' => observation_stable ops s hw h' hnt r' hr'⟩

/-- Non-vacuity: two handles on one shared cell; handle 0 is edited (the shared cell is rewritten),
copied, the copy deleted, handle 0 deleted — handle 1, untouched by the history, still observes
`1(5)`; the invariant's consequence (a) is not vacuous either: cell 0 stays live to the end. -/
example :
    let s : State Nat := { heap := [some { rc := 2, kids := [.inl 5], data := 1 }], handles := [some (.ptr 0), some (.ptr 0)] }
    let ops : List (Op Nat) := [.edit 0 (.visit 9 false [.visit 6 false []]), .copy 0, .delete 2, .delete 0]
    let s' := ops.foldl State.apply s
    s'.root 1 = some (.ptr 0) ∧ cellAt s'.heap 0 = some { rc := 1, kids := [.inl 5], data := 1 } ∧
    cellAt s'.heap 1 = none ∧ s'.root 0 = none := by
  decide +kernel

/-! ## The observation is defined: with enough fuel `unfold` succeeds on every live reference

`observation_stable` speaks about `unfold f s.heap r' = some t`; it would be empty talk if `unfold`
could fail for every fuel.  In a valid acyclic state it succeeds as soon as the fuel exceeds the
height of the root. -/

/-- Live, and of height below the fuel: what `unfold n` needs of a reference to succeed. -/
def Unfoldable (h : Heap D) (g : Nat → Nat) (n : Nat) : Ref D → Prop
  | .inl _ => True
  | .ptr i => (∃ c, cellAt h i = some c) ∧ g i < n

/-- The list half of `unfold_total`, in the shape of `unfoldL_frame_of` and for the same reason. -/
theorem unfoldL_total_of {h : Heap D} {g : Nat → Nat} (n : Nat)
    (ih : ∀ r, Unfoldable h g n r → ∃ t, unfold n h r = some t) :
    ∀ ks : List (Ref D), (∀ k ∈ ks, Unfoldable h g n k) → ∃ ts, unfoldL n h ks = some ts
  | [], _ => ⟨[], unfoldL_nil n h⟩
  | k :: ks, hk => by
    obtain ⟨t, ht⟩ := ih k (hk k List.mem_cons_self)
    obtain ⟨ts, hts⟩ := unfoldL_total_of n ih ks (fun x hx => hk x (List.mem_cons_of_mem _ hx))
    exact ⟨t :: ts, unfoldL_cons_some.mpr ⟨t, ts, ht, hts, rfl⟩⟩

theorem unfold_total {h : Heap D} {g : Nat → Nat} (hh : Hgt h g)
    (hclosed : ∀ i c, cellAt h i = some c → ∀ j, Ref.ptr j ∈ c.kids → ∃ c', cellAt h j = some c') :
    ∀ (n : Nat) (r : Ref D), Unfoldable h g n r → ∃ t, unfold n h r = some t
  | n, .inl d, _ => ⟨_, unfold_inl n h d⟩
  | 0, .ptr _, hr => absurd hr.2 (Nat.not_lt_zero _)
  | n + 1, .ptr i, ⟨⟨c, hc⟩, hlt⟩ => by
    have hk : ∀ k ∈ c.kids, Unfoldable h g n k := by
      intro k hk
      cases k with
      | inl d => trivial
      | ptr j => exact ⟨hclosed i c hc j hk, Nat.lt_of_lt_of_le (hh.lt i c hc j hk).1 (Nat.le_of_lt_succ hlt)⟩
    obtain ⟨ts, hts⟩ := unfoldL_total_of n (unfold_total hh hclosed n) c.kids hk
    exact ⟨_, unfold_ptr_some.mpr ⟨c, ts, hc, hts, rfl⟩⟩

theorem observation_defined {s : State D} (hw : SWF s) (ha : Acyclic s) (h' : Nat) (r' : Ref D)
    (hr' : s.root h' = some r') : ∃ f t, unfold f s.heap r' = some t := by
  obtain ⟨g, hg⟩ := ha
  cases r' with
  | inl d => exact ⟨0, _, unfold_inl 0 s.heap d⟩
  | ptr i =>
    obtain ⟨t, ht⟩ := unfold_total hg (fun _ _ hc _ hj => hw.kids_live hc hj) (g i + 1) (.ptr i)
      ⟨hw.mem_live (root_mem hr'), Nat.lt_succ_self _⟩
    exact ⟨g i + 1, t, ht⟩

/-- **Persistence for every family of handles that descends from parses**: start with nothing, apply
any history (the first operations being parses = `reparse` with any build specification); every
state on the way is valid and acyclic, every handle observes a tree, and `persistence` applies to
every suffix of the history. -/
theorem persistence_from_empty (pre ops : List (Op D)) :
    let s := pre.foldl State.apply (State.empty : State D)
    SWF s ∧ Acyclic s ∧
    (∀ h' r', s.root h' = some r' → ∃ f t, unfold f s.heap r' = some t) ∧
    SWF (ops.foldl State.apply s) ∧
    (∀ i, Reachable (ops.foldl State.apply s) i → ∃ c, cellAt (ops.foldl State.apply s).heap i = some c) ∧
    (∀ (h' : Nat), (∀ op ∈ ops, ¬ Op.touches h' op) → ∀ (r' : Ref D), s.root h' = some r' →
      (ops.foldl State.apply s).root h' = some r' ∧
      ∀ (f : Nat) (t : OTree D), unfold f s.heap r' = some t → unfold f (ops.foldl State.apply s).heap r' = some t) := by
  intro s
  have hw : SWF s := rc_invariant pre _ swf_empty
  have ha : Acyclic s := (acyclic_invariant pre _ swf_empty acyclic_empty).2
  have hp := persistence ops s hw
  exact ⟨hw, ha, fun h' r' hr' => observation_defined hw ha h' r' hr', hp.1, hp.2.1, hp.2.2⟩

/-- Non-vacuity: parse a node with two leaves from nothing; handle 0 exists and its root cell is
`7(1, 2)`. -/
example :
    let pre : List (Op Nat) := [.reparse (.node 7 [.leaf 1, .leaf 2])]
    let s := pre.foldl State.apply (State.empty : State Nat)
    s.root 0 = some (.ptr 0) ∧ cellAt s.heap 0 = some { rc := 1, kids := [.inl 1, .inl 2], data := 7 } := by
  decide +kernel

end TsVerif.C08
