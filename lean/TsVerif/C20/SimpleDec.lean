import TsVerif.C20.Spec
/-!
# C20 — the syntactic well-formedness hypothesis `SimpleS` is decidable

`SimpleS suf c` (Spec.lean) is the hypothesis on the corrections of `roundtrip_built`,
`update_preserves_general`, `update_idempotent_general`.  The driver evaluates it on every real case (field
`simples`), next to the semantic condition `canonB` of the judge; `roundtrip_built`, and behind leading text `rewritten_shape`,
say the first implies the second, and the check asserts that implication on every real case.
-/
namespace TsVerif.C20

instance (n : Str) : Decidable (NameOK n) :=
  decidable_of_iff ((∀ l ∈ splitIncl (n ++ ['\n']), NameLineOK l) ∧ trimEnd (n ++ ['\n']) = n)
    ⟨fun ⟨a, b⟩ => ⟨a, b⟩, fun h => ⟨h.lines, h.trimmed⟩⟩

def firstMarker (a : Str) : Bool :=
  match splitIncl (a ++ ['\n']) with
  | l :: _ => markerLine l
  | [] => false

theorem firstMarker_iff (a : Str) :
    firstMarker a = true ↔ ∃ l ls, splitIncl (a ++ ['\n']) = l :: ls ∧ markerLine l = true := by
  unfold firstMarker
  cases h : splitIncl (a ++ ['\n']) with
  | nil => simp
  | cons l ls => simp

instance (a : Str) : Decidable (AttrsOK a) :=
  decidable_of_iff (a = [] ∨ (firstMarker a = true ∧
      (∀ l ∈ splitIncl (a ++ ['\n']), NoDelim '=' l) ∧ trimEnd (a ++ ['\n']) = a))
    (by unfold AttrsOK; rw [firstMarker_iff])

instance (suf : Str) (c : Correction) : Decidable (SimpleS suf c) :=
  decidable_of_iff (3 ≤ c.hlen ∧ 3 ≤ c.dlen ∧ NameOK c.name ∧ AttrsOK c.attrsStr ∧
      (∀ l ∈ splitIncl (c.input ++ ['\n']), BodyLineOK suf (fun n => decide (n ≤ c.dlen)) l) ∧
      popNewline (c.input ++ ['\n']) = c.input ∧
      (∀ l ∈ splitIncl (trim c.output ++ ['\n']), BodyLineOK suf (fun n => decide (n < c.dlen)) l))
    ⟨fun ⟨a, b, c', d, e, f, g⟩ => ⟨a, b, c', d, e, f, g⟩,
     fun h => ⟨h.hlen, h.dlen, h.name, h.attrs, h.inputLines, h.inputCr, h.outputLines⟩⟩

def simpleSAll (suf : Str) (cs : List Correction) : Bool :=
  decide (SufOK '=' suf) && decide (SufOK '-' suf) && cs.all fun c => decide (SimpleS suf c)

end TsVerif.C20
