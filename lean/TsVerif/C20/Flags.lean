import TsVerif.C20.Roundtrip
import TsVerif.C20.SimpleDec
/-!
# C20 — attribute FLAGS: what `parse_header` returns is canonical, and the write → parse round trip keeps it

`roundtrip_built` says that the flags of an entry read back from a written file are `flagsOf os name attrText` (what
`parse_header` computes from the attribute TEXT).  That these are the flags the test HAD before it was written needs
the attribute-line parsing of `parse_header` (`headerLine` / `headerLoop` / `parseHeader` in `Model.lean`, ports of
crates/cli/src/test.rs) on an ARBITRARY header block, not only on the one the writer produced:
the flag part of `parse_header`'s state depends only on the flags before and on `trim` of each line, never on the
collected name; and the reader's `attributes_str` is `trim_end` of the attribute region, which cut into lines again
is the same lines with the last non-blank one end-trimmed and the blank ones after it dropped (`trimLast`) — no flag
changes.

OPEN (why `_partial`): the full statement is for every entry `parse_test_content` can return.  Not covered:
name / attribute lines that are `===` runs with a FOREIGN suffix (`NoDelim '='` is asked; the reader accepts them);
an argument-less `:platform` / `:language` line in the NAME region: there the statement is FALSE for the real
code (`attributes_str` becomes empty although later markers set flags; see notes, "Observations").
-/
namespace TsVerif.C20

def HState.flags (st : HState) : Bool × Bool × Bool × Bool × Bool × Option Bool × List Str :=
  (st.seenMarker, st.seenSkip, st.seenError, st.failFast, st.cst, st.platform, st.languages)

theorem attrsOfState_congr {st st' : HState} (h : st.flags = st'.flags) : attrsOfState st = attrsOfState st' := by
  cases st; cases st'
  simp only [HState.flags, Prod.mk.injEq] at h
  obtain ⟨_, rfl, rfl, rfl, rfl, rfl, rfl⟩ := h
  rfl

theorem headerLine_flags_congr (os : Str) {st st' : HState} {l l' : Str} (hf : st.flags = st'.flags)
    (ht : trim l = trim l') : (headerLine os st l).map HState.flags = (headerLine os st' l').map HState.flags := by
  cases st; cases st'
  simp only [HState.flags, Prod.mk.injEq] at hf
  obtain ⟨rfl, rfl, rfl, rfl, rfl, rfl, rfl⟩ := hf
  simp only [headerLine, ht, apply_ite (Option.map HState.flags), Option.map_some, Option.map_none, HState.flags]
  cases markerArg nmPlatform (trim l') <;> cases markerArg nmLanguage (trim l') <;> rfl

theorem headerLine_flags (os : Str) {st st' : HState} (l : Str) (h : st.flags = st'.flags) :
    (headerLine os st l).map HState.flags = (headerLine os st' l).map HState.flags :=
  headerLine_flags_congr os h rfl

theorem headerLine_trim (os : Str) (st : HState) (l l' : Str) (h : trim l = trim l') :
    (headerLine os st l).map HState.flags = (headerLine os st l').map HState.flags :=
  headerLine_flags_congr os rfl h

theorem foldHeader_cons_flags (os : Str) {st st' : HState} {l l' : Str} {ls ls' : List Str} (hst : st.flags = st'.flags)
    (h : (headerLine os st l).map HState.flags = (headerLine os st' l').map HState.flags)
    (ih : ∀ a b : HState, a.flags = b.flags → (foldHeader os ls a).flags = (foldHeader os ls' b).flags) :
    (foldHeader os (l :: ls) st).flags = (foldHeader os (l' :: ls') st').flags := by
  unfold foldHeader
  cases h1 : headerLine os st l <;> cases h2 : headerLine os st' l' <;> rw [h1, h2] at h
  · exact hst
  · cases h
  · cases h
  · exact ih _ _ (Option.some.inj h)

theorem foldHeader_flags (os : Str) : ∀ (ls : List Str) (st st' : HState), st.flags = st'.flags →
    (foldHeader os ls st).flags = (foldHeader os ls st').flags
  | [], _, _, h => h
  | l :: ls, _, _, h => foldHeader_cons_flags os h (headerLine_flags os l h) (foldHeader_flags os ls)

theorem headerLine_blank (os : Str) (st : HState) (l : Str) (h : trim l = []) :
    headerLine os st l = none ∨ headerLine os st l = some st := by
  unfold headerLine
  simp only [h]
  -- the word in front of `(` is empty, no keyword: the `if`s evaluate
  cases hs : st.seenMarker
  · exact Or.inl rfl
  · exact Or.inr rfl

theorem foldHeader_blank (os : Str) : ∀ (ls : List Str) (st : HState), (∀ l ∈ ls, trim l = []) → foldHeader os ls st = st
  | [], _, _ => rfl
  | l :: ls, st, h => by
    unfold foldHeader
    rcases headerLine_blank os st l (h l List.mem_cons_self) with h1 | h1 <;> rw [h1]
    exact foldHeader_blank os ls st (fun x hx => h x (List.mem_cons_of_mem _ hx))

/-- The lines of `trimEnd (ls.flatten) ++ "\n"` (for complete lines `ls`), computed line by line. -/
def trimLast : List Str → List Str
  | [] => []
  | l :: ls =>
    if ls.flatten.all isWs then (if l.all isWs then [] else [trimEnd l ++ ['\n']])
    else l :: trimLast ls

theorem trimEnd_ne_nil {s : Str} (h : s.all isWs = false) : trimEnd s ≠ [] := fun hd => by
  rw [List.all_eq_true.mpr (all_of_dropWhileEnd_nil isWs s hd)] at h
  cases h

theorem trimEnd_lines : ∀ (A : List Str), (∀ l ∈ A, ∃ b, l = b ++ ['\n'] ∧ '\n' ∉ b) →
    attrL (trimEnd A.flatten) = trimLast A ∧ (A.flatten.all isWs = false → trimEnd A.flatten ≠ [])
  | [], _ => ⟨rfl, fun h => by cases h⟩
  | l :: ls, h => by
    refine ⟨?_, trimEnd_ne_nil⟩
    obtain ⟨b, rfl, hnb⟩ := h l List.mem_cons_self
    have ih := (trimEnd_lines ls fun x hx => h x (List.mem_cons_of_mem _ hx)).1
    have hnl : isWs '\n' = true := by decide
    have e2 : trimEnd (b ++ ['\n']) = trimEnd b := dropWhileEnd_snoc_true isWs b '\n' hnl
    unfold trimLast
    rw [List.flatten_cons]
    by_cases hls : ls.flatten.all isWs = true
    · -- only white space after the first line: it is the last line of the end-trimmed text, unless blank itself
      rw [if_pos hls, show trimEnd (b ++ ['\n'] ++ ls.flatten) = trimEnd b from
        (dropWhileEnd_append_ws isWs _ _ (List.all_eq_true.mp hls)).trans e2, e2]
      by_cases hl : (b ++ ['\n']).all isWs = true
      · rw [if_pos hl, show trimEnd b = [] from
          dropWhileEnd_all isWs b fun c hc => List.all_eq_true.mp hl c (List.mem_append_left _ hc)]
        rfl
      · have hne : trimEnd b ≠ [] := trimEnd_ne_nil (by simpa [List.all_append, hnl] using hl)
        obtain ⟨t, ht, _⟩ := dropWhileEnd_prefix_ws isWs b
        rw [if_neg hl, attrL_of_ne hne]
        exact splitIncl_line _ fun hc => hnb (ht ▸ List.mem_append_left _ hc)
    · have hne : trimEnd ls.flatten ≠ [] := trimEnd_ne_nil (by simpa using hls)
      rw [if_neg hls, show trimEnd (b ++ ['\n'] ++ ls.flatten) = b ++ '\n' :: trimEnd ls.flatten from
        (dropWhileEnd_append_keep isWs _ _ hne).trans (by simp [trimEnd]), attrL_of_ne (by simp), List.append_assoc,
        List.cons_append, splitIncl_line_cons b _ hnb, ← attrL_of_ne hne, ih]

theorem foldHeader_trimLast (os : Str) : ∀ (A : List Str) (st : HState),
    (foldHeader os (trimLast A) st).flags = (foldHeader os A st).flags
  | [], _ => rfl
  | l :: ls, st => by
    unfold trimLast
    split
    · next hls =>
      have hbl : ∀ x ∈ ls, trim x = [] := fun x hx =>
        trim_all_ws x fun c hc => List.all_eq_true.mp hls c (List.mem_flatten.mpr ⟨x, hx, hc⟩)
      split
      · next hl =>
        rw [foldHeader_blank os (l :: ls) st fun x hx => (List.mem_cons.mp hx).elim
          (· ▸ trim_all_ws l (List.all_eq_true.mp hl)) (hbl x)]
        rfl
      · exact foldHeader_cons_flags os rfl (headerLine_trim os st _ l (trim_trimEnd_nl l))
          fun a b hab => by rw [foldHeader_blank os ls b hbl]; exact hab
    · exact foldHeader_cons_flags os rfl rfl fun a b hab =>
        (foldHeader_trimLast os ls a).trans (foldHeader_flags os ls a b hab)

/-- The case `A := attrL a` of `HdrShapeG`: the attribute region is the lines of an end-trimmed text. -/
structure HdrShape (fs : Option Str) (N : List Str) (a : Str) (H : Str) : Prop where
  names : ∀ l ∈ N, NameLineOK l
  attrs : AttrsOK a
  close : isHeaderDelim fs H = true

structure HdrShapeG (fs : Option Str) (N A : List Str) (H : Str) : Prop where
  names : ∀ l ∈ N, NameLineOK l
  complete : ∀ l ∈ A, ∃ b, l = b ++ ['\n'] ∧ '\n' ∉ b
  nodelim : ∀ l ∈ A, NoDelim '=' l
  first : A = [] ∨ ∃ l ls, A = l :: ls ∧ markerLine l = true
  close : isHeaderDelim fs H = true

/-- **Canonical flags, general attribute region.**  For every header block
`opening line :: name lines ++ A ++ closing line :: rest` with `HdrShapeG` (the attribute region `A` is any list of
complete lines starting with a recognised attribute — trailing white space, CRLF line ends, blank lines, unknown
`:foo` lines, repeated attributes all allowed), what `parse_header` returns has
`attrs = flagsOf os name attrsStr`, where `attrsStr = trim_end` of the region.
This is the hypothesis `e.attrs = flagsOf os e.name e.attrsStr` of `update_idempotent_general` /
`update_preserves_general` (there measured on the real entries), PROVED from the shape of the header.
`_partial`: see OPEN in the head comment. -/
theorem parseHeader_canonical_ws_partial (fs : Option Str) (os l0 : Str) (N A : List Str) (H : Str) (rest : List Str)
    (p : Pending) (k : Nat) (hs : HdrShapeG fs N A H)
    (hp : parseHeader fs os (l0 :: (N ++ (A ++ H :: rest))) = some (p, k)) :
    p.attrs = flagsOf os p.name p.attrsStr ∧ p.attrsStr = trimEnd A.flatten ∧ p.name = trimEnd N.flatten := by
  obtain ⟨h1, h2, h3⟩ := parseHeader_block_of_some fs os l0 N A H rest p k hp hs.names hs.nodelim
    (by rcases hs.first with rfl | ⟨l, ls, rfl, hm⟩
        · intro l hl; cases hl
        · intro l' hl'; cases hl'; exact hm) hs.close
  refine ⟨?_, h2, h1⟩
  rw [h3, h2, flagsOf_eq, (trimEnd_lines A hs.complete).1]
  exact attrsOfState_congr ((foldHeader_trimLast os A _).symm.trans (foldHeader_flags os _ _ _ rfl))

/-- **Canonical flags** for the header blocks whose attribute region is the lines of an `AttrsOK` text (no trailing
white space): the attribute text returned is that text. -/
theorem parseHeader_canonical_partial (fs : Option Str) (os l0 : Str) (N : List Str) (a H : Str) (rest : List Str)
    (p : Pending) (k : Nat) (hs : HdrShape fs N a H)
    (hp : parseHeader fs os (l0 :: (N ++ (attrL a ++ H :: rest))) = some (p, k)) :
    p.attrs = flagsOf os p.name p.attrsStr ∧ p.attrsStr = a ∧ p.name = trimEnd N.flatten := by
  obtain ⟨h1, h2, h3⟩ := parseHeader_block_of_some fs os l0 N (attrL a) H rest p k hp hs.names
    (attrL_noDelim hs.attrs) (attrL_first hs.attrs) hs.close
  rw [trimEnd_attrL hs.attrs] at h2
  refine ⟨?_, h2, h1⟩
  rw [h3, h2]
  exact attrsOfState_congr (foldHeader_flags os _ _ _ rfl)

/-- **Flags after the round trip.**  For every list of entries whose flags are canonical, every choice `o` of the
expectation written for each entry, every admissible suffix: the file `write_tests_to_buffer` produces reads back
with, test by test, the same attribute flags (`:skip` / `:error` (`expect`), `:fail-fast`, `:cst`, `:platform`,
`:language` list) as before — next to the same name / attribute text / input / delimiter lengths
(`roundtrip_suffixed`).  Partial: "canonical" is a hypothesis here; `parseHeader_canonical_ws_partial` and
`written_canonical` discharge it for entries read from header blocks of the stated shape. -/
theorem roundtrip_flags_partial (os suf : Str) (hse : SufOK '=' suf) (hsd : SufOK '-' suf) (es : List Entry)
    (o : Entry → Str) (h : ∀ e ∈ es, SimpleS suf (e.corr (o e)))
    (hcanon : ∀ e ∈ es, e.attrs = flagsOf os e.name e.attrsStr) :
    (parseFile os (writeTests suf (es.map fun e => e.corr (o e)))).map Entry.attrs = es.map Entry.attrs ∧
    (parseFile os (writeTests suf (es.map fun e => e.corr (o e)))).map Entry.dkey = es.map Entry.dkey := by
  have hb := roundtrip_built os suf hse hsd (es.map fun e => e.corr (o e))
    (List.forall_mem_map.mpr h)
  refine ⟨?_, ?_⟩
  · rw [(hb.imp_mem fun _ _ _ _ hb => hb.flags).map_eq, List.map_map]
    exact List.map_congr_left fun e he => (hcanon e he).symm
  · rw [forall2_map_dkey hb, List.map_map]
    exact List.map_congr_left fun e _ => rfl

def ReadFromHeader (os : Str) (e : Entry) : Prop :=
  ∃ (fs : Option Str) (l0 : Str) (N : List Str) (a H : Str) (rest : List Str) (p : Pending) (k : Nat),
    HdrShape fs N a H ∧ parseHeader fs os (l0 :: (N ++ (attrL a ++ H :: rest))) = some (p, k) ∧
    e.name = p.name ∧ e.attrsStr = p.attrsStr ∧ e.attrs = p.attrs

/-- `flags (parse (write t)) = flags t` for tests whose headers were read by `parse_header` from blocks of the
stated shape: the flags before the round trip are those the REAL header gave, the flags after it are those of
the re-read written header. -/
theorem roundtrip_flags_of_headers_partial (os suf : Str) (hse : SufOK '=' suf) (hsd : SufOK '-' suf) (es : List Entry)
    (o : Entry → Str) (h : ∀ e ∈ es, SimpleS suf (e.corr (o e))) (hread : ∀ e ∈ es, ReadFromHeader os e) :
    (parseFile os (writeTests suf (es.map fun e => e.corr (o e)))).map Entry.attrs = es.map Entry.attrs :=
  (roundtrip_flags_partial os suf hse hsd es o h (by
    intro e he
    obtain ⟨fs, l0, N, a, H, rest, p, k, hs, hp, h1, h2, h3⟩ := hread e he
    rw [h1, h2, h3]
    exact (parseHeader_canonical_partial fs os l0 N a H rest p k hs hp).1)).1

def ReadFromHeaderG (os : Str) (e : Entry) : Prop :=
  ∃ (fs : Option Str) (l0 : Str) (N A : List Str) (H : Str) (rest : List Str) (p : Pending) (k : Nat),
    HdrShapeG fs N A H ∧ parseHeader fs os (l0 :: (N ++ (A ++ H :: rest))) = some (p, k) ∧
    e.name = p.name ∧ e.attrsStr = p.attrsStr ∧ e.attrs = p.attrs

/-- **`flags (parse (write t)) = flags t`** for every list of tests whose headers `parse_header` read from blocks
with `HdrShapeG` (attribute lines with trailing white space, CRLF, blank lines, unknown attributes included), whatever
expectation `o e` is written for each: the written file reads back, test by test, with the same `:skip` / `:error`
(`expect`), `:fail-fast`, `:cst`, `:platform` and `:language` flags.  (`SimpleS` of the corrections = the hypothesis of
`roundtrip_suffixed`; that its `attrs` part follows from the header shape is not proved here — kept as hypothesis.) -/
theorem roundtrip_flags_of_headers_ws_partial (os suf : Str) (hse : SufOK '=' suf) (hsd : SufOK '-' suf) (es : List Entry)
    (o : Entry → Str) (h : ∀ e ∈ es, SimpleS suf (e.corr (o e))) (hread : ∀ e ∈ es, ReadFromHeaderG os e) :
    (parseFile os (writeTests suf (es.map fun e => e.corr (o e)))).map Entry.attrs = es.map Entry.attrs :=
  (roundtrip_flags_partial os suf hse hsd es o h (by
    intro e he
    obtain ⟨fs, l0, N, A, H, rest, p, k, hs, hp, h1, h2, h3⟩ := hread e he
    rw [h1, h2, h3]
    exact (parseHeader_canonical_ws_partial fs os l0 N A H rest p k hs hp).1)).1

/-- Every entry read from a WRITTEN file has canonical flags — so writing it again (with any expectation) and
reading keeps the flags: the flags are stable from the first written generation on. -/
theorem written_canonical (os suf : Str) (hse : SufOK '=' suf) (hsd : SufOK '-' suf) (cs : List Correction)
    (h : ∀ c ∈ cs, SimpleS suf c) :
    ∀ e ∈ parseFile os (writeTests suf cs), e.attrs = flagsOf os e.name e.attrsStr := by
  have hb := roundtrip_built os suf hse hsd cs h
  clear h
  generalize parseFile os (writeTests suf cs) = es at hb
  induction hb with
  | nil => intro e he; cases he
  | cons hb1 _ ih =>
    intro e he
    rcases List.mem_cons.mp he with rfl | he
    · rw [hb1.flags, hb1.name, hb1.attrsStr]
    · exact ih e he

/-! ## non-vacuity: a header block that is NOT in written form (CRLF opening line, name line with trailing blanks,
a suffix, closing line of another length) with all six kinds of attribute lines -/

def exN : List Str := ["my test  \r\n".toList, "second line\n".toList]
def exA : Str := ":skip\n:platform(linux)\n:language(xq)\n:fail-fast\n:foo\n:language(other)\n:cst".toList
def exBlock : List Str :=
  "=====|||\r\n".toList :: (exN ++ (attrL exA ++ "===|||\n".toList :: ["input\n".toList, "---|||\n".toList]))

theorem exShape : HdrShape (some "|||".toList) exN exA "===|||\n".toList := by
  rw [show exA = _ from toList_lit (by rfl)]
  exact ⟨by decide +kernel, by decide +kernel, by decide +kernel⟩

example : ((parseHeader (some "|||".toList) "linux".toList exBlock).map fun pk =>
      (pk.1.attrs, pk.1.name, pk.1.attrsStr == exA, pk.2)) =
    some ({ platform := true, failFast := true, expect := .skip, cst := true,
            languages := ["xq".toList, "other".toList] }, "my test  \r\nsecond line".toList, true, 11) := by
  rw [exBlock, show exA = _ from toList_lit (by rfl)]
  decide +kernel

example (p : Pending) (k : Nat) (h : parseHeader (some "|||".toList) "linux".toList exBlock = some (p, k)) :
    p.attrs = flagsOf "linux".toList p.name p.attrsStr :=
  (parseHeader_canonical_partial _ _ _ exN exA _ _ p k exShape h).1

/-! CRLF attribute lines, trailing blanks, blank lines after the markers -/

def exA2 : List Str :=
  [":skip  \r\n".toList, "  :language(xq)\t\n".toList, "\n".toList, ":foo\n".toList, ":platform(macos) \r\n".toList,
   " \r\n".toList, "\n".toList]

theorem exShape2 : HdrShapeG none exN exA2 "====\n".toList :=
  ⟨by decide +kernel,
   fun l hl => ⟨l.dropLast, by revert l; decide +kernel⟩,
   by decide +kernel, Or.inr ⟨_, _, rfl, by decide +kernel⟩, by decide +kernel⟩

example : ((parseHeader none "linux".toList ("===\n".toList :: (exN ++ (exA2 ++ ["====\n".toList])))).map fun pk =>
      (pk.1.attrs, pk.1.attrsStr)) =
    some ({ platform := false, failFast := false, expect := .skip, cst := false, languages := ["xq".toList] },
          ":skip  \r\n  :language(xq)\t\n\n:foo\n:platform(macos)".toList) := by
  decide +kernel

example (p : Pending) (k : Nat)
    (h : parseHeader none "linux".toList ("===\n".toList :: (exN ++ (exA2 ++ "====\n".toList :: []))) = some (p, k)) :
    p.attrs = flagsOf "linux".toList p.name p.attrsStr :=
  (parseHeader_canonical_ws_partial _ _ _ exN exA2 _ [] p k exShape2 h).1

example :
    let p := ((parseHeader none "linux".toList ("===\n".toList :: (exN ++ (exA2 ++ ["====\n".toList])))).map (·.1)).getD default
    let e : Entry := { name := p.name, input := "a = 1;".toList, output := [], hlen := 3, dlen := 3, hasFields := false,
                       attrsStr := p.attrsStr, attrs := p.attrs }
    (parseFile "linux".toList (writeTests "|||".toList [e.corr "(source)".toList])).map Entry.attrs = [e.attrs] ∧
      e.attrs.expect = .skip ∧ e.attrs.platform = false := by
  decide +kernel

end TsVerif.C20
