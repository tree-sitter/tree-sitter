import TsVerif.C20.SimpleDec
import TsVerif.C20.Idempotent
/-!
# C20 — property theorems

Property: *Running the CLI's corpus test command with update on any well-formed corpus file rewrites
only expected outputs: test names, attributes, order and input bytes are unchanged, every updated
test whose parse is error-free passes afterwards, and a second update leaves the file
byte-identical.  Reading a corpus file and writing it back never merges, splits or drops tests,
whatever delimiter lengths and suffixes it uses.*

Clause map (model = `TsVerif/C20/Model.lean`, tied to crates/cli/src/test.rs and lib/binding_rust `format_sexp` by
correspondence on every run; "general" theorems live in `Idempotent.lean`, which this file imports; they are stated for
the model with the committed repairs, which is the variant the behavioural probes select on /repo HEAD).

| phrase of the property | theorem(s) | status / what is weaker than the text |
|---|---|---|
| "on any well-formed corpus file" | — | "well-formed" is made precise by the hypotheses: the run writes (no `:fail-fast` stop, no unknown language); the corrections are `SimpleS suf` (delimiters ≥ 3; name lines not blank / marker / `===…`; attribute text = marker lines; no line of an input/expectation is a `===` line with the file's suffix, nor a `---` line with the file's suffix that is longer than (input) / at least as long as (expectation) the divider; in an unsuffixed file no `===` line at all); `EntryOKG` (≥ 1 language, `has_fields` as the reader computes it, expectation empty / ONE balanced S-expression, resp. trimmed CST text, usable parser answer); attribute flags canonical for the attribute text.  Each guard has a witness that it is needed (below); the data-dependent ones are MEASURED on every real entry (obligations `tie:…`). |
| "rewrites only expected outputs: test names, attributes, order and input bytes are unchanged" | `update_preserves_general` (file level, with or without `--include` or `--exclude`: same tests in the same order, each with the same name, attribute text, attribute FLAGS, input, delimiter lengths; leading text and delimiter suffix unchanged); entry level `updateEntries_keys_fixed`, `updateEntriesF_all2`; for the code BEFORE the repairs `update_preserves_partial`/`update_preserves_simple` + witnesses `update_drops_skip`, `update_drops_other_platform`, `update_duplicates_per_language`, `filtered_update_reformats_cst` | proved under the hypotheses above.  "input bytes": the model works on the decoded `String` (files are UTF-8; a non-UTF-8 file is an I/O error in the real code: not modelled).  Text BETWEEN tests is part of the previous test's expectation section and may be rewritten — consistent with the text. |
| "every updated test whose parse is error-free passes afterwards" | `update_passes_general`; special case `update_passes_partial`; ingredients `format_normalize_spec` (`normalize_sexp_output (format_sexp s) = s` for every balanced token sequence = what the runtime prints for error-free trees, class membership measured), `normalize_section`, `readbackG`, `trim_section` (CST) | proved for tests the filter lets run, not skipped / other platform / `:error`; for a test with several languages "passes" is stated for the FIRST language (one expectation cannot match two different renderings: inherent, example `fExL`).  "error-free" = the rendering contains neither `ERROR` nor `MISSING` (what the code tests). |
| "a second update leaves the file byte-identical" | `update_idempotent_general`, `update_idempotent_unfiltered`; special case `update_idempotent_partial`; witnesses that the expectation guard is needed: `idempotent_fails_two_toplevel_expectation`, `format_sexp_quote_state` (code before the quote repair) | proved (bytes) under the hypotheses above; NOT covered: expectations that are not one balanced S-expression (false there), inputs with `===suffix` lines. |
| "Reading a corpus file and writing it back never merges, splits or drops tests, whatever delimiter lengths and suffixes it uses" | `roundtrip_suffixed` / `parse_write_roundtrip_partial` / `roundtrip_built` (every list of `SimpleS` corrections, all delimiter lengths ≥ 3, every admissible suffix: one entry per correction, in order, same name / attribute text / flags / input / delimiter lengths / expectation read back); `splitIncl_flatten` (reading loses no bytes); exactness witnesses `roundtrip_fails_delimiter_in_input`, `roundtrip_fails_equal_dash_in_output`, `roundtrip_fails_own_suffix_in_input`, `roundtrip_fails_equals_line_unsuffixed`, `roundtrip_fails_untrimmed_name` | proved for WRITTEN files (`parse (write cs)`); "read then write then read" for an arbitrary file `f` follows only when `(parse f)`'s entries satisfy `SimpleS` — that is a hypothesis on `f`, measured per run through the correspondence of `parseFile` with the real `parse_tests` and the judge's `classify`.  Delimiter lengths < 3 are not delimiters. |
| "… attributes … unchanged" / round trip: attribute FLAGS before = after (`Flags.lean`) | `parseHeader_canonical_ws_partial` (the flags `parse_header` returns for ANY header block `opening line :: name lines ++ attribute region ++ closing delimiter` — region = any complete lines starting with a recognised attribute, trailing white space / CRLF / blank lines / unknown `:foo` lines allowed — are `flagsOf name attrsStr`: the "canonical flags" hypothesis of the general theorems, proved from the header's shape; `parseHeader_canonical_partial` = the trimmed special case), `roundtrip_flags_partial`, `roundtrip_flags_of_headers_ws_partial` (`flags (parse (write t)) = flags t`: skip / error / fail-fast / cst / platform / languages), `written_canonical`; lemmas `headerLine_flags`, `foldHeader_flags`, `trimEnd_lines`, `foldHeader_trimLast` | `_partial`: name / attribute lines that are `===` runs with a foreign suffix are excluded (`NoDelim '='`); an argument-less `:platform` / `:language` line in the NAME region is excluded because the statement is false there for the real code (attribute text empty although later markers set flags).  Tie: the real entries' flags are compared with `parseFile` on every file and `attrs = flagsOf …` is measured on every real entry (`tie:real-entries-have-…-canonical-flags`). |
| (implicit) the Ok/Err result, directory runs, `strip_sexp_fields` | `updateStatus`, directory mode, `stripSexpFields` — modelled and corresponded, no theorem | correspondence only |

Judge-only strengthening of "rewrites only expected outputs" (no theorem beyond `updateEntry_spec`): clause `passing-changed` — a test
that passes as written, or whose expectation the update must keep, or that a filtered update carries over, reads back with the SAME
expectation (it is only re-formatted).  This found the open defect C20-format-sexp-same-quote (`(MISSING """)`; `Fixes.sameQuote`).

How "well-formed" is applied to the REAL files (judge, `Judge.lean`): clause `read-differs` (unguarded) — the real reader returns
the tests that `parseFile` delimits; all other clauses are judged when `canonB` holds: the file's tests, with the expectations a
correct update writes, written in canonical form read back (by `parseFile`) with the same names, attribute text, inputs, delimiter
lengths.  `SimpleS` (decidable, `SimpleDec.lean`) implies `canonB` by `roundtrip_built`; the check asserts this on every case and
reports both fractions (quick: `canonB` 512/515, `SimpleS` 386/515).  Files outside `canonB` are those where an input / expectation
line to be written is itself a delimiter of the file (witnesses `roundtrip_fails_*`).

Everything above is about the MODEL; the step to the Rust code is the per-run correspondence (entries, rewritten bytes of two
update rounds, status, second file of directory runs: equal on every explored file) and the judge on the real files.
-/
namespace TsVerif.C20

/-- Written files read back as what was written: the `skey` part of the round trip, which is all `update_preserves_partial`
needs of it. -/
def RoundTrips (os : Str) (suf : Str) (cs : List Correction) : Prop :=
  (parseFile os (writeTests suf cs)).map Entry.skey = cs.map Correction.skey

instance (os suf : Str) (cs : List Correction) : Decidable (RoundTrips os suf cs) := by unfold RoundTrips; infer_instance

theorem updateFile_written (os : Str) (orc : Oracle) (f : Str) (cs : List Correction) (hne : parseFile os f ≠ [])
    (hrun : updateEntries {} orc (parseFile os f) [] = some cs) : updateFile {} os orc f = writeTests [] cs := by
  unfold updateFile
  split
  · next h => exact absurd h hne
  · simp [hrun]

/-
Full strength: FALSE for the faithful model of the code before the repairs — see the witnesses below:
theorem update_preserves (os : Str) (orc : Oracle) (f : Str) :
    (parseFile os (updateFile {} os orc f)).map Entry.key = (parseFile os f).map Entry.key
-/

/-- The code before the repairs (`fx = {}`): for every corpus file all of whose tests are run exactly
once, if the run writes the file and the written file reads back as written (`RoundTrips`), the
update leaves names, attribute text, inputs and order unchanged.
Missing w.r.t. the full statement: skipped / other-platform / multi-language tests (genuine
defects, witnesses below) and the round trip of the writer for this file (suffix, see `Roundtrip`). -/
theorem update_preserves_partial (os : Str) (orc : Oracle) (f : Str) (cs : List Correction)
    (hne : parseFile os f ≠ [])
    (hp : ∀ e ∈ parseFile os f, RunOnce e)
    (hrun : updateEntries {} orc (parseFile os f) [] = some cs)
    (hrt : RoundTrips os [] cs) :
    (parseFile os (updateFile {} os orc f)).map Entry.skey = (parseFile os f).map Entry.skey := by
  rw [updateFile_written os orc f cs hne hrun]
  exact Eq.trans hrt (updateEntries_keys {} orc _ cs hp hrun)

/-
Full strength: FALSE as stated, see the witnesses at the end of this section:
theorem parse_write_roundtrip (os : Str) (f : Str) :
    (parseFile os (writeTests [] ((parseFile os f).map fun e => e.corr e.output))).map Entry.key = (parseFile os f).map Entry.key
-/

/-- For EVERY list of `Simple` corrections (delimiter lengths ≥ 3; a
name of one or several lines, none blank, a marker or `===…`; attribute text empty or lines starting
with a recognised attribute, none `===…`, no trailing white space; no line of the input
or of the expectation starting with `===`/`---`; input not ending in CR) and every admissible
suffix, the reader applied to the written file returns exactly one entry per correction, in order,
with the same name, attribute text, input and delimiter lengths: nothing merges, splits or is dropped.
Missing w.r.t. the full statement: delimiter-like
lines inside inputs/expectations (FALSE there, witness below). -/
theorem parse_write_roundtrip_partial (os suf : Str) (hse : SufOK '=' suf) (hsd : SufOK '-' suf)
    (cs : List Correction) (h : ∀ c ∈ cs, Simple c) :
    (parseFile os (writeTests suf cs)).map Entry.dkey = cs.map Correction.dkey :=
  roundtrip_simple os suf hse hsd cs (fun c hc => (h c hc).toS suf)

/-- The round trip relative to the file's suffix (`SimpleS`).  In a file WITH a suffix the
suffix disambiguates: inputs and expectations may contain `===`/`---` lines of any length, and lines with another
suffix — only lines carrying the file's own suffix are excluded.  In a file without suffix, `---` lines
followed by text are allowed as well; `===` lines are not (witness `roundtrip_fails_equals_line_unsuffixed`). -/
theorem roundtrip_suffixed (os suf : Str) (hse : SufOK '=' suf) (hsd : SufOK '-' suf)
    (cs : List Correction) (h : ∀ c ∈ cs, SimpleS suf c) :
    (parseFile os (writeTests suf cs)).map Entry.dkey = cs.map Correction.dkey :=
  roundtrip_simple os suf hse hsd cs h

/-- The same without the delimiter lengths: the hypothesis `RoundTrips` of `update_preserves_partial` holds. -/
theorem roundTrips_simple (os suf : Str) (hse : SufOK '=' suf) (hsd : SufOK '-' suf)
    (cs : List Correction) (h : ∀ c ∈ cs, Simple c) : RoundTrips os suf cs := by
  have := congrArg (List.map fun k : Str × Str × Str × Nat × Nat => (k.1, k.2.1, k.2.2.1))
    (parse_write_roundtrip_partial os suf hse hsd cs h)
  simp only [List.map_map, Function.comp_def, Entry.dkey, Correction.dkey] at this
  exact this

/-- The code before the repairs (`fx = {}`), no round-trip hypothesis: if every test of the file is run
exactly once and the corrections the run produces are `Simple`, then after the update the file
reads back with the same names, attribute texts, inputs, in the same order. -/
theorem update_preserves_simple (os : Str) (orc : Oracle) (f : Str) (cs : List Correction)
    (hne : parseFile os f ≠ [])
    (hp : ∀ e ∈ parseFile os f, RunOnce e)
    (hrun : updateEntries {} orc (parseFile os f) [] = some cs)
    (hs : ∀ c ∈ cs, Simple c) :
    (parseFile os (updateFile {} os orc f)).map Entry.skey = (parseFile os f).map Entry.skey :=
  update_preserves_partial os orc f cs hne hp hrun
    (roundTrips_simple os [] (by decide) (by decide) cs hs)

def cSimple : Correction :=
  { name := ['f', 'i', 'r', 's', 't'], input := ['a', ' ', '=', ' ', '1', ';', '\n', 'b', ';'],
    output := ['(', 's', ')'], attrsStr := [], hlen := 5, dlen := 3 }

/-- Non-vacuity: a two-line input with punctuation is `Simple`; `|||` is an admissible suffix. -/
example : Simple cSimple :=
  { hlen := by decide +kernel, dlen := by decide +kernel, attrs := Or.inl rfl, inputCr := by decide +kernel
    name := { lines := by decide +kernel, trimmed := by decide +kernel }
    inputLines := by decide +kernel, outputLines := by decide +kernel }
example : SufOK '=' ['|', '|', '|'] ∧ SufOK '-' ['|', '|', '|'] := by decide +kernel

/-- Non-vacuity with attribute text: `:skip`, a blank line, `:language(x)`. -/
def cAttrs : Correction :=
  { cSimple with attrsStr := [':', 's', 'k', 'i', 'p', '\n', '\n', ':', 'l', 'a', 'n', 'g', 'u', 'a', 'g', 'e', '(', 'x', ')'] }
example : Simple cAttrs :=
  { hlen := by decide +kernel, dlen := by decide +kernel, inputCr := by decide +kernel
    attrs := Or.inr ⟨⟨_, _, rfl, by decide +kernel⟩, by decide +kernel, by decide +kernel⟩
    name := { lines := by decide +kernel, trimmed := by decide +kernel }
    inputLines := by decide +kernel, outputLines := by decide +kernel }

/-- Non-vacuity with a name of two lines (`two` / `  lines`, the second one indented). -/
example : NameOK ['t', 'w', 'o', '\n', ' ', ' ', 'l', 'i', 'n', 'e', 's'] := { lines := by decide +kernel, trimmed := by decide +kernel }

/-- Non-vacuity of `roundtrip_suffixed`: with the suffix `|||`, an input consisting of the lines `===`, `a`, `-----`
(a dash line longer than the divider) and `=== x` is fine … -/
def cDelims : Correction :=
  { cSimple with input := ['=', '=', '=', '\n', 'a', '\n', '-', '-', '-', '-', '-', '\n', '=', '=', '=', ' ', 'x'] }
example : SimpleS ['|', '|', '|'] cDelims := by decide +kernel
example : (parseFile [] (writeTests ['|', '|', '|'] [cDelims])).map Entry.dkey = [cDelims.dkey] := by decide +kernel

/-- … while without a suffix the same correction does not survive: `=== x` becomes the file's suffix and no
header matches any more (0 tests), and the longer dash line would be taken as the divider. -/
theorem roundtrip_fails_equals_line_unsuffixed : parseFile [] (writeTests [] [cDelims]) = [] := by decide +kernel

/-- The exact guard for `---` lines that DO carry the file's suffix: inside an input they are harmless up to the
length of the divider (the divider is at least as long and comes later), inside an expectation only if they
are shorter.  Here: input line `---|||` under a divider `---|||` (equal length) round-trips … -/
def cOwnDash : Correction := { cSimple with input := ['a', '\n', '-', '-', '-', '|', '|', '|', '\n', 'b'] }
example : SimpleS ['|', '|', '|'] cOwnDash := by decide +kernel
example : (parseFile [] (writeTests ['|', '|', '|'] [cOwnDash])).map Entry.dkey = [cOwnDash.dkey] := by decide +kernel

/-- … while the same line inside the EXPECTATION (equal length, later) is taken as the divider. -/
theorem roundtrip_fails_equal_dash_in_output :
    (parseFile [] (writeTests ['|', '|', '|']
      [{ cSimple with output := ['(', 's', ')', '\n', '-', '-', '-', '|', '|', '|', '\n', '(', 't', ')'] }])).map Entry.dkey
      ≠ [cSimple.dkey] := by decide +kernel

/-- Witness: a LONGER line carrying the file's own suffix inside an input is fatal in a suffixed file. -/
theorem roundtrip_fails_own_suffix_in_input :
    (parseFile [] (writeTests ['|', '|', '|']
      [{ cSimple with input := ['a', '\n', '-', '-', '-', '-', '|', '|', '|', '\n', 'b'] }])).map Entry.dkey
      ≠ [({ cSimple with input := ['a', '\n', '-', '-', '-', '-', '|', '|', '|', '\n', 'b'] } : Correction).dkey] := by
  decide +kernel

/-- Witness for the dropped hypothesis "no `---` line in the input": a longer dash line inside the input
is taken as the divider when the file is read back, so the input changes. -/
theorem roundtrip_fails_delimiter_in_input :
    ¬ RoundTrips [] [] [{ cSimple with input := ['a', '\n', '-', '-', '-', '-', '\n', 'b'] }] := by decide +kernel

/-- Witness for the dropped hypothesis "name has no trailing white space". -/
theorem roundtrip_fails_untrimmed_name :
    ¬ RoundTrips [] [] [{ cSimple with name := ['f', ' '] }] := by decide +kernel

/-- Entry `e1` (read back after the update) is entry `e` with a passing expectation. -/
def PassesAfter (orc : Oracle) (e e1 : Entry) : Prop :=
  e1.name = e.name ∧ e1.attrsStr = e.attrsStr ∧ e1.input = e.input ∧
  (e.attrs.expect = .pass → e.attrs.cst = false → ∀ l a, e.attrs.languages = [l] → orc l e.input = some a →
    inFormatClass (actualOf e a) = true →
    containsSub strERROR (actualOf e a) = false → containsSub strMISSING (actualOf e a) = false →
    e1.output = actualOf e a)

/-- The code before the repairs (`fx = {}`): for every corpus file whose tests are all run exactly once,
when the update writes the file and the corrections it writes are `Simple` without `:cst` line, the
file reads back test by test with the same name, attribute text and input, and every test that
expects success, whose rendering is an error-free balanced S-expression, now has that rendering as
its expectation — it passes.
Missing w.r.t. the full statement: skipped / other-platform / multi-language tests (defects), tests
outside `Simple` (delimiter-like lines, multi-line names), `:cst` tests. -/
theorem update_passes_partial (os : Str) (orc : Oracle) (f : Str) (cs : List Correction)
    (hne : parseFile os f ≠ [])
    (hp : ∀ e ∈ parseFile os f, RunOnce e)
    (hrun : updateEntries {} orc (parseFile os f) [] = some cs)
    (hs : ∀ c ∈ cs, Simple c ∧ ∀ l ∈ splitIncl (c.attrsStr ++ ['\n']), noCstLine l) :
    All2 (PassesAfter orc) (parseFile os f) (parseFile os (updateFile {} os orc f)) := by
  obtain ⟨new, hnew, hall⟩ := updateEntries_all2 {} orc _ [] cs hp hrun
  simp only [List.nil_append] at hnew
  subst hnew
  rw [updateFile_written os orc f _ hne hrun]
  have hbuilt := (roundtrip_built os [] (by decide) (by decide) cs fun c hc => (hs c hc).1.toS []).imp_mem
    fun _ _ c hc hb => And.intro hb (hs c hc).2
  refine (all2_comp hall hbuilt).imp_mem
    fun e _ e1 _ ⟨c, ⟨l, a, hl, ho, hc⟩, hb, hnc⟩ => ?_
  have ⟨_, _, hcstf, sepf, hsepf, hnorm, _⟩ := hb
  have hkey := updateLang_skey {} e a
  rw [← hc] at hkey
  simp only [Correction.skey, Entry.skey, Prod.mk.injEq] at hkey
  refine ⟨hb.name.trans hkey.1, hb.attrsStr.trans hkey.2.1, hb.input.trans hkey.2.2, ?_⟩
  intro h1 h2 l' a' hl' ho' hcls h3 h4
  obtain rfl : l' = l := by rw [hl] at hl'; simpa using hl'.symm
  obtain rfl : a' = a := by rw [ho] at ho'; simpa using ho'.symm
  rw [(hnorm (hcstf hnc)).1]
  exact readback {} c _ sepf (hc ▸ updateLang_output_pass {} e a' h1 h2 h3 h4) (Or.inr hcls) hsepf

/-- Witness, code before the repair `keepCstFiltered` (finding C20-filtered-cst-reformatted): a `:cst` test that a filter carries over has
its expectation passed through `format_sexp` — here `0:0 - 0:1 a` becomes the empty string. -/
def eCst : Entry :=
  { name := ['c'], input := ['a'], output := ['0', ':', '0', ' ', '-', ' ', '0', ':', '1', ' ', 'a'], hlen := 3, dlen := 3,
    hasFields := false, attrsStr := [':', 'c', 's', 't'], attrs := { cst := true } }
theorem filtered_update_reformats_cst :
    (updateEntriesF {} (fun _ _ => none) (fun _ => false) [eCst] []).map (·.map (·.output)) = some [[]] := by decide +kernel
example : (updateEntriesF { keepCstFiltered := true } (fun _ _ => none) (fun _ => false) [eCst] []).map (·.map (·.output))
    = some [eCst.output] := by decide +kernel

/-- `format_normalize` (proved in `FormatNormalize.lean`, restated here): for every one-line S-expression
that is a sequence of `(name`+closers / `field:` tokens with balanced parentheses — the strings
`ts_node_string` prints for error-free trees; the check measures on every run that all printed ones are
in this class — `normalize_sexp_output (format_sexp s) = s`, for every setting of the repair flags.
So a rewritten expectation reads back as itself. -/
theorem format_normalize_spec (fx : Fixes) (n : Str) (k : Nat) (ts : List Tok) (h : Bal (.opn n k :: ts) 0 false) :
    normalizeSexp (trim (formatSexp fx (joinToks (.opn n k :: ts)))) = joinToks (.opn n k :: ts) :=
  format_normalize fx n k ts h

/-- The formatter's half of it (the normaliser's half is `normalize_pretty`, `FormatNormalize.lean`). -/
theorem format_tokens_spec (fx : Fixes) (toks : List Tok) (h : Bal toks 0 false) :
    formatSexp fx (joinToks toks) = prettyToks toks 0 false := format_tokens fx toks h

/-- Non-vacuity: `(s (a t: (i) v: (n)))` is in the class (decided by the kernel), so the theorem applies. -/
example : inFormatClass ['(', 's', ' ', '(', 'a', ' ', 't', ':', ' ', '(', 'i', ')', ' ', 'v', ':', ' ', '(', 'n', ')', ')', ')'] = true := by
  decide +kernel

/-
Dropped hypothesis "no quoted token": `format_sexp_quote_state` below (FALSE for the unchanged code).
Full strength, no hypothesis on the file (false: `idempotent_fails_two_toplevel_expectation` in `Idempotent.lean`):
theorem update_idempotent : updateFile fx os orc (updateFile fx os orc f) = updateFile fx os orc f
and `update_passes`.  Under hypotheses: `update_idempotent_general`, `update_passes_general` (`Idempotent.lean`); the
judge decides both on every real case (clauses `passes`, `idempotent`).
-/

def sxTwoQuoted : Str :=   -- "(p (UNEXPECTED '?') (UNEXPECTED '?') (i))"
  ['(', 'p', ' ', '(', 'U', 'N', 'E', 'X', 'P', 'E', 'C', 'T', 'E', 'D', ' ', '\'', '?', '\'', ')', ' ',
   '(', 'U', 'N', 'E', 'X', 'P', 'E', 'C', 'T', 'E', 'D', ' ', '\'', '?', '\'', ')', ' ', '(', 'i', ')', ')']

/-- Witness (finding C20-format-sexp-quote-state): with `format_sexp` before the quote-reset repair an
S-expression with two quoted tokens does not survive format → normalize … -/
theorem format_sexp_quote_state : normalizeSexp (trim (formatSexp {} sxTwoQuoted)) ≠ sxTwoQuoted := by decide +kernel

/-- … and does with the quote-reset repair. -/
example : normalizeSexp (trim (formatSexp { quoteReset := true } sxTwoQuoted)) = sxTwoQuoted := by decide +kernel

def okActual : Actual := { sexpFields := sxSource, sexpPlain := sxSource, cst := [], hasError := false }
def okOracle : Oracle := fun _ _ => some okActual

def eFirst : Entry :=
  { name := ['f', 'i', 'r', 's', 't'], input := ['a'], output := ['(', 'x', ')'], hlen := 3, dlen := 3, hasFields := false,
    attrsStr := [], attrs := {} }
def eSkip : Entry := { eFirst with name := ['s', 'e', 'c'], attrsStr := [':', 's', 'k', 'i', 'p'], attrs := { expect := .skip } }
def eMac : Entry := { eFirst with name := ['m', 'a', 'c'], attrsStr := ":platform(macos)".toList, attrs := { platform := false } }
def eTwoLang : Entry :=
  { eFirst with name := ['t', 'h', 'i', 'r', 'd'], attrsStr := ":language(l)\n:language(l)".toList,
                attrs := { languages := [['l'], ['l']] } }

/-- The hypotheses of `updateEntries_keys` are satisfiable, with a wrong expectation being corrected. -/
example : RunOnce eFirst := ⟨by decide +kernel, by decide +kernel, [], by decide +kernel⟩
example : (updateEntries {} okOracle [eFirst] []).map (·.map (·.output)) = some [sxSource] := by decide +kernel

/-- With the repairs the skipped test and the two-language test are written exactly once. -/
example : (updateEntries { keepUnrun := true, oneCorrection := true } okOracle [eFirst, eSkip, eTwoLang] []).map (·.map (·.name))
    = some [eFirst.name, eSkip.name, eTwoLang.name] := by decide +kernel

/-- Witness, code before the repairs: a `:skip` test is dropped by the update. -/
theorem update_drops_skip :
    (updateEntries {} okOracle [eFirst, eSkip] []).map (·.map (·.name)) = some [eFirst.name] := by decide +kernel

/-- Witness, code before the repairs: a test for another platform is dropped by the update. -/
theorem update_drops_other_platform :
    (updateEntries {} okOracle [eFirst, eMac] []).map (·.map (·.name)) = some [eFirst.name] := by decide +kernel

/-- Witness, code before the repairs: a test with two `:language(..)` lines is written twice. -/
theorem update_duplicates_per_language :
    (updateEntries {} okOracle [eTwoLang] []).map (·.map (·.name)) = some [eTwoLang.name, eTwoLang.name] := by decide +kernel

/-- Non-vacuity of `update_passes_partial` on a concrete file (`===\nt\n===\na\n---\n\n(x)\n`, the parser
answering `(source)`): the file has one run-once test, the update writes it, and it reads back with the
actual rendering as expectation. -/
def fEx : Str := ['=', '=', '=', '\n', 't', '\n', '=', '=', '=', '\n', 'a', '\n', '-', '-', '-', '\n', '\n', '(', 'x', ')', '\n']
example : (parseFile [] fEx).map (·.output) = [['(', 'x', ')']] ∧
    (parseFile [] (updateFile {} [] okOracle fEx)).map (·.output) = [sxSource] ∧
    inFormatClass sxSource = true := by decide +kernel

/-- Non-vacuity of `update_idempotent_partial`: on the concrete file `fEx` with all repairs on, the hypotheses
that are decidable hold (`actOKb`, canonical flags, empty leading text) and the second update is the identity. -/
example : actOKb okActual = true ∧ preamble [] fEx = [] ∧
    (parseFile [] fEx).all (fun e => decide (e.attrs = flagsOf [] e.name e.attrsStr)) = true ∧
    updateFile fxAll [] okOracle fEx ≠ fEx ∧
    updateFile fxAll [] okOracle (updateFile fxAll [] okOracle fEx) = updateFile fxAll [] okOracle fEx := by decide +kernel

end TsVerif.C20
