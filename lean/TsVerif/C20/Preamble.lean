import TsVerif.C20.Roundtrip
/-!
# C20 — text in front of the first test

The leading lines of a file open no header (`NoHdr`), and keep opening none when the tests behind them are replaced by written ones
(`noHdr_stable`); so the file `write_tests` puts in place of `f` reads back behind the same leading text (`rewritten_shape`).
-/
namespace TsVerif.C20

/-- No line of the first list opens a header; the second list is what FOLLOWS it (`parse_header` looks ahead). -/
def NoHdr (fs : Option Str) (os : Str) : List Str → List Str → Prop
  | [], _ => True
  | l :: p, rest => parseHeader fs os (l :: (p ++ rest)) = none ∧ NoHdr fs os p rest

theorem preambleLines_spec (fs : Option Str) (os : Str) :
    ∀ lines : List Str, ∃ rest, lines = preambleLines fs os lines ++ rest ∧
      NoHdr fs os (preambleLines fs os lines) rest ∧ (rest = [] ∨ (parseHeader fs os rest).isSome = true)
  | [] => ⟨[], rfl, trivial, Or.inl rfl⟩
  | l :: ls => by
    unfold preambleLines
    by_cases h : (parseHeader fs os (l :: ls)).isSome = true
    · simp only [h, ↓reduceIte]
      exact ⟨l :: ls, rfl, trivial, Or.inr h⟩
    · simp only [h, Bool.false_eq_true, ↓reduceIte]
      obtain ⟨rest, h1, h2, h3⟩ := preambleLines_spec fs os ls
      refine ⟨rest, by rw [List.cons_append, ← h1], ⟨?_, h2⟩, h3⟩
      rw [← h1]
      simpa using h

theorem scan_noHdr (fs : Option Str) (os : Str) (rest : List Str) :
    ∀ (pre : List Str) (prev : Option Pending) (body : List Str) (acc : List Entry), NoHdr fs os pre rest →
      scan fs os (pre ++ rest) 0 prev body acc = scan fs os rest 0 prev (pre.reverse ++ body) acc
  | [], _, _, _, _ => by simp
  | l :: p, prev, body, acc, h => by
    simp only [List.cons_append, scan, h.1]
    rw [scan_noHdr fs os rest p prev (l :: body) acc h.2]
    simp

theorem noHdr_stable (fs : Option Str) (os : Str) (H H' : Str) (R R' : List Str)
    (hH : isHeaderDelim fs H = true) (hH' : isHeaderDelim fs H' = true) :
    ∀ pre : List Str, NoHdr fs os pre (H :: R) → NoHdr fs os pre (H' :: R')
  | [], _ => trivial
  | l :: p, h => ⟨parseHeader_none_stable fs os H H' R R' hH hH' l p h.1, noHdr_stable fs os H H' R R' hH hH' p h.2⟩

theorem preambleLines_of_noHdr (fs : Option Str) (os : Str) (X : List Str) (hX : (parseHeader fs os X).isSome = true) :
    ∀ pre : List Str, NoHdr fs os pre X → preambleLines fs os (pre ++ X) = pre
  | [], _ => by
    cases X with
    | nil => simp [parseHeader] at hX
    | cons x xs => simp [preambleLines, hX]
  | l :: p, h => by
    simp only [List.cons_append, preambleLines, h.1, Option.isSome_none, Bool.false_eq_true, ↓reduceIte]
    rw [preambleLines_of_noHdr fs os X hX p h.2]

theorem firstSuffix_ne_nil : ∀ (ls : List Str) (s : Str), firstSuffix ls = some s → s ≠ []
  | [], s, h => by simp [firstSuffix] at h
  | l :: ls, s, h => by
    unfold firstSuffix at h
    split at h
    · split at h
      · exact firstSuffix_ne_nil ls s h
      · next he => cases h; exact fun h0 => he (by simp [h0])
    · exact firstSuffix_ne_nil ls s h

theorem firstSuffix_append (a b : List Str) :
    firstSuffix (a ++ b) = match firstSuffix a with | some s => some s | none => firstSuffix b := by
  induction a with
  | nil => simp [firstSuffix]
  | cons l a ih =>
    simp only [List.cons_append, firstSuffix]
    split
    · split
      · exact ih
      · rfl
    · exact ih

theorem fsOf_getD (fs : Option Str) (h : ∀ s, fs = some s → s ≠ []) : fsOf (fs.getD []) = fs := by
  cases fs with
  | none => rfl
  | some s =>
    have := h s rfl
    cases s with
    | nil => exact absurd rfl this
    | cons a t => rfl

/-- The file `write_tests` puts in place of `f` — the leading text of `f`, then corrections written with the suffix of
`f` — reads back as one entry per correction, behind the same leading text, with the same suffix: a leading line that
opens no header in `f` opens none in the new file (`noHdr_stable`), and the first written header is found. -/
theorem rewritten_shape (os f suf : Str) (hsuf : (firstSuffix (splitIncl f)).getD [] = suf) (c0 : Correction)
    (cs' : List Correction) (hne : parseFile os f ≠ []) (hsimple : ∀ c ∈ c0 :: cs', SimpleS suf c)
    (hse : SufOK '=' suf) (hsd : SufOK '-' suf) :
    All2 (Built os) (parseFile os (preamble os f ++ writeTests suf (c0 :: cs'))) (c0 :: cs') ∧
    preamble os (preamble os f ++ writeTests suf (c0 :: cs')) = preamble os f ∧
    (firstSuffix (splitIncl (preamble os f ++ writeTests suf (c0 :: cs')))).getD [] = suf := by
  have hpre0 : preamble os f = (preambleLines (firstSuffix (splitIncl f)) os (splitIncl f)).flatten := rfl
  rw [hpre0]
  generalize hfs : firstSuffix (splitIncl f) = fs at hsuf ⊢
  have hfsOf : fsOf suf = fs := by rw [← hsuf]; exact fsOf_getD fs (fun s h => firstSuffix_ne_nil _ s (hfs ▸ h))
  obtain ⟨rest, hlines, hnoh, hrest⟩ := preambleLines_spec fs os (splitIncl f)
  generalize preambleLines fs os (splitIncl f) = pre at hlines hnoh ⊢
  have hpf : parseFile os f = scan fs os rest 0 none (pre.reverse ++ []) [] := by
    unfold parseFile
    simp only [hfs]
    rw [hlines, scan_noHdr fs os rest pre none [] [] hnoh]
  obtain ⟨H, R, rfl⟩ := List.exists_cons_of_ne_nil fun h : rest = [] => hne (by simp [hpf, h, scan, finishPrev])
  have hHdelim : isHeaderDelim fs H = true :=
    isHeaderDelim_of_parseHeader fs os H R (hrest.resolve_left (by simp))
  have hlines1 : splitIncl (pre.flatten ++ writeTests suf (c0 :: cs')) =
      pre ++ (hdrL suf c0 ++ (bodyL suf c0 ++ tailLines suf cs')) := by
    rw [splitIncl_pre _ pre (pre_complete f pre _ hlines (by simp)), splitIncl_writeTests suf hse.2 c0 cs' hsimple]
  have hfs1 : firstSuffix (pre ++ (hdrL suf c0 ++ (bodyL suf c0 ++ tailLines suf cs'))) = fs := by
    rw [firstSuffix_append, firstSuffix_written suf hse c0 cs' hsimple, hfsOf]
    have h0 := hfs
    rw [hlines, firstSuffix_append] at h0
    cases hp : firstSuffix pre with
    | none => rfl
    | some s => simpa [hp] using h0
  have hc0 := hsimple c0 List.mem_cons_self
  have hnoh1 : NoHdr fs os pre (hdrL suf c0 ++ (bodyL suf c0 ++ tailLines suf cs')) := by
    rw [hdrL_append]
    exact noHdr_stable fs os H _ R _ hHdelim (hfsOf ▸ isHeaderDelim_rep suf c0.hlen hc0.hlen hse) pre hnoh
  have hsome1 : (parseHeader fs os (hdrL suf c0 ++ (bodyL suf c0 ++ tailLines suf cs'))).isSome = true := by
    obtain ⟨p, hp, _⟩ := parseHeader_hdr os suf c0 (bodyL suf c0 ++ tailLines suf cs') hc0 hse
    rw [hfsOf] at hp
    rw [hp]; rfl
  refine ⟨?_, ?_, by rw [hlines1, hfs1, hsuf]⟩
  · unfold parseFile
    simp only [hlines1, hfs1]
    rw [scan_noHdr fs os _ pre none [] [] hnoh1, ← hfsOf]
    exact scan_written os suf hse hsd c0 cs' hsimple _
  · unfold preamble
    simp only [hlines1, hfs1]
    rw [preambleLines_of_noHdr fs os _ hsome1 pre hnoh1]

end TsVerif.C20
