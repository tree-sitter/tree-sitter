import TsVerif.C20.Str
/-!
# C20 — `normalize_sexp_output` as a character machine

`normalize_charwise`: on a text without `;` and without carriage returns (so no comment lines and
no CR-LF subtleties) the line-by-line normaliser is the character loop `normChars` run over the whole
text, followed by `trim_end`.
-/
namespace TsVerif.C20

theorem normChars_append (a b res : Str) (prev : Bool) :
    normChars (a ++ b) res prev = normChars b (normChars a res prev).1 (normChars a res prev).2 := by
  induction a generalizing res prev with
  | nil => rfl
  | cons c cs ih =>
    simp only [List.cons_append, normChars]
    split
    · split <;> exact ih _ _
    · exact ih _ _

theorem normChars_nl (res : Str) (prev : Bool) :
    normChars ['\n'] res prev = if !res.isEmpty && !prev then (' ' :: res, true) else (res, prev) := by
  have : isWs '\n' = true := by decide
  simp only [normChars, this, ↓reduceIte]
  by_cases h1 : prev = true <;> by_cases h2 : res.isEmpty = true <;> simp [h1, h2]

/-- The per-line stripping of `str::lines()`. -/
def stripLine (l : Str) : Str :=
  match stripSuffix ['\n'] l with
  | none => l
  | some l' => match stripSuffix ['\r'] l' with
    | none => l'
    | some l'' => l''

theorem rustLines_eq (s : Str) : rustLines s = (splitIncl s).map stripLine := rfl

theorem stripLine_line (b : Str) (hcr : '\r' ∉ b) : stripLine (b ++ ['\n']) = b := by
  simp [stripLine, stripSuffix_snoc, stripSuffix_none_of_not_mem b '\r' hcr]

theorem stripLine_last (l : Str) (h : '\n' ∉ l) : stripLine l = l := by
  simp [stripLine, stripSuffix_none_of_not_mem l '\n' h]

theorem not_comment (l : Str) (h : ';' ∉ l) : ((trimStart l).head? == some ';') = false := by
  cases ht : (trimStart l).head? with
  | none => rfl
  | some c =>
    have hc : c ∈ l := (List.dropWhile_sublist _).subset (List.mem_of_mem_head? ht)
    simpa using fun h' : c = ';' => h (h' ▸ hc)

/-- A last line without newline gets the boundary space as if it had one. -/
theorem normLines_lines :
    ∀ (ls : List Str) (res : Str) (prev : Bool),
      (∀ l ∈ ls, ';' ∉ l ∧ '\r' ∉ l ∧ ((∃ b, l = b ++ ['\n'] ∧ '\n' ∉ b) ∨ '\n' ∉ l)) →
      normLines (ls.map stripLine) res prev =
        (normChars (ls.map fun l => stripLine l ++ ['\n']).flatten res prev).1
  | [], res, prev, _ => rfl
  | l :: ls, res, prev, h => by
    obtain ⟨hsemi, hcr, hshape⟩ := h l List.mem_cons_self
    have ih := fun res prev => normLines_lines ls res prev fun x hx => h x (List.mem_cons_of_mem _ hx)
    have hstrip_semi : ';' ∉ stripLine l := by
      rcases hshape with ⟨b, rfl, _⟩ | hn
      · rw [stripLine_line b fun hm => hcr (List.mem_append_left _ hm)]
        exact fun hm => hsemi (List.mem_append_left _ hm)
      · rwa [stripLine_last l hn]
    simp only [List.map_cons, List.flatten_cons, normLines]
    have hnc := not_comment (stripLine l) hstrip_semi
    simp only [hnc, Bool.false_eq_true, ↓reduceIte]
    rw [List.append_assoc, normChars_append, normChars_append, normChars_nl]
    cases hn : normChars (stripLine l) res prev with
    | mk r p =>
      simp only
      by_cases hc : (!r.isEmpty && !p) = true <;> simp only [hc, Bool.false_eq_true, ↓reduceIte]
      · exact ih _ _
      · exact ih _ _

theorem normalize_charwise (T : Str) (h1 : ';' ∉ T) (h2 : '\r' ∉ T) :
    ∃ tail, (tail = [] ∨ tail = ['\n']) ∧
      normalizeSexp T = trimEnd (normChars (T ++ tail) [] false).1.reverse := by
  obtain ⟨init, last, hsp, hinit, hlast⟩ := splitIncl_struct T
  have hflat : init.flatten ++ last.flatten = T := by
    simpa [hsp] using splitIncl_flatten T
  have hmem : ∀ l ∈ init ++ last, ∀ c ∈ l, c ∈ T := fun l hl c hc => by
    rw [← splitIncl_flatten T, hsp]
    exact List.mem_flatten.mpr ⟨l, hl, hc⟩
  have hyp : ∀ l ∈ init ++ last, ';' ∉ l ∧ '\r' ∉ l ∧ ((∃ b, l = b ++ ['\n'] ∧ '\n' ∉ b) ∨ '\n' ∉ l) :=
    fun l hl => ⟨fun hm => h1 (hmem l hl _ hm), fun hm => h2 (hmem l hl _ hm),
      (splitIncl_shape T l (hsp ▸ hl)).imp id And.left⟩
  have hinitflat : (init.map fun l => stripLine l ++ ['\n']).flatten = init.flatten := by
    have : ∀ l ∈ init, stripLine l ++ ['\n'] = l := fun l hl => by
      obtain ⟨b, rfl, _⟩ := hinit l hl
      rw [stripLine_line b fun hm => h2 (hmem _ (List.mem_append_left _ hl) _ (List.mem_append_left _ hm))]
    rw [List.map_congr_left this]; simp
  unfold normalizeSexp
  rw [rustLines_eq, hsp, normLines_lines (init ++ last) [] false hyp]
  rcases hlast with h0 | ⟨l0, h0, hn, _⟩
  · subst h0
    refine ⟨[], Or.inl rfl, ?_⟩
    simp only [List.flatten_nil, List.append_nil] at hflat ⊢
    rw [hinitflat, hflat]
  · subst h0
    refine ⟨['\n'], Or.inr rfl, ?_⟩
    simp only [List.map_append, List.flatten_append, hinitflat, List.map_cons, List.map_nil, List.flatten_cons,
      List.flatten_nil, List.append_nil, stripLine_last l0 hn]
    simp only [List.flatten_cons, List.flatten_nil, List.append_nil] at hflat
    rw [← List.append_assoc, hflat]

end TsVerif.C20
