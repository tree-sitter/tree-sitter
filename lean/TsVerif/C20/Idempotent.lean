import TsVerif.C20.Preamble
import TsVerif.C20.Step
/-!
# C20 — a second update is the identity, and updated tests pass: whole files

`update_idempotent_general`, `update_preserves_general`, `update_passes_general`: `:cst` tests, tests with several
`:language(..)` lines, text in front of the first test and updates through a name filter (`--include` / `--exclude`),
for the model with the committed repairs; `update_idempotent_partial` is the one-language, unfiltered case.
-/
namespace TsVerif.C20

/-- A filter that carries nothing over, or the repair that keeps carried `:cst` expectations: what a test carried over
contributes is then `e.corr (wr fx e e.output)`. -/
def CarryOK (fx : Fixes) (flt : Str → Bool) : Prop := fx.keepCstFiltered = true ∨ ∀ n, flt n = true

theorem updateEntriesF_steps (fx : Fixes) (hk : fx.keepUnrun = true) (ho : fx.oneCorrection = true)
    (orc : Oracle) (flt : Str → Bool) (hc : CarryOK fx flt) (es : List Entry) (acc cs : List Correction)
    (hl : ∀ e ∈ es, e.attrs.languages ≠ []) (h : updateEntriesF fx orc flt es acc = some cs) :
    ∃ new, cs = acc ++ new ∧ All2 (StepOf fx orc flt) es new :=
  updateEntriesF_all2_of fx orc flt _ es acc cs
    (fun e he hf cs' hu => by
      obtain ⟨c, rfl, -⟩ := singleton_of ((updateEntry_spec fx orc e cs' hu).2.2 hk ho (hl e he)) fun _ _ => trivial
      exact ⟨c, rfl, (stepOf_run hf).mpr hu⟩)
    (fun e _ hf => by
      have hkc : fx.keepCstFiltered = true := hc.resolve_right fun h => by simp [h] at hf
      exact (stepOf_carried (by simp [hf])).mpr (by simp [wr, hkc])) h

theorem updateEntriesF_all2_fixed (fx : Fixes) (hk : fx.keepUnrun = true) (ho : fx.oneCorrection = true)
    (hkc : fx.keepCstFiltered = true) (orc : Oracle) (flt : Str → Bool) :
    ∀ (es : List Entry) (acc cs : List Correction), (∀ e ∈ es, e.attrs.languages ≠ []) →
      updateEntriesF fx orc flt es acc = some cs →
      ∃ new, cs = acc ++ new ∧ All2 (StepOf fx orc flt) es new :=
  fun es acc cs => updateEntriesF_steps fx hk ho orc flt (Or.inl hkc) es acc cs

theorem updateEntriesF_of_steps (fx : Fixes) (orc : Oracle) (flt : Str → Bool) (hc : CarryOK fx flt) :
    ∀ {es : List Entry} {cs : List Correction}, All2 (StepOf fx orc flt) es cs →
      ∀ acc, updateEntriesF fx orc flt es acc = some (acc ++ cs) := by
  intro es cs hall
  induction hall with
  | nil => intro acc; simp [updateEntriesF]
  | @cons e c _ _ h1 _ ih =>
    intro acc
    unfold updateEntriesF
    by_cases hf : flt e.name = true
    · rw [if_pos hf, (stepOf_run hf).mp h1]
      simp only
      rw [ih]; simp
    · have hkc : fx.keepCstFiltered = true := hc.resolve_right fun h => hf (h _)
      rw [if_neg hf, ih, (stepOf_carried hf).mp h1]
      simp [wr, hkc]

theorem carried_second (fx : Fixes) (orc : Oracle) (os : Str) (e e1 : Entry) (c : Correction) (he : EntryOKG orc e)
    (h1 : c = e.corr (wr fx e e.output)) (hb : Built os e1 c) (hcanon : e.attrs = flagsOf os e.name e.attrsStr) :
    e1.corr (wr fx e1 e1.output) = c ∧ e1.name = e.name := by
  subst h1
  obtain rfl := hb.entry hcanon ⟨he.out, he.outCst⟩
  exact ⟨rfl, rfl⟩

theorem updateEntriesF_second (fx : Fixes) (hk : fx.keepUnrun = true) (ho : fx.oneCorrection = true)
    (hkc : fx.keepCstFiltered = true) (orc : Oracle) (flt : Str → Bool) (os : Str) :
    ∀ {es : List Entry} {cs : List Correction}, All2 (StepOf fx orc flt) es cs →
      ∀ (es1 : List Entry) (acc : List Correction), All2 (Built os) es1 cs →
        (∀ e ∈ es, EntryOKG orc e) → (∀ e ∈ es, e.attrs = flagsOf os e.name e.attrsStr) →
        updateEntriesF fx orc flt es1 acc = some (acc ++ cs) :=
  fun hall _ acc hb he hcanon => updateEntriesF_of_steps fx orc flt (Or.inl hkc)
    (hall.transport hb fun e hm _ _ hs hb => hs.second hk ho hb (he e hm).second (hcanon e hm)) acc

theorem updateEntries_second (fx : Fixes) (hk : fx.keepUnrun = true) (ho : fx.oneCorrection = true) (orc : Oracle) :
    ∀ {es : List Entry} {cs : List Correction}, All2 (fun e c => updateEntry fx orc e = .cont [c]) es cs →
      ∀ (os : Str) (es1 : List Entry) (acc : List Correction), All2 (Built os) es1 cs →
        (∀ e ∈ es, EntryOK orc e) → (∀ c ∈ cs, ∀ l ∈ splitIncl (c.attrsStr ++ ['\n']), noCstLine l) →
        (∀ e ∈ es, e.attrs = flagsOf os e.name e.attrsStr) →
        updateEntries fx orc es1 acc = some (acc ++ cs) := by
  intro es cs hall os es1 acc hb he _ hcanon
  have hsteps : All2 (StepOf fx orc fun _ => true) es cs := hall.imp_mem fun _ _ _ _ h => (stepOf_run rfl).mpr h
  rw [← updateEntriesF_true]
  exact updateEntriesF_of_steps fx orc (fun _ => true) (Or.inr fun _ => rfl)
    (hsteps.transport hb fun e hm _ _ hs hb => hs.second hk ho hb (he e hm).second (hcanon e hm)) acc

/-- What the first round leaves for the second. -/
structure FirstRound (fx : Fixes) (os : Str) (orc : Oracle) (flt : Str → Bool) (f : Str) (cs : List Correction) : Prop where
  steps : All2 (StepOf fx orc flt) (parseFile os f) cs
  built : All2 (Built os) (parseFile os (updateFileF fx os orc flt f)) cs
  form : updateFileF fx os orc flt f =
    preamble os (updateFileF fx os orc flt f) ++ writeTests ((firstSuffix (splitIncl (updateFileF fx os orc flt f))).getD []) cs
  pre : preamble os (updateFileF fx os orc flt f) = preamble os f
  suf : (firstSuffix (splitIncl (updateFileF fx os orc flt f))).getD [] = (firstSuffix (splitIncl f)).getD []

theorem updateFileF_written (fx : Fixes) (hsp : fx.keepSuffixPreamble = true) (os : Str) (orc : Oracle) (flt : Str → Bool)
    (f : Str) (cs : List Correction) (hne : parseFile os f ≠ [])
    (hrun : updateEntriesF fx orc flt (parseFile os f) [] = some cs) :
    updateFileF fx os orc flt f = preamble os f ++ writeTests ((firstSuffix (splitIncl f)).getD []) cs := by
  unfold updateFileF
  split
  · next h => exact absurd h hne
  · simp [hrun, hsp]

theorem first_round_of (fx : Fixes) (hk : fx.keepUnrun = true) (ho : fx.oneCorrection = true)
    (hsp : fx.keepSuffixPreamble = true) (os : Str) (orc : Oracle) (flt : Str → Bool) (hc : CarryOK fx flt)
    (f : Str) (cs : List Correction) (hne : parseFile os f ≠ [])
    (hrun : updateEntriesF fx orc flt (parseFile os f) [] = some cs)
    (hlangs : ∀ e ∈ parseFile os f, e.attrs.languages ≠ [])
    (hsimple : ∀ c ∈ cs, SimpleS ((firstSuffix (splitIncl f)).getD []) c)
    (hse : SufOK '=' ((firstSuffix (splitIncl f)).getD [])) (hsd : SufOK '-' ((firstSuffix (splitIncl f)).getD [])) :
    FirstRound fx os orc flt f cs := by
  obtain ⟨new, hnew, hall⟩ := updateEntriesF_steps fx hk ho orc flt hc _ [] cs hlangs hrun
  simp only [List.nil_append] at hnew
  subst hnew
  obtain ⟨c0, cs', rfl⟩ := List.exists_cons_of_ne_nil fun h : cs = [] => hne (all2_nil_right (h ▸ hall))
  have h1 := updateFileF_written fx hsp os orc flt f _ hne hrun
  obtain ⟨hbuilt, hpre, hsuf⟩ := rewritten_shape os f _ rfl c0 cs' hne hsimple hse hsd
  rw [← h1] at hbuilt hpre hsuf
  exact ⟨hall, hbuilt, by rw [hpre, hsuf]; exact h1, hpre, hsuf⟩

theorem first_round (fx : Fixes) (hk : fx.keepUnrun = true) (ho : fx.oneCorrection = true)
    (hsp : fx.keepSuffixPreamble = true) (hkc : fx.keepCstFiltered = true)
    (os : Str) (orc : Oracle) (flt : Str → Bool) (f : Str) (cs : List Correction)
    (hne : parseFile os f ≠ [])
    (hrun : updateEntriesF fx orc flt (parseFile os f) [] = some cs)
    (hlangs : ∀ e ∈ parseFile os f, e.attrs.languages ≠ [])
    (hsimple : ∀ c ∈ cs, SimpleS ((firstSuffix (splitIncl f)).getD []) c)
    (hse : SufOK '=' ((firstSuffix (splitIncl f)).getD [])) (hsd : SufOK '-' ((firstSuffix (splitIncl f)).getD [])) :
    FirstRound fx os orc flt f cs :=
  first_round_of fx hk ho hsp os orc flt (Or.inl hkc) f cs hne hrun hlangs hsimple hse hsd

theorem parse_updated (fx : Fixes) (hk : fx.keepUnrun = true) (ho : fx.oneCorrection = true)
    (hsp : fx.keepSuffixPreamble = true) (os : Str) (orc : Oracle) (flt : Str → Bool) (hc : CarryOK fx flt)
    (f : Str) (cs : List Correction) (hne : parseFile os f ≠ [])
    (hrun : updateEntriesF fx orc flt (parseFile os f) [] = some cs)
    (hent : ∀ e ∈ parseFile os f, SecondOK orc e)
    (hcanon : ∀ e ∈ parseFile os f, e.attrs = flagsOf os e.name e.attrsStr)
    (hsimple : ∀ c ∈ cs, SimpleS ((firstSuffix (splitIncl f)).getD []) c)
    (hse : SufOK '=' ((firstSuffix (splitIncl f)).getD [])) (hsd : SufOK '-' ((firstSuffix (splitIncl f)).getD [])) :
    parseFile os (updateFileF fx os orc flt f) = (parseFile os f).map fun e => e.withOutput (keptF orc flt e) := by
  have h1 := first_round_of fx hk ho hsp os orc flt hc f cs hne hrun (fun e he => (hent e he).langs) hsimple hse hsd
  have := ((all2_comp h1.steps h1.built).imp_mem fun e he e1 _ ⟨c, hs, hb⟩ =>
    show e.withOutput (keptF orc flt e) = id e1 by
      obtain ⟨rfl, -⟩ := (stepOf_iff fx hk ho orc flt e c (hent e he).langs).mp hs
      exact (hb.entry (hcanon e he) ((hent e he).goodKept flt)).symm).map_eq
  simpa using this.symm

theorem updateFileF_true (fx : Fixes) (os : Str) (orc : Oracle) (f : Str) :
    updateFileF fx os orc (fun _ => true) f = updateFile fx os orc f := by
  unfold updateFileF updateFile
  split <;> simp [updateEntriesF_true]

theorem updateFileF_fixed (fx : Fixes) (hsp : fx.keepSuffixPreamble = true) (os : Str) (orc : Oracle) (flt : Str → Bool)
    (f1 : Str) (cs : List Correction) (h2 : updateEntriesF fx orc flt (parseFile os f1) [] = some cs)
    (hform : f1 = preamble os f1 ++ writeTests ((firstSuffix (splitIncl f1)).getD []) cs) :
    updateFileF fx os orc flt f1 = f1 := by
  conv => lhs; unfold updateFileF
  split
  · rfl
  · simp only [h2, hsp, ↓reduceIte]
    exact hform.symm

/-- A second identical update leaves the file byte-identical: the file the first round wrote has the form the writer
gives it (`first_round_of`), and every test read back from it takes the same step again (`StepOf.second`), so the second
run writes the same corrections behind the same leading text.  Asked of the tests: `SecondOK`; of the filter: `CarryOK`. -/
theorem update_idempotent_of (fx : Fixes) (hk : fx.keepUnrun = true) (ho : fx.oneCorrection = true)
    (hsp : fx.keepSuffixPreamble = true) (os : Str) (orc : Oracle) (flt : Str → Bool) (hc : CarryOK fx flt)
    (f : Str) (cs : List Correction) (hne : parseFile os f ≠ [])
    (hrun : updateEntriesF fx orc flt (parseFile os f) [] = some cs)
    (hent : ∀ e ∈ parseFile os f, SecondOK orc e)
    (hcanon : ∀ e ∈ parseFile os f, e.attrs = flagsOf os e.name e.attrsStr)
    (hsimple : ∀ c ∈ cs, SimpleS ((firstSuffix (splitIncl f)).getD []) c)
    (hse : SufOK '=' ((firstSuffix (splitIncl f)).getD [])) (hsd : SufOK '-' ((firstSuffix (splitIncl f)).getD [])) :
    updateFileF fx os orc flt (updateFileF fx os orc flt f) = updateFileF fx os orc flt f := by
  have h1 := first_round_of fx hk ho hsp os orc flt hc f cs hne hrun (fun e he => (hent e he).langs) hsimple hse hsd
  exact updateFileF_fixed fx hsp os orc flt _ cs
    (updateEntriesF_of_steps fx orc flt hc
      (h1.steps.transport h1.built fun e he _ _ hs hb => hs.second hk ho hb (hent e he) (hcanon e he)) []) h1.form

/-- Model with the committed repairs: for every corpus file — with or without text
in front of its first test, updated with or without a name filter — whose (filtered) update run writes
corrections that are `SimpleS` for the file's suffix (so, in a suffixed file, inputs and expectations may contain
un-suffixed `===`/`---` lines), whose tests satisfy `EntryOKG` (at least one language; `:cst` tests allowed; expectation
empty / a balanced S-expression, resp. trimmed CST text; usable parser answer) and have the attribute flags
their attribute text stands for, a second identical update leaves the file byte-identical. -/
theorem update_idempotent_general (fx : Fixes) (hk : fx.keepUnrun = true) (ho : fx.oneCorrection = true)
    (hsp : fx.keepSuffixPreamble = true) (hkc : fx.keepCstFiltered = true)
    (os : Str) (orc : Oracle) (flt : Str → Bool) (f : Str) (cs : List Correction)
    (hne : parseFile os f ≠ [])
    (hrun : updateEntriesF fx orc flt (parseFile os f) [] = some cs)
    (hent : ∀ e ∈ parseFile os f, EntryOKG orc e)
    (hcanon : ∀ e ∈ parseFile os f, e.attrs = flagsOf os e.name e.attrsStr)
    (hsimple : ∀ c ∈ cs, SimpleS ((firstSuffix (splitIncl f)).getD []) c)
    (hse : SufOK '=' ((firstSuffix (splitIncl f)).getD [])) (hsd : SufOK '-' ((firstSuffix (splitIncl f)).getD [])) :
    updateFileF fx os orc flt (updateFileF fx os orc flt f) = updateFileF fx os orc flt f :=
  update_idempotent_of fx hk ho hsp os orc flt (Or.inl hkc) f cs hne hrun (fun e he => (hent e he).second) hcanon
    hsimple hse hsd

/-- Model with the committed repairs: under the hypotheses of `update_idempotent_general` the
(filtered) update rewrites only expected outputs — the file reads back with the same tests in the same
order, each with the same name, attribute text, attribute FLAGS, input and delimiter lengths; the text in
front of the first test and the delimiter suffix are unchanged.  (No test is dropped, duplicated, merged or
split: `All2` relates the two entry lists position by position.) -/
theorem update_preserves_general (fx : Fixes) (hk : fx.keepUnrun = true) (ho : fx.oneCorrection = true)
    (hsp : fx.keepSuffixPreamble = true) (hkc : fx.keepCstFiltered = true)
    (os : Str) (orc : Oracle) (flt : Str → Bool) (f : Str) (cs : List Correction)
    (hne : parseFile os f ≠ [])
    (hrun : updateEntriesF fx orc flt (parseFile os f) [] = some cs)
    (hlangs : ∀ e ∈ parseFile os f, e.attrs.languages ≠ [])
    (hcanon : ∀ e ∈ parseFile os f, e.attrs = flagsOf os e.name e.attrsStr)
    (hsimple : ∀ c ∈ cs, SimpleS ((firstSuffix (splitIncl f)).getD []) c)
    (hse : SufOK '=' ((firstSuffix (splitIncl f)).getD [])) (hsd : SufOK '-' ((firstSuffix (splitIncl f)).getD [])) :
    All2 (fun e e1 => e1.key = e.key ∧ e1.hlen = e.hlen ∧ e1.dlen = e.dlen)
        (parseFile os f) (parseFile os (updateFileF fx os orc flt f)) ∧
      preamble os (updateFileF fx os orc flt f) = preamble os f ∧
      (firstSuffix (splitIncl (updateFileF fx os orc flt f))).getD [] = (firstSuffix (splitIncl f)).getD [] := by
  have h1 := first_round fx hk ho hsp hkc os orc flt f cs hne hrun hlangs hsimple hse hsd
  refine ⟨?_, h1.pre, h1.suf⟩
  refine (all2_comp h1.steps h1.built).imp_mem fun e he e1 _ ⟨c, hstep, hb⟩ => ?_
  -- the correction is `e.corr _` in both branches: name, attribute text, input and delimiter lengths come with it
  obtain ⟨o, rfl⟩ := hstep.corr
  refine ⟨?_, hb.hlen, hb.dlen⟩
  simp only [Entry.key, Key.mk.injEq]
  exact ⟨hb.name, hb.attrsStr, hb.flags.trans (hcanon e he).symm, hb.input⟩

/-- Entry `e1` (read back after the update) is entry `e`, and passes if `e` is run and parses without error.  The premise
`e.attrs = e1.attrs` costs a user nothing: `update_preserves_general` gives it under the same hypotheses. -/
def PassesAfterG (orc : Oracle) (flt : Str → Bool) (e e1 : Entry) : Prop :=
  e1.name = e.name ∧ e1.attrsStr = e.attrsStr ∧ e1.input = e.input ∧
  (e.attrs = e1.attrs → flt e.name = true → unrun e = false → e.attrs.expect ≠ .error →
    ∀ l a, e.attrs.languages.head? = some l → orc l e.input = some a →
      containsSub strERROR (actualG e a) = false → containsSub strMISSING (actualG e a) = false →
      e1.output = actualG e a ∧ actualG e1 a = e1.output)

/-- Model with the committed repairs: under the hypotheses of `update_idempotent_general`,
the rewritten file reads back test by test with the same name, attribute text and input, and every test
that the filter lets run, that is not skipped / for another platform / `:error`, and whose rendering (first
language; S-expression or CST) shows no error, has that rendering as its expectation and is compared with
the same rendering again: it passes. -/
theorem update_passes_general (fx : Fixes) (hk : fx.keepUnrun = true) (ho : fx.oneCorrection = true)
    (hsp : fx.keepSuffixPreamble = true) (hkc : fx.keepCstFiltered = true)
    (os : Str) (orc : Oracle) (flt : Str → Bool) (f : Str) (cs : List Correction)
    (hne : parseFile os f ≠ [])
    (hrun : updateEntriesF fx orc flt (parseFile os f) [] = some cs)
    (hent : ∀ e ∈ parseFile os f, EntryOKG orc e)
    (hcanon : ∀ e ∈ parseFile os f, e.attrs = flagsOf os e.name e.attrsStr)
    (hsimple : ∀ c ∈ cs, SimpleS ((firstSuffix (splitIncl f)).getD []) c)
    (hse : SufOK '=' ((firstSuffix (splitIncl f)).getD [])) (hsd : SufOK '-' ((firstSuffix (splitIncl f)).getD [])) :
    All2 (PassesAfterG orc flt) (parseFile os f) (parseFile os (updateFileF fx os orc flt f)) := by
  rw [parse_updated fx hk ho hsp os orc flt (Or.inl hkc) f cs hne hrun (fun e he => (hent e he).second) hcanon hsimple
    hse hsd]
  refine All2.of_map fun e he => ⟨rfl, rfl, rfl, fun _ hf hun hexp l a hl hor h3 h4 => ?_⟩
  -- a test that is run keeps what the first language's iteration keeps: an error-free rendering itself;
  -- and the second round compares with the same rendering
  have hk : keptF orc flt e = actualG e a :=
    (keptF_of_runs (by simp [runs, hf, hun]) (by simp [firstAnswer, hl, hor])).trans (keptG_clean hexp h3 h4)
  rw [hk]
  exact ⟨rfl, actualG_second (e1 := e.withOutput (actualG e a)) (hent e he).hf ((hent e he).act l a hl hor).toActOK rfl
    (by rw [← keptG_clean hexp h3 h4]; rfl)⟩

theorem update_idempotent_unfiltered (fx : Fixes) (hk : fx.keepUnrun = true) (ho : fx.oneCorrection = true)
    (hsp : fx.keepSuffixPreamble = true) (hkc : fx.keepCstFiltered = true)
    (os : Str) (orc : Oracle) (f : Str) (cs : List Correction)
    (hne : parseFile os f ≠ [])
    (hrun : updateEntries fx orc (parseFile os f) [] = some cs)
    (hent : ∀ e ∈ parseFile os f, EntryOKG orc e)
    (hcanon : ∀ e ∈ parseFile os f, e.attrs = flagsOf os e.name e.attrsStr)
    (hsimple : ∀ c ∈ cs, SimpleS ((firstSuffix (splitIncl f)).getD []) c)
    (hse : SufOK '=' ((firstSuffix (splitIncl f)).getD [])) (hsd : SufOK '-' ((firstSuffix (splitIncl f)).getD [])) :
    updateFile fx os orc (updateFile fx os orc f) = updateFile fx os orc f := by
  have := update_idempotent_general fx hk ho hsp hkc os orc (fun _ => true) f cs hne
    (by rw [updateEntriesF_true]; exact hrun) hent hcanon hsimple hse hsd
  simpa [updateFileF_true] using this

/-- `update_idempotent_partial` (model with the repairs `keepUnrun`, `oneCorrection`, `keepSuffixPreamble` on; with
or without the others): for every corpus file without leading text whose update run writes `Simple`
corrections without `:cst` line, whose tests have one language, an empty or balanced S-expression
expectation and a usable parser answer (`EntryOK`), and whose attribute flags are the ones their attribute text stands for
(`e.attrs = flagsOf os e.name e.attrsStr`: decidable per entry; measured on every real entry) —
a second update leaves the file byte-identical.
Missing w.r.t. the full statement: `:cst` tests, several languages, tests outside `Simple`.  It is `update_idempotent_of` for the
constant filter; `hpre` and the `noCstLine` half of `hsimple` are not needed. -/
theorem update_idempotent_partial (fx : Fixes) (hk : fx.keepUnrun = true) (ho : fx.oneCorrection = true)
    (hsp : fx.keepSuffixPreamble = true) (os : Str) (orc : Oracle) (f : Str) (cs : List Correction)
    (hne : parseFile os f ≠ [])
    (hpre : preamble os f = [])
    (hrun : updateEntries fx orc (parseFile os f) [] = some cs)
    (hent : ∀ e ∈ parseFile os f, EntryOK orc e)
    (hsimple : ∀ c ∈ cs, Simple c ∧ ∀ l ∈ splitIncl (c.attrsStr ++ ['\n']), noCstLine l)
    (hse : SufOK '=' ((firstSuffix (splitIncl f)).getD [])) (hsd : SufOK '-' ((firstSuffix (splitIncl f)).getD []))
    (hcanon : ∀ e ∈ parseFile os f, e.attrs = flagsOf os e.name e.attrsStr) :
    updateFile fx os orc (updateFile fx os orc f) = updateFile fx os orc f := by
  simpa [updateFileF_true] using update_idempotent_of fx hk ho hsp os orc (fun _ => true) (Or.inr fun _ => rfl) f cs hne
    (by rw [updateEntriesF_true]; exact hrun) (fun e he => (hent e he).second) hcanon
    (fun c hc => (hsimple c hc).1.toS _) hse hsd

def fxAll : Fixes := { keepUnrun := true, oneCorrection := true, keepSuffixPreamble := true, quoteReset := true, keepCstFiltered := true, sameQuote := true }
def sxSource : Str := ['(', 's', 'o', 'u', 'r', 'c', 'e', ')']

/-- Boolean form of the structural part of `EntryOKG` (languages, `has_fields`, trimmed CST text), and of its
expectation-shape part, evaluated by the driver on every real entry; the part about the parser's answers is `actOKGb`, which
`actOKG_of_b` ties to `ActOKG`. -/
def entryShapeB (e : Entry) : Bool :=
  !e.attrs.languages.isEmpty && (e.hasFields == (if e.attrs.cst then false else hasFieldsOf e.output)) &&
  (!e.attrs.cst || trim e.output == e.output)
def entryExpectB (e : Entry) : Bool := e.attrs.cst || e.output.isEmpty || inFormatClass e.output

/-- Non-vacuity of the general theorems on a concrete file with leading text, a `:cst` test, a test with two
languages, and a filter that carries the first test over: hypotheses that are decidable hold, the first
update changes the file, the second does not. -/
def fExG : Str :=
  "; notes\n\n===\nkeep\n===\na\n---\n\n(x)\n\n====\ncst one\n:cst\n====\nb\n-----\n\n0:0 - 0:1 old\n\n===\ntwo\n:language(p)\n:language(q)\n===\nc\n---\n\n(y)\n".toList
def orcG : Oracle := fun _ _ => some { sexpFields := sxSource, sexpPlain := sxSource, cst := "0:0 - 0:1 new".toList, hasError := false }
def fltG : Str → Bool := fun n => n != "keep".toList
example : (parseFile [] fExG).length = 3 ∧ (parseFile [] fExG).all entryShapeB = true ∧
    (parseFile [] fExG).all entryExpectB = true ∧
    (parseFile [] fExG).all (fun e => decide (e.attrs = flagsOf [] e.name e.attrsStr)) = true ∧
    preamble [] fExG ≠ [] ∧
    updateFileF fxAll [] orcG fltG fExG ≠ fExG ∧
    updateFileF fxAll [] orcG fltG (updateFileF fxAll [] orcG fltG fExG) = updateFileF fxAll [] orcG fltG fExG := by
  rw [show fExG = _ from toList_lit (by rfl)]
  decide +kernel

/-- Attribute combinations and the error branch through the general theorems, on one concrete file:
an `:error` test whose tree has an error (passes); a `:cst :skip` test; a `:platform(macos)` test on linux; a test whose parse
has an ERROR and a wrong expectation (the expectation is kept, the run reports `Err`); a passing `:fail-fast` test; a test with a
stale expectation, which gets updated.  All decidable
hypotheses hold, the run's status is `Err` (`updateStatus = false`), the file is rewritten, and a second update is
the identity. -/
def fExA : Str :=
  ("===\nerr\n:error\n===\ne\n---\n\n(old)\n\n===\nsk\n:cst\n:skip\n===\ns\n---\n\n0:0 - 0:1 kept\n\n" ++
   "===\nmac\n:platform(macos)\n===\nm\n---\n\n(m)\n\n===\nbroken\n===\nx\n---\n\n(wrong)\n\n" ++
   "===\nff\n:fail-fast\n===\ng\n---\n\n(source)\n\n===\nstale\n===\nu\n---\n\n(stale)\n").toList
def orcA : Oracle := fun _ inp =>
  if inp == ['e'] || inp == ['x'] then
    some { sexpFields := "(source (ERROR))".toList, sexpPlain := "(source (ERROR))".toList, cst := "0:0 ERROR".toList, hasError := true }
  else some { sexpFields := sxSource, sexpPlain := sxSource, cst := "0:0 - 0:1 new".toList, hasError := false }
example : (parseFile "linux".toList fExA).length = 6 ∧ (parseFile "linux".toList fExA).all entryShapeB = true ∧
    (parseFile "linux".toList fExA).all entryExpectB = true ∧
    (parseFile "linux".toList fExA).all (fun e => decide (e.attrs = flagsOf "linux".toList e.name e.attrsStr)) = true ∧
    updateStatus fxAll orcA (fun _ => true) (parseFile "linux".toList fExA) false = false ∧
    updateFile fxAll "linux".toList orcA fExA ≠ fExA ∧
    updateFile fxAll "linux".toList orcA (updateFile fxAll "linux".toList orcA fExA) = updateFile fxAll "linux".toList orcA fExA := by
  unfold fExA
  rw [String.toList_append, String.toList_append, String.toList_ofList, String.toList_ofList, String.toList_ofList]
  decide +kernel

/-- Witness for the hypothesis `EntryOKG.out` (expectation empty or ONE balanced S-expression): an expectation with two
top-level groups, kept because the parse has an error, is re-formatted differently by every further update
(`(a) (b)` → `(a)(b)` → `(a` / `  (b))`), so the second update changes the file again — for the repaired code too. -/
def fExJunk : Str := "===\nj\n===\nx\n---\n\n(a) (b)\n".toList
theorem idempotent_fails_two_toplevel_expectation :
    updateFile fxAll [] orcA (updateFile fxAll [] orcA fExJunk) ≠ updateFile fxAll [] orcA fExJunk := by
  rw [show fExJunk = _ from toList_lit (by rfl)]
  decide +kernel

/-- Multi-language tests (`:language(p)` / `:language(q)` with DIFFERENT renderings per language) through the general
theorems: the update writes the test ONCE with the first language's rendering; the file read back has one test
with both language lines; the second update is the identity (no fail-fast, so the mismatch under `q` does not
stop the run).  With `:fail-fast` the run stops at `q` and nothing is written (first conjunct of the last line). -/
def fExL : Str := "===\nml\n:language(p)\n:language(q)\n===\nc\n---\n\n(old)\n".toList
def fExLff : Str := "===\nml\n:language(p)\n:language(q)\n:fail-fast\n===\nc\n---\n\n(old)\n".toList
def orcL : Oracle := fun l _ =>
  if l == ['q'] then some { sexpFields := "(other)".toList, sexpPlain := "(other)".toList, cst := [], hasError := false }
  else some { sexpFields := sxSource, sexpPlain := sxSource, cst := [], hasError := false }
example : (parseFile [] fExL).all entryShapeB = true ∧ (parseFile [] fExL).all entryExpectB = true ∧
    (parseFile [] (updateFile fxAll [] orcL fExL)).map (fun e => (e.attrs.languages, e.output)) = [([['p'], ['q']], sxSource)] ∧
    updateFile fxAll [] orcL (updateFile fxAll [] orcL fExL) = updateFile fxAll [] orcL fExL ∧
    updateFile fxAll [] orcL fExLff = fExLff := by
  rw [show fExL = _ from toList_lit (by rfl), show fExLff = _ from toList_lit (by rfl)]
  decide +kernel

end TsVerif.C20
