import TsVerif.C20.Model
/-!
# C20 — `format_sexp` on the S-expressions the runtime prints

The S-expressions `ts_node_string` prints for an error-free tree are, character-wise, a sequence of
space-separated tokens `(name` + closing parentheses, or `field:`.  `Tok`/`joinToks` describe exactly
these strings; `Bal` says the parentheses balance (everything closes exactly at the last token).
`format_tokens`: `formatSexp (joinToks ts) = prettyToks ts` (one token per line, two spaces per level).
-/
namespace TsVerif.C20

/-- Characters a node or field name is made of: no delimiter of the formatter, no quote, no white space; not `:` (the field
marker), not `;` (a pretty-printed line starting with it would be a comment for `normalize_sexp_output`), not `'\x00'`
(`format_sexp`'s "no quote" value, which `fetchLoop` compares the next character with). -/
def nameCh (c : Char) : Bool :=
  c != ' ' && c != ')' && c != '(' && c != '\'' && c != '"' && c != ':' && c != '\x00' && c != ';' && !isWs c

inductive Tok where
  | opn (name : Str) (closers : Nat)
  | fld (name : Str)
  deriving Repr, DecidableEq

def tokStr : Tok → Str
  | .opn n k => '(' :: n ++ List.replicate k ')'
  | .fld n => n ++ [':']

def joinToks : List Tok → Str
  | [] => []
  | [t] => tokStr t
  | t :: t' :: ts => tokStr t ++ ' ' :: joinToks (t' :: ts)

theorem fetchLoop_cons (qr : QMode) (c : Char) (cs : Str) (q : Char) (sp : Bool) (acc : Str) :
    fetchLoop qr (c :: cs) q sp acc =
      if c == '\'' || c == '"' then
        fetchLoop qr cs (if qr.reset then (if q == '\x00' then c else if q == c && (!qr.same || (match cs with
          | n :: _ => n == ' ' || n == ')'
          | [] => true)) then '\x00' else q) else c) sp (c :: acc)
      else if c == ' ' || (c == ')' && q != '\x00') then
        match cs with
        | n :: cs' => if n == q then fetchLoop qr cs' '\x00' sp (n :: c :: acc) else (acc, cs, q, sp)
        | [] => (acc, cs, q, sp)
      else if c == ')' then (acc, cs, q, true)
      else fetchLoop qr cs q sp (c :: acc) := by
  cases cs <;> rfl

theorem fetchLoop_word (qr : QMode) (w rest : Str) (sp : Bool) (acc : Str) (hw : ∀ c ∈ w, nameCh c = true ∨ c = '(' ∨ c = ':') :
    fetchLoop qr (w ++ rest) '\x00' sp acc = fetchLoop qr rest '\x00' sp (w.reverse ++ acc) := by
  induction w generalizing acc with
  | nil => rfl
  | cons c cs ih =>
    have hc : c ≠ '\'' ∧ c ≠ '"' ∧ c ≠ ' ' ∧ c ≠ ')' := by
      rcases hw c List.mem_cons_self with hc | rfl | rfl
      · simp only [nameCh, Bool.and_eq_true, bne_iff_ne, ne_eq] at hc
        simp [hc]
      · decide
      · decide
    simp only [List.cons_append]
    rw [fetchLoop_cons]
    simp [hc, ih _ (fun x hx => hw x (List.mem_cons_of_mem _ hx))]

theorem fetchLoop_paren (qr : QMode) (rest : Str) (sp : Bool) (acc : Str) :
    fetchLoop qr (')' :: rest) '\x00' sp acc = (acc, rest, '\x00', true) := by
  rw [fetchLoop_cons]; simp

theorem fetchLoop_space (qr : QMode) (rest : Str) (sp : Bool) (acc : Str) (h : rest.head? ≠ some '\x00') :
    fetchLoop qr (' ' :: rest) '\x00' sp acc = (acc, rest, '\x00', sp) := by
  rw [fetchLoop_cons]
  cases rest with
  | nil => simp
  | cons n cs =>
    have : (n == '\x00') = false := by simpa using fun h' => h (by simp [h'])
    simp [this]

theorem fetchLoop_nil (qr : QMode) (q : Char) (sp : Bool) (acc : Str) : fetchLoop qr [] q sp acc = (acc, [], q, sp) := rfl

/-- A word as `fetch_next_str` returns it: `(name` or `field:`. -/
def WordOK (w : Str) : Prop := w ≠ [] ∧ ∀ c ∈ w, nameCh c = true ∨ c = '(' ∨ c = ':'

def fst0 (rest : Str) (sp dl : Bool) : FState := { rest := rest, quote := '\x00', sawParen := sp, didLast := dl }

theorem fetch_word_space (qr : QMode) (w more : Str) (sp dl : Bool) (hw : WordOK w) (hm : more.head? ≠ some '\x00') :
    fetch qr (fst0 (w ++ ' ' :: more) sp dl) = some (w, fst0 more sp dl) := by
  obtain ⟨hne, hch⟩ := hw
  simp [fetch, fst0, fetchLoop_word qr w _ sp [] hch, fetchLoop_space qr more sp _ hm, hne]

theorem fetch_word_paren (qr : QMode) (w more : Str) (sp dl : Bool) (hw : WordOK w) :
    fetch qr (fst0 (w ++ ')' :: more) sp dl) = some (w, fst0 more true dl) := by
  obtain ⟨hne, hch⟩ := hw
  simp [fetch, fst0, fetchLoop_word qr w _ sp [] hch, fetchLoop_paren, hne]

theorem fetch_paren (qr : QMode) (more : Str) (sp dl : Bool) (hm : more ≠ []) :
    fetch qr (fst0 (')' :: more) sp dl) = some ([], fst0 more true dl) := by
  have : more.isEmpty = false := by simpa using hm
  simp [fetch, fst0, fetchLoop_paren, this]

theorem fetch_space (qr : QMode) (more : Str) (sp dl : Bool) (hm : more ≠ []) (hm0 : more.head? ≠ some '\x00') :
    fetch qr (fst0 (' ' :: more) sp dl) = some ([], fst0 more sp dl) := by
  have : more.isEmpty = false := by simpa using hm
  simp [fetch, fst0, fetchLoop_space qr more sp _ hm0, this]

theorem fetch_last_paren (qr : QMode) (sp dl : Bool) :
    fetch qr (fst0 [')'] sp dl) = some ([], fst0 [] false dl) := by
  simp [fetch, fst0, fetchLoop_paren]

theorem fetch_end_sp (qr : QMode) (dl : Bool) : fetch qr (fst0 [] true dl) = some ([], fst0 [] false dl) := by
  simp [fetch, fst0, fetchLoop]

theorem fetch_end_last (qr : QMode) : fetch qr (fst0 [] false false) = some ([], fst0 [] false true) := by
  simp [fetch, fst0, fetchLoop]

theorem fetch_end_none (qr : QMode) : fetch qr (fst0 [] false true) = none := by
  simp [fetch, fst0, fetchLoop]

theorem rep_shift (a : Char) (j : Nat) (l : Str) : List.replicate j a ++ a :: l = a :: (List.replicate j a ++ l) := by
  induction j with
  | zero => rfl
  | succ j ih => simp [List.replicate_succ, ih]

theorem fmtLoop_close (qr : QMode) (f : Nat) (st st' : FState) (ind : Nat) (hf : Bool) (out : Str)
    (h : fetch qr st = some ([], st')) (hi : 0 < ind) :
    fmtLoop qr (f + 1) st ind hf out = fmtLoop qr f st' (ind - 1) hf (')' :: out) := by
  simp [fmtLoop, h, hi]

theorem fmtLoop_done (qr : QMode) (f : Nat) (dl : Bool) (hf : Bool) (out : Str) :
    fmtLoop qr f (fst0 [] false dl) 0 hf out = out := by
  cases f with
  | zero => rfl
  | succ f =>
    cases dl with
    | true => simp [fmtLoop, fetch_end_none]
    | false =>
      simp only [fmtLoop, fetch_end_last]
      cases f with
      | zero => simp [fmtLoop]
      | succ f => simp [fmtLoop, fetch_end_none]

/-- `j` closing parentheses followed by a space and more text: `j + 1` levels are closed
(the first `)` of the run was consumed with the name). -/
theorem fmtLoop_closers (qr : QMode) (f : Nat) (more : Str) (dl hf : Bool) (hm : more ≠ []) (hm0 : more.head? ≠ some '\x00') :
    ∀ (j : Nat) (sp : Bool) (ind : Nat) (out : Str), j + 1 ≤ ind →
      fmtLoop qr (f + (j + 1)) (fst0 (List.replicate j ')' ++ ' ' :: more) sp dl) ind hf out =
        fmtLoop qr f (fst0 more (sp || decide (0 < j)) dl) (ind - (j + 1)) hf (List.replicate (j + 1) ')' ++ out)
  | 0, sp, ind, out, hi => by
    simp only [List.replicate_zero, List.nil_append, Nat.zero_add]
    rw [fmtLoop_close qr f _ _ ind hf out (fetch_space qr more sp dl hm hm0) (by omega)]
    simp
  | j + 1, sp, ind, out, hi => by
    have e : f + (j + 1 + 1) = (f + (j + 1)) + 1 := by omega
    simp only [List.replicate_succ, List.cons_append]
    rw [e, fmtLoop_close qr _ _ _ ind hf out (fetch_paren qr _ sp dl (by simp)) (by omega)]
    rw [fmtLoop_closers qr f more dl hf hm hm0 j true (ind - 1) (')' :: out) (by omega)]
    have : ind - 1 - (j + 1) = ind - (j + 1 + 1) := by omega
    rw [this]
    congr 1
    · simp
    · simp [List.replicate_succ, rep_shift]

/-- Three cases because `fetch_next_str` reports the end of the text twice, through `saw_paren` and through `did_last`, and the
last `)` of the text clears `saw_paren` itself (`fetch_last_paren`): the level owed for the `)` that was consumed with the name is
then paid in the `did_last` round. -/
theorem fmtLoop_closers_end (qr : QMode) (g : Nat) (hf : Bool) :
    ∀ (j : Nat) (out : Str),
      fmtLoop qr (g + (j + 1)) (fst0 (List.replicate j ')') true false) (j + 1) hf out =
        List.replicate (j + 1) ')' ++ out
  | 0, out => by
    simp only [List.replicate_zero]
    rw [Nat.zero_add, fmtLoop_close qr g _ _ 1 hf out (fetch_end_sp qr false) (by omega)]
    simp [fmtLoop_done]
  | 1, out => by
    have e : g + (1 + 1) = (g + 1) + 1 := by omega
    rw [e]
    simp only [List.replicate_one]
    rw [fmtLoop_close qr _ _ _ 2 hf out (fetch_last_paren qr true false) (by omega)]
    rw [fmtLoop_close qr g _ _ 1 hf _ (fetch_end_last qr) (by omega)]
    simp [fmtLoop_done, List.replicate_succ]
  | j + 2, out => by
    have e : g + (j + 2 + 1) = (g + (j + 1 + 1)) + 1 := by omega
    rw [e]
    simp only [List.replicate_succ (n := j + 1)]
    rw [fmtLoop_close qr _ _ _ (j + 2 + 1) hf out (fetch_paren qr _ true false (by simp)) (by omega)]
    have : j + 2 + 1 - 1 = j + 1 + 1 := by omega
    rw [this, fmtLoop_closers_end qr g hf (j + 1) (')' :: out)]
    simp [List.replicate_succ, rep_shift]

theorem formatSexp_nil (fx : Fixes) : formatSexp fx [] = [] :=
  congrArg List.reverse (fmtLoop_done _ 3 false false [])

/-- What `format_sexp` writes in front of `(name`, and (`openInd`) the level after it. -/
def openPre (ind : Nat) (hf : Bool) : Str := if hf then [] else if ind > 0 then '\n' :: indentStr ind else []
def openInd (ind : Nat) (hf : Bool) : Nat := if hf then ind else ind + 1

/-- Names of nodes and fields as the runtime prints them for an error-free tree. -/
def NameOK2 (n : Str) : Prop :=
  n ≠ [] ∧ (∀ c ∈ n, nameCh c = true) ∧ ¬ pfxMissing <+: ('(' :: n) ∧ ¬ pfxUnexpected <+: ('(' :: n)

theorem wordOK_open (n : Str) (h : NameOK2 n) : WordOK ('(' :: n) :=
  ⟨by simp, List.forall_mem_cons.mpr ⟨Or.inr (Or.inl rfl), fun c hc => Or.inl (h.2.1 c hc)⟩⟩

theorem wordOK_field (n : Str) (h : NameOK2 n) : WordOK (n ++ [':']) :=
  ⟨by simp, List.forall_mem_append.mpr
    ⟨fun c hc => Or.inl (h.2.1 c hc), fun c hc => Or.inr (Or.inr (List.mem_singleton.mp hc))⟩⟩

instance (n : Str) : Decidable (NameOK2 n) := by unfold NameOK2; infer_instance

theorem fmtLoop_open_word (qr : QMode) (f : Nat) (st st' : FState) (n : Str) (ind : Nat) (hf : Bool) (out : Str)
    (hn : NameOK2 n) (h : fetch qr st = some ('(' :: n, st')) :
    fmtLoop qr (f + 1) st ind hf out =
      fmtLoop qr f st' (openInd ind hf) false (n.reverse ++ '(' :: ((openPre ind hf).reverse ++ out)) := by
  cases hf with
  | true => simp [fmtLoop, h, hn.2.2.1, hn.2.2.2, openInd, openPre]
  | false => by_cases hi : 0 < ind <;> simp [fmtLoop, h, hn.2.2.1, hn.2.2.2, openInd, openPre, hi]

theorem fmtLoop_field_word (qr : QMode) (f : Nat) (st st' : FState) (n : Str) (ind : Nat) (hf : Bool) (out : Str)
    (hn : NameOK2 n) (h : fetch qr st = some (n ++ [':'], st')) :
    fmtLoop qr (f + 1) st ind hf out =
      fmtLoop qr f st' (ind + 1) true (' ' :: ':' :: (n.reverse ++ ((indentStr ind).reverse ++ '\n' :: out))) := by
  obtain ⟨hne, hch, _, _⟩ := hn
  have h1 : (n ++ [':']).isEmpty = false := by simp
  have h2 : ((n ++ [':']).head? == some '(') = false := by
    cases n with
    | nil => exact absurd rfl hne
    | cons c cs =>
      have := hch c List.mem_cons_self
      simp only [nameCh, Bool.and_eq_true, bne_iff_ne, ne_eq] at this
      simp [this]
  have h3 : ((n ++ [':']).getLast? == some ':') = true := by simp
  simp only [fmtLoop, h, h1, Bool.false_and, Bool.false_eq_true, ↓reduceIte, h2, h3]
  simp

/-- The text `format_sexp` produces: every `(name` on its own line (two spaces per level) except at the
very beginning and after a field, closing parentheses directly behind, `field: ` in front of its node. -/
def prettyToks : List Tok → Nat → Bool → Str
  | [], _, _ => []
  | .opn n k :: ts, ind, hf =>
    openPre ind hf ++ ('(' :: n ++ (List.replicate k ')' ++ prettyToks ts (openInd ind hf - k) false))
  | .fld n :: ts, ind, _ => '\n' :: (indentStr ind ++ (n ++ (':' :: ' ' :: prettyToks ts (ind + 1) true)))

/-- `ind` is the formatter's indent level in front of the token, `hf` says that the token before was a field.  Every level
is closed exactly at the last token (`k = openInd ind hf` there) and none earlier (`k < openInd ind hf` before it): were the
level to reach 0 in the middle, `format_sexp` would start the next `(name` without a line break. -/
def Bal : List Tok → Nat → Bool → Prop
  | [], _, _ => False
  | [.opn n k], ind, hf => NameOK2 n ∧ 1 ≤ k ∧ k = openInd ind hf
  | [.fld _], _, _ => False
  | .opn n k :: t :: ts, ind, hf => NameOK2 n ∧ k < openInd ind hf ∧ Bal (t :: ts) (openInd ind hf - k) false
  | .fld n :: t :: ts, ind, _ => NameOK2 n ∧ Bal (t :: ts) (ind + 1) true

instance decBal : ∀ (toks : List Tok) (ind : Nat) (hf : Bool), Decidable (Bal toks ind hf)
  | [], _, _ => isFalse (by simp [Bal])
  | [.fld _], _, _ => isFalse (by simp [Bal])
  | [.opn n k], ind, hf => by unfold Bal; exact inferInstance
  | .opn n k :: t :: ts, ind, hf => by
    unfold Bal
    have := decBal (t :: ts) (openInd ind hf - k) false
    exact inferInstance
  | .fld n :: t :: ts, ind, _ => by
    unfold Bal
    have := decBal (t :: ts) (ind + 1) true
    exact inferInstance

/-- Reading a one-line S-expression as tokens (executable; used by the judge to check that what the
runtime printed is in the class the theorems talk about). -/
def tokOf (w : Str) : Option Tok :=
  match w with
  | '(' :: rest =>
    let n := rest.takeWhile (· != ')')
    let cl := rest.dropWhile (· != ')')
    if cl.all (· == ')') then some (.opn n cl.length) else none
  | _ => if w.getLast? == some ':' then some (.fld w.dropLast) else none

def splitSpaces (s : Str) : List Str :=
  (s.foldr (fun c acc => if c == ' ' then [] :: acc else match acc with
    | [] => [[c]]
    | w :: ws => (c :: w) :: ws) [[]])

def toksOf (s : Str) : Option (List Tok) := (splitSpaces s).mapM tokOf

def inFormatClass (s : Str) : Bool :=
  match toksOf s with
  | some (.opn n k :: ts) => joinToks (.opn n k :: ts) == s && decide (Bal (.opn n k :: ts) 0 false)
  | _ => false

def need : List Tok → Nat
  | [] => 0
  | .opn _ k :: ts => 1 + k + need ts
  | .fld _ :: ts => 1 + need ts

theorem nameCh_ne_nul {c : Char} (h : nameCh c = true) : c ≠ '\x00' := by
  simp only [nameCh, Bool.and_eq_true, bne_iff_ne, ne_eq] at h
  exact h.1.1.2

theorem joinToks_head (t : Tok) (ts : List Tok) (ind : Nat) (hf : Bool) (h : Bal (t :: ts) ind hf) :
    joinToks (t :: ts) ≠ [] ∧ (joinToks (t :: ts)).head? ≠ some '\x00' := by
  cases t with
  | opn n k => cases ts <;> simp [joinToks, tokStr]
  | fld n =>
    cases ts with
    | nil => simp [Bal] at h
    | cons t' ts' =>
      obtain ⟨⟨hne, hch, _⟩, _⟩ := h
      cases n with
      | nil => exact absurd rfl hne
      | cons c cs =>
        have := nameCh_ne_nul (hch c List.mem_cons_self)
        simp [joinToks, tokStr, this]

theorem rev_rep (a : Char) (k : Nat) : (List.replicate k a).reverse = List.replicate k a := by simp

/-- One step of the loop per `(name` / `field:` word plus one per closing parenthesis (`need`); `g` is spare fuel; `sp`
(`saw_paren` left over from the previous token) is arbitrary because it only matters at the end of the text. -/
theorem fmt_toks (qr : QMode) :
    ∀ (toks : List Tok) (ind : Nat) (hf : Bool) (out : Str) (sp : Bool) (g : Nat), Bal toks ind hf →
      fmtLoop qr (g + need toks) (fst0 (joinToks toks) sp false) ind hf out = (prettyToks toks ind hf).reverse ++ out
  | [], _, _, _, _, _, h => by simp [Bal] at h
  | [.fld _], _, _, _, _, _, h => by simp [Bal] at h
  | [.opn n k], ind, hf, out, sp, g, h => by
    obtain ⟨hn, hk1, hk⟩ := h
    obtain ⟨j, rfl⟩ : ∃ j, k = j + 1 := ⟨k - 1, by omega⟩
    have e1 : joinToks [.opn n (j + 1)] = ('(' :: n) ++ ')' :: List.replicate j ')' := by
      simp [joinToks, tokStr, List.replicate_succ]
    have e2 : g + need [.opn n (j + 1)] = (g + (j + 1)) + 1 := by simp [need]; omega
    rw [e1, e2, fmtLoop_open_word qr _ _ _ n ind hf out hn (fetch_word_paren qr _ _ sp false (wordOK_open n hn)),
      ← hk, fmtLoop_closers_end]
    simp [prettyToks, List.reverse_append]
  | .opn n k :: t :: ts, ind, hf, out, sp, g, h => by
    obtain ⟨hn, hk, hb⟩ := h
    obtain ⟨hne, hnul⟩ := joinToks_head t ts _ _ hb
    cases k with
    | zero =>
      have e1 : joinToks (.opn n 0 :: t :: ts) = ('(' :: n) ++ ' ' :: joinToks (t :: ts) := by
        simp [joinToks, tokStr]
      have e2 : g + need (.opn n 0 :: t :: ts) = (g + need (t :: ts)) + 1 := by simp [need]; omega
      rw [e1, e2, fmtLoop_open_word qr _ _ _ n ind hf out hn
        (fetch_word_space qr _ _ sp false (wordOK_open n hn) hnul)]
      have := fun o => fmt_toks qr (t :: ts) (openInd ind hf - 0) false o sp g hb
      simp only [Nat.sub_zero] at this
      rw [this]
      simp [prettyToks, List.reverse_append]
    | succ j =>
      have e1 : joinToks (.opn n (j + 1) :: t :: ts) =
          ('(' :: n) ++ ')' :: (List.replicate j ')' ++ ' ' :: joinToks (t :: ts)) := by
        simp [joinToks, tokStr, List.replicate_succ]
      have e2 : g + need (.opn n (j + 1) :: t :: ts) = ((g + need (t :: ts)) + (j + 1)) + 1 := by
        simp [need]; omega
      rw [e1, e2, fmtLoop_open_word qr _ _ _ n ind hf out hn (fetch_word_paren qr _ _ sp false (wordOK_open n hn)),
        fmtLoop_closers qr _ _ false false hne hnul j true _ _ (by omega),
        fmt_toks qr (t :: ts) _ false _ _ g hb]
      simp [prettyToks, List.reverse_append]
  | .fld n :: t :: ts, ind, hf, out, sp, g, h => by
    obtain ⟨hn, hb⟩ := h
    obtain ⟨hne, hnul⟩ := joinToks_head t ts _ _ hb
    have e1 : joinToks (.fld n :: t :: ts) = (n ++ [':']) ++ ' ' :: joinToks (t :: ts) := by
      simp [joinToks, tokStr]
    have e2 : g + need (.fld n :: t :: ts) = (g + need (t :: ts)) + 1 := by simp [need]; omega
    rw [e1, e2, fmtLoop_field_word qr _ _ _ n ind hf out hn
      (fetch_word_space qr _ _ sp false (wordOK_field n hn) hnul),
      fmt_toks qr (t :: ts) _ true _ sp g hb]
    simp [prettyToks, List.reverse_append]

theorem need_le_length : ∀ toks : List Tok, need toks ≤ (joinToks toks).length
  | [] => by simp [need]
  | [.opn n k] => by simp [need, joinToks, tokStr]; omega
  | [.fld n] => by simp [need, joinToks, tokStr]
  | .opn n k :: t :: ts => by
    have := need_le_length (t :: ts)
    simp [need, joinToks, tokStr] at this ⊢; omega
  | .fld n :: t :: ts => by
    have := need_le_length (t :: ts)
    simp [need, joinToks, tokStr] at this ⊢; omega

/-- For every balanced token sequence, `format_sexp` of the one-line S-expression is
`prettyToks` — for every setting of the repair flags (the class has no quote characters). -/
theorem format_tokens (fx : Fixes) (toks : List Tok) (h : Bal toks 0 false) :
    formatSexp fx (joinToks toks) = prettyToks toks 0 false := by
  unfold formatSexp
  have hle := need_le_length toks
  obtain ⟨g, hg⟩ : ∃ g, (joinToks toks).length + 3 = g + need toks := ⟨(joinToks toks).length + 3 - need toks, by omega⟩
  have := fmt_toks ⟨fx.quoteReset, fx.sameQuote⟩ toks 0 false [] false g h
  simp only [fst0] at this
  rw [hg, this]
  simp

end TsVerif.C20
