import TsVerif.C20.Model
/-!
# C20 — the Rust `str` helpers of the model: `split_inclusive`, `trim_end_matches`, `trim`
-/
namespace TsVerif.C20

/-- `String.toList` of a literal as a character list, by the theorem `String.toList_ofList` (a literal is `String.ofList [..]`
for the kernel).  Evaluating `"…".toList` itself decodes UTF-8 bytes by index and is quadratic in the length of the literal:
the `decide +kernel` examples rewrite their long literals with this first (`rw [show x = _ from toList_lit (by rfl)]`). -/
theorem toList_lit {s : String} {l : List Char} (h : s = String.ofList l) : s.toList = l :=
  h ▸ String.toList_ofList

theorem splitIncl_snoc_ne_nil (a : Str) : splitIncl (a ++ ['\n']) ≠ [] := by
  induction a with
  | nil => simp [splitIncl]
  | cons c cs ih =>
    simp only [List.cons_append, splitIncl]
    split
    · simp
    · split <;> simp

theorem splitIncl_append (a b : Str) :
    splitIncl (a ++ '\n' :: b) = splitIncl (a ++ ['\n']) ++ splitIncl b := by
  induction a with
  | nil => simp [splitIncl]
  | cons c cs ih =>
    simp only [List.cons_append, splitIncl]
    split
    · simp [ih]
    · rw [ih]
      have hne := splitIncl_snoc_ne_nil cs
      cases h : splitIncl (cs ++ ['\n']) with
      | nil => exact absurd h hne
      | cons l ls => simp

theorem splitIncl_line (b : Str) (h : '\n' ∉ b) : splitIncl (b ++ ['\n']) = [b ++ ['\n']] := by
  induction b with
  | nil => simp [splitIncl]
  | cons c cs ih =>
    simp only [List.mem_cons, not_or] at h
    simp only [List.cons_append, splitIncl]
    have : (c == '\n') = false := by simpa using fun h' => h.1 h'.symm
    simp [this, ih h.2]

theorem splitIncl_line_cons (b rest : Str) (h : '\n' ∉ b) :
    splitIncl (b ++ '\n' :: rest) = (b ++ ['\n']) :: splitIncl rest := by
  rw [splitIncl_append, splitIncl_line b h]; rfl

theorem splitIncl_nl (x : Str) : splitIncl ('\n' :: x) = ['\n'] :: splitIncl x := by simp [splitIncl]

theorem splitIncl_flatten (s : Str) : (splitIncl s).flatten = s := by
  induction s with
  | nil => rfl
  | cons c cs ih =>
    unfold splitIncl
    split
    · next h => simp [ih, eq_of_beq h]
    · split
      · next h => rw [h] at ih; simp at ih; simp [← ih]
      · next l ls h => rw [h] at ih; simp at ih; simp [← ih]

theorem dropWhileEnd_cons (p : Char → Bool) (c : Char) (s : Str) :
    dropWhileEnd p (c :: s) = if (dropWhileEnd p s).isEmpty && p c then [] else c :: dropWhileEnd p s := rfl

theorem dropWhileEnd_eq (p : Char → Bool) (s : Str) : dropWhileEnd p s = (s.reverse.dropWhile p).reverse := by
  induction s with
  | nil => rfl
  | cons c s ih =>
    rw [dropWhileEnd_cons, ih, List.reverse_cons, List.dropWhile_append]
    cases h : s.reverse.dropWhile p <;> cases hc : p c <;> simp [List.dropWhile, hc]

theorem dropWhileEnd_append_ws (p : Char → Bool) (s ws : Str) (h : ∀ c ∈ ws, p c = true) :
    dropWhileEnd p (s ++ ws) = dropWhileEnd p s := by
  rw [dropWhileEnd_eq, dropWhileEnd_eq, List.reverse_append,
    List.dropWhile_append_of_pos fun a ha => h a (List.mem_reverse.mp ha)]

theorem dropWhileEnd_all (p : Char → Bool) (s : Str) (h : ∀ c ∈ s, p c = true) : dropWhileEnd p s = [] :=
  dropWhileEnd_append_ws p [] s h

theorem dropWhileEnd_snoc_true (p : Char → Bool) (s : Str) (x : Char) (hx : p x = true) :
    dropWhileEnd p (s ++ [x]) = dropWhileEnd p s :=
  dropWhileEnd_append_ws p s [x] (by simpa using hx)

theorem dropWhileEnd_append_keep (p : Char → Bool) (x y : Str) (h : dropWhileEnd p y ≠ []) :
    dropWhileEnd p (x ++ y) = x ++ dropWhileEnd p y := by
  rw [dropWhileEnd_eq] at h
  rw [dropWhileEnd_eq, dropWhileEnd_eq, List.reverse_append, List.dropWhile_append, if_neg (by simpa using h)]
  simp

theorem dropWhileEnd_snoc_false (p : Char → Bool) (x : Str) (c : Char) (h : p c = false) :
    dropWhileEnd p (x ++ [c]) = x ++ [c] := by
  have hc : dropWhileEnd p [c] = [c] := by simp [dropWhileEnd, h]
  rw [dropWhileEnd_append_keep p x [c] (by simp [hc]), hc]

theorem dropWhileEnd_all_not (p : Char → Bool) (s : Str) (h : ∀ c ∈ s, p c = false) : dropWhileEnd p s = s := by
  induction s with
  | nil => rfl
  | cons c cs ih =>
    rw [dropWhileEnd_cons, ih (fun x hx => h x (List.mem_cons_of_mem _ hx)), h c List.mem_cons_self, Bool.and_false]
    rfl

theorem dropWhileEnd_prefix_ws (p : Char → Bool) (s : Str) : ∃ t, s = dropWhileEnd p s ++ t ∧ ∀ c ∈ t, p c = true :=
  ⟨(s.reverse.takeWhile p).reverse, by
    rw [dropWhileEnd_eq, ← List.reverse_append, List.takeWhile_append_dropWhile, List.reverse_reverse],
    fun c hc => List.all_eq_true.mp List.all_takeWhile c (List.mem_reverse.mp hc)⟩

theorem all_of_dropWhileEnd_nil (p : Char → Bool) (s : Str) (h : dropWhileEnd p s = []) : ∀ c ∈ s, p c = true := by
  obtain ⟨t, ht, hw⟩ := dropWhileEnd_prefix_ws p s
  rw [h, List.nil_append] at ht
  exact ht ▸ hw

theorem dropWhileEnd_idem (p : Char → Bool) (s : Str) : dropWhileEnd p (dropWhileEnd p s) = dropWhileEnd p s := by
  obtain ⟨t, ht, hw⟩ := dropWhileEnd_prefix_ws p s
  conv => rhs; rw [ht]
  exact (dropWhileEnd_append_ws p _ t hw).symm

theorem dropWhile_all (p : Char → Bool) (l : Str) (h : ∀ c ∈ l, p c = true) : l.dropWhile p = [] := by
  simpa using List.dropWhile_append_of_pos (l₂ := []) h

theorem dropWhile_append_stop (p : Char → Bool) (x w : Str) (h : ¬ ∀ c ∈ x, p c = true) :
    (x ++ w).dropWhile p = x.dropWhile p ++ w := by
  induction x with
  | nil => exact absurd (by simp) h
  | cons a x ih =>
    by_cases ha : p a = true
    · have : ¬ ∀ c ∈ x, p c = true := fun hx => h fun c hc => (List.mem_cons.mp hc).elim (· ▸ ha) (hx c)
      simp [List.dropWhile, ha, ih this]
    · simp [List.dropWhile, ha]

theorem trim_all_ws (x : Str) (hx : ∀ c ∈ x, isWs c = true) : trim x = [] := by
  unfold trim trimStart trimEnd
  rw [dropWhile_all isWs x hx]; rfl

theorem trim_append_ws (x w : Str) (hw : ∀ c ∈ w, isWs c = true) : trim (x ++ w) = trim x := by
  by_cases hx : ∀ c ∈ x, isWs c = true
  · rw [trim_all_ws x hx, trim_all_ws _ fun c hc => (List.mem_append.mp hc).elim (hx c) (hw c)]
  · unfold trim trimStart trimEnd
    rw [dropWhile_append_stop isWs x w hx, dropWhileEnd_append_ws isWs _ w hw]

theorem trim_trimEnd_nl (l : Str) : trim (trimEnd l ++ ['\n']) = trim l := by
  obtain ⟨t, ht, hw⟩ := dropWhileEnd_prefix_ws isWs l
  rw [trim_append_ws _ ['\n'] (by simp +decide)]
  conv => rhs; rw [ht]
  exact (trim_append_ws _ t hw).symm

theorem trim_of_ends (x : Str) (a b : Char) (ha : isWs a = false) (hb : isWs b = false) :
    trim (a :: (x ++ [b])) = a :: (x ++ [b]) := by
  have h1 : trimStart (a :: (x ++ [b])) = a :: (x ++ [b]) := by simp [trimStart, List.dropWhile, ha]
  rw [trim, h1]
  exact dropWhileEnd_snoc_false isWs (a :: x) b hb

theorem trim_idem (x : Str) : trim (trim x) = trim x := by
  have hs : trimStart (trim x) = trim x := by
    unfold trim
    cases h : trimStart x with
    | nil => rfl
    | cons a t =>
      -- `trimStart x` begins with a character that is not white space, and `trimEnd` keeps it
      have ha : isWs a = false := by
        simpa [show x.dropWhile isWs = a :: t from h] using List.head?_dropWhile_not isWs x
      rw [trimEnd, dropWhileEnd_cons, ha, Bool.and_false]
      simp [trimStart, ha]
  rw [trim, hs]
  exact dropWhileEnd_idem isWs _

theorem trim_pad (w₁ x w₂ : Str) (h₁ : ∀ c ∈ w₁, isWs c = true) (h₂ : ∀ c ∈ w₂, isWs c = true) :
    trim (w₁ ++ (trim x ++ w₂)) = trim x := by
  have h : trim (w₁ ++ (trim x ++ w₂)) = trim (trim x ++ w₂) := by
    unfold trim trimStart; rw [List.dropWhile_append_of_pos h₁]
  rw [h, trim_append_ws _ _ h₂, trim_idem]

/-- The expectation section of a written `:cst` test trims back to the (trimmed) expectation. -/
theorem trim_section (x sepf : Str) (hsepf : sepf = [] ∨ sepf = ['\n']) :
    trim ('\n' :: (trim x ++ '\n' :: sepf)) = trim x :=
  trim_pad ['\n'] x ('\n' :: sepf) (by simp +decide) (by rcases hsepf with rfl | rfl <;> simp +decide)

theorem stripSuffix_snoc (b : Str) (x : Char) : stripSuffix [x] (b ++ [x]) = some b := by
  simp [stripSuffix, stripPrefix]

theorem stripSuffix_none_of_not_mem (l : Str) (x : Char) (h : x ∉ l) : stripSuffix [x] l = none := by
  unfold stripSuffix
  cases hr : l.reverse with
  | nil => simp [stripPrefix]
  | cons y ys =>
    have hy : y ∈ l := List.mem_reverse.mp (hr ▸ List.mem_cons_self)
    have hne : (x == y) = false := by simpa using fun hxy : x = y => h (hxy ▸ hy)
    simp [stripPrefix, hne]

theorem splitIncl_struct (s : Str) :
    ∃ init last, splitIncl s = init ++ last ∧ (∀ l ∈ init, ∃ b, l = b ++ ['\n'] ∧ '\n' ∉ b) ∧
      (last = [] ∨ ∃ l, last = [l] ∧ '\n' ∉ l ∧ l ≠ []) := by
  induction s with
  | nil => exact ⟨[], [], by simp [splitIncl], by simp, Or.inl rfl⟩
  | cons c cs ih =>
    obtain ⟨init, last, hsp, hinit, hlast⟩ := ih
    by_cases hc : c = '\n'
    · subst hc
      exact ⟨['\n'] :: init, last, by simp [splitIncl, hsp], List.forall_mem_cons.mpr ⟨⟨[], rfl, by simp⟩, hinit⟩, hlast⟩
    · have hc' : ¬ '\n' = c := fun h => hc h.symm
      have hbeq : (c == '\n') = false := by simpa using hc
      cases init with
      | cons i0 is =>
        obtain ⟨b, rfl, hnb⟩ := hinit i0 List.mem_cons_self
        exact ⟨(c :: (b ++ ['\n'])) :: is, last, by simp [splitIncl, hbeq, hsp],
          List.forall_mem_cons.mpr ⟨⟨c :: b, rfl, by simp [hc', hnb]⟩, fun l hl => hinit l (by simp [hl])⟩, hlast⟩
      | nil =>
        rcases hlast with rfl | ⟨l, rfl, hn, hne⟩
        · exact ⟨[], [[c]], by simp [splitIncl, hbeq, hsp], by simp, Or.inr ⟨[c], rfl, by simp [hc'], by simp⟩⟩
        · exact ⟨[], [c :: l], by simp [splitIncl, hbeq, hsp], by simp, Or.inr ⟨c :: l, rfl, by simp [hc', hn], by simp⟩⟩

theorem splitIncl_shape (s : Str) : ∀ l ∈ splitIncl s, (∃ b, l = b ++ ['\n'] ∧ '\n' ∉ b) ∨ ('\n' ∉ l ∧ l ≠ []) := by
  obtain ⟨init, last, hsp, hinit, hlast⟩ := splitIncl_struct s
  intro l hl
  rw [hsp] at hl
  rcases List.mem_append.mp hl with hl | hl
  · exact Or.inl (hinit l hl)
  · rcases hlast with rfl | ⟨l0, rfl, hn, hne⟩
    · cases hl
    · cases List.mem_singleton.mp hl
      exact Or.inr ⟨hn, hne⟩

theorem splitIncl_pre (w : Str) : ∀ pre : List Str, (∀ l ∈ pre, ∃ b, l = b ++ ['\n'] ∧ '\n' ∉ b) →
    splitIncl (pre.flatten ++ w) = pre ++ splitIncl w
  | [], _ => by simp
  | l :: p, h => by
    obtain ⟨b, hb, hnb⟩ := h l List.mem_cons_self
    subst hb
    simp only [List.flatten_cons, List.append_assoc, List.cons_append, List.nil_append]
    rw [splitIncl_line_cons b _ hnb, splitIncl_pre w p (fun x hx => h x (List.mem_cons_of_mem _ hx))]

theorem pre_complete (f : Str) (pre rest : List Str) (hs : splitIncl f = pre ++ rest) (hr : rest ≠ []) :
    ∀ l ∈ pre, ∃ b, l = b ++ ['\n'] ∧ '\n' ∉ b := by
  obtain ⟨init, last, hsp, hinit, hlast⟩ := splitIncl_struct f
  rcases List.append_eq_append_iff.mp (hs.symm.trans hsp) with ⟨a', rfl, _⟩ | ⟨c', rfl, hl⟩
  · exact fun l hl => hinit l (List.mem_append_left _ hl)
  · -- `last` has at most one element and ends with the non-empty `rest`: nothing of it is in `pre`
    obtain rfl : c' = [] := by
      rcases hlast with rfl | ⟨l, rfl, _⟩
      · exact (List.append_eq_nil_iff.mp hl.symm).1
      · cases c' with
        | nil => rfl
        | cons x xs => exact absurd (List.append_eq_nil_iff.mp (List.cons.inj hl).2.symm).2 hr
    rw [List.append_nil]
    exact hinit

end TsVerif.C20
