import TsVerif.C20.Header
/-!
# C20 — the reader applied to what the writer produced

The written text cut into the lines `hdrL`, `bodyL`, `tailLines`; on them `parse_header` reads the header back (`parseHeader_hdr`), the
divider search finds the written divider (`buildEntry_body`: a dash line in the input is at most as long, one in the expectation
shorter), and the scanning loop returns one entry per correction, each `Built` from it (`scan_tail`, `roundtrip_built`).
-/
namespace TsVerif.C20

theorem scan_noHeader (fs : Option Str) (os : Str) :
    ∀ (ls rest : List Str) (prev : Option Pending) (body : List Str) (acc : List Entry),
      (∀ l ∈ ls, isHeaderDelim fs l = false) →
      scan fs os (ls ++ rest) 0 prev body acc = scan fs os rest 0 prev (ls.reverse ++ body) acc
  | [], rest, prev, body, acc, _ => by simp
  | l :: ls, rest, prev, body, acc, h => by
    simp only [List.cons_append, scan, parseHeader_none_of_notHdr fs os l _ (h l List.mem_cons_self)]
    rw [scan_noHeader fs os ls rest prev (l :: body) acc (fun x hx => h x (List.mem_cons_of_mem _ hx))]
    simp

theorem divMismatch_of_noDelim (fs : Option Str) (l : Str) (h : NoDelim '-' l) : divMismatch fs l = true := by
  simp [divMismatch, parseDelimLine_noDelim h]

theorem dashBound_of_noDelim (fs : Option Str) (ok : Nat → Bool) (l : Str) (h : NoDelim '-' l) : dashBound fs ok l = true := by
  simp [dashBound, parseDelimLine_noDelim h]

theorem bestDivider_skip (fs : Option Str) :
    ∀ (ls rest : List Str) (j : Nat) (best : Option (Nat × Nat)) (bt : Nat),
      (∀ l ∈ ls, ∀ n s, parseDelimLine l '-' = some (n, s) → suffixMatches fs s = true → n + utf8Len s < bt) →
      bestDivider fs (ls ++ rest) j best bt = bestDivider fs rest (j + ls.length) best bt
  | [], rest, j, best, bt, _ => by simp
  | l :: ls, rest, j, best, bt, h => by
    have ih := bestDivider_skip fs ls rest (j + 1) best bt (fun x hx => h x (List.mem_cons_of_mem _ hx))
    have e : j + (l :: ls).length = j + 1 + ls.length := by simp; omega
    simp only [List.cons_append, bestDivider, e]
    cases hd : parseDelimLine l '-' with
    | none => exact ih
    | some ns =>
      by_cases hm : suffixMatches fs ns.2 = true
      · have : decide (ns.1 + utf8Len ns.2 ≥ bt) = false := by simpa using h l List.mem_cons_self ns.1 ns.2 hd hm
        simp only [hm, this, Bool.and_false, Bool.false_eq_true, ↓reduceIte]
        exact ih
      · simp only [hm, Bool.false_and, Bool.false_eq_true, ↓reduceIte]
        exact ih

theorem bestDivider_noDelim (fs : Option Str) :
    ∀ (ls rest : List Str) (j : Nat) (best : Option (Nat × Nat)) (bt : Nat),
      (∀ l ∈ ls, divMismatch fs l = true) →
      bestDivider fs (ls ++ rest) j best bt = bestDivider fs rest (j + ls.length) best bt :=
  fun ls rest j best bt h => bestDivider_skip fs ls rest j best bt fun l hl n s hd hm => by
    have := h l hl
    simp [divMismatch, hd, hm] at this

theorem bestDivider_noDelim_end (fs : Option Str) (ls : List Str) (j : Nat) (best : Option (Nat × Nat)) (bt : Nat)
    (h : ∀ l ∈ ls, divMismatch fs l = true) : bestDivider fs ls j best bt = best := by
  have := bestDivider_noDelim fs ls [] j best bt h
  simpa [bestDivider] using this

theorem Simple.toS {c : Correction} (h : Simple c) (suf : Str) : SimpleS suf c :=
  { hlen := h.hlen, dlen := h.dlen, name := h.name, attrs := h.attrs, inputCr := h.inputCr
    inputLines := fun l hl => ⟨isHeaderDelim_noDelim _ l (h.inputLines l hl).1,
      dashBound_of_noDelim _ _ l (h.inputLines l hl).2, fun _ => (h.inputLines l hl).1⟩
    outputLines := fun l hl => ⟨isHeaderDelim_noDelim _ l (h.outputLines l hl).1,
      dashBound_of_noDelim _ _ l (h.outputLines l hl).2, fun _ => (h.outputLines l hl).1⟩ }

theorem attrL_ne {a l : Str} {ls : List Str} (hl : splitIncl (a ++ ['\n']) = l :: ls) (hm : markerLine l = true) :
    attrL a = l :: ls := by
  cases a with
  | nil =>
    obtain ⟨rfl, _⟩ : ['\n'] = l ∧ _ := by simpa [splitIncl] using hl
    exact absurd hm (by decide)
  | cons _ _ => exact hl

theorem attrL_of_ne {a : Str} (h : a ≠ []) : attrL a = splitIncl (a ++ ['\n']) := by
  cases a with
  | nil => exact absurd rfl h
  | cons _ _ => rfl

theorem attrL_first {a : Str} (h : AttrsOK a) : ∀ l, (attrL a).head? = some l → markerLine l = true := by
  rcases h with rfl | ⟨⟨l, ls, hl, hm⟩, _⟩
  · intro l hl; cases hl
  · rw [attrL_ne hl hm]; intro l' hl'; cases hl'; exact hm

theorem attrL_sub (a : Str) : ∀ l ∈ attrL a, l ∈ splitIncl (a ++ ['\n']) := by
  intro l hl
  unfold attrL at hl
  split at hl
  · cases hl
  · exact hl

theorem attrL_noDelim {a : Str} (h : AttrsOK a) : ∀ l ∈ attrL a, NoDelim '=' l := by
  rcases h with rfl | ⟨_, hnd, _⟩
  · intro l hl; cases hl
  · exact fun l hl => hnd l (attrL_sub a l hl)

theorem trimEnd_attrL {a : Str} (h : AttrsOK a) : trimEnd (attrL a).flatten = a := by
  rcases h with rfl | ⟨⟨l, ls, hl, hm⟩, _, htrim⟩
  · rfl
  · rw [attrL_ne hl hm, ← hl, splitIncl_flatten, htrim]

theorem nameLines_flatten (c : Correction) : (nameLines c).flatten = c.name ++ ['\n'] := splitIncl_flatten _

theorem hdrL_append (suf : Str) (c : Correction) (rest : List Str) :
    hdrL suf c ++ rest = (rep '=' c.hlen ++ (suf ++ ['\n'])) ::
      (nameLines c ++ (attrL c.attrsStr ++ (rep '=' c.hlen ++ (suf ++ ['\n'])) :: rest)) := by
  simp [hdrL, attrLines_eq]

theorem hdrL_length (suf : Str) (c : Correction) :
    (hdrL suf c).length = (nameLines c).length + (attrL c.attrsStr).length + 2 := by
  simp [hdrL, attrLines_eq]; omega

theorem headerLoop_hdr (os suf : Str) (c : Correction) (rest : List Str) (h : SimpleS suf c) (hs : SufOK '=' suf) :
    ∃ st', headerLoop (fsOf suf) os (nameLines c ++ (attrLines c ++ (rep '=' c.hlen ++ (suf ++ ['\n'])) :: rest)) {} 0 =
        some (st', (nameLines c).length + (attrLines c).length + 1) ∧
      st'.testName = c.name ++ ['\n'] ∧
      ((∀ x ∈ splitIncl (c.attrsStr ++ ['\n']), noCstLine x) → st'.cst = false) ∧
      attrsOfState st' = flagsOf os c.name c.attrsStr := by
  obtain ⟨st', hloop, htn, hcst, hfl⟩ := headerLoop_block (fsOf suf) os (nameLines c) (attrL c.attrsStr) _ rest h.name.lines
    (attrL_noDelim h.attrs) (attrL_first h.attrs) (isHeaderDelim_rep suf c.hlen h.hlen hs)
  rw [nameLines_flatten] at htn hfl
  exact ⟨st', hloop, htn, fun hc => hcst fun l hl => hc l (attrL_sub _ l hl), hfl ▸ rfl⟩

theorem parseHeader_hdr (os suf : Str) (c : Correction) (rest : List Str) (h : SimpleS suf c) (hs : SufOK '=' suf) :
    ∃ p, parseHeader (fsOf suf) os (hdrL suf c ++ rest) = some (p, (hdrL suf c).length) ∧ PendOf os p c := by
  obtain ⟨p, hp, h1, h2, h3, h4, h5⟩ := parseHeader_block (fsOf suf) os _ (nameLines c) (attrL c.attrsStr) _ rest
    (parseDelimLine_rep '=' c.hlen suf h.hlen (by decide) hs) (suffixMatches_fsOf suf) h.name.lines
    (attrL_noDelim h.attrs) (attrL_first h.attrs) (isHeaderDelim_rep suf c.hlen h.hlen hs)
  rw [nameLines_flatten] at h1 h5
  refine ⟨p, ?_, h1.trans h.name.trimmed, h2.trans (trimEnd_attrL h.attrs), h3,
    fun hc => h4 fun l hl => hc l (attrL_sub _ l hl), h5⟩
  rw [hdrL_append, hdrL_length, hp]

theorem suffixMatches_fsOf_eq (suf s : Str) (h : suffixMatches (fsOf suf) s = true) : s = suf := by
  cases suf <;> cases s <;> simp_all [fsOf, suffixMatches]

theorem bestDivider_le (suf : Str) (d : Nat) :
    ∀ (ls rest : List Str) (j : Nat) (best : Option (Nat × Nat)) (bt : Nat), bt ≤ d + utf8Len suf →
      (∀ l ∈ ls, dashBound (fsOf suf) (fun n => decide (n ≤ d)) l = true) →
      ∃ best' bt', bt' ≤ d + utf8Len suf ∧
        bestDivider (fsOf suf) (ls ++ rest) j best bt = bestDivider (fsOf suf) rest (j + ls.length) best' bt'
  | [], rest, j, best, bt, hb, _ => ⟨best, bt, hb, by simp⟩
  | l :: ls, rest, j, best, bt, hb, h => by
    have hl := h l List.mem_cons_self
    have ih := fun best bt hb => bestDivider_le suf d ls rest (j + 1) best bt hb fun x hx => h x (List.mem_cons_of_mem _ hx)
    simp only [List.cons_append, bestDivider]
    have e : j + (l :: ls).length = j + 1 + ls.length := by simp; omega
    rw [e]
    cases hd : parseDelimLine l '-' with
    | none => exact ih best bt hb
    | some ns =>
      obtain ⟨n, sfx⟩ := ns
      simp only
      by_cases hc : (suffixMatches (fsOf suf) sfx && decide (n + utf8Len sfx ≥ bt)) = true
      · simp only [hc, ↓reduceIte]
        simp only [Bool.and_eq_true] at hc
        have hs := suffixMatches_fsOf_eq suf sfx hc.1
        have hn : n ≤ d := by
          unfold dashBound at hl
          simp only [hd, hc.1, Bool.not_true, Bool.false_or, decide_eq_true_eq] at hl
          exact hl
        exact ih _ _ (by rw [hs]; omega)
      · simp only [hc, Bool.false_eq_true, ↓reduceIte]
        exact ih best bt hb

theorem bestDivider_lt_end (suf : Str) (d : Nat) :
    ∀ (ls : List Str) (j : Nat) (x : Nat × Nat),
      (∀ l ∈ ls, dashBound (fsOf suf) (fun n => decide (n < d)) l = true) →
      bestDivider (fsOf suf) ls j (some x) (d + utf8Len suf) = some x := by
  intro ls j x h
  have := bestDivider_skip (fsOf suf) ls [] j (some x) (d + utf8Len suf) fun l hl n s hd hm => by
    have hl := h l hl
    simp only [dashBound, hd, hm, Bool.not_true, Bool.false_or, decide_eq_true_eq] at hl
    rw [suffixMatches_fsOf_eq suf s hm]
    omega
  simpa [bestDivider] using this

/-- `build_test_entry` on the body lines of a written test followed by `sep` (the blank line in front of the next test, or
nothing): the divider found is the written one. -/
theorem buildEntry_body (suf : Str) (c : Correction) (sep : List Str) (p : Pending)
    (h : SimpleS suf c) (hs : SufOK '-' suf) (hsep : ∀ l ∈ sep, parseDelimLine l '-' = none) :
    ∃ e, buildEntry (fsOf suf) (bodyL suf c ++ sep) p = some e ∧
      e.name = p.name ∧ e.attrsStr = p.attrsStr ∧ e.input = c.input ∧ e.hlen = p.hlen ∧ e.dlen = c.dlen ∧
      e.attrs = p.attrs ∧
      (p.attrs.cst = false → e.output = normalizeSexp ('\n' :: (trim c.output ++ '\n' :: sep.flatten)) ∧
        e.hasFields = hasFieldsOf e.output) ∧
      (p.attrs.cst = true → e.output = trim ('\n' :: (trim c.output ++ '\n' :: sep.flatten)) ∧ e.hasFields = false) := by
  have hin : ∀ l ∈ splitIncl (c.input ++ ['\n']), dashBound (fsOf suf) (fun n => decide (n ≤ c.dlen)) l = true :=
    fun l hl => (h.inputLines l hl).2.1
  have hrest : ∀ l ∈ splitIncl (trim c.output ++ ['\n']) ++ sep, dashBound (fsOf suf) (fun n => decide (n < c.dlen)) l = true := by
    intro l hl
    simp only [List.mem_append] at hl
    rcases hl with hl | hl
    · exact (h.outputLines l hl).2.1
    · simp [dashBound, hsep l hl]
  have hnl : parseDelimLine ['\n'] '-' = none := parseDelimLine_noDelim (noDelim_nl '-' (by decide))
  have hbest : bestDivider (fsOf suf) (bodyL suf c ++ sep) 0 none 0 =
      some (c.dlen, (splitIncl (c.input ++ ['\n'])).length) := by
    simp only [bodyL, List.append_assoc, List.cons_append]
    obtain ⟨best', bt', hbt, hstep⟩ := bestDivider_le suf c.dlen (splitIncl (c.input ++ ['\n']))
      ((rep '-' c.dlen ++ (suf ++ ['\n'])) :: ['\n'] :: (splitIncl (trim c.output ++ ['\n']) ++ sep)) 0 none 0
      (Nat.zero_le _) hin
    rw [hstep]
    have hge : decide (c.dlen + utf8Len suf ≥ bt') = true := by simpa using hbt
    simp only [bestDivider, parseDelimLine_rep '-' c.dlen suf h.dlen (by decide) hs, suffixMatches_fsOf,
      Bool.true_and, hge, ↓reduceIte, Nat.zero_add, hnl]
    exact bestDivider_lt_end suf c.dlen _ _ _ hrest
  refine ⟨_, by simp only [buildEntry, hbest]; rfl, rfl, rfl, ?_, rfl, rfl, rfl, ?_, ?_⟩
  · simp only [bodyL, List.append_assoc]
    rw [List.take_left' rfl, splitIncl_flatten]
    exact h.inputCr
  · intro hcst
    simp only [hcst, Bool.false_eq_true, ↓reduceIte, bodyL, List.append_assoc, List.cons_append]
    rw [List.drop_length_add_append]
    simp [splitIncl_flatten]
  · intro hcst
    simp only [hcst, ↓reduceIte, bodyL, List.append_assoc, List.cons_append]
    rw [List.drop_length_add_append]
    simp [splitIncl_flatten]

theorem splitIncl_rep (c : Char) (n : Nat) (suf rest : Str) (hc : c ≠ '\n') (hs : ∀ x ∈ suf, x ≠ '\r' ∧ x ≠ '\n') :
    splitIncl (rep c n ++ (suf ++ '\n' :: rest)) = (rep c n ++ (suf ++ ['\n'])) :: splitIncl rest := by
  have hn : '\n' ∉ rep c n ++ suf := by
    simp only [rep, List.mem_append, List.mem_replicate, not_or, not_and]
    exact ⟨fun _ h => hc h.symm, fun h => (hs _ h).2 rfl⟩
  simpa [List.append_assoc] using splitIncl_line_cons (rep c n ++ suf) rest hn

theorem splitIncl_attrL (a rest : Str) :
    splitIncl ((if a.isEmpty then [] else a ++ ['\n']) ++ rest) = attrL a ++ splitIncl rest := by
  cases a with
  | nil => rfl
  | cons x a => simpa [attrL] using splitIncl_append (x :: a) rest

theorem splitIncl_writeOne (suf : Str) (c : Correction) (rest : Str) (hs : ∀ x ∈ suf, x ≠ '\r' ∧ x ≠ '\n') :
    splitIncl (writeOne suf c ++ rest) = hdrL suf c ++ (bodyL suf c ++ splitIncl rest) := by
  have e : writeOne suf c ++ rest = rep '=' c.hlen ++ (suf ++ '\n' :: (c.name ++ '\n' ::
      ((if c.attrsStr.isEmpty then [] else c.attrsStr ++ ['\n']) ++ (rep '=' c.hlen ++ (suf ++ '\n' ::
        (c.input ++ '\n' :: (rep '-' c.dlen ++ (suf ++ '\n' :: '\n' :: (trim c.output ++ '\n' :: rest))))))))) := by
    simp [writeOne]
  rw [e, splitIncl_rep _ _ _ _ (by decide) hs, splitIncl_append c.name, splitIncl_attrL,
    splitIncl_rep _ _ _ _ (by decide) hs, splitIncl_append c.input, splitIncl_rep _ _ _ _ (by decide) hs, splitIncl_nl,
    splitIncl_append (trim c.output)]
  simp [hdrL, bodyL, nameLines, attrLines, attrL]

theorem splitIncl_tail (suf : Str) (hs : ∀ x ∈ suf, x ≠ '\r' ∧ x ≠ '\n') :
    ∀ cs : List Correction, splitIncl (cs.map fun c => '\n' :: writeOne suf c).flatten = tailLines suf cs
  | [] => rfl
  | c :: cs => by
    simp only [List.map_cons, List.flatten_cons, List.cons_append, tailLines]
    rw [splitIncl_nl, splitIncl_writeOne suf c _ hs, splitIncl_tail suf hs cs]
    simp [tailLines]

theorem splitIncl_writeTests (suf : Str) (hs : ∀ x ∈ suf, x ≠ '\r' ∧ x ≠ '\n') (c : Correction) (cs : List Correction)
    (h : ∀ x ∈ c :: cs, SimpleS suf x) :
    splitIncl (writeTests suf (c :: cs)) = hdrL suf c ++ (bodyL suf c ++ tailLines suf cs) := by
  rw [writeTests, splitIncl_writeOne suf c _ hs, splitIncl_tail suf hs cs]

theorem noDelim_dashes (n : Nat) (x : Str) (hn : 3 ≤ n) : NoDelim '=' (rep '-' n ++ x) := by
  obtain ⟨k, rfl⟩ : ∃ k, n = k + 1 := ⟨n - 1, by omega⟩
  exact noDelim_of_head (by simp [rep, List.replicate_succ])

theorem bodyL_noHeader (suf : Str) (c : Correction) (h : SimpleS suf c) :
    ∀ l ∈ bodyL suf c, isHeaderDelim (fsOf suf) l = false := by
  intro l hl
  simp only [bodyL, List.mem_append, List.mem_cons] at hl
  rcases hl with hl | rfl | rfl | hl
  · exact (h.inputLines l hl).1
  · exact isHeaderDelim_noDelim _ _ (noDelim_dashes _ _ h.dlen)
  · exact isHeaderDelim_noDelim _ _ (noDelim_nl '=' (by decide))
  · exact (h.outputLines l hl).1

theorem bodyL_noDelim_nil (c : Correction) (h : SimpleS [] c) : ∀ l ∈ bodyL [] c, NoDelim '=' l := by
  intro l hl
  simp only [bodyL, List.mem_append, List.mem_cons] at hl
  rcases hl with hl | rfl | rfl | hl
  · exact (h.inputLines l hl).2.2 rfl
  · exact noDelim_dashes _ _ h.dlen
  · exact noDelim_nl '=' (by decide)
  · exact (h.outputLines l hl).2.2 rfl

theorem scan_skip (fs : Option Str) (os : Str) :
    ∀ (xs rest : List Str) (prev : Option Pending) (body : List Str) (acc : List Entry),
      scan fs os (xs ++ rest) xs.length prev body acc = scan fs os rest 0 prev body acc
  | [], _, _, _, _ => by simp
  | x :: xs, rest, prev, body, acc => by
    simp only [List.cons_append, List.length_cons, scan]
    exact scan_skip fs os xs rest prev body acc

theorem scan_header (fs : Option Str) (os : Str) (l : Str) (xs rest : List Str) (p : Pending)
    (h : parseHeader fs os (l :: xs ++ rest) = some (p, (l :: xs).length)) (prev : Option Pending) (body : List Str)
    (acc : List Entry) :
    scan fs os (l :: xs ++ rest) 0 prev body acc = scan fs os rest 0 (some p) [] (acc ++ finishPrev fs prev body) := by
  simp only [List.cons_append] at h ⊢
  simp only [scan, h, List.length_cons, Nat.add_sub_cancel]
  exact scan_skip _ _ _ _ _ _ _

theorem scan_hdr (os suf : Str) (hse : SufOK '=' suf) (c : Correction) (hc : SimpleS suf c) (rest : List Str)
    (prev : Option Pending) (body : List Str) (acc : List Entry) :
    ∃ p, PendOf os p c ∧ scan (fsOf suf) os (hdrL suf c ++ rest) 0 prev body acc =
      scan (fsOf suf) os rest 0 (some p) [] (acc ++ finishPrev (fsOf suf) prev body) := by
  obtain ⟨p, hp, hpo⟩ := parseHeader_hdr os suf c rest hc hse
  exact ⟨p, hpo, scan_header _ os _ _ rest p hp prev body acc⟩

theorem finishPrev_built (os suf : Str) (c : Correction) (sep : List Str) (p : Pending) (h : SimpleS suf c)
    (hs : SufOK '-' suf) (hp : PendOf os p c) (hsep : sep = [] ∨ sep = [['\n']]) :
    ∃ e, finishPrev (fsOf suf) (some p) (sep.reverse ++ (bodyL suf c).reverse) = [e] ∧ Built os e c := by
  obtain ⟨e, he, h1, h2, h3, h4, h5, h7, h6, h8⟩ := buildEntry_body suf c sep p h hs
    (by rcases hsep with rfl | rfl <;> simp [parseDelimLine_noDelim (noDelim_nl '-' (by decide))])
  refine ⟨e, by simp [finishPrev, he], ?_, h7.trans hp.2.2.2.2, fun hc => h7 ▸ hp.2.2.2.1 hc, sep.flatten,
    by rcases hsep with rfl | rfl <;> simp, fun hc => ?_, fun hc => ?_⟩
  · obtain ⟨a, b, c', _⟩ := hp
    simp [Entry.dkey, Correction.dkey, h1, h2, h3, h4, h5, a, b, c']
  · have h6' := h6 (h7 ▸ hc); exact ⟨by simpa [outSection] using h6'.1, h6'.2⟩
  · have h8' := h8 (h7 ▸ hc); exact ⟨by simpa [outSection] using h8'.1, h8'.2⟩

/-- The blank line between two written tests becomes the last body line of the first (`sep = [['\n']]`); after the last
test there is none. -/
theorem scan_tail (os suf : Str) (hse : SufOK '=' suf) (hsd : SufOK '-' suf) :
    ∀ (cs : List Correction) (c0 : Correction) (p0 : Pending) (acc : List Entry), SimpleS suf c0 → PendOf os p0 c0 →
      (∀ c ∈ cs, SimpleS suf c) →
      ∃ new, scan (fsOf suf) os (tailLines suf cs) 0 (some p0) (bodyL suf c0).reverse acc = acc ++ new ∧
        All2 (Built os) new (c0 :: cs)
  | [], c0, p0, acc, h0, hp0, _ => by
    obtain ⟨e, he, hb⟩ := finishPrev_built os suf c0 [] p0 h0 hsd hp0 (Or.inl rfl)
    exact ⟨[e], by simpa [tailLines, scan] using he, All2.cons hb All2.nil⟩
  | c :: cs, c0, p0, acc, h0, hp0, h => by
    have hc := h c List.mem_cons_self
    obtain ⟨e, he, hb⟩ := finishPrev_built os suf c0 [['\n']] p0 h0 hsd hp0 (Or.inr rfl)
    have e1 : tailLines suf (c :: cs) = ['\n'] :: (hdrL suf c ++ (bodyL suf c ++ tailLines suf cs)) := by
      simp [tailLines]
    rw [e1, scan, parseHeader_none_of_notHdr _ _ _ _ (isHeaderDelim_noDelim _ _ (noDelim_nl '=' (by decide)))]
    obtain ⟨p, hpc, hstep⟩ := scan_hdr os suf hse c hc (bodyL suf c ++ tailLines suf cs) (some p0)
      (['\n'] :: (bodyL suf c0).reverse) acc
    rw [hstep, show finishPrev (fsOf suf) (some p0) (['\n'] :: (bodyL suf c0).reverse) = [e] from he,
      scan_noHeader _ _ _ _ _ _ _ (bodyL_noHeader suf c hc)]
    obtain ⟨new, hnew, hf2⟩ := scan_tail os suf hse hsd cs c p (acc ++ [e]) hc hpc (fun x hx => h x (List.mem_cons_of_mem _ hx))
    exact ⟨e :: new, by simpa using hnew, All2.cons hb hf2⟩

theorem firstSuffix_none_of (ls : List Str)
    (h : ∀ l ∈ ls, ∀ n s, parseDelimLine l '=' = some (n, s) → s = []) : firstSuffix ls = none := by
  induction ls with
  | nil => rfl
  | cons l ls ih =>
    have ih' := ih (fun x hx => h x (List.mem_cons_of_mem _ hx))
    unfold firstSuffix
    split
    · next n s hp => simpa [h l List.mem_cons_self n s hp] using ih'
    · exact ih'

theorem noSuf_of_noDelim {l : Str} (h : NoDelim '=' l) {n : Nat} {s : Str} (hp : parseDelimLine l '=' = some (n, s)) :
    s = [] := by
  rw [parseDelimLine_noDelim h] at hp
  cases hp

theorem firstSuffix_written (suf : Str) (hse : SufOK '=' suf) (c : Correction) (cs : List Correction)
    (h : ∀ x ∈ c :: cs, SimpleS suf x) :
    firstSuffix (hdrL suf c ++ (bodyL suf c ++ tailLines suf cs)) = fsOf suf := by
  by_cases hsuf : suf = []
  case neg =>
    have hd := parseDelimLine_rep '=' c.hlen suf (h c List.mem_cons_self).hlen (by decide) hse
    have : suf.isEmpty = false := by simpa using hsuf
    simp [hdrL, firstSuffix, hd, fsOf, this]
  case pos =>
    -- without suffix: the header delimiters carry none, and no other line of a test starts with `===`
    subst hsuf
    refine firstSuffix_none_of _ ?_
    have key : ∀ (c : Correction), SimpleS [] c → ∀ l ∈ hdrL [] c ++ bodyL [] c,
        ∀ n s, parseDelimLine l '=' = some (n, s) → s = [] := by
      intro c hc l hl n s hp
      have hdel : l = rep '=' c.hlen ++ ([] ++ ['\n']) → s = [] := fun hl => by
        rw [hl, parseDelimLine_rep '=' c.hlen [] hc.hlen (by decide) hse] at hp
        cases hp; rfl
      simp only [hdrL, List.mem_append, List.mem_cons, List.not_mem_nil, or_false] at hl
      rcases hl with (hl | hl | hl | hl) | hl
      · exact hdel hl
      · exact noSuf_of_noDelim (hc.name.lines l hl).1 hp
      · exact noSuf_of_noDelim (attrL_noDelim hc.attrs l hl) hp
      · exact hdel hl
      · exact noSuf_of_noDelim (bodyL_noDelim_nil c hc l (by simpa [bodyL] using hl)) hp
    intro l hl n s hp
    rw [← List.append_assoc] at hl
    rcases List.mem_append.mp hl with hl | hl
    · exact key c (h c List.mem_cons_self) l hl n s hp
    · simp only [tailLines, List.mem_flatten, List.mem_map] at hl
      obtain ⟨grp, ⟨c', hc', rfl⟩, hl⟩ := hl
      rcases List.mem_cons.mp hl with rfl | hl
      · exact noSuf_of_noDelim (noDelim_nl '=' (by decide)) hp
      · exact key c' (h c' (by simp [hc'])) l hl n s hp

theorem scan_written (os suf : Str) (hse : SufOK '=' suf) (hsd : SufOK '-' suf) (c : Correction) (cs : List Correction)
    (h : ∀ x ∈ c :: cs, SimpleS suf x) (body : List Str) :
    All2 (Built os) (scan (fsOf suf) os (hdrL suf c ++ (bodyL suf c ++ tailLines suf cs)) 0 none body []) (c :: cs) := by
  have hc := h c List.mem_cons_self
  obtain ⟨p, hpc, hstep⟩ := scan_hdr os suf hse c hc (bodyL suf c ++ tailLines suf cs) none body []
  rw [hstep, scan_noHeader _ _ _ _ _ _ _ (bodyL_noHeader suf c hc)]
  obtain ⟨new, hnew, hf2⟩ := scan_tail os suf hse hsd cs c p [] hc hpc (fun x hx => h x (List.mem_cons_of_mem _ hx))
  simp only [finishPrev, List.append_nil, List.nil_append] at hnew ⊢
  rw [hnew]
  exact hf2

/-- `parse_write_roundtrip` for `SimpleS` corrections, relational form: the reader applied to the written
file returns exactly one entry per correction, in order, each `Built` from its correction. -/
theorem roundtrip_built (os suf : Str) (hse : SufOK '=' suf) (hsd : SufOK '-' suf) (cs : List Correction)
    (h : ∀ c ∈ cs, SimpleS suf c) :
    All2 (Built os) (parseFile os (writeTests suf cs)) cs := by
  cases cs with
  | nil =>
    have : parseFile os (writeTests suf []) = [] := by
      simp [parseFile, writeTests, splitIncl, scan, finishPrev, firstSuffix]
    rw [this]; exact All2.nil
  | cons c cs =>
    unfold parseFile
    simp only [splitIncl_writeTests suf hse.2 c cs h, firstSuffix_written suf hse c cs h]
    exact scan_written os suf hse hsd c cs h []

theorem forall2_map_dkey {os : Str} {es : List Entry} {cs : List Correction} (h : All2 (Built os) es cs) :
    es.map Entry.dkey = cs.map Correction.dkey :=
  (h.imp_mem fun _ _ _ _ hb => hb.1).map_eq

/-- `parse_write_roundtrip` for `SimpleS` corrections: the reader applied to the written file returns,
in order, one entry per correction with the same name, attribute text, input and delimiter lengths — for
every list of corrections, every delimiter lengths ≥ 3 and every admissible suffix. -/
theorem roundtrip_simple (os suf : Str) (hse : SufOK '=' suf) (hsd : SufOK '-' suf) (cs : List Correction)
    (h : ∀ c ∈ cs, SimpleS suf c) :
    (parseFile os (writeTests suf cs)).map Entry.dkey = cs.map Correction.dkey :=
  forall2_map_dkey (roundtrip_built os suf hse hsd cs h)

end TsVerif.C20

