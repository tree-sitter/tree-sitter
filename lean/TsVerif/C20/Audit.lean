import TsVerif.C20.Props
import TsVerif.C20.Flags
#print axioms TsVerif.C20.splitIncl_flatten
#print axioms TsVerif.C20.updateLangs_spec
#print axioms TsVerif.C20.updateEntry_spec
#print axioms TsVerif.C20.updateEntries_keys
#print axioms TsVerif.C20.updateEntries_keys_fixed
#print axioms TsVerif.C20.update_preserves_partial
#print axioms TsVerif.C20.parse_write_roundtrip_partial
#print axioms TsVerif.C20.update_preserves_simple
#print axioms TsVerif.C20.format_normalize_spec
#print axioms TsVerif.C20.format_tokens_spec
#print axioms TsVerif.C20.normalize_pretty
#print axioms TsVerif.C20.normalize_charwise
#print axioms TsVerif.C20.normalize_section
#print axioms TsVerif.C20.roundtrip_built
#print axioms TsVerif.C20.updateEntries_all2
#print axioms TsVerif.C20.update_passes_partial
#print axioms TsVerif.C20.updateEntriesF_true
#print axioms TsVerif.C20.updateEntriesF_all2
#print axioms TsVerif.C20.filtered_update_reformats_cst
#print axioms TsVerif.C20.readback
#print axioms TsVerif.C20.updateLang_second
#print axioms TsVerif.C20.updateEntry_second
#print axioms TsVerif.C20.updateEntries_all2_fixed
#print axioms TsVerif.C20.update_idempotent_partial
#print axioms TsVerif.C20.trim_section
#print axioms TsVerif.C20.readbackG
#print axioms TsVerif.C20.updateEntry_secondG
#print axioms TsVerif.C20.first_round
#print axioms TsVerif.C20.update_idempotent_general
#print axioms TsVerif.C20.update_idempotent_unfiltered
#print axioms TsVerif.C20.update_preserves_general
#print axioms TsVerif.C20.update_passes_general
#print axioms TsVerif.C20.roundtrip_suffixed
#print axioms TsVerif.C20.roundtrip_fails_equals_line_unsuffixed
#print axioms TsVerif.C20.roundtrip_fails_own_suffix_in_input
#print axioms TsVerif.C20.bestDivider_le
#print axioms TsVerif.C20.bestDivider_lt_end
#print axioms TsVerif.C20.roundtrip_fails_equal_dash_in_output
#print axioms TsVerif.C20.idempotent_fails_two_toplevel_expectation
#print axioms TsVerif.C20.roundtrip_fails_delimiter_in_input
#print axioms TsVerif.C20.format_sexp_quote_state
#print axioms TsVerif.C20.headerLine_flags
#print axioms TsVerif.C20.foldHeader_flags
#print axioms TsVerif.C20.parseHeader_canonical_partial
#print axioms TsVerif.C20.roundtrip_flags_partial
#print axioms TsVerif.C20.roundtrip_flags_of_headers_partial
#print axioms TsVerif.C20.written_canonical
#print axioms TsVerif.C20.trimEnd_lines
#print axioms TsVerif.C20.foldHeader_trimLast
#print axioms TsVerif.C20.parseHeader_canonical_ws_partial
#print axioms TsVerif.C20.roundtrip_flags_of_headers_ws_partial
