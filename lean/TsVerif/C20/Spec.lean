import TsVerif.C20.Model
/-!
# C20 — what the theorems are stated with

The hypotheses a user of the theorems has to read (`SufOK`, `NameOK`, `AttrsOK`, `BodyLineOK`, `SimpleS`, `Simple`), what their conclusions
say (`flagsOf`, `Built`, `dkey`), and the proof-side descriptions of a written file as lines (`hdrL`, `bodyL`, `tailLines`, `PendOf`).
No lemma about the reader is needed to state any of them, so the judge and the driver can use them.
-/
namespace TsVerif.C20

/-- What the suffix of a written delimiter line must look like to be read back: it does not begin with the delimiter
character (`---` followed by the suffix `-x` reads as four dashes and the suffix `x`) and holds no line end. -/
def SufOK (c : Char) (suf : Str) : Prop :=
  suf.head? ≠ some c ∧ ∀ x ∈ suf, x ≠ '\r' ∧ x ≠ '\n'

instance (c : Char) (suf : Str) : Decidable (SufOK c suf) := by unfold SufOK; infer_instance

/-- Fewer than three leading `c`: `parse_delimiter_line` rejects the line. -/
def NoDelim (c : Char) (l : Str) : Prop := (l.takeWhile (· == c)).length < 3

instance (c : Char) (l : Str) : Decidable (NoDelim c l) := by unfold NoDelim; infer_instance

def divMismatch (fs : Option Str) (l : Str) : Bool :=
  match parseDelimLine l '-' with
  | some (_, s) => !suffixMatches fs s
  | none => true

/-- A `---` line is harmless for a test whose divider has `d` dashes if it does not carry the file's suffix, or
if its number of dashes satisfies `ok` (`≤ d` before the divider — the divider is at least as long and later —,
`< d` after it). -/
def dashBound (fs : Option Str) (ok : Nat → Bool) (l : Str) : Bool :=
  match parseDelimLine l '-' with
  | some (n, s) => !suffixMatches fs s || ok n
  | none => true

def kwds : List Str :=
  [kwSkip, kwPlatform, kwFailFast, kwError, kwLanguage, kwCst]

/-- A line that `parse_header` takes as part of the test name. -/
def NameLineOK (l : Str) : Prop :=
  NoDelim '=' l ∧ trim l ≠ [] ∧ (trim l).takeWhile (· != '(') ∉ kwds

instance (l : Str) : Decidable (NameLineOK l) := by unfold NameLineOK; infer_instance

/-- A name (one or several lines) that `parse_header` reads back unchanged. -/
structure NameOK (name : Str) : Prop where
  lines : ∀ l ∈ splitIncl (name ++ ['\n']), NameLineOK l
  trimmed : trimEnd (name ++ ['\n']) = name

/-- A line that `parse_header` recognises as an attribute: `:skip`, `:fail-fast`, `:error`, `:cst` (with
anything after a `(`), `:platform(..)`, `:language(..)`. -/
def markerLine (l : Str) : Bool :=
  let t := trim l
  let head := t.takeWhile (· != '(')
  !t.isEmpty && (head == kwSkip || head == kwFailFast || head == kwError || head == kwCst ||
    (head == kwPlatform && (markerArg nmPlatform t).isSome) ||
    (head == kwLanguage && (markerArg nmLanguage t).isSome))

/-- Attribute text the round trip is proved for: none, or lines of which the first is a recognised
attribute, none looks like a `===` line, and the text has no trailing white space. -/
def AttrsOK (a : Str) : Prop :=
  a = [] ∨ ((∃ l ls, splitIncl (a ++ ['\n']) = l :: ls ∧ markerLine l = true) ∧
            (∀ l ∈ splitIncl (a ++ ['\n']), NoDelim '=' l) ∧ trimEnd (a ++ ['\n']) = a)

/-- The file's suffix as the reader discovers it. -/
def fsOf (suf : Str) : Option Str := if suf.isEmpty then none else some suf

/-- A line of an input or expectation that cannot be mistaken for a delimiter of THIS file: not a `===`
line with the file's suffix, not a `---` line with the file's suffix, and — in a file without suffix —
no `===` line at all (a `===` line followed by text would become the file's suffix). -/
def BodyLineOK (suf : Str) (ok : Nat → Bool) (l : Str) : Prop :=
  isHeaderDelim (fsOf suf) l = false ∧ dashBound (fsOf suf) ok l = true ∧ (suf = [] → NoDelim '=' l)

instance (suf : Str) (ok : Nat → Bool) (l : Str) : Decidable (BodyLineOK suf ok l) := by unfold BodyLineOK; infer_instance

/-- The corrections for which the round trip is proved, relative to the file's suffix: delimiters of
length ≥ 3, a name of one or several lines (none blank / a marker / `===…`), attribute text as in
`AttrsOK`, every line of the input and of the (trimmed) expectation `BodyLineOK` — in particular a `---` line
carrying the file's suffix may occur in the input if it is not longer than the divider, and in the expectation if
it is shorter —; the input does not end in a carriage return (the reader pops the `\n` and then one `\r`). -/
structure SimpleS (suf : Str) (c : Correction) : Prop where
  hlen : 3 ≤ c.hlen
  dlen : 3 ≤ c.dlen
  name : NameOK c.name
  attrs : AttrsOK c.attrsStr
  inputLines : ∀ l ∈ splitIncl (c.input ++ ['\n']), BodyLineOK suf (fun n => decide (n ≤ c.dlen)) l
  inputCr : popNewline (c.input ++ ['\n']) = c.input
  outputLines : ∀ l ∈ splitIncl (trim c.output ++ ['\n']), BodyLineOK suf (fun n => decide (n < c.dlen)) l

/-- The suffix-independent (stronger) form: no line of the input or expectation starts with `===` or `---`. -/
structure Simple (c : Correction) : Prop where
  hlen : 3 ≤ c.hlen
  dlen : 3 ≤ c.dlen
  name : NameOK c.name
  attrs : AttrsOK c.attrsStr
  inputLines : ∀ l ∈ splitIncl (c.input ++ ['\n']), NoDelim '=' l ∧ NoDelim '-' l
  inputCr : popNewline (c.input ++ ['\n']) = c.input
  outputLines : ∀ l ∈ splitIncl (trim c.output ++ ['\n']), NoDelim '=' l ∧ NoDelim '-' l

/-- The attribute lines of an attribute text: what the writer puts between the name and the closing line, and what `flagsOf`
folds over. -/
def attrL (a : Str) : List Str := if a.isEmpty then [] else splitIncl (a ++ ['\n'])

def attrLines (c : Correction) : List Str :=
  if c.attrsStr.isEmpty then [] else splitIncl (c.attrsStr ++ ['\n'])

def nameLines (c : Correction) : List Str := splitIncl (c.name ++ ['\n'])

def hdrL (suf : Str) (c : Correction) : List Str :=
  (rep '=' c.hlen ++ (suf ++ ['\n'])) :: (nameLines c ++ (attrLines c ++ [rep '=' c.hlen ++ (suf ++ ['\n'])]))

def bodyL (suf : Str) (c : Correction) : List Str :=
  splitIncl (c.input ++ ['\n']) ++ ((rep '-' c.dlen ++ (suf ++ ['\n'])) :: ['\n'] :: splitIncl (trim c.output ++ ['\n']))

def noCstLine (l : Str) : Prop := (trim l).takeWhile (· != '(') ≠ kwCst

instance (l : Str) : Decidable (noCstLine l) := by unfold noCstLine; infer_instance

/-- A line that `headerLine` rejects ends the fold with the state so far; the lemmas use it only on regions in which no line
is rejected (`headerLoop_region`). -/
def foldHeader (os : Str) : List Str → HState → HState
  | [], st => st
  | l :: ls, st => match headerLine os st l with
    | some st' => foldHeader os ls st'
    | none => st

/-- The flags `parse_header` returns for a final state: the last lines of `parseHeader` (`Model.lean`) on their own. -/
def attrsOfState (st : HState) : Attrs :=
  { platform := st.platform.getD true, failFast := st.failFast,
    expect := match st.seenSkip, st.seenError with
      | true, _ => Expect.skip
      | false, false => Expect.pass
      | false, true => Expect.error,
    cst := st.cst, languages := if st.languages.isEmpty then [[]] else st.languages }

/-- The attribute flags that a header with this name and this attribute text has. -/
def flagsOf (os name a : Str) : Attrs :=
  attrsOfState (foldHeader os (if a.isEmpty then [] else splitIncl (a ++ ['\n'])) { testName := name ++ ['\n'] })

theorem attrLines_eq (c : Correction) : attrLines c = attrL c.attrsStr := rfl

theorem flagsOf_eq (os name a : Str) :
    flagsOf os name a = attrsOfState (foldHeader os (attrL a) { testName := name ++ ['\n'] }) := rfl

/-- The pending header `p` is the one `parse_header` reads from the written header of `c`. -/
def PendOf (os : Str) (p : Pending) (c : Correction) : Prop :=
  p.name = c.name ∧ p.attrsStr = c.attrsStr ∧ p.hlen = c.hlen ∧
  ((∀ l ∈ splitIncl (c.attrsStr ++ ['\n']), noCstLine l) → p.attrs.cst = false) ∧
  p.attrs = flagsOf os c.name c.attrsStr

/-- The part of a correction / of an entry that is not an expected output. -/
def Correction.skey (c : Correction) : Str × Str × Str := (c.name, c.attrsStr, c.input)
def Entry.skey (e : Entry) : Str × Str × Str := (e.name, e.attrsStr, e.input)
def Correction.dkey (c : Correction) : Str × Str × Str × Nat × Nat := (c.name, c.attrsStr, c.input, c.hlen, c.dlen)
def Entry.dkey (e : Entry) : Str × Str × Str × Nat × Nat := (e.name, e.attrsStr, e.input, e.hlen, e.dlen)

/-- Lines of the tests after the first one. -/
def tailLines (suf : Str) (cs : List Correction) : List Str :=
  (cs.map fun c => ['\n'] :: (hdrL suf c ++ bodyL suf c)).flatten

/-- Two lists related position by position (core has no `List.Forall₂`). -/
inductive All2 {α β : Type} (R : α → β → Prop) : List α → List β → Prop
  | nil : All2 R [] []
  | cons {a : α} {b : β} {as : List α} {bs : List β} : R a b → All2 R as bs → All2 R (a :: as) (b :: bs)

theorem All2.imp_mem {α β : Type} {R S : α → β → Prop} {as : List α} {bs : List β} (h : All2 R as bs)
    (hi : ∀ a ∈ as, ∀ b ∈ bs, R a b → S a b) : All2 S as bs := by
  induction h with
  | nil => exact .nil
  | cons r _ ih =>
    exact .cons (hi _ List.mem_cons_self _ List.mem_cons_self r)
      (ih fun a ha b hb => hi a (List.mem_cons_of_mem _ ha) b (List.mem_cons_of_mem _ hb))

theorem All2.map_eq {α β γ : Type} {f : α → γ} {g : β → γ} {as : List α} {bs : List β}
    (h : All2 (fun a b => f a = g b) as bs) : as.map f = bs.map g := by
  induction h with
  | nil => rfl
  | cons r _ ih => rw [List.map_cons, List.map_cons, r, ih]

theorem all2_comp {α β γ : Type} {R : α → γ → Prop} {S : β → γ → Prop} :
    ∀ {as : List α} {cs : List γ} {bs : List β}, All2 R as cs → All2 S bs cs →
      All2 (fun a b => ∃ c, R a c ∧ S b c) as bs := by
  intro as cs bs h1 h2
  induction h1 generalizing bs with
  | nil => cases h2; exact .nil
  | cons r _ ih => cases h2 with | cons s hs => exact .cons ⟨_, r, s⟩ (ih hs)

theorem All2.transport {α β γ : Type} {R : α → γ → Prop} {S T : β → γ → Prop} {as : List α} {bs : List β}
    {cs : List γ} (h1 : All2 R as cs) (h2 : All2 S bs cs) (h : ∀ a ∈ as, ∀ b c, R a c → S b c → T b c) :
    All2 T bs cs := by
  induction h1 generalizing bs with
  | nil => cases h2; exact .nil
  | cons r _ ih =>
    cases h2 with
    | cons s hs => exact .cons (h _ List.mem_cons_self _ _ r s) (ih hs fun a ha => h a (List.mem_cons_of_mem _ ha))

theorem All2.of_map {α β : Type} {R : α → β → Prop} {g : α → β} {as : List α} (h : ∀ a ∈ as, R a (g a)) :
    All2 R as (as.map g) := by
  induction as with
  | nil => exact .nil
  | cons a as ih => exact .cons (h a List.mem_cons_self) (ih fun x hx => h x (List.mem_cons_of_mem _ hx))

theorem all2_nil_right {α β : Type} {R : α → β → Prop} {as : List α} (h : All2 R as []) : as = [] := by
  cases h; rfl

/-- The text of the expectation section the reader sees for a written test (`sepf` = what follows
before the next header: nothing for the last test, one blank line otherwise). -/
def outSection (c : Correction) (sepf : Str) : Str := '\n' :: (trim c.output ++ '\n' :: sepf)

/-- Entry `e` is what the reader returns for the written correction `c`. -/
def Built (os : Str) (e : Entry) (c : Correction) : Prop :=
  e.dkey = c.dkey ∧ e.attrs = flagsOf os c.name c.attrsStr ∧
  ((∀ l ∈ splitIncl (c.attrsStr ++ ['\n']), noCstLine l) → e.attrs.cst = false) ∧
  ∃ sepf, (sepf = [] ∨ sepf = ['\n']) ∧
    (e.attrs.cst = false → e.output = normalizeSexp (outSection c sepf) ∧ e.hasFields = hasFieldsOf e.output) ∧
    (e.attrs.cst = true → e.output = trim (outSection c sepf) ∧ e.hasFields = false)

theorem Built.name {os : Str} {e : Entry} {c : Correction} (h : Built os e c) : e.name = c.name := congrArg (·.1) h.1
theorem Built.attrsStr {os : Str} {e : Entry} {c : Correction} (h : Built os e c) : e.attrsStr = c.attrsStr :=
  congrArg (·.2.1) h.1
theorem Built.input {os : Str} {e : Entry} {c : Correction} (h : Built os e c) : e.input = c.input := congrArg (·.2.2.1) h.1
theorem Built.hlen {os : Str} {e : Entry} {c : Correction} (h : Built os e c) : e.hlen = c.hlen := congrArg (·.2.2.2.1) h.1
theorem Built.dlen {os : Str} {e : Entry} {c : Correction} (h : Built os e c) : e.dlen = c.dlen := congrArg (·.2.2.2.2) h.1
theorem Built.flags {os : Str} {e : Entry} {c : Correction} (h : Built os e c) :
    e.attrs = flagsOf os c.name c.attrsStr := h.2.1

end TsVerif.C20
