import TsVerif.C20.Spec
import TsVerif.C20.FormatNormalize
/-!
# C20 — one test, one run

What `run_tests` records for one language, one test, one run, each in closed form (`updateLang_G`, `stepOf_iff`,
`updateEntriesF_all2_of`); when an expectation written out reads back as itself (`GoodX`, `readbackG`, `Built.entry`); and why the test
read back takes the same step again (`StepOf.second`).  Nothing here looks at the reader: it meets `Roundtrip.lean` only through `Built`.
Names in `G` (`actualG`, `keptG`, `ActOKG`, `EntryOKG`) allow `:cst` tests and several languages; `actualOf`, `keptX`, `ActOK`, `EntryOK`
are their readings without `:cst`, which `update_passes_partial` and `update_idempotent_partial` are stated with; `keptF`, `StepOf` add
the name filter.
-/
namespace TsVerif.C20

def RunOnce (e : Entry) : Prop :=
  e.attrs.expect ≠ .skip ∧ e.attrs.platform = true ∧ ∃ l, e.attrs.languages = [l]

/-- The rendering a test is compared with (`render_test_output`). -/
def actualG (e : Entry) (a : Actual) : Str :=
  if e.attrs.cst then a.cst else if e.hasFields then a.sexpFields else a.sexpPlain

/-- How an expectation is written. -/
def wr (fx : Fixes) (e : Entry) (x : Str) : Str := if e.attrs.cst then x else formatSexp fx x

/-- The expectation the update keeps or installs for a run test. -/
def keptG (e : Entry) (a : Actual) : Str :=
  match e.attrs.expect with
  | .error => e.output
  | _ =>
    if actualG e a == e.output then e.output
    else if containsSub strERROR (actualG e a) || containsSub strMISSING (actualG e a) then e.output
    else actualG e a

/-- Does the iteration stop the run (fail-fast)? -/
def stopG (e : Entry) (a : Actual) : Bool :=
  match e.attrs.expect with
  | .error => e.attrs.failFast
  | _ => if actualG e a == e.output then false else e.attrs.failFast

/-- `actualG` for a test without `:cst`. -/
def actualOf (e : Entry) (a : Actual) : Str := if e.hasFields then a.sexpFields else a.sexpPlain

theorem actualG_noCst {e : Entry} (hc : e.attrs.cst = false) (a : Actual) : actualG e a = actualOf e a := by
  simp [actualG, actualOf, hc]

/-- The expectation that ends up in the file for a run test (`format_sexp` of it is written). -/
def keptX (e : Entry) (a : Actual) : Str :=
  match e.attrs.expect with
  | .error => e.output
  | _ =>
    if actualOf e a == e.output then e.output
    else if containsSub strERROR (actualOf e a) || containsSub strMISSING (actualOf e a) then e.output
    else actualOf e a

theorem keptG_noCst {e : Entry} (hc : e.attrs.cst = false) (a : Actual) : keptG e a = keptX e a := by
  unfold keptG keptX
  rw [actualG_noCst hc]

/-- When the rendering equals the expectation the code writes the rendering for a `:cst` test and the expectation
otherwise — the same string. -/
theorem updateLang_G (fx : Fixes) (e : Entry) (a : Actual) :
    updateLang fx e a = (e.corr (wr fx e (keptG e a)), stopG e a) := by
  unfold updateLang keptG stopG wr actualG
  generalize (if e.attrs.cst then a.cst else if e.hasFields then a.sexpFields else a.sexpPlain) = act
  cases e.attrs.expect
  case error => rfl
  all_goals
    dsimp only
    by_cases h : (act == e.output) = true
    · cases eq_of_beq h
      simp only [beq_self_eq_true, ↓reduceIte]
    · by_cases h2 : (containsSub strERROR act || containsSub strMISSING act) = true <;>
        simp only [h, h2, Bool.false_eq_true, ↓reduceIte]

theorem updateLang_skey (fx : Fixes) (e : Entry) (a : Actual) : (updateLang fx e a).1.skey = e.skey := by
  rw [updateLang_G]; rfl

theorem updateLangs_cons_cont (fx : Fixes) (orc : Oracle) (e : Entry) (l : Str) (ls : List Str) (acc cs : List Correction) :
    updateLangs fx orc e (l :: ls) acc = .cont cs ↔ ∃ a, orc l e.input = some a ∧ stopG e a = false ∧
      updateLangs fx orc e ls (if fx.oneCorrection then (acc ++ [e.corr (wr fx e (keptG e a))]).take 1
        else acc ++ [e.corr (wr fx e (keptG e a))]) = .cont cs := by
  conv => lhs; rw [updateLangs]
  cases orc l e.input with
  | none => simp
  | some a =>
    simp only [updateLang_G]
    cases hs : stopG e a <;> simp [hs]

/-- The third part is the invariant of `(acc ++ [c]).take 1`: with at most one correction recorded, the list has exactly one
as soon as a language is run or one was there. -/
theorem updateLangs_spec (fx : Fixes) (orc : Oracle) (e : Entry) :
    ∀ (ls : List Str) (acc cs : List Correction), (∀ c ∈ acc, c.skey = e.skey) →
      updateLangs fx orc e ls acc = .cont cs →
      (∀ c ∈ cs, c.skey = e.skey) ∧
      (fx.oneCorrection = false → cs.length = acc.length + ls.length) ∧
      (fx.oneCorrection = true → acc.length ≤ 1 → (ls ≠ [] ∨ acc.length = 1) → cs.length = 1)
  | [], acc, cs, hacc, h => by
    simp only [updateLangs, Step.cont.injEq] at h
    subst h
    exact ⟨hacc, by simp, by intro _ h1 h2; simpa using h2⟩
  | l :: ls, acc, cs, hacc, h => by
    obtain ⟨a, _, _, h⟩ := (updateLangs_cons_cont fx orc e l ls acc cs).mp h
    have hk : ∀ c ∈ acc ++ [e.corr (wr fx e (keptG e a))], c.skey = e.skey := fun c hc =>
      (List.mem_append.mp hc).elim (hacc c) fun hc => List.mem_singleton.mp hc ▸ rfl
    cases hone : fx.oneCorrection with
    | false =>
      simp only [hone, Bool.false_eq_true, ↓reduceIte] at h
      have := updateLangs_spec fx orc e ls _ cs hk h
      refine ⟨this.1, ?_, by simp⟩
      intro _; have := this.2.1 hone; simp at this ⊢; omega
    | true =>
      simp only [hone, ↓reduceIte] at h
      have := updateLangs_spec fx orc e ls _ cs (fun c hc => hk c (List.mem_of_mem_take hc)) h
      refine ⟨this.1, by simp, ?_⟩
      intro _ hle _
      apply this.2.2 hone
      · simp <;> omega
      · right; simp <;> omega

def unrun (e : Entry) : Bool := e.attrs.expect == .skip || !e.attrs.platform

theorem updateEntry_of_unrun (fx : Fixes) (orc : Oracle) (e : Entry) (h : unrun e = true) :
    updateEntry fx orc e = .cont (if fx.keepUnrun then [e.corr (wr fx e e.output)] else []) := by
  unfold updateEntry unrun wr at *
  by_cases hs : (e.attrs.expect == Expect.skip) = true
  · simp [hs]
  · simp [hs] at h
    simp [hs, h]

theorem updateEntry_run (fx : Fixes) (orc : Oracle) (e : Entry) (h : unrun e = false) :
    updateEntry fx orc e = updateLangs fx orc e e.attrs.languages [] := by
  unfold updateEntry unrun at *
  simp only [Bool.or_eq_false_iff, Bool.not_eq_false'] at h
  simp [h.1, h.2]

theorem updateLangs_corr (fx : Fixes) (orc : Oracle) (e : Entry) :
    ∀ (ls : List Str) (acc cs : List Correction), (∀ c ∈ acc, ∃ o, c = e.corr o) →
      updateLangs fx orc e ls acc = .cont cs → ∀ c ∈ cs, ∃ o, c = e.corr o
  | [], acc, cs, hacc, h => by
    simp only [updateLangs, Step.cont.injEq] at h
    exact h ▸ hacc
  | l :: ls, acc, cs, hacc, h => by
    obtain ⟨a, _, _, h⟩ := (updateLangs_cons_cont fx orc e l ls acc cs).mp h
    refine updateLangs_corr fx orc e ls _ cs (fun c hc => ?_) h
    have hc' : c ∈ acc ++ [e.corr (wr fx e (keptG e a))] := by
      split at hc
      · exact List.mem_of_mem_take hc
      · exact hc
    rcases List.mem_append.mp hc' with hc' | hc'
    · exact hacc c hc'
    · exact ⟨_, List.mem_singleton.mp hc'⟩

theorem updateEntry_corr (fx : Fixes) (orc : Oracle) (e : Entry) (cs : List Correction)
    (h : updateEntry fx orc e = .cont cs) : ∀ c ∈ cs, ∃ o, c = e.corr o := by
  cases hu : unrun e
  · exact updateLangs_corr fx orc e _ [] cs (by simp) (updateEntry_run fx orc e hu ▸ h)
  · cases (updateEntry_of_unrun fx orc e hu).symm.trans h
    intro c hc
    split at hc <;> simp at hc
    exact ⟨_, hc⟩

/-- What `run_tests` records for one entry: when it goes on (`cont`), every correction has the
entry's key; an entry run exactly once gives exactly one; with both repairs EVERY entry with a
non-empty language list gives exactly one. -/
theorem updateEntry_spec (fx : Fixes) (orc : Oracle) (e : Entry) (cs : List Correction)
    (h : updateEntry fx orc e = .cont cs) :
    (∀ c ∈ cs, c.skey = e.skey) ∧
    (RunOnce e → cs.length = 1) ∧
    (fx.keepUnrun = true → fx.oneCorrection = true → e.attrs.languages ≠ [] → cs.length = 1) := by
  refine ⟨fun c hc => by obtain ⟨o, rfl⟩ := updateEntry_corr fx orc e cs h c hc; rfl, ?_⟩
  cases hu : unrun e
  · have sp := updateLangs_spec fx orc e e.attrs.languages [] cs (by simp) (updateEntry_run fx orc e hu ▸ h)
    refine ⟨?_, fun _ hone hne => sp.2.2 hone (by simp) (Or.inl hne)⟩
    rintro ⟨_, _, l, hl⟩
    cases hone : fx.oneCorrection with
    | false => simpa [hl] using sp.2.1 hone
    | true => exact sp.2.2 hone (by simp) (by left; simp [hl])
  · cases (updateEntry_of_unrun fx orc e hu).symm.trans h
    refine ⟨fun hr => ?_, fun hk _ _ => by simp [hk]⟩
    simp [unrun, hr.1, hr.2.1] at hu

theorem updateEntriesF_true (fx : Fixes) (orc : Oracle) :
    ∀ (es : List Entry) (acc : List Correction),
      updateEntriesF fx orc (fun _ => true) es acc = updateEntries fx orc es acc
  | [], _ => rfl
  | e :: es, acc => by
    unfold updateEntriesF updateEntries
    simp only [↓reduceIte]
    cases updateEntry fx orc e with
    | cont cs => exact updateEntriesF_true fx orc es _
    | stop => rfl
    | err => rfl

theorem updateEntriesF_all2_of (fx : Fixes) (orc : Oracle) (flt : Str → Bool) (R : Entry → Correction → Prop) :
    ∀ (es : List Entry) (acc cs : List Correction),
      (∀ e ∈ es, flt e.name = true → ∀ cs', updateEntry fx orc e = .cont cs' → ∃ c, cs' = [c] ∧ R e c) →
      (∀ e ∈ es, flt e.name = false →
        R e (e.corr (if fx.keepCstFiltered && e.attrs.cst then e.output else formatSexp fx e.output))) →
      updateEntriesF fx orc flt es acc = some cs → ∃ new, cs = acc ++ new ∧ All2 R es new
  | [], acc, cs, _, _, h => by
    simp only [updateEntriesF, Option.some.injEq] at h
    exact ⟨[], by simp [h], All2.nil⟩
  | e :: es, acc, cs, hrun, hcar, h => by
    have ih := fun acc h => updateEntriesF_all2_of fx orc flt R es acc cs (fun x hx => hrun x (List.mem_cons_of_mem _ hx))
      (fun x hx => hcar x (List.mem_cons_of_mem _ hx)) h
    unfold updateEntriesF at h
    split at h
    · next hf =>
      cases hu : updateEntry fx orc e with
      | stop => simp [hu] at h
      | err => simp [hu] at h
      | cont cs' =>
        obtain ⟨c, rfl, hR⟩ := hrun e List.mem_cons_self hf cs' hu
        rw [hu] at h
        obtain ⟨new, hnew, hall⟩ := ih _ h
        exact ⟨c :: new, by simp [hnew], All2.cons hR hall⟩
    · next hf =>
      obtain ⟨new, hnew, hall⟩ := ih _ h
      exact ⟨_ :: new, by simp [hnew], All2.cons (hcar e List.mem_cons_self (by simpa using hf)) hall⟩

theorem updateEntries_all2_of (fx : Fixes) (orc : Oracle) (R : Entry → Correction → Prop)
    (es : List Entry) (acc cs : List Correction)
    (hrun : ∀ e ∈ es, ∀ cs', updateEntry fx orc e = .cont cs' → ∃ c, cs' = [c] ∧ R e c)
    (h : updateEntries fx orc es acc = some cs) : ∃ new, cs = acc ++ new ∧ All2 R es new :=
  updateEntriesF_all2_of fx orc (fun _ => true) R es acc cs (fun e he _ => hrun e he) (fun _ _ h => by cases h)
    (by rw [updateEntriesF_true]; exact h)

theorem singleton_of {cs : List Correction} {P : Correction → Prop} (hlen : cs.length = 1) (hP : ∀ c ∈ cs, P c) :
    ∃ c, cs = [c] ∧ P c :=
  match cs, hlen with
  | [c], _ => ⟨c, rfl, hP c (by simp)⟩

theorem updateEntries_keys_of (fx : Fixes) (orc : Oracle) (es : List Entry) (cs : List Correction)
    (hp : ∀ e ∈ es, ∀ cs', updateEntry fx orc e = .cont cs' → cs'.length = 1)
    (h : updateEntries fx orc es [] = some cs) : cs.map Correction.skey = es.map Entry.skey := by
  obtain ⟨new, rfl, hall⟩ := updateEntries_all2_of fx orc (fun e c => e.skey = c.skey) es [] cs
    (fun e he cs' hu => singleton_of (hp e he cs' hu) fun c hc => ((updateEntry_spec fx orc e cs' hu).1 c hc).symm) h
  exact hall.map_eq.symm

/-- Any flags, so the code before the repairs too: entries that are run exactly once keep name, attribute text, input, order. -/
theorem updateEntries_keys (fx : Fixes) (orc : Oracle) (es : List Entry) (cs : List Correction)
    (hp : ∀ e ∈ es, RunOnce e) (h : updateEntries fx orc es [] = some cs) :
    cs.map Correction.skey = es.map Entry.skey :=
  updateEntries_keys_of fx orc es cs (fun e he cs' hu => (updateEntry_spec fx orc e cs' hu).2.1 (hp e he)) h

/-- With the two repairs `keepUnrun` and `oneCorrection`: ALL entries (skipped, other platform, several
languages) keep name, attribute text, input and order. -/
theorem updateEntries_keys_fixed (fx : Fixes) (orc : Oracle) (es : List Entry) (cs : List Correction)
    (hk : fx.keepUnrun = true) (ho : fx.oneCorrection = true)
    (hl : ∀ e ∈ es, e.attrs.languages ≠ []) (h : updateEntries fx orc es [] = some cs) :
    cs.map Correction.skey = es.map Entry.skey :=
  updateEntries_keys_of fx orc es cs (fun e he cs' hu => (updateEntry_spec fx orc e cs' hu).2.2 hk ho (hl e he)) h

theorem keptG_clean {e : Entry} {a : Actual} (hx : e.attrs.expect ≠ .error)
    (h3 : containsSub strERROR (actualG e a) = false) (h4 : containsSub strMISSING (actualG e a) = false) :
    keptG e a = actualG e a := by
  unfold keptG
  cases he : e.attrs.expect
  case error => exact absurd he hx
  all_goals
    dsimp only
    rw [h3, h4]
    by_cases h : (actualG e a == e.output) = true
    · rw [if_pos h]; exact (eq_of_beq h).symm
    · rw [if_neg h]; rfl

theorem updateEntry_runOnce (fx : Fixes) (orc : Oracle) (e : Entry) (cs : List Correction) (hr : RunOnce e)
    (hu : updateEntry fx orc e = .cont cs) :
    ∃ c, cs = [c] ∧ ∃ l a, e.attrs.languages = [l] ∧ orc l e.input = some a ∧ c = (updateLang fx e a).1 := by
  obtain ⟨h1, h2, l, h3⟩ := hr
  have hun : unrun e = false := by simp [unrun, h1, h2]
  rw [updateEntry_run fx orc e hun, h3, updateLangs_cons_cont] at hu
  obtain ⟨a, hor, _, hu⟩ := hu
  refine ⟨_, ?_, l, a, h3, hor, by rw [updateLang_G]⟩
  cases fx.oneCorrection <;> simpa [updateLangs] using hu.symm

theorem updateEntries_all2 (fx : Fixes) (orc : Oracle) :
    ∀ (es : List Entry) (acc cs : List Correction), (∀ e ∈ es, RunOnce e) →
      updateEntries fx orc es acc = some cs →
      ∃ new, cs = acc ++ new ∧
        All2 (fun e c => ∃ l a, e.attrs.languages = [l] ∧ orc l e.input = some a ∧ c = (updateLang fx e a).1) es new :=
  fun es acc cs hp => updateEntries_all2_of fx orc _ es acc cs fun e he cs' hu =>
    updateEntry_runOnce fx orc e cs' (hp e he) hu

theorem updateLang_output_pass (fx : Fixes) (e : Entry) (a : Actual) (h1 : e.attrs.expect = .pass)
    (h2 : e.attrs.cst = false)
    (h3 : containsSub strERROR (actualOf e a) = false) (h4 : containsSub strMISSING (actualOf e a) = false) :
    (updateLang fx e a).1.output = formatSexp fx (actualOf e a) := by
  rw [← actualG_noCst h2] at h3 h4 ⊢
  rw [updateLang_G, ← keptG_clean (by rw [h1]; decide) h3 h4]
  simp [Entry.corr, wr, h2]

theorem inFormatClass_spec {s : Str} (h : inFormatClass s = true) :
    ∃ n k ts, s = joinToks (.opn n k :: ts) ∧ Bal (.opn n k :: ts) 0 false := by
  unfold inFormatClass at h
  split at h
  · next n k ts _ =>
    simp only [Bool.and_eq_true, beq_iff_eq, decide_eq_true_eq] at h
    exact ⟨n, k, ts, h.1.symm, h.2⟩
  · simp at h

theorem readback (fx : Fixes) (c : Correction) (x sepf : Str) (hc : c.output = formatSexp fx x)
    (hx : x = [] ∨ inFormatClass x = true) (hsepf : sepf = [] ∨ sepf = ['\n']) :
    normalizeSexp (outSection c sepf) = x := by
  rcases hx with rfl | hcls
  · rw [outSection, hc, formatSexp_nil]
    rcases hsepf with rfl | rfl <;> decide
  · obtain ⟨n, k, ts, hj, hbal⟩ := inFormatClass_spec hcls
    rw [outSection, hc, hj, format_tokens fx _ hbal, trim_pretty n k ts hbal]
    exact normalize_section n k ts hbal sepf hsepf

/-- The rendering of the parser is usable as an expectation: the field-less rendering shows no field,
a rendering without fields equals the field-less one, and an error-free rendering is a balanced
token sequence (measured on every run for the real parser). -/
structure ActOK (a : Actual) : Prop where
  plainNoFields : hasFieldsOf a.sexpPlain = false
  fieldsEq : hasFieldsOf a.sexpFields = false → a.sexpPlain = a.sexpFields
  classF : containsSub strERROR a.sexpFields = false → containsSub strMISSING a.sexpFields = false →
    inFormatClass a.sexpFields = true
  classP : containsSub strERROR a.sexpPlain = false → containsSub strMISSING a.sexpPlain = false →
    inFormatClass a.sexpPlain = true

/-- Entries the idempotence theorem covers: one language, not `:cst`, `has_fields` as the reader computes
it, an expectation that is empty or a balanced S-expression, a usable parser answer. -/
structure EntryOK (orc : Oracle) (e : Entry) : Prop where
  oneLang : ∃ l, e.attrs.languages = [l]
  noCst : e.attrs.cst = false
  hf : e.hasFields = hasFieldsOf e.output
  out : e.output = [] ∨ inFormatClass e.output = true
  act : ∀ l a, e.attrs.languages = [l] → orc l e.input = some a → ActOK a

/-- Boolean form of `ActOK`, evaluated by the driver on every answer of the real parser. -/
def actOKb (a : Actual) : Bool :=
  !hasFieldsOf a.sexpPlain && (hasFieldsOf a.sexpFields || a.sexpPlain == a.sexpFields) &&
  (containsSub strERROR a.sexpFields || containsSub strMISSING a.sexpFields || inFormatClass a.sexpFields) &&
  (containsSub strERROR a.sexpPlain || containsSub strMISSING a.sexpPlain || inFormatClass a.sexpPlain)

theorem actOK_of_b {a : Actual} (h : actOKb a = true) : ActOK a := by
  simp only [actOKb, Bool.and_eq_true, Bool.not_eq_true', Bool.or_eq_true, beq_iff_eq] at h
  obtain ⟨⟨⟨h1, h2⟩, h3⟩, h4⟩ := h
  exact ⟨h1, fun hf => h2.resolve_left (by simp [hf]), fun he hm => h3.resolve_left (by simp [he, hm]),
    fun he hm => h4.resolve_left (by simp [he, hm])⟩

theorem updateLang_keptX (fx : Fixes) (e : Entry) (a : Actual) (hc : e.attrs.cst = false) :
    (updateLang fx e a).1 = e.corr (formatSexp fx (keptX e a)) := by
  rw [updateLang_G, ← keptG_noCst hc]
  simp [wr, hc]

structure ActOKG (a : Actual) : Prop extends ActOK a where
  cstTrim : trim a.cst = a.cst

def actOKGb (a : Actual) : Bool := actOKb a && (trim a.cst == a.cst)

theorem actOKG_of_b {a : Actual} (h : actOKGb a = true) : ActOKG a := by
  simp only [actOKGb, Bool.and_eq_true, beq_iff_eq] at h
  exact { toActOK := actOK_of_b h.1, cstTrim := h.2 }

/-- Entries covered by the general theorems. -/
structure EntryOKG (orc : Oracle) (e : Entry) : Prop where
  langs : e.attrs.languages ≠ []
  hf : e.hasFields = (if e.attrs.cst then false else hasFieldsOf e.output)
  out : e.attrs.cst = false → (e.output = [] ∨ inFormatClass e.output = true)
  outCst : e.attrs.cst = true → trim e.output = e.output
  act : ∀ l a, e.attrs.languages.head? = some l → orc l e.input = some a → ActOKG a

/-- An expectation that reads back as itself: empty or balanced S-expression, resp. trimmed CST text. -/
def GoodX (e : Entry) (x : Str) : Prop :=
  (e.attrs.cst = false → (x = [] ∨ inFormatClass x = true)) ∧ (e.attrs.cst = true → trim x = x)

theorem keptG_cases (e : Entry) (a : Actual) :
    keptG e a = e.output ∨ (keptG e a = actualG e a ∧ actualG e a ≠ e.output ∧
      containsSub strERROR (actualG e a) = false ∧ containsSub strMISSING (actualG e a) = false ∧
      e.attrs.expect ≠ .error) := by
  unfold keptG
  split
  · exact Or.inl rfl
  · next hne =>
    split
    · exact Or.inl rfl
    · split
      · exact Or.inl rfl
      · next h1 h2 =>
        simp only [Bool.or_eq_true, not_or, Bool.not_eq_true] at h2
        exact Or.inr ⟨rfl, by simpa using h1, h2.1, h2.2, fun h => hne h⟩

theorem goodX_kept {e : Entry} {a : Actual} (hx : GoodX e e.output) (ha : ActOK a)
    (hct : e.attrs.cst = true → trim a.cst = a.cst) : GoodX e (keptG e a) := by
  rcases keptG_cases e a with hk | ⟨hk, _, h3, h4, _⟩
  · rw [hk]; exact hx
  · rw [hk]
    refine ⟨fun hc => Or.inr ?_, fun hc => ?_⟩
    · rw [actualG_noCst hc] at h3 h4 ⊢
      unfold actualOf at h3 h4 ⊢
      cases hh : e.hasFields <;> rw [hh] at h3 h4
      · exact ha.classP h3 h4
      · exact ha.classF h3 h4
    · rw [actualG, if_pos hc]
      exact hct hc

theorem keptX_ok (orc : Oracle) (e : Entry) (a : Actual) (he : EntryOK orc e) (ha : ActOK a) :
    keptX e a = [] ∨ inFormatClass (keptX e a) = true :=
  keptG_noCst he.noCst a ▸ (goodX_kept ⟨fun _ => he.out, fun hc => by simp [he.noCst] at hc⟩ ha
    (fun hc => by simp [he.noCst] at hc)).1 he.noCst

theorem readbackG (fx : Fixes) (os : Str) (e e1 : Entry) (c : Correction) (x : Str) (hb : Built os e1 c)
    (hattrs : e1.attrs = e.attrs) (hc : c.output = wr fx e x) (hx : GoodX e x) :
    e1.output = x ∧ e1.hasFields = (if e.attrs.cst then false else hasFieldsOf x) := by
  obtain ⟨sepf, hsepf, hn, hcs⟩ := hb.2.2.2
  cases hcst : e.attrs.cst with
  | false =>
    have h1 : e1.attrs.cst = false := by rw [hattrs]; exact hcst
    obtain ⟨ho, hh⟩ := hn h1
    have hc' : c.output = formatSexp fx x := by rw [hc, wr, hcst]; rfl
    have := readback fx c x sepf hc' (hx.1 hcst) hsepf
    rw [ho, this] at hh ⊢
    exact ⟨rfl, by simpa using hh⟩
  | true =>
    have h1 : e1.attrs.cst = true := by rw [hattrs]; exact hcst
    obtain ⟨ho, hh⟩ := hcs h1
    have hc' : c.output = x := by rw [hc, wr, hcst]; rfl
    have ht := hx.2 hcst
    rw [ho, outSection, hc', trim_section x sepf hsepf, ht]
    exact ⟨rfl, by simpa using hh⟩

/-- What the second round asks of a test.  `EntryOK` and `EntryOKG` both give it. -/
structure SecondOK (orc : Oracle) (e : Entry) : Prop where
  langs : e.attrs.languages ≠ []
  hf : e.hasFields = (if e.attrs.cst then false else hasFieldsOf e.output)
  good : GoodX e e.output
  act : ∀ l a, e.attrs.languages.head? = some l → orc l e.input = some a →
    ActOK a ∧ (e.attrs.cst = true → trim a.cst = a.cst)

theorem EntryOKG.second {orc : Oracle} {e : Entry} (h : EntryOKG orc e) : SecondOK orc e :=
  ⟨h.langs, h.hf, ⟨h.out, h.outCst⟩, fun l a hl hor => ⟨(h.act l a hl hor).toActOK, fun _ => (h.act l a hl hor).cstTrim⟩⟩

theorem EntryOK.second {orc : Oracle} {e : Entry} (h : EntryOK orc e) : SecondOK orc e := by
  obtain ⟨l, hl⟩ := h.oneLang
  have hnc : ¬ e.attrs.cst = true := by simp [h.noCst]
  exact ⟨by simp [hl], by simp [h.noCst, h.hf], ⟨fun _ => h.out, fun hc => absurd hc hnc⟩,
    fun l' a hl' hor => ⟨h.act l' a (by rw [hl] at hl' ⊢; cases hl'; rfl) hor, fun hc => absurd hc hnc⟩⟩

/-- The test with its expectation replaced, `has_fields` as the reader recomputes it. -/
def Entry.withOutput (e : Entry) (x : Str) : Entry :=
  { e with output := x, hasFields := if e.attrs.cst then false else hasFieldsOf x }

theorem Built.entry {fx : Fixes} {os : Str} {e e1 : Entry} {x : Str} (hb : Built os e1 (e.corr (wr fx e x)))
    (hcanon : e.attrs = flagsOf os e.name e.attrsStr) (hx : GoodX e x) : e1 = e.withOutput x := by
  have hattrs : e1.attrs = e.attrs := hb.flags.trans hcanon.symm
  obtain ⟨hout, hhf⟩ := readbackG fx os e e1 _ x hb hattrs rfl hx
  have h := And.intro hb.name (And.intro hb.attrsStr (And.intro hb.input (And.intro hb.hlen hb.dlen)))
  cases e1
  simp_all [Entry.withOutput, Entry.corr]

/-- `e1 = e.withOutput x` without name, attribute text and delimiter lengths: what `stopG_second` is stated with. -/
structure ReadBack (e e1 : Entry) (x : Str) : Prop where
  attrs : e1.attrs = e.attrs
  input : e1.input = e.input
  output : e1.output = x
  hf : e1.hasFields = (if e.attrs.cst then false else hasFieldsOf x)

/-- `ActOK`: a rendering without fields is the field-less one. -/
theorem actualG_second {e e1 : Entry} {a : Actual}
    (hf : e.hasFields = (if e.attrs.cst then false else hasFieldsOf e.output)) (ha : ActOK a)
    (hattrs : e1.attrs = e.attrs) (hhf : e1.hasFields = (if e.attrs.cst then false else hasFieldsOf (keptG e a))) :
    actualG e1 a = actualG e a := by
  rcases keptG_cases e a with hk | ⟨hk, _, _, _, _⟩
  · unfold actualG
    rw [hattrs, hhf, hk, hf]
  · unfold actualG at hk ⊢
    rw [hattrs, hhf, hk]
    cases hc : e.attrs.cst with
    | true => rfl
    | false =>
      simp only [hc, Bool.false_eq_true, ↓reduceIte] at hk ⊢
      cases e.hasFields with
      | false => simp [ha.plainNoFields]
      | true =>
        cases h2 : hasFieldsOf a.sexpFields with
        | true => simp [h2]
        | false => simp [h2, ha.fieldsEq h2]

theorem keptG_second {e e1 : Entry} {a : Actual}
    (hf : e.hasFields = (if e.attrs.cst then false else hasFieldsOf e.output)) (ha : ActOK a)
    (hattrs : e1.attrs = e.attrs) (hout : e1.output = keptG e a)
    (hhf : e1.hasFields = (if e.attrs.cst then false else hasFieldsOf (keptG e a))) : keptG e1 a = keptG e a := by
  unfold keptG
  rw [hattrs, actualG_second hf ha hattrs hhf, hout]
  rcases keptG_cases e a with hk | ⟨hk, hne, h3, h4, hex⟩
  · rw [hk]
  · rw [hk]
    cases hexp : e.attrs.expect
    case error => exact absurd hexp hex
    all_goals simp [hne, h3, h4]

theorem stopG_eq_false {e : Entry} {a : Actual} : stopG e a = false ↔
    e.attrs.failFast = false ∨ (e.attrs.expect ≠ .error ∧ (actualG e a == e.output) = true) := by
  unfold stopG
  cases e.attrs.expect <;> cases e.attrs.failFast <;> simp

/-- With fail-fast, "not stopped" means every language matched the old expectation, which is then the one read back. -/
theorem stopG_second' {e e1 : Entry} {a1 a : Actual}
    (hf : e.hasFields = (if e.attrs.cst then false else hasFieldsOf e.output))
    (hattrs : e1.attrs = e.attrs) (hout : e1.output = keptG e a1)
    (hhf : e1.hasFields = (if e.attrs.cst then false else hasFieldsOf (keptG e a1)))
    (h1 : stopG e a1 = false) (h : stopG e a = false) : stopG e1 a = false := by
  rw [stopG_eq_false] at h1 h ⊢
  rw [hattrs]
  rcases h1 with hff | ⟨hx, hm1⟩
  · exact Or.inl hff
  rcases h with hff | ⟨_, hm⟩
  · exact Or.inl hff
  have hk : keptG e a1 = e.output := by
    unfold keptG
    cases hx' : e.attrs.expect
    case error => exact absurd hx' hx
    all_goals exact if_pos hm1
  rw [hk] at hout hhf
  have hact : actualG e1 a = actualG e a := by unfold actualG; rw [hattrs, hhf, hf]
  exact Or.inr ⟨hx, by rw [hact, hout]; exact hm⟩

theorem stopG_second (orc : Oracle) (e e1 : Entry) (a1 a : Actual) (he : EntryOKG orc e)
    (hr : ReadBack e e1 (keptG e a1)) (h1 : stopG e a1 = false) (h : stopG e a = false) : stopG e1 a = false :=
  stopG_second' he.hf hr.attrs hr.output hr.hf h1 h

theorem updateLang_second (fx : Fixes) (orc : Oracle) (e e1 : Entry) (a : Actual) (he : EntryOK orc e) (ha : ActOK a)
    (hattrs : e1.attrs = e.attrs) (hout : e1.output = keptX e a) (hhf : e1.hasFields = hasFieldsOf e1.output)
    (hstop : (updateLang fx e a).2 = false) :
    (updateLang fx e1 a).1.output = formatSexp fx (keptX e a) ∧ (updateLang fx e1 a).2 = false := by
  have hc := he.noCst
  have hf : e.hasFields = (if e.attrs.cst then false else hasFieldsOf e.output) := by simp [hc, he.hf]
  have hout' : e1.output = keptG e a := hout.trans (keptG_noCst hc a).symm
  have hhf' : e1.hasFields = (if e.attrs.cst then false else hasFieldsOf (keptG e a)) := by simp [hc, hhf, hout']
  have hs : stopG e a = false := by rw [updateLang_G] at hstop; exact hstop
  rw [updateLang_G]
  refine ⟨?_, stopG_second' hf hattrs hout' hhf' hs hs⟩
  simp [Entry.corr, wr, hattrs, hc, keptG_second hf ha hattrs hout' hhf', keptG_noCst hc]

def NoStop (orc : Oracle) (e : Entry) (ls : List Str) : Prop :=
  ∀ l ∈ ls, ∃ a, orc l e.input = some a ∧ stopG e a = false

theorem updateLangs_one (fx : Fixes) (ho : fx.oneCorrection = true) (orc : Oracle) (e : Entry) (c : Correction) :
    ∀ (ls : List Str) (cs : List Correction), updateLangs fx orc e ls [c] = .cont cs ↔ (cs = [c] ∧ NoStop orc e ls)
  | [], cs => by simp [updateLangs, NoStop]; exact eq_comm
  | l :: ls, cs => by
    rw [updateLangs_cons_cont, ho]
    simp only [↓reduceIte, List.cons_append, List.nil_append, List.take_succ_cons, List.take_zero,
      updateLangs_one fx ho orc e c ls cs, NoStop, List.mem_cons, forall_eq_or_imp]
    constructor
    · rintro ⟨a, h1, h2, h3, h4⟩
      exact ⟨h3, ⟨a, h1, h2⟩, h4⟩
    · rintro ⟨h3, ⟨a, h1, h2⟩, h4⟩
      exact ⟨a, h1, h2, h3, h4⟩

theorem updateLangs_head (fx : Fixes) (ho : fx.oneCorrection = true) (orc : Oracle) (e : Entry) (l : Str) (ls : List Str)
    (cs : List Correction) :
    updateLangs fx orc e (l :: ls) [] = .cont cs ↔
      ∃ a, orc l e.input = some a ∧ cs = [e.corr (wr fx e (keptG e a))] ∧ NoStop orc e (l :: ls) := by
  rw [updateLangs_cons_cont, ho]
  simp only [↓reduceIte, List.nil_append, List.take_succ_cons, List.take_zero, updateLangs_one fx ho orc e _ ls cs, NoStop,
    List.mem_cons, forall_eq_or_imp]
  constructor
  · rintro ⟨a, h1, h2, h3, h4⟩
    exact ⟨a, h1, h3, ⟨a, h1, h2⟩, h4⟩
  · rintro ⟨a, h1, h3, ⟨a', h1', h2⟩, h4⟩
    cases h1.symm.trans h1'
    exact ⟨a, h1, h2, h3, h4⟩

theorem corr_of_built {os : Str} {e1 : Entry} {c : Correction} (hb : Built os e1 c) : e1.corr c.output = c := by
  have h := And.intro hb.name (And.intro hb.attrsStr (And.intro hb.input (And.intro hb.hlen hb.dlen)))
  cases c
  simp_all [Entry.corr]

/-- What a (filtered) update records for one test. -/
def StepOf (fx : Fixes) (orc : Oracle) (flt : Str → Bool) (e : Entry) (c : Correction) : Prop :=
  if flt e.name then updateEntry fx orc e = .cont [c] else c = e.corr (wr fx e e.output)

theorem stepOf_run {fx : Fixes} {orc : Oracle} {flt : Str → Bool} {e : Entry} {c : Correction} (h : flt e.name = true) :
    StepOf fx orc flt e c ↔ updateEntry fx orc e = .cont [c] := by
  unfold StepOf; rw [if_pos h]

theorem stepOf_carried {fx : Fixes} {orc : Oracle} {flt : Str → Bool} {e : Entry} {c : Correction}
    (h : ¬ flt e.name = true) : StepOf fx orc flt e c ↔ c = e.corr (wr fx e e.output) := by
  unfold StepOf; rw [if_neg h]

theorem StepOf.corr {fx : Fixes} {orc : Oracle} {flt : Str → Bool} {e : Entry} {c : Correction}
    (h : StepOf fx orc flt e c) : ∃ o, c = e.corr o := by
  by_cases hf : flt e.name = true
  · exact updateEntry_corr fx orc e [c] ((stepOf_run hf).mp h) c List.mem_cons_self
  · exact ⟨_, (stepOf_carried hf).mp h⟩

def runs (flt : Str → Bool) (e : Entry) : Bool := flt e.name && !unrun e

def firstAnswer (orc : Oracle) (e : Entry) : Option Actual := e.attrs.languages.head?.bind (orc · e.input)

/-- The expectation a (filtered) update leaves in the file for a test. -/
def keptF (orc : Oracle) (flt : Str → Bool) (e : Entry) : Str :=
  if runs flt e then (match firstAnswer orc e with | some a => keptG e a | none => e.output) else e.output

theorem keptF_of_not_runs {orc : Oracle} {flt : Str → Bool} {e : Entry} (h : runs flt e = false) :
    keptF orc flt e = e.output := by
  unfold keptF; rw [h]; rfl

theorem keptF_of_runs {orc : Oracle} {flt : Str → Bool} {e : Entry} {a : Actual} (h : runs flt e = true)
    (ha : firstAnswer orc e = some a) : keptF orc flt e = keptG e a := by
  unfold keptF; rw [h, ha]; rfl

theorem stepOf_iff (fx : Fixes) (hk : fx.keepUnrun = true) (ho : fx.oneCorrection = true) (orc : Oracle)
    (flt : Str → Bool) (e : Entry) (c : Correction) (hl : e.attrs.languages ≠ []) :
    StepOf fx orc flt e c ↔ c = e.corr (wr fx e (keptF orc flt e)) ∧
      (runs flt e = true → NoStop orc e e.attrs.languages) := by
  unfold StepOf keptF runs
  by_cases hf : flt e.name = true
  · rw [if_pos hf, hf, Bool.true_and]
    cases hu : unrun e with
    | true => simp [updateEntry_of_unrun fx orc e hu, hk, eq_comm]
    | false =>
      obtain ⟨l, ls, hls⟩ := List.exists_cons_of_ne_nil hl
      rw [updateEntry_run fx orc e hu, hls, updateLangs_head fx ho]
      simp only [firstAnswer, hls, List.head?_cons, Option.bind_some, Bool.not_false, ↓reduceIte, forall_const]
      constructor
      · rintro ⟨a, hor, hc, hns⟩
        simp only [hor]
        exact ⟨by simpa using hc, hns⟩
      · rintro ⟨hc, hns⟩
        obtain ⟨a, hor, _⟩ := hns l List.mem_cons_self
        simp only [hor] at hc
        exact ⟨a, hor, by rw [hc], hns⟩
  · rw [if_neg hf]
    simp [hf]

theorem SecondOK.goodKept {orc : Oracle} {e : Entry} (he : SecondOK orc e) (flt : Str → Bool) :
    GoodX e (keptF orc flt e) := by
  cases hr : runs flt e with
  | false => rw [keptF_of_not_runs hr]; exact he.good
  | true =>
    cases h : firstAnswer orc e with
    | none => unfold keptF; rw [h]; split <;> exact he.good
    | some a =>
      obtain ⟨l, hl, hor⟩ := Option.bind_eq_some_iff.mp h
      rw [keptF_of_runs hr h]
      exact goodX_kept he.good (he.act l a hl hor).1 (he.act l a hl hor).2

/-- `runs` and `firstAnswer` do not look at the expectation. -/
theorem keptF_second {orc : Oracle} {flt : Str → Bool} {e : Entry} (he : SecondOK orc e)
    (hns : runs flt e = true → NoStop orc e e.attrs.languages) :
    keptF orc flt (e.withOutput (keptF orc flt e)) = keptF orc flt e ∧
      (runs flt e = true → NoStop orc (e.withOutput (keptF orc flt e)) e.attrs.languages) := by
  cases hr : runs flt e with
  | false =>
    rw [keptF_of_not_runs hr]
    exact ⟨keptF_of_not_runs (e := e.withOutput e.output) hr, fun h => nomatch h⟩
  | true =>
    obtain ⟨l, ls, hls⟩ := List.exists_cons_of_ne_nil he.langs
    obtain ⟨a, hor, hs1⟩ := hns hr l (by simp [hls])
    have hfa : firstAnswer orc e = some a := by simp [firstAnswer, hls, hor]
    obtain ⟨ha, _⟩ := he.act l a (by simp [hls]) hor
    rw [keptF_of_runs hr hfa]
    refine ⟨(keptF_of_runs (e := e.withOutput (keptG e a)) hr hfa).trans
      (keptG_second (e1 := e.withOutput (keptG e a)) he.hf ha rfl rfl rfl), fun _ l' hl' => ?_⟩
    obtain ⟨a', ha', hsa⟩ := hns hr l' hl'
    exact ⟨a', ha', stopG_second' (e1 := e.withOutput (keptG e a)) he.hf rfl rfl rfl hs1 hsa⟩

/-- Second round on one test — run (any number of languages, `:cst` or not), skipped, for another platform or carried
over by the filter: the entry read back from the written correction takes the same step again. -/
theorem StepOf.second {fx : Fixes} (hk : fx.keepUnrun = true) (ho : fx.oneCorrection = true) {orc : Oracle}
    {flt : Str → Bool} {os : Str} {e e1 : Entry} {c : Correction} (hs : StepOf fx orc flt e c) (hb : Built os e1 c)
    (he : SecondOK orc e) (hcanon : e.attrs = flagsOf os e.name e.attrsStr) : StepOf fx orc flt e1 c := by
  obtain ⟨rfl, hns⟩ := (stepOf_iff fx hk ho orc flt e c he.langs).mp hs
  obtain rfl := hb.entry hcanon (he.goodKept flt)
  obtain ⟨h1, h2⟩ := keptF_second he hns
  exact (stepOf_iff fx hk ho orc flt (e.withOutput (keptF orc flt e)) _ he.langs).mpr
    ⟨(congrArg (fun x => e.corr (wr fx e x)) h1).symm, h2⟩

theorem updateEntry_secondG (fx : Fixes) (hk : fx.keepUnrun = true) (ho : fx.oneCorrection = true) (orc : Oracle)
    (os : Str) (e e1 : Entry) (c : Correction) (he : EntryOKG orc e) (h1 : updateEntry fx orc e = .cont [c])
    (hb : Built os e1 c) (hcanon : e.attrs = flagsOf os e.name e.attrsStr) :
    updateEntry fx orc e1 = .cont [c] :=
  (stepOf_run rfl).mp (StepOf.second (flt := fun _ => true) hk ho ((stepOf_run rfl).mpr h1) hb he.second hcanon)

theorem updateEntry_second (fx : Fixes) (hk : fx.keepUnrun = true) (ho : fx.oneCorrection = true) (orc : Oracle)
    (os : Str) (e e1 : Entry) (c : Correction) (he : EntryOK orc e) (h1 : updateEntry fx orc e = .cont [c])
    (hb : Built os e1 c) (hnc : ∀ l ∈ splitIncl (c.attrsStr ++ ['\n']), noCstLine l)
    (hcanon : e.attrs = flagsOf os e.name e.attrsStr) :
    updateEntry fx orc e1 = .cont [c] :=
  (stepOf_run rfl).mp (StepOf.second (flt := fun _ => true) hk ho ((stepOf_run rfl).mpr h1) hb he.second hcanon)

theorem updateEntries_all2_fixed (fx : Fixes) (hk : fx.keepUnrun = true) (ho : fx.oneCorrection = true) (orc : Oracle) :
    ∀ (es : List Entry) (acc cs : List Correction), (∀ e ∈ es, e.attrs.languages ≠ []) →
      updateEntries fx orc es acc = some cs →
      ∃ new, cs = acc ++ new ∧ All2 (fun e c => updateEntry fx orc e = .cont [c]) es new :=
  fun es acc cs hl => updateEntries_all2_of fx orc _ es acc cs fun e he cs' hu => by
    obtain ⟨c, rfl, -⟩ := singleton_of ((updateEntry_spec fx orc e cs' hu).2.2 hk ho (hl e he)) fun _ _ => trivial
    exact ⟨c, rfl, hu⟩

/-- A filtered update that reaches `write_tests` records exactly one correction per
test, in order, with the same name, attribute text, input AND delimiter lengths — for the tests the filter
carries over unprocessed unconditionally, for the others when they are run exactly once.  All filters. -/
theorem updateEntriesF_all2 (fx : Fixes) (orc : Oracle) (flt : Str → Bool) :
    ∀ (es : List Entry) (acc cs : List Correction), (∀ e ∈ es, flt e.name = true → RunOnce e) →
      updateEntriesF fx orc flt es acc = some cs →
      ∃ new, cs = acc ++ new ∧ All2 (fun e c => c.dkey = e.dkey) es new :=
  fun es acc cs hp => updateEntriesF_all2_of fx orc flt _ es acc cs
    (fun e he hf cs' hu => by
      obtain ⟨c, rfl, o, rfl⟩ := singleton_of ((updateEntry_spec fx orc e cs' hu).2.1 (hp e he hf))
        (updateEntry_corr fx orc e cs' hu)
      exact ⟨_, rfl, rfl⟩)
    (fun _ _ _ => rfl)

end TsVerif.C20
