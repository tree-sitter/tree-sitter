import TsVerif.C20.Format
import TsVerif.C20.Normalize
/-!
# C20 — `format_normalize`: normalising the formatted S-expression gives back the S-expression
-/
namespace TsVerif.C20

theorem normChars_append_eq {a b res r : Str} {prev p : Bool} (h : normChars a res prev = (r, p)) :
    normChars (a ++ b) res prev = normChars b r p := by
  rw [normChars_append, h]

theorem nc_ws_skip (ws res : Str) (prev : Bool) (h : ∀ c ∈ ws, isWs c = true) (hs : res = [] ∨ prev = true) :
    normChars ws res prev = (res, prev) := by
  induction ws with
  | nil => rfl
  | cons c cs ih =>
    have : (!prev && !res.isEmpty) = false := by rcases hs with rfl | rfl <;> simp
    simp only [normChars, h c List.mem_cons_self, ↓reduceIte, this, Bool.false_eq_true]
    exact ih (fun x hx => h x (List.mem_cons_of_mem _ hx))

theorem nc_ws_cons (c : Char) (rest res : Str) (hc : isWs c = true) (hr : res ≠ []) :
    normChars (c :: rest) res false = normChars rest (' ' :: res) true := by
  have : res.isEmpty = false := by simpa using hr
  simp [normChars, hc, this]

theorem nc_ws_first (c : Char) (ws res : Str) (hc : isWs c = true) (h : ∀ x ∈ ws, isWs x = true) (hr : res ≠ []) :
    normChars (c :: ws) res false = (' ' :: res, true) := by
  rw [nc_ws_cons c ws res hc hr]
  exact nc_ws_skip ws _ true h (Or.inr rfl)

theorem nc_name (w res : Str) (prev : Bool) (hne : w ≠ []) (h : ∀ c ∈ w, isWs c = false ∧ c ≠ ')') :
    normChars w res prev = (w.reverse ++ res, false) := by
  induction w generalizing res prev with
  | nil => exact absurd rfl hne
  | cons c cs ih =>
    obtain ⟨h1, h2⟩ := h c List.mem_cons_self
    have h2' : (c == ')') = false := by simpa using h2
    simp only [normChars, h1, Bool.false_eq_true, ↓reduceIte, h2', Bool.false_and]
    cases cs with
    | nil => simp [normChars]
    | cons d ds =>
      rw [ih _ _ (by simp) (fun x hx => h x (List.mem_cons_of_mem _ hx))]
      simp

theorem nc_parens (k : Nat) (res : Str) : normChars (List.replicate k ')') res false = (List.replicate k ')' ++ res, false) := by
  induction k generalizing res with
  | zero => rfl
  | succ k ih =>
    have : isWs ')' = false := by decide
    simp only [List.replicate_succ, normChars, this, Bool.false_eq_true, ↓reduceIte, Bool.and_false]
    rw [ih]
    simp [rep_shift]

/-- Characters that neither start a comment line nor take part in a CR-LF line end. -/
def okc (c : Char) : Prop := c ≠ ';' ∧ c ≠ '\r'

theorem nameCh_facts {c : Char} (h : nameCh c = true) : (isWs c = false ∧ c ≠ ')') ∧ okc c := by
  simp only [nameCh, Bool.and_eq_true, bne_iff_ne, ne_eq, Bool.not_eq_true'] at h
  refine ⟨⟨h.2, h.1.1.1.1.1.1.1.2⟩, h.1.2, ?_⟩
  rintro rfl
  exact absurd h.2 (by decide)

theorem nc_tok (t : Tok) (res : Str) (prev : Bool) (hn : match t with | .opn n _ => NameOK2 n | .fld n => NameOK2 n) :
    normChars (tokStr t) res prev = ((tokStr t).reverse ++ res, false) := by
  cases t with
  | opn n k =>
    have hw : ∀ c ∈ '(' :: n, isWs c = false ∧ c ≠ ')' :=
      List.forall_mem_cons.mpr ⟨by decide, fun c hc => (nameCh_facts (hn.2.1 c hc)).1⟩
    have e : tokStr (.opn n k) = ('(' :: n) ++ List.replicate k ')' := by simp [tokStr]
    rw [e, normChars_append, nc_name _ res prev (by simp) hw, nc_parens]
    simp
  | fld n =>
    have hw : ∀ c ∈ n ++ [':'], isWs c = false ∧ c ≠ ')' :=
      List.forall_mem_append.mpr ⟨fun c hc => (nameCh_facts (hn.2.1 c hc)).1, by simp +decide⟩
    exact nc_name _ res prev (by simp [tokStr]) hw

theorem indent_space (ind : Nat) : ∀ c ∈ indentStr ind, c = ' ' := by
  intro c hc
  simp only [indentStr, List.mem_flatten, List.mem_replicate] at hc
  obtain ⟨l, ⟨_, rfl⟩, hc⟩ := hc
  simpa using hc

theorem indent_ws (ind : Nat) : ∀ c ∈ indentStr ind, isWs c = true :=
  fun c hc => indent_space ind c hc ▸ by decide

theorem nc_openPre (ind : Nat) (hf : Bool) (res : Str) (hr : res ≠ []) (hi : hf = false → 0 < ind) :
    normChars (openPre ind hf) res hf = (if hf then res else ' ' :: res, hf || true) := by
  cases hf with
  | true => simp [openPre, normChars]
  | false =>
    have := hi rfl
    simp only [openPre, Bool.false_eq_true, ↓reduceIte, this]
    rw [nc_ws_first '\n' _ res (by decide) (indent_ws ind) hr]
    simp

/-- Not at the very beginning (`res ≠ []`, and `0 < ind` unless behind a field), so `openPre` is a line break, which the
normaliser turns into the one separating space — unless the space behind `field:` is already there (`hf`). -/
theorem nc_pretty :
    ∀ (toks : List Tok) (ind : Nat) (hf : Bool) (res : Str), Bal toks ind hf → res ≠ [] → (hf = false → 0 < ind) →
      normChars (prettyToks toks ind hf) res hf = ((joinToks toks).reverse ++ (if hf then res else ' ' :: res), false)
  | [], _, _, _, h, _, _ => by simp [Bal] at h
  | [.fld _], _, _, _, h, _, _ => by simp [Bal] at h
  | [.opn n k], ind, hf, res, h, hr, hi => by
    obtain ⟨hn, _, _⟩ := h
    have e : prettyToks [.opn n k] ind hf = openPre ind hf ++ tokStr (.opn n k) := by simp [prettyToks, tokStr]
    rw [e, normChars_append_eq (nc_openPre ind hf res hr hi), nc_tok (.opn n k) _ _ hn]
    simp [joinToks]
  | .opn n k :: t :: ts, ind, hf, res, h, hr, hi => by
    obtain ⟨hn, hk, hb⟩ := h
    have e : prettyToks (.opn n k :: t :: ts) ind hf =
        openPre ind hf ++ (tokStr (.opn n k) ++ prettyToks (t :: ts) (openInd ind hf - k) false) := by
      simp [prettyToks, tokStr]
    rw [e, normChars_append_eq (nc_openPre ind hf res hr hi), normChars_append_eq (nc_tok (.opn n k) _ _ hn),
      nc_pretty (t :: ts) _ false _ hb (by simp [tokStr]) (fun _ => by omega)]
    simp [joinToks, List.reverse_append]
  | .fld n :: t :: ts, ind, hf, res, h, hr, _ => by
    obtain ⟨hn, hb⟩ := h
    have e : prettyToks (.fld n :: t :: ts) ind hf =
        ('\n' :: indentStr ind) ++ (tokStr (.fld n) ++ (' ' :: prettyToks (t :: ts) (ind + 1) true)) := by
      simp [prettyToks, tokStr]
    have hpre : normChars ('\n' :: indentStr ind) res hf = (if hf then res else ' ' :: res, true) := by
      cases hf with
      | true => exact nc_ws_skip _ _ true (List.forall_mem_cons.mpr ⟨by decide, indent_ws ind⟩) (Or.inr rfl)
      | false => exact nc_ws_first '\n' _ res (by decide) (indent_ws ind) hr
    rw [e, normChars_append_eq hpre, normChars_append_eq (nc_tok (.fld n) _ _ hn),
      nc_ws_cons ' ' _ _ (by decide) (by simp [tokStr]), nc_pretty (t :: ts) _ true _ hb (by simp) (by simp)]
    simp [joinToks, tokStr, List.reverse_append]

theorem ends_paren : ∀ (toks : List Tok) (ind : Nat) (hf : Bool), Bal toks ind hf →
    (∃ x, prettyToks toks ind hf = x ++ [')']) ∧ ∃ y, joinToks toks = y ++ [')']
  | [], _, _, h => by simp [Bal] at h
  | [.fld _], _, _, h => by simp [Bal] at h
  | [.opn n k], ind, hf, h => by
    obtain ⟨_, hk, _⟩ := h
    obtain ⟨j, rfl⟩ : ∃ j, k = j + 1 := ⟨k - 1, by omega⟩
    exact ⟨⟨openPre ind hf ++ ('(' :: n ++ List.replicate j ')'), by simp [prettyToks, List.replicate_succ']⟩,
      '(' :: n ++ List.replicate j ')', by simp [joinToks, tokStr, List.replicate_succ']⟩
  | .opn n k :: t :: ts, ind, hf, h => by
    obtain ⟨⟨x, hx⟩, y, hy⟩ := ends_paren (t :: ts) _ false h.2.2
    exact ⟨⟨openPre ind hf ++ ('(' :: n ++ (List.replicate k ')' ++ x)), by simp [prettyToks, hx]⟩,
      tokStr (.opn n k) ++ ' ' :: y, by simp [joinToks, hy]⟩
  | .fld n :: t :: ts, ind, hf, h => by
    obtain ⟨⟨x, hx⟩, y, hy⟩ := ends_paren (t :: ts) _ true h.2
    exact ⟨⟨'\n' :: (indentStr ind ++ (n ++ (':' :: ' ' :: x))), by simp [prettyToks, hx]⟩,
      tokStr (.fld n) ++ ' ' :: y, by simp [joinToks, hy]⟩

theorem ok_indent (ind : Nat) : ∀ c ∈ indentStr ind, okc c :=
  fun c hc => indent_space ind c hc ▸ ⟨by decide, by decide⟩

theorem ok_openPre (ind : Nat) (hf : Bool) : ∀ c ∈ openPre ind hf, okc c := by
  unfold openPre
  split
  · simp
  · split
    · exact List.forall_mem_cons.mpr ⟨⟨by decide, by decide⟩, ok_indent ind⟩
    · simp

theorem ok_name (n : Str) (hn : NameOK2 n) : ∀ c ∈ n, okc c :=
  fun c hc => (nameCh_facts (hn.2.1 c hc)).2

theorem ok_rep (k : Nat) : ∀ c ∈ List.replicate k ')', okc c := by
  intro c hc
  have := (List.mem_replicate.mp hc).2
  subst this; exact ⟨by decide, by decide⟩

theorem pretty_chars : ∀ (toks : List Tok) (ind : Nat) (hf : Bool), Bal toks ind hf →
    ∀ c ∈ prettyToks toks ind hf, okc c
  | [], _, _, h => by simp [Bal] at h
  | [.fld _], _, _, h => by simp [Bal] at h
  | [.opn n k], ind, hf, h => by
    simp only [prettyToks, List.forall_mem_append, List.forall_mem_cons]
    exact ⟨ok_openPre ind hf, ⟨⟨by decide, by decide⟩, ok_name n h.1⟩, ok_rep k, by simp⟩
  | .opn n k :: t :: ts, ind, hf, h => by
    simp only [prettyToks, List.forall_mem_append, List.forall_mem_cons]
    exact ⟨ok_openPre ind hf, ⟨⟨by decide, by decide⟩, ok_name n h.1⟩, ok_rep k, pretty_chars (t :: ts) _ false h.2.2⟩
  | .fld n :: t :: ts, ind, hf, h => by
    simp only [prettyToks, List.forall_mem_append, List.forall_mem_cons]
    exact ⟨⟨by decide, by decide⟩, ok_indent ind, ok_name n h.1, ⟨by decide, by decide⟩, ⟨by decide, by decide⟩,
      pretty_chars (t :: ts) _ true h.2⟩

theorem nc_pretty_top (n : Str) (k : Nat) (ts : List Tok) (h : Bal (.opn n k :: ts) 0 false) :
    normChars (prettyToks (.opn n k :: ts) 0 false) [] false = ((joinToks (.opn n k :: ts)).reverse, false) := by
  cases ts with
  | nil =>
    obtain ⟨hn, _, _⟩ := h
    have e : prettyToks [.opn n k] 0 false = tokStr (.opn n k) := by simp [prettyToks, openPre, tokStr]
    rw [e, nc_tok (.opn n k) [] false hn]
    simp [joinToks]
  | cons t ts =>
    obtain ⟨hn, hk, hb⟩ := h
    have hk0 : k = 0 := by simp [openInd] at hk; omega
    subst hk0
    have e : prettyToks (.opn n 0 :: t :: ts) 0 false = tokStr (.opn n 0) ++ prettyToks (t :: ts) 1 false := by
      simp [prettyToks, openPre, tokStr, openInd]
    have hb' : Bal (t :: ts) 1 false := by simpa [openInd] using hb
    rw [e, normChars_append_eq (nc_tok (.opn n 0) [] false hn),
      nc_pretty (t :: ts) 1 false _ hb' (by simp [tokStr]) (fun _ => by omega)]
    simp [joinToks, List.reverse_append]

theorem trim_pretty (n : Str) (k : Nat) (ts : List Tok) (hbal : Bal (.opn n k :: ts) 0 false) :
    trim (prettyToks (.opn n k :: ts) 0 false) = prettyToks (.opn n k :: ts) 0 false := by
  obtain ⟨x, hx⟩ := (ends_paren _ _ _ hbal).1
  have hz : (prettyToks (.opn n k :: ts) 0 false).head? = some '(' := by cases ts <;> simp [prettyToks, openPre]
  rw [hx] at hz ⊢
  cases x with
  | nil => simp at hz
  | cons a w =>
    obtain rfl : a = '(' := by simpa using hz
    exact trim_of_ends w '(' ')' (by decide) (by decide)

/-- Leading white space leaves the result empty, the text gives the tokens joined by single spaces (`nc_pretty_top`),
trailing white space one space that `trim_end` removes. -/
theorem normalize_padded (n : Str) (k : Nat) (ts : List Tok) (h : Bal (.opn n k :: ts) 0 false) (pre post : Str)
    (hpre : ∀ c ∈ pre, c = '\n') (hpost : ∀ c ∈ post, c = '\n') :
    normalizeSexp (pre ++ (prettyToks (.opn n k :: ts) 0 false ++ post)) = joinToks (.opn n k :: ts) := by
  obtain ⟨y, hy⟩ := (ends_paren _ _ _ h).2
  have hnl : isWs '\n' = true := by decide
  have hT : ∀ c ∈ pre ++ (prettyToks (.opn n k :: ts) 0 false ++ post), okc c := by
    simp only [List.forall_mem_append]
    exact ⟨fun c hc => hpre c hc ▸ ⟨by decide, by decide⟩, pretty_chars _ _ _ h,
      fun c hc => hpost c hc ▸ ⟨by decide, by decide⟩⟩
  obtain ⟨tail, htail, hnorm⟩ := normalize_charwise _ (fun hm => (hT _ hm).1 rfl) (fun hm => (hT _ hm).2 rfl)
  have hws : ∀ x ∈ post ++ tail, isWs x = true := by
    intro x hx
    rcases List.mem_append.mp hx with hx | hx
    · exact hpost x hx ▸ hnl
    · rcases htail with rfl | rfl
      · cases hx
      · exact List.mem_singleton.mp hx ▸ hnl
  have hlast : trimEnd (joinToks (.opn n k :: ts)) = joinToks (.opn n k :: ts) := by
    rw [hy]
    exact dropWhileEnd_snoc_false isWs y ')' (by decide)
  rw [hnorm, List.append_assoc, List.append_assoc,
    normChars_append_eq (nc_ws_skip pre [] false (fun c hc => hpre c hc ▸ hnl) (Or.inl rfl)),
    normChars_append_eq (nc_pretty_top n k ts h)]
  cases hpt : post ++ tail with
  | nil => simp [normChars, hlast]
  | cons c ws =>
    rw [hpt] at hws
    rw [nc_ws_first c ws _ (hws c (by simp)) (fun x hx => hws x (List.mem_cons_of_mem _ hx)) (by rw [hy]; simp)]
    simp only [List.reverse_cons, List.reverse_reverse]
    rw [trimEnd, dropWhileEnd_snoc_true isWs _ ' ' (by decide)]
    exact hlast

theorem normalize_pretty (n : Str) (k : Nat) (ts : List Tok) (h : Bal (.opn n k :: ts) 0 false) :
    normalizeSexp (trim (prettyToks (.opn n k :: ts) 0 false)) = joinToks (.opn n k :: ts) := by
  rw [trim_pretty n k ts h]
  simpa using normalize_padded n k ts h [] [] (by simp) (by simp)

/-- The expectation section of a written test — a blank line, the pretty-printed
S-expression, a newline and possibly one more blank line — normalises to the one-line S-expression. -/
theorem normalize_section (n : Str) (k : Nat) (ts : List Tok) (h : Bal (.opn n k :: ts) 0 false) (sepf : Str)
    (hsep : sepf = [] ∨ sepf = ['\n']) :
    normalizeSexp ('\n' :: (prettyToks (.opn n k :: ts) 0 false ++ '\n' :: sepf)) = joinToks (.opn n k :: ts) :=
  normalize_padded n k ts h ['\n'] ('\n' :: sepf) (by simp) (by rcases hsep with rfl | rfl <;> simp)

/-- For every one-line S-expression made of `(name` / `field:` tokens with balanced
parentheses (what `ts_node_string` prints for an error-free tree), formatting it with `format_sexp` and
normalising the result with `normalize_sexp_output` gives back the S-expression — for every setting of the repair
flags (the class has no quote characters). -/
theorem format_normalize (fx : Fixes) (n : Str) (k : Nat) (ts : List Tok) (h : Bal (.opn n k :: ts) 0 false) :
    normalizeSexp (trim (formatSexp fx (joinToks (.opn n k :: ts)))) = joinToks (.opn n k :: ts) := by
  rw [format_tokens fx _ h, normalize_pretty n k ts h]

end TsVerif.C20
