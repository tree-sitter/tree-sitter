import TsVerif.C20.Format
import TsVerif.C20.SimpleDec
/-!
# C20 judge — the property's clauses decided on the REAL files and the REAL `parse_tests` results

Inputs of one case (all produced by the implementation): the original file, the entries
`parse_tests` returned for it (`ent0`), the file after the first `--update` (`after1`, and whether
the file was written at all), the entries read back from it (`ent1`), the file after a second
update (`after2`), and the table input ↦ rendering of the real parser.
-/
namespace TsVerif.C20

/-- How `ent1` (tests read back after the update) differs from `ent0` on the keys
(name, attribute text, attribute flags, input), classified by what happened to each original test. -/
def classify : List Entry → List Entry → List String
  | [], [] => []
  | [], _ :: _ => ["extra-tests"]
  | e :: es, rs =>
    let headSame := match rs with
      | r :: _ => r.key == e.key
      | [] => false
    if e.attrs.expect == .skip && !headSame then "skip-dropped" :: classify es rs
    else if !e.attrs.platform && !headSame then "platform-dropped" :: classify es rs
    else match rs with
      | [] => ["missing-tests"]
      | r :: rs' =>
        if r.key == e.key then
          let n := e.attrs.languages.length
          let nextSame := match es with
            | e2 :: _ => e2.key == e.key
            | [] => false
          if n > 1 && !nextSame && (rs'.take (n - 1)).length == n - 1 && (rs'.take (n - 1)).all (·.key == e.key) then
            "language-dup" :: classify es (rs'.drop (n - 1))
          else classify es rs'
        else ["key-changed"]

/-- `update_passes` on one entry read back after the update: a test that is run (not skipped, on
this platform, no `:error`) and whose parse is error-free has `expected = actual`. -/
def entryPasses (orc : Oracle) (e : Entry) : Bool :=
  if e.attrs.expect != .pass || !e.attrs.platform then true
  else (e.attrs.languages.take 1).all fun l =>   -- the expectation written is the first language's
    match orc l e.input with
    | none => true
    | some a =>
      let actual := if e.attrs.cst then a.cst else if e.hasFields then a.sexpFields else a.sexpPlain
      a.hasError || containsSub strERROR actual || containsSub strMISSING actual || actual == e.output

structure JudgeIn where
  fx : Fixes
  flt : Str → Bool        -- `matches_filter` of the update runs (constant `true` without a filter)
  os : Str
  orig : Str
  ent0 : List Entry
  wrote1 : Bool
  after1 : Str
  ent1 : List Entry
  after2 : Str
  orc : Oracle
  sexps : List Str        -- every S-expression the runtime printed for an error-free tree in this case
  allSexps : List Str := []  -- every S-expression the runtime printed in this case (error trees included)

/-- Well-formedness of an expectation (the property is about well-formed corpus files): empty, or one
parenthesised group — starts with `(`, the depth returns to 0 exactly at the last character. -/
def sexpLikeAux : Str → Nat → Bool
  | [], d => d == 0
  | c :: cs, d =>
    if c == '(' then sexpLikeAux cs (d + 1)
    else if c == ')' then (if d == 0 then false else if d == 1 then cs.isEmpty else sexpLikeAux cs (d - 1))
    else d > 0 && sexpLikeAux cs d

def sexpLike (s : Str) : Bool := s.isEmpty || sexpLikeAux s 0

def dedup (xs : List String) : List String :=
  xs.foldl (fun acc x => if acc.contains x then acc else acc ++ [x]) []

/-- The updater the property describes (all repairs): used only to say which corrections a correct `--update`
would write for the tests of a file — independent of the variant of the code under test. -/
def fxSpec : Fixes :=
  { keepUnrun := true, oneCorrection := true, keepSuffixPreamble := true, quoteReset := true, keepCstFiltered := true, sameQuote := true }

/-- The corrections a correct update writes for these tests (`none`: the run stops before writing). -/
def specCorrections (j : JudgeIn) : Option (List Correction) := updateEntriesF fxSpec j.orc j.flt j.ent0 []

/-- Well-formedness of the FILE for the preservation clauses ("on any well-formed corpus file"): its tests,
written in the writer's canonical form (leading text, the file's suffix, the delimiter lengths of each test),
are delimited unambiguously — by the reader's specification (`parseFile`) they read back as the same tests
with the same names, attribute text, inputs and delimiter lengths.  A file fails this only when a line of
an input or of an expectation to be written is itself a delimiter line of this file (e.g. a `:cst`
expectation `--------` as long as its divider).  `roundtrip_built`: implied by `SimpleS` of the corrections
(measured: `simples ⇒ canon` is asserted by the check on every real case). -/
def canonB (j : JudgeIn) : Bool :=
  match specCorrections j with
  | none => true
  | some cs =>
    let suf := (firstSuffix (splitIncl j.orig)).getD []
    (parseFile j.os (preamble j.os j.orig ++ writeTests suf cs)).map Entry.dkey == cs.map Correction.dkey

/-- The syntactic hypothesis of `update_preserves_general` / `update_idempotent_general` on this file. -/
def simplesB (j : JudgeIn) : Bool :=
  match specCorrections j with
  | none => true
  | some cs => simpleSAll ((firstSuffix (splitIncl j.orig)).getD []) cs

/-- Failed clauses (empty = the property holds on this case). -/
def judge (j : JudgeIn) : List String :=
  let canon := canonB j
  -- READING: the tests the real reader returned are the ones delimited in the file by the specification of a
  -- delimiter line (a run of ≥ 3 `=` / `-`, then EXACTLY the file's suffix, then the line ending): same names,
  -- attribute text, flags, inputs, in the same order
  let read := if (parseFile j.os j.orig).map Entry.key != j.ent0.map Entry.key then ["read-differs"] else []
  let pres := if canon then dedup (classify j.ent0 j.ent1) else []
  let lines0 := splitIncl j.orig
  let lines1 := splitIncl j.after1
  -- a suffixed file must not gain suffix-less `===` lines: the new file has, for each length, at most as many
  -- `===` lines without suffix as the old file (there it was inside an input or expectation)
  -- (a `===` line followed only by white space counts as suffix-less on both sides: writing an expectation back
  -- trims it)
  let bare (old : Bool) (ls : List Str) : List Nat := ls.filterMap fun l =>
    match parseDelimLine (if old then trimStart l else l) '=' with
    | some (n, s) => if (trim s).isEmpty then some n else none
    | _ => none
  -- (old side: white space in front of the run is ignored too — a `:cst` expectation is trimmed when written back)
  let suffix := if canon && j.wrote1 && (firstSuffix lines0).isSome && !((bare false lines1).all fun n => (bare false lines1).count n ≤ (bare true lines0).count n) then ["suffix-lost"] else []
  let pre := if canon && !j.ent1.isEmpty && preamble j.os j.orig != preamble j.os j.after1 then ["preamble-deleted"] else []
  let wf := j.ent0.all fun e => e.attrs.cst || sexpLike e.output
  -- only tests that the filter lets run are updated, hence required to pass
  let passes := if canon && j.wrote1 && !(j.ent1.all fun e => !j.flt e.name || entryPasses j.orc e) then ["passes"] else []
  -- delimiter lengths are not expected outputs: they stay
  let delims := if canon && pres.isEmpty && j.ent0.length == j.ent1.length &&
      !((j.ent0.zip j.ent1).all fun (a, b) => a.hlen == b.hlen && a.dlen == b.dlen) then ["delims-changed"] else []
  -- a test the filter excludes from the run keeps its (well-formed) expectation
  let keep := if canon && pres.isEmpty && j.ent0.length == j.ent1.length &&
      !((j.ent0.zip j.ent1).all fun (a, b) => j.flt a.name || !(a.attrs.cst || a.output.isEmpty || inFormatClass a.output) || a.output == b.output)
    then ["filtered-expectation-changed"] else []
  -- a test that passes as written (expectation = what the parser prints, error nodes or not) is only re-formatted:
  -- its expectation reads back unchanged
  let passesNow (e : Entry) : Bool :=
    e.attrs.expect == .pass && e.attrs.platform && !e.attrs.languages.isEmpty &&
    (e.attrs.languages.take 1).all fun l => match j.orc l e.input with
      | none => false
      | some a => (if e.attrs.cst then a.cst else if e.hasFields then a.sexpFields else a.sexpPlain) == e.output
  -- likewise a test whose expectation the update must KEEP (skipped, other platform, `:error`, or a parse with error /
  -- MISSING nodes that does not match): it is only re-formatted.  Judged for well-shaped expectations (one group / CST)
  -- of tests with at most one language;
  -- well-shaped: `:cst`, empty, a balanced token sequence, or literally something the runtime printed in this case.
  let keptBySpec (e : Entry) : Bool :=
    (e.attrs.cst || e.output.isEmpty || inFormatClass e.output || j.allSexps.contains e.output) && e.attrs.languages.length ≤ 1 &&
    (e.attrs.expect != .pass || !e.attrs.platform ||
      (e.attrs.languages.take 1).all fun l => match j.orc l e.input with
        | none => false
        | some a =>
          let actual := if e.attrs.cst then a.cst else if e.hasFields then a.sexpFields else a.sexpPlain
          actual != e.output && (a.hasError || containsSub strERROR actual || containsSub strMISSING actual))
  -- (cause-specific: when EVERY offending expectation holds a quoted quote character of the same kind — `"""`, `'''`,
  -- what the runtime prints for a missing / unexpected quote token — the clause is named apart)
  let sameQuoteTok (o : Str) : Bool := containsSub ['"', '"', '"'] o || containsSub ['\'', '\'', '\''] o
  let offending := if canon && j.wrote1 && pres.isEmpty && j.ent0.length == j.ent1.length then
      (j.ent0.zip j.ent1).filter fun (a, b) => a.output != b.output &&
        ((j.flt a.name && (passesNow a || keptBySpec a)) ||
         -- carried over by a filtered update with an expectation the runtime printed (S-expression): only re-formatted
         (!j.flt a.name && !a.attrs.cst && j.allSexps.contains a.output))
    else []
  let kept := if offending.isEmpty then []
    else if offending.all fun (a, _) => sameQuoteTok a.output then ["passing-changed-same-quote"] else ["passing-changed"]
  let idem := if wf && canon && j.after2 != j.after1 then ["idempotent"] else []
  let fmt := if j.sexps.all (fun s => normalizeSexp (trim (formatSexp j.fx s)) == s) then [] else ["format-normalize"]
  read ++ pres ++ suffix ++ pre ++ delims ++ keep ++ kept ++ passes ++ idem ++ fmt

end TsVerif.C20
