import TsVerif.C20.Str
import TsVerif.C20.Spec
/-!
# C20 — `parse_header` on any header block

Delimiter lines, and the loop of `parse_header` over a block `opening line :: name lines ++ attribute region ++ closing line`,
whoever wrote it: the state after the block is `foldHeader` of the region (`parseHeader_block`), and whether a line opens a header
depends only on the lines up to the next delimiter (`parseHeader_none_stable`).
-/
namespace TsVerif.C20

theorem takeWhile_of_head {c : Char} {l : Str} (h : l.head? ≠ some c) : l.takeWhile (· == c) = [] := by
  cases l with
  | nil => rfl
  | cons x xs =>
    have : (x == c) = false := by simpa using fun h' => h (by simp [h'])
    simp [List.takeWhile, this]

theorem takeWhile_rep (c : Char) (n : Nat) (rest : Str) (h : rest.head? ≠ some c) :
    (rep c n ++ rest).takeWhile (· == c) = rep c n := by
  rw [List.takeWhile_append_of_pos (by simp [rep]), takeWhile_of_head h, List.append_nil]

theorem parseDelimLine_rep (c : Char) (n : Nat) (suf : Str) (hn : 3 ≤ n) (hc : c ≠ '\n') (hs : SufOK c suf) :
    parseDelimLine (rep c n ++ (suf ++ ['\n'])) c = some (n, suf) := by
  unfold parseDelimLine
  have hhead : (suf ++ ['\n']).head? ≠ some c := by
    cases suf with
    | nil => simpa using fun h => hc h.symm
    | cons x xs => simpa using hs.1
  have hlen : (rep c n).length = n := by simp [rep]
  rw [takeWhile_rep c n _ hhead, hlen, if_neg (by omega), List.drop_left' hlen, dropWhileEnd_snoc_true _ _ _ (by simp),
    dropWhileEnd_all_not]
  intro x hx
  simp [(hs.2 x hx).1, (hs.2 x hx).2]

theorem parseDelimLine_noDelim {c : Char} {l : Str} (h : NoDelim c l) : parseDelimLine l c = none := by
  unfold parseDelimLine NoDelim at *
  simp [h]

theorem noDelim_of_head {c : Char} {l : Str} (h : l.head? ≠ some c) : NoDelim c l := by
  unfold NoDelim
  rw [takeWhile_of_head h]
  decide

theorem parseHeader_none_of_notHdr (fs : Option Str) (os : Str) (l : Str) (ls : List Str)
    (h : isHeaderDelim fs l = false) : parseHeader fs os (l :: ls) = none := by
  unfold isHeaderDelim at h
  simp only [parseHeader]
  cases hd : parseDelimLine l '=' with
  | none => rfl
  | some ns =>
    obtain ⟨n, sfx⟩ := ns
    simp only [hd] at h
    simp [h]

theorem isHeaderDelim_of_parseHeader (fs : Option Str) (os : Str) (H : Str) (R : List Str)
    (h : (parseHeader fs os (H :: R)).isSome = true) : isHeaderDelim fs H = true := by
  cases hd : isHeaderDelim fs H
  · rw [parseHeader_none_of_notHdr fs os H R hd] at h; cases h
  · rfl

theorem suffixMatches_fsOf (suf : Str) : suffixMatches (fsOf suf) suf = true := by
  cases suf <;> simp [fsOf, suffixMatches]

theorem stripPrefix_append (s t : Str) : stripPrefix s (s ++ t) = some t := by
  induction s with
  | nil => rfl
  | cons c cs ih => simp [stripPrefix, ih]

theorem noDelim_nl (c : Char) (h : c ≠ '\n') : NoDelim c ['\n'] :=
  noDelim_of_head (by simpa using fun h' => h h'.symm)

theorem isHeaderDelim_rep (suf : Str) (n : Nat) (hn : 3 ≤ n) (hs : SufOK '=' suf) :
    isHeaderDelim (fsOf suf) (rep '=' n ++ (suf ++ ['\n'])) = true := by
  simp [isHeaderDelim, parseDelimLine_rep '=' n suf hn (by decide) hs, suffixMatches_fsOf]

theorem isHeaderDelim_noDelim (fs : Option Str) (l : Str) (h : NoDelim '=' l) : isHeaderDelim fs l = false := by
  simp [isHeaderDelim, parseDelimLine_noDelim h]

theorem headerLine_name (os : Str) (st : HState) (l : Str) (hs : st.seenMarker = false) (h : NameLineOK l) :
    headerLine os st l = some { st with testName := st.testName ++ l } := by
  have hm := h.2.2
  simp only [kwds, List.mem_cons, List.not_mem_nil, or_false, not_or] at hm
  have hne : (trim l).isEmpty = false := by simpa using h.2.1
  unfold headerLine
  simp only [hne, Bool.false_and, Bool.false_eq_true, ↓reduceIte]
  simp [hm, hs]

theorem headerLoop_names (fs : Option Str) (os : Str) (rest : List Str) :
    ∀ (nls : List Str) (st : HState) (k : Nat), st.seenMarker = false → (∀ l ∈ nls, NameLineOK l) →
      headerLoop fs os (nls ++ rest) st k =
        headerLoop fs os rest { st with testName := st.testName ++ nls.flatten } (k + nls.length)
  | [], st, k, _, _ => by simp
  | l :: ls, st, k, hs, h => by
    have hl := h l List.mem_cons_self
    simp only [List.cons_append, headerLoop, isHeaderDelim_noDelim fs l hl.1, Bool.false_eq_true, ↓reduceIte,
      headerLine_name os st l hs hl]
    have ih := headerLoop_names fs os rest ls { st with testName := st.testName ++ l } (k + 1) hs
      (fun x hx => h x (List.mem_cons_of_mem _ hx))
    refine ih.trans ?_
    have e : k + 1 + ls.length = k + (l :: ls).length := by simp; omega
    rw [e]; simp [List.append_assoc]

/-- Every keyword branch of `headerLine` sets `seenMarker`; an argument-less `:platform` / `:language` line and a line
without keyword return the state as it is, and such a line is no `markerLine`. -/
theorem headerLine_attr (os : Str) (st : HState) (l : Str) (h : st.seenMarker = true ∨ markerLine l = true) :
    ∃ st', headerLine os st l = some st' ∧ st'.seenMarker = true ∧ st'.testName = st.testName ∧
      (noCstLine l → st'.cst = st.cst) := by
  unfold markerLine at h
  unfold headerLine noCstLine
  dsimp only at h ⊢
  generalize (trim l).takeWhile (· != '(') = hd at h ⊢
  have hb : ((trim l).isEmpty && !st.seenMarker) = false := by
    rcases h with h | h
    · rw [h, Bool.not_true, Bool.and_false]
    · cases ht : (trim l).isEmpty
      · rfl
      · rw [ht] at h; cases h
  replace h : st.seenMarker = true ∨ (hd == kwSkip || hd == kwFailFast || hd == kwError || hd == kwCst ||
      (hd == kwPlatform && (markerArg nmPlatform (trim l)).isSome) ||
      (hd == kwLanguage && (markerArg nmLanguage (trim l)).isSome)) = true :=
    h.imp_right fun h => (Bool.and_eq_true _ _ ▸ h).2
  rw [hb, if_neg Bool.false_ne_true]
  by_cases h1 : (hd == kwSkip) = true
  · exact ⟨_, if_pos h1, rfl, rfl, fun _ => rfl⟩
  rw [if_neg h1]
  by_cases h2 : (hd == kwPlatform) = true
  · rw [if_pos h2]
    cases hm : markerArg nmPlatform (trim l)
    · refine ⟨_, rfl, h.resolve_right ?_, rfl, fun _ => rfl⟩
      cases eq_of_beq h2
      rw [hm]; cases (markerArg nmLanguage (trim l)).isSome <;> decide
    · exact ⟨_, rfl, rfl, rfl, fun _ => rfl⟩
  rw [if_neg h2]
  by_cases h3 : (hd == kwFailFast) = true
  · exact ⟨_, if_pos h3, rfl, rfl, fun _ => rfl⟩
  rw [if_neg h3]
  by_cases h4 : (hd == kwError) = true
  · exact ⟨_, if_pos h4, rfl, rfl, fun _ => rfl⟩
  rw [if_neg h4]
  by_cases h5 : (hd == kwLanguage) = true
  · rw [if_pos h5]
    cases hm : markerArg nmLanguage (trim l)
    · refine ⟨_, rfl, h.resolve_right ?_, rfl, fun _ => rfl⟩
      cases eq_of_beq h5
      rw [hm]; cases (markerArg nmPlatform (trim l)).isSome <;> decide
    · exact ⟨_, rfl, rfl, rfl, fun _ => rfl⟩
  rw [if_neg h5]
  by_cases h6 : (hd == kwCst) = true
  · exact ⟨_, if_pos h6, rfl, rfl, fun hc => absurd (eq_of_beq h6) hc⟩
  have hs : st.seenMarker = true := h.resolve_right (by simp [h1, h2, h3, h4, h5, h6])
  rw [if_neg h6, hs]
  exact ⟨_, rfl, hs, rfl, fun _ => rfl⟩

theorem headerLine_seen (os : Str) (st : HState) (l : Str) (hs : st.seenMarker = true) :
    ∃ st', headerLine os st l = some st' ∧ st'.seenMarker = true ∧ st'.testName = st.testName ∧
      (noCstLine l → st'.cst = st.cst) :=
  headerLine_attr os st l (Or.inl hs)

theorem headerLine_marker (os : Str) (st : HState) (l : Str) (h : markerLine l = true) :
    ∃ st', headerLine os st l = some st' ∧ st'.seenMarker = true ∧ st'.testName = st.testName ∧
      (noCstLine l → st'.cst = st.cst) :=
  headerLine_attr os st l (Or.inr h)

theorem headerLoop_region (fs : Option Str) (os : Str) (H : Str) (rest : List Str) (hH : isHeaderDelim fs H = true) :
    ∀ (als : List Str) (st : HState) (k : Nat),
      (st.seenMarker = true ∨ ∀ l, als.head? = some l → markerLine l = true) → (∀ l ∈ als, NoDelim '=' l) →
      ∃ st', headerLoop fs os (als ++ H :: rest) st k = some (st', k + als.length + 1) ∧ st'.testName = st.testName ∧
        ((∀ l ∈ als, noCstLine l) → st'.cst = st.cst) ∧ st' = foldHeader os als st
  | [], st, k, _, _ => ⟨st, by simp [headerLoop, hH], rfl, fun _ => rfl, rfl⟩
  | l :: ls, st, k, hs, hnd => by
    obtain ⟨st1, h1, h2, h3, h3c⟩ := headerLine_attr os st l (hs.imp_right fun h => h l rfl)
    obtain ⟨st', h4, h5, h5c, h5f⟩ := headerLoop_region fs os H rest hH ls st1 (k + 1) (Or.inl h2)
      (fun x hx => hnd x (List.mem_cons_of_mem _ hx))
    refine ⟨st', ?_, h5.trans h3, fun hc => (h5c (fun x hx => hc x (List.mem_cons_of_mem _ hx))).trans (h3c (hc l (by simp))),
      by simp [foldHeader, h1, h5f]⟩
    simp only [List.cons_append, headerLoop, isHeaderDelim_noDelim fs l (hnd l List.mem_cons_self), Bool.false_eq_true,
      ↓reduceIte, h1, h4, List.length_cons]
    congr 2; omega

theorem headerLoop_attrs (fs : Option Str) (os : Str) (H : Str) (rest : List Str) (hH : isHeaderDelim fs H = true) :
    ∀ (als : List Str) (st : HState) (k : Nat), st.seenMarker = true → (∀ l ∈ als, NoDelim '=' l) →
      ∃ st', headerLoop fs os (als ++ H :: rest) st k = some (st', k + als.length + 1) ∧ st'.testName = st.testName ∧
        ((∀ l ∈ als, noCstLine l) → st'.cst = st.cst) ∧ st' = foldHeader os als st :=
  fun als st k hs hnd => headerLoop_region fs os H rest hH als st k (Or.inl hs) hnd

theorem headerLoop_block (fs : Option Str) (os : Str) (N A : List Str) (H : Str) (rest : List Str)
    (hN : ∀ l ∈ N, NameLineOK l) (hA : ∀ l ∈ A, NoDelim '=' l) (hfirst : ∀ l, A.head? = some l → markerLine l = true)
    (hH : isHeaderDelim fs H = true) :
    ∃ st', headerLoop fs os (N ++ (A ++ H :: rest)) {} 0 = some (st', N.length + A.length + 1) ∧
      st'.testName = N.flatten ∧ ((∀ l ∈ A, noCstLine l) → st'.cst = false) ∧
      st' = foldHeader os A { testName := N.flatten } := by
  have := headerLoop_region fs os H rest hH A { testName := N.flatten } N.length (Or.inr hfirst) hA
  rw [headerLoop_names fs os _ N {} 0 rfl hN]
  simpa using this

theorem parseHeader_block (fs : Option Str) (os l0 : Str) (N A : List Str) (H : Str) (rest : List Str) {hlen : Nat} {sfx : Str}
    (hd : parseDelimLine l0 '=' = some (hlen, sfx)) (hm : suffixMatches fs sfx = true)
    (hN : ∀ l ∈ N, NameLineOK l) (hA : ∀ l ∈ A, NoDelim '=' l) (hfirst : ∀ l, A.head? = some l → markerLine l = true)
    (hH : isHeaderDelim fs H = true) :
    ∃ p, parseHeader fs os (l0 :: (N ++ (A ++ H :: rest))) = some (p, N.length + A.length + 2) ∧
      p.name = trimEnd N.flatten ∧ p.attrsStr = trimEnd A.flatten ∧ p.hlen = hlen ∧
      ((∀ l ∈ A, noCstLine l) → p.attrs.cst = false) ∧
      p.attrs = attrsOfState (foldHeader os A { testName := N.flatten }) := by
  obtain ⟨st', hloop, htn, hcst, hfl⟩ := headerLoop_block fs os N A H rest hN hA hfirst hH
  have htake : ((N ++ (A ++ H :: rest)).take (N.length + A.length + 1 - 1)).flatten = N.flatten ++ A.flatten := by
    have : N.length + A.length + 1 - 1 = (N ++ A).length := by simp
    rw [this, ← List.append_assoc, List.take_left' rfl]
    simp
  simp only [parseHeader, hd, hm, Bool.not_true, Bool.false_eq_true, ↓reduceIte, hloop, htake, htn, stripPrefix_append,
    Option.getD_some]
  exact ⟨_, rfl, rfl, rfl, rfl, hcst, hfl ▸ rfl⟩

theorem parseHeader_block_of_some (fs : Option Str) (os l0 : Str) (N A : List Str) (H : Str) (rest : List Str)
    (p : Pending) (k : Nat) (hp : parseHeader fs os (l0 :: (N ++ (A ++ H :: rest))) = some (p, k))
    (hN : ∀ l ∈ N, NameLineOK l) (hA : ∀ l ∈ A, NoDelim '=' l) (hfirst : ∀ l, A.head? = some l → markerLine l = true)
    (hH : isHeaderDelim fs H = true) :
    p.name = trimEnd N.flatten ∧ p.attrsStr = trimEnd A.flatten ∧
      p.attrs = attrsOfState (foldHeader os A { testName := N.flatten }) := by
  cases hd : parseDelimLine l0 '=' with
  | none => simp [parseHeader, hd] at hp
  | some ns =>
    by_cases hm : suffixMatches fs ns.2 = true
    · obtain ⟨q, hq, h1, h2, _, _, h5⟩ := parseHeader_block fs os l0 N A H rest hd hm hN hA hfirst hH
      cases hq.symm.trans hp
      exact ⟨h1, h2, h5⟩
    · simp [parseHeader, hd, hm] at hp

theorem headerLoop_none_stable (fs : Option Str) (os : Str) (H H' : Str) (R R' : List Str)
    (hH : isHeaderDelim fs H = true) (hH' : isHeaderDelim fs H' = true) :
    ∀ (A : List Str) (st : HState) (k : Nat),
      headerLoop fs os (A ++ H :: R) st k = none → headerLoop fs os (A ++ H' :: R') st k = none
  | [], st, k, h => by simp [headerLoop, hH] at h
  | x :: A, st, k, h => by
    simp only [List.cons_append, headerLoop] at h ⊢
    by_cases hx : isHeaderDelim fs x = true
    · simp [hx] at h
    · simp only [hx, Bool.false_eq_true, ↓reduceIte] at h ⊢
      cases hl : headerLine os st x with
      | none => rfl
      | some st' =>
        simp only [hl] at h ⊢
        exact headerLoop_none_stable fs os H H' R R' hH hH' A st' (k + 1) h

theorem parseHeader_none_stable (fs : Option Str) (os : Str) (H H' : Str) (R R' : List Str)
    (hH : isHeaderDelim fs H = true) (hH' : isHeaderDelim fs H' = true) (l : Str) (A : List Str)
    (h : parseHeader fs os (l :: (A ++ H :: R)) = none) : parseHeader fs os (l :: (A ++ H' :: R')) = none := by
  simp only [parseHeader] at h ⊢
  cases hd : parseDelimLine l '=' with
  | none => simp
  | some ns =>
    obtain ⟨n, sfx⟩ := ns
    simp only [hd] at h ⊢
    by_cases hm : suffixMatches fs sfx = true
    · simp only [hm, Bool.not_true, Bool.false_eq_true, ↓reduceIte] at h ⊢
      cases hl : headerLoop fs os (A ++ H :: R) {} 0 with
      | none => simp [headerLoop_none_stable fs os H H' R R' hH hH' A {} 0 hl]
      | some r => simp [hl] at h
    · simp [hm]

end TsVerif.C20
