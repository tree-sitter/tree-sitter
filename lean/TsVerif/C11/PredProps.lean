import TsVerif.C11.Model
/-!
# C11 — the ported text-predicate loops against the documented reading

`loopStrImpl = !all || loopStrFixed` (`loopStrImpl_eq`): the loop of `satisfies_text_predicates` as it stood before
`fixes/C11-any-predicates.diff` (`…Impl`) differs from the loop with that fix (`…Fixed`; lib.rs now returns
`*match_all_nodes` after the loop) only in what falling off the end yields.  So the earlier code is the documented
reading for `all` predicates and constantly true for the `any-` string forms.
-/
namespace TsVerif.C11

theorem loopStrFixed_spec (test : Bytes → Bool) (pos all : Bool) :
    ∀ ts, loopStrFixed test pos all ts = specStr test pos all ts
  | [] => by cases all <;> rfl
  | t :: ts => by
    unfold loopStrFixed
    rw [loopStrFixed_spec test pos all ts]
    simp only [specStr, List.all_cons, List.any_cons, bne]
    rcases Bool.eq_false_or_eq_true (test t == pos) with he | he <;> cases all <;> simp [he]

theorem loopStrImpl_eq (test : Bytes → Bool) (pos all : Bool) :
    ∀ ts, loopStrImpl test pos all ts = (!all || loopStrFixed test pos all ts)
  | [] => by cases all <;> rfl
  | t :: ts => by
    unfold loopStrImpl loopStrFixed
    rw [loopStrImpl_eq test pos all ts]
    cases all <;> cases test t <;> cases pos <;> rfl

theorem loopStrImpl_all (test : Bytes → Bool) (pos : Bool) (ts : List Bytes) :
    loopStrImpl test pos true ts = specStr test pos true ts :=
  (loopStrImpl_eq test pos true ts).trans (loopStrFixed_spec test pos true ts)

theorem loopCapFixed_spec (pos all : Bool) :
    ∀ l1 l2, loopCapFixed pos all l1 l2 = specCap pos all l1 l2
  | [], [] | [], _ :: _ | _ :: _, [] => by cases all <;> rfl
  | t1 :: r1, t2 :: r2 => by
    unfold loopCapFixed
    rw [loopCapFixed_spec pos all r1 r2]
    simp only [specCap, List.zip_cons_cons, List.all_cons, List.any_cons, List.length_cons, bne]
    rcases Bool.eq_false_or_eq_true (decide (t1 = t2) == pos) with he | he <;> cases all <;> simp [he]

theorem loopCapImpl_eq (pos : Bool) : ∀ l1 l2, loopCapImpl pos true l1 l2 = loopCapFixed pos true l1 l2
  | [], [] | [], _ :: _ | _ :: _, [] => rfl
  | _ :: r1, _ :: r2 => by
    unfold loopCapImpl loopCapFixed
    rw [loopCapImpl_eq pos r1 r2]

theorem loopCapImpl_all (pos : Bool) (l1 l2 : List Bytes) : loopCapImpl pos true l1 l2 = specCap pos true l1 l2 :=
  (loopCapImpl_eq pos l1 l2).trans (loopCapFixed_spec pos true l1 l2)

/-- With `fixes/C11-any-predicates.diff` the evaluator is the documented
reading, for every predicate, capture list and regex engine. -/
theorem predicates_spec_fixed (isMatch : Bytes → Bytes → Bool) (caps : List (Nat × Bytes)) (p : TextPred) :
    evalFixed isMatch caps p = evalSpec isMatch caps p := by
  cases p with
  | eqCapture i j pos all => exact loopCapFixed_spec pos all _ _
  | eqString i s pos all => exact loopStrFixed_spec _ pos all _
  | matchString i re pos all => exact loopStrFixed_spec _ pos all _
  | anyString i vs pos => rfl

/-- Before that fix the evaluator is the documented reading for every
predicate that quantifies over all nodes (`eq? not-eq? match? not-match? any-of? not-any-of?`).
Missing for the full statement: the `any-` forms, see `predicates_impl_any_str_true`. -/
theorem predicates_spec_partial (isMatch : Bytes → Bytes → Bool) (caps : List (Nat × Bytes)) (p : TextPred)
    (h : p.isAll = true) : evalImpl isMatch caps p = evalSpec isMatch caps p := by
  cases p with
  | eqCapture i j pos all => simp only [TextPred.isAll] at h; subst h; exact loopCapImpl_all pos _ _
  | eqString i s pos all => simp only [TextPred.isAll] at h; subst h; exact loopStrImpl_all _ pos _
  | matchString i re pos all => simp only [TextPred.isAll] at h; subst h; exact loopStrImpl_all _ pos _
  | anyString i vs pos => rfl

example : (TextPred.eqString 0 [122] true true).isAll = true := rfl

/-- Before the fix `#any-eq? @c "s"`, `#any-not-eq?`,
`#any-match?`, `#any-not-match?` accept every match, whatever the captured text. -/
theorem predicates_impl_any_str_true (isMatch : Bytes → Bytes → Bool) (caps : List (Nat × Bytes))
    (i : Nat) (s : Bytes) (pos : Bool) :
    evalImpl isMatch caps (.eqString i s pos false) = true ∧
    evalImpl isMatch caps (.matchString i s pos false) = true :=
  ⟨loopStrImpl_eq _ pos false _, loopStrImpl_eq _ pos false _⟩

/-- The confirmed counterexample (`(#any-eq? @w "zzz")` on words `a b c`): the code before the fix
accepts, the documented reading rejects — so `∀ p, evalImpl … p = evalSpec … p` is false. -/
theorem any_eq_witness (isMatch : Bytes → Bytes → Bool) :
    ¬ (∀ caps p, evalImpl isMatch caps p = evalSpec isMatch caps p) := by
  intro h
  have := h [(0, [97]), (0, [98]), (0, [99])] (.eqString 0 [122, 122, 122] true false)
  simp [evalImpl, evalSpec, nodesFor, loopStrImpl, specStr] at this

end TsVerif.C11
