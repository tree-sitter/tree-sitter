import TsVerif.C11.Heap
/-!
# C11 — the capture-list pool of `lib/src/query.c`: the cached free count is exact

`Pool.Inv` (free count = number of unused lists) is kept by `reset`, `acquire` and `release`; `acquire` fails
only when every allocated list is in use and the limit is reached.
-/
namespace TsVerif.C11

theorem count_split (l : List Bool) : countUsed l + countFree l = l.length := by
  induction l with
  | nil => rfl
  | cons b t ih => cases b <;> simp [countUsed, countFree] at * <;> omega

theorem firstFree_none (l : List Bool) (k : Nat) : firstFree l k = none ↔ countFree l = 0 := by
  induction l generalizing k with
  | nil => simp [firstFree, countFree]
  | cons b t ih => cases b <;> simp [firstFree, countFree] at * <;> exact ih _

theorem firstFree_some (l : List Bool) (k i : Nat) (h : firstFree l k = some i) :
    ∃ j, i = k + j ∧ l[j]? = some false := by
  induction l generalizing k with
  | nil => simp [firstFree] at h
  | cons b t ih =>
    cases b
    · exact ⟨0, by simpa [firstFree] using h.symm, rfl⟩
    · obtain ⟨j, hi, hj⟩ := ih (k + 1) (by simpa [firstFree] using h)
      exact ⟨j + 1, by omega, hj⟩

theorem countFree_set (l : List Bool) (j : Nat) (b : Bool) (h : l[j]? = some (!b)) :
    countFree (l.set j b) + (if b then 1 else 0) = countFree l + (if b then 0 else 1) := by
  induction l generalizing j with
  | nil => simp at h
  | cons x t ih =>
    cases j with
    | zero => simp at h; subst h; cases b <;> simp [countFree]
    | succ j => simp at h; cases x <;> simp [countFree] at * <;> have := ih j h <;> omega
theorem countFree_all_false (l : List Bool) : countFree (l.map fun _ => false) = l.length := by
  induction l with
  | nil => rfl
  | cons b t ih => simp [countFree] at *; exact ih

/-- After a reset the bookkeeping is exact, every list is free and at
most `max` lists remain allocated. -/
theorem pool_reset (p : Pool) :
    p.reset.Inv ∧ p.reset.inUse.length ≤ p.max ∧ countUsed p.reset.inUse = 0 ∧ p.reset.max = p.max := by
  unfold Pool.reset Pool.Inv
  refine ⟨?_, ?_, ?_, by first | rfl | trivial⟩
  · rw [countFree_all_false]
  · simp; omega
  · have := count_split ((List.take p.max p.inUse).map fun _ => false)
    rw [countFree_all_false] at this
    simp at this
    simpa using this

/-- `acquire` keeps the bookkeeping exact, never allocates beyond the
limit, hands out a list that was not in use, and fails only when every allocated list is in use
and the limit is reached (`is_empty`). -/
theorem pool_acquire (p : Pool) (hinv : p.Inv) :
    p.acquire.1.Inv ∧ p.acquire.1.max = p.max ∧
    (p.inUse.length ≤ p.max → p.acquire.1.inUse.length ≤ p.max) ∧
    (∀ i, p.acquire.2 = some i → p.inUse[i]? ≠ some true ∧ p.acquire.1.inUse[i]? = some true) ∧
    (p.acquire.2 = none → p.isEmpty = true ∧ countUsed p.inUse = p.inUse.length) := by
  unfold Pool.Inv at hinv
  have hcs := count_split p.inUse
  unfold Pool.acquire
  by_cases hf : p.free > 0
  · -- a free list exists
    simp only [hf, if_true]
    cases hff : firstFree p.inUse 0 with
    | none => rw [firstFree_none] at hff; omega
    | some i =>
      obtain ⟨j, rfl, hget⟩ := firstFree_some _ _ _ hff
      have hlt := (List.getElem?_eq_some_iff.1 hget).1
      have hc := countFree_set _ _ true hget
      simp only [Nat.zero_add, if_true] at hc ⊢
      simp [Pool.Inv, hlt]
      exact ⟨by omega, by simpa [List.getElem?_eq_getElem hlt] using hget⟩
  · simp only [hf, if_false]
    by_cases hmax : p.inUse.length ≥ p.max
    · simp [hmax, Pool.Inv, Pool.isEmpty, hinv]
      omega
    · simp [hmax, Pool.Inv, countFree, hinv]
      omega

/-- Releasing a list that is in use keeps the bookkeeping exact. -/
theorem pool_release (p : Pool) (id : Nat) (hinv : p.Inv) (h : p.inUse[id]? = some true) :
    (p.release id).Inv ∧ (p.release id).inUse.length = p.inUse.length ∧
    countUsed (p.release id).inUse + 1 = countUsed p.inUse := by
  unfold Pool.Inv at hinv
  have hlt : id < p.inUse.length := (List.getElem?_eq_some_iff.1 h).1
  unfold Pool.release
  rw [if_neg (by omega)]
  have hc := countFree_set _ _ false h
  simp only [Bool.false_eq_true, if_false] at hc
  refine ⟨?_, by simp, ?_⟩
  · unfold Pool.Inv; simp only; omega
  · have s1 := count_split p.inUse
    have s2 := count_split (p.inUse.set id false)
    simp at s2
    simp only
    omega

end TsVerif.C11
