import TsVerif.C11.Model
/-!
# C11 — the generated range predicates are half-open overlap and containment

`range_intersects` / `range_within` (generated from `lib/src/query.c`) as formulas in the byte offsets and the
lexicographic point order `PLt` / `PLe`; byte and point conjuncts agree for position-consistent ranges;
containment is transitive and carries intersection from a non-empty node to its parent.
-/
namespace TsVerif.C11
open TsGen

theorem point_lt_iff (p q : TSPoint) : point_lt p q = true ↔ PLt p q := decide_eq_true_iff
theorem point_lte_iff (p q : TSPoint) : point_lte p q = true ↔ PLe p q := decide_eq_true_iff
theorem point_gt_iff (p q : TSPoint) : point_gt p q = true ↔ PLt q p := by
  unfold point_gt PLt; rw [decide_eq_true_iff, eq_comm]
theorem point_gte_iff (p q : TSPoint) : point_gte p q = true ↔ PLe q p := by
  unfold point_gte PLe; rw [decide_eq_true_iff, eq_comm]
theorem PLe_iff (p q : TSPoint) : PLe p q ↔ PLt p q ∨ q = p := by
  cases p; cases q; simp only [PLe, PLt, TSPoint.mk.injEq]; omega
theorem point_eq_iff (p q : TSPoint) : point_eq p q = true ↔ p = q := by
  cases p; cases q; simp only [point_eq, decide_eq_true_eq, TSPoint.mk.injEq]

theorem range_intersects_spec (a b : TSRange) :
    range_intersects a b = true ↔
      (if a.start_byte = a.end_byte then
          (b.start_byte ≤ a.start_byte ∧ a.start_byte < b.end_byte) ∧
          (PLe b.start_point a.end_point ∧ PLt a.start_point b.end_point)
        else
          (a.end_byte > b.start_byte ∧ a.start_byte < b.end_byte) ∧
          (PLt b.start_point a.end_point ∧ PLt a.start_point b.end_point)) := by
  simp only [range_intersects, decide_eq_true_eq, point_gt_iff, point_eq_iff, point_lt_iff, PLe_iff]
  split
  · rename_i h; simp only [h, true_and]
    exact ⟨fun ⟨⟨⟨h1, h2⟩, h3⟩, h4⟩ => ⟨⟨by omega, h3⟩, h2, h4⟩, fun ⟨⟨h1, h3⟩, h2, h4⟩ => ⟨⟨⟨by omega, h2⟩, h3⟩, h4⟩⟩
  · rename_i h; simp only [h, false_and, or_false]
    exact ⟨fun ⟨⟨⟨h1, h2⟩, h3⟩, h4⟩ => ⟨⟨h1, h3⟩, h2, h4⟩, fun ⟨⟨h1, h3⟩, h2, h4⟩ => ⟨⟨⟨h1, h2⟩, h3⟩, h4⟩⟩

/-- The non-empty byte criterion is half-open interval overlap (for a non-empty range; an empty
range `[p,p)` is treated by the code as the point `p`: it meets every node with `s < p < e`). -/
theorem byte_overlap_iff_exists (as ae bs be : Nat) (h : as < ae) (hb : bs < be) :
    (ae > bs ∧ as < be) ↔ ∃ x, as ≤ x ∧ x < ae ∧ bs ≤ x ∧ x < be :=
  ⟨fun _ => ⟨max as bs, by omega⟩, fun ⟨x, _⟩ => by omega⟩

theorem range_within_spec (a b : TSRange) :
    range_within a b = true ↔
      (b.start_byte ≤ a.start_byte ∧ a.end_byte ≤ b.end_byte) ∧
      (PLe b.start_point a.start_point ∧ PLe a.end_point b.end_point) := by
  simp only [range_within, decide_eq_true_eq, point_gte_iff, point_lte_iff]
  exact ⟨fun ⟨⟨⟨h1, h2⟩, h3⟩, h4⟩ => ⟨⟨h1, h3⟩, h2, h4⟩, fun ⟨⟨h1, h3⟩, h2, h4⟩ => ⟨⟨⟨h1, h2⟩, h3⟩, h4⟩⟩

/-- The generated predicates ARE the spec functions the judge filters with. -/
theorem range_intersects_eq_spec (a b : TSRange) : range_intersects a b = intersectsSpec a b := by
  rw [Bool.eq_iff_iff, range_intersects_spec]
  unfold intersectsSpec
  split <;> simp

theorem range_within_eq_spec (a b : TSRange) : range_within a b = withinSpec a b := by
  rw [Bool.eq_iff_iff, range_within_spec]
  unfold withinSpec
  simp

def Consistent (pos : Nat → TSPoint) (r : TSRange) : Prop :=
  r.start_point = pos r.start_byte ∧ r.end_point = pos r.end_byte

/-- Strictly monotone position map (row/column of a byte offset in a fixed text). -/
def StrictMonoPos (pos : Nat → TSPoint) : Prop := ∀ i j, i < j ↔ PLt (pos i) (pos j)

theorem PLt_irrefl (p : TSPoint) : ¬ PLt p p := by unfold PLt; omega

theorem mono_le (pos : Nat → TSPoint) (h : StrictMonoPos pos) (i j : Nat) : i ≤ j ↔ PLe (pos i) (pos j) := by
  rw [PLe_iff, ← h i j]
  constructor
  · exact fun hij => (Nat.lt_or_eq_of_le hij).imp_right fun e => by rw [e]
  · rintro (hh | e)
    · exact Nat.le_of_lt hh
    · refine Nat.le_of_not_lt fun hji => PLt_irrefl (pos i) ?_
      have := (h j i).1 hji
      rwa [e] at this
/-- For position-consistent ranges the point conjuncts add nothing: the predicate is the byte
criterion alone (so byte ranges and point ranges select the same matches). -/
theorem range_intersects_bytes_of_consistent (pos : Nat → TSPoint) (hm : StrictMonoPos pos)
    (a b : TSRange) (ha : Consistent pos a) (hb : Consistent pos b) :
    range_intersects a b = true ↔
      (if a.start_byte = a.end_byte then b.start_byte ≤ a.start_byte ∧ a.start_byte < b.end_byte
       else a.end_byte > b.start_byte ∧ a.start_byte < b.end_byte) := by
  rw [range_intersects_spec, ha.1, ha.2, hb.1, hb.2]
  split
  · rw [← mono_le pos hm, ← hm]
    omega
  · rw [← hm, ← hm]
    omega

theorem range_within_bytes_of_consistent (pos : Nat → TSPoint) (hm : StrictMonoPos pos)
    (a b : TSRange) (ha : Consistent pos a) (hb : Consistent pos b) :
    range_within a b = true ↔ (b.start_byte ≤ a.start_byte ∧ a.end_byte ≤ b.end_byte) := by
  rw [range_within_spec, ha.1, ha.2, hb.1, hb.2, ← mono_le pos hm, ← mono_le pos hm]
  omega

theorem PLe_trans {p q r : TSPoint} : PLe p q → PLe q r → PLe p r := by unfold PLe; omega

/-- Containment is inherited by everything inside: when the root of a match lies within the
containing range, so does every node of the match. -/
theorem range_within_mono (c a b : TSRange) (hca : range_within c a = true) (hab : range_within a b = true) :
    range_within c b = true := by
  rw [range_within_spec] at *
  obtain ⟨⟨h1, h2⟩, h3, h4⟩ := hca
  obtain ⟨⟨g1, g2⟩, g3, g4⟩ := hab
  exact ⟨⟨by omega, by omega⟩, PLe_trans g3 h3, PLe_trans h4 g4⟩

theorem PLt_of_le_lt {p q r : TSPoint} : PLe p q → PLt q r → PLt p r := by unfold PLe PLt; omega
theorem PLt_of_lt_le {p q r : TSPoint} : PLt p q → PLe q r → PLt p r := by unfold PLe PLt; omega

/-- A non-empty node that intersects the range makes every node containing it intersect too:
not descending into a non-intersecting parent loses no *non-empty* intersecting node. -/
theorem range_intersects_parent (c a b : TSRange) (hne : c.start_byte < c.end_byte)
    (hca : range_within c a = true) (hcb : range_intersects c b = true) :
    range_intersects a b = true := by
  rw [range_within_spec] at hca
  rw [range_intersects_spec] at *
  obtain ⟨⟨h1, h2⟩, h3, h4⟩ := hca
  rw [if_neg (by omega)] at hcb
  obtain ⟨⟨g1, g2⟩, g3, g4⟩ := hcb
  split
  · omega
  · exact ⟨⟨by omega, by omega⟩, PLt_of_lt_le g3 h4, PLt_of_le_lt h3 g4⟩

/-- … but an empty node at the end of its parent can intersect a range its parent misses
(the empty-node convention; e.g. a MISSING token at the parent's end, range starting there). -/
example : ∃ c a b : TSRange, range_within c a = true ∧ range_intersects c b = true ∧
    range_intersects a b = false :=
  ⟨⟨⟨0, 10⟩, ⟨0, 10⟩, 10, 10⟩, ⟨⟨0, 5⟩, ⟨0, 10⟩, 5, 10⟩, ⟨⟨0, 10⟩, ⟨0, 20⟩, 10, 20⟩, by decide +kernel⟩

theorem setByteRange_spec (r : TSRange) (s e : Nat) :
    (s ≤ (if e = 0 then UINT32_MAX else e) →
      (setByteRange r s e).start_byte = s ∧ (setByteRange r s e).end_byte = (if e = 0 then UINT32_MAX else e) ∧
      (setByteRange r s e).start_point = r.start_point ∧ (setByteRange r s e).end_point = r.end_point) ∧
    ((if e = 0 then UINT32_MAX else e) < s → setByteRange r s e = r) := by
  unfold setByteRange
  constructor
  · intro h; simp only; rw [if_neg (by omega)]; simp
  · intro h; simp only; rw [if_pos (by omega)]

end TsVerif.C11
