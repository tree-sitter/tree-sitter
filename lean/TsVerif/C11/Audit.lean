import TsVerif.C11.Quant
import TsVerif.C11.PredProps
import TsVerif.C11.HeapProps
import TsVerif.C11.PoolProps
import TsVerif.C11.LimitProps
import TsVerif.C11.ViewProps
#print axioms TsVerif.C11.quantifier_add_sound
#print axioms TsVerif.C11.quantifier_add_least
#print axioms TsVerif.C11.quantifier_join_sound
#print axioms TsVerif.C11.quantifier_join_least
#print axioms TsVerif.C11.quantifier_mul_sound
#print axioms TsVerif.C11.quantifier_mul_least
#print axioms TsVerif.C11.range_intersects_spec
#print axioms TsVerif.C11.byte_overlap_iff_exists
#print axioms TsVerif.C11.range_within_spec
#print axioms TsVerif.C11.range_intersects_bytes_of_consistent
#print axioms TsVerif.C11.range_within_bytes_of_consistent
#print axioms TsVerif.C11.range_within_mono
#print axioms TsVerif.C11.range_intersects_parent
#print axioms TsVerif.C11.setByteRange_spec
#print axioms TsVerif.C11.captureStream_sorted
#print axioms TsVerif.C11.captureStream_perm
#print axioms TsVerif.C11.captureStream_triples
#print axioms TsVerif.C11.captureStream_startSorted
#print axioms TsVerif.C11.judgeA_captureStream
#print axioms TsVerif.C11.judgeA_triples
#print axioms TsVerif.C11.predicates_spec_fixed
#print axioms TsVerif.C11.predicates_spec_partial
#print axioms TsVerif.C11.predicates_impl_any_str_true
#print axioms TsVerif.C11.any_eq_witness
#print axioms TsVerif.C11.range_intersects_eq_spec
#print axioms TsVerif.C11.range_within_eq_spec
#print axioms TsVerif.C11.precedes_iff
#print axioms TsVerif.C11.precedes_irrefl
#print axioms TsVerif.C11.precedes_trans
#print axioms TsVerif.C11.precedes_negtrans
#print axioms TsVerif.C11.isHeapB_iff
#print axioms TsVerif.C11.heap_root_min
#print axioms TsVerif.C11.pool_reset
#print axioms TsVerif.C11.pool_acquire
#print axioms TsVerif.C11.pool_release
#print axioms TsVerif.C11.pool_flag_prepare
#print axioms TsVerif.C11.pool_flag_abandon
#print axioms TsVerif.C11.siftUp_heap
#print axioms TsVerif.C11.siftDown_heap
#print axioms TsVerif.C11.heapify_heap
#print axioms TsVerif.C11.push_heap
#print axioms TsVerif.C11.pop_heap
#print axioms TsVerif.C11.erase_heap
#print axioms TsVerif.C11.consume_heap
#print axioms TsVerif.C11.applyOp_inv
#print axioms TsVerif.C11.heap_inv
#print axioms TsVerif.C11.heap_pop_min
#print axioms TsVerif.C11.judgeA_iff
#print axioms TsVerif.C11.captureStream_keys_unique
#print axioms TsVerif.C11.judgeB_qfree_iff
#print axioms TsVerif.C11.judgeB_sound
#print axioms TsVerif.C11.keepIntersect_eq_root
#print axioms TsVerif.C11.judgeG_simple_iff
#print axioms TsVerif.C11.judgeDm_iff
#print axioms TsVerif.C11.prepare_flag_eq
#print axioms TsVerif.C11.prepare_exhausted_drops
#print axioms TsVerif.C11.prepare_not_exhausted_keeps
#print axioms TsVerif.C11.abandon_flag_eq
#print axioms TsVerif.C11.abandon_erases_iff
#print axioms TsVerif.C11.flag_trace
#print axioms TsVerif.C11.flag_iff_dropped
#print axioms TsVerif.C11.judgeCm_iff
#print axioms TsVerif.C11.mem_filterBy
#print axioms TsVerif.C11.judgeF_iff
