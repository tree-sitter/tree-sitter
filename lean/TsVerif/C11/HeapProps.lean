import TsVerif.C11.Heap
/-!
# C11 — the finished-state heap of `lib/src/query.c`: order and invariant

`precedes` is a strict weak order (`precedes_iff`, `precedes_trans`, `precedes_negtrans`); `le x y` is "`y` does
not precede `x`".  `UpInv` / `DownInv` are the loop invariants of `finished_state_sift_up` / `_sift_down`
(heap order except at the edge above, resp. the edges below, one slot); overwriting a slot of a heap gives one
of them (`upInv_of_replace`, `downInv_of_replace`), which is all that pop, erase and consume do.
-/
namespace TsVerif.C11

/-- `finished_state_precedes` as a formula: unfinished-capture states first, then by
(next capture byte, pattern index, insertion order). -/
theorem precedes_iff (a b : FS) : precedes a b = true ↔
    a.done = false ∧ (b.done = true ∨ (a.nextByte < b.nextByte ∨ (a.nextByte = b.nextByte ∧
      (a.pat < b.pat ∨ (a.pat = b.pat ∧ a.order < b.order))))) := by
  unfold precedes
  cases a.done <;> cases b.done <;> simp
  by_cases h1 : a.nextByte = b.nextByte
  · by_cases h2 : a.pat = b.pat
    · simp [h1, h2]
    · simp [h1, h2]
  · simp [h1]

theorem precedes_irrefl (a : FS) : precedes a a = false := by
  cases h : precedes a a
  · rfl
  · rw [precedes_iff] at h
    obtain ⟨h1, h2⟩ := h
    rw [h1] at h2
    simp at h2

theorem precedes_trans (a b c : FS) (h1 : precedes a b = true) (h2 : precedes b c = true) :
    precedes a c = true := by
  rw [precedes_iff] at *
  obtain ⟨ha, hab⟩ := h1
  obtain ⟨hb, hbc⟩ := h2
  refine ⟨ha, ?_⟩
  rw [hb] at hab
  simp at hab
  rcases hbc with hc | hbc
  · exact Or.inl hc
  · right; omega

/-- Incomparability is transitive: `precedes` is a strict weak order (ties only between two
states whose captures are all consumed, or the same state). -/
theorem precedes_negtrans (a b c : FS) (h1 : precedes a b = false) (h2 : precedes b c = false) :
    precedes a c = false := by
  rw [← Bool.not_eq_true, precedes_iff] at *
  intro ⟨ha, hac⟩
  cases hb : b.done
  · -- `b` has captures left, so `c` has too, and the three keys compare
    have n1 : ¬ _ := fun l => h1 ⟨ha, .inr l⟩
    have n2 : ¬ _ := fun l => h2 ⟨hb, .inr l⟩
    rcases hac with hc | hac
    · exact h2 ⟨hb, .inl hc⟩
    · omega
  · exact h1 ⟨ha, .inl hb⟩

def le (x y : FS) : Prop := precedes y x = false

theorem le_refl (x : FS) : le x x := precedes_irrefl x
theorem le_trans {x y z : FS} (h1 : le x y) (h2 : le y z) : le x z := precedes_negtrans _ _ _ h2 h1
theorem le_of_precedes {x y : FS} (h : precedes x y = true) : le x y := by
  unfold le
  cases h' : precedes y x
  · rfl
  · have := precedes_trans _ _ _ h h'
    rw [precedes_irrefl] at this
    cases this

theorem not_precedes_le {x y : FS} (h : ¬ precedes x y = true) : le y x := by
  unfold le; cases hh : precedes x y
  · rfl
  · exact absurd hh h


theorem parent_lt {j : Nat} (hj : 0 < j) : (j - 1) / 2 < j := by omega
theorem child_cases {i c : Nat} (hc : 0 < c) (h : (c - 1) / 2 = i) : c = 2 * i + 1 ∨ c = 2 * i + 2 := by omega

def IsHeap (a : Array FS) (n : Nat) : Prop :=
  ∀ i, 0 < i → i < n → precedes a[i]! a[(i - 1) / 2]! = false

theorem isHeapB_iff (a : Array FS) (n : Nat) : isHeapB a n = true ↔ IsHeap a n := by
  simp only [isHeapB, IsHeap, List.all_eq_true, List.mem_range, Bool.or_eq_true, beq_iff_eq, Bool.not_eq_true']
  exact ⟨fun h i hi hn => (h i hn).resolve_left (Nat.ne_of_gt hi),
    fun h i hn => (Nat.eq_zero_or_pos i).imp_right fun hi => h i hi hn⟩

/-- In a heap the root is a `precedes`-minimum — nothing in the heap precedes the
state that `finished_state_pop` / `next_capture` take from index 0. -/
theorem heap_root_min (a : Array FS) (n : Nat) (h : IsHeap a n) :
    ∀ i, i < n → precedes a[i]! a[0]! = false := by
  intro i
  induction i using Nat.strongRecOn with
  | _ i ih =>
    intro hi
    by_cases h0 : i = 0
    · subst h0; exact precedes_irrefl _
    · have hi0 : 0 < i := Nat.pos_of_ne_zero h0
      have hp := parent_lt hi0
      exact precedes_negtrans _ _ _ (h i hi0 hi) (ih _ hp (Nat.lt_trans hp hi))

theorem swapAt_size (a : Array FS) (i j : Nat) : (swapAt a i j).size = a.size := by
  simp [swapAt]

theorem swapAt_get (a : Array FS) (i j k : Nat) (hi : i < a.size) (hj : j < a.size) :
    (swapAt a i j)[k]! = if k = j then a[i]! else if k = i then a[j]! else a[k]! := by
  unfold swapAt
  simp only [Array.set!_eq_setIfInBounds, getElem!_def, Array.getElem?_setIfInBounds, Array.size_setIfInBounds]
  by_cases h1 : k = j
  · subst h1; simp [hj]
  · by_cases h2 : k = i
    · subst h2; simp [hi, h1, Ne.symm h1]
    · simp [h1, h2, Ne.symm h1, Ne.symm h2]

theorem swapAt_left {a : Array FS} {i j : Nat} (hi : i < a.size) (hj : j < a.size) (h : i ≠ j) :
    (swapAt a i j)[i]! = a[j]! := by
  rw [swapAt_get a i j i hi hj, if_neg h, if_pos rfl]

theorem swapAt_right {a : Array FS} {i j : Nat} (hi : i < a.size) (hj : j < a.size) :
    (swapAt a i j)[j]! = a[i]! := by
  rw [swapAt_get a i j j hi hj, if_pos rfl]

theorem swapAt_other {a : Array FS} {i j k : Nat} (hi : i < a.size) (hj : j < a.size) (h1 : k ≠ i) (h2 : k ≠ j) :
    (swapAt a i j)[k]! = a[k]! := by
  rw [swapAt_get a i j k hi hj, if_neg h2, if_neg h1]

theorem IsHeap.mono {a : Array FS} {m n : Nat} (h : IsHeap a m) (hnm : n ≤ m) : IsHeap a n :=
  fun j hj hjn => h j hj (Nat.lt_of_lt_of_le hjn hnm)

/-- Everything is in heap order except possibly the edge above `i`; and the children of `i` are
already in order with `i`'s parent (the invariant of `finished_state_sift_up`). -/
def UpInv (a : Array FS) (n i : Nat) : Prop :=
  (∀ j, 0 < j → j < n → j ≠ i → le a[(j - 1) / 2]! a[j]!) ∧
  (∀ j, 0 < j → j < n → (j - 1) / 2 = i → 0 < i → le a[(i - 1) / 2]! a[j]!)

theorem siftUp_size : ∀ (fuel : Nat) (a : Array FS) (i : Nat), (siftUp fuel a i).size = a.size
  | 0, a, i => rfl
  | fuel + 1, a, i => by
    unfold siftUp
    split
    · rfl
    · simp only
      split
      · rw [siftUp_size fuel, swapAt_size]
      · rfl

theorem upInv_swap {a : Array FS} {n i : Nat} (hi0 : 0 < i) (hin : i < n) (hn : n ≤ a.size)
    (hpre : le a[i]! a[(i - 1) / 2]!) (h : UpInv a n i) :
    UpInv (swapAt a i ((i - 1) / 2)) n ((i - 1) / 2) := by
  have hpi := parent_lt hi0
  have hi : i < a.size := Nat.lt_of_lt_of_le hin hn
  have hp : (i - 1) / 2 < a.size := Nat.lt_trans hpi hi
  constructor
  · intro j hj hjn hjp
    by_cases hji : j = i
    · rw [hji, swapAt_right hi hp, swapAt_left hi hp (Nat.ne_of_gt hpi)]; exact hpre
    · rw [swapAt_other hi hp hji hjp]
      by_cases hpj : (j - 1) / 2 = (i - 1) / 2
      · rw [hpj, swapAt_right hi hp]; exact le_trans hpre (hpj ▸ h.1 j hj hjn hji)
      · by_cases hpj' : (j - 1) / 2 = i
        · rw [hpj', swapAt_left hi hp (Nat.ne_of_gt hpi)]; exact h.2 j hj hjn hpj' hi0
        · rw [swapAt_other hi hp hpj' hpj]; exact h.1 j hj hjn hji
  · intro j hj hjn hpj hp0
    have hpp := parent_lt hp0
    have hpar := h.1 _ hp0 (Nat.lt_trans hpi hin) (Nat.ne_of_lt hpi)
    rw [swapAt_other hi hp (Nat.ne_of_lt (Nat.lt_trans hpp hpi)) (Nat.ne_of_lt hpp)]
    by_cases hji : j = i
    · rw [hji, swapAt_left hi hp (Nat.ne_of_gt hpi)]; exact hpar
    · rw [swapAt_other hi hp hji (Nat.ne_of_gt (hpj ▸ parent_lt hj))]
      exact le_trans hpar (hpj ▸ h.1 j hj hjn hji)

theorem siftUp_heap : ∀ (fuel : Nat) (a : Array FS) (n i : Nat), i < fuel → i < n → n ≤ a.size →
    UpInv a n i → IsHeap (siftUp fuel a i) n
  | 0, a, n, i, hf, _, _, _ => by omega
  | fuel + 1, a, n, i, hf, hin, hn, hinv => by
    unfold siftUp
    by_cases h0 : i = 0
    · rw [if_pos h0]
      intro j hj hjn
      exact hinv.1 j hj hjn (by omega)
    · rw [if_neg h0]
      have hi0 : 0 < i := Nat.pos_of_ne_zero h0
      have hp := parent_lt hi0
      by_cases hpre : precedes a[i]! a[(i - 1) / 2]! = true
      · rw [if_pos hpre]
        exact siftUp_heap fuel _ n _ (by omega) (by omega) (by rw [swapAt_size]; exact hn)
          (upInv_swap hi0 hin hn (le_of_precedes hpre) hinv)
      · rw [if_neg hpre]
        intro j hj hjn
        by_cases hji : j = i
        · rw [hji]; exact not_precedes_le hpre
        · exact hinv.1 j hj hjn hji

/-- Part of `heap_inv` (push / lazy heapify): `ts_query_cursor__heapify_finished_states` turns an array
whose first `hs` slots are a heap into a heap of the whole array — whatever was pushed behind the
boundary in the meantime. -/
theorem heapify_heap : ∀ (fuel : Nat) (a : Array FS) (hs : Nat), IsHeap a hs → hs ≤ a.size →
    a.size - hs ≤ fuel →
    IsHeap (heapify fuel a hs).1 (heapify fuel a hs).1.size ∧ (heapify fuel a hs).2 = (heapify fuel a hs).1.size ∧
    (heapify fuel a hs).1.size = a.size
  | 0, a, hs, h, hle, hf => by
    obtain rfl : hs = a.size := by omega
    exact ⟨h, rfl, rfl⟩
  | fuel + 1, a, hs, h, hle, hf => by
    unfold heapify
    by_cases hlt : hs < a.size
    · -- the slot behind the boundary is sifted in: only the edge above it can be out of order
      rw [if_pos hlt]
      have hh := siftUp_heap a.size a (hs + 1) hs hlt (by omega) (by omega)
        ⟨fun j hj hjn hne => h j hj (by omega), fun j _ hjn hp _ => by omega⟩
      have ih := heapify_heap fuel _ (hs + 1) hh (by rw [siftUp_size]; omega) (by rw [siftUp_size]; omega)
      rwa [siftUp_size] at ih
    · rw [if_neg hlt]
      obtain rfl : hs = a.size := by omega
      exact ⟨h, rfl, rfl⟩

/-- Pushing behind the heap boundary (plain `array_push`) keeps the heap prefix. -/
theorem push_heap (a : Array FS) (x : FS) (hs : Nat) (h : IsHeap a hs) (hle : hs ≤ a.size) :
    IsHeap (a.push x) hs := by
  have get_push : ∀ j, j < hs → (a.push x)[j]! = a[j]! := fun j hj => by
    simp [getElem!_def, Array.getElem?_push, Nat.ne_of_lt (Nat.lt_of_lt_of_le hj hle)]
  intro j hj hjn
  rw [get_push j hjn, get_push _ (Nat.lt_trans (parent_lt hj) hjn)]
  exact h j hj hjn

/-- Everything is in heap order except possibly the edges below `i`; and the children of `i` are
in order with `i`'s parent (the invariant of `finished_state_sift_down`). -/
def DownInv (a : Array FS) (n i : Nat) : Prop :=
  (∀ j, 0 < j → j < n → (j - 1) / 2 ≠ i → le a[(j - 1) / 2]! a[j]!) ∧
  (∀ j, 0 < j → j < n → (j - 1) / 2 = i → 0 < i → le a[(i - 1) / 2]! a[j]!)

theorem siftDown_size : ∀ (fuel : Nat) (a : Array FS) (i : Nat), (siftDown fuel a i).size = a.size
  | 0, a, i => rfl
  | fuel + 1, a, i => by
    unfold siftDown
    simp only
    split
    · rfl
    · rw [siftDown_size fuel, swapAt_size]

/-- One comparison of the selection in `finished_state_sift_down`: of `x` and `y` (if inside the
array) the one kept is not after the other. -/
theorem pick_spec (a : Array FS) (x y s : Nat)
    (hs : s = if (decide (y < a.size) && precedes a[y]! a[x]!) = true then y else x) :
    (s = x ∨ (s = y ∧ y < a.size)) ∧ le a[s]! a[x]! ∧ (y < a.size → le a[s]! a[y]!) := by
  subst hs
  split
  · rename_i h
    rw [Bool.and_eq_true, decide_eq_true_eq] at h
    exact ⟨.inr ⟨rfl, h.1⟩, le_of_precedes h.2, fun _ => le_refl _⟩
  · rename_i h
    exact ⟨.inl rfl, le_refl _, fun hy => not_precedes_le fun hp => h (by rw [hp, decide_eq_true hy]; rfl)⟩

theorem smallest_spec (a : Array FS) (i : Nat) :
    (smallest a i = i ∨ (0 < smallest a i ∧ (smallest a i - 1) / 2 = i ∧ smallest a i < a.size)) ∧
    le a[smallest a i]! a[i]! ∧
    ∀ c, 0 < c → (c - 1) / 2 = i → c < a.size → le a[smallest a i]! a[c]! := by
  obtain ⟨c1, l1, r1⟩ := pick_spec a i (2 * i + 1) _ rfl
  obtain ⟨c2, l2, r2⟩ := pick_spec a _ (2 * i + 2) (smallest a i) rfl
  refine ⟨?_, le_trans l2 l1, fun c hc hp hsz => ?_⟩
  · rcases c2 with e2 | ⟨e2, h2⟩
    · rcases c1 with e1 | ⟨e1, h1⟩
      · exact .inl (e2.trans e1)
      · rw [e2, e1]; exact .inr ⟨Nat.succ_pos _, by omega, h1⟩
    · rw [e2]; exact .inr ⟨Nat.succ_pos _, by omega, h2⟩
  · rcases child_cases hc hp with rfl | rfl
    · exact le_trans l2 (r1 hsz)
    · exact r2 hsz

theorem downInv_swap {a : Array FS} {i s : Nat} (hs0 : 0 < s) (hs : (s - 1) / 2 = i) (hsz : s < a.size)
    (hsi : le a[s]! a[i]!) (hmin : ∀ c, 0 < c → (c - 1) / 2 = i → c < a.size → le a[s]! a[c]!)
    (h : DownInv a a.size i) : DownInv (swapAt a i s) a.size s := by
  have his : i < s := hs ▸ parent_lt hs0
  have hi : i < a.size := Nat.lt_trans his hsz
  constructor
  · intro j hj hjn hpj
    by_cases hji : j = i
    · -- the edge above `i`: `i`'s parent was in order with `i`'s children
      have hp := parent_lt hj
      rw [hji] at hp hj ⊢
      rw [swapAt_left hi hsz (Nat.ne_of_lt his),
        swapAt_other hi hsz (Nat.ne_of_lt hp) (Nat.ne_of_lt (Nat.lt_trans hp his))]
      exact h.2 s hs0 hsz hs hj
    · by_cases hpi : (j - 1) / 2 = i
      · -- the edges below `i`, which now holds the minimum
        rw [hpi, swapAt_left hi hsz (Nat.ne_of_lt his)]
        by_cases hjs : j = s
        · rw [hjs, swapAt_right hi hsz]; exact hsi
        · rw [swapAt_other hi hsz hji hjs]; exact hmin j hj hpi hjn
      · rw [swapAt_other hi hsz hpi hpj, swapAt_other hi hsz hji (fun e => hpi (e ▸ hs))]
        exact h.1 j hj hjn hpi
  · intro j hj hjn hpj _
    have hsj : s < j := hpj ▸ parent_lt hj
    rw [hs, swapAt_left hi hsz (Nat.ne_of_lt his),
      swapAt_other hi hsz (Nat.ne_of_gt (Nat.lt_trans his hsj)) (Nat.ne_of_gt hsj), ← hpj]
    exact h.1 j hj hjn (hpj ▸ Nat.ne_of_gt his)

theorem siftDown_heap : ∀ (fuel : Nat) (a : Array FS) (i : Nat), a.size - i ≤ fuel → i < a.size →
    DownInv a a.size i → IsHeap (siftDown fuel a i) a.size
  | 0, a, i, hf, hi, _ => by omega
  | fuel + 1, a, i, hf, hi, hinv => by
    unfold siftDown
    obtain ⟨hs, hsi, hmin⟩ := smallest_spec a i
    generalize smallest a i = s at *
    rcases hs with he | ⟨hs0, hs, hsz⟩
    · rw [if_pos (by simpa using he)]
      intro j hj hjn
      by_cases hp : (j - 1) / 2 = i
      · rw [hp, ← he]; exact hmin j hj hp hjn
      · exact hinv.1 j hj hjn hp
    · have his : i < s := hs ▸ parent_lt hs0
      rw [if_neg (by simpa using Nat.ne_of_gt his)]
      have := siftDown_heap fuel (swapAt a i s) s (by rw [swapAt_size]; omega)
        (by rw [swapAt_size]; exact hsz)
        (by rw [swapAt_size]; exact downInv_swap hs0 hs hsz hsi hmin hinv)
      rwa [swapAt_size] at this

theorem siftDown_heap_of_size {b : Array FS} {n i : Nat} (hn : b.size = n) (hi : i < n) (h : DownInv b n i) :
    IsHeap (siftDown n b i) n := by
  subst hn; exact siftDown_heap _ b i (Nat.sub_le _ _) hi h

/-! Overwriting slot `i` of a heap `a` by `x`; `b` is the result on the first `n` slots. -/
section replace
variable {a b : Array FS} {n i : Nat} {x : FS} (h : IsHeap a n)
  (hb : ∀ j, j < n → b[j]! = if j = i then x else a[j]!) (hin : i < n)
include h hb hin

theorem replace_grandparent (j : Nat) (hj : 0 < j) (hjn : j < n) (hpj : (j - 1) / 2 = i) (hi0 : 0 < i) :
    le b[(i - 1) / 2]! b[j]! := by
  have hpi := parent_lt hi0
  have hij : i < j := hpj ▸ parent_lt hj
  rw [hb _ (Nat.lt_trans hpi hin), if_neg (Nat.ne_of_lt hpi), hb j hjn, if_neg (Nat.ne_of_gt hij)]
  exact le_trans (h i hi0 hin) (hpj ▸ h j hj hjn)

theorem downInv_of_replace (hx : 0 < i → le a[(i - 1) / 2]! x) : DownInv b n i := by
  refine ⟨fun j hj hjn hpj => ?_, replace_grandparent h hb hin⟩
  rw [hb _ (Nat.lt_trans (parent_lt hj) hjn), if_neg hpj, hb j hjn]
  by_cases hji : j = i
  · rw [if_pos hji, hji]; exact hx (hji ▸ hj)
  · rw [if_neg hji]; exact h j hj hjn

theorem upInv_of_replace (hx : le x a[i]!) : UpInv b n i := by
  refine ⟨fun j hj hjn hji => ?_, replace_grandparent h hb hin⟩
  rw [hb j hjn, if_neg hji, hb _ (Nat.lt_trans (parent_lt hj) hjn)]
  by_cases hpj : (j - 1) / 2 = i
  · rw [if_pos hpj]; exact le_trans hx (hpj ▸ h j hj hjn)
  · rw [if_neg hpj]; exact h j hj hjn

end replace

theorem get_set (a : Array FS) (i : Nat) (x : FS) (j : Nat) (hj : j < a.size) :
    (a.set! i x)[j]! = if j = i then x else a[j]! := by
  simp only [Array.set!_eq_setIfInBounds, getElem!_def, Array.getElem?_setIfInBounds]
  by_cases hji : i = j
  · simp [hji, hj]
  · simp [hji, Ne.symm hji]

theorem get_pop (a : Array FS) (j : Nat) (hj : j < a.size - 1) : a.pop[j]! = a[j]! := by
  have h2 : j < a.size := by omega
  simp [getElem!_def, hj, Array.getElem?_eq_getElem h2]

theorem get_set_pop (a : Array FS) (i : Nat) (x : FS) (j : Nat) (hj : j < a.size - 1) :
    (a.set! i x).pop[j]! = if j = i then x else a[j]! := by
  rw [get_pop _ j (by simpa using hj)]
  exact get_set a i x j (by omega)

/-- Part of `heap_inv` (consume): after `next_capture` advanced the root's consumed count (its key grew),
`finished_state_sift_down(0)` restores the heap. -/
theorem consume_heap (a : Array FS) (x : FS) (h : IsHeap a a.size) (h0 : 0 < a.size) :
    IsHeap (siftDown a.size (a.set! 0 x) 0) a.size :=
  siftDown_heap_of_size (by simp) h0
    (downInv_of_replace h (get_set a 0 x) h0 fun h => absurd h (Nat.lt_irrefl 0))

/-- Part of `heap_inv` (pop): `finished_state_pop` keeps the heap. -/
theorem pop_heap (a : Array FS) (h : IsHeap a a.size) : IsHeap (heapPop a) (heapPop a).size := by
  unfold heapPop
  by_cases h0 : a.size = 0
  · rw [if_pos h0]; exact h
  · rw [if_neg h0]
    by_cases h1 : a.size > 1
    · -- root replaced by the last element
      have hsz : ((a.set! 0 a[a.size - 1]!).pop).size = a.size - 1 := by simp
      rw [if_pos h1, if_pos (by rw [hsz]; omega), siftDown_size, hsz]
      exact siftDown_heap_of_size hsz (by omega)
        (downInv_of_replace (h.mono (Nat.sub_le _ _)) (get_set_pop a 0 _) (by omega)
          fun h => absurd h (Nat.lt_irrefl 0))
    · have hsz : a.pop.size = 0 := by simp; omega
      rw [if_neg h1, if_neg (by rw [hsz]; omega), hsz]
      intro j hj hjn
      omega

/-- Part of `heap_inv` (erase): `finished_state_erase` (used by `next_match` and `remove_match`) keeps the heap. -/
theorem erase_heap (a : Array FS) (i : Nat) (h : IsHeap a a.size) :
    IsHeap (heapErase a i) (heapErase a i).size := by
  unfold heapErase
  by_cases h0 : i ≥ a.size
  · rw [if_pos h0]; exact h
  · rw [if_neg h0]
    have hs : a.pop.size = a.size - 1 := by simp
    by_cases h1 : i = a.size - 1
    · rw [if_pos h1, hs]
      intro j hj hjn
      rw [get_pop a j hjn, get_pop a _ (Nat.lt_trans (parent_lt hj) hjn)]
      exact h j hj (by omega)
    · rw [if_neg h1]
      have hi : i < a.size - 1 := by omega
      have hsz : ((a.set! i a[a.size - 1]!).pop).size = a.size - 1 := by simp
      have hb := get_set_pop a i a[a.size - 1]!
      have h' := h.mono (Nat.sub_le a.size 1)
      generalize (a.set! i a[a.size - 1]!).pop = b at *
      -- the C code's test decides on which side of the replaced slot the order can be broken
      by_cases hup : (decide (i > 0) && precedes b[i]! b[(i - 1) / 2]!) = true
      · rw [if_pos hup, siftUp_size, hsz]
        simp only [Bool.and_eq_true, decide_eq_true_eq] at hup
        have hpi := parent_lt hup.1
        rw [hb i hi, if_pos rfl, hb _ (Nat.lt_trans hpi hi), if_neg (Nat.ne_of_lt hpi)] at hup
        exact siftUp_heap _ b _ i hi hi (Nat.le_of_eq hsz.symm)
          (upInv_of_replace h' hb hi (le_trans (le_of_precedes hup.2) (h' i hup.1 hi)))
      · rw [if_neg hup, siftDown_size, hsz]
        refine siftDown_heap_of_size hsz hi (downInv_of_replace h' hb hi fun hi0 => ?_)
        have hpi := parent_lt hi0
        simp only [Bool.and_eq_true, decide_eq_true_eq, not_and] at hup
        have := hup hi0
        rw [hb i hi, if_pos rfl, hb _ (Nat.lt_trans hpi hi), if_neg (Nat.ne_of_lt hpi)] at this
        exact not_precedes_le this

/-- The invariant of `finished_states`: the first `heapSize` slots are a heap. -/
def HeapInv (st : Array FS × Nat) : Prop := IsHeap st.1 st.2 ∧ st.2 ≤ st.1.size

theorem consumeRoot_heap (a : Array FS) (h : IsHeap a a.size) : IsHeap (consumeRoot a) a.size ∧ (consumeRoot a).size = a.size := by
  unfold consumeRoot
  by_cases h0 : a.size > 0
  · rw [if_pos h0]
    refine ⟨consume_heap a _ h h0, ?_⟩
    rw [siftDown_size]; simp
  · rw [if_neg h0]; exact ⟨h, rfl⟩

/-- Every `HOp` keeps the invariant.  `HOp.pop` / `.erase` are `next_capture`'s pop and the `finished_states_heap_size > 0`
path of `next_match` / `remove_match`; with boundary 0 the C code erases in place (`array_erase`), the boundary stays 0 and
the invariant is trivial. -/
theorem applyOp_inv (st : Array FS × Nat) (op : HOp) (h : HeapInv st) : HeapInv (applyOp st op) := by
  obtain ⟨hh, hle⟩ := h
  obtain ⟨hz, hz2, -⟩ := heapify_heap (st.1.size + 1) st.1 st.2 hh hle (by omega)
  -- keep the unifier from unfolding `heapify`
  generalize hr : heapify (st.1.size + 1) st.1 st.2 = r at hz hz2
  cases op with
  | push x =>
    rw [applyOp]
    exact ⟨push_heap st.1 x st.2 hh hle, Nat.le_trans hle (by rw [Array.size_push]; exact Nat.le_succ _)⟩
  | heapify => rw [applyOp, hr]; exact ⟨hz2 ▸ hz, Nat.le_of_eq hz2⟩
  | pop => rw [applyOp, hr]; exact ⟨pop_heap _ hz, Nat.le_refl _⟩
  | erase i => rw [applyOp, hr]; exact ⟨erase_heap _ i hz, Nat.le_refl _⟩
  | consume =>
    rw [applyOp, hr]
    have hc := consumeRoot_heap _ hz
    exact ⟨hz2 ▸ hc.1, Nat.le_of_eq (hz2.trans hc.2.symm)⟩
/-- … hence after any history of pushes, lazy heapifies, pops, erases and consumes, starting from
the empty array of `ts_query_cursor_exec`. -/
theorem heap_inv (ops : List HOp) : HeapInv (ops.foldl applyOp (#[], 0)) := by
  have h0 : HeapInv ((#[], 0) : Array FS × Nat) := ⟨fun j _ hj => by omega, Nat.le_refl _⟩
  suffices ∀ st, HeapInv st → HeapInv (ops.foldl applyOp st) from this _ h0
  induction ops with
  | nil => intro st h; exact h
  | cons op rest ih => intro st h; exact ih _ (applyOp_inv st op h)

/-- `heap_pop_min` on histories: after any history followed by a heapify, no finished state
precedes the one at index 0 — `next_capture` always takes a `precedes`-minimum. -/
theorem heap_pop_min (ops : List HOp) :
    let st := applyOp (ops.foldl applyOp (#[], 0)) .heapify
    ∀ i, i < st.1.size → precedes st.1[i]! st.1[0]! = false := by
  intro st i hi
  obtain ⟨hh, hle⟩ := heap_inv ops
  exact heap_root_min _ _ (heapify_heap _ _ _ hh hle (by omega)).1 i hi
example : HeapInv ([HOp.push ⟨0, 0, [5], 0⟩, .push ⟨1, 0, [3], 0⟩, .heapify, .consume].foldl applyOp (#[], 0)) :=
  heap_inv _

end TsVerif.C11
