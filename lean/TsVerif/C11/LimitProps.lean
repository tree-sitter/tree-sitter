import TsVerif.C11.Heap
/-!
# C11 — the match limit on the pool model: the flag is set exactly when something is dropped

`prepareToCapture` and `abandonEarliest` (Heap.lean) are the two places of the cursor where a state or a capture can
be dropped.  `exhausted` / `abandons` say when a call drops; the flag after a call is the flag before OR that
(`prepare_flag_eq`, `abandon_flag_eq`), hence over any sequence of calls (`flag_trace`).
-/
namespace TsVerif.C11

theorem map_dead_set (l : List PState) (i : Nat) (st st' : PState) (h : l[i]? = some st)
    (hd : st'.dead = st.dead) : (l.set i st').map (·.dead) = l.map (·.dead) := by
  induction l generalizing i with
  | nil => simp
  | cons x t ih =>
    cases i with
    | zero => simp at h; subst h; simp [hd]
    | succ i => simp at h; simp [ih i h]

/-- The pool is exhausted at this call of `prepare_to_capture`: the state exists, has no capture list
yet and none can be acquired. -/
def exhausted (c : CursorPool) (idx : Nat) : Bool :=
  match c.states[idx]? with
  | none => false
  | some st => st.list.isNone && c.pool.acquire.2.isNone

theorem prepare_flag_eq (c : CursorPool) (idx : Nat) (victim preserve : Option Nat) :
    (prepareToCapture c idx victim preserve).1.flag = (c.flag || exhausted c idx) := by
  unfold prepareToCapture exhausted
  split
  · simp [*]
  · split
    · simp [*]
    · rcases c.pool.acquire with ⟨pool', got⟩
      cases got
      · simp only [*, Option.isNone_none, Bool.and_self, Bool.or_true]
        repeat' split
        all_goals rfl
      · simp [*]
/-- When the pool is exhausted, either the capture is dropped (the function
returns NULL) or the victim state is killed and loses its list. -/
theorem prepare_exhausted_drops (c : CursorPool) (idx : Nat) (victim preserve : Option Nat)
    (h : exhausted c idx = true) :
    (prepareToCapture c idx victim preserve).2 = false ∨
    ∃ v other, victim = some v ∧ c.states[v]? = some other ∧ v ≠ idx ∧
      (prepareToCapture c idx victim preserve).1.states[v]? = some { other with list := none, dead := true } := by
  unfold exhausted at h
  unfold prepareToCapture
  split at h
  · cases h
  · rename_i st hs
    rw [Bool.and_eq_true, Option.isNone_iff_eq_none, Option.isNone_iff_eq_none] at h
    rcases hp : c.pool.acquire with ⟨pool', got⟩
    rw [hp] at h
    obtain ⟨hl, rfl⟩ := h
    simp only [hs, hl]
    split
    · rename_i v
      split
      · rename_i hc
        split
        · rename_i other hv
          exact .inr ⟨v, other, rfl, hv, hc.2, by simp [(List.getElem?_eq_some_iff.1 hv).1]⟩
        · exact .inl rfl
      · exact .inl rfl
    · exact .inl rfl
/-- When the pool is not exhausted, nothing is dropped: a capture
list is available and no state dies. -/
theorem prepare_not_exhausted_keeps (c : CursorPool) (idx : Nat) (victim preserve : Option Nat)
    (hidx : idx < c.states.length) (h : exhausted c idx = false) :
    (prepareToCapture c idx victim preserve).2 = true ∧
    (prepareToCapture c idx victim preserve).1.states.map (·.dead) = c.states.map (·.dead) := by
  unfold exhausted at h
  unfold prepareToCapture
  have hsome : c.states[idx]? = some c.states[idx] := List.getElem?_eq_getElem hidx
  rw [hsome] at h ⊢
  simp only at h ⊢
  cases hl : c.states[idx].list with
  | some id => simp
  | none =>
    simp only [hl, Option.isNone_none, Bool.true_and] at h
    rcases hp : c.pool.acquire with ⟨pool', got⟩
    rw [hp] at h
    cases got with
    | none => simp at h
    | some id =>
      simp only
      exact ⟨trivial, map_dead_set _ _ _ _ hsome rfl⟩

/-- Non-vacuity: with a pool of one list in use by state 0, state 1 steals it: state 0 dies, flag set. -/
example : (prepareToCapture ⟨⟨[true], 0, 1⟩, [⟨some 0, false⟩, ⟨none, false⟩], false⟩ 1 (some 0) none) =
    (⟨⟨[true], 0, 1⟩, [⟨none, true⟩, ⟨some 0, false⟩], true⟩, true) := by decide +kernel

/-- Stealing: `ts_query_cursor__prepare_to_capture` either leaves every state alive
and provides a capture list, or it has set `did_exceed_match_limit` — a state is never killed and
a capture is never dropped silently. -/
theorem pool_flag_prepare (c : CursorPool) (idx : Nat) (victim preserve : Option Nat)
    (hidx : idx < c.states.length) :
    (prepareToCapture c idx victim preserve).1.flag = true ∨
    ((prepareToCapture c idx victim preserve).2 = true ∧
     (prepareToCapture c idx victim preserve).1.states.map (·.dead) = c.states.map (·.dead)) := by
  cases h : exhausted c idx
  · exact .inr (prepare_not_exhausted_keeps c idx victim preserve hidx h)
  · exact .inl (by rw [prepare_flag_eq, h, Bool.or_true])

/-- The abandon branch erases a state: the pool is empty and a victim exists. -/
def abandons (c : CursorPool) (victim : Option Nat) : Bool :=
  match victim with
  | some v => c.pool.isEmpty && (c.states[v]?).isSome
  | none => false

theorem abandon_flag_eq (c : CursorPool) (victim : Option Nat) :
    (abandonEarliest c victim).flag = (c.flag || abandons c victim) := by
  unfold abandonEarliest abandons
  split
  · split
    · split <;> simp [*]
    · simp [*]
  · simp

theorem abandon_erases_iff (c : CursorPool) (victim : Option Nat) :
    (abandons c victim = true → ∃ v, victim = some v ∧ (abandonEarliest c victim).states = c.states.eraseIdx v) ∧
    (abandons c victim = false → abandonEarliest c victim = c) := by
  unfold abandonEarliest abandons
  cases victim with
  | none => simp
  | some v =>
    cases he : c.pool.isEmpty with
    | false => simp
    | true =>
      simp only [if_true, Bool.true_and]
      cases hv : c.states[v]? with
      | none => simp
      | some st => simp

/-- The abandon branch of `ts_query_cursor_next_capture` either changes
nothing or has set the flag. -/
theorem pool_flag_abandon (c : CursorPool) (victim : Option Nat) :
    (abandonEarliest c victim).flag = true ∨ abandonEarliest c victim = c := by
  cases h : abandons c victim
  · exact .inr ((abandon_erases_iff c victim).2 h)
  · exact .inl (by rw [abandon_flag_eq, h, Bool.or_true])

/-- The two calls that can drop something: `prepare_to_capture` for a state, the abandon branch of `next_capture`. -/
inductive POp where
  | prepare (idx : Nat) (victim preserve : Option Nat)
  | abandon (victim : Option Nat)

def applyP (c : CursorPool) : POp → CursorPool
  | .prepare idx v p => (prepareToCapture c idx v p).1
  | .abandon v => abandonEarliest c v

/-- Does this call, made in cursor state `c`, drop something: the pool is `exhausted` at a prepare (a capture is lost or
a victim killed, `prepare_exhausted_drops`), the abandon branch `abandons` (a state is erased, `abandon_erases_iff`).  An `idx`
outside `states` does not occur in the cursor; there the port returns `(c, false)` with the flag unchanged and this is
`false`. -/
def dropsP (c : CursorPool) : POp → Bool
  | .prepare idx _ _ => exhausted c idx
  | .abandon v => abandons c v

def anyDrop : CursorPool → List POp → Bool
  | _, [] => false
  | c, op :: ops => dropsP c op || anyDrop (applyP c op) ops

theorem flag_trace : ∀ (ops : List POp) (c : CursorPool),
    (ops.foldl applyP c).flag = (c.flag || anyDrop c ops)
  | [], c => by simp [anyDrop]
  | op :: ops, c => by
    simp only [List.foldl_cons, anyDrop]
    rw [flag_trace ops (applyP c op)]
    cases op with
    | prepare idx v p =>
      simp only [applyP, dropsP, prepare_flag_eq]
      rw [Bool.or_assoc]
    | abandon v =>
      simp only [applyP, dropsP, abandon_flag_eq]
      rw [Bool.or_assoc]

theorem flag_iff_dropped (ops : List POp) (c : CursorPool) (h : c.flag = false) :
    (ops.foldl applyP c).flag = true ↔ anyDrop c ops = true := by
  rw [flag_trace, h, Bool.false_or]

/-! Non-vacuity: a pool of one list in use by state 0; state 1 needs a list: state 0 is killed and the
flag is set; with a free list nothing is dropped and the flag stays clear. -/
example : anyDrop ⟨⟨[true], 0, 1⟩, [⟨some 0, false⟩, ⟨none, false⟩], false⟩ [.prepare 1 (some 0) none] = true := by decide +kernel
example : ([POp.prepare 1 (some 0) none].foldl applyP ⟨⟨[true], 0, 1⟩, [⟨some 0, false⟩, ⟨none, false⟩], false⟩).flag = true := by decide +kernel
example : ([POp.prepare 1 (some 0) none].foldl applyP ⟨⟨[true, false], 1, 2⟩, [⟨some 0, false⟩, ⟨none, false⟩], false⟩).flag = false := by decide +kernel

end TsVerif.C11
