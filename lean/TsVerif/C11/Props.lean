import TsVerif.C11.Model
/-!
# C11 — Query cursor views agree: captures, matches, ranges, limits, predicates

Property text: *For one query and tree, the capture stream contains exactly the (pattern,
capture, node) triples that occur in the match stream, in document order; restricting the cursor
to a byte/point range yields precisely the unrestricted matches that intersect it (or, for
containing ranges, lie inside it), and re-executing a cursor or using a fresh one gives identical
results.  A match limit that drops matches is always reported, removing a match suppresses its
remaining captures only, and the Rust iterators return exactly the matches whose text predicates
hold for the source text.*

## Clause map: each phrase of the property text → theorems, with status

Status: **proved** (kernel-checked, for all inputs) · **partial** (proved under the stated hypothesis /
for the stated fragment) · **judged** (decided by the Lean judge on the real cursor's streams of every
generated case; no ∀-theorem about the implementation).  Theorems of `ViewProps.lean` are marked (V), of `LimitProps.lean` (L).
Everything about the IMPLEMENTATION is judged: the theorems are about the spec, the judges and the ports.

Where the unmarked theorems stand: the capture stream (clauses 1, 2) in this file; `range_*`,
`setByteRange_spec` (3) in `RangeProps.lean`; `precedes_*`, `heap_*`, the sift / pop / erase / consume theorems (4, 5)
in `HeapProps.lean`; `pool_reset/acquire/release` (4, 5) in `PoolProps.lean`; `predicates_*`, `any_eq_witness` (7) in
`PredProps.lean`; `quantifier_*` (9) in `Quant.lean`.

1. *"the capture stream contains exactly the (pattern, capture, node) triples that occur in the match stream"*
   - spec view = a rearrangement of the matches' captures, nothing added / dropped / duplicated:
     `captureStream_perm`, `captureStream_triples` — **proved** (multiset equality).
   - the judge demands both inclusions: `judgeA_iff` (V) (accepts ⇔ same triples AS A SET ∧ document order),
     `judgeA_triples` (V), `judgeA_captureStream` (V) (the spec stream passes the judge) — **proved**.  Weakness kept on
     purpose: set, not multiset (a shared node is reported once per in-progress state, see conventions).
   - under a range: only `visible ⊆ captures ⊆ all` (`judgeA` with `inc`) — **partial** (two inclusions with
     different bounds; the cursor drops out-of-range captures of finished states only).
   - real `captures()` vs real `matches()`: **judged** (clause a; clause h with text predicates).
2. *"in document order"* — `captureStream_sorted`, `captureStream_startSorted`, `captureStream_keys_unique`
   (any sorted rearrangement has the merge's key sequence) — **proved** for the spec; the judge demands
   non-decreasing START BYTE only (`startSorted`; ties by end / pattern are not demanded) — **judged**.
3. *"restricting the cursor to a byte/point range yields precisely the unrestricted matches that intersect it
   (or, for containing ranges, lie inside it)"*
   - the generated `range_intersects` / `range_within` ARE half-open overlap / containment (+ empty-node
     convention): `range_intersects_spec`, `range_within_spec`, `range_*_eq_spec`, `setByteRange_spec` — **proved**.
   - "precisely" = filter of the unrestricted stream: `judgeB_qfree_iff` (V) — **proved**, both inclusions and
     order, for queries WITHOUT quantifiers and alternations; with them only `judgeB_sound` (V) (every returned
     (pattern, root) is kept by the filter) — **partial** (⊆ only: a match completed past the range may be lost).
   - what "intersects" means for a match: root and root's parent (`keepIntersect`); `keepIntersect_eq_root` (V)
     (non-empty root inside its parent: just the root), `range_intersects_parent`, `range_within_mono` —
     **proved**; non-rooted patterns: the parent of the first node (convention, **judged**); zero-width roots:
     NOT constrained (`emptyRoot`; nothing decides them).
   - byte range vs point range of the same positions: `range_intersects_bytes_of_consistent`,
     `range_within_bytes_of_consistent` — **proved** for position-consistent ranges; real runs: **judged** (clause p).
   - rootedness flag used to choose the rule: clause r — **judged** against the pattern text.
4. *"re-executing a cursor or using a fresh one gives identical results"* — `judgeCm_iff`, `judgeCc_iff` (V) (the
   judge is equality, ids included) — trivial; the claim itself is **judged** (clauses c, cl, fl).  Behind it:
   `pool_reset`, `heap_inv`, `heap_pop_min` — **proved** for the ported structures.
5. *"a match limit that drops matches is always reported"*
   - `judgeDm_iff`, `judgeDc_iff` (V): a differing stream needs the flag — **proved** (judge), real runs **judged** (d).
   - on the pool model: `prepare_flag_eq`, `abandon_flag_eq`, `prepare_exhausted_drops`,
     `prepare_not_exhausted_keeps`, `abandon_erases_iff`, `flag_trace`, `flag_iff_dropped`,
     `pool_flag_prepare/abandon` (L): flag set ⇔ a state or capture was dropped — **partial**: about the hand ports
     `prepareToCapture` / `abandonEarliest` (trusted to mirror the two C sites; the pool primitives under them
     are tied by `cunit_c11.c`), `pool_acquire`, `pool_release` — **proved**.
   - order in which finished matches leave: `precedes_*`, `heap_root_min`, `heap_inv` — **proved** (ports, tied by cunit).
6. *"removing a match suppresses its remaining captures only"* — **judged only** (`judgeE`: prefix unchanged always;
   others kept / nothing new / own captures gone only for quantifier-free queries with a unique match id).  No theorem.
7. *"the Rust iterators return exactly the matches whose text predicates hold for the source text"*
   - `predicates_spec_fixed` (repaired loops = documented reading, all predicates), `predicates_spec_partial`,
     `predicates_impl_any_str_true`, `any_eq_witness` — **proved** about the hand port of the loops in lib.rs
     (tie: `evalImpl | evalFixed` compared with the real verdict on every case).
   - `judgeF_iff`, `mem_filterBy` (V): the judge demands the filter of the raw stream, keys in order — **proved**;
     real `matches()` with predicates: **judged** (f); real `captures()` with predicates vs `matches()`: **judged** (h).
   - `#match?`: `miniRegex` stands in for the regex crate on the generated subset — trusted.
8. (quantifier over configurations) *max start depth*: `judgeG_simple_iff` (V) — **proved** (judge), runs **judged** (g).
9. quantifier algebra (feeds C05): `quantifier_add/join/mul_sound/least` — **proved** about the GENERATED tables.

Pairs of views and what connects them: matches↔captures (1, 2: theorems + judged) · unrestricted↔byte range (3) ·
byte↔point range (3) · fresh↔re-executed↔reused (4: judged) · unlimited↔limited (5) · before↔after removal
(6: judged only) · raw↔predicate-filtered matches (7) · filtered captures↔filtered matches (7: judged) ·
unrestricted↔start-depth-bounded (8).

Conventions fixed here where the docs are silent (the implementation decides):
* identity of a triple is (pattern index, capture index, node); the capture view is compared with
  the match view as *sets* of triples: one node captured by several matches of the same pattern
  (e.g. a shared root) is reported once per in-progress state, not once per match;
* a range-restricted capture stream additionally drops captures whose node is outside the range
  (`captureOutside`, the test used by `ts_query_cursor_next_capture`);
* "document order" is non-decreasing start byte;
* a match "intersects" a range when its root node and the root's parent do (`keepIntersect`);
  zero-width roots are not constrained (`emptyRoot`: `range_within` and the `range_intersects`
  that gates the descent disagree on them, see `range_intersects_parent` and its counterexample);
* for queries with quantifiers or alternations (split / twin states, deferred completion) the
  range clause requires soundness only and the removal clause only an unchanged prefix.
-/
namespace TsVerif.C11
open TsGen

theorem evLe_trans (a b c : CapEv) : evLe a b = true → evLe b c = true → evLe a c = true := by
  simp only [evLe, decide_eq_true_eq]; omega

theorem evLe_total (a b : CapEv) : (evLe a b || evLe b a) = true := by
  simp only [evLe, Bool.or_eq_true, decide_eq_true_eq]; omega

/-- The capture view is sorted by (start, end descending, pattern, position in match). -/
theorem captureStream_sorted (ms : List Match) : (captureStream ms).Pairwise (fun a b => evLe a b = true) :=
  List.pairwise_mergeSort evLe_trans evLe_total _

/-- It is a rearrangement of the captures of the matches: nothing added, dropped or duplicated. -/
theorem captureStream_perm (ms : List Match) : (captureStream ms).Perm (allEvents ms) :=
  List.mergeSort_perm _ _

/-- Hence the multiset of (pattern, capture, node) triples is that of the matches. -/
theorem captureStream_triples (ms : List Match) :
    ((captureStream ms).map CapEv.triple).Perm (triplesOfMatches ms) :=
  (captureStream_perm ms).map _

theorem startSorted_of_pairwise : ∀ (l : List CapEv),
    l.Pairwise (fun a b => evLe a b = true) → startSorted l = true
  | [], _ => rfl
  | [_], _ => rfl
  | a :: b :: rest, h => by
    unfold startSorted
    have h1 : evLe a b = true := (List.pairwise_cons.1 h).1 b (by simp)
    have h2 := startSorted_of_pairwise (b :: rest) (List.pairwise_cons.1 h).2
    simp only [evLe, decide_eq_true_eq] at h1
    simp only [Bool.and_eq_true, decide_eq_true_eq]
    exact ⟨by omega, h2⟩

/-- In particular it is in document order (start bytes never decrease). -/
theorem captureStream_startSorted (ms : List Match) : startSorted (captureStream ms) = true :=
  startSorted_of_pairwise _ (captureStream_sorted ms)

/-! Antisymmetry holds for the keys, not for the events (two events may share a key): hence a second, `Prop`-valued
spelling of `evLe`, on keys. -/

def evKey (e : CapEv) : Nat × Nat × Nat × Nat := (e.cap.r.start_byte, e.cap.r.end_byte, e.pat, e.k)

def keyLe (a b : Nat × Nat × Nat × Nat) : Prop :=
  a.1 < b.1 ∨ (a.1 = b.1 ∧ (b.2.1 < a.2.1 ∨ (a.2.1 = b.2.1 ∧ (a.2.2.1 < b.2.2.1 ∨ (a.2.2.1 = b.2.2.1 ∧ a.2.2.2 ≤ b.2.2.2)))))

theorem evLe_iff_keyLe (a b : CapEv) : evLe a b = true ↔ keyLe (evKey a) (evKey b) := by
  simp [evLe, keyLe, evKey]

theorem keyLe_antisymm (a b : Nat × Nat × Nat × Nat) (h1 : keyLe a b) (h2 : keyLe b a) : a = b := by
  obtain ⟨a1, a2, a3, a4⟩ := a
  obtain ⟨b1, b2, b3, b4⟩ := b
  simp only [keyLe] at h1 h2
  simp only [Prod.mk.injEq]
  omega

theorem eq_of_sorted_perm {α : Type} (r : α → α → Prop) (antisymm : ∀ a b, r a b → r b a → a = b) :
    ∀ (l1 l2 : List α), l1.Pairwise r → l2.Pairwise r → l1.Perm l2 → l1 = l2 :=
  fun _ _ h1 h2 hp => hp.eq_of_pairwise (fun a b _ _ => antisymm a b) h1 h2

/-- Every sorted rearrangement of the matches' captures has the key
sequence of the model's merge. -/
theorem captureStream_keys_unique (ms : List Match) (cs : List CapEv)
    (hperm : cs.Perm (allEvents ms)) (hsorted : cs.Pairwise (fun a b => evLe a b = true)) :
    cs.map evKey = (captureStream ms).map evKey := by
  apply eq_of_sorted_perm keyLe keyLe_antisymm
  · rw [List.pairwise_map]
    exact hsorted.imp fun h => (evLe_iff_keyLe _ _).1 h
  · rw [List.pairwise_map]
    exact (captureStream_sorted ms).imp fun h => (evLe_iff_keyLe _ _).1 h
  · exact (hperm.trans (captureStream_perm ms).symm).map _

end TsVerif.C11
