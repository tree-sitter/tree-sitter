import TsVerif.Gen.Query
/-!
# C11 — the quantifier tables generated from `lib/src/query.c` as interval arithmetic

`occ q` is the set of occurrence counts a quantifier stands for (the specification).  It is the interval
[`minOcc q`, `capOcc q`] of counts, `2` standing for "any number"
(`occ_iff`); `quantifier_add` / `quantifier_mul` / `quantifier_join` are sum, product and hull of two such
intervals (`ends_add`, `ends_mul`, `ends_join`).
-/
namespace TsVerif.C11
open TsGen

/-- How many times something with quantifier `q` may occur. -/
def occ : TSQuantifier → Nat → Prop
  | .TSQuantifierZero, n => n = 0
  | .TSQuantifierZeroOrOne, n => n ≤ 1
  | .TSQuantifierZeroOrMore, _ => True
  | .TSQuantifierOne, n => n = 1
  | .TSQuantifierOneOrMore, n => 1 ≤ n

def minOcc : TSQuantifier → Nat
  | .TSQuantifierZero | .TSQuantifierZeroOrOne | .TSQuantifierZeroOrMore => 0
  | .TSQuantifierOne | .TSQuantifierOneOrMore => 1

/-- Most occurrences a quantifier admits, `2` standing for "any number". -/
def capOcc : TSQuantifier → Nat
  | .TSQuantifierZero => 0
  | .TSQuantifierZeroOrOne | .TSQuantifierOne => 1
  | .TSQuantifierZeroOrMore | .TSQuantifierOneOrMore => 2

theorem occ_iff (q : TSQuantifier) (n : Nat) : occ q n ↔ minOcc q ≤ n ∧ min n 2 ≤ capOcc q := by
  cases q <;> simp [occ, minOcc, capOcc] <;> omega

theorem minOcc_le_capOcc (q : TSQuantifier) : minOcc q ≤ 1 ∧ minOcc q ≤ capOcc q ∧ capOcc q ≤ 2 := by
  cases q <;> decide

theorem occ_ends (q : TSQuantifier) : occ q (minOcc q) ∧ occ q (capOcc q) := by
  cases q <;> simp [occ, minOcc, capOcc]

theorem ends_add (a b : TSQuantifier) : minOcc (quantifier_add a b) = min (minOcc a + minOcc b) 1 ∧
    capOcc (quantifier_add a b) = min (capOcc a + capOcc b) 2 := by
  cases a <;> cases b <;> exact ⟨rfl, rfl⟩

theorem ends_mul (a b : TSQuantifier) : minOcc (quantifier_mul a b) = minOcc a * minOcc b ∧
    capOcc (quantifier_mul a b) = min (capOcc a * capOcc b) 2 := by
  cases a <;> cases b <;> exact ⟨rfl, rfl⟩

theorem ends_join (a b : TSQuantifier) : minOcc (quantifier_join a b) = min (minOcc a) (minOcc b) ∧
    capOcc (quantifier_join a b) = max (capOcc a) (capOcc b) := by
  cases a <;> cases b <;> exact ⟨rfl, rfl⟩

theorem quantifier_add_sound (a b : TSQuantifier) (m n : Nat) :
    occ a m → occ b n → occ (quantifier_add a b) (m + n) := by
  simp only [occ_iff, ends_add]; omega

theorem quantifier_add_least (a b c : TSQuantifier)
    (h : ∀ m n, occ a m → occ b n → occ c (m + n)) : ∀ k, occ (quantifier_add a b) k → occ c k := by
  -- `c` contains the sum of the lower ends and the sum of the upper ends
  have h1 := h _ _ (occ_ends a).1 (occ_ends b).1
  have h2 := h _ _ (occ_ends a).2 (occ_ends b).2
  have := minOcc_le_capOcc c
  simp only [occ_iff, ends_add] at *
  omega

theorem quantifier_join_sound (a b : TSQuantifier) (n : Nat) :
    occ a n ∨ occ b n → occ (quantifier_join a b) n := by
  simp only [occ_iff, ends_join]; omega

theorem quantifier_join_least (a b c : TSQuantifier)
    (h : ∀ n, occ a n ∨ occ b n → occ c n) : ∀ k, occ (quantifier_join a b) k → occ c k := by
  have h1 := h _ (.inl (occ_ends a).1)
  have h2 := h _ (.inr (occ_ends b).1)
  have h3 := h _ (.inl (occ_ends a).2)
  have h4 := h _ (.inr (occ_ends b).2)
  have := minOcc_le_capOcc a
  have := minOcc_le_capOcc b
  simp only [occ_iff, ends_join] at *
  omega

theorem min_mul_le (x y : Nat) : min (x * y) 2 ≤ min x 2 * min y 2 := by
  rcases Nat.lt_or_ge x 2 with hx | hx
  · obtain rfl | rfl : x = 0 ∨ x = 1 := by omega
    · simp
    · simp
  · rw [Nat.min_eq_right hx]
    cases y with
    | zero => simp
    | succ y => omega

/-- A count repeated a number of times (outer quantifier `a`, inner `b`). -/
theorem quantifier_mul_sound (a b : TSQuantifier) (m n : Nat) :
    occ a m → occ b n → occ (quantifier_mul a b) (m * n) := by
  simp only [occ_iff, ends_mul]
  intro ⟨h1, h2⟩ ⟨h3, h4⟩
  have := min_mul_le m n
  have := Nat.mul_le_mul h2 h4
  exact ⟨Nat.mul_le_mul h1 h3, by omega⟩

/-- An outer quantifier that admits any number of repetitions admits one more: its product with `q` is closed under
adding a count of `q`.  (A capture under a repeated item occurs a SUM of counts of the item, not a product:
`quantifier_mul_sound` alone does not bound it.) -/
theorem occ_mul_more (a q : TSQuantifier) (m k : Nat) (ha : capOcc a = 2) (h : occ q m)
    (hk : occ (quantifier_mul a q) k) : occ (quantifier_mul a q) (m + k) := by
  rw [occ_iff, (ends_mul a q).1, (ends_mul a q).2, ha] at hk ⊢
  rw [occ_iff] at h
  omega

theorem quantifier_mul_least (a b c : TSQuantifier)
    (h : ∀ m n, occ a m → occ b n → occ c (m * n)) : ∀ k, occ (quantifier_mul a b) k → occ c k := by
  have h1 := h _ _ (occ_ends a).1 (occ_ends b).1
  have h2 := h _ _ (occ_ends a).2 (occ_ends b).2
  simp only [occ_iff, ends_mul] at *
  omega

example : occ (quantifier_add .TSQuantifierOne .TSQuantifierZeroOrOne) 2 :=
  quantifier_add_sound _ _ 1 1 rfl (by simp [occ])

end TsVerif.C11
