import TsVerif.C11.Props
import TsVerif.C11.Judge
import TsVerif.C11.RangeProps
/-!
# C11 — the view relations the property names, as theorems about the judges
-/
namespace TsVerif.C11
open TsGen

theorem subsetB_iff {xs ys : List Triple} : subsetB xs ys = true ↔ ∀ x, x ∈ xs → x ∈ ys := by
  simp only [subsetB, List.all_eq_true, List.contains_iff_mem]

theorem subsetB_of_subset {xs ys : List Triple} (h : ∀ x, x ∈ xs → x ∈ ys) : subsetB xs ys = true :=
  subsetB_iff.2 h

theorem mem_of_subsetB {xs ys : List Triple} (h : subsetB xs ys = true) : ∀ x, x ∈ xs → x ∈ ys :=
  subsetB_iff.1 h

/-- The spec stream passes the judge that is run on the implementation's capture stream, under
every range setting (so the judge demands nothing the spec does not have). -/
theorem judgeA_captureStream (ms : List Match) (inc : Option TSRange) (old : Bool) :
    judgeA ms (captureStream ms) inc old = true := by
  unfold judgeA
  simp only [Bool.and_eq_true]
  refine ⟨⟨subsetB_of_subset fun _ => (captureStream_triples ms).mem_iff.1, ?_⟩, captureStream_startSorted ms⟩
  apply subsetB_of_subset
  intro x hx
  have hsub : ∀ e, e ∈ visibleEvents ms inc old → e ∈ allEvents ms := by
    intro e he
    cases inc with
    | none => exact he
    | some r => exact (List.mem_filter.1 he).1
  obtain ⟨e, he, rfl⟩ := List.mem_map.1 hx
  exact (captureStream_triples ms).mem_iff.2 (List.mem_map.2 ⟨e, hsub e he, rfl⟩)

/-- Without a range the judge accepts exactly the streams that carry the triples of the
match stream (as a set) in document order. -/
theorem judgeA_iff (ms : List Match) (cs : List CapEv) :
    judgeA ms cs none = true ↔
      (∀ t, t ∈ cs.map CapEv.triple ↔ t ∈ triplesOfMatches ms) ∧ startSorted cs = true := by
  simp only [judgeA, visibleEvents, triplesOfMatches, Bool.and_eq_true, subsetB_iff]
  exact and_congr_left' ⟨fun h t => ⟨h.1 t, h.2 t⟩, fun h => ⟨fun t => (h t).1, fun t => (h t).2⟩⟩

/-- Conversely the judge pins the triples down: a stream that passes has exactly the triples of
the matches (as a set). -/
theorem judgeA_triples (ms : List Match) (cs : List CapEv) (h : judgeA ms cs none = true) :
    ∀ t, t ∈ cs.map CapEv.triple ↔ t ∈ triplesOfMatches ms :=
  ((judgeA_iff ms cs).1 h).1

def exRange (s e : Nat) : TSRange := ⟨⟨0, s⟩, ⟨0, e⟩, s, e⟩
def exMatch : Match := ⟨0, 0, exRange 0 3, 0, false, true, exRange 0 0, [⟨0, 1, exRange 0 3⟩, ⟨1, 2, exRange 0 1⟩]⟩

example : judgeA [exMatch] [⟨0, 0, 0, ⟨0, 1, exRange 0 3⟩⟩, ⟨0, 0, 1, ⟨1, 2, exRange 0 1⟩⟩] none = true := by decide +kernel
example : judgeA [exMatch] [⟨0, 0, 1, ⟨1, 2, exRange 0 1⟩⟩] none = false := by decide +kernel

/-- For quantifier-free queries the restricted stream must be the filter of the
unrestricted stream — same match keys in the same order (matches the clause does not constrain,
`dontCare`, are ignored on both sides). -/
theorem judgeB_qfree_iff (keep dontCare : Match → Bool) (u r : List Match) :
    judgeB keep dontCare true u r = true ↔
      ((u.filter fun m => keep m && !dontCare m).map Match.key) = ((r.filter fun m => !dontCare m).map Match.key) := by
  unfold judgeB
  simp

example : judgeB (fun m => m.pat == 0) (fun _ => false) true [exMatch] [exMatch] = true := by decide +kernel

/-- With quantifiers / alternations every returned match must be rooted where the
filter keeps a match of that pattern. -/
theorem judgeB_sound (keep dontCare : Match → Bool) (u r : List Match)
    (h : judgeB keep dontCare false u r = true) :
    ∀ m, m ∈ r → dontCare m = false → ∃ m', m' ∈ u ∧ keep m' = true ∧ m'.pat = m.pat ∧ m'.root = m.root := by
  unfold judgeB at h
  intro m hm hd
  have hall := List.all_eq_true.1 h (m.pat, m.root)
    (List.mem_map.2 ⟨m, List.mem_filter.2 ⟨hm, by simp [hd]⟩, rfl⟩)
  have hmem := List.contains_iff_mem.1 hall
  obtain ⟨m', hm', he⟩ := List.mem_map.1 hmem
  obtain ⟨hmu, hk⟩ := List.mem_filter.1 hm'
  simp only [Bool.and_eq_true] at hk
  simp only [Prod.mk.injEq] at he
  exact ⟨m', hmu, hk.1, he.1, he.2⟩

/-- For a match whose NON-EMPTY root lies within its parent, "root and parent
intersect the range" is just "the root intersects the range". -/
theorem keepIntersect_eq_root (inc : TSRange) (m : Match)
    (hne : m.root.start_byte < m.root.end_byte) (hw : m.hasPar = true → withinSpec m.root m.par = true) :
    keepIntersect inc m = intersectsSpec m.root inc := by
  unfold keepIntersect
  cases hr : intersectsSpec m.root inc with
  | false => simp
  | true =>
    cases hp : m.hasPar with
    | false => simp
    | true =>
      have h := range_intersects_parent m.root m.par inc hne
        (by rw [range_within_eq_spec]; exact hw hp) (by rw [range_intersects_eq_spec]; exact hr)
      rw [range_intersects_eq_spec] at h
      simp [h]

/-- For quantifier-free queries a start-depth bound `d` returns exactly the
unrestricted matches rooted at depth ≤ d, in order. -/
theorem judgeG_simple_iff (u dms : List Match) (d : Nat) :
    judgeG u dms d true = true ↔
      (∀ m, m ∈ dms → m.depth ≤ d) ∧ dms.map Match.key = (u.filter fun m => decide (m.depth ≤ d)).map Match.key := by
  unfold judgeG
  simp

theorem judgeDm_iff (u l : List Match) (exceeded : Bool) :
    judgeDm u l exceeded = true ↔ (exceeded = false → u.map Match.key = l.map Match.key) := by
  unfold judgeDm
  cases exceeded <;> simp

theorem judgeDc_iff (u l : List CapEv) (exceeded : Bool) :
    judgeDc u l exceeded = true ↔ (exceeded = false → u.map CapEv.key = l.map CapEv.key) := by
  unfold judgeDc
  cases exceeded <;> simp

theorem judgeCm_iff (a b : List Match) : judgeCm a b = true ↔ a = b := by unfold judgeCm; simp
theorem judgeCc_iff (a b : List CapEv) : judgeCc a b = true ↔ a = b := by unfold judgeCc; simp

/-- The spec of the predicate-filtering iterator keeps exactly the raw matches whose own
pattern's predicates hold on the text of their captures. -/
theorem mem_filterBy (ev : List (Nat × Bytes) → TextPred → Bool) (preds : List (Nat × TextPred))
    (text : Array Nat) (u : List Match) (m : Match) :
    m ∈ filterBy ev preds text u ↔
      m ∈ u ∧ satisfies ev ((preds.filter fun p => p.1 == m.pat).map (·.2)) (capTexts text m) = true := by
  unfold filterBy
  simp [List.mem_filter]

theorem judgeF_iff (isMatch : Bytes → Bytes → Bool) (preds : List (Nat × TextPred)) (text : Array Nat)
    (u p : List Match) :
    judgeF isMatch preds text u p = true ↔
      (filterBy (evalSpec isMatch) preds text u).map Match.key = p.map Match.key := by
  unfold judgeF; simp

end TsVerif.C11
