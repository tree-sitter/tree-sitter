import TsVerif.Gen.C11
/-!
# C11 — model: match / capture streams, cursor ranges, text predicates

* `range_intersects`, `range_within` are *generated* from `lib/src/query.c` (`TsGen`, T-gen).
* `setByteRange` / `setPointRange` are hand ports of `ts_query_cursor_set_byte_range` /
  `ts_query_cursor_set_point_range` (and of the `containing` variants, which are the same code on
  another field).
* `captureOutside` is a hand port of the `node_outside_of_range` test of
  `ts_query_cursor_next_capture`.
* `captureStream` is the *spec* of the capture view of a match list.
* `evalImpl` is a code-shaped port of `QueryMatch::satisfies_text_predicates`
  (lib/binding_rust/lib.rs) with its early returns; `evalFixed` is the same code after
  `fixes/C11-any-predicates.diff`; `evalSpec` is the documented reading
  (docs/src/using-parsers/queries/3-predicates-and-directives.md).
-/
namespace TsVerif.C11
open TsGen

abbrev Bytes := List Nat

structure Cap where
  idx : Nat
  node : Nat
  r : TSRange
  deriving DecidableEq, Repr, Inhabited

structure Match where
  id : Nat
  pat : Nat
  root : TSRange
  depth : Nat
  hasPar : Bool
  hasRoot : Bool
  par : TSRange
  caps : List Cap
  deriving DecidableEq, Repr, Inhabited

/-- One element of the capture stream: match id, pattern, position in the match's capture list. -/
structure CapEv where
  id : Nat
  pat : Nat
  k : Nat
  cap : Cap
  deriving DecidableEq, Repr, Inhabited

abbrev Triple := Nat × Nat × Nat

def CapEv.triple (e : CapEv) : Triple := (e.pat, e.cap.idx, e.cap.node)

/-! ## The capture view of a match list (spec) -/

def eventsOf (m : Match) : List CapEv :=
  (m.caps.zipIdx).map fun ck => { id := m.id, pat := m.pat, k := ck.2, cap := ck.1 }

def allEvents (ms : List Match) : List CapEv := ms.flatMap eventsOf

/-- Document order of captures: start ascending, end descending (outer before inner),
then pattern index, then position in the match. -/
def evLe (a b : CapEv) : Bool :=
  decide (a.cap.r.start_byte < b.cap.r.start_byte ∨
    (a.cap.r.start_byte = b.cap.r.start_byte ∧
      (b.cap.r.end_byte < a.cap.r.end_byte ∨
        (a.cap.r.end_byte = b.cap.r.end_byte ∧
          (a.pat < b.pat ∨ (a.pat = b.pat ∧ a.k ≤ b.k))))))

def captureStream (ms : List Match) : List CapEv := (allEvents ms).mergeSort evLe

def triplesOfMatches (ms : List Match) : List Triple := (allEvents ms).map CapEv.triple

/-- Start bytes never decrease. -/
def startSorted : List CapEv → Bool
  | a :: b :: rest => decide (a.cap.r.start_byte ≤ b.cap.r.start_byte) && startSorted (b :: rest)
  | _ => true

def subsetB (xs ys : List Triple) : Bool := xs.all fun x => ys.contains x

/-! ## Cursor ranges -/

def UINT32_MAX : Nat := 4294967295

def defaultRange : TSRange :=
  { start_point := POINT_ZERO, end_point := POINT_MAX, start_byte := 0, end_byte := UINT32_MAX }

/-- Port of `ts_query_cursor_set_byte_range` (and `..._set_containing_byte_range`). -/
def setByteRange (r : TSRange) (s e : Nat) : TSRange :=
  let e := if e = 0 then UINT32_MAX else e
  if s > e then r else { r with start_byte := s, end_byte := e }

/-- Port of `ts_query_cursor_set_point_range` (and `..._set_containing_point_range`). -/
def setPointRange (r : TSRange) (s e : TSPoint) : TSRange :=
  let e := if e.row = 0 ∧ e.column = 0 then POINT_MAX else e
  if point_gt s e then r else { r with start_point := s, end_point := e }

/-- Port of `ts_query_cursor__node_precedes_range` (commit 5d2fccd): a zero-width node exactly at
the start of the range is inside it, as for `range_intersects`. -/
def nodePrecedesRange (n inc : TSRange) : Bool :=
  if n.start_byte = n.end_byte then
    decide (n.end_byte < inc.start_byte) || point_lt n.end_point inc.start_point
  else
    decide (n.end_byte ≤ inc.start_byte) || point_lte n.end_point inc.start_point

/-- The expression the helper replaced (selected when the behavioural probe shows the old behaviour). -/
def nodePrecedesRangeOld (n inc : TSRange) : Bool :=
  decide (n.end_byte ≤ inc.start_byte) || point_lte n.end_point inc.start_point

/-- Port of the `node_outside_of_range` test in `ts_query_cursor_next_capture`.  `old` selects
the test as it was before commit 5d2fccd; which one the code under test implements is decided on
every run by a behavioural probe (captures() on a zero-width node at the range start), not by a
source anchor: a rename of the helper changes nothing, a reverted fix selects the old variant —
and is then reported by clause (a), because the unrestricted capture stream loses the node. -/
def captureOutside (n inc : TSRange) (old : Bool := false) : Bool :=
  (if old then nodePrecedesRangeOld n inc else nodePrecedesRange n inc) ||
  (decide (n.start_byte ≥ inc.end_byte) || point_gte n.start_point inc.end_point)

def PLt (p q : TSPoint) : Prop := p.row < q.row ∨ (p.row = q.row ∧ p.column < q.column)
def PLe (p q : TSPoint) : Prop := p.row < q.row ∨ (p.row = q.row ∧ p.column ≤ q.column)
instance (p q : TSPoint) : Decidable (PLt p q) := by unfold PLt; infer_instance
instance (p q : TSPoint) : Decidable (PLe p q) := by unfold PLe; infer_instance

/-- Spec of "node range `a` intersects range `b`": half-open overlap in bytes and in points; an
empty node (start = end) at position p meets `b` iff `b.start ≤ p < b.end`.
(`range_intersects_spec`: the function generated from query.c equals this.) -/
def intersectsSpec (a b : TSRange) : Bool :=
  if a.start_byte = a.end_byte then
    decide ((b.start_byte ≤ a.start_byte ∧ a.start_byte < b.end_byte) ∧
      (PLe b.start_point a.end_point ∧ PLt a.start_point b.end_point))
  else
    decide ((a.end_byte > b.start_byte ∧ a.start_byte < b.end_byte) ∧
      (PLt b.start_point a.end_point ∧ PLt a.start_point b.end_point))

/-- Spec of "node range `a` lies within range `b`". -/
def withinSpec (a b : TSRange) : Bool :=
  decide ((b.start_byte ≤ a.start_byte ∧ a.end_byte ≤ b.end_byte) ∧
    (PLe b.start_point a.start_point ∧ PLe a.end_point b.end_point))

/-- Which unrestricted matches a cursor restricted to the intersecting range `inc` returns:
those whose root node intersects the range (and whose parent does, as the code requires both). -/
def keepIntersect (inc : TSRange) (m : Match) : Bool :=
  intersectsSpec m.root inc && (!m.hasPar || intersectsSpec m.par inc)

/-- … and to the containing range `con`: those whose root node lies within it. -/
def keepWithin (con : TSRange) (m : Match) : Bool := withinSpec m.root con

/-! ## Text predicates -/

inductive TextPred where
  | eqCapture (i j : Nat) (pos all : Bool)
  | eqString (i : Nat) (s : Bytes) (pos all : Bool)
  | matchString (i : Nat) (re : Bytes) (pos all : Bool)
  | anyString (i : Nat) (vs : List Bytes) (pos : Bool)
  deriving Repr, Inhabited

/-- `all`-quantified (or `any-of?`, which the code always evaluates over all nodes). -/
def TextPred.isAll : TextPred → Bool
  | .eqCapture _ _ _ a => a
  | .eqString _ _ _ a => a
  | .matchString _ _ _ a => a
  | .anyString _ _ _ => true

/-- Port of the operator-name table of `Query::from_raw_parts`: name ↦ (is_positive, match_all). -/
def opFlags (name : String) : Option (String × Bool × Bool) :=
  if name = "eq?" then some ("eq", true, true)
  else if name = "not-eq?" then some ("eq", false, true)
  else if name = "any-eq?" then some ("eq", true, false)
  else if name = "any-not-eq?" then some ("eq", false, false)
  else if name = "match?" then some ("match", true, true)
  else if name = "not-match?" then some ("match", false, true)
  else if name = "any-match?" then some ("match", true, false)
  else if name = "any-not-match?" then some ("match", false, false)
  else if name = "any-of?" then some ("anyof", true, true)
  else if name = "not-any-of?" then some ("anyof", false, true)
  else none

/-- Texts of the nodes captured under capture index `i`, in capture-list order
(`QueryMatch::nodes_for_capture_index`). -/
def nodesFor (caps : List (Nat × Bytes)) (i : Nat) : List Bytes :=
  (caps.filter fun c => c.1 == i).map (·.2)

/-- The `for node in nodes { … }` loop of the `EqString` / `MatchString` arms, as written:
early `false` for an `all` predicate, early `true` for an `any` predicate, `true` at the end. -/
def loopStrImpl (test : Bytes → Bool) (pos all : Bool) : List Bytes → Bool
  | [] => true
  | t :: ts =>
    if (test t != pos) && all then false
    else if (test t == pos) && !all then true
    else loopStrImpl test pos all ts

/-- The same loop after the fix: falling off the end yields `match_all_nodes`. -/
def loopStrFixed (test : Bytes → Bool) (pos all : Bool) : List Bytes → Bool
  | [] => all
  | t :: ts =>
    if (test t != pos) && all then false
    else if (test t == pos) && !all then true
    else loopStrFixed test pos all ts

/-- The `while nodes_1.peek().is_some() && nodes_2.peek().is_some()` loop of `EqCapture`. -/
def loopCapImpl (pos all : Bool) : List Bytes → List Bytes → Bool
  | t1 :: r1, t2 :: r2 =>
    if (decide (t1 = t2) != pos) && all then false
    else if (decide (t1 = t2) == pos) && !all then true
    else loopCapImpl pos all r1 r2
  | [], [] => true
  | _, _ => false

def loopCapFixed (pos all : Bool) : List Bytes → List Bytes → Bool
  | t1 :: r1, t2 :: r2 =>
    if (decide (t1 = t2) != pos) && all then false
    else if (decide (t1 = t2) == pos) && !all then true
    else loopCapFixed pos all r1 r2
  | [], [] => all
  | _, _ => false

def anyOfLoop (vs : List Bytes) (pos : Bool) (ts : List Bytes) : Bool :=
  ts.all fun t => (vs.any fun v => decide (v = t)) == pos

/-- `satisfies_text_predicates`, one predicate, as the unchanged code evaluates it.
`isMatch` stands for `regex::bytes::Regex::is_match` (a parameter: not tree-sitter code). -/
def evalImpl (isMatch : Bytes → Bytes → Bool) (caps : List (Nat × Bytes)) : TextPred → Bool
  | .eqCapture i j pos all => loopCapImpl pos all (nodesFor caps i) (nodesFor caps j)
  | .eqString i s pos all => loopStrImpl (fun t => decide (t = s)) pos all (nodesFor caps i)
  | .matchString i re pos all => loopStrImpl (isMatch re) pos all (nodesFor caps i)
  | .anyString i vs pos => anyOfLoop vs pos (nodesFor caps i)

def evalFixed (isMatch : Bytes → Bytes → Bool) (caps : List (Nat × Bytes)) : TextPred → Bool
  | .eqCapture i j pos all => loopCapFixed pos all (nodesFor caps i) (nodesFor caps j)
  | .eqString i s pos all => loopStrFixed (fun t => decide (t = s)) pos all (nodesFor caps i)
  | .matchString i re pos all => loopStrFixed (isMatch re) pos all (nodesFor caps i)
  | .anyString i vs pos => anyOfLoop vs pos (nodesFor caps i)

/-- Documented reading: `all` predicates hold for every captured node, `any-` predicates for
some node; `not-` forms are negated pointwise. -/
def specStr (test : Bytes → Bool) (pos all : Bool) (ts : List Bytes) : Bool :=
  if all then ts.all fun t => test t == pos else ts.any fun t => test t == pos

/-- Two-capture form: the nodes are compared pairwise in capture order (the docs only describe
one node per capture; the pairing and the equal-count requirement of the `all` form are the
implementation's choice, recorded here). -/
def specCap (pos all : Bool) (l1 l2 : List Bytes) : Bool :=
  if all then decide (l1.length = l2.length) && (l1.zip l2).all fun p => decide (p.1 = p.2) == pos
  else (l1.zip l2).any fun p => decide (p.1 = p.2) == pos

def evalSpec (isMatch : Bytes → Bytes → Bool) (caps : List (Nat × Bytes)) : TextPred → Bool
  | .eqCapture i j pos all => specCap pos all (nodesFor caps i) (nodesFor caps j)
  | .eqString i s pos all => specStr (fun t => decide (t = s)) pos all (nodesFor caps i)
  | .matchString i re pos all => specStr (isMatch re) pos all (nodesFor caps i)
  | .anyString i vs pos => (nodesFor caps i).all fun t => (vs.any fun v => decide (v = t)) == pos

def satisfies (ev : List (Nat × Bytes) → TextPred → Bool) (preds : List TextPred)
    (caps : List (Nat × Bytes)) : Bool :=
  preds.all (ev caps)

end TsVerif.C11
