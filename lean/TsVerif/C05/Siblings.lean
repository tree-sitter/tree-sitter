import TsVerif.C05.Model
/-!
# C05 — the sibling relations `One`, `Many`, `Seq`: what the other modules know about them

`Took` — what one quantified item consumes — and `One_iff`, `Many_iff`, `Seq_iff`: a quantified item matches no
node (`?`, `*`) or consumes as `Took` says and the rest of the pattern goes on behind it.  Facts about a
DERIVATION go through `Seq_iff` and one induction over `Took`.
-/
namespace TsVerif.C05

theorem mem_cross {xs ys : List Binding} {b : Binding} :
    b ∈ cross xs ys ↔ ∃ b1, b1 ∈ xs ∧ ∃ b2, b2 ∈ ys ∧ b = b1 ++ b2 := by
  simp only [cross, List.mem_flatMap, List.mem_map, eq_comm (a := b)]

section relations
variable {imm : Anchor} {F : VT → Binding → Prop} {G : List VT → Binding → Prop}

theorem One_cons {c : VT} {cs : List VT} {b : Binding} : One imm F G (c :: cs) b ↔
    (∃ b1, F c b1 ∧ ∃ b2, G cs b2 ∧ b = b1 ++ b2) ∨ (blocked imm c = false ∧ One imm F G cs b) := by
  constructor
  · intro h
    cases h with
    | take h1 h2 => exact .inl ⟨_, h1, _, h2, rfl⟩
    | skip hb h => exact .inr ⟨hb, h⟩
  · rintro (⟨b1, h1, b2, h2, rfl⟩ | ⟨hb, h⟩)
    · exact .take h1 h2
    · exact .skip hb h

theorem Many_cons {c : VT} {cs : List VT} {b : Binding} : Many imm F G (c :: cs) b ↔
    (∃ b1, F c b1 ∧ ∃ b2, G cs b2 ∧ b = b1 ++ b2) ∨ (∃ b1, F c b1 ∧ ∃ b2, Many imm F G cs b2 ∧ b = b1 ++ b2) ∨
      (blocked imm c = false ∧ Many imm F G cs b) := by
  constructor
  · intro h
    cases h with
    | takeStop h1 h2 => exact .inl ⟨_, h1, _, h2, rfl⟩
    | takeMore h1 h2 => exact .inr (.inl ⟨_, h1, _, h2, rfl⟩)
    | skip hb h => exact .inr (.inr ⟨hb, h⟩)
  · rintro (⟨b1, h1, b2, h2, rfl⟩ | ⟨b1, h1, b2, h2, rfl⟩ | ⟨hb, h⟩)
    · exact .takeStop h1 h2
    · exact .takeMore h1 h2
    · exact .skip hb h

/-- What one quantified item consumes: from `sibs`, passing over siblings the anchor lets pass, it takes one
node (`many = false`) or one or more nodes (`many = true`), binds `b`, and leaves the siblings `s` after the
last node taken. -/
inductive Took (imm : Anchor) (F : VT → Binding → Prop) : Bool → List VT → List VT → Binding → Prop
  | take {m c cs b} : F c b → Took imm F m (c :: cs) cs b
  | more {c cs s b1 b2} : F c b1 → Took imm F true cs s b2 → Took imm F true (c :: cs) s (b1 ++ b2)
  | skip {m c cs s b} : blocked imm c = false → Took imm F m cs s b → Took imm F m (c :: cs) s b

theorem One_iff {sibs : List VT} {b : Binding} :
    One imm F G sibs b ↔ ∃ s b1, Took imm F false sibs s b1 ∧ ∃ b2, G s b2 ∧ b = b1 ++ b2 := by
  constructor
  · intro h
    induction h with
    | take h1 h2 => exact ⟨_, _, .take h1, _, h2, rfl⟩
    | skip hb _ ih =>
      obtain ⟨s, b1, e, r⟩ := ih
      exact ⟨s, b1, .skip hb e, r⟩
  · rintro ⟨s, b1, e, b2, g, rfl⟩
    generalize hm : false = m at e
    induction e with
    | take h1 => exact .take h1 g
    | more => cases hm
    | skip hb _ ih => exact .skip hb (ih g hm)

theorem Many_iff {sibs : List VT} {b : Binding} :
    Many imm F G sibs b ↔ ∃ s b1, Took imm F true sibs s b1 ∧ ∃ b2, G s b2 ∧ b = b1 ++ b2 := by
  constructor
  · intro h
    induction h with
    | takeStop h1 h2 => exact ⟨_, _, .take h1, _, h2, rfl⟩
    | takeMore h1 _ ih =>
      obtain ⟨s, b1, e, b2, g, rfl⟩ := ih
      exact ⟨s, _, .more h1 e, b2, g, (List.append_assoc ..).symm⟩
    | skip hb _ ih =>
      obtain ⟨s, b1, e, r⟩ := ih
      exact ⟨s, b1, .skip hb e, r⟩
  · rintro ⟨s, b1, e, b2, g, rfl⟩
    generalize hm : true = m at e
    induction e with
    | take h1 => exact .takeStop h1 g
    | more h1 _ ih =>
      rw [List.append_assoc]
      exact .takeMore h1 (ih g rfl)
    | skip hb _ ih => exact .skip hb (ih g hm)

theorem Took.length_lt {m : Bool} {sibs s : List VT} {b : Binding} (e : Took imm F m sibs s b) :
    s.length < sibs.length := by
  induction e with
  | take => exact Nat.lt_succ_self _
  | more _ _ ih | skip _ _ ih => exact Nat.lt_succ_of_lt ih

def Quant.optional : Quant → Bool
  | .opt | .star => true
  | _ => false

def Quant.many : Quant → Bool
  | .star | .plus => true
  | _ => false

theorem Seq_iff {G0 G1 : List VT → Binding → Prop} {q : Quant} {sibs : List VT} {b : Binding} :
    Seq q imm F G0 G1 sibs b ↔
      (q.optional = true ∧ G0 sibs b) ∨ ∃ s b1, Took imm F q.many sibs s b1 ∧ ∃ b2, G1 s b2 ∧ b = b1 ++ b2 := by
  cases q <;>
    simp only [Seq, One_iff, Many_iff, Quant.optional, Quant.many, true_and, Bool.false_eq_true, false_and, false_or]

end relations

section derivations
variable {imm : Anchor} {F : VT → Binding → Prop} {G0 G1 G0' G1' : List VT → Binding → Prop}
  {q : Quant} {sibs : List VT} {b : Binding}

/-- A derivation of `Seq` uses one of its two continuations exactly once (`G1` after at least one node, and
with quantifier `one` / `plus` only `G1`), and any continuation that holds there will do as well.  The `if` is the
summand of `minNodes` (Parse.lean), so that the bound of `SatVsK_elim` adds up. -/
theorem Seq_elim (h : Seq q imm F G0 G1 sibs b) :
    ∃ s b', s.length + (if q == .one || q == .plus then 1 else 0) ≤ sibs.length ∧
      ((G0 s b' ∧ ∀ G0' G1', G0' s b' → Seq q imm F G0' G1' sibs b) ∨
       (G1 s b' ∧ ∀ G0' G1', G1' s b' → Seq q imm F G0' G1' sibs b)) := by
  rcases Seq_iff.1 h with ⟨ho, g⟩ | ⟨s, b1, e, b2, g, rfl⟩
  · refine ⟨sibs, b, ?_, .inl ⟨g, fun _ _ g' => Seq_iff.2 (.inl ⟨ho, g'⟩)⟩⟩
    cases q with
    | one | plus => cases ho
    | opt | star => exact Nat.le_refl _
  · refine ⟨s, b2, ?_, .inr ⟨g, fun _ _ g' => Seq_iff.2 (.inr ⟨s, b1, e, b2, g', rfl⟩)⟩⟩
    have := e.length_lt
    split <;> omega

theorem Seq_mono (h0 : ∀ s b, G0 s b → G0' s b) (h1 : ∀ s b, G1 s b → G1' s b)
    (h : Seq q imm F G0 G1 sibs b) : Seq q imm F G0' G1' sibs b :=
  Seq_iff.2 ((Seq_iff.1 h).imp (And.imp_right (h0 _ _)) fun ⟨s, b1, e, b2, g, hb⟩ => ⟨s, b1, e, b2, h1 _ _ g, hb⟩)

theorem Seq_congr (h0 : ∀ s b, G0 s b ↔ G0' s b) (h1 : ∀ s b, G1 s b ↔ G1' s b) :
    Seq q imm F G0 G1 sibs b ↔ Seq q imm F G0' G1' sibs b :=
  ⟨Seq_mono (fun s b => (h0 s b).1) (fun s b => (h1 s b).1),
   Seq_mono (fun s b => (h0 s b).2) (fun s b => (h1 s b).2)⟩

end derivations

section rel
variable {imm : Anchor} {F F' : VT → Binding → Prop}
  {R : Binding → Binding → Prop} (happ : ∀ {a a' b b'}, R a a' → R b b' → R (a ++ b) (a' ++ b'))
  (hF : ∀ c b, F c b → ∃ b', F' c b' ∧ R b b') {sibs : List VT} {b : Binding}
include happ hF

theorem Took.rel {m : Bool} {s : List VT} (e : Took imm F m sibs s b) : ∃ b', Took imm F' m sibs s b' ∧ R b b' := by
  induction e with
  | take h =>
    obtain ⟨b', h', r⟩ := hF _ _ h
    exact ⟨b', .take h', r⟩
  | more h _ ih =>
    obtain ⟨b1', h', r1⟩ := hF _ _ h
    obtain ⟨b2', e', r2⟩ := ih
    exact ⟨_, .more h' e', happ r1 r2⟩
  | skip hb _ ih =>
    obtain ⟨b', e', r⟩ := ih
    exact ⟨b', .skip hb e', r⟩

/-- A derivation is carried along a relation on bindings that respects `++`, part by part.  Used with `List.Perm` in
both directions: the implementation's capture order against the model's (`VerifyProps`). -/
theorem Seq_rel {G0 G0' G1 G1' : List VT → Binding → Prop}
    (hG0 : ∀ s b, G0 s b → ∃ b', G0' s b' ∧ R b b') (hG1 : ∀ s b, G1 s b → ∃ b', G1' s b' ∧ R b b')
    (q : Quant) (h : Seq q imm F G0 G1 sibs b) :
    ∃ b', Seq q imm F' G0' G1' sibs b' ∧ R b b' := by
  rcases Seq_iff.1 h with ⟨ho, g⟩ | ⟨s, b1, e, b2, g, rfl⟩
  · obtain ⟨b', g', r⟩ := hG0 _ _ g
    exact ⟨b', Seq_iff.2 (.inl ⟨ho, g'⟩), r⟩
  · obtain ⟨b1', e', r1⟩ := e.rel happ hF
    obtain ⟨b2', g', r2⟩ := hG1 _ _ g
    exact ⟨_, Seq_iff.2 (.inr ⟨s, b1', e', b2', g', rfl⟩), happ r1 r2⟩
end rel

section enumerators
variable {imm : Anchor} {f : VT → List Binding} {g : List VT → List Binding}
variable {F : VT → Binding → Prop} {G : List VT → Binding → Prop}

theorem mem_seqOne_iff (hf : ∀ c b, b ∈ f c ↔ F c b) (hg : ∀ s b, b ∈ g s ↔ G s b) :
    ∀ (sibs : List VT) (b : Binding), b ∈ seqOne imm f g sibs ↔ One imm F G sibs b
  | [], _ => iff_of_false List.not_mem_nil nofun
  | c :: cs, b => by
    have ih := mem_seqOne_iff hf hg cs
    cases hb : blocked imm c <;>
      simp only [One_cons, seqOne, List.mem_append, mem_cross, hf, hg, ih, hb, if_true, Bool.false_eq_true,
        if_false, List.not_mem_nil, true_and, reduceCtorEq, false_and]

theorem mem_seqMany_iff (hf : ∀ c b, b ∈ f c ↔ F c b) (hg : ∀ s b, b ∈ g s ↔ G s b) :
    ∀ (sibs : List VT) (b : Binding), b ∈ seqMany imm f g sibs ↔ Many imm F G sibs b
  | [], _ => iff_of_false List.not_mem_nil nofun
  | c :: cs, b => by
    have ih := mem_seqMany_iff hf hg cs
    cases hb : blocked imm c <;>
      simp only [Many_cons, seqMany, List.mem_append, mem_cross, hf, hg, ih, hb, if_true, Bool.false_eq_true,
        if_false, List.not_mem_nil, true_and, reduceCtorEq, false_and, or_assoc]
theorem mem_seq_iff {g0 g1 : List VT → List Binding} {G0 G1 : List VT → Binding → Prop}
    (hf : ∀ c b, b ∈ f c ↔ F c b) (hg0 : ∀ s b, b ∈ g0 s ↔ G0 s b) (hg1 : ∀ s b, b ∈ g1 s ↔ G1 s b)
    (q : Quant) (sibs : List VT) (b : Binding) :
    b ∈ seq q imm f g0 g1 sibs ↔ Seq q imm F G0 G1 sibs b := by
  cases q <;> simp only [seq, Seq, List.mem_append, mem_seqOne_iff hf hg1, mem_seqMany_iff hf hg1, hg0]

end enumerators

end TsVerif.C05
