import TsVerif.C05.Props
import TsVerif.C05.Parse
/-!
# C05 — the desugaring of groups equals a direct semantics of groups

`Parse.lean` has no group constructor in `Pat`: a node pattern whose children contain (captured /
quantified) groups is expanded into VARIANTS of its child list (`expandBs`, `finalizeV`, `buildNode`).
Here a DIRECT semantics of child elements with groups is defined and the expansion is proved equal to it.

`SatE / SatEs` — direct semantics of (bare) elements in continuation-passing style.  A state `St`
carries what the anchor of the next child pattern depends on: `pw` (previous pattern is the unnamed
wildcard: strict anchor), `gw` (a quantified group that matched nothing directly precedes: anchor
waived), `w` (the previous child pattern matched zero nodes), `any` (some child pattern matched a
node).  `( … )?` = nothing or the elements once; `( … )*` = nothing or `k ≥ 1` repetitions in sequence
(`reps`, NO bound on `k`); `( … )+` = `k ≥ 1` repetitions.

What stays trusted: step 1 of the desugaring (`bareElem`: captures / anchor of a group go to its first
element — purely syntactic) and that `SatE` is the intended reading of groups.
-/
namespace TsVerif.C05

structure St where
  pw : Bool
  gw : Bool
  w : Bool
  any : Bool

abbrev Kont := St → List VT → Binding → Prop

def st0 : St := { pw := false, gw := false, w := false, any := false }

/-- The anchor of a child pattern written with (`d`) or without a `.` in state `st`. -/
def anchorOf (d : Bool) (st : St) : Anchor :=
  if d && !st.gw then (if st.pw then .strict else .loose) else .none

/-- the state after the child pattern matched no node -/
def after0 (it : Item) (st : St) : St := { pw := isWildAny it, gw := false, w := true, any := st.any }
/-- the state after the child pattern matched at least one node -/
def after1 (it : Item) (_st : St) : St := { pw := isWildAny it, gw := false, w := false, any := true }

/-- the state after a quantified group that matched nothing -/
def gapSt (st : St) : St := { st with gw := true }
/-- the state after one repetition of a quantified group -/
def repSt (st : St) : St := { st with pw := false }

def itemStep (d : Bool) (it : Item) (st : St) (K : Kont) : List VT → Binding → Prop :=
  Seq it.quant (waived st.w (anchorOf d st)) (SatItem it) (K (after0 it st)) (K (after1 it st))

def SatVsK : List V → St → Kont → List VT → Binding → Prop
  | [], st, K => K st
  | .gap :: r, st, K => SatVsK r (gapSt st) K
  | .rep :: r, st, K => SatVsK r (repSt st) K
  | .it d it :: r, st, K =>
    Seq it.quant (waived st.w (anchorOf d st)) (SatItem it) (SatVsK r (after0 it st) K) (SatVsK r (after1 it st) K)

theorem SatVsK_append (K : Kont) : ∀ (a r : List V) (st : St),
    SatVsK (a ++ r) st K = SatVsK a st (fun st' => SatVsK r st' K)
  | [], r, st => rfl
  | .gap :: a, r, st | .rep :: a, r, st => SatVsK_append K a r _
  | .it d it :: a, r, st => by
    simp only [List.cons_append, SatVsK]
    rw [SatVsK_append K a r, SatVsK_append K a r]

/-- A variant uses its continuation exactly once, after taking at least `minNodes` nodes; any
continuation that holds there will do as well. -/
theorem SatVsK_elim {K : Kont} : ∀ (v : List V) (st : St) (sibs : List VT) (b : Binding), SatVsK v st K sibs b →
    ∃ st' s b', K st' s b' ∧ s.length + minNodes v ≤ sibs.length ∧
      ∀ K' : Kont, K' st' s b' → SatVsK v st K' sibs b
  | [], st, sibs, b, h => ⟨st, sibs, b, h, Nat.le_refl _, fun _ h' => h'⟩
  | .gap :: r, st, sibs, b, h | .rep :: r, st, sibs, b, h => SatVsK_elim r _ sibs b h
  | .it d (.mk i f p q c) :: r, st, sibs, b, h => by
    simp only [SatVsK, minNodes, Item.quant] at h ⊢
    obtain ⟨s1, b1, hl, ⟨g, k⟩ | ⟨g, k⟩⟩ := Seq_elim h
    · obtain ⟨st', s, b', hk, hl', k'⟩ := SatVsK_elim r _ s1 b1 g
      exact ⟨st', s, b', hk, by omega, fun K' h' => k _ _ (k' K' h')⟩
    · obtain ⟨st', s, b', hk, hl', k'⟩ := SatVsK_elim r _ s1 b1 g
      exact ⟨st', s, b', hk, by omega, fun K' h' => k _ _ (k' K' h')⟩

theorem SatVsK_mono {K K' : Kont} (hk : ∀ st s b, K st s b → K' st s b) (v : List V) (st : St)
    (sibs : List VT) (b : Binding) (h : SatVsK v st K sibs b) : SatVsK v st K' sibs b := by
  obtain ⟨_, _, _, g, _, k⟩ := SatVsK_elim v st sibs b h
  exact k K' (hk _ _ _ g)

theorem SatVsK_len {K : Kont} : ∀ (v : List V) (st : St) (sibs : List VT) (b : Binding),
    SatVsK v st K sibs b → minNodes v ≤ sibs.length := fun v st sibs b h => by
  obtain ⟨_, _, _, _, hl, _⟩ := SatVsK_elim v st sibs b h
  omega

theorem minNodes_append : ∀ (a r : List V), minNodes (a ++ r) = minNodes a + minNodes r
  | [], r => by simp [minNodes]
  | .gap :: a, r | .rep :: a, r => minNodes_append a r
  | .it d (.mk i f p q c) :: a, r => by
    simp only [List.cons_append, minNodes, minNodes_append a r]; omega

/-- `k` repetitions in sequence; `one` is the semantics of one repetition. -/
def reps (one : St → Kont → List VT → Binding → Prop) : Nat → St → Kont → List VT → Binding → Prop
  | 0, st, K => K st
  | k + 1, st, K => one st (fun st' => reps one k (repSt st') K)

mutual
  def SatE : Elem → St → Kont → List VT → Binding → Prop
    | .item d it, st, K, s, b => itemStep d it st K s b
    | .group _ es q _, st, K, s, b =>
      match q with
      | .one => SatEs es st K s b
      | .opt => K (gapSt st) s b ∨ SatEs es st (fun st' => K (repSt st')) s b
      | .star => K (gapSt st) s b ∨ ∃ k, reps (fun st K s b => SatEs es st K s b) (k + 1) st K s b
      | .plus => ∃ k, reps (fun st K s b => SatEs es st K s b) (k + 1) st K s b
  def SatEs : List Elem → St → Kont → List VT → Binding → Prop
    | [], st, K, s, b => K st s b
    | e :: r, st, K, s, b => SatE e st (fun st' s' b' => SatEs r st' K s' b') s b
end

section reps
variable {one : St → Kont → List VT → Binding → Prop} {n : Nat}

theorem reps_of_rpt {v1 : List V} (H : ∀ st K s b, SatVsK v1 st K s b → one st K s b) :
    ∀ (k : Nat) (st : St) (K : Kont) (s : List VT) (b : Binding),
    SatVsK (rpt (v1 ++ [.rep]) k) st K s b → reps one k st K s b
  | 0, st, K, s, b, h => by simpa [rpt, SatVsK, reps] using h
  | k + 1, st, K, s, b, h => by
    simp only [rpt, reps] at h ⊢
    rw [List.append_assoc, SatVsK_append] at h
    apply H
    exact SatVsK_mono (fun st' s' b' hh => reps_of_rpt H k _ K s' b' hh) v1 st s b h

theorem rpt_of_reps {v1 : List V} (H : ∀ st K s b, s.length ≤ n → one st K s b → SatVsK v1 st K s b) :
    ∀ (k : Nat) (st : St) (K : Kont) (s : List VT) (b : Binding), s.length ≤ n →
    reps one k st K s b → SatVsK (rpt (v1 ++ [.rep]) k) st K s b
  | 0, st, K, s, b, _, h => by simpa [rpt, SatVsK, reps] using h
  | k + 1, st, K, s, b, hl, h => by
    simp only [rpt, reps] at h ⊢
    rw [List.append_assoc, SatVsK_append]
    -- the first repetition hands over to the remaining `k` at one point, on fewer siblings
    obtain ⟨st', s', b', g, hl', kk⟩ := SatVsK_elim v1 st s b (H st _ s b hl h)
    exact kk _ (rpt_of_reps H k _ K s' b' (by omega) g)

end reps

theorem mem_concatAll {xs ys : List (List V)} {v : List V} :
    v ∈ concatAll xs ys ↔ ∃ a, a ∈ xs ∧ ∃ b, b ∈ ys ∧ v = a ++ b := by
  simp only [concatAll, List.mem_flatMap, List.mem_map, eq_comm (a := v)]

theorem single?_some {vs : List (List V)} {v : List V} (h : single? vs = some v) : vs = [v] ∧ 1 ≤ minNodes v := by
  unfold single? at h
  split at h
  · split at h
    · cases h
    · rename_i hm
      cases h
      exact ⟨rfl, Nat.pos_of_ne_zero (by simpa using hm)⟩
  · cases h
theorem mem_repVariants {n : Nat} {x v : List V} : v ∈ repVariants n x ↔ ∃ k, k < n ∧ v = rpt x (k + 1) := by
  simp only [repVariants, List.mem_map, List.mem_range, eq_comm (a := v)]

theorem minNodes_rpt (x : List V) : ∀ k, minNodes (rpt x k) = k * minNodes x
  | 0 => by simp [rpt, minNodes]
  | k + 1 => by simp only [rpt, minNodes_append, minNodes_rpt x k]; rw [Nat.succ_mul]; omega

/-- On at most `n` siblings `k + 1` repetitions are one of the `n` variants: each repetition takes a node. -/
theorem repVariants_sound {n : Nat} {one : St → Kont → List VT → Binding → Prop} {v1 : List V}
    (hmin : 1 ≤ minNodes v1)
    (H : ∀ st K s b, s.length ≤ n → one st K s b → ∃ v, v ∈ [v1] ∧ SatVsK v st K s b)
    {k : Nat} {st : St} {K : Kont} {s : List VT} {b : Binding} (hl : s.length ≤ n)
    (hs : reps one (k + 1) st K s b) : ∃ v, v ∈ repVariants n (v1 ++ [.rep]) ∧ SatVsK v st K s b := by
  have hr := rpt_of_reps (v1 := v1) (fun st K s b hl' hh => by
    obtain ⟨v, hv, hv'⟩ := H st K s b hl' hh
    rwa [List.mem_singleton.1 hv] at hv') (k + 1) st K s b hl hs
  have hlen := SatVsK_len _ st s b hr
  rw [minNodes_rpt, minNodes_append] at hlen
  have : k + 1 ≤ (k + 1) * (minNodes v1 + minNodes [V.rep]) := Nat.le_mul_of_pos_right _ (by omega)
  exact ⟨_, mem_repVariants.2 ⟨k, by omega, rfl⟩, hr⟩

theorem expandBs_cons {n : Nat} {e : Elem} {rest : List Elem} {vs : List (List V)}
    (h : expandBs n (e :: rest) = some vs) :
    ∃ a b, expandB n e = some a ∧ expandBs n rest = some b ∧ vs = concatAll a b := by
  unfold expandBs at h
  split at h
  · rename_i a b ha hb
    simp only at h
    split at h
    · cases h
    · cases h; exact ⟨a, b, ha, hb, rfl⟩
  · cases h
theorem expandB_group {n : Nat} {d : Bool} {es : List Elem} {q : Quant} {caps : List String} {vs : List (List V)}
    (h : expandB n (.group d es q caps) = some vs) :
    ∃ vs0, expandBs n es = some vs0 ∧
      match q with
      | .one => vs = vs0
      | .opt => vs = [.gap] :: vs0.map (· ++ [.rep])
      | .star => ∃ v, single? vs0 = some v ∧ vs = [.gap] :: repVariants n (v ++ [.rep])
      | .plus => ∃ v, single? vs0 = some v ∧ vs = repVariants n (v ++ [.rep]) := by
  unfold expandB at h
  split at h
  · cases h
  · rename_i vs0 hes
    refine ⟨vs0, hes, ?_⟩
    cases q <;> simp only at h ⊢
    · cases h; rfl
    · cases h; rfl
    · split at h
      · rename_i v hs; cases h; exact ⟨v, hs, rfl⟩
      · cases h
    · split at h
      · rename_i v hs; cases h; exact ⟨v, hs, rfl⟩
      · cases h
mutual
  theorem expandB_complete (n : Nat) : ∀ (e : Elem) (vs : List (List V)), expandB n e = some vs →
      ∀ v, v ∈ vs → ∀ (st : St) (K : Kont) (s : List VT) (b : Binding), SatVsK v st K s b → SatE e st K s b
    | .item d it, vs, h, v, hv, st, K, s, b, hs => by
      cases h
      cases List.mem_singleton.1 hv
      exact hs
    | .group d es q caps, vs, h, v, hv, st, K, s, b, hs => by
      obtain ⟨vs0, hes, hq⟩ := expandB_group h
      cases q with
      | one =>
        simp only at hq; subst hq
        exact expandBs_complete n es vs hes v hv st K s b hs
      | opt =>
        simp only at hq; subst hq
        rcases List.mem_cons.1 hv with rfl | hv'
        · exact Or.inl hs
        · obtain ⟨v0, hv0, rfl⟩ := List.mem_map.1 hv'
          rw [SatVsK_append] at hs
          exact Or.inr (expandBs_complete n es vs0 hes v0 hv0 st _ s b hs)
      | star =>
        obtain ⟨v1, hs1, rfl⟩ := hq
        obtain ⟨rfl, _⟩ := single?_some hs1
        rcases List.mem_cons.1 hv with rfl | hv'
        · exact Or.inl hs
        · obtain ⟨k, _, rfl⟩ := mem_repVariants.1 hv'
          exact Or.inr ⟨k, reps_of_rpt (expandBs_complete n es [v1] hes v1 (List.mem_singleton_self _))
            (k + 1) st K s b hs⟩
      | plus =>
        obtain ⟨v1, hs1, rfl⟩ := hq
        obtain ⟨rfl, _⟩ := single?_some hs1
        obtain ⟨k, _, rfl⟩ := mem_repVariants.1 hv
        exact ⟨k, reps_of_rpt (expandBs_complete n es [v1] hes v1 (List.mem_singleton_self _))
          (k + 1) st K s b hs⟩
  theorem expandBs_complete (n : Nat) : ∀ (es : List Elem) (vs : List (List V)), expandBs n es = some vs →
      ∀ v, v ∈ vs → ∀ (st : St) (K : Kont) (s : List VT) (b : Binding), SatVsK v st K s b → SatEs es st K s b
    | [], vs, h, v, hv, st, K, s, b, hs => by
      cases h
      cases List.mem_singleton.1 hv
      exact hs
    | e :: rest, vs, h, v, hv, st, K, s, b, hs => by
      obtain ⟨a, c, ha, hc, rfl⟩ := expandBs_cons h
      obtain ⟨v1, hv1, v2, hv2, rfl⟩ := mem_concatAll.1 hv
      rw [SatVsK_append] at hs
      refine expandB_complete n e a ha v1 hv1 st _ s b (SatVsK_mono ?_ v1 st s b hs)
      intro st' s' b' hh
      exact expandBs_complete n rest c hc v2 hv2 st' K s' b' hh
end

mutual
  theorem expandB_sound (n : Nat) : ∀ (e : Elem) (vs : List (List V)), expandB n e = some vs →
      ∀ (st : St) (K : Kont) (s : List VT) (b : Binding), s.length ≤ n → SatE e st K s b →
      ∃ v, v ∈ vs ∧ SatVsK v st K s b
    | .item d it, vs, h, st, K, s, b, _, hs => by
      cases h
      exact ⟨_, List.mem_singleton_self _, hs⟩
    | .group d es q caps, vs, h, st, K, s, b, hl, hs => by
      obtain ⟨vs0, hes, hq⟩ := expandB_group h
      unfold SatE at hs
      cases q with
      | one =>
        simp only at hq hs; subst hq
        exact expandBs_sound n es vs hes st K s b hl hs
      | opt =>
        simp only at hq hs; subst hq
        rcases hs with hs | hs
        · exact ⟨[.gap], List.mem_cons_self, hs⟩
        · obtain ⟨v0, hv0, hh⟩ := expandBs_sound n es vs0 hes st _ s b hl hs
          refine ⟨v0 ++ [.rep], List.mem_cons_of_mem _ (List.mem_map.2 ⟨v0, hv0, rfl⟩), ?_⟩
          rw [SatVsK_append]
          exact hh
      | star =>
        simp only at hs
        obtain ⟨v1, hs1, rfl⟩ := hq
        obtain ⟨rfl, hmin⟩ := single?_some hs1
        rcases hs with hs | ⟨k, hs⟩
        · exact ⟨[.gap], List.mem_cons_self, hs⟩
        · obtain ⟨v, hv, hr⟩ := repVariants_sound hmin (expandBs_sound n es [v1] hes) hl hs
          exact ⟨v, List.mem_cons_of_mem _ hv, hr⟩
      | plus =>
        simp only at hs
        obtain ⟨v1, hs1, rfl⟩ := hq
        obtain ⟨rfl, hmin⟩ := single?_some hs1
        obtain ⟨k, hs⟩ := hs
        exact repVariants_sound hmin (expandBs_sound n es [v1] hes) hl hs
  theorem expandBs_sound (n : Nat) : ∀ (es : List Elem) (vs : List (List V)), expandBs n es = some vs →
      ∀ (st : St) (K : Kont) (s : List VT) (b : Binding), s.length ≤ n → SatEs es st K s b →
      ∃ v, v ∈ vs ∧ SatVsK v st K s b
    | [], vs, h, st, K, s, b, _, hs => by
      cases h
      exact ⟨_, List.mem_singleton_self _, hs⟩
    | e :: rest, vs, h, st, K, s, b, hl, hs => by
      obtain ⟨a, c, ha, hc, rfl⟩ := expandBs_cons h
      -- the first element's variant hands over to the rest at one point, on no more siblings
      obtain ⟨v1, hv1, h1⟩ := expandB_sound n e a ha st _ s b hl hs
      obtain ⟨st', s', b', g, hl', k⟩ := SatVsK_elim v1 st s b h1
      obtain ⟨v2, hv2, h2⟩ := expandBs_sound n rest c hc st' K s' b' (by omega) g
      exact ⟨v1 ++ v2, mem_concatAll.2 ⟨v1, hv1, v2, hv2, rfl⟩, by rw [SatVsK_append]; exact k _ h2⟩
end

theorem expandBs_direct (n : Nat) (es : List Elem) (vs : List (List V)) (h : expandBs n es = some vs)
    (st : St) (K : Kont) (s : List VT) (b : Binding) (hl : s.length ≤ n) :
    SatEs es st K s b ↔ ∃ v, v ∈ vs ∧ SatVsK v st K s b :=
  ⟨expandBs_sound n es vs h st K s b hl, fun ⟨v, hv, hs⟩ => expandBs_complete n es vs h v hv st K s b hs⟩

theorem isWildAny_reimm (a i : Anchor) (f : Option String) (p : Pat) (q : Quant) (c : List String) :
    isWildAny (.mk a f p q c) = isWildAny (.mk i f p q c) := by
  cases p with
  | node t _ _ _ => cases t <;> cases q <;> rfl
  | alt _ => rfl

theorem satItem_reimm (a i : Anchor) (f : Option String) (p : Pat) (q : Quant) (c : List String) :
    SatItem (.mk a f p q c) = SatItem (.mk i f p q c) := by
  funext n b; unfold SatItem; rfl

/-- the continuation at the end of a node pattern's children -/
def endK (L : Bool) : Kont := fun st s b => EndOk (L && st.any) s b

/-- The static anchors `finalizeV` writes are the dynamic ones of `St`: `st.pw`, `st.gw` are `finalizeV`'s two flags,
`st.w`, `st.any` the flags of `SatItems`.  `finalizeV` overwrites an item's anchor, which neither `SatItem` nor `isWildAny`
reads (`satItem_reimm`, `isWildAny_reimm`). -/
theorem satVsK_finalize (L : Bool) : ∀ (v : List V) (st : St) (sibs : List VT) (b : Binding),
    SatVsK v st (endK L) sibs b ↔ SatItems (finalizeV v st.pw st.gw) L st.w st.any sibs b
  | [], st, sibs, b => by
    unfold SatItems
    simp [SatVsK, finalizeV, endK]
  | .gap :: r, st, sibs, b => satVsK_finalize L r (gapSt st) sibs b
  | .rep :: r, st, sibs, b => satVsK_finalize L r (repSt st) sibs b
  | .it d (.mk i f p q c) :: r, st, sibs, b => by
    have e := isWildAny_reimm (anchorOf d st) i f p q c
    simp only [SatVsK, finalizeV]
    unfold SatItems
    simp only [Item.quant, Item.imm, anchorOf] at e ⊢
    rw [satItem_reimm, e]
    exact Seq_congr (satVsK_finalize L r (after0 (.mk i f p q c) st))
      (satVsK_finalize L r (after1 (.mk i f p q c) st))

theorem satItems_last_guard (items : List Item) (dot : Bool) (sibs : List VT) (b : Binding) :
    SatItems items (dot && !items.isEmpty) false false sibs b ↔ SatItems items dot false false sibs b := by
  cases items with
  | nil => unfold SatItems; simp
  | cons _ _ => simp

theorem satItem_wrap (p : Pat) (n : VT) (b : Binding) : SatItem (.mk .none none p .one []) n b ↔ SatPat p n b := by
  unfold SatItem
  simp [fieldOk]

theorem satAlts_map (f : List V → Pat) : ∀ (vs : List (List V)) (n : VT) (b : Binding),
    SatAlts (vs.map fun v => .mk .none none (f v) .one []) n b ↔ ∃ v, v ∈ vs ∧ SatPat (f v) n b
  | [], n, b => by unfold SatAlts; simp
  | v :: vs, n, b => by
    simp only [List.map_cons]
    unfold SatAlts
    rw [satItem_wrap, satAlts_map f vs n b]
    simp only [List.mem_cons, exists_eq_or_imp]

/-- The local `mk` of `buildNode` (Parse.lean) with its `let` unfolded; `buildNode_variants` goes through because the two
are equal by unfolding, so they must be kept in step. -/
def mkNode (t : NodeTest) (acc : KidsAcc) (v : List V) : Pat :=
  .node t acc.neg (finalizeV v false false) (acc.dot && !(finalizeV v false false).isEmpty)

theorem satPat_mkNode (t : NodeTest) (acc : KidsAcc) (v : List V) (node : VT) (b : Binding) :
    SatPat (mkNode t acc v) node b ↔
      testNode t node.info = true ∧ negOk acc.neg node = true ∧ SatVsK v st0 (endK acc.dot) node.kids b := by
  unfold mkNode SatPat
  rw [satItems_last_guard, satVsK_finalize]
  simp [st0]

theorem buildNode_variants {n : Nat} {t : NodeTest} {acc : KidsAcc} {p : Pat} (h : buildNode n t acc = some p) :
    ∃ vs, expandElems n acc.elems.toList = some vs ∧
      ∀ (node : VT) (b : Binding), SatPat p node b ↔ ∃ v, v ∈ vs ∧ SatPat (mkNode t acc v) node b := by
  unfold buildNode at h
  simp only at h
  split at h
  · cases h
  · cases h
  · rename_i v hx
    cases h
    exact ⟨[v], hx, fun node b => by simp only [List.mem_singleton, exists_eq_left]; rfl⟩
  · rename_i vs _ _ hx
    cases h
    exact ⟨vs, hx, fun node b => by unfold SatPat; exact satAlts_map (mkNode t acc) _ node b⟩
/-- The node pattern the parser builds from children with groups holds at a node exactly when node test, negated fields
and the direct semantics of the (bare) child elements hold there, for nodes with at most `n` children.  `n` is the
parser's `maxRep` (the driver passes `maxFanout vt`; `parseQuery` takes `max maxRep 2`), and `kids_le_maxFanout`
(JudgeProps) gives the bound at every node of the tree. -/
theorem buildNode_direct {n : Nat} {t : NodeTest} {acc : KidsAcc} {p : Pat} (h : buildNode n t acc = some p) :
    ∃ es', bareList acc.elems.toList = some es' ∧
      ∀ (node : VT) (b : Binding), node.kids.length ≤ n →
        (SatPat p node b ↔ testNode t node.info = true ∧ negOk acc.neg node = true ∧
          SatEs es' st0 (endK acc.dot) node.kids b) := by
  obtain ⟨vs, hx, hp⟩ := buildNode_variants h
  unfold expandElems at hx
  cases hb : bareList acc.elems.toList with
  | none => simp [hb] at hx
  | some es' =>
    simp only [hb] at hx
    refine ⟨es', rfl, ?_⟩
    intro node b hl
    simp only [hp node b, expandBs_direct n es' vs hx st0 (endK acc.dot) node.kids b hl, satPat_mkNode]
    exact ⟨fun ⟨v, hv, h1, h2, h3⟩ => ⟨h1, h2, v, hv, h3⟩, fun ⟨h1, h2, v, hv, h3⟩ => ⟨v, hv, h1, h2, h3⟩⟩

/-! Non-vacuity: the children `((item) @x (item) @y)*` on the tree of `( a b )`. -/
def exGroupItem (c : String) : Item := .mk .none none (.node (.kind "item" true) [] [] false) .one [c]
def exGroupEs : List Elem := [.group false [.item false (exGroupItem "x"), .item false (exGroupItem "y")] .star []]
def exGroupV : List V := [.it false (exGroupItem "x"), .it false (exGroupItem "y"), .rep]

theorem exGroup_expand : expandBs 4 exGroupEs = some ([.gap] :: repVariants 4 exGroupV) := rfl
example : SatEs exGroupEs st0 (endK false) exTree.kids [("x", 2), ("y", 3)] := by
  have hv : SatVsK exGroupV st0 (endK false) exTree.kids [("x", 2), ("y", 3)] :=
    (satVsK_finalize false exGroupV st0 _ _).2 ((mem_matchItems_iff _ _ _ _ _ _).1 (by decide +kernel))
  refine expandBs_complete 4 exGroupEs _ exGroup_expand exGroupV ?_ st0 _ _ _ hv
  exact List.mem_cons_of_mem _ (mem_repVariants.2 ⟨0, by omega, by simp [rpt]⟩)

end TsVerif.C05
