import TsVerif.C05.Props
import TsVerif.C05.Judge
/-!
# C05 — what the judge compares against is the semantics
-/
namespace TsVerif.C05

theorem canon_perm (b : Binding) : (canon b).Perm b := List.mergeSort_perm _ _

/-- The key drops the root: the multiplicity of `(i, k)` in `modelMatches` is the number of (root, binding) pairs of
`matchAll` whose sorted binding is `k`, which is why real and model matches are compared as multisets. -/
theorem mem_modelMatches_iff (vt : VT) (items : List Item) (i : Nat) (k : List (String × Nat)) :
    (i, k) ∈ modelMatches vt items ↔
      ∃ it, items[i]? = some it ∧ ∃ n, n ∈ nodesOf vt ∧ ∃ b, SatItem it n b ∧ k = canon b := by
  unfold modelMatches
  simp only [List.mem_flatMap, List.mem_map, Prod.mk.injEq, Prod.exists, mem_matchAll_iff]
  constructor
  · rintro ⟨it, j, hj, r, b, ⟨n, hn, _, hs⟩, rfl, rfl⟩
    exact ⟨it, List.mem_zipIdx_iff_getElem?.1 hj, n, hn, b, hs, rfl⟩
  · rintro ⟨it, hit, n, hn, b, hs, rfl⟩
    exact ⟨it, i, List.mem_zipIdx_iff_getElem?.2 hit, n.info.id, b, ⟨n, hn, rfl, hs⟩, rfl, rfl⟩

theorem countOf_pos_iff (x : MatchKey) (xs : List MatchKey) : 0 < countOf x xs ↔ x ∈ xs := by
  rw [countOf, ← List.countP_eq_length_filter]
  exact List.count_pos_iff

theorem counts_eq_of_sound_complete (impl model : List MatchKey)
    (hs : soundB impl model = true) (hc : completeB impl model = true) :
    ∀ x, countOf x impl = countOf x model := by
  unfold soundB at hs
  unfold completeB at hc
  simp only [List.all_eq_true, decide_eq_true_eq] at hs hc
  intro x
  rcases Nat.eq_zero_or_pos (countOf x impl) with h0 | hp
  · rcases Nat.eq_zero_or_pos (countOf x model) with h1 | hq
    · omega
    · have := hc x ((countOf_pos_iff _ _).1 hq); omega
  · have := hs x ((countOf_pos_iff _ _).1 hp)
    have := hc x ((countOf_pos_iff _ _).1 (by omega)); omega

mutual
  theorem kids_le_maxFanout : ∀ (vt n : VT), n ∈ nodesOf vt → n.kids.length ≤ maxFanout vt
    | .mk i kids, n, h => by
      rcases List.mem_cons.1 h with rfl | h'
      · exact Nat.le_max_left _ _
      · exact Nat.le_trans (kids_le_maxFanoutList kids n h') (Nat.le_max_right _ _)
  theorem kids_le_maxFanoutList : ∀ (ts : List VT) (n : VT), n ∈ nodesOfList ts → n.kids.length ≤ maxFanoutList ts
    | [], _, h => nomatch h
    | t :: ts, n, h => by
      rcases List.mem_append.1 h with h' | h'
      · exact Nat.le_trans (kids_le_maxFanout t n h') (Nat.le_max_left _ _)
      · exact Nat.le_trans (kids_le_maxFanoutList ts n h') (Nat.le_max_right _ _)
end

end TsVerif.C05
