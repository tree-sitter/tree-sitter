import TsVerif.C05.Props
import TsVerif.C05.CapQuant
import TsVerif.C11.Quant
/-!
# C05 — in every match a capture occurs as often as its capture quantifier allows

`capQItem` (CapQuant.lean) computes the quantifier of a capture with the tables generated from `lib/src/query.c`; the
occurrence sets `occ` and what the tables do on them are `C11/Quant.lean`.  The count over a sibling sequence is
`Took.count` (what a quantified item consumes) and `count_Seq`; the mutual `count_Sat*` carry it through the pattern.
-/
namespace TsVerif.C05
open TsGen TsVerif.C11

theorem countCap_append (c : String) (a b : Binding) : countCap c (a ++ b) = countCap c a + countCap c b := by
  simp [countCap]

theorem countCap_caps (c : String) (caps : List String) (id : Nat) :
    countCap c (caps.map fun x => (x, id)) = countName c caps := by
  induction caps with
  | nil => rfl
  | cons x t ih =>
    simp only [List.map_cons, countCap, countName, List.filter_cons] at *
    by_cases h : x = c <;> simp [h, ih]

theorem occ_natQ (k : Nat) : occ (natQ k) k := by
  match k with
  | 0 => simp [natQ, occ]
  | 1 => simp [natQ, occ]
  | k + 2 => simp [natQ, occ]

theorem occ_mul_of_zero {a : TSQuantifier} (q : TSQuantifier) (ha : occ a 0) : occ (quantifier_mul a q) 0 := by
  simpa using quantifier_mul_sound a q 0 _ ha (occ_ends q).1

theorem occ_mul_of_one {a q : TSQuantifier} {m : Nat} (ha : occ a 1) (h : occ q m) : occ (quantifier_mul a q) m := by
  simpa using quantifier_mul_sound a q 1 m ha h

theorem occ_qOf_zero {q : Quant} (h : q.optional = true) : occ (qOf q) 0 := by
  cases q with
  | one | plus => cases h
  | opt => exact Nat.zero_le 1
  | star => trivial

theorem occ_qOf_one (q : Quant) : occ (qOf q) 1 := by
  cases q <;> simp [qOf, occ]

theorem capOcc_qOf {q : Quant} (h : q.many = true) : capOcc (qOf q) = 2 := by
  cases q with
  | one | opt => cases h
  | star | plus => rfl

section seq
variable {imm : Anchor} {F : VT → Binding → Prop} {G : List VT → Binding → Prop}
variable (c : String) (qf qg : TSQuantifier)

theorem count_One (hF : ∀ n b, F n b → occ qf (countCap c b)) (hG : ∀ s b, G s b → occ qg (countCap c b))
    (sibs : List VT) (b : Binding) (h : One imm F G sibs b) :
    ∃ m n, countCap c b = m + n ∧ occ qf m ∧ occ qg n := by
  induction h with
  | take h1 h2 => exact ⟨_, _, countCap_append _ _ _, hF _ _ h1, hG _ _ h2⟩
  | skip _ _ ih => exact ih

/-- The captures bound by what an item consumes, under any outer quantifier `a` that admits one occurrence and,
when several nodes may be taken, any number. -/
theorem Took.count {a : TSQuantifier} {m : Bool} {sibs s : List VT} {b : Binding}
    (hF : ∀ n b, F n b → occ qf (countCap c b)) (h1 : occ a 1) (hm : m = true → capOcc a = 2)
    (e : Took imm F m sibs s b) : occ (quantifier_mul a qf) (countCap c b) := by
  induction e with
  | take h => exact occ_mul_of_one h1 (hF _ _ h)
  | more h _ ih =>
    rw [countCap_append]
    exact occ_mul_more a qf _ _ (hm rfl) (hF _ _ h) (ih hm)
  | skip _ _ ih => exact ih hm

theorem count_Seq (q : Quant) {G0 G1 : List VT → Binding → Prop}
    (hF : ∀ n b, F n b → occ qf (countCap c b))
    (hG0 : ∀ s b, G0 s b → occ qg (countCap c b)) (hG1 : ∀ s b, G1 s b → occ qg (countCap c b))
    (sibs : List VT) (b : Binding) (h : Seq q imm F G0 G1 sibs b) :
    occ (quantifier_add (quantifier_mul (qOf q) qf) qg) (countCap c b) := by
  rcases Seq_iff.1 h with ⟨ho, g⟩ | ⟨s, b1, e, b2, g, rfl⟩
  · simpa using quantifier_add_sound _ _ 0 _ (occ_mul_of_zero qf (occ_qOf_zero ho)) (hG0 _ _ g)
  · rw [countCap_append]
    exact quantifier_add_sound _ _ _ _ (e.count c qf hF (occ_qOf_one q) capOcc_qOf) (hG1 _ _ g)
end seq

mutual
  theorem count_SatPat (c : String) : ∀ (p : Pat) (n : VT) (b : Binding), SatPat p n b → occ (capQPat c p) (countCap c b)
    | .node _ _ kids last, n, b => fun ⟨_, _, h⟩ => count_SatItems c kids last false false n.kids b h
    | .alt alts, n, b => by
      unfold SatPat capQPat
      intro h
      obtain ⟨q, hq, ho⟩ := count_SatAlts c alts n b h
      rw [hq]; exact ho
  theorem count_SatAlts (c : String) : ∀ (alts : List Item) (n : VT) (b : Binding), SatAlts alts n b →
      ∃ q, capQAlts c alts = some q ∧ occ q (countCap c b)
    | [], _, _ => False.elim
    | it :: rest, n, b => by
      unfold SatAlts capQAlts
      intro h
      rcases h with h | h
      · have := count_SatItem c it n b h
        cases capQAlts c rest with
        | none => exact ⟨_, rfl, this⟩
        | some q => exact ⟨_, rfl, quantifier_join_sound _ _ _ (.inl this)⟩
      · obtain ⟨q, hq, ho⟩ := count_SatAlts c rest n b h
        rw [hq]
        exact ⟨_, rfl, quantifier_join_sound _ _ _ (.inr ho)⟩
  theorem count_SatItem (c : String) : ∀ (it : Item) (n : VT) (b : Binding), SatItem it n b → occ (capQItem c it) (countCap c b)
    | .mk imm f p q caps, n, b => by
      intro ⟨_, b', hp, he⟩
      subst he
      rw [countCap_append, countCap_caps]
      exact quantifier_add_sound _ _ _ _ (occ_natQ _) (count_SatPat c p n b' hp)
  theorem count_SatItems (c : String) : ∀ (items : List Item) (last w any : Bool) (sibs : List VT) (b : Binding),
      SatItems items last w any sibs b → occ (capQItems c items) (countCap c b)
    | [], _, _, _, _, _ => fun ⟨h, _⟩ => by subst h; rfl
    | it :: rest, last, _, any, sibs, b =>
      count_Seq c _ _ it.quant (fun n b h => count_SatItem c it n b h)
        (fun s b h => count_SatItems c rest last true any s b h)
        (fun s b h => count_SatItems c rest last false true s b h) sibs b
end

/-- In every match the model enumerates, capture `c` occurs a
number of times allowed by the quantifier computed with the generated tables. -/
theorem capture_count_within_quantifier (vt : VT) (p : Item) (c : String) (r : Nat) (b : Binding)
    (h : (r, b) ∈ matchAll vt p) : occ (capQItem c p) (countCap c b) := by
  obtain ⟨n, _, _, hs⟩ := matchAll_sound vt p r b h
  exact count_SatItem c p n b hs

end TsVerif.C05
