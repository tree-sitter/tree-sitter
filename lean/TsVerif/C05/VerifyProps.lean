import TsVerif.C05.Props
import TsVerif.C05.Verify
/-!
# C05 — the Sat-verifier decides the pattern semantics

`Verify.lean` pushes *sets of positions* of a given capture sequence through the pattern instead of
enumerating bindings.  Here it is proved correct, in two stages.

1. `SatPatV/SatItemV/…` is the pattern semantics with the captures in the order the implementation
   produces them (captures written on an alternation FOLLOW the branch root's own captures — the
   compiler adds them to the first step of every branch; in `Sat*` they come first).
   `rep_verifyItem` etc.: every combinator of the verifier *represents* the corresponding `SatV`
   relation: `p' ∈ verify… P ↔ ∃ p ∈ P, ∃ b, SatV… b ∧ the target reads b from position p to p'`
   (mutual structural induction on the pattern; `rep_seqOneS`, `rep_seqManyS`, `rep_seqS` for the
   sibling sequences).
2. `satItemV_perm` / `satItem_permV`: `SatV` and `Sat` have the same bindings up to the order of the
   captures (`List.Perm`) — the order the check ignores anyway (bindings are compared sorted).

`verifyAnywhere_sound` (verdict true ⇒ a permutation of the capture sequence is in `matchAll`) is what the driver's
obligation `corr:verifyAnywhere=membership-in-matchAll` samples.
-/
namespace TsVerif.C05

/-- The target reads `b` from position `p` up to position `p'`. -/
def Seg (tgt : Array (String × Nat)) : Nat → Nat → Binding → Prop
  | p, p', [] => p' = p
  | p, p', x :: b => tgt[p]? = some x ∧ Seg tgt (p + 1) p' b

theorem seg_append {tgt : Array (String × Nat)} : ∀ (b1 b2 : Binding) (p p' : Nat),
    Seg tgt p p' (b1 ++ b2) ↔ ∃ q, Seg tgt p q b1 ∧ Seg tgt q p' b2
  | [], b2, p, p' => by simp only [List.nil_append, Seg, exists_eq_left]
  | x :: b1, b2, p, p' => by
    simp only [List.cons_append, Seg, seg_append b1 b2 (p + 1) p', exists_and_left, and_assoc]

theorem seg_iff {a : Array (String × Nat)} : ∀ (b : Binding) (p p' : Nat),
    Seg a p p' b ↔ b <+: a.toList.drop p ∧ p' = p + b.length
  | [], p, p' => by simp [Seg]
  | x :: b, p, p' => by
    rw [Seg, seg_iff b (p + 1) p', List.length_cons, show p + (b.length + 1) = p + 1 + b.length by omega]
    rcases Nat.lt_or_ge p a.size with h | h
    · rw [List.drop_eq_getElem_cons (i := p) (by simpa using h), List.cons_prefix_cons, Array.getElem?_eq_getElem h]
      simp [and_assoc, eq_comm]
    · simp [Array.getElem?_eq_none h, List.drop_eq_nil_of_le (Nat.le_trans (Nat.le_of_eq a.length_toList) h)]

theorem emitCaps_iff {tgt : Array (String × Nat)} (id : Nat) : ∀ (caps : List String) (p q : Nat),
    emitCaps tgt caps id p = some q ↔ Seg tgt p q (caps.map fun c => (c, id))
  | [], p, q => by
    simp only [emitCaps, List.map_nil, Seg, Option.some.injEq]
    exact eq_comm
  | c :: rest, p, q => by
    simp only [emitCaps, List.map_cons, Seg]
    by_cases h : tgt[p]? = some (c, id)
    · simp only [h, beq_self_eq_true, if_true, true_and]
      exact emitCaps_iff id rest (p + 1) q
    · have : (tgt[p]? == some (c, id)) = false := by simpa using h
      simp [this, h]

/-- `p'` is reached from some position of `X` by reading off the target a binding that satisfies `S`. -/
def Img (tgt : Array (String × Nat)) (S : Binding → Prop) (X : Nat → Prop) (p' : Nat) : Prop :=
  ∃ p, X p ∧ ∃ b, S b ∧ Seg tgt p p' b

/-- The set transformer `h` computes that image: `p' ∈ h P ↔ Img tgt S (· ∈ P) p'`. -/
def Rep (tgt : Array (String × Nat)) (h : PosSet → PosSet) (S : Binding → Prop) : Prop :=
  ∀ (P : PosSet) (p' : Nat), p' ∈ h P ↔ ∃ p, p ∈ P ∧ ∃ b, S b ∧ Seg tgt p p' b

theorem mem_pdedup (a : Nat) (l : List Nat) : a ∈ pdedup l ↔ a ∈ l := mem_dedup a l

theorem isEmpty_false_of_mem {p : Nat} {P : PosSet} (h : p ∈ P) : P.isEmpty = false := by
  cases P with
  | nil => cases h
  | cons _ _ => rfl

section img
variable {tgt : Array (String × Nat)} {S T : Binding → Prop} {X Y : Nat → Prop} {p' : Nat}

theorem img_img : Img tgt T (Img tgt S X) p' ↔ Img tgt (fun b => ∃ b1, S b1 ∧ ∃ b2, T b2 ∧ b = b1 ++ b2) X p' := by
  constructor
  · rintro ⟨q, ⟨p, hp, b1, h1, s1⟩, b2, h2, s2⟩
    exact ⟨p, hp, _, ⟨b1, h1, b2, h2, rfl⟩, (seg_append _ _ _ _).2 ⟨q, s1, s2⟩⟩
  · rintro ⟨p, hp, _, ⟨b1, h1, b2, h2, rfl⟩, s⟩
    obtain ⟨q, s1, s2⟩ := (seg_append _ _ _ _).1 s
    exact ⟨q, ⟨p, hp, b1, h1, s1⟩, b2, h2, s2⟩

theorem img_congr (h : ∀ b, S b ↔ T b) : Img tgt S X p' ↔ Img tgt T X p' := by
  simp only [Img, h]

theorem img_or : Img tgt (fun b => S b ∨ T b) X p' ↔ Img tgt S X p' ∨ Img tgt T X p' := by
  simp only [Img, or_and_right, and_or_left, exists_or]

theorem img_of_or : Img tgt S (fun p => X p ∨ Y p) p' ↔ Img tgt S X p' ∨ Img tgt S Y p' := by
  simp only [Img, or_and_right, exists_or]

theorem img_and {c : Prop} : Img tgt (fun b => c ∧ S b) X p' ↔ c ∧ Img tgt S X p' := by
  simp only [Img, and_assoc, exists_and_left, and_left_comm]

theorem img_empty (h : ∀ p, ¬ X p) : ¬ Img tgt S X p' := fun ⟨p, hp, _⟩ => h p hp

end img

section generic
variable {tgt : Array (String × Nat)} {imm : Anchor}
variable {f : VT → PosSet → PosSet} {g : List VT → PosSet → PosSet}
variable {F : VT → Binding → Prop} {G : List VT → Binding → Prop}

theorem rep_seqOneS (hf : ∀ c, Rep tgt (f c) (F c)) (hg : ∀ s, Rep tgt (g s) (G s)) :
    ∀ (sibs : List VT), Rep tgt (seqOneS imm f g sibs) (One imm F G sibs)
  | [] => fun _ _ => iff_of_false List.not_mem_nil fun ⟨_, _, _, h, _⟩ => nomatch h
  | c :: cs => by
    intro P p'
    have hfc : ∀ q, q ∈ f c P ↔ Img tgt (F c) (· ∈ P) q := hf c P
    change _ ↔ Img tgt (One imm F G (c :: cs)) (· ∈ P) p'
    unfold seqOneS
    by_cases hP : P.isEmpty = true
    · rw [if_pos hP, List.isEmpty_iff.1 hP]
      exact iff_of_false List.not_mem_nil (img_empty fun _ => List.not_mem_nil)
    · rw [if_neg hP, mem_pdedup, List.mem_append, hg cs, rep_seqOneS hf hg cs,
        img_congr fun _ => One_cons, img_or, img_and, ← img_img]
      simp only [hfc]
      change Img tgt (G cs) _ p' ∨ Img tgt (One imm F G cs) _ p' ↔ _
      cases blocked imm c
      · simp only [Bool.false_eq_true, if_false, true_and]
      · simp only [if_true, img_empty fun _ => List.not_mem_nil, or_false, reduceCtorEq, false_and]

/-- The two position sets of `seqManyS` (no node taken yet / at least one taken) enter only through their union: the
split has no effect on the result as a set. -/
theorem rep_seqManyS (hf : ∀ c, Rep tgt (f c) (F c)) (hg : ∀ s, Rep tgt (g s) (G s)) :
    ∀ (sibs : List VT) (P0 P1 : PosSet) (p' : Nat), p' ∈ seqManyS imm f g sibs P0 P1 ↔
      ∃ p, (p ∈ P0 ∨ p ∈ P1) ∧ ∃ b, Many imm F G sibs b ∧ Seg tgt p p' b
  | [], _, _, _ => iff_of_false List.not_mem_nil fun ⟨_, _, _, h, _⟩ => nomatch h
  | c :: cs, P0, P1, p' => by
    have ht : ∀ q, q ∈ f c P0 ∨ q ∈ f c P1 ↔ Img tgt (F c) (fun p => p ∈ P0 ∨ p ∈ P1) q := fun q => by
      rw [hf c P0 q, hf c P1 q]; exact img_of_or.symm
    change _ ↔ Img tgt (Many imm F G (c :: cs)) (fun p => p ∈ P0 ∨ p ∈ P1) p'
    unfold seqManyS
    by_cases hP : (P0.isEmpty && P1.isEmpty) = true
    · obtain ⟨rfl, rfl⟩ : P0 = [] ∧ P1 = [] := by simpa using hP
      exact iff_of_false List.not_mem_nil (img_empty fun _ h => h.elim List.not_mem_nil List.not_mem_nil)
    · rw [if_neg hP, mem_pdedup, List.mem_append, hg cs, rep_seqManyS hf hg cs,
        img_congr fun _ => Many_cons, img_or, img_or, img_and, ← img_img, ← img_img]
      simp only [mem_pdedup, List.mem_append, ht]
      change Img tgt (G cs) _ p' ∨ Img tgt (Many imm F G cs) (fun p => _ ∨ _ ∨ _) p' ↔ _
      rw [img_of_or, img_of_or, img_of_or]
      cases blocked imm c
      · simp only [Bool.false_eq_true, if_false, true_and]
        rw [or_left_comm (a := Img tgt _ (Membership.mem P0) p')]
      · simp only [if_true, img_empty fun _ => List.not_mem_nil, false_or, or_false, reduceCtorEq, false_and]

theorem rep_seqS {g0 g1 : List VT → PosSet → PosSet} {G0 G1 : List VT → Binding → Prop}
    (hf : ∀ c, Rep tgt (f c) (F c)) (hg0 : ∀ s, Rep tgt (g0 s) (G0 s)) (hg1 : ∀ s, Rep tgt (g1 s) (G1 s))
    (q : Quant) (sibs : List VT) : Rep tgt (seqS q imm f g0 g1 sibs) (Seq q imm F G0 G1 sibs) := by
  intro P p'
  cases q with
  | one => exact rep_seqOneS hf hg1 sibs P p'
  | opt =>
    simp only [seqS, Seq, mem_pdedup, List.mem_append, hg0 sibs P p', rep_seqOneS hf hg1 sibs P p',
      or_and_right, and_or_left, exists_or]
  | star =>
    simp only [seqS, Seq, mem_pdedup, List.mem_append, hg0 sibs P p', rep_seqManyS hf hg1 sibs P [] p',
      List.not_mem_nil, or_false, or_and_right, and_or_left, exists_or]
  | plus =>
    simp only [seqS, Seq, rep_seqManyS hf hg1 sibs P [] p', List.not_mem_nil, or_false]

end generic

theorem rep_endOk {tgt : Array (String × Nat)} (L : Bool) (sibs : List VT) :
    Rep tgt (fun P => if L && sibs.any (fun c => c.info.named) then [] else P) (EndOk L sibs) := by
  intro P p'
  by_cases h : ∀ c ∈ sibs, c.info.named = false
  · have : sibs.any (fun c => c.info.named) = false := by simpa using h
    simpa [EndOk, Seg, this, and_assoc] using fun _ _ => h
  · have : sibs.any (fun c => c.info.named) = true := by simpa using h
    cases L <;> simp [EndOk, Seg, this, h]

mutual
  def SatPatV : Pat → List String → VT → Binding → Prop
    | .node t neg kids last, caps, n, b =>
      testNode t n.info = true ∧ negOk neg n = true ∧
        ∃ b', SatItemsV kids last false false n.kids b' ∧ b = caps.map (fun c => (c, n.info.id)) ++ b'
    | .alt alts, caps, n, b => SatAltsV alts caps n b
  def SatAltsV : List Item → List String → VT → Binding → Prop
    | [], _, _, _ => False
    | it :: rest, extra, n, b => SatItemV it extra n b ∨ SatAltsV rest extra n b
  def SatItemV : Item → List String → VT → Binding → Prop
    | .mk _ f p _ caps, extra, n, b => fieldOk f n.info = true ∧ SatPatV p (caps ++ extra) n b
  def SatItemsV : List Item → Bool → Bool → Bool → List VT → Binding → Prop
    | [], last, _, any, sibs, b => EndOk (last && any) sibs b
    | it :: rest, last, w, any, sibs, b =>
      Seq it.quant (waived w it.imm) (SatItemV it []) (SatItemsV rest last true any) (SatItemsV rest last false true) sibs b
end

mutual
  theorem rep_verifyPat (tgt : Array (String × Nat)) : ∀ (p : Pat) (caps : List String) (n : VT),
      Rep tgt (verifyPat tgt p caps n) (SatPatV p caps n)
    | .node t neg kids last, caps, n => by
      intro P p'
      unfold verifyPat SatPatV
      by_cases h : (testNode t n.info && negOk neg n) = true
      · rw [if_pos h, rep_verifyItems tgt kids last false false n.kids]
        simp only [Bool.and_eq_true] at h
        -- the captures of the node itself are read first
        have he : ∀ q, q ∈ pdedup (P.filterMap fun q => emitCaps tgt caps n.info.id q) ↔
            Img tgt (· = caps.map fun c => (c, n.info.id)) (· ∈ P) q := fun q => by
          simp only [mem_pdedup, List.mem_filterMap, emitCaps_iff, Img, exists_eq_left]
        simp only [he]
        exact img_img.trans (img_congr fun b => by simp only [h.1, h.2, true_and, exists_eq_left])
      · rw [if_neg h]
        exact iff_of_false List.not_mem_nil fun ⟨_, _, _, ⟨h1, h2, _⟩, _⟩ => h (by rw [h1, h2]; rfl)
    | .alt alts, caps, n => fun P p' => (mem_pdedup _ _).trans (rep_verifyAlts tgt alts caps n P p')
  theorem rep_verifyAlts (tgt : Array (String × Nat)) : ∀ (alts : List Item) (extra : List String) (n : VT),
      Rep tgt (verifyAlts tgt alts extra n) (SatAltsV alts extra n)
    | [], _, _ => fun _ _ => iff_of_false List.not_mem_nil fun ⟨_, _, _, h, _⟩ => h
    | it :: rest, extra, n => by
      intro P p'
      unfold verifyAlts SatAltsV
      rw [List.mem_append, rep_verifyItem tgt it extra n P p', rep_verifyAlts tgt rest extra n P p']
      simp only [or_and_right, and_or_left, exists_or]
  theorem rep_verifyItem (tgt : Array (String × Nat)) : ∀ (it : Item) (extra : List String) (n : VT),
      Rep tgt (verifyItem tgt it extra n) (SatItemV it extra n)
    | .mk imm f p q caps, extra, n => by
      intro P p'
      unfold verifyItem SatItemV
      by_cases h : fieldOk f n.info = true
      · rw [if_pos h, rep_verifyPat tgt p (caps ++ extra) n P p']
        simp only [h, true_and]
      · rw [if_neg h]
        exact iff_of_false List.not_mem_nil fun ⟨_, _, _, ⟨h1, _⟩, _⟩ => h h1
  theorem rep_verifyItems (tgt : Array (String × Nat)) : ∀ (items : List Item) (last w any : Bool) (sibs : List VT),
      Rep tgt (verifyItems tgt items last w any sibs) (SatItemsV items last w any sibs)
    | [], last, _, any, sibs => rep_endOk (last && any) sibs
    | it :: rest, last, _, any, _ =>
      rep_seqS (fun c => rep_verifyItem tgt it [] c) (fun s => rep_verifyItems tgt rest last true any s)
        (fun s => rep_verifyItems tgt rest last false true s) _ _
end

theorem perm_caps_swap (caps extra : List String) (id : Nat) (b : Binding) :
    ((caps ++ extra).map (fun c => (c, id)) ++ b).Perm
      (extra.map (fun c => (c, id)) ++ (caps.map (fun c => (c, id)) ++ b)) := by
  rw [List.map_append, ← List.append_assoc (extra.map _)]
  exact List.Perm.append_right b List.perm_append_comm

mutual
  theorem satPatV_perm : ∀ (p : Pat) (caps : List String) (n : VT) (b : Binding), SatPatV p caps n b →
      ∃ b', SatPat p n b' ∧ b.Perm (caps.map (fun c => (c, n.info.id)) ++ b')
    | .node t neg kids last, caps, n, b => by
      rintro ⟨h1, h2, b0, h0, rfl⟩
      obtain ⟨b0', h0', p0⟩ := satItemsV_perm kids last false false n.kids b0 h0
      exact ⟨b0', ⟨h1, h2, h0'⟩, List.Perm.append_left _ p0⟩
    | .alt alts, caps, n, b => satAltsV_perm alts caps n b
  theorem satAltsV_perm : ∀ (alts : List Item) (extra : List String) (n : VT) (b : Binding), SatAltsV alts extra n b →
      ∃ b', SatAlts alts n b' ∧ b.Perm (extra.map (fun c => (c, n.info.id)) ++ b')
    | [], _, _, _ => False.elim
    | it :: rest, extra, n, b => by
      rintro (h | h)
      · obtain ⟨b', h', p⟩ := satItemV_perm it extra n b h; exact ⟨b', Or.inl h', p⟩
      · obtain ⟨b', h', p⟩ := satAltsV_perm rest extra n b h; exact ⟨b', Or.inr h', p⟩
  theorem satItemV_perm : ∀ (it : Item) (extra : List String) (n : VT) (b : Binding), SatItemV it extra n b →
      ∃ b', SatItem it n b' ∧ b.Perm (extra.map (fun c => (c, n.info.id)) ++ b')
    | .mk imm f p q caps, extra, n, b => by
      rintro ⟨hf, h⟩
      obtain ⟨b', h', pm⟩ := satPatV_perm p (caps ++ extra) n b h
      exact ⟨_, ⟨hf, b', h', rfl⟩, pm.trans (perm_caps_swap caps extra n.info.id b')⟩
  theorem satItemsV_perm : ∀ (items : List Item) (last w any : Bool) (sibs : List VT) (b : Binding),
      SatItemsV items last w any sibs b → ∃ b', SatItems items last w any sibs b' ∧ b.Perm b'
    | [], _, _, _, _, b => fun h => ⟨b, h, .refl b⟩
    | it :: rest, last, _, any, _, _ =>
      Seq_rel List.Perm.append (fun c b h => satItemV_perm it [] c b h)
        (fun s b h => satItemsV_perm rest last true any s b h)
        (fun s b h => satItemsV_perm rest last false true s b h) it.quant
end

mutual
  theorem satPat_permV : ∀ (p : Pat) (caps : List String) (n : VT) (b' : Binding), SatPat p n b' →
      ∃ b, SatPatV p caps n b ∧ b.Perm (caps.map (fun c => (c, n.info.id)) ++ b')
    | .node t neg kids last, caps, n, b' => by
      rintro ⟨h1, h2, h0⟩
      obtain ⟨b0, h0', p0⟩ := satItems_permV kids last false false n.kids b' h0
      exact ⟨_, ⟨h1, h2, b0, h0', rfl⟩, List.Perm.append_left _ p0⟩
    | .alt alts, caps, n, b' => satAlts_permV alts caps n b'
  theorem satAlts_permV : ∀ (alts : List Item) (extra : List String) (n : VT) (b' : Binding), SatAlts alts n b' →
      ∃ b, SatAltsV alts extra n b ∧ b.Perm (extra.map (fun c => (c, n.info.id)) ++ b')
    | [], _, _, _ => False.elim
    | it :: rest, extra, n, b' => by
      rintro (h | h)
      · obtain ⟨b, h', p⟩ := satItem_permV it extra n b' h; exact ⟨b, Or.inl h', p⟩
      · obtain ⟨b, h', p⟩ := satAlts_permV rest extra n b' h; exact ⟨b, Or.inr h', p⟩
  theorem satItem_permV : ∀ (it : Item) (extra : List String) (n : VT) (b' : Binding), SatItem it n b' →
      ∃ b, SatItemV it extra n b ∧ b.Perm (extra.map (fun c => (c, n.info.id)) ++ b')
    | .mk imm f p q caps, extra, n, b' => by
      rintro ⟨hf, b0, h0, rfl⟩
      obtain ⟨b, h', pm⟩ := satPat_permV p (caps ++ extra) n b0 h0
      exact ⟨b, ⟨hf, h'⟩, pm.trans (perm_caps_swap caps extra n.info.id b0)⟩
  theorem satItems_permV : ∀ (items : List Item) (last w any : Bool) (sibs : List VT) (b' : Binding),
      SatItems items last w any sibs b' → ∃ b, SatItemsV items last w any sibs b ∧ b.Perm b'
    | [], _, _, _, _, b' => fun h => ⟨b', h, .refl b'⟩
    | it :: rest, last, _, any, _, _ =>
      Seq_rel (R := fun b' b => b.Perm b') List.Perm.append (fun c b h => satItem_permV it [] c b h)
        (fun s b h => satItems_permV rest last true any s b h)
        (fun s b h => satItems_permV rest last false true s b h) it.quant
end

theorem verifyAnywhere_iff (vt : VT) (it : Item) (tgt : List (String × Nat)) :
    verifyAnywhere vt it tgt = true ↔ ∃ n, n ∈ nodesOf vt ∧ SatItemV it [] n tgt := by
  unfold verifyAnywhere
  simp only [List.any_eq_true, List.contains_iff_mem, (rep_verifyItem tgt.toArray it [] _ [0] _), List.mem_singleton, exists_eq_left, seg_iff]
  simp only [List.drop_zero, List.size_toArray, Nat.zero_add]
  constructor
  · rintro ⟨n, hn, b, hb, hp, hl⟩
    exact ⟨n, hn, hp.eq_of_length hl.symm ▸ hb⟩
  · rintro ⟨n, hn, hb⟩
    exact ⟨n, hn, tgt, hb, List.prefix_refl _, rfl⟩

theorem verifyAnywhere_sound (vt : VT) (it : Item) (tgt : List (String × Nat))
    (h : verifyAnywhere vt it tgt = true) : ∃ r b, (r, b) ∈ matchAll vt it ∧ tgt.Perm b := by
  obtain ⟨n, hn, hv⟩ := (verifyAnywhere_iff vt it tgt).1 h
  obtain ⟨b, hb, p⟩ := satItemV_perm it [] n tgt hv
  exact ⟨n.info.id, b, matchAll_complete vt it n b hn hb, by simpa using p⟩

theorem verifyAnywhere_complete (vt : VT) (it : Item) (r : Nat) (b : Binding)
    (h : (r, b) ∈ matchAll vt it) : ∃ tgt, tgt.Perm b ∧ verifyAnywhere vt it tgt = true := by
  obtain ⟨n, hn, _, hs⟩ := matchAll_sound vt it r b h
  obtain ⟨tgt, hv, p⟩ := satItem_permV it [] n b hs
  exact ⟨tgt, by simpa using p, (verifyAnywhere_iff vt it tgt).2 ⟨n, hn, hv⟩⟩

/-! Non-vacuity: `(paren (item) @x . ")")` on the tree of `( a b )`; an alternation with a capture
written on it, where the two orders differ. -/
example : verifyAnywhere exTree exPat [("x", 3)] = true := by decide +kernel
example : verifyAnywhere exTree exPat [("x", 2)] = false := by decide +kernel
example : ∃ r b, (r, b) ∈ matchAll exTree exPat ∧ [("x", 3)].Perm b :=
  verifyAnywhere_sound exTree exPat _ (by decide +kernel)

def exAltPat : Item :=
  .mk .none none (.node (.kind "paren" true) []
    [.mk .none none (.alt [.mk .none none (.node (.kind "item" true) [] [] false) .one ["i"],
                           .mk .none none (.node (.kind ")" false) [] [] false) .one []]) .one ["v"]] false) .one []
-- model order: the alternation's capture first; implementation order: the branch's own capture first
example : (0, [("v", 2), ("i", 2)]) ∈ matchAll exTree exAltPat := by decide +kernel
example : verifyAnywhere exTree exAltPat [("i", 2), ("v", 2)] = true := by decide +kernel
example : verifyAnywhere exTree exAltPat [("v", 2), ("i", 2)] = false := by decide +kernel

end TsVerif.C05
