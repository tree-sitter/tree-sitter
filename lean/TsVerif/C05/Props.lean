import TsVerif.C05.Siblings
/-!
# C05 — Query results are exactly the matches the pattern semantics define

Property text: *Running a query over a tree returns only matches that satisfy the pattern (node
types, wildcards, fields and negated fields, anchors, supertypes, MISSING/ERROR, alternations,
quantifiers) with captures bound to the nodes that satisfy it, and for quantifier-free patterns it
returns every distinct binding of the captures exactly once.  Impossible patterns are rejected at
compile time with an error offset inside the source, and no pattern that matches some error-free
tree of the language is rejected.*

## Clause map: each phrase of the property text → theorems, with status

Status: **proved** (kernel-checked, for all inputs of the fragment) · **partial** (under the stated
hypothesis) · **judged** (decided by the Lean judge on the real `Query::new` / `QueryCursor::matches` of every
generated case) · **nothing** (not decided by anything here).  Files: (P) this file, (J) JudgeProps.lean,
(V) VerifyProps.lean, (G) GroupProps.lean, (Q) CapQuantProps.lean, (S) Siblings.lean (what all of them know about `One` / `Many` / `Seq`: the
consumption relation `Took` and `Seq_iff`).  All theorems are about the model (`Model.lean`, trusted to be the
documented semantics) and the judge; everything about the IMPLEMENTATION is judged.

1. *"returns only matches that satisfy the pattern (node types, wildcards, fields and negated fields, anchors,
   supertypes, MISSING/ERROR, alternations, quantifiers) with captures bound to the nodes that satisfy it"*
   - the semantics: `SatPat/SatAlts/SatItem/SatItems` with `testNode` (kinds, `(_)`, `_`, MISSING, ERROR,
     supertypes), `fieldOk`, `negOk`, `blocked`/`One`/`Many`/`EndOk` (anchors), `Seq` (quantifiers) — definitions.
   - enumeration = semantics: `matchAll_sound`, `mem_matchAll_iff` (BOTH inclusions:
     `(r, β) ∈ matchAll ⇔ ∃ node with id r, SatItem p n β`), `mem_matchPat/Item/Items_iff`, `mem_seq*_iff` (S) —
     **proved**, whole fragment (quantified patterns included).
   - what the judge compares with IS the semantics: `mem_modelMatches_iff` (J), `canon_perm` (J) (captures are
     compared sorted: order inside a match is not part of the claim) — **proved**.
   - real matches ⊆ model matches: **judged** on every case, quantified or not (`impl.all model.contains`).
   - wide trees (fan-out > 9, quantified): every real match is checked by the position-set verifier:
     `verifyAnywhere_iff`, `verifyAnywhere_sound`, `verifyAnywhere_complete` (V) — **proved**; the run is **judged**.
2. *"for quantifier-free patterns it returns every distinct binding of the captures exactly once"*
   - `matchAll_complete` (= `matchAll_complete_qfree`), `matchAll_nodup`, `matchAll_exactly_once` — **proved**
     ("distinct" = distinct (root node, capture assignment); solutions that differ only in uncaptured nodes
     are one binding).  Proved for ALL patterns of the fragment; the implementation is held to it for
     quantifier-free ones.
   - the driver's test is multiset equality: `counts_eq_of_sound_complete` (J) — **proved**; the real run is
     **judged** (known findings: `duplicate`, `incomplete-subsumed`).
   - (beyond the text) quantified patterns: "the longest binding is covered" (`?`-only queries) and "every
     (capture, node) pair of the model is bound in some real match" — **judged** only.
3. *"Impossible patterns are rejected at compile time with an error offset inside the source"*
   - offset ≤ source length for every rejected query: **judged**.
   - "impossible ⇒ rejected": **nothing** (impossibility quantifies over all trees of the language; a compiled
     pattern without any model match on the explored trees is only counted, `qempty`).
4. *"no pattern that matches some error-free tree of the language is rejected"* — **judged**, and only against the
   explored error-free trees: a rejected pattern with a model match there is a violation
   (`rejected-but-matches`; known findings for impossible alternation branches / optional children).
5. (supporting, not in the text) capture quantifiers: `count_Seq`, `count_SatItem`,
   `capture_count_within_quantifier` (Q) — **proved** (uses the GENERATED `quantifier_add/join/mul`); the compiler's
   table = `capQItem`: **judged** (obligation `corr:capQItem`).
6. (supporting) groups: `expandBs_direct`, `satVsK_finalize`, `buildNode_direct` (G) — **partial**: for nodes with at
   most `n` children; `kids_le_maxFanout` (J) discharges that for every node of the tree when the parser is
   given `n = maxFanout vt` (the driver does) — the parser's expansion of groups equals the direct semantics
   `SatE/SatEs`; step 1 of the desugaring (`bareElem`) is syntactic and trusted.

Fragment (compared): named nodes, anonymous literals, `(_)`, `_`, `(MISSING)`, `(MISSING kind)`, `(ERROR …)`,
supertypes `(sup)` / `(sup/sub)`, fields, negated fields, children in order, anchors (leading / between /
trailing), alternations (also nested, at the root, quantified), quantifiers `? * +` on child patterns, groups
among children (plain, captured, quantified).
OUTSIDE the fragment — the query is parsed to `none`, counted as `skip_unsupported` and NOT compared (nothing
decides its results in C05; C11 still judges the agreement of the cursor's views on such queries, not their
meaning): top-level sibling groups (non-rooted patterns); an anchor before a quantified child pattern or group;
a quantified or field-prefixed root; a quantifier on an alternation BRANCH; a repeated group that has variants
(contains an optional group) or whose body can match nothing; a captured / anchored group whose first element
is quantified; an anchor at the start or end inside a group; negated fields inside a group; more than 128
variants; predicates and directives (`#eq?` … are C11's); query comments; `(MISSING …)` with children.
≈ 2.8 % of the thorough tier's generated queries (2 286 of 81 636).

Choices where the docs are silent — the implementation decided:
* `(kind)` also matches a MISSING node of that kind; `(_)` matches MISSING named nodes but not ERROR;
* an anchor ignores anonymous nodes (`Anchor.loose`), except that after the unnamed wildcard `_`
  nothing may be skipped (`Anchor.strict`, `seeking_immediate_match`);
* when an optional/starred child pattern matches zero nodes the anchor of the next child pattern
  is waived (`waived`); a trailing anchor then applies to the last node that did match (`EndOk`),
  and to nothing when no child pattern matched a node at all;
* repetitions of a quantified child need not be adjacent (order-preserving selection);
* capture order inside a match is irrelevant (bindings are compared sorted).
Compile verdicts and the comparison with the real cursor are judged (Judge.lean, Drivers/C05.lean).
-/
namespace TsVerif.C05

theorem mem_endOk_iff (last : Bool) (sibs : List VT) (b : Binding) :
    b ∈ endOk last sibs ↔ EndOk last sibs b := by
  unfold endOk EndOk
  cases last <;> simp
  exact And.comm

theorem mem_dedup {α : Type} [DecidableEq α] (a : α) : ∀ (l : List α), a ∈ dedup l ↔ a ∈ l
  | [] => by simp [dedup]
  | x :: l => by
    have ih := mem_dedup a l
    unfold dedup
    by_cases h : x ∈ dedup l
    · rw [if_pos h, ih, List.mem_cons]
      constructor
      · exact Or.inr
      · rintro (rfl | h')
        · exact (mem_dedup a l).1 h
        · exact h'
    · rw [if_neg h, List.mem_cons, List.mem_cons, ih]

theorem nodup_dedup {α : Type} [DecidableEq α] : ∀ (l : List α), (dedup l).Nodup
  | [] => by simp [dedup]
  | x :: l => by
    have ih := nodup_dedup l
    unfold dedup
    by_cases h : x ∈ dedup l
    · rw [if_pos h]; exact ih
    · rw [if_neg h]; exact List.nodup_cons.2 ⟨h, ih⟩

mutual
  theorem mem_matchPat_iff : ∀ (p : Pat) (n : VT) (b : Binding), b ∈ matchPat p n ↔ SatPat p n b
    | .node t neg kids last, n, b => by
      unfold matchPat SatPat
      rw [← and_assoc, ← Bool.and_eq_true]
      split
      · rename_i h
        simp only [h, true_and]
        exact mem_matchItems_iff kids last false false n.kids b
      · rename_i h
        simp only [h, Bool.false_eq_true, false_and, List.not_mem_nil]
    | .alt alts, n, b => mem_matchAlts_iff alts n b
  theorem mem_matchAlts_iff : ∀ (alts : List Item) (n : VT) (b : Binding),
      b ∈ matchAlts alts n ↔ SatAlts alts n b
    | [], _, _ => iff_of_false List.not_mem_nil id
    | it :: rest, n, b => by
      unfold matchAlts SatAlts
      rw [List.mem_append, mem_matchItem_iff it n b, mem_matchAlts_iff rest n b]
  theorem mem_matchItem_iff : ∀ (it : Item) (n : VT) (b : Binding), b ∈ matchItem it n ↔ SatItem it n b
    | .mk imm f p q caps, n, b => by
      unfold matchItem SatItem
      split
      · rename_i h
        simp only [List.mem_map, h, true_and, mem_matchPat_iff p n, eq_comm (a := b)]
      · rename_i h
        simp only [h, Bool.false_eq_true, false_and, List.not_mem_nil]
  theorem mem_matchItems_iff : ∀ (items : List Item) (last w any : Bool) (sibs : List VT) (b : Binding),
      b ∈ matchItems items last w any sibs ↔ SatItems items last w any sibs b
    | [], last, _, any, sibs, b => mem_endOk_iff (last && any) sibs b
    | it :: rest, last, _, any, _, _ =>
      mem_seq_iff (fun c b => mem_matchItem_iff it c b) (fun s b => mem_matchItems_iff rest last true any s b)
        (fun s b => mem_matchItems_iff rest last false true s b) _ _ _
end

theorem matchAll_sound (vt : VT) (p : Item) (r : Nat) (b : Binding) (h : (r, b) ∈ matchAll vt p) :
    ∃ n, n ∈ nodesOf vt ∧ n.info.id = r ∧ SatItem p n b := by
  unfold matchAll at h
  rw [mem_dedup] at h
  unfold matchAllRaw at h
  simp only [List.mem_flatMap, List.mem_map, Prod.mk.injEq] at h
  obtain ⟨n, hn, b', hb', rfl, rfl⟩ := h
  exact ⟨n, hn, rfl, (mem_matchItem_iff p n _).1 hb'⟩

theorem matchAll_complete (vt : VT) (p : Item) (n : VT) (b : Binding)
    (hn : n ∈ nodesOf vt) (h : SatItem p n b) : (n.info.id, b) ∈ matchAll vt p := by
  unfold matchAll
  rw [mem_dedup]
  unfold matchAllRaw
  simp only [List.mem_flatMap, List.mem_map, Prod.mk.injEq]
  exact ⟨n, hn, b, (mem_matchItem_iff p n b).2 h, rfl, rfl⟩

theorem matchAll_nodup (vt : VT) (p : Item) : (matchAll vt p).Nodup := by
  unfold matchAll
  exact nodup_dedup _

theorem mem_matchAll_iff (vt : VT) (p : Item) (r : Nat) (b : Binding) :
    (r, b) ∈ matchAll vt p ↔ ∃ n, n ∈ nodesOf vt ∧ n.info.id = r ∧ SatItem p n b := by
  constructor
  · exact matchAll_sound vt p r b
  · rintro ⟨n, hn, rfl, hs⟩
    exact matchAll_complete vt p n b hn hs

theorem matchAll_exactly_once (vt : VT) (p : Item) (x : Nat × Binding) (h : x ∈ matchAll vt p) :
    (matchAll vt p).count x = 1 := by
  have h1 := List.nodup_iff_count.1 (matchAll_nodup vt p) x
  have h2 := List.count_pos_iff.2 h
  omega

/-- `matchAll_complete` again.  The statement has no quantifier-free hypothesis (the model is complete for the whole
fragment); the name records that the IMPLEMENTATION is held to equality with the model for quantifier-free queries only. -/
theorem matchAll_complete_qfree (vt : VT) (p : Item) (n : VT) (b : Binding)
    (hn : n ∈ nodesOf vt) (h : SatItem p n b) : (n.info.id, b) ∈ matchAll vt p :=
  matchAll_complete vt p n b hn h

/-! Non-vacuity: `(paren (item) @x . ")")` on the tree of `( a b )`. -/
def exLeaf (id : Nat) (kind : String) (named : Bool) : VT :=
  .mk { id := id, kind := kind, named := named, missing := false, error := false, extra := false,
        field := none, sb := id, eb := id + 1 } []
def exTree : VT :=
  .mk { id := 0, kind := "paren", named := true, missing := false, error := false, extra := false,
        field := none, sb := 0, eb := 9 }
    [exLeaf 1 "(" false, exLeaf 2 "item" true, exLeaf 3 "item" true, exLeaf 4 ")" false]
def exPat : Item :=
  .mk .none none (.node (.kind "paren" true) []
    [.mk .none none (.node (.kind "item" true) [] [] false) .one ["x"],
     .mk .loose none (.node (.kind ")" false) [] [] false) .one []] false) .one []

example : matchAll exTree exPat = [(0, [("x", 3)])] := by decide +kernel
example : SatItem exPat exTree [("x", 3)] :=
  (mem_matchItem_iff exPat exTree _).1 (by decide +kernel)
example : ∃ n, n ∈ nodesOf exTree ∧ n.info.id = 0 ∧ SatItem exPat n [("x", 3)] :=
  matchAll_sound exTree exPat 0 _ (by decide +kernel)

end TsVerif.C05
