import TsVerif.C05.VerifyProps
import TsVerif.C05.GroupProps
import TsVerif.C05.JudgeProps
import TsVerif.C05.CapQuantProps
#print axioms TsVerif.C05.mem_seqOne_iff
#print axioms TsVerif.C05.mem_seqMany_iff
#print axioms TsVerif.C05.mem_seq_iff
#print axioms TsVerif.C05.mem_matchPat_iff
#print axioms TsVerif.C05.mem_matchItem_iff
#print axioms TsVerif.C05.mem_matchItems_iff
#print axioms TsVerif.C05.matchAll_sound
#print axioms TsVerif.C05.matchAll_complete
#print axioms TsVerif.C05.matchAll_complete_qfree
#print axioms TsVerif.C05.matchAll_nodup
#print axioms TsVerif.C05.count_Seq
#print axioms TsVerif.C05.count_SatItem
#print axioms TsVerif.C05.capture_count_within_quantifier
#print axioms TsVerif.C05.rep_seqOneS
#print axioms TsVerif.C05.rep_seqManyS
#print axioms TsVerif.C05.rep_seqS
#print axioms TsVerif.C05.rep_verifyItem
#print axioms TsVerif.C05.satItemV_perm
#print axioms TsVerif.C05.satItem_permV
#print axioms TsVerif.C05.verifyAnywhere_iff
#print axioms TsVerif.C05.verifyAnywhere_sound
#print axioms TsVerif.C05.verifyAnywhere_complete
#print axioms TsVerif.C05.SatVsK_len
#print axioms TsVerif.C05.expandBs_sound
#print axioms TsVerif.C05.expandBs_complete
#print axioms TsVerif.C05.expandBs_direct
#print axioms TsVerif.C05.satVsK_finalize
#print axioms TsVerif.C05.buildNode_direct
#print axioms TsVerif.C05.mem_matchAll_iff
#print axioms TsVerif.C05.matchAll_exactly_once
#print axioms TsVerif.C05.mem_modelMatches_iff
#print axioms TsVerif.C05.canon_perm
#print axioms TsVerif.C05.counts_eq_of_sound_complete
#print axioms TsVerif.C05.kids_le_maxFanout
