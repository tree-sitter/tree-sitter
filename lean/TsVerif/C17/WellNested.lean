import TsVerif.C17.Dyn
/-!
# C17: the merged multi-layer stream is well nested

Layers whose captures are in order inside each layer (`DefsNice`), whose span captures are pairwise
laminar across layers with start ties oriented the way the code emits them (`crossNice`), created
either by `Highlighter::highlight` or DURING the run by injection captures (`refsUp`, every id
referenced at most once, `injTieOkP`): keep the GLOBAL stack of the ends of the open spans by stack
discipline — push the capture's end at every `HighlightStart`, pop at every `HighlightEnd`.  Then at
every `HighlightEnd` the top of that stack is exactly the end being closed, the stack is always sorted by
end and is a permutation of all layers' `highlight_end_stack`s.  Here: the invariant `NInv` behind it, one iteration
(`stepM_well_nested`) and the run (`iterG_well_nested`).
-/
namespace TsVerif.C17

theorem head_of_sorted {G : List Nat} {a : Nat} (hs : G.Pairwise (· ≤ ·)) (ha : a ∈ G) (hmin : ∀ g ∈ G, a ≤ g) :
    ∃ G', G = a :: G' := by
  cases G with
  | nil => cases ha
  | cons g G' =>
    refine ⟨G', ?_⟩
    rcases List.mem_cons.mp ha with h | h
    · rw [h]
    · rw [Nat.le_antisymm ((List.pairwise_cons.mp hs).1 a h) (hmin g List.mem_cons_self)]

/-- The arithmetic of `crossNice` for a span `a` open at `off` and a span `b` starting at or after `off` inside it:
`b` ends inside `a`, unless they start together at `off` with `b`'s layer the deeper one (`htie` excludes that). -/
theorem end_le_of_cross {a b : RCap} {da db off : Nat}
    (h1 : a.s < b.s → b.s < a.e → b.e ≤ a.e)
    (h2 : b.s = a.s → b.s < b.e → a.s < a.e → db ≠ da ∧ (db < da → b.e ≤ a.e))
    (hs : a.s ≤ off) (hoc : off ≤ b.s) (hgt : b.s < a.e) (htie : a.s = off → da < db → b.s ≠ off) :
    b.e ≤ a.e := by
  by_cases hlt : a.s < b.s
  · exact h1 hlt hgt
  · by_cases hne : b.s < b.e
    · obtain ⟨q1, q2⟩ := h2 (by omega) hne (by omega)
      by_cases hd : db < da
      · exact q2 hd
      · exact absurd (by omega) (htie (by omega) (by omega))
    · omega

theorem getLast_emit_stop (off t : Nat) : (emitM off t .stop).1.getLast? = some .stop := by
  unfold emitM; split <;> rfl

theorem getLast_emit_start (off t h : Nat) : (emitM off t (.start h)).1.getLast? = some (.start h) := by
  unfold emitM; split <;> rfl

/-- Layer identity and provenance.  `pend`: the ids the state owns (live ids and the trees of the
pending injection references) are distinct.  `src`: every live layer is a suffix of its table entry;
every open end is the end of a span capture in the consumed prefix that started at or before the
offset, and if it started AT the offset then no DEEPER live layer has a pending span capture there. -/
structure NInv (defs : List LayerDef) (st : MSt) : Prop where
  pend : (allP defs st.layers).Nodup
  src : ∀ y ∈ st.layers, ∃ d pre, defs[y.id]? = some d ∧ y.depth = d.depth ∧ d.caps = pre ++ y.caps ∧
    ∀ e ∈ y.ends, ∃ c0 ∈ pre, isSpan d c0 = true ∧ c0.e = e ∧ c0.s ≤ st.off ∧
      (c0.s = st.off → ∀ h' ∈ st.layers, y.depth < h'.depth → ∀ dh, defs[h'.id]? = some dh →
        ∀ c ∈ h'.caps, isSpan dh c = true → c.s ≠ st.off)

theorem NInv.ids {defs : List LayerDef} {st : MSt} (h : NInv defs st) : (st.layers.map (·.id)).Nodup :=
  nodup_ids_of_allP h.pend

/-- No layer of `ls` deeper than `d` has a pending span capture starting at `off` (the tie clause of `NInv.src`). -/
def Untied (defs : List LayerDef) (ls : List MLayer) (d off : Nat) : Prop :=
  ∀ h' ∈ ls, d < h'.depth → ∀ dh, defs[h'.id]? = some dh → ∀ c ∈ h'.caps, isSpan dh c = true → c.s ≠ off

theorem Untied.mono {defs : List LayerDef} {l l' : MLayer} {rest X : List MLayer} {d off : Nat}
    (h : Untied defs (l :: rest) d off) (hid : l'.id = l.id) (hdl : l'.depth = l.depth)
    (hcl : ∀ c ∈ l'.caps, c ∈ l.caps) (hX : ∀ h' ∈ X, h' = l' ∨ h' ∈ rest) : Untied defs X d off := by
  intro h' hh' hlt dh hdh c hc hsp
  rcases hX h' hh' with rfl | hr'
  · exact h l List.mem_cons_self (hdl ▸ hlt) dh (hid ▸ hdh) c (hcl c hc) hsp
  · exact h h' (List.mem_cons_of_mem _ hr') hlt dh hdh c hc hsp

theorem Untied.insert {defs : List LayerDef} {ls : List MLayer} {ids : List Nat} {d off : Nat} (h : Untied defs ls d off)
    (hnew : ∀ j ∈ ids, ∀ nl, mkLayer defs j = some nl → Untied defs [nl] d off) :
    Untied defs (sortLayers (ids.foldl (insertById defs) ls)) d off := by
  intro h' hh'
  rcases mem_fold_insertById (mem_sortLayers hh') with hold | ⟨j, hj, hm⟩
  · exact h h' hold
  · exact hnew j hj h' hm h' (List.mem_singleton_self _)

/-- A layer made from its table entry has consumed nothing and has nothing open. -/
theorem mkLayer_fresh {defs : List LayerDef} {j : Nat} {y : MLayer} (hm : mkLayer defs j = some y)
    (P : LayerDef → List RCap → Nat → Prop) :
    ∃ d pre, defs[y.id]? = some d ∧ y.depth = d.depth ∧ d.caps = pre ++ y.caps ∧ ∀ e ∈ y.ends, P d pre e := by
  obtain ⟨dj, hdj, rfl⟩ := mkLayer_some hm
  exact ⟨dj, [], hdj, rfl, rfl, nofun⟩

theorem stepM_well_nested (defs : List LayerDef) (hn : DefsNice defs) (hr : refsUp defs = true)
    (hx : crossNice defs = true) (ht : injTieOkP defs = true) (n : Nat) (st st' : MSt) (evs : List Ev) (G : List Nat)
    (ho : OInv st) (hv : NInv defs st) (hGs : G.Pairwise (· ≤ ·)) (hGp : G.Perm (allEnds st.layers))
    (h : stepM defs n st = .more evs st') :
    ∃ G', ghostStep st evs G = some G' ∧ G'.Pairwise (· ≤ ·) ∧ G'.Perm (allEnds st'.layers) ∧ NInv defs st' := by
  -- One iteration keeps four things: the ghost step succeeds, `G` stays sorted, a permutation of all end stacks, and `NInv`
  -- (`OInv` is kept by `stepM_keeps_oinv`).  Pop: the head's end is the minimum of all open ends, hence the top of `G`.  Start: every
  -- open end lies beyond `c.s` and, by `crossNice`, not before `c.e`.  The tie clause of `NInv` travels by `Untied.mono` / `.insert`.
  obtain ⟨layers, off, last⟩ := st
  obtain ⟨l, rest, hls, hit⟩ := stepM_more h
  obtain rfl : layers = l :: rest := hls
  have hs := ho.sorted
  obtain ⟨k, hk, hmin⟩ := hs.1
  have hl : LInv off l := ho.linv l (List.mem_cons_self)
  have hrestI : ∀ y ∈ rest, LInv off y := fun y hy => ho.linv y (List.mem_cons_of_mem _ hy)
  obtain ⟨d, pre, hd, hdep, hpre, hendsd⟩ := hv.src l (List.mem_cons_self)
  simp only at hendsd
  have hcapsd : ∀ c ∈ l.caps, c ∈ d.caps := fun c hc => by rw [hpre]; exact List.mem_append_right _ hc
  have hidl : ∀ y ∈ rest, y.id ≠ l.id := fun y hy h =>
    (List.nodup_cons.mp hv.ids).1 (List.mem_map.mpr ⟨y, hy, h⟩)
  have hperm_new : ∀ l' : MLayer, (allEnds (sortLayers (l' :: rest))).Perm (l'.ends ++ allEnds rest) := by
    intro l'
    have := allEnds_sortLayers (l' :: rest)
    rwa [allEnds_cons] at this
  -- a tie clause of this state transfers to a next state whose layers come from the old ones: the offset cannot have moved
  have tieT : ∀ (dy : Nat) (c0 : RCap) (l' : MLayer) (off' : Nat), l'.id = l.id → l'.depth = l.depth →
      (∀ c ∈ l'.caps, c ∈ l.caps) → off ≤ off' → c0.s ≤ off →
      (c0.s = off → Untied defs (l :: rest) dy off) → c0.s = off' → Untied defs (sortLayers (l' :: rest)) dy off' := by
    intro dy c0 l' off' hid hdl hcl hoff hs0 hold heq
    obtain rfl : off' = off := Nat.le_antisymm (heq ▸ hs0) hoff
    exact (hold heq).mono hid hdl hcl fun h' hh' => List.mem_cons.mp (mem_sortLayers hh')
  -- the next state's NInv when the head keeps its id and depth, drops a prefix of its captures and
  -- the offset grows
  have mkN : ∀ (l' : MLayer) (off' : Nat) (last' : Option (Nat × Nat × Nat)) (mid : List RCap),
      l'.id = l.id → l'.depth = l.depth → off ≤ off' → l.caps = mid ++ l'.caps →
      (∀ e ∈ l'.ends, ∃ c0 ∈ pre ++ mid, isSpan d c0 = true ∧ c0.e = e ∧ c0.s ≤ off' ∧
        (c0.s = off' → Untied defs (sortLayers (l' :: rest)) l'.depth off')) →
      NInv defs { layers := sortLayers (l' :: rest), off := off', last := last' } := by
    intro l' off' last' mid hid hdl hoff hmid hends
    have hcl : ∀ c ∈ l'.caps, c ∈ l.caps := fun c hc => by rw [hmid]; exact List.mem_append_right _ hc
    refine ⟨nodup_head_suffix hid hmid hv.pend, ?_⟩
    intro y hy
    rcases List.mem_cons.mp (mem_sortLayers hy) with hyl | hy'
    · rw [hyl]
      exact ⟨d, pre ++ mid, by rw [hid]; exact hd, by rw [hdl]; exact hdep,
        by rw [hpre, hmid, List.append_assoc], hends⟩
    · obtain ⟨dy, prey, h1, h1', h2, h3⟩ := hv.src y (List.mem_cons_of_mem _ hy')
      exact ⟨dy, prey, h1, h1', h2, fun e he => by
        obtain ⟨c0, hc0, hsp0, he0, hs0, ht0⟩ := h3 e he
        simp only at hs0 ht0
        exact ⟨c0, hc0, hsp0, he0, Nat.le_trans hs0 hoff, tieT y.depth c0 l' off' hid hdl hcl hoff hs0 ht0⟩⟩
  have keepEnds : ∀ (l' : MLayer) (off' : Nat) (mid : List RCap), l'.id = l.id → l'.depth = l.depth →
      l.caps = mid ++ l'.caps → off ≤ off' →
      ∀ e ∈ l.ends, ∃ c0 ∈ pre ++ mid, isSpan d c0 = true ∧ c0.e = e ∧ c0.s ≤ off' ∧
        (c0.s = off' → Untied defs (sortLayers (l' :: rest)) l'.depth off') := by
    intro l' off' mid hid hdl hmid hoff e he
    have hcl : ∀ c ∈ l'.caps, c ∈ l.caps := fun c hc => by rw [hmid]; exact List.mem_append_right _ hc
    obtain ⟨c0, hc0, hsp0, he0, hs0, ht0⟩ := hendsd e he
    exact ⟨c0, List.mem_append_left _ hc0, hsp0, he0, Nat.le_trans hs0 hoff,
      hdl ▸ tieT l.depth c0 l' off' hid hdl hcl hoff hs0 ht0⟩
  have hGp' : G.Perm (l.ends ++ allEnds rest) := by rw [← allEnds_cons]; exact hGp
  have hskip : ∀ (cs mid : List RCap), l.caps = mid ++ cs →
      ∃ G', ghostStep { layers := l :: rest, off := off, last := last } [] G = some G' ∧ G'.Pairwise (· ≤ ·) ∧
        G'.Perm (allEnds (sortLayers ({ l with caps := cs } :: rest))) ∧
        NInv defs { layers := sortLayers ({ l with caps := cs } :: rest), off := off, last := last } := by
    intro cs mid hmid
    refine ⟨G, rfl, hGs, ?_, mkN _ _ _ mid rfl rfl (Nat.le_refl _) hmid
      (keepEnds { l with caps := cs } off mid rfl rfl hmid (Nat.le_refl _))⟩
    exact hGp'.trans (hperm_new { l with caps := cs }).symm
  have ctx : ∀ {c : RCap} {caps' : List RCap}, l.caps = c :: caps' → sortKey l = some (c.s, true, l.depth) →
      k = (c.s, true, l.depth) ∧ (∀ e ∈ l.ends, c.s < e) ∧ (∀ y ∈ rest, ∀ e ∈ y.ends, c.s < e) ∧
      c ∈ d.caps ∧ off ≤ c.s ∧ ∀ x ∈ caps', x ∈ l.caps := fun hc hkey => by
    have hkc := Option.some.inj (hk.symm.trans hkey)
    refine ⟨hkc, open_end_gt hl hk (by rw [hkc]; exact keyLt_irrefl _), fun y hy e hey => ?_,
      hcapsd _ (hc ▸ List.mem_cons_self), hl.capsGe _ (hc ▸ List.mem_cons_self),
      fun x hx => hc ▸ List.mem_cons_of_mem _ hx⟩
    obtain ⟨ky, hky, hge⟩ := hmin y hy
    rw [hkc] at hge
    exact open_end_gt (hrestI y hy) hky hge e hey
  cases hit with
  | final hk' => exact absurd hk' (by rw [hk]; exact nofun)
  | @pop eb ends' he hk' =>
    have hkeb : k.1 = eb := congrArg Prod.fst (Option.some.inj (hk.symm.trans hk'))
    obtain ⟨_, ke⟩ := key_le_all hl hk
    have hmin_all : ∀ e ∈ l.ends ++ allEnds rest, eb ≤ e := by
      intro e he'
      rcases List.mem_append.mp he' with h1 | h1
      · have := ke e h1; omega
      · obtain ⟨y, hy, hey⟩ := List.mem_flatMap.mp h1
        obtain ⟨ky, hky, hle⟩ := keyGe_pos (hmin y hy)
        have := (key_le_all (hrestI y hy) hky).2 e hey
        omega
    have hebG : eb ∈ G := hGp'.symm.subset (by rw [he]; exact List.mem_append_left _ List.mem_cons_self)
    obtain ⟨G', rfl⟩ := head_of_sorted hGs hebG fun g hg => hmin_all g (hGp'.subset hg)
    refine ⟨G', ?_, (List.pairwise_cons.mp hGs).2, ?_, ?_⟩
    · simp only [ghostStep, getLast_emit_stop, he, if_true]
    · rw [he] at hGp'
      exact (List.Perm.cons_inv hGp').trans (hperm_new { l with ends := ends' }).symm
    · have hoff' : off ≤ (emitM off eb .stop).2 := by rw [emitM_eq]; exact Nat.le_max_left _ _
      exact mkN _ _ _ [] rfl rfl hoff' rfl (fun e he' =>
        keepEnds { l with ends := ends' } _ [] rfl rfl rfl hoff' e (by rw [he]; exact List.mem_cons_of_mem _ he'))
  | @inj c caps' ids hc hkey hkind =>
    obtain ⟨hkc, hownGt, hrestGt, hcd, hoc, htail⟩ := ctx hc hkey
    have hinj : ∀ j ∈ ids, ∀ d', defs[j]? = some d' → ∀ c' ∈ d'.caps, c.s ≤ c'.s :=
      hn.2 d (List.mem_of_getElem? hd) c hcd ids hkind
    have hji : ∀ j ∈ ids, j ∈ injIds c := fun j hj => by unfold injIds; rw [hkind]; exact hj
    have hdcaps : d.caps = pre ++ c :: caps' := by rw [hpre, hc]
    have hmemF := fun y => @mem_fold_insertById defs ids ({ l with caps := caps' } :: rest) y
    -- a tie clause of this state holds against the new layer list: a layer created now with a span capture at the offset
    -- is not deeper than the layer of a span open there (`injTieOkP`)
    have newT : ∀ (yd kk : Nat) (dk : LayerDef) (c0 : RCap), defs[kk]? = some dk → yd = dk.depth →
        (if kk = l.id then c0 ∈ pre ∧ isSpan d c0 = true else c0 ∈ spanCaps dk) → c.s < c0.e → c0.s ≤ off →
        (c0.s = off → Untied defs (l :: rest) yd off) → c0.s = off →
        Untied defs (sortLayers (ids.foldl (insertById defs) ({ l with caps := caps' } :: rest))) yd off := by
      intro yd kk dk c0 hkk hyd ha hgt hs0 hold heq
      refine ((hold heq).mono (l' := { l with caps := caps' }) rfl rfl htail fun _ => List.mem_cons.mp).insert
        fun j hj nl hm h' hh' hlt dh hdh c'' hc'' hsp hcs => ?_
      obtain rfl := List.mem_singleton.mp hh'
      obtain ⟨dj, hdj, rfl⟩ := mkLayer_some hm
      obtain rfl : dj = dh := Option.some.inj (hdj.symm.trans hdh)
      replace hlt : yd < dj.depth := hlt
      have h1 := hinj j hj dj hdj c'' hc''
      have hcs' : c''.s = c.s := by omega
      have := injTieOkP_spec ht hd hdcaps (hji j hj) hdj (List.mem_filter.mpr ⟨hc'', hsp⟩) hcs' hkk ha
        (by omega) (by omega)
      omega
    refine ⟨G, rfl, hGs, ?_, ?_⟩
    · refine hGp'.trans (((allEnds_sortLayers _).trans (allEnds_fold_insertById defs ids _)).trans ?_).symm
      rw [allEnds_cons]
    · refine ⟨nodup_inj_step hr hc hkind hv.pend, ?_⟩
      intro y hy
      rcases hmemF y (mem_sortLayers hy) with hyo | ⟨j, hj, hm⟩
      · rcases List.mem_cons.mp hyo with hyl | hy'
        · rw [hyl]
          refine ⟨d, pre ++ [c], hd, hdep, by rw [hdcaps]; simp, ?_⟩
          intro e he
          obtain ⟨c0, hc0, hsp0, he0, hs0, ht0⟩ := hendsd e he
          exact ⟨c0, List.mem_append_left _ hc0, hsp0, he0, hs0,
            newT l.depth l.id d c0 hd hdep (by rw [if_pos rfl]; exact ⟨hc0, hsp0⟩)
              (by rw [he0]; exact hownGt e he) hs0 ht0⟩
        · obtain ⟨dy, prey, h1, h1', h2, h3⟩ := hv.src y (List.mem_cons_of_mem _ hy')
          refine ⟨dy, prey, h1, h1', h2, ?_⟩
          intro e he
          obtain ⟨c0, hc0, hsp0, he0, hs0, ht0⟩ := h3 e he
          simp only at hs0 ht0
          exact ⟨c0, hc0, hsp0, he0, hs0,
            newT y.depth y.id dy c0 h1 h1' (by
                rw [if_neg (hidl y hy')]
                exact List.mem_filter.mpr ⟨by rw [h2]; exact List.mem_append_left _ hc0, hsp0⟩)
              (by rw [he0]; exact hrestGt y hy' e he) hs0 ht0⟩
      · exact mkLayer_fresh hm _
  | @skip c caps' cs hc hkey hs =>
    obtain ⟨mid, rfl⟩ := hs
    exact hskip cs (c :: mid) (by rw [hc]; rfl)
  | @start c caps' hh hh2 hc hkey hkind hcol =>
    obtain ⟨hkc, hownGt, hrestGt, hcd, hoc, htail⟩ := ctx hc hkey
    obtain ⟨m0, hm0⟩ := collapse_suffix c.node caps' hh
    have hmid0 : l.caps = (c :: m0) ++ (collapse c.node hh caps').2 := by
      rw [hc, List.cons_append, ← hm0]
    have hcsp : isSpan d c = true := by
      unfold isSpan
      refine List.any_eq_true.mpr ?_
      rcases collapse_fst_some caps' hh hcol with h1 | ⟨c', h1, h2, h3⟩
      · exact ⟨c, hcd, by simp [hlSome, hkind, h1]⟩
      · exact ⟨c', hcapsd c' (htail c' h1), by simp [hlSome, h3, h2]⟩
    have hcspm : c ∈ spanCaps d := List.mem_filter.mpr ⟨hcd, hcsp⟩
    have hown : ∀ e ∈ l.ends, c.e ≤ e := by
      intro e he
      rcases hl.nest e he c (by rw [hc]; exact List.mem_cons_self) with h1 | h1
      · exact absurd h1 (Nat.not_le.mpr (hownGt e he))
      · exact h1
    have hother : ∀ e ∈ allEnds rest, c.e ≤ e := by
      intro e he
      obtain ⟨y, hy, hey⟩ := List.mem_flatMap.mp he
      have hgt := hrestGt y hy e hey
      obtain ⟨dy, prey, hdy, hdepy, hprey, h3⟩ := hv.src y (List.mem_cons_of_mem _ hy)
      obtain ⟨c0, hc0, hsp0, he0, hs0, ht0⟩ := h3 e hey
      simp only at hs0 ht0
      have hc0m : c0 ∈ spanCaps dy :=
        List.mem_filter.mpr ⟨by rw [hprey]; exact List.mem_append_left _ hc0, hsp0⟩
      have hcn := crossNice_spec hx (hidl y hy) hdy hd hc0m hcspm
      have hcn' := crossNice_spec hx (Ne.symm (hidl y hy)) hd hdy hcspm hc0m
      rw [← he0] at hgt ⊢
      exact end_le_of_cross hcn.1 hcn'.2 hs0 hoc hgt fun h0 hlt =>
        ht0 h0 l List.mem_cons_self (by rw [hdepy, hdep]; exact hlt) d hd c (by rw [hc]; exact List.mem_cons_self) hcsp
    refine ⟨c.e :: G, ?_, ?_, ?_, ?_⟩
    · simp only [ghostStep, getLast_emit_start, hc]
    · refine List.pairwise_cons.mpr ⟨fun e he => ?_, hGs⟩
      rcases List.mem_append.mp (hGp'.subset he) with h1 | h1
      · exact hown e h1
      · exact hother e h1
    · exact (List.Perm.cons _ hGp').trans
        (hperm_new { l with caps := (collapse c.node hh caps').2, ends := c.e :: l.ends }).symm
    · have hoff' : ∀ hx, off ≤ (emitM off c.s (.start hx)).2 := fun _ => by
        rw [emitM_eq]; exact Nat.le_max_left _ _
      have hoffc : ∀ hx, c.s ≤ (emitM off c.s (.start hx)).2 := fun _ => by
        rw [emitM_eq]; exact Nat.le_max_right _ _
      refine mkN _ _ _ (c :: m0) rfl rfl (hoff' _) hmid0 ?_
      intro e he
      rcases List.mem_cons.mp he with rfl | he'
      · refine ⟨c, List.mem_append_right _ List.mem_cons_self, hcsp, rfl, hoffc _, ?_⟩
        -- the tie clause for the span opened now: the head key `(c.s, start, depth)` is minimal, and a deeper layer with a
        -- pending capture at `c.s` would have the smaller key (deeper layers sort first among starts at one offset)
        intro heq h' hh' hlt dh hdh c' hc' _ hcs
        rcases List.mem_cons.mp (mem_sortLayers hh') with hl' | hr'
        · rw [hl'] at hlt; exact absurd hlt (Nat.lt_irrefl _)
        · obtain ⟨ky, hky, hge⟩ := hmin h' hr'
          rw [hkc, keyLt_false_iff] at hge
          have hle := (key_le_all (hrestI h' hr') hky).1 c' hc'
          have hkd := sortKey_depth hky
          have := Bool.toNat_le ky.2.1
          simp only [Bool.toNat_true] at hge hlt
          omega
      · exact keepEnds { l with caps := (collapse c.node hh caps').2, ends := c.e :: l.ends } _ (c :: m0) rfl rfl
          hmid0 (hoff' _) e he'

theorem init_ninv (defs : List LayerDef) (hr : refsUp defs = true) (top : List Nat)
    (hnd : (top.flatMap (tree defs defs.length)).Nodup) :
    NInv defs { layers := initLayersR defs top } := by
  refine ⟨List.nodup_iff_count.mpr fun a => ?_, fun y hy => ?_⟩
  · exact Nat.le_trans (cnt_dropped defs a (initLayersR_dropped defs top))
      (Nat.le_trans ((allP_fresh hr top).count_le a) (List.nodup_iff_count.mp hnd a))
  · obtain ⟨id, _, hm⟩ := mem_initLayersR hy
    exact mkLayer_fresh hm _

theorem iterG_well_nested (defs : List LayerDef) (hn : DefsNice defs) (hr : refsUp defs = true)
    (hx : crossNice defs = true) (ht : injTieOkP defs = true) (n : Nat) : ∀ (k : Nat) (st st' : MSt) (G : List Nat),
    OInv st → NInv defs st → G.Pairwise (· ≤ ·) → G.Perm (allEnds st.layers) → iterM defs n k st = some st' →
    ∃ G', iterG defs n k st G = some (st', G') ∧ G'.Pairwise (· ≤ ·) ∧ G'.Perm (allEnds st'.layers) := by
  intro k
  induction k with
  | zero =>
    intro st st' G _ _ h3 h4 h
    cases h
    exact ⟨G, rfl, h3, h4⟩
  | succ k ih =>
    intro st st' G ho hv h3 h4 h
    unfold iterM at h
    unfold iterG
    cases hstep : stepM defs n st with
    | done evs => rw [hstep] at h; cases h
    | more evs st1 =>
      rw [hstep] at h
      simp only
      obtain ⟨G1, g1, g2, g3, g4⟩ := stepM_well_nested defs hn hr hx ht n st st1 evs G ho hv h3 h4 hstep
      rw [g1]
      simp only
      have hf : FromDefs defs st.layers := fun l hl c hc => by
        obtain ⟨d, pre, hd, _, hcd, _⟩ := hv.src l hl
        exact ⟨d, List.mem_of_getElem? hd, by rw [hcd]; exact List.mem_append_right _ hc⟩
      exact ih st1 st' G1 (stepM_keeps_oinv defs hn n st st1 evs ho hf hstep) g4 g2 g3 h

end TsVerif.C17
