import TsVerif.C17.FullLemmas
import TsVerif.C17.LocalsProps
/-!
Clauses 2–4 and 10 of the clause map in `Props.lean` for the END-TO-END model (`Full.lean`: several
layers, injections, one scope stack per layer).  `Full.stepM` is one iteration of the `'main` loop of
`HighlightIter::next` in the model that reproduces every real F-case stream (locals AND injections).
-/
namespace TsVerif.C17

/-- The end-to-end model of `HighlightIter::next` (`Full.lean`: layer ordering, per-layer scope
stacks and local definitions/references, `injection_for_match`, `intersect_ranges`, lookup of the
layers `HighlightIterLayer::new` returns) TERMINATES and yields a well-formed stream, for every
context whose capture offsets lie inside the source and whose injections create only layers with a
larger id (the driver checks both on every real case). -/
theorem merge_full_wellformed (cx : Full.Ctx) (top : List Nat) (n : Nat)
    (hd : Full.defsIn n cx = true) (hr : Full.refsUp cx = true) :
    (Full.mergeFull cx top n).2 = true ∧ judgeEvents n (Full.mergeFull cx top n).1 = true := by
  have hdo : Full.DefsOk n cx := by
    intro d hdm c hc
    have h1 := List.all_eq_true.mp hd d hdm
    have h2 := List.all_eq_true.mp h1 c hc
    simpa using h2
  have hinit := Full.initLayers_dropped cx top
  have h0 : Full.totalEnds (Full.initLayers cx top) = 0 := by
    rw [Full.totalEnds_dropped hinit, ← List.append_nil (top.filterMap _), Full.totalEnds_fresh]; rfl
  have hs : Full.SInv n { layers := Full.sortLayers (Full.initLayers cx top) } :=
    Full.sinv_sorted (Nat.zero_le _) fun l hl =>
      let ⟨_, _, hm⟩ := List.mem_filterMap.mp (hinit.mem hl)
      (Full.mkLayer_ok hdo hm).2
  have hfin : (Full.mergeFull cx top n).2 = true := by
    unfold Full.mergeFull
    exact Full.runM_fin hdo hr _ _ hs (Nat.lt_succ_self _)
  refine ⟨hfin, ?_⟩
  unfold Full.mergeFull at hfin ⊢
  have := Full.runM_wf hdo _ _ hs hfin
  simp only [Full.totalEnds_sortLayers, h0] at this
  exact this

/-- non-vacuity: a host layer with a definition, a reference and an injection by node text whose
content (minus its one child) becomes a stmt layer found in the `new` table. -/
def exCtx : Full.Ctx :=
  { defs := [⟨2, 0, [(0, 18446744073709551615)],
              [⟨0, 1, 1, .defn 7 0 true⟩, ⟨0, 1, 1, .hl (some 4) false⟩,
               ⟨2, 3, 2, .inj ⟨some 0, some ⟨4, 9, [(6, 7)]⟩, []⟩⟩,
               ⟨10, 11, 3, .ref 7 true⟩, ⟨10, 11, 3, .hl (some 5) true⟩]⟩,
             ⟨0, 1, [(4, 6), (7, 9)], [⟨4, 5, 9, .hl (some 1) false⟩, ⟨7, 9, 8, .hl (some 2) false⟩]⟩],
    news := [⟨0, 1, [(4, 6), (7, 9)], [1]⟩], nKnown := 3, rootLang := 2 }

example : Full.defsIn 12 exCtx = true ∧ Full.refsUp exCtx = true ∧
    Full.mergeFull exCtx [0] 12 =
      ([.start 4, .source 0 1, .stop, .source 1 4, .start 1, .source 4 5, .stop, .source 5 7, .start 2,
        .source 7 9, .stop, .source 9 10, .start 4, .source 10 11, .stop, .source 11 12], true) := by decide +kernel

/-- In ANY state of the end-to-end multi-layer model whose HEAD layer (the one `sort_layers` put first)
has as next node a `@local.reference` capture followed by a highlight capture, with no end of that
layer to pop first and the cross-layer de-duplication not firing (`dedup = false`; when it fires the
real code emits nothing for the node): if in that layer's scope stack, after popping finished scopes,
the scopes above the defining one inherit and hold no admissible definition of the name and the
defining scope's newest admissible definition stores `hh`, the iteration IS `stepStart … hh`: it emits
`HighlightStart(hh)` at the reference's start (own pattern highlight `h0` overridden), pushes the
reference's end on that layer's stack, records `last_highlight_range` and re-sorts the layers. -/
theorem full_ref_event (cx : Full.Ctx) (n : Nat) (st : Full.FSt) (l : Full.FLayer) (rest : List Full.FLayer)
    (s e s2 e2 node name hh : Nat) (h0 : Option Nat) (nl : Bool) (caps' : List Full.FCap)
    (above below : List LScope) (sc : LScope)
    (hlay : st.layers = l :: rest)
    (hcaps : l.caps = ⟨s, e, node, .ref name true⟩ :: ⟨s2, e2, node, .hl h0 nl⟩ :: caps')
    (hends : ∀ eb ∈ l.ends.head?, s < eb)
    (hdd : Full.dedup st l ⟨s, e, node, .ref name true⟩ = false)
    (hpop : popScopes s l.scopes = above ++ sc :: below)
    (habove : ∀ a ∈ above, a.inherits = true ∧ findDef name s a.defs = none)
    (hsc : findDef name s sc.defs = some (some hh)) :
    Full.stepM cx n st =
      Full.stepStart st { l with caps := (Full.collapseL true node h0 caps').2, scopes := popScopes s l.scopes }
        rest ⟨s, e, node, .ref name true⟩ hh := by
  have hl := local_ref_like_def name s e node above below sc (some hh)
    { scopes := popScopes s l.scopes, refHl := none, defP := false } hpop rfl habove hsc
  obtain ⟨hs, hd⟩ := applyLocal_ref { scopes := popScopes s l.scopes, refHl := none, defP := false } s e node name true
  have hact := Full.action_take_of hcaps hends
  simp only [Full.stepM, hlay, hact, Full.stepLocals, Full.localsRun, Full.toL, if_true, hdd, hl, hd, hs,
    Option.some_or, Bool.false_or, Option.isSome_some, Bool.false_eq_true, if_false, Full.hlOf]

/-- Definition step of the end-to-end model: the `Start` of a definition node carries the node's final
highlight `hh` and exactly `hh` is stored as the highlight of the new newest definition of the head
layer's current scope. -/
theorem full_def_event (cx : Full.Ctx) (n : Nat) (st : Full.FSt) (l : Full.FLayer) (rest : List Full.FLayer)
    (s e s2 e2 node name ve hh : Nat) (h0 : Option Nat) (nl : Bool) (caps' : List Full.FCap)
    (below : List LScope) (sc : LScope)
    (hlay : st.layers = l :: rest)
    (hcaps : l.caps = ⟨s, e, node, .defn name ve true⟩ :: ⟨s2, e2, node, .hl h0 nl⟩ :: caps')
    (hends : ∀ eb ∈ l.ends.head?, s < eb)
    (hdd : Full.dedup st l ⟨s, e, node, .defn name ve true⟩ = false)
    (hpop : popScopes s l.scopes = sc :: below)
    (hcol : (Full.collapseL true node h0 caps').1 = some hh) :
    Full.stepM cx n st =
      Full.stepStart st { l with caps := (Full.collapseL true node h0 caps').2,
                                 scopes := { sc with defs := { name := name, valueEnd := ve, hl := some hh } :: sc.defs } :: below }
        rest ⟨s, e, node, .defn name ve true⟩ hh := by
  have ha := applyLocal_defn (r := { scopes := popScopes s l.scopes, refHl := none, defP := false }) s e node name ve hpop
  have hact := Full.action_take_of hcaps hends
  simp only [Full.stepM, hlay, hact, Full.stepLocals, Full.localsRun, Full.toL, if_true, hdd, ha,
    Bool.true_or, hcol, Option.none_or, setDefHl, Bool.false_eq_true, if_false, Full.hlOf]

/-- run form of `full_ref_event`: the events of the iteration open the run's remaining stream -/
theorem full_ref_event_run (cx : Full.Ctx) (n fuel : Nat) (st : Full.FSt) (l : Full.FLayer) (rest : List Full.FLayer)
    (s e s2 e2 node name hh : Nat) (h0 : Option Nat) (nl : Bool) (caps' : List Full.FCap)
    (above below : List LScope) (sc : LScope)
    (hlay : st.layers = l :: rest)
    (hcaps : l.caps = ⟨s, e, node, .ref name true⟩ :: ⟨s2, e2, node, .hl h0 nl⟩ :: caps')
    (hends : ∀ eb ∈ l.ends.head?, s < eb)
    (hdd : Full.dedup st l ⟨s, e, node, .ref name true⟩ = false)
    (hpop : popScopes s l.scopes = above ++ sc :: below)
    (habove : ∀ a ∈ above, a.inherits = true ∧ findDef name s a.defs = none)
    (hsc : findDef name s sc.defs = some (some hh)) :
    ∃ st', (Full.runM cx n (fuel + 1) st).1 = emitEv st.off s (.start hh) ++ (Full.runM cx n fuel st').1 := by
  rw [Full.runM, full_ref_event cx n st l rest s e s2 e2 node name hh h0 nl caps' above below sc hlay hcaps hends hdd
    hpop habove hsc]
  simp only [Full.stepStart, emitM_eq]
  exact ⟨_, rfl⟩

def r11Cx : Full.Ctx := { defs := [], news := [], nKnown := 0, rootLang := 0 }
def r11L : Full.FLayer :=
  { lang := 0, depth := 0, ranges := [], ends := [9],
    caps := [⟨3, 4, 3, .ref 7 true⟩, ⟨3, 4, 3, .hl (some 2) false⟩, ⟨6, 7, 4, .hl (some 5) false⟩],
    scopes := [⟨true, 8, []⟩, ⟨false, usizeMax, [⟨7, 0, some 1⟩]⟩] }
def r11L2 : Full.FLayer :=
  { lang := 1, depth := 1, ranges := [], ends := [], caps := [⟨5, 6, 1, .hl (some 4) false⟩],
    scopes := [⟨false, usizeMax, []⟩] }
def r11St : Full.FSt := { layers := [r11L, r11L2], off := 2, last := some (1, 2, 0) }

/-- non-vacuity of `full_ref_event`: two live layers, the head layer's next node is a reference to a
name defined (highlight 1) in the enclosing non-innermost scope; its own pattern says 2; an older
highlight is still open (end 9). -/
example :
    Full.stepM r11Cx 11 r11St =
      Full.stepStart r11St
        { lang := r11L.lang, depth := r11L.depth, ranges := r11L.ranges,
          caps := (Full.collapseL true 3 (some 2) [⟨6, 7, 4, .hl (some 5) false⟩]).2,
          ends := r11L.ends, scopes := popScopes 3 r11L.scopes } [r11L2] ⟨3, 4, 3, .ref 7 true⟩ 1 :=
  full_ref_event r11Cx 11 r11St r11L [r11L2] 3 4 3 4 3 7 1 (some 2) false [⟨6, 7, 4, .hl (some 5) false⟩]
    [⟨true, 8, []⟩] [] ⟨false, usizeMax, [⟨7, 0, some 1⟩]⟩ rfl rfl (by simp [r11L]) (by simp [Full.dedup, r11St])
    (by simp [popScopes, r11L]) (by simp [findDef]) (by simp [findDef])

def r11D : Full.FLayer :=
  { lang := 0, depth := 0, ranges := [], ends := [],
    caps := [⟨1, 2, 2, .defn 7 0 true⟩, ⟨1, 2, 2, .hl (some 1) false⟩, ⟨1, 2, 2, .hl (some 6) true⟩,
             ⟨3, 4, 3, .ref 7 true⟩],
    scopes := [⟨false, usizeMax, []⟩] }

/-- non-vacuity of `full_def_event`: the definition node has a later `#is-not? local` pattern (6),
which is skipped; the Start carries 1 and 1 is stored for the definition. -/
example :
    Full.stepM r11Cx 11 { layers := [r11D, r11L2] } =
      Full.stepStart { layers := [r11D, r11L2] }
        { lang := 0, depth := 0, ranges := [], ends := [],
          caps := (Full.collapseL true 2 (some 1) [⟨1, 2, 2, .hl (some 6) true⟩, ⟨3, 4, 3, .ref 7 true⟩]).2,
          scopes := [⟨false, usizeMax, [⟨7, 0, some 1⟩]⟩] } [r11L2] ⟨1, 2, 2, .defn 7 0 true⟩ 1 :=
  full_def_event r11Cx 11 { layers := [r11D, r11L2] } r11D [r11L2] 1 2 1 2 2 7 0 1 (some 1) false
    [⟨1, 2, 2, .hl (some 6) true⟩, ⟨3, 4, 3, .ref 7 true⟩] [] ⟨false, usizeMax, []⟩ rfl rfl (by simp [r11D])
    (by simp [Full.dedup]) (by simp [popScopes, r11D, usizeMax]) (by simp [Full.collapseL])

end TsVerif.C17
