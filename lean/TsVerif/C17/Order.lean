import TsVerif.C17.MergeMultiLemmas
import TsVerif.C17.Premises
/-!
# C17: `sort_layers` and `insert_layer` keep the layer list ordered by `sort_key`, and no event is late

The order of `sort_key` — offset, then ends before starts, then deeper layers first — is a strict
total order.  `HighlightIter` keeps `layers[1..]` ordered by it; only the first layer's key changes in an
iteration.  Rotating the first layer behind the following layers with smaller keys (and dropping it when
exhausted) yields a completely ordered list, whose head therefore has the MINIMAL key: the next event always
comes from the layer with the earliest boundary, an end before a start at the same offset, the deeper layer first.
-/
namespace TsVerif.C17

theorem keyLt_iff {a b : Key} : keyLt a b = true ↔
    a.1 < b.1 ∨ a.1 = b.1 ∧ (a.2.1.toNat < b.2.1.toNat ∨ a.2.1.toNat = b.2.1.toNat ∧ b.2.2 < a.2.2) := by
  obtain ⟨a1, a2, a3⟩ := a
  obtain ⟨b1, b2, b3⟩ := b
  cases a2 <;> cases b2 <;> simp [keyLt]

theorem keyLt_false_iff {a b : Key} : keyLt a b = false ↔
    ¬(a.1 < b.1 ∨ a.1 = b.1 ∧ (a.2.1.toNat < b.2.1.toNat ∨ a.2.1.toNat = b.2.1.toNat ∧ b.2.2 < a.2.2)) := by
  rw [← keyLt_iff, Bool.not_eq_true]

theorem keyLt_trans {a b c : Key} (h1 : keyLt a b = true) (h2 : keyLt b c = true) : keyLt a c = true := by
  rw [keyLt_iff] at *; omega

theorem keyLt_asymm {a b : Key} (h : keyLt a b = true) : keyLt b a = false := by
  rw [keyLt_false_iff]; rw [keyLt_iff] at h; omega

theorem keyLt_irrefl (a : Key) : keyLt a a = false := by
  rw [keyLt_false_iff]; omega

/-- `a ≤ b ≤ c` in the key order (`x ≤ y` := `¬ y < x`). -/
theorem keyLe_trans {a b c : Key} (h1 : keyLt b a = false) (h2 : keyLt c b = false) : keyLt c a = false := by
  rw [keyLt_false_iff] at *; omega

theorem keyLt_total (a b : Key) : keyLt a b = true ∨ a = b ∨ keyLt b a = true := by
  rw [keyLt_iff, keyLt_iff]
  by_cases h : a.1 = b.1 ∧ a.2.1.toNat = b.2.1.toNat ∧ a.2.2 = b.2.2
  · have inj : ∀ x y : Bool, x.toNat = y.toNat → x = y := by decide
    exact .inr (.inl (Prod.ext h.1 (Prod.ext (inj _ _ h.2.1) h.2.2)))
  · omega

def KeyGe (k : Key) (y : MLayer) : Prop := ∃ ky, sortKey y = some ky ∧ keyLt ky k = false

/-- Every layer has a key and the keys never decrease along the list. -/
def Sorted : List MLayer → Prop
  | [] => True
  | l :: r => (∃ k, sortKey l = some k ∧ ∀ y ∈ r, KeyGe k y) ∧ Sorted r

theorem KeyGe.mono {k k' : Key} {y : MLayer} (h : KeyGe k y) (hk : keyLt k k' = false) : KeyGe k' y :=
  let ⟨ky, hky, hge⟩ := h
  ⟨ky, hky, keyLe_trans hk hge⟩

theorem sorted_append {a b : List MLayer} :
    Sorted (a ++ b) ↔ Sorted a ∧ Sorted b ∧ ∀ x ∈ a, ∃ k, sortKey x = some k ∧ ∀ y ∈ b, KeyGe k y := by
  induction a with
  | nil => exact ⟨fun h => ⟨trivial, h, nofun⟩, fun h => h.2.1⟩
  | cons l r ih =>
    simp only [List.cons_append, Sorted, ih]
    constructor
    · rintro ⟨⟨k, hk, hall⟩, hr, hb, hrb⟩
      have ⟨h1, h2⟩ := List.forall_mem_append.mp hall
      exact ⟨⟨⟨k, hk, h1⟩, hr⟩, hb, List.forall_mem_cons.mpr ⟨⟨k, hk, h2⟩, hrb⟩⟩
    · rintro ⟨⟨⟨k, hk, hall⟩, hr⟩, hb, hab⟩
      have ⟨⟨k', hk', h'⟩, hrb⟩ := List.forall_mem_cons.mp hab
      cases hk.symm.trans hk'
      exact ⟨⟨k, hk, List.forall_mem_append.mpr ⟨hall, h'⟩⟩, hr, hb, hrb⟩

theorem leadCount_spec (k : Key) {rest : List MLayer} (hs : Sorted rest) :
    (∀ x ∈ rest.take (leadCount k rest), ∃ kx, sortKey x = some kx ∧ keyLt kx k = true) ∧
    (∀ y ∈ rest.drop (leadCount k rest), KeyGe k y) := by
  induction rest with
  | nil => exact ⟨nofun, nofun⟩
  | cons x r ih =>
    obtain ⟨⟨kx, hkx, hall⟩, hr⟩ := hs
    simp only [leadCount, hkx]
    split
    · rw [List.take_succ_cons, List.drop_succ_cons]
      exact ⟨List.forall_mem_cons.mpr ⟨⟨kx, hkx, ‹_›⟩, (ih hr).1⟩, (ih hr).2⟩
    · have hge := Bool.eq_false_iff.mpr ‹_›
      exact ⟨nofun, List.forall_mem_cons.mpr ⟨⟨kx, hkx, hge⟩, fun y hy => (hall y hy).mono hge⟩⟩

theorem sortLayers_of_sorted {ls : List MLayer} (hs : Sorted ls) : sortLayers ls = ls := by
  cases ls with
  | nil => rfl
  | cons l r =>
    obtain ⟨⟨k, hk, hall⟩, _⟩ := hs
    have h0 : leadCount k r = 0 := by
      cases r with
      | nil => rfl
      | cons y r' =>
        obtain ⟨ky, hky, hge⟩ := hall y List.mem_cons_self
        simp only [leadCount, hky, hge, Bool.false_eq_true, if_false]
    simp only [sortLayers, hk, h0, List.take_zero, List.drop_zero, List.nil_append]

/-- `sort_layers` restores the order when only the first layer is out of place: if `layers[1..]` is
ordered by `sort_key`, the whole list is ordered afterwards, hence its first layer has the minimal
key (the earliest boundary; an end before a start at the same offset; the deeper layer first). -/
theorem sort_layers_restores_order (l0 : MLayer) (rest : List MLayer) (hs : Sorted rest) :
    Sorted (sortLayers (l0 :: rest)) := by
  unfold sortLayers
  cases hk : sortKey l0 with
  | none => simp only; rw [sortLayers_of_sorted hs]; exact hs
  | some k =>
    simp only
    obtain ⟨hlow, hhigh⟩ := leadCount_spec k hs
    rw [← List.take_append_drop (leadCount k rest) rest] at hs
    obtain ⟨st, sd, _⟩ := sorted_append.mp hs
    refine sorted_append.mpr ⟨st, ⟨⟨k, hk, hhigh⟩, sd⟩, fun x hx => ?_⟩
    -- a layer passed over lies below `l0`, hence below everything `l0` lies below
    obtain ⟨kx, hkx, hlt⟩ := hlow x hx
    have hle := keyLt_asymm hlt
    exact ⟨kx, hkx, List.forall_mem_cons.mpr ⟨⟨k, hk, hle⟩, fun y hy => (hhigh y hy).mono hle⟩⟩

theorem insGo_sorted (k : Key) (nl : MLayer) (hk : sortKey nl = some k) {ls : List MLayer} (hs : Sorted ls) :
    Sorted (insGo k nl ls) ∧ ∀ k0, (∀ y ∈ ls, KeyGe k0 y) → keyLt k k0 = false → ∀ y ∈ insGo k nl ls, KeyGe k0 y := by
  induction ls with
  | nil => exact ⟨⟨⟨k, hk, nofun⟩, trivial⟩, fun k0 _ hge => List.forall_mem_cons.mpr ⟨⟨k, hk, hge⟩, nofun⟩⟩
  | cons li r ih =>
    obtain ⟨⟨ki, hki, hall⟩, hr⟩ := hs
    simp only [insGo, hki]
    split
    · have hlt := keyLt_asymm ‹_›
      refine ⟨⟨⟨k, hk, ?_⟩, ⟨ki, hki, hall⟩, hr⟩, fun k0 h0 hge => List.forall_mem_cons.mpr ⟨⟨k, hk, hge⟩, h0⟩⟩
      exact List.forall_mem_cons.mpr ⟨⟨ki, hki, hlt⟩, fun y hy => (hall y hy).mono hlt⟩
    · obtain ⟨i1, i2⟩ := ih hr
      refine ⟨⟨⟨ki, hki, i2 ki hall (Bool.eq_false_iff.mpr ‹_›)⟩, i1⟩, fun k0 h0 hge => ?_⟩
      have ⟨h0i, h0r⟩ := List.forall_mem_cons.mp h0
      exact List.forall_mem_cons.mpr ⟨h0i, i2 k0 h0r hge⟩

/-- `insert_layer` keeps `layers[1..]` ordered (the first layer is the one being processed; the
`sort_layers` that follows puts it in place). -/
theorem insert_layer_keeps_order (l0 : MLayer) (rest : List MLayer) (nl : MLayer) (hs : Sorted rest) :
    ∃ rest', insertLayer (l0 :: rest) nl = l0 :: rest' ∧ Sorted rest' := by
  unfold insertLayer
  cases hk : sortKey nl with
  | none => exact ⟨rest, rfl, hs⟩
  | some k => exact ⟨insGo k nl rest, rfl, (insGo_sorted k nl hk hs).1⟩

theorem fold_insertLayer_sorted (r : List MLayer) (l0 : MLayer) {rest : List MLayer} (hs : Sorted rest) :
    ∃ rest', r.foldl insertLayer (l0 :: rest) = l0 :: rest' ∧ Sorted rest' := by
  induction r generalizing rest with
  | nil => exact ⟨rest, rfl, hs⟩
  | cons x r ih =>
    obtain ⟨rest1, h1, hs1⟩ := insert_layer_keeps_order l0 rest x hs
    rw [List.foldl_cons, h1]
    exact ih hs1

theorem fold_insert_sorted (defs : List LayerDef) (ids : List Nat) (l0 : MLayer) (rest : List MLayer) (hs : Sorted rest) :
    ∃ rest', ids.foldl (insertById defs) (l0 :: rest) = l0 :: rest' ∧ Sorted rest' :=
  foldl_insertById defs ids _ ▸ fold_insertLayer_sorted _ l0 hs

/-- Every iteration of `HighlightIter::next` (model `stepM`: pop / start / skip / injection with its
`insert_layer`s, each followed by `sort_layers`) leaves the layer list ordered by `sort_key` — IF it
was ordered before.  `_partial`: the hypothesis fails initially for the unchanged
`Highlighter::highlight`, see the witness. -/
theorem merge_layers_stay_ordered_partial (defs : List LayerDef) (n : Nat) (st st' : MSt) (evs : List Ev)
    (hs : Sorted st.layers) (h : stepM defs n st = .more evs st') : Sorted st'.layers := by
  obtain ⟨l, rest, l', ids, hl, _, hl'⟩ := stepM_layers h
  rw [hl] at hs
  obtain ⟨rest', he, hs'⟩ := fold_insert_sorted defs ids l' rest hs.2
  rw [hl', he]
  exact sort_layers_restores_order _ _ hs'

/-- The repaired `Highlighter::highlight` set-up (first layer, `insert_layer` for the others,
`sort_layers`; `fixes/C17-initial-layer-order.diff`, committed) yields an ordered layer list —
for ANY layers in ANY creation order. -/
theorem initial_layers_ordered (defs : List LayerDef) (top : List Nat) : Sorted (initLayersR defs top) := by
  unfold initLayersR
  cases top.filterMap (mkLayer defs) with
  | nil => trivial
  | cons l0 r =>
    simp only
    obtain ⟨rest', he, hs⟩ := fold_insertLayer_sorted r l0 (rest := []) trivial
    rw [he]
    exact sort_layers_restores_order l0 rest' hs

theorem iterM_sorted (defs : List LayerDef) (n : Nat) : ∀ (k : Nat) (st st' : MSt), Sorted st.layers →
    iterM defs n k st = some st' → Sorted st'.layers :=
  iterM_invariant (fun st => Sorted st.layers) fun st st' evs => merge_layers_stay_ordered_partial defs n st st' evs

/-! ## in the multi-layer merge no event is late

With the layer list ordered (first part) and, inside every layer, captures in start order,
nested or disjoint, the byte offset never overtakes a pending boundary: `byte_offset` is at most the
start of every remaining capture and at most every open end, of EVERY layer, in every state the loop
reaches.  Hence each `HighlightStart` is emitted at the start of its capture and each `HighlightEnd`
at the end of its capture (`emit_event` never finds `byte_offset > offset`).
-/

theorem capsOkR_cons {c : RCap} {r : List RCap} (h : capsOkR (c :: r) = true) :
    c.s ≤ c.e ∧ (∀ c' ∈ r, c.s ≤ c'.s ∧ (c.e ≤ c'.s ∨ c'.e ≤ c.e)) ∧ capsOkR r = true := by
  simp only [capsOkR, capAfterR, Bool.and_eq_true, decide_eq_true_eq, List.all_eq_true, Bool.or_eq_true] at h
  exact ⟨h.1.1, h.1.2, h.2⟩

theorem capsOkR_suffix {cs caps : List RCap} (hs : cs <:+ caps) (hc : capsOkR caps = true) : capsOkR cs = true := by
  obtain ⟨m, rfl⟩ := hs
  induction m with
  | nil => exact hc
  | cons x m ih => exact ih (capsOkR_cons hc).2.2

/-- One layer in order, seen from the byte offset.  (`SInvL` is the same for one layer with the starts of the open spans kept.) -/
structure LInv (off : Nat) (l : MLayer) : Prop where
  endsSorted : l.ends.Pairwise (· ≤ ·)
  endsGe : ∀ eb ∈ l.ends, off ≤ eb
  capsok : capsOkR l.caps = true
  capsGe : ∀ c ∈ l.caps, off ≤ c.s
  nest : ∀ eb ∈ l.ends, ∀ c ∈ l.caps, eb ≤ c.s ∨ c.e ≤ eb

structure OInv (st : MSt) : Prop where
  sorted : Sorted st.layers
  linv : ∀ l ∈ st.layers, LInv st.off l

theorem sortKey_some {l : MLayer} {k : Key} (h : sortKey l = some k) :
    (∃ c r, l.caps = c :: r ∧ k = (c.s, true, l.depth) ∧ ∀ e ∈ l.ends.head?, c.s < e) ∨
    (∃ e r, l.ends = e :: r ∧ k = (e, false, l.depth) ∧ ∀ c ∈ l.caps.head?, e ≤ c.s) := by
  revert h
  fun_cases sortKey l with
  | case1 c r e r' he hc hlt => rintro ⟨⟩; exact .inl ⟨c, r, hc, rfl, by rw [he]; rintro _ ⟨⟩; exact hlt⟩
  | case2 c r e r' he hc hlt =>
    rintro ⟨⟩; exact .inr ⟨e, r', he, rfl, by rw [hc]; rintro _ ⟨⟩; exact Nat.le_of_not_lt hlt⟩
  | case3 c r he hc => rintro ⟨⟩; exact .inl ⟨c, r, hc, rfl, by rw [he]; exact nofun⟩
  | case4 e r he hc => rintro ⟨⟩; exact .inr ⟨e, r, he, rfl, by rw [hc]; exact nofun⟩
  | case5 => exact nofun

theorem sortKey_depth {y : MLayer} {k : Key} (h : sortKey y = some k) : k.2.2 = y.depth := by
  rcases sortKey_some h with ⟨_, _, _, rfl, _⟩ | ⟨_, _, _, rfl, _⟩ <;> rfl

theorem LInv.caps_head {off : Nat} {l : MLayer} (hi : LInv off l) {c : RCap} {r : List RCap} (hc : l.caps = c :: r) :
    ∀ c' ∈ l.caps, c.s ≤ c'.s := by
  have hok := hi.capsok
  rw [hc] at hok ⊢
  exact List.forall_mem_cons.mpr ⟨Nat.le_refl _, fun c' h => ((capsOkR_cons hok).2.1 c' h).1⟩

theorem LInv.ends_head {off : Nat} {l : MLayer} (hi : LInv off l) {e : Nat} {r : List Nat} (he : l.ends = e :: r) :
    ∀ e' ∈ l.ends, e ≤ e' := by
  have hs := hi.endsSorted
  rw [he] at hs ⊢
  exact List.forall_mem_cons.mpr ⟨Nat.le_refl _, (List.pairwise_cons.mp hs).1⟩

theorem key_le_all {off : Nat} {l : MLayer} (hi : LInv off l) {k : Key} (hk : sortKey l = some k) :
    (∀ c ∈ l.caps, k.1 ≤ c.s) ∧ (∀ eb ∈ l.ends, k.1 ≤ eb) := by
  rcases sortKey_some hk with ⟨c, r, hc, rfl, hlt⟩ | ⟨e, r, he, rfl, hle⟩
  · refine ⟨hi.caps_head hc, fun eb heb => ?_⟩
    obtain ⟨e, r', he⟩ := List.exists_cons_of_ne_nil (List.ne_nil_of_mem heb)
    have := hi.ends_head he eb heb
    have := hlt e (by rw [he]; rfl)
    simp only; omega
  · refine ⟨fun c' hc' => ?_, hi.ends_head he⟩
    obtain ⟨c, r', hc⟩ := List.exists_cons_of_ne_nil (List.ne_nil_of_mem hc')
    have := hi.caps_head hc c' hc'
    have := hle c (by rw [hc]; rfl)
    simp only; omega

theorem keyGe_pos {k : Key} {y : MLayer} (h : KeyGe k y) : ∃ ky, sortKey y = some ky ∧ k.1 ≤ ky.1 := by
  obtain ⟨ky, hky, hge⟩ := h
  rw [keyLt_false_iff] at hge
  exact ⟨ky, hky, by omega⟩

theorem LInv.advance {off t : Nat} {y : MLayer} (hi : LInv off y) {ky : Key} (hky : sortKey y = some ky)
    (ht : t ≤ ky.1) : LInv (max off t) y := by
  obtain ⟨h1, h2⟩ := key_le_all hi hky
  exact {
    endsSorted := hi.endsSorted
    endsGe := fun eb heb => by have := hi.endsGe eb heb; have := h2 eb heb; omega
    capsok := hi.capsok
    capsGe := fun c hc => by have := hi.capsGe c hc; have := h1 c hc; omega
    nest := hi.nest }

theorem open_end_gt {off p d : Nat} {y : MLayer} (hi : LInv off y) {ky : Key} (hky : sortKey y = some ky)
    (hge : keyLt ky (p, true, d) = false) : ∀ e ∈ y.ends, p < e := by
  intro e he
  have h3 := (key_le_all hi hky).2 e he
  rw [keyLt_false_iff] at hge
  -- an end at `p` would be the key and sort before a start at `p`; a start at `p` lies before every open end
  rcases sortKey_some hky with ⟨c, r, hc, rfl, hlt⟩ | ⟨t, r, ht, rfl, _⟩
  · obtain ⟨t, r', ht⟩ := List.exists_cons_of_ne_nil (List.ne_nil_of_mem he)
    have := hlt t (by rw [ht]; rfl)
    have := hi.ends_head ht e he
    simp only at hge; omega
  · simp only [Bool.toNat_false, Bool.toNat_true] at hge h3
    omega

theorem LInv.fresh {off : Nat} {defs : List LayerDef} (hn : DefsNice defs) {id : Nat} {nl : MLayer}
    (h : mkLayer defs id = some nl) (hge : ∀ d', defs[id]? = some d' → ∀ c' ∈ d'.caps, off ≤ c'.s) : LInv off nl := by
  obtain ⟨d, hg, rfl⟩ := mkLayer_some h
  exact {
    endsSorted := List.Pairwise.nil
    endsGe := nofun
    capsok := hn.1 d (List.mem_of_getElem? hg)
    capsGe := hge d hg
    nest := nofun }

theorem LInv.pop {off eb : Nat} {l : MLayer} {ends' : List Nat} (hi : LInv off l) (he : l.ends = eb :: ends')
    (hc : ∀ c ∈ l.caps, eb ≤ c.s) : LInv (max off eb) { l with ends := ends' } := by
  have hoe := hi.endsGe eb (by rw [he]; exact List.mem_cons_self)
  have hs := hi.endsSorted
  rw [he] at hs
  have hs' := List.pairwise_cons.mp hs
  rw [Nat.max_eq_right hoe]
  exact {
    endsSorted := hs'.2
    endsGe := fun x hx => hs'.1 x hx
    capsok := hi.capsok
    capsGe := hc
    nest := fun x hx c hcm => hi.nest x (by rw [he]; exact List.mem_cons_of_mem _ hx) c hcm }

theorem LInv.dropCaps {off : Nat} {l : MLayer} (hi : LInv off l) (cs : List RCap) (hok : capsOkR cs = true)
    (hsub : ∀ c ∈ cs, c ∈ l.caps) : LInv off { l with caps := cs } :=
  { endsSorted := hi.endsSorted
    endsGe := hi.endsGe
    capsok := hok
    capsGe := fun c hc => hi.capsGe c (hsub c hc)
    nest := fun x hx c hc => hi.nest x hx c (hsub c hc) }

theorem LInv.take {off : Nat} {l : MLayer} {c : RCap} {caps' : List RCap} (hi : LInv off l) (hc : l.caps = c :: caps')
    (cs : List RCap) (hok : capsOkR cs = true) (hsub : ∀ x ∈ cs, x ∈ caps') (hopen : ∀ eb ∈ l.ends, c.s < eb) :
    LInv (max off c.s) { l with caps := cs, ends := c.e :: l.ends } := by
  have hoc := hi.capsGe c (by rw [hc]; exact List.mem_cons_self)
  rw [Nat.max_eq_right hoc]
  have hcok := hi.capsok
  rw [hc] at hcok
  obtain ⟨hse, haft, _⟩ := capsOkR_cons hcok
  have hce : ∀ eb ∈ l.ends, c.e ≤ eb := by
    intro eb heb
    rcases hi.nest eb heb c (by rw [hc]; exact List.mem_cons_self) with h | h
    · have := hopen eb heb; omega
    · exact h
  exact {
    endsSorted := List.pairwise_cons.mpr ⟨hce, hi.endsSorted⟩
    endsGe := by
      intro x hx
      rcases List.mem_cons.mp hx with rfl | hx
      · exact hse
      · have := hopen x hx; omega
    capsok := hok
    capsGe := fun x hx => (haft x (hsub x hx)).1
    nest := by
      intro x hx c' hc'
      rcases List.mem_cons.mp hx with rfl | hx
      · exact (haft c' (hsub c' hc')).2
      · exact hi.nest x hx c' (by rw [hc]; exact List.mem_cons_of_mem _ (hsub c' hc')) }

theorem oinv_of {off' : Nat} {last : Option (Nat × Nat × Nat)} {l' : MLayer} {rest : List MLayer}
    (hr : Sorted rest) (hl : LInv off' l') (hrest : ∀ y ∈ rest, LInv off' y) :
    OInv { layers := sortLayers (l' :: rest), off := off', last := last } :=
  { sorted := sort_layers_restores_order l' rest hr
    linv := fun y hy => by
      rcases List.mem_cons.mp (mem_sortLayers hy) with rfl | h
      · exact hl
      · exact hrest y h }

theorem fold_insert_linv {off : Nat} {defs : List LayerDef} (hn : DefsNice defs) (ids : List Nat)
    (hge : ∀ j ∈ ids, ∀ d', defs[j]? = some d' → ∀ c' ∈ d'.caps, off ≤ c'.s)
    (ls : List MLayer) (h : ∀ y ∈ ls, LInv off y) : ∀ y ∈ ids.foldl (insertById defs) ls, LInv off y := by
  intro y hy
  rcases mem_fold_insertById hy with hy | ⟨j, hj, hm⟩
  · exact h y hy
  · exact LInv.fresh hn hm (hge j hj)

/-- Every live capture is a capture of some table entry: what lets `DefsNice`, a premise about the table, speak about the
injection capture a live layer is about to take. -/
def FromDefs (defs : List LayerDef) (ls : List MLayer) : Prop := ∀ l ∈ ls, ∀ c ∈ l.caps, ∃ d ∈ defs, c ∈ d.caps

theorem stepM_keeps_oinv (defs : List LayerDef) (hn : DefsNice defs) (n : Nat) (st st' : MSt) (evs : List Ev)
    (hi : OInv st) (hf : FromDefs defs st.layers)
    (h : stepM defs n st = .more evs st') : OInv st' := by
  obtain ⟨l, rest, hls, hit⟩ := stepM_more h
  have hs := hi.sorted
  rw [hls] at hs
  have hr : Sorted rest := hs.2
  obtain ⟨k, hk, hmin⟩ := hs.1
  have hl : LInv st.off l := hi.linv l (hls ▸ List.mem_cons_self)
  have hrestI : ∀ y ∈ rest, LInv st.off y := fun y hy => hi.linv y (hls ▸ List.mem_cons_of_mem _ hy)
  -- the other layers after the offset moved to a position not beyond the head's key
  have hadv : ∀ t, t ≤ k.1 → ∀ y ∈ rest, LInv (max st.off t) y := by
    intro t ht y hy
    obtain ⟨ky, hky, hle⟩ := keyGe_pos (hmin y hy)
    exact (hrestI y hy).advance hky (by omega)
  obtain ⟨kc, ke⟩ := key_le_all hl hk
  have htake : ∀ {c caps'}, l.caps = c :: caps' → sortKey l = some (c.s, true, l.depth) → capsOkR caps' = true ∧
      (∀ eb ∈ l.ends, c.s < eb) ∧ c.s ≤ k.1 := fun hc hkey => by
    have hcok := hl.capsok
    rw [hc] at hcok
    exact ⟨(capsOkR_cons hcok).2.2, open_end_gt hl hkey (keyLt_irrefl _),
      Nat.le_of_eq (congrArg Prod.fst (Option.some.inj (hkey.symm.trans hk)))⟩
  have hdrop : ∀ {c caps' cs}, l.caps = c :: caps' → sortKey l = some (c.s, true, l.depth) → cs <:+ caps' →
      LInv st.off { l with caps := cs } :=
    fun hc hkey hs =>
      hl.dropCaps _ (capsOkR_suffix hs (htake hc hkey).1) fun x hx => by rw [hc]; exact List.mem_cons_of_mem _ (hs.subset hx)
  cases hit with
  | final hk' => exact absurd hk' (by rw [hk]; exact nofun)
  | @pop eb _ he hk' =>
    have hkeb : k.1 = eb := congrArg Prod.fst (Option.some.inj (hk.symm.trans hk'))
    simp only [emitM_eq]
    exact oinv_of hr (hl.pop he fun c hc => hkeb ▸ kc c hc) (hadv _ (Nat.le_of_eq hkeb.symm))
  | @inj c caps' ids hc hkey hk' =>
    have hoc := hl.capsGe c (hc ▸ List.mem_cons_self)
    have hge : ∀ j ∈ ids, ∀ d', defs[j]? = some d' → ∀ c' ∈ d'.caps, st.off ≤ c'.s := by
      intro j hj d' hd' c' hc'
      obtain ⟨d, hd, hcd⟩ := hf l (hls ▸ List.mem_cons_self) c (hc ▸ List.mem_cons_self)
      have := hn.2 d hd c hcd ids hk' j hj d' hd' c' hc'
      omega
    obtain ⟨rest', he, hs'⟩ := fold_insert_sorted defs ids { l with caps := caps' } rest hr
    have hall := fold_insert_linv hn ids hge _
      (List.forall_mem_cons.mpr ⟨hdrop hc hkey (List.suffix_refl _), hrestI⟩)
    show OInv { st with layers := sortLayers (ids.foldl (insertById defs) ({ l with caps := caps' } :: rest)) }
    rw [he] at hall ⊢
    exact oinv_of hs' (hall _ List.mem_cons_self) fun y hy => hall y (List.mem_cons_of_mem _ hy)
  | skip hc hkey hs => exact oinv_of hr (hdrop hc hkey hs) hrestI
  | start hc hkey hk' hcol =>
    obtain ⟨hok', hopen, hkc⟩ := htake hc hkey
    simp only [emitM_eq]
    exact oinv_of hr
      (hl.take hc _ (capsOkR_suffix (collapse_isSuffix _ _ _) hok') (fun x hx => mem_collapse hx) hopen)
      (hadv _ hkc)

theorem fromDefs_mkLayer {defs : List LayerDef} {j : Nat} {y : MLayer} (hm : mkLayer defs j = some y) :
    ∀ c ∈ y.caps, ∃ d ∈ defs, c ∈ d.caps := by
  obtain ⟨d, hd, rfl⟩ := mkLayer_some hm
  exact fun c h => ⟨d, List.mem_of_getElem? hd, h⟩

theorem fromDefs_fold (defs : List LayerDef) (ids : List Nat) (ls : List MLayer) (h : FromDefs defs ls) :
    FromDefs defs (ids.foldl (insertById defs) ls) := by
  intro y hy
  rcases mem_fold_insertById hy with hy | ⟨j, _, hm⟩
  · exact h y hy
  · exact fromDefs_mkLayer hm

theorem stepM_fromDefs (defs : List LayerDef) (n : Nat) (st st' : MSt) (evs : List Ev)
    (hf : FromDefs defs st.layers) (h : stepM defs n st = .more evs st') : FromDefs defs st'.layers := by
  obtain ⟨l, rest, l', ids, hl, hsub, hl'⟩ := stepM_layers h
  rw [hl] at hf
  rw [hl']
  refine fun y hy => fromDefs_fold defs ids _ (fun y hy c hc => ?_) y (mem_sortLayers hy)
  rcases List.mem_cons.mp hy with rfl | hy
  · exact hf l List.mem_cons_self c (hsub c hc)
  · exact hf y (List.mem_cons_of_mem _ hy) c hc

theorem init_oinv (defs : List LayerDef) (hn : DefsNice defs) (top : List Nat) :
    OInv { layers := initLayersR defs top } ∧ FromDefs defs (initLayersR defs top) := by
  refine ⟨⟨initial_layers_ordered defs top, fun y hy => ?_⟩, fun y hy => ?_⟩
  · obtain ⟨id, _, hm⟩ := mem_initLayersR hy
    exact LInv.fresh hn hm (fun _ _ _ _ => Nat.zero_le _)
  · obtain ⟨id, _, hm⟩ := mem_initLayersR hy
    exact fromDefs_mkLayer hm

theorem iterM_oinv (defs : List LayerDef) (hn : DefsNice defs) (n : Nat) (k : Nat) (st st' : MSt)
    (h1 : OInv st) (h2 : FromDefs defs st.layers) (h : iterM defs n k st = some st') :
    OInv st' ∧ FromDefs defs st'.layers := by
  refine iterM_invariant (fun st => OInv st ∧ FromDefs defs st.layers) (fun st st1 evs hp hs => ?_) k st st' ⟨h1, h2⟩ h
  exact ⟨stepM_keeps_oinv defs hn n st st1 evs hp.1 hp.2 hs, stepM_fromDefs defs n st st1 evs hp.2 hs⟩

theorem done_layers_nil {defs : List LayerDef} {n : Nat} {st : MSt} {evs : List Ev} (ho : OInv st)
    (h : stepM defs n st = .done evs) : st.layers = [] := by
  cases hl : st.layers with
  | nil => rfl
  | cons l rest =>
    have hs := ho.sorted
    rw [hl] at hs
    obtain ⟨k, hk, _⟩ := hs.1
    exact absurd (stepM_done h l rest hl) (by rw [hk]; exact nofun)

end TsVerif.C17
