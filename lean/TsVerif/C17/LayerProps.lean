import TsVerif.C17.Judge
import TsVerif.C17.WellNested
/-!
Clauses 2–4 and 11 of the clause map in `Props.lean` for the merge of SEVERAL layers without locals: for the set-up
`mergeLayers` the stream is well formed and the run ends; for the set-up `mergeLayersR` (the further layers go through
`insert_layer`) the run ends, the layer list stays ordered by `sort_key` (the step statements are in `Order.lean`), so no pending
boundary lies behind the offset, and every `HighlightEnd` closes the span opened last (under `dynNice`), with witnesses that `crossNice`, `injTieOkP` and
`closureNodup` cannot be dropped from that premise.
-/
namespace TsVerif.C17

/-- For EVERY family of layers (any depths, any raw capture sequences inside the source, any
injection structure) the multi-layer merge — `sort_key` ties, `sort_layers` rotation, `insert_layer`,
`last_highlight_range` — yields a well-formed stream, provided the run finishes within its fuel.
`_partial`: (i) the finishing hypothesis (the driver reports `fin` for every real case; it fails only
for cyclic layer references, which real layer data never has — witness below; `merge_multi_wellformed`
derives it from `refsUp`); (ii) configurations without a locals query (with locals: `merge_full_wellformed`). -/
theorem merge_multi_wellformed_partial (defs : List LayerDef) (top : List Nat) (n : Nat)
    (hd : defsIn n defs = true) (hfin : (mergeLayers defs top n).2 = true) :
    judgeEvents n (mergeLayers defs top n).1 = true := by
  have hdo := defsOk_of_defsIn hd
  have h0 := totalEnds_fresh defs top []
  rw [List.append_nil] at h0
  have := runM_wf hdo _ _ (sinv_init hdo top) hfin
  simp only [totalEnds_sortLayers, h0] at this
  exact this

/-- non-vacuity: an injected layer (depth 1) inside the root's span, same-range dedup across
layers (`last_highlight_range`), collapsed patterns of one node -/
def exLayers : List LayerDef := [
  ⟨0, [⟨0, 6, 1, .hl (some 1)⟩, ⟨1, 4, 2, .inj [1]⟩, ⟨1, 4, 2, .hl (some 2)⟩, ⟨4, 6, 3, .hl none⟩, ⟨4, 6, 3, .hl (some 3)⟩]⟩,
  ⟨1, [⟨1, 4, 9, .hl (some 5)⟩, ⟨2, 3, 10, .hl (some 6)⟩]⟩]

/-- The multi-layer merge TERMINATES and yields a well-formed stream, for every layer table whose
capture offsets lie inside the source and whose injection captures refer only to layers with a
larger id (the table is a forest in creation order; the driver checks `refsUp` and `defsIn` on
every real case).  Termination measure: `sumW (layerW defs)` — 2 per remaining capture (+ the
weight of the layers an injection capture creates) + 1 per open highlight end; every iteration of
the loop decreases it (`step_mu`), and `mergeLayers` runs with exactly that much fuel.
Remaining restriction (of the MODEL, not a hypothesis): configurations without a locals query. -/
theorem merge_multi_wellformed (defs : List LayerDef) (top : List Nat) (n : Nat)
    (hd : defsIn n defs = true) (hr : refsUp defs = true) :
    (mergeLayers defs top n).2 = true ∧ judgeEvents n (mergeLayers defs top n).1 = true := by
  have hdo := defsOk_of_defsIn hd
  have hfin : (mergeLayers defs top n).2 = true :=
    runM_fin hdo hr _ _ (sinv_init hdo top) (Nat.lt_succ_self _)
  exact ⟨hfin, merge_multi_wellformed_partial defs top n hd hfin⟩

example : refsUp exLayers = true ∧ defsIn 7 exLayers = true := by decide +kernel

/-- `refsUp` cannot be dropped: a layer whose injection re-creates itself does not finish and leaves
the stream unclosed. -/
example : refsUp [⟨0, [⟨0, 1, 7, .inj [0]⟩]⟩] = false ∧
    (mergeLayers [⟨0, [⟨0, 1, 7, .inj [0]⟩]⟩] [0] 1).2 = false := by decide +kernel

example : defsIn 7 exLayers = true ∧ mergeLayers exLayers [0] 7 =
    ([.start 1, .source 0 1, .start 5, .source 1 2, .start 6, .source 2 3, .stop, .source 3 4, .stop,
      .start 3, .source 4 6, .stop, .stop, .source 6 7], true) := by decide +kernel

/-- The finishing hypothesis cannot be dropped: a layer whose injection re-creates itself never ends. -/
example : (mergeLayers [⟨0, [⟨0, 1, 7, .inj [0]⟩]⟩] [0] 1).2 = false ∧
    judgeEvents 1 (mergeLayers [⟨0, [⟨0, 1, 7, .inj [0]⟩]⟩] [0] 1).1 = false := by decide +kernel

/-- (same data as `unorderedInit` below) -/
def unorderedInitR : List LayerDef := [
  ⟨0, [⟨0, 8, 1, .hl (some 1)⟩, ⟨8, 16, 2, .hl (some 2)⟩]⟩,
  ⟨1, [⟨9, 14, 3, .hl (some 3)⟩]⟩,
  ⟨1, [⟨4, 5, 4, .hl (some 4)⟩]⟩]

/-- `sort_key`'s order — offset, then ends before starts, then deeper layers first — is a strict total
order. -/
theorem sort_key_order (a b c : Key) :
    (keyLt a b = true → keyLt b c = true → keyLt a c = true) ∧ (keyLt a b = true → keyLt b a = false) ∧
    (keyLt a b = true ∨ a = b ∨ keyLt b a = true) :=
  ⟨keyLt_trans, keyLt_asymm, keyLt_total a b⟩

/-- UNCONDITIONAL for the repaired model: every state the loop reaches has a layer list ordered by
`sort_key` — so the event handled next always has the earliest offset, an end before a start at one
offset, the deeper layer first.  (For the unchanged set-up this fails: `initial_layers_unordered_witness`.) -/
theorem merge_layers_stay_ordered (defs : List LayerDef) (top : List Nat) (n k : Nat) (st' : MSt)
    (h : iterM defs n k { layers := initLayersR defs top } = some st') : Sorted st'.layers :=
  iterM_sorted defs n k _ st' (initial_layers_ordered defs top) h

/-- In the repaired multi-layer model NO EVENT IS LATE: if every layer's captures are in start
order, nested or disjoint, in nesting order, and the layers an injection creates only have captures
at or after the injecting capture (`DefsNice`), then in every state the loop reaches the layer list
is ordered by `sort_key`, every layer's end stack is sorted, and the byte offset is at most the start
of EVERY remaining capture and at most EVERY open end of EVERY layer.  That is the statement; what it means for the
events (by `emitM`, not stated separately): `emit_event` never finds `byte_offset > offset`, so each `HighlightStart` is
emitted at its capture's start and each `HighlightEnd` at its capture's end (what the unordered initial layers of the set-up
`mergeLayers` violated: `initial_layers_unordered_witness` emits highlight 4 of the capture 4..5 at offset 9).
This is the ordering half of the multi-layer scope-stack statement; the stack half is
`merge_well_nested_dynamic_partial`. -/
theorem merge_events_in_place (defs : List LayerDef) (hn : DefsNice defs) (top : List Nat) (n k : Nat) (st' : MSt)
    (h : iterM defs n k { layers := initLayersR defs top } = some st') :
    Sorted st'.layers ∧
    ∀ l ∈ st'.layers, (∀ c ∈ l.caps, st'.off ≤ c.s) ∧ (∀ eb ∈ l.ends, st'.off ≤ eb) ∧ l.ends.Pairwise (· ≤ ·) := by
  obtain ⟨h1, h2⟩ := init_oinv defs hn top
  obtain ⟨ho, _⟩ := iterM_oinv defs hn n k _ st' h1 h2 h
  exact ⟨ho.sorted, fun l hl => ⟨(ho.linv l hl).capsGe, (ho.linv l hl).endsGe, (ho.linv l hl).endsSorted⟩⟩

/-- non-vacuity: the three-layer data satisfies `DefsNice` -/
example : DefsNice unorderedInitR := defsNice_of_D (by decide)

/-- the three layers of `unorderedInit` through the set-up `initLayersR`: ordered, and highlight 4
is opened and closed in place (4..5) -/
example : (initLayersR unorderedInitR [0, 1, 2]).map sortKey = [some (0, true, 0), some (4, true, 1), some (9, true, 1)] ∧
    (mergeLayersR unorderedInitR [0, 1, 2] 16).1 =
      [.start 1, .source 0 4, .start 4, .source 4 5, .stop, .source 5 8, .stop, .start 2, .source 8 9, .start 3,
       .source 9 14, .stop, .source 14 16, .stop] := by decide +kernel

/-- non-vacuity: an ordered list of three layers (end at 4 before start at 4, deeper first) -/
example : Sorted [⟨2, [], [4], 0⟩, ⟨1, [], [4], 1⟩, ⟨1, [⟨4, 6, 1, .hl (some 1)⟩], [], 2⟩] := by
  refine ⟨⟨(4, false, 2), rfl, ?_⟩, ⟨(4, false, 1), rfl, ?_⟩, ⟨(4, true, 1), rfl, ?_⟩, trivial⟩
  · intro y hy
    simp only [List.mem_cons, List.not_mem_nil, or_false] at hy
    rcases hy with rfl | rfl
    · exact ⟨(4, false, 1), rfl, by decide⟩
    · exact ⟨(4, true, 1), rfl, by decide⟩
  · intro y hy
    simp only [List.mem_cons, List.not_mem_nil, or_false] at hy
    subst hy
    exact ⟨(4, true, 1), rfl, by decide⟩
  · intro y hy; simp at hy

/-- Three initial layers as `HighlightIterLayer::new` returns them for a root with TWO combined
injection patterns: the second combined layer's first capture (4..5) precedes the first one's (9..14). -/
def unorderedInit : List LayerDef := [
  ⟨0, [⟨0, 8, 1, .hl (some 1)⟩, ⟨8, 16, 2, .hl (some 2)⟩]⟩,
  ⟨1, [⟨9, 14, 3, .hl (some 3)⟩]⟩,
  ⟨1, [⟨4, 5, 4, .hl (some 4)⟩]⟩]

/-- GENUINE DEFECT of the unchanged tree (reproduced on the real code: tmpl `<%= x %> hello a` with the
patterns of `zoo/tmpl/queries/injections_d.scm`): after the single `sort_layers` of
`Highlighter::highlight` the keys are `(0,start) (9,start) (4,start)` — not ordered — and highlight 4
of the capture 4..5 is opened and closed at offset 9: the byte 4..5 is not highlighted, and the span
lies outside its layer's content.  Fixed by `fixes/C17-initial-layer-order.diff`. -/
theorem initial_layers_unordered_witness :
    (sortLayers ([0, 1, 2].filterMap (mkLayer unorderedInit))).map sortKey =
      [some (0, true, 0), some (9, true, 1), some (4, true, 1)] ∧
    (mergeLayers unorderedInit [0, 1, 2] 16).1 =
      [.start 1, .source 0 8, .stop, .start 2, .source 8 9, .start 3, .start 4, .stop, .source 9 14, .stop,
       .source 14 16, .stop] := by decide +kernel

/-- Well-nestedness of the merged multi-layer stream, with layers created DURING the run.
Premise `dynNice defs top` (decidable; the driver evaluates every part on every real case; the five parts `defsNiceD`,
`refsUp`, `closureNodup`, `crossNice`, `injTieOkP` are described in `Premises.lean`).
Run the model from `initLayersR` and keep the GLOBAL stack of the ends of the open spans by stack discipline
(`iterG`: push the capture's end at a `HighlightStart`, pop at a `HighlightEnd`, FAIL if the top is not
the end being closed).  Then the run never fails: every `HighlightEnd` closes the most recently
opened still-open span, and that span ends exactly there; moreover the global stack is always sorted
by end (inner spans end first) and is a permutation of all layers' `highlight_end_stack`s.
`_partial`: each part of the premise excludes real cases (fractions in notes/C17.md); witnesses that
`crossNice` (3 parts), `injTieOkP` and `closureNodup` cannot be dropped are below. -/
theorem merge_well_nested_dynamic_partial (defs : List LayerDef) (top : List Nat) (n k : Nat) (st' : MSt)
    (hnice : dynNice defs top = true)
    (h : iterM defs n k { layers := initLayersR defs top } = some st') :
    ∃ G, iterG defs n k { layers := initLayersR defs top } [] = some (st', G) ∧
      G.Pairwise (· ≤ ·) ∧ G.Perm (allEnds st'.layers) := by
  obtain ⟨hn, h2, h3, h4, h5⟩ := dynNice_spec hnice
  obtain ⟨ho, _⟩ := init_oinv defs hn top
  have hv := init_ninv defs h2 top h3
  have hE : allEnds (initLayersR defs top) = [] :=
    allEnds_nil_of _ fun y hy =>
      let ⟨_, _, hm⟩ := mem_initLayersR hy
      let ⟨_, _, he⟩ := mkLayer_some hm
      he ▸ rfl
  exact iterG_well_nested defs hn h2 h4 h5 n k _ st' [] ho hv List.Pairwise.nil (by rw [hE]) h

/-- The same for the WHOLE run of the model's top-level function: with the captures inside the source
the run of `mergeLayersR` finishes (`refsUp` is part of `dynNice`), it consists of `k` iterations and
the final step, every one of the `k` iterations passes the stack-discipline check, and the global
stack is EMPTY at the end (every span is closed, each by its own End). -/
theorem merge_well_nested_run_partial (defs : List LayerDef) (top : List Nat) (n : Nat)
    (hnice : dynNice defs top = true) (hd : defsIn n defs = true) :
    (mergeLayersR defs top n).2 = true ∧
    ∃ k st' evs, iterM defs n k { layers := initLayersR defs top } = some st' ∧ stepM defs n st' = .done evs ∧
      iterG defs n k { layers := initLayersR defs top } [] = some (st', []) := by
  obtain ⟨hn, h2, _⟩ := dynNice_spec hnice
  have hdo := defsOk_of_defsIn hd
  have hfin : (mergeLayersR defs top n).2 = true :=
    runM_fin hdo h2 _ _ (sinv_initR hdo top) (Nat.lt_succ_self _)
  refine ⟨hfin, ?_⟩
  obtain ⟨k, st', evs, hk, hdone⟩ := runM_iter defs n _ _ hfin
  obtain ⟨G, hG, _, hGp⟩ := merge_well_nested_dynamic_partial defs top n k st' hnice hk
  obtain ⟨o1, o2⟩ := init_oinv defs hn top
  obtain ⟨ho', _⟩ := iterM_oinv defs hn n k _ st' o1 o2 hk
  rw [done_layers_nil ho' hdone] at hGp
  exact ⟨k, st', evs, hk, hdone, hGp.eq_nil ▸ hG⟩

/-- The static special case: no injection capture, distinct top-level ids. -/
theorem merge_well_nested_partial (defs : List LayerDef) (top : List Nat) (n k : Nat) (st' : MSt)
    (hnice : staticNice defs = true) (hnd : top.Nodup)
    (h : iterM defs n k { layers := initLayersR defs top } = some st') :
    ∃ G, iterG defs n k { layers := initLayersR defs top } [] = some (st', G) ∧
      G.Pairwise (· ≤ ·) ∧ G.Perm (allEnds st'.layers) :=
  merge_well_nested_dynamic_partial defs top n k st' (dynNice_of_static hnice hnd) h

/-- non-vacuity of the dynamic premise: the root's injection capture at byte 2 creates layer 1 during
the run, whose first span starts at the same byte 2 as the root's NEXT span (the content node's own
highlight, captured after the injection capture) and ends with it (the root's span of the same range
is then skipped by `last_highlight_range`); layer 1 in turn creates layer 2.  The global stack after
0..15 iterations; the 16th step is the final one. -/
def nestedDyn : List LayerDef := [
  ⟨0, [⟨0, 12, 1, .hl (some 1)⟩, ⟨2, 8, 2, .inj [1]⟩, ⟨2, 8, 2, .hl (some 2)⟩, ⟨9, 11, 3, .hl (some 3)⟩]⟩,
  ⟨1, [⟨2, 8, 4, .hl (some 4)⟩, ⟨3, 6, 5, .inj [2]⟩, ⟨6, 7, 6, .hl (some 6)⟩]⟩,
  ⟨2, [⟨3, 4, 7, .hl (some 7)⟩, ⟨4, 6, 8, .hl (some 8)⟩]⟩]

example : dynNice nestedDyn [0] = true ∧ noInj nestedDyn = false ∧ defsIn 12 nestedDyn = true ∧
    (List.range 20).map (fun k => (iterG nestedDyn 12 k { layers := initLayersR nestedDyn [0] } []).map (·.2)) =
      [some [], some [12], some [12], some [8, 12], some [8, 12], some [8, 12], some [4, 8, 12], some [8, 12],
       some [6, 8, 12], some [8, 12], some [7, 8, 12], some [8, 12], some [12], some [11, 12], some [12], some [],
       none, none, none, none] := by decide +kernel

/-- `injTieOkP` cannot be dropped: the root opens a span at byte 0 (capture BEFORE the injection capture
in capture order), then its injection capture at byte 0 creates a deeper layer whose span at byte 0 is
longer.  All other parts of the premise hold (the tie has the judge's orientation: the shallower span
is the shorter one), but the deeper Start now comes AFTER the shallower one: stack `[10, 4]`, and the
End at 4 finds 10 on top.  (In the real code an injection pattern always has a lower pattern index
than a highlight pattern, so its capture comes first at equal start.) -/
def lateLayer : List LayerDef := [
  ⟨0, [⟨0, 4, 1, .hl (some 1)⟩, ⟨0, 2, 2, .inj [1]⟩]⟩,
  ⟨1, [⟨0, 10, 3, .hl (some 3)⟩]⟩]

theorem well_nested_needs_injTieOk :
    injTieOkP lateLayer = false ∧
    (defsNiceD lateLayer && refsUp lateLayer && closureNodup lateLayer [0] && crossNice lateLayer) = true ∧
    (iterM lateLayer 10 4 { layers := initLayersR lateLayer [0] }).isSome = true ∧
    (iterG lateLayer 10 3 { layers := initLayersR lateLayer [0] } []).map (·.2) = some [10, 4] ∧
    iterG lateLayer 10 4 { layers := initLayersR lateLayer [0] } [] = none := by decide +kernel

/-- "each layer id referenced at most once" cannot be dropped: two injection captures create the SAME
table entry twice; the two live copies have identical spans (a start tie between layers of equal depth
that `crossNice`, which compares DIFFERENT table entries, cannot see). -/
def twiceRef : List LayerDef := [
  ⟨0, [⟨0, 1, 1, .inj [1]⟩, ⟨0, 1, 2, .inj [1]⟩]⟩,
  ⟨1, [⟨2, 6, 3, .hl (some 3)⟩, ⟨2, 4, 4, .hl (some 4)⟩]⟩]

theorem well_nested_needs_closureNodup :
    closureNodup twiceRef [0] = false ∧
    (defsNiceD twiceRef && refsUp twiceRef && crossNice twiceRef && injTieOkP twiceRef) = true ∧
    (iterG twiceRef 8 20 { layers := initLayersR twiceRef [0] } []).isNone = true ∧
    (mergeLayersR twiceRef [0] 8).2 = true := by decide +kernel

/-- non-vacuity: a root layer and one combined-injection layer inside its first span; the global
stack after 0..8 iterations -/
def nestedStatic : List LayerDef := [
  ⟨0, [⟨0, 10, 1, .hl (some 1)⟩, ⟨12, 14, 3, .hl (some 3)⟩]⟩,
  ⟨1, [⟨2, 5, 2, .hl (some 2)⟩, ⟨5, 7, 4, .hl (some 4)⟩]⟩]

example : staticNice nestedStatic = true ∧
    (List.range 9).map (fun k => (iterG nestedStatic 15 k { layers := initLayersR nestedStatic [0, 1] } []).map (·.2)) =
      [some [], some [10], some [5, 10], some [10], some [7, 10], some [10], some [], some [14], some []] := by decide +kernel

/-- non-vacuity of the tie orientation: the deeper layer's span starts at the same byte as the root's
and is the longer one; and a raw tie with an unrecognised capture is no tie at all -/
def tieOriented : List LayerDef := [⟨0, [⟨0, 4, 1, .hl (some 1)⟩]⟩, ⟨1, [⟨0, 10, 2, .hl (some 2)⟩]⟩]
def tieUnrecognised : List LayerDef := [⟨0, [⟨0, 10, 1, .hl (some 1)⟩]⟩, ⟨1, [⟨0, 4, 2, .hl none⟩, ⟨5, 6, 3, .hl (some 3)⟩]⟩]

example : staticNice tieOriented = true ∧ staticNice tieUnrecognised = true ∧
    (List.range 5).map (fun k => (iterG tieOriented 10 k { layers := initLayersR tieOriented [0, 1] } []).map (·.2)) =
      [some [], some [10], some [4, 10], some [10], some []] := by decide +kernel

/-- `crossNice` cannot be dropped (1): a START TIE where the shallower layer's span is the longer one.
The deeper layer's Start is emitted first, so the stack is `[10, 4]`, and the End emitted at 4 finds
the span ending at 10 on top: the ghost run fails at the third iteration although the loop goes on
(the unchanged code does exactly this on real streams: the judge reports such cases as
`skip-start-tie`). -/
def tieStatic : List LayerDef := [⟨0, [⟨0, 10, 1, .hl (some 1)⟩]⟩, ⟨1, [⟨0, 4, 2, .hl (some 2)⟩]⟩]

theorem well_nested_needs_crossNice :
    crossNice tieStatic = false ∧
    (iterM tieStatic 10 3 { layers := initLayersR tieStatic [0, 1] }).isSome = true ∧
    (iterG tieStatic 10 2 { layers := initLayersR tieStatic [0, 1] } []).map (·.2) = some [10, 4] ∧
    iterG tieStatic 10 3 { layers := initLayersR tieStatic [0, 1] } [] = none := by decide +kernel

/-- (2) laminarity cannot be dropped: spans of two layers that cross. -/
def crossingStatic : List LayerDef := [⟨0, [⟨0, 6, 1, .hl (some 1)⟩]⟩, ⟨1, [⟨3, 9, 2, .hl (some 2)⟩]⟩]

theorem well_nested_needs_laminar :
    crossLam crossingStatic = false ∧ crossNice crossingStatic = false ∧
    (iterM crossingStatic 10 3 { layers := initLayersR crossingStatic [0, 1] }).isSome = true ∧
    (iterG crossingStatic 10 2 { layers := initLayersR crossingStatic [0, 1] } []).map (·.2) = some [9, 6] ∧
    iterG crossingStatic 10 3 { layers := initLayersR crossingStatic [0, 1] } [] = none := by decide +kernel

/-- (3) a start tie between two layers of the SAME depth (two combined injections) is excluded: the
order of the two Starts is the insertion order, which the spans' lengths do not determine. -/
def equalDepthTie : List LayerDef := [⟨1, [⟨0, 4, 1, .hl (some 1)⟩]⟩, ⟨1, [⟨0, 10, 2, .hl (some 2)⟩]⟩]

theorem well_nested_equal_depth_tie :
    crossLam equalDepthTie = true ∧ crossNice equalDepthTie = false ∧
    (iterG equalDepthTie 10 2 { layers := initLayersR equalDepthTie [0, 1] } []).map (·.2) = some [10, 4] ∧
    iterG equalDepthTie 10 3 { layers := initLayersR equalDepthTie [0, 1] } [] = none := by decide +kernel

end TsVerif.C17
