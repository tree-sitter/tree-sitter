import TsVerif.C17.Judge
import TsVerif.C17.MergeLemmas
/-!
Clauses 2–4 of the clause map in `Props.lean` for the merge of ONE layer without locals (`mergeLayer`):
the stream is well formed, and over every `Source` span the open highlights are those of the captures
containing it.
-/
namespace TsVerif.C17

/-- For EVERY capture list whose offsets lie inside the source (no ordering or nesting assumption is
needed), the single-layer merge yields a well-formed stream: `Source` spans contiguous, strictly
increasing, covering `[0,n)` exactly once; `Start`/`End` balanced, never negative, all closed.
`_partial`: one layer only (several layers, with `sort_key` / `sort_layers` / `insert_layer` /
`last_highlight_range`: `merge_multi_wellformed`). -/
theorem merge_wellformed_partial (n : Nat) (caps : List Cap) (h : capsIn n caps = true) :
    judgeEvents n (mergeLayer n caps) = true := by
  have hin : ∀ c ∈ caps, c.s ≤ n ∧ c.e ≤ n := fun c hc => by simpa using List.all_eq_true.mp h c hc
  exact mergeGo_wf n _ 0 [] caps (by simp) ⟨Nat.zero_le _, fun _ h => by simp at h, hin⟩

/-- non-vacuity: nested, adjacent, zero-width and unrecognised captures -/
example : capsIn 7 [⟨0, 5, some 1⟩, ⟨0, 2, some 2⟩, ⟨2, 2, some 4⟩, ⟨2, 3, none⟩, ⟨3, 5, some 3⟩] = true ∧
    mergeLayer 7 [⟨0, 5, some 1⟩, ⟨0, 2, some 2⟩, ⟨2, 2, some 4⟩, ⟨2, 3, none⟩, ⟨3, 5, some 3⟩] =
      [.start 1, .start 2, .source 0 2, .stop, .start 4, .stop, .source 2 3, .start 3, .source 3 5, .stop, .stop,
       .source 5 7] := by decide +kernel

/-- The hypothesis cannot be dropped: a capture that ends beyond the source yields a `Source`
event past the end. -/
example : judgeEvents 3 (mergeLayer 3 [⟨1, 9, some 0⟩]) = false := by decide +kernel

/-- The scope-stack clause as a theorem about the single-layer merge, stated with `expectedStack` over the captures of the
one layer (not through the judge `judgeStacks`, which compares multisets over all layers): for captures inside the source,
in start order, any two nested or disjoint and listed in nesting order (`capsOk` — what the judge's
applicability conditions say for one layer), over EVERY `Source` span of `mergeLayer` the stack of
open highlights (innermost first; `Start` pushes, `End` pops) is exactly the list of the highlights
of the captures whose range contains the span, latest capture first.  In particular every `End`
closes the highlight of the capture that ends there.  `_partial`: one layer (several layers:
`merge_well_nested_dynamic_partial`, about the spans' ends on a global stack instead of the highlight ids);
the hypothesis `capsOk` cannot be dropped (witnesses below). -/
theorem merge_stack_spec_partial (n : Nat) (caps : List Cap) (h : capsOk n caps = true) :
    ∀ t ∈ observed (mergeLayer n caps), t.1 < t.2.1 ∧ t.2.2 = expectedStack caps t.1 t.2.1 := by
  intro t ht
  have hi : SInvL n 0 [] caps :=
    { sorted := List.Pairwise.nil
      openLe := List.forall_mem_nil _
      capsok := h
      restGe := fun c _ => Nat.zero_le _
      nest := List.forall_mem_nil _ }
  obtain ⟨_, g2, g3⟩ :=
    mergeGo_stack n (2 * caps.length + 1) 0 [] caps (by simp) hi t (by simpa [observed, mergeLayer] using ht)
  exact ⟨g2, by simpa [EState] using g3⟩

/-- non-vacuity: nested, adjacent, same-range, zero-width and unrecognised captures -/
example : capsOk 9 [⟨0, 6, some 1⟩, ⟨0, 2, some 2⟩, ⟨2, 4, some 3⟩, ⟨2, 4, some 4⟩, ⟨4, 4, some 5⟩, ⟨4, 6, none⟩, ⟨7, 8, some 6⟩] = true ∧
    observed (mergeLayer 9 [⟨0, 6, some 1⟩, ⟨0, 2, some 2⟩, ⟨2, 4, some 3⟩, ⟨2, 4, some 4⟩, ⟨4, 4, some 5⟩, ⟨4, 6, none⟩, ⟨7, 8, some 6⟩]) =
      [(0, 2, [2, 1]), (2, 4, [4, 3, 1]), (4, 6, [1]), (6, 7, []), (7, 8, [6]), (8, 9, [])] := by decide +kernel

/-- `capsOk` cannot be dropped (1): two captures starting together, the INNER one listed first (a
start tie against the nesting order): the end stack is then `[5, 2]`, the inner highlight is only
closed at 5, and the one `Source` span `[0,5)` carries `[2, 1]` although only capture 2 contains it. -/
example : capsOk 5 [⟨0, 2, some 1⟩, ⟨0, 5, some 2⟩] = false ∧
    observed (mergeLayer 5 [⟨0, 2, some 1⟩, ⟨0, 5, some 2⟩]) = [(0, 5, [2, 1])] ∧
    expectedStack [⟨0, 2, some 1⟩, ⟨0, 5, some 2⟩] 0 5 = [2] := by decide +kernel

/-- `capsOk` cannot be dropped (2): partially overlapping captures. -/
example : capsOk 5 [⟨0, 3, some 1⟩, ⟨2, 5, some 2⟩] = false ∧
    observed (mergeLayer 5 [⟨0, 3, some 1⟩, ⟨2, 5, some 2⟩]) = [(0, 2, [1]), (2, 5, [2, 1])] ∧
    expectedStack [⟨0, 3, some 1⟩, ⟨2, 5, some 2⟩] 3 5 = [2] := by decide +kernel

end TsVerif.C17
