import TsVerif.C17.Model
/-!
# C17: the stack of open highlights an event stream defines over each of its `Source` spans

What the scope-stack judge (`StackSpec.lean`) and the scope-stack theorem for one layer (`merge_stack_spec_partial`) both read
off a stream.
-/
namespace TsVerif.C17

/-- Highlights active over every `Source` span, by the stack discipline of the stream. -/
def observedGo : List Nat → List Ev → List (Nat × Nat × List Nat)
  | _, [] => []
  | st, .source a b :: r => (a, b, st) :: observedGo st r
  | st, .start h :: r => observedGo (h :: st) r
  | st, .stop :: r => observedGo st.tail r

def observed (evs : List Ev) : List (Nat × Nat × List Nat) := observedGo [] evs

end TsVerif.C17
