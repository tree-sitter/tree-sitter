import TsVerif.C17.Merge
import TsVerif.C17.Observed
/-!
# C17 helper lemmas: the single-layer merge yields a well-formed stream, and its scope stack is the one its captures define
-/
namespace TsVerif.C17

theorem wf_emit {n off t d : Nat} {ev : Ev} {rest : List Ev} (ht : t ≤ n)
    (h : wellFormedFrom n (max off t) d (ev :: rest) = true) :
    wellFormedFrom n off d (emitEv off t ev ++ rest) = true := by
  unfold emitEv
  split
  · rw [Nat.max_eq_right (Nat.le_of_lt ‹_›)] at h
    simp only [List.cons_append, List.nil_append, wellFormedFrom, Bool.and_eq_true, beq_self_eq_true,
      decide_eq_true_eq, true_and]
    exact ⟨⟨‹_›, ht⟩, h⟩
  · rwa [Nat.max_eq_left (Nat.le_of_not_lt ‹_›)] at h

/-- `emit_event(source.len(), None)` with nothing open ends the stream. -/
theorem wf_final {n off : Nat} (h : off ≤ n) :
    wellFormedFrom n off 0 (if off < n then [.source off n] else []) = true := by
  by_cases hlt : off < n
  · simp [wellFormedFrom, hlt]
  · have : off = n := by omega
    simp [wellFormedFrom, this]

theorem wf_stop {n off t d : Nat} {rest : List Ev} (ht : t ≤ n) (h : wellFormedFrom n (max off t) d rest = true) :
    wellFormedFrom n off (d + 1) (emitEv off t .stop ++ rest) = true :=
  wf_emit ht (by simpa [wellFormedFrom] using h)

theorem wf_start {n off t d hh : Nat} {rest : List Ev} (ht : t ≤ n)
    (h : wellFormedFrom n (max off t) (d + 1) rest = true) :
    wellFormedFrom n off d (emitEv off t (.start hh) ++ rest) = true :=
  wf_emit ht h

structure MInv (n off : Nat) (ends : List Nat) (caps : List Cap) : Prop where
  offn : off ≤ n
  endsLe : ∀ eb ∈ ends, eb ≤ n
  capsIn : ∀ c ∈ caps, c.s ≤ n ∧ c.e ≤ n

theorem MInv.pop {n off eb : Nat} {ends : List Nat} {caps : List Cap} (hi : MInv n off (eb :: ends) caps) :
    MInv n (max off eb) ends caps :=
  { offn := Nat.max_le.mpr ⟨hi.offn, hi.endsLe eb List.mem_cons_self⟩
    endsLe := fun x hx => hi.endsLe x (List.mem_cons_of_mem _ hx)
    capsIn := hi.capsIn }

theorem MInv.skip {n off : Nat} {ends : List Nat} {c : Cap} {caps : List Cap} (hi : MInv n off ends (c :: caps)) :
    MInv n off ends caps :=
  { offn := hi.offn
    endsLe := hi.endsLe
    capsIn := fun c' hc' => hi.capsIn c' (List.mem_cons_of_mem _ hc') }

theorem MInv.take {n off : Nat} {ends : List Nat} {c : Cap} {caps : List Cap} (hi : MInv n off ends (c :: caps)) :
    MInv n (max off c.s) (c.e :: ends) caps :=
  have hc := hi.capsIn c List.mem_cons_self
  { offn := Nat.max_le.mpr ⟨hi.offn, hc.1⟩
    endsLe := List.forall_mem_cons.mpr ⟨hc.2, hi.endsLe⟩
    capsIn := fun c' hc' => hi.capsIn c' (List.mem_cons_of_mem _ hc') }

theorem mergeGo_wf (n : Nat) : ∀ (fuel off : Nat) (ends : List Nat) (caps : List Cap),
    2 * caps.length + ends.length < fuel → MInv n off ends caps →
    wellFormedFrom n off ends.length (mergeGo n fuel off ends caps) = true := by
  intro fuel
  induction fuel with
  | zero => intro off ends caps hf; omega
  | succ fuel ih =>
    intro off ends caps hf hi
    have pop : ∀ eb ends', ends = eb :: ends' →
        wellFormedFrom n off ends.length (emitEv off eb .stop ++ mergeGo n fuel (max off eb) ends' caps) = true := by
      rintro eb ends' rfl
      exact wf_stop (hi.endsLe eb List.mem_cons_self) (ih _ ends' caps (by simp only [List.length_cons] at hf ⊢; omega) hi.pop)
    cases caps with
    | nil =>
      cases ends with
      | nil =>
        exact wf_final hi.offn
      | cons eb ends' => exact pop eb ends' rfl
    | cons c caps' =>
      have hcn := hi.capsIn c List.mem_cons_self
      have take : wellFormedFrom n off ends.length
          (match c.h with
            | some h => emitEv off c.s (.start h) ++ mergeGo n fuel (max off c.s) (c.e :: ends) caps'
            | none => mergeGo n fuel off ends caps') = true := by
        cases c.h with
        | none => exact ih _ ends caps' (by simp only [List.length_cons] at hf ⊢; omega) hi.skip
        | some h => exact wf_start hcn.1 (ih _ (c.e :: ends) caps' (by simp only [List.length_cons] at hf ⊢; omega) hi.take)
      cases ends with
      | nil => exact take
      | cons eb ends' =>
        simp only [mergeGo]
        split
        · exact pop eb ends' rfl
        · exact take

/-! ## the scope stack of the single-layer merge

For captures inside the source, in start order, any two nested or disjoint, listed in nesting order (`capsOk`), over every
`Source` span of `mergeLayer` the stack of open highlights (innermost first) is the list of the highlights of the captures
whose range contains the span, innermost (= latest capture) first. -/

structure OSpan where
  s : Nat
  e : Nat
  h : Nat
  deriving Repr

def OSpan.contains (a b : Nat) (x : OSpan) : Bool := x.s ≤ a && b ≤ x.e

def capSpans (caps : List Cap) : List OSpan :=
  caps.filterMap fun c => c.h.map fun h => { s := c.s, e := c.e, h := h }

/-- SPEC: the highlights of the captures containing `[a,b)`, innermost (latest) first. -/
def expectedStack (caps : List Cap) (a b : Nat) : List Nat :=
  (((capSpans caps).filter (OSpan.contains a b)).map (·.h)).reverse

/-- Expected stack seen from a state of the loop: future captures on top of the open ones. -/
def EState (opn : List OSpan) (rest : List Cap) (a b : Nat) : List Nat :=
  expectedStack rest a b ++ (opn.filter (OSpan.contains a b)).map (·.h)

theorem expectedStack_cons_none {c : Cap} (r : List Cap) (a b : Nat) (h : c.h = none) :
    expectedStack (c :: r) a b = expectedStack r a b := by
  simp [expectedStack, capSpans, h]

theorem expectedStack_cons_some {c : Cap} {hh : Nat} (r : List Cap) (a b : Nat) (h : c.h = some hh) :
    expectedStack (c :: r) a b =
      expectedStack r a b ++ (if OSpan.contains a b { s := c.s, e := c.e, h := hh } then [hh] else []) := by
  simp only [expectedStack, capSpans, List.filterMap_cons, h, Option.map_some, List.filter_cons]
  split <;> simp

theorem expectedStack_empty (rest : List Cap) (a b : Nat) (h : ∀ c ∈ rest, a < c.s) :
    expectedStack rest a b = [] := by
  induction rest with
  | nil => rfl
  | cons c r ih =>
    have hr := ih (fun c' hc' => h c' (List.mem_cons_of_mem _ hc'))
    have hc := h c (List.mem_cons_self)
    cases hh : c.h with
    | none => rw [expectedStack_cons_none r a b hh, hr]
    | some v =>
      rw [expectedStack_cons_some r a b hh, hr]
      have : OSpan.contains a b { s := c.s, e := c.e, h := v } = false := by
        simp [OSpan.contains]; omega
      simp [this]

theorem filter_all_contain (opn : List OSpan) (a b : Nat) (h : ∀ x ∈ opn, x.s ≤ a ∧ b ≤ x.e) :
    opn.filter (OSpan.contains a b) = opn := by
  apply List.filter_eq_self.mpr
  intro x hx
  have := h x hx
  simp [OSpan.contains, this.1, this.2]

theorem EState_drop (x : OSpan) (opn : List OSpan) (rest : List Cap) (a b : Nat) (h : x.e ≤ a) (hab : a < b) :
    EState (x :: opn) rest a b = EState opn rest a b := by
  have : OSpan.contains a b x = false := by simp [OSpan.contains]; omega
  simp [EState, this]

theorem capsOk_cons {n : Nat} {c : Cap} {r : List Cap} (h : capsOk n (c :: r) = true) :
    (c.s ≤ c.e ∧ c.e ≤ n) ∧ (∀ c' ∈ r, c.s ≤ c'.s ∧ (c.e ≤ c'.s ∨ c'.e ≤ c.e)) ∧ capsOk n r = true := by
  simp only [capsOk, capOk, capAfter, Bool.and_eq_true, decide_eq_true_eq, List.all_eq_true,
    Bool.or_eq_true] at h
  exact ⟨h.1.1, h.1.2, h.2⟩

/-- The loop in order, with the ghost list `opn` of the open spans (their ends are the end stack).  (`LInv` in `Order.lean` is the
same per layer, without the starts.) -/
structure SInvL (n off : Nat) (opn : List OSpan) (rest : List Cap) : Prop where
  sorted : (opn.map (·.e)).Pairwise (· ≤ ·)
  openLe : ∀ x ∈ opn, x.s ≤ off ∧ off ≤ x.e
  capsok : capsOk n rest = true
  restGe : ∀ c ∈ rest, off ≤ c.s
  nest : ∀ x ∈ opn, ∀ c ∈ rest, x.e ≤ c.s ∨ c.e ≤ x.e

theorem SInvL.head_le {n off : Nat} {x : OSpan} {opn : List OSpan} {rest : List Cap}
    (hi : SInvL n off (x :: opn) rest) : ∀ a ∈ opn, x.e ≤ a.e :=
  fun a ha => (List.pairwise_cons.mp hi.sorted).1 a.e (List.mem_map_of_mem ha)

theorem SInvL.pop {n off : Nat} {x : OSpan} {opn : List OSpan} {rest : List Cap}
    (hi : SInvL n off (x :: opn) rest) (hrest : ∀ c ∈ rest, x.e ≤ c.s) : SInvL n (max off x.e) opn rest := by
  have hx := hi.openLe x (List.mem_cons_self)
  rw [Nat.max_eq_right hx.2]
  exact {
    sorted := (List.pairwise_cons.mp hi.sorted).2
    openLe := fun y hy => ⟨Nat.le_trans (hi.openLe y (List.mem_cons_of_mem _ hy)).1 hx.2, hi.head_le y hy⟩
    capsok := hi.capsok
    restGe := hrest
    nest := fun y hy c hc => hi.nest y (List.mem_cons_of_mem _ hy) c hc }

theorem SInvL.skip {n off : Nat} {opn : List OSpan} {c : Cap} {rest : List Cap}
    (hi : SInvL n off opn (c :: rest)) : SInvL n off opn rest :=
  { sorted := hi.sorted
    openLe := hi.openLe
    capsok := (capsOk_cons hi.capsok).2.2
    restGe := fun c' hc' => hi.restGe c' (List.mem_cons_of_mem _ hc')
    nest := fun x hx c' hc' => hi.nest x hx c' (List.mem_cons_of_mem _ hc') }

theorem SInvL.take {n off : Nat} {opn : List OSpan} {c : Cap} {rest : List Cap} (hh : Nat)
    (hi : SInvL n off opn (c :: rest)) (hopen : ∀ x ∈ opn, c.s < x.e) :
    SInvL n (max off c.s) ({ s := c.s, e := c.e, h := hh } :: opn) rest := by
  have hoc := hi.restGe c (List.mem_cons_self)
  rw [Nat.max_eq_right hoc]
  obtain ⟨⟨hse, _⟩, haft, hrest⟩ := capsOk_cons hi.capsok
  have hce : ∀ x ∈ opn, c.e ≤ x.e := by
    intro x hx
    rcases hi.nest x hx c (List.mem_cons_self) with h | h
    · have := hopen x hx; omega
    · exact h
  exact {
    sorted := by
      simp only [List.map_cons]
      refine List.pairwise_cons.mpr ⟨?_, hi.sorted⟩
      intro e he
      obtain ⟨x, hx, rfl⟩ := List.mem_map.mp he
      exact hce x hx
    openLe := by
      intro x hx
      rcases List.mem_cons.mp hx with rfl | hx
      · exact ⟨Nat.le_refl _, hse⟩
      · exact ⟨Nat.le_trans (hi.openLe x hx).1 hoc, Nat.le_of_lt (hopen x hx)⟩
    capsok := hrest
    restGe := fun c' hc' => (haft c' hc').1
    nest := by
      intro x hx c' hc'
      rcases List.mem_cons.mp hx with rfl | hx
      · exact (haft c' hc').2
      · exact hi.nest x hx c' (List.mem_cons_of_mem _ hc') }

/-- What is claimed about every observed `Source` span from a state on. -/
def StackOk (off : Nat) (opn : List OSpan) (rest : List Cap) (t : Nat × Nat × List Nat) : Prop :=
  off ≤ t.1 ∧ t.1 < t.2.1 ∧ t.2.2 = EState opn rest t.1 t.2.1

theorem stackOk_piece {off t : Nat} {opn : List OSpan} {rest : List Cap} (hlt : off < t)
    (hrest : ∀ c ∈ rest, off < c.s) (hopn : ∀ x ∈ opn, x.s ≤ off ∧ t ≤ x.e) :
    StackOk off opn rest (off, t, opn.map (·.h)) := by
  refine ⟨Nat.le_refl _, hlt, ?_⟩
  simp only [EState]
  rw [expectedStack_empty rest off t hrest, filter_all_contain opn off t hopn]
  rfl

theorem observedGo_append_stop (st : List Nat) (off t : Nat) (evs : List Ev) :
    observedGo st (emitEv off t .stop ++ evs) =
      (if off < t then [(off, t, st)] else []) ++ observedGo st.tail evs := by
  unfold emitEv; split <;> simp [observedGo]

theorem observedGo_append_start (st : List Nat) (off t h : Nat) (evs : List Ev) :
    observedGo st (emitEv off t (.start h) ++ evs) =
      (if off < t then [(off, t, st)] else []) ++ observedGo (h :: st) evs := by
  unfold emitEv; split <;> simp [observedGo]

/-- By induction on the fuel: every triple observed from a state on is `StackOk`.  `popCase`: the piece `[off, x.e)` carries all of
`opn`, after it `x` contains nothing (`EState_drop`); `takeCase`: the piece `[off, c.s)` precedes every remaining capture, after it
`c` has moved from `rest` to `opn`. -/
theorem mergeGo_stack (n : Nat) : ∀ (fuel off : Nat) (opn : List OSpan) (rest : List Cap),
    2 * rest.length + opn.length < fuel → SInvL n off opn rest →
    ∀ t ∈ observedGo (opn.map (·.h)) (mergeGo n fuel off (opn.map (·.e)) rest), StackOk off opn rest t := by
  intro fuel
  induction fuel with
  | zero => intro off opn rest hf; omega
  | succ fuel ih =>
    intro off opn rest hf hi t ht
    have popCase : ∀ (x : OSpan) (opn' : List OSpan), opn = x :: opn' → (∀ c ∈ rest, x.e ≤ c.s) →
        t ∈ (if off < x.e then [(off, x.e, opn.map (·.h))] else []) ++
          observedGo (opn'.map (·.h)) (mergeGo n fuel (max off x.e) (opn'.map (·.e)) rest) →
        StackOk off opn rest t := by
      intro x opn' hopn hrest hmem
      subst hopn
      have hx := hi.openLe x (List.mem_cons_self)
      rcases List.mem_append.mp hmem with h1 | h2
      · by_cases hlt : off < x.e
        · simp only [if_pos hlt, List.mem_singleton] at h1
          subst h1
          refine stackOk_piece hlt (fun c hc => Nat.lt_of_lt_of_le hlt (hrest c hc)) fun y hy => ?_
          rcases List.mem_cons.mp hy with rfl | hy
          · exact ⟨hx.1, Nat.le_refl _⟩
          · exact ⟨(hi.openLe y (List.mem_cons_of_mem _ hy)).1, hi.head_le y hy⟩
        · simp [hlt] at h1
      · have hp := hi.pop hrest
        have := ih (max off x.e) opn' rest (by simp only [List.length_cons] at hf ⊢; omega) hp t h2
        obtain ⟨g1, g2, g3⟩ := this
        refine ⟨Nat.le_trans (Nat.le_max_left _ _) g1, g2, ?_⟩
        rw [g3, EState_drop x opn' rest t.1 t.2.1 (Nat.le_trans (Nat.le_max_right _ _) g1) g2]
    have takeCase : ∀ (c : Cap) (rest' : List Cap), rest = c :: rest' → (∀ x ∈ opn, c.s < x.e) →
        t ∈ observedGo (opn.map (·.h)) (match c.h with
          | some h => emitEv off c.s (.start h) ++ mergeGo n fuel (max off c.s) (c.e :: opn.map (·.e)) rest'
          | none => mergeGo n fuel off (opn.map (·.e)) rest') →
        StackOk off opn rest t := by
      intro c rest' hrest hopen hmem
      subst hrest
      have hoc := hi.restGe c (List.mem_cons_self)
      obtain ⟨_, haft, _⟩ := capsOk_cons hi.capsok
      cases hsome : c.h with
      | some hh =>
        rw [hsome] at hmem
        simp only at hmem
        rw [observedGo_append_start] at hmem
        rcases List.mem_append.mp hmem with h1 | h2
        · by_cases hlt : off < c.s
          · simp only [if_pos hlt, List.mem_singleton] at h1
            subst h1
            refine stackOk_piece hlt (fun c' hc' => ?_) fun y hy =>
              ⟨(hi.openLe y hy).1, Nat.le_of_lt (hopen y hy)⟩
            rcases List.mem_cons.mp hc' with rfl | hc'
            · exact hlt
            · exact Nat.lt_of_lt_of_le hlt (haft c' hc').1
          · simp [hlt] at h1
        · have ht' := hi.take hh hopen
          have := ih (max off c.s) ({ s := c.s, e := c.e, h := hh } :: opn) rest' (by simp only [List.length_cons] at hf ⊢; omega) ht'
            t h2
          obtain ⟨g1, g2, g3⟩ := this
          refine ⟨Nat.le_trans (Nat.le_max_left _ _) g1, g2, ?_⟩
          rw [g3]
          simp only [EState, expectedStack_cons_some rest' t.1 t.2.1 hsome, List.filter_cons]
          split <;> simp
      | none =>
        rw [hsome] at hmem
        have := ih off opn rest' (by simp only [List.length_cons] at hf ⊢; omega) hi.skip t hmem
        obtain ⟨g1, g2, g3⟩ := this
        refine ⟨g1, g2, ?_⟩
        rw [g3]
        simp only [EState, expectedStack_cons_none rest' t.1 t.2.1 hsome]
    cases rest with
    | nil =>
      cases opn with
      | nil =>
        simp only [List.map_nil, mergeGo] at ht
        by_cases hlt : off < n
        · simp only [if_pos hlt, observedGo, List.mem_singleton] at ht
          subst ht
          exact stackOk_piece hlt (List.forall_mem_nil _) (List.forall_mem_nil _)
        · simp [hlt, observedGo] at ht
      | cons x opn' =>
        simp only [List.map_cons, mergeGo] at ht
        rw [observedGo_append_stop] at ht
        exact popCase x opn' rfl (List.forall_mem_nil _) ht
    | cons c rest' =>
      cases opn with
      | nil =>
        exact takeCase c rest' rfl (List.forall_mem_nil _) ht
      | cons x opn' =>
        simp only [List.map_cons, mergeGo] at ht
        by_cases hle : x.e ≤ c.s
        · rw [if_pos hle, observedGo_append_stop] at ht
          obtain ⟨_, haft, _⟩ := capsOk_cons hi.capsok
          exact popCase x opn' rfl (fun c' hc' => by
            rcases List.mem_cons.mp hc' with rfl | hc'
            · exact hle
            · exact Nat.le_trans hle (haft c' hc').1) ht
        · rw [if_neg hle] at ht
          exact takeCase c rest' rfl (fun y hy => by
            rcases List.mem_cons.mp hy with rfl | hy
            · exact Nat.lt_of_not_le hle
            · exact Nat.lt_of_lt_of_le (Nat.lt_of_not_le hle) (hi.head_le y hy)) ht

end TsVerif.C17
