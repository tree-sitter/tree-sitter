import TsVerif.C17.Props
#print axioms TsVerif.C17.render_roundtrip_gen
#print axioms TsVerif.C17.render_roundtrip_fixed
#print axioms TsVerif.C17.render_roundtrip_partial
#print axioms TsVerif.C17.lossyFixed_eq_spec
#print axioms TsVerif.C17.lossy_eq_spec_partial
#print axioms TsVerif.C17.lossy_drops_truncated_tail
#print axioms TsVerif.C17.lossy_drops_final_replacement
#print axioms TsVerif.C17.render_roundtrip_witness_truncated
#print axioms TsVerif.C17.render_roundtrip_witness_final_invalid
#print axioms TsVerif.C17.render_total_of_wellFormed
#print axioms TsVerif.C17.merge_wellformed_partial
#print axioms TsVerif.C17.normalize_whole
#print axioms TsVerif.C17.render_roundtrip_whole_fixed
#print axioms TsVerif.C17.merge_multi_wellformed_partial
#print axioms TsVerif.C17.merge_multi_wellformed
#print axioms TsVerif.C17.intersect_ranges_spec
#print axioms TsVerif.C17.injected_content_inside
#print axioms TsVerif.C17.findDef_newest
#print axioms TsVerif.C17.local_ref_like_def
#print axioms TsVerif.C17.merge_full_wellformed
#print axioms TsVerif.C17.injection_language_captured
#print axioms TsVerif.C17.lossyV_diag
#print axioms TsVerif.C17.merge_stack_spec_partial
#print axioms TsVerif.C17.sort_key_order
#print axioms TsVerif.C17.sort_layers_restores_order
#print axioms TsVerif.C17.insert_layer_keeps_order
#print axioms TsVerif.C17.merge_layers_stay_ordered_partial
#print axioms TsVerif.C17.initial_layers_unordered_witness
#print axioms TsVerif.C17.initial_layers_ordered
#print axioms TsVerif.C17.merge_layers_stay_ordered
#print axioms TsVerif.C17.merge_events_in_place
#print axioms TsVerif.C17.merge_well_nested_partial
#print axioms TsVerif.C17.well_nested_needs_crossNice
#print axioms TsVerif.C17.lossySpec_valid
#print axioms TsVerif.C17.render_reproduces_source
#print axioms TsVerif.C17.well_nested_needs_laminar
#print axioms TsVerif.C17.well_nested_equal_depth_tie
#print axioms TsVerif.C17.merge_well_nested_dynamic_partial
#print axioms TsVerif.C17.merge_well_nested_run_partial
#print axioms TsVerif.C17.well_nested_needs_injTieOk
#print axioms TsVerif.C17.well_nested_needs_closureNodup
#print axioms TsVerif.C17.render_line_offsets
#print axioms TsVerif.C17.merge_locals_wellformed_partial
#print axioms TsVerif.C17.merge_locals_ref_event
#print axioms TsVerif.C17.merge_locals_def_event
#print axioms TsVerif.C17.merge_locals_ref_like_def_events
#print axioms TsVerif.C17.full_ref_event
#print axioms TsVerif.C17.full_def_event
#print axioms TsVerif.C17.full_ref_event_run
#print axioms TsVerif.C17.intersect_ranges_ordered
#print axioms TsVerif.C17.injection_ranges_ordered
