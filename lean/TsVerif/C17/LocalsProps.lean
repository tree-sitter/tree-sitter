import TsVerif.C17.Judge
import TsVerif.C17.LocalsLemmas
/-!
Clause 10 of the clause map in `Props.lean` (and clauses 2–4 for one layer WITH the locals branch):
`mergeLocals` (`Locals.lean`) is the port of `HighlightIter::next` for one layer with a locals query
(scope stack, definitions, references, `non_local_variable_patterns`), tied to the real code by
exact reproduction of the real stream on every K case.
-/
namespace TsVerif.C17

/-- Within a scope the NEWEST definition of the name whose value ends at or before the reference is
the one that counts. -/
theorem findDef_newest (name s : Nat) (pre post : List LDef) (d : LDef)
    (hpre : ∀ x ∈ pre, ¬ (x.name = name ∧ s ≥ x.valueEnd)) (hd : d.name = name ∧ s ≥ d.valueEnd) :
    findDef name s (pre ++ d :: post) = some d.hl := by
  induction pre with
  | nil => simp [findDef, hd]
  | cons x r ih =>
    have hx := hpre x (List.mem_cons_self)
    simp only [List.cons_append, findDef, if_neg hx]
    exact ih (fun y hy => hpre y (List.mem_cons_of_mem _ hy))

/-- A name resolved as a local reference is highlighted like its definition: if the scopes between
the reference and the defining scope all inherit and contain no admissible definition of the name,
and the defining scope's newest admissible definition carries highlight `h`, then processing the
`@local.reference` capture sets `reference_highlight` to `h` (the `HighlightStart` then carries
`reference_highlight.or(current_highlight)`).  Holds for any scopes below. -/
theorem local_ref_like_def (name s e node : Nat) (above below : List LScope) (sc : LScope) (h : Option Nat)
    (r : LRun) (hr : r.scopes = above ++ sc :: below) (hnd : r.defP = false)
    (habove : ∀ a ∈ above, a.inherits = true ∧ findDef name s a.defs = none)
    (hsc : findDef name s sc.defs = some h) :
    (applyLocal r ⟨s, e, node, .ref name true⟩).refHl = h := by
  have key : ∀ (above : List LScope), (∀ a ∈ above, a.inherits = true ∧ findDef name s a.defs = none) →
      applyLocal.refFound name s (above ++ sc :: below) = some h := by
    intro above
    induction above with
    | nil => intro _; simp [applyLocal.refFound, hsc]
    | cons a rest ih =>
      intro ha
      have h1 := ha a (List.mem_cons_self)
      simp only [List.cons_append, applyLocal.refFound, h1.2, h1.1, if_true]
      exact ih (fun x hx => ha x (List.mem_cons_of_mem _ hx))
  simp only [applyLocal, hnd, Bool.false_eq_true, if_false, if_true, hr, key above habove, Option.getD_some]

/-- non-vacuity: `x` defined in the outer block (highlight 7), referenced two inheriting scopes deeper;
a non-inheriting scope in between hides it. -/
example :
    (applyLocal { scopes := [⟨true, 90, []⟩, ⟨true, 95, [⟨1, 20, some 3⟩]⟩, ⟨true, 99, [⟨0, 12, some 7⟩, ⟨0, 5, some 2⟩]⟩],
                  refHl := none, defP := false } ⟨30, 31, 5, .ref 0 true⟩).refHl = some 7 ∧
    (applyLocal { scopes := [⟨true, 90, []⟩, ⟨false, 95, []⟩, ⟨true, 99, [⟨0, 12, some 7⟩]⟩],
                  refHl := none, defP := false } ⟨30, 31, 5, .ref 0 true⟩).refHl = none := by decide +kernel

theorem applyLocal_ref (r : LRun) (s e node name : Nat) (ok : Bool) :
    (applyLocal r ⟨s, e, node, .ref name ok⟩).scopes = r.scopes ∧
    (applyLocal r ⟨s, e, node, .ref name ok⟩).defP = r.defP := by
  simp only [applyLocal]
  split
  · exact ⟨rfl, rfl⟩
  · split <;> exact ⟨rfl, rfl⟩

theorem applyLocal_defn {r : LRun} {sc : LScope} {below : List LScope} (s e node name ve : Nat)
    (hsc : r.scopes = sc :: below) :
    applyLocal r ⟨s, e, node, .defn name ve true⟩ =
      { scopes := { sc with defs := { name := name, valueEnd := ve, hl := none } :: sc.defs } :: below,
        refHl := none, defP := true } := by
  simp only [applyLocal, hsc, if_true]

/-- Well-formedness of the single-layer merge with the locals branch: for every raw capture list
(locals-pattern captures — scopes, definitions, references, others — and highlight captures in ANY
order and nesting, any node ids, any names) whose offsets lie inside the source, the stream of
`mergeLocals` satisfies `judgeEvents`: `Source` spans contiguous, non-empty, increasing, covering
`[0,n)` exactly once; `Start`/`End` balanced, never negative, all closed at the end.  In particular
the port never runs out of its fuel `2·|caps| + 2`.
`_partial`: ONE layer (several layers with locals: `merge_full_wellformed`, which needs `refsUp`);
the hypothesis cannot be dropped (example below). -/
theorem merge_locals_wellformed_partial (n : Nat) (caps : List LCap) (h : lcapsIn n caps = true) :
    judgeEvents n (mergeLocals n caps) = true := by
  have hin : ∀ c ∈ caps, c.s ≤ n ∧ c.e ≤ n := fun c hc => by simpa using List.all_eq_true.mp h c hc
  exact mergeLGo_wf n _ 0 [] _ caps (by simp) ⟨Nat.zero_le _, fun _ h => by simp at h, hin⟩

/-- non-vacuity: a scope with a definition (highlighted 1), a reference to it in the same scope that
takes the definition's highlight although its own pattern says 2, an unrecognised capture, and a
reference after the scope has ended (keeps 2). -/
example :
    let caps : List LCap :=
      [⟨0, 8, 1, .scope true⟩,
       ⟨1, 2, 2, .defn 7 0 true⟩, ⟨1, 2, 2, .hl (some 1) false⟩,
       ⟨3, 4, 3, .ref 7 true⟩, ⟨3, 4, 3, .hl (some 2) false⟩,
       ⟨5, 6, 4, .hl none false⟩,
       ⟨9, 10, 5, .ref 7 true⟩, ⟨9, 10, 5, .hl (some 2) false⟩]
    lcapsIn 11 caps = true ∧
    mergeLocals 11 caps =
      [.source 0 1, .start 1, .source 1 2, .stop, .source 2 3, .start 1, .source 3 4, .stop,
       .source 4 9, .start 2, .source 9 10, .stop, .source 10 11] := by decide +kernel

/-- The hypothesis cannot be dropped: a highlighted node that ends beyond the source yields a
`Source` event past the end. -/
example : judgeEvents 3 (mergeLocals 3 [⟨1, 9, 1, .hl (some 0) false⟩]) = false := by decide +kernel

/-- EVENT-LEVEL `local_ref_like_def`: in ANY state of the single-layer loop with locals (any offset,
end stack, scope stack, fuel, following captures) whose next node carries a `@local.reference` capture
followed by one highlight capture (any highlight `h0`, recognised or not, `#is-not? local` or not),
with no end to pop first, if after popping the finished scopes the scopes above the defining one all
inherit and hold no admissible definition of the name and the defining scope's newest admissible
definition stores highlight `hh`, then this iteration emits `HighlightStart(hh)` AT the reference's
start (after the pending `Source`), pushes the reference's end, and continues behind the node's
later patterns — the reference's own pattern highlight `h0` is overridden. -/
theorem merge_locals_ref_event (n fuel off s e s2 e2 node name hh : Nat) (h0 : Option Nat) (nl : Bool)
    (ends : List Nat) (scopes above below : List LScope) (sc : LScope) (rest : List LCap)
    (hends : ∀ eb ∈ ends.head?, s < eb)
    (hpop : popScopes s scopes = above ++ sc :: below)
    (habove : ∀ a ∈ above, a.inherits = true ∧ findDef name s a.defs = none)
    (hsc : findDef name s sc.defs = some (some hh)) :
    mergeLGo n (fuel + 1) off ends scopes (⟨s, e, node, .ref name true⟩ :: ⟨s2, e2, node, .hl h0 nl⟩ :: rest) =
      emitEv off s (.start hh) ++
        mergeLGo n fuel (max off s) (e :: ends) (popScopes s scopes) (collapseL true node h0 rest).2 := by
  have hl := local_ref_like_def name s e node above below sc (some hh)
    { scopes := popScopes s scopes, refHl := none, defP := false } hpop rfl habove hsc
  obtain ⟨hs, hd⟩ := applyLocal_ref { scopes := popScopes s scopes, refHl := none, defP := false } s e node name true
  cases ends with
  | nil =>
    simp only [mergeLGo, localsRun, if_true, hl, hd, hs, Option.some_or, Bool.false_or, Option.isSome_some, Bool.false_eq_true, if_false]
  | cons eb ends' =>
    have : ¬ eb ≤ s := by have := hends eb (by simp); omega
    simp only [mergeLGo, localsRun, if_true, if_neg this, hl, hd, hs, Option.some_or, Bool.false_or, Option.isSome_some, Bool.false_eq_true, if_false]

/-- EVENT-LEVEL definition step: a node with a `@local.definition` capture followed by a highlight
capture, whose final highlight (after the later patterns of the node, `#is-not? local` ones skipped) is
`hh`: the iteration emits `HighlightStart(hh)` at the definition's start AND stores exactly `hh` as the
highlight of the new newest definition of the current scope (`*definition_highlight = current`).  So the
highlight stored for a definition IS the one its own `Start` event carries. -/
theorem merge_locals_def_event (n fuel off s e s2 e2 node name ve hh : Nat) (h0 : Option Nat) (nl : Bool)
    (ends : List Nat) (scopes below : List LScope) (sc : LScope) (rest : List LCap)
    (hends : ∀ eb ∈ ends.head?, s < eb)
    (hpop : popScopes s scopes = sc :: below)
    (hcol : (collapseL true node h0 rest).1 = some hh) :
    mergeLGo n (fuel + 1) off ends scopes (⟨s, e, node, .defn name ve true⟩ :: ⟨s2, e2, node, .hl h0 nl⟩ :: rest) =
      emitEv off s (.start hh) ++
        mergeLGo n fuel (max off s) (e :: ends)
          ({ sc with defs := { name := name, valueEnd := ve, hl := some hh } :: sc.defs } :: below)
          (collapseL true node h0 rest).2 := by
  have ha := applyLocal_defn (r := { scopes := popScopes s scopes, refHl := none, defP := false }) s e node name ve hpop
  cases ends with
  | nil =>
    simp only [mergeLGo, localsRun, if_true, ha, Bool.true_or, hcol, Option.none_or, setDefHl]
  | cons eb ends' =>
    have : ¬ eb ≤ s := by have := hends eb (by simp); omega
    simp only [mergeLGo, localsRun, if_true, if_neg this, ha, Bool.true_or, hcol, Option.none_or, setDefHl]

theorem mergeLGo_pop (n fuel off eb : Nat) (ends : List Nat) (scopes : List LScope) (c : LCap) (rest : List LCap)
    (h : eb ≤ c.s) :
    mergeLGo n (fuel + 1) off (eb :: ends) scopes (c :: rest) =
      emitEv off eb .stop ++ mergeLGo n fuel (max off eb) ends scopes (c :: rest) := by
  simp only [mergeLGo, if_pos h]

/-- "A name resolved as a local reference is highlighted like its definition", AS EVENTS, for a
definition node directly followed by a reference node of the same name in the same scope (the
definition's node and value end before the reference starts; the scope has not ended; no older open
highlight ends before the reference): from ANY state, the next three iterations emit
`Start(hh)` at the definition, its `End`, and `Start(hh)` at the reference — the SAME highlight, whatever
the reference's own pattern (`h2`) says.  `_partial` in shape only: arbitrary captures between the two
nodes need an invariant on the scope stack (OPEN); the two step theorems above hold for any state. -/
theorem merge_locals_ref_like_def_events (n fuel off s1 e1 a1 b1 s2 e2 a2 b2 node1 node2 name ve hh : Nat)
    (h2 : Option Nat) (nl1 nl2 : Bool)
    (ends : List Nat) (scopes below : List LScope) (sc : LScope) (rest : List LCap)
    (hne : node2 ≠ node1) (h12 : s1 ≤ s2) (hes : e1 ≤ s2) (hve : ve ≤ s2) (hre : s2 ≤ sc.re)
    (hends : ∀ eb ∈ ends.head?, s2 < eb)
    (hpop : popScopes s1 scopes = sc :: below) :
    mergeLGo n (fuel + 3) off ends scopes
        (⟨s1, e1, node1, .defn name ve true⟩ :: ⟨a1, b1, node1, .hl (some hh) nl1⟩ ::
         ⟨s2, e2, node2, .ref name true⟩ :: ⟨a2, b2, node2, .hl h2 nl2⟩ :: rest) =
      emitEv off s1 (.start hh) ++ (emitEv (max off s1) e1 .stop ++
        (emitEv (max (max off s1) e1) s2 (.start hh) ++
          mergeLGo n fuel (max (max (max off s1) e1) s2) (e2 :: ends)
            ({ sc with defs := { name := name, valueEnd := ve, hl := some hh } :: sc.defs } :: below)
            (collapseL true node2 h2 rest).2)) := by
  have hc : collapseL true node1 (some hh)
      (⟨s2, e2, node2, .ref name true⟩ :: ⟨a2, b2, node2, .hl h2 nl2⟩ :: rest) =
      (some hh, ⟨s2, e2, node2, .ref name true⟩ :: ⟨a2, b2, node2, .hl h2 nl2⟩ :: rest) := by
    simp [collapseL, hne]
  have hends1 : ∀ eb ∈ ends.head?, s1 < eb := fun eb h => Nat.lt_of_le_of_lt h12 (hends eb h)
  rw [merge_locals_def_event n (fuel + 2) off s1 e1 a1 b1 node1 name ve hh (some hh) nl1 ends scopes below sc _
    hends1 hpop (by rw [hc]), hc]
  simp only
  rw [mergeLGo_pop n (fuel + 1) _ e1 ends _ _ _ hes]
  have hp2 : popScopes s2 ({ sc with defs := { name := name, valueEnd := ve, hl := some hh } :: sc.defs } :: below) =
      [] ++ { sc with defs := { name := name, valueEnd := ve, hl := some hh } :: sc.defs } :: below := by
    simp [popScopes]; omega
  rw [merge_locals_ref_event n fuel _ s2 e2 a2 b2 node2 name hh h2 nl2 ends _ [] below _ rest hends hp2
    (List.forall_mem_nil _) (by simp [findDef]; omega)]
  rw [hp2]; rfl

/-- non-vacuity of `merge_locals_ref_like_def_events` (hence of the two step theorems it is composed
of): `a = …; a` in the root scope, the reference's own pattern says 2, both Starts carry 1. -/
example :
    mergeLGo 11 (7 + 3) 0 [] [⟨false, usizeMax, []⟩]
        [⟨1, 2, 2, .defn 7 0 true⟩, ⟨1, 2, 2, .hl (some 1) false⟩,
         ⟨3, 4, 3, .ref 7 true⟩, ⟨3, 4, 3, .hl (some 2) false⟩] =
      emitEv 0 1 (.start 1) ++ (emitEv (max 0 1) 2 .stop ++ (emitEv (max (max 0 1) 2) 3 (.start 1) ++
        mergeLGo 11 7 (max (max (max 0 1) 2) 3) [4]
          [⟨false, usizeMax, [⟨7, 0, some 1⟩]⟩] (collapseL true 3 (some 2) []).2)) :=
  merge_locals_ref_like_def_events 11 7 0 1 2 1 2 3 4 3 4 2 3 7 0 1 (some 2) false false [] _ []
    ⟨false, usizeMax, []⟩ [] (by decide) (by decide) (by decide) (by decide) (by simp [usizeMax]) (by simp)
    (by simp [popScopes, usizeMax])

/-- the same run evaluated: the reference (own pattern: 2) is emitted with the definition's 1 -/
example :
    mergeLGo 11 10 0 [] [⟨false, usizeMax, []⟩]
        [⟨1, 2, 2, .defn 7 0 true⟩, ⟨1, 2, 2, .hl (some 1) false⟩,
         ⟨3, 4, 3, .ref 7 true⟩, ⟨3, 4, 3, .hl (some 2) false⟩] =
      [.source 0 1, .start 1, .source 1 2, .stop, .source 2 3, .start 1, .source 3 4, .stop, .source 4 11] := by
  decide +kernel

end TsVerif.C17
