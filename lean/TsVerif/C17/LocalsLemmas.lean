import TsVerif.C17.Locals
import TsVerif.C17.MergeLemmas
/-!
# C17 helper lemmas: the single-layer merge WITH the locals branch yields a well-formed stream

Whatever the locals loop does to the scope stack and to the highlight it picks, the loop consumes at
least one capture per iteration that does not pop, and pushes one end per emitted `Start`.
-/
namespace TsVerif.C17

/-- All capture offsets lie inside the source (hypothesis of `merge_locals_wellformed_partial`). -/
def lcapsIn (n : Nat) (caps : List LCap) : Bool := caps.all fun c => c.s ≤ n && c.e ≤ n

theorem localsRun_suffix (r : LRun) (c : LCap) (rest : List LCap) : (localsRun r c rest).2.2 <:+ rest := by
  fun_induction localsRun r c rest with
  | case2 _ _ _ _ _ _ _ ih => exact ih.trans (List.suffix_cons _ _)
  | _ => exact List.suffix_refl _

theorem localsRun_rest : ∀ (rest : List LCap) (r : LRun) (c : LCap),
    (localsRun r c rest).2.2.length ≤ rest.length ∧ ∀ x ∈ (localsRun r c rest).2.2, x ∈ rest :=
  fun rest r c => ⟨(localsRun_suffix r c rest).length_le, fun _ hx => (localsRun_suffix r c rest).subset hx⟩

theorem collapseL_suffix (isLocal : Bool) (node : Nat) (h : Option Nat) (l : List LCap) :
    (collapseL isLocal node h l).2 <:+ l := by
  fun_induction collapseL isLocal node h l with
  | case1 | case5 => exact List.suffix_refl _
  | case2 _ _ _ _ _ _ _ _ ih | case3 _ _ _ _ _ _ _ _ ih | case4 _ _ _ _ _ ih => exact ih.trans (List.suffix_cons _ _)

theorem collapseL_rest (isLocal : Bool) (node : Nat) : ∀ (l : List LCap) (h : Option Nat),
    (collapseL isLocal node h l).2.length ≤ l.length ∧ ∀ x ∈ (collapseL isLocal node h l).2, x ∈ l :=
  fun l h => ⟨(collapseL_suffix isLocal node h l).length_le, fun _ hx => (collapseL_suffix isLocal node h l).subset hx⟩

structure LWInv (n off : Nat) (ends : List Nat) (caps : List LCap) : Prop where
  offn : off ≤ n
  endsLe : ∀ eb ∈ ends, eb ≤ n
  capsIn : ∀ c ∈ caps, c.s ≤ n ∧ c.e ≤ n

theorem LWInv.pop {n off eb : Nat} {ends : List Nat} {caps : List LCap} (hi : LWInv n off (eb :: ends) caps) :
    LWInv n (max off eb) ends caps :=
  { offn := Nat.max_le.mpr ⟨hi.offn, hi.endsLe eb List.mem_cons_self⟩
    endsLe := fun x hx => hi.endsLe x (List.mem_cons_of_mem _ hx)
    capsIn := hi.capsIn }

theorem LWInv.sub {n off : Nat} {ends : List Nat} {c : LCap} {rest caps' : List LCap}
    (hi : LWInv n off ends (c :: rest)) (hs : ∀ x ∈ caps', x ∈ rest) : LWInv n off ends caps' :=
  { offn := hi.offn
    endsLe := hi.endsLe
    capsIn := fun c' hc' => hi.capsIn c' (List.mem_cons_of_mem _ (hs c' hc')) }

theorem LWInv.take {n off : Nat} {ends : List Nat} {c : LCap} {rest caps' : List LCap}
    (hi : LWInv n off ends (c :: rest)) (hs : ∀ x ∈ caps', x ∈ rest) :
    LWInv n (max off c.s) (c.e :: ends) caps' :=
  have hc := hi.capsIn c List.mem_cons_self
  { offn := Nat.max_le.mpr ⟨hi.offn, hc.1⟩
    endsLe := List.forall_mem_cons.mpr ⟨hc.2, hi.endsLe⟩
    capsIn := fun c' hc' => hi.capsIn c' (List.mem_cons_of_mem _ (hs c' hc')) }

/-- The "process the next capture" branch of `mergeLGo` (no end to pop first). -/
theorem mergeLGo_take (n fuel off : Nat) (ends : List Nat) (scopes : List LScope) (c : LCap) (rest : List LCap)
    (ih : ∀ (off : Nat) (ends : List Nat) (scopes : List LScope) (caps : List LCap),
      2 * caps.length + ends.length < fuel → LWInv n off ends caps →
      wellFormedFrom n off ends.length (mergeLGo n fuel off ends scopes caps) = true)
    (hf : 2 * (c :: rest).length + ends.length < fuel + 1) (hi : LWInv n off ends (c :: rest)) :
    wellFormedFrom n off ends.length
      (let run := localsRun { scopes := popScopes c.s scopes, refHl := none, defP := false } c rest
        match run.2.1 with
        | none => mergeLGo n fuel off ends run.1.scopes run.2.2
        | some hc =>
          let h0 := match hc.kind with | .hl h _ => h | _ => none
          let col := collapseL (run.1.defP || run.1.refHl.isSome) hc.node h0 run.2.2
          let scopes' := if run.1.defP then setDefHl col.1 run.1.scopes else run.1.scopes
          match run.1.refHl.or col.1 with
          | some hh => emitEv off c.s (.start hh) ++ mergeLGo n fuel (max off c.s) (c.e :: ends) scopes' col.2
          | none => mergeLGo n fuel off ends scopes' col.2) = true := by
  have hr := localsRun_rest rest { scopes := popScopes c.s scopes, refHl := none, defP := false } c
  generalize localsRun { scopes := popScopes c.s scopes, refHl := none, defP := false } c rest = run at hr ⊢
  obtain ⟨r1, ohc, rest1⟩ := run
  simp only at hr ⊢
  have hcn := hi.capsIn c (List.mem_cons_self)
  simp only [List.length_cons] at hf
  cases ohc with
  | none =>
    simp only
    exact ih off ends r1.scopes rest1 (by omega) (hi.sub hr.2)
  | some hc =>
    simp only
    have hcl := collapseL_rest (r1.defP || r1.refHl.isSome) hc.node rest1
      (match hc.kind with | .hl h _ => h | _ => none)
    generalize collapseL (r1.defP || r1.refHl.isSome) hc.node
      (match hc.kind with | .hl h _ => h | _ => none) rest1 = col at hcl ⊢
    obtain ⟨ch, crest⟩ := col
    simp only at hcl ⊢
    have hsub : ∀ x ∈ crest, x ∈ rest := fun x hx => hr.2 x (hcl.2 x hx)
    cases hor : r1.refHl.or ch with
    | none =>
      simp only
      exact ih off ends _ crest (by omega) (hi.sub hsub)
    | some hh =>
      exact wf_start hcn.1 (ih (max off c.s) (c.e :: ends) _ crest (by simp only [List.length_cons]; omega) (hi.take hsub))

theorem mergeLGo_wf (n : Nat) : ∀ (fuel off : Nat) (ends : List Nat) (scopes : List LScope) (caps : List LCap),
    2 * caps.length + ends.length < fuel → LWInv n off ends caps →
    wellFormedFrom n off ends.length (mergeLGo n fuel off ends scopes caps) = true := by
  intro fuel
  induction fuel with
  | zero => intro off ends scopes caps hf; omega
  | succ fuel ih =>
    intro off ends scopes caps hf hi
    have pop : ∀ eb ends', ends = eb :: ends' → wellFormedFrom n off ends.length
        (emitEv off eb .stop ++ mergeLGo n fuel (max off eb) ends' scopes caps) = true := by
      rintro eb ends' rfl
      exact wf_stop (hi.endsLe eb List.mem_cons_self) (ih _ ends' scopes caps (by simp only [List.length_cons] at hf ⊢; omega) hi.pop)
    cases caps with
    | nil =>
      cases ends with
      | nil =>
        exact wf_final hi.offn
      | cons eb ends' => exact pop eb ends' rfl
    | cons c rest =>
      cases ends with
      | nil => exact mergeLGo_take n fuel off [] scopes c rest ih hf hi
      | cons eb ends' =>
        simp only [mergeLGo]
        by_cases hle : eb ≤ c.s
        · rw [if_pos hle]; exact pop eb ends' rfl
        · rw [if_neg hle]; exact mergeLGo_take n fuel off (eb :: ends') scopes c rest ih hf hi

end TsVerif.C17
