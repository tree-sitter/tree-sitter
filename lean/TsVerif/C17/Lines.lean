import TsVerif.C17.Model
/-!
# C17 — the PER-LINE view of the renderer's output (`HtmlRenderer::lines()` / `line_offsets`)

Judge clauses on real output (html bytes + `line_offsets`), computed from the event stream, the
source and the tag syntax only (not from the port of `add_text`):

* `offsets`   — `line_offsets` starts with 0, is strictly increasing, stays inside the html, and is
                EXACTLY the list of line starts of the html (0 and the byte after every newline
                except a final one): so every offset is the start of a line, no line start is
                missing, and `lines()` concatenates to the whole html;
* `line-newline` — every line ends with a newline;
* `line-tags` — in every line the tags are balanced and properly nested (no cut tag, no End without
                Start, everything opened in the line is closed in it)              [balanced streams];
* `line-reopen` — at the k-th newline of the text the spans open there are closed before the newline
                and re-opened, in order, at the start of the next line                [balanced streams];
* `line-text` — tags removed, entities decoded, the text of line i is line i of the normalised
                source: CR of CRLF dropped; a lone CR (not followed by LF) dropped, or — when a
                carriage-return highlight is configured — replaced by the marker `<span ATTR></span>`
                at its place.
-/
namespace TsVerif.C17

inductive Tok where
  | opn (attr : Bytes)
  | cls
  | txt (c : Nat)
  | bad
  deriving Repr, DecidableEq

/-- Tokens of an html fragment; a tag that is not terminated inside the fragment gives `bad`. -/
def tokGo : Option (Bool × Bytes) → Bytes → List Tok
  | none, [] => []
  | some _, [] => [.bad]
  | none, c :: r => if c = 60 then tokGo (some (false, [])) r else .txt c :: tokGo none r
  | some (cl, acc), c :: r =>
    if c = 62 then (if cl then Tok.cls else Tok.opn (acc.reverse.drop 5)) :: tokGo none r
    else if c = 47 && acc.isEmpty && !cl then tokGo (some (true, [])) r
    else tokGo (some (cl, c :: acc)) r

def toks (bs : Bytes) : List Tok := tokGo none bs

/-- balanced and properly nested -/
def balancedGo : Nat → List Tok → Bool
  | d, [] => d == 0
  | d, .opn _ :: r => balancedGo (d + 1) r
  | d, .cls :: r => d != 0 && balancedGo (d - 1) r
  | d, .txt _ :: r => balancedGo d r
  | _, .bad :: _ => false

/-- the text bytes of a token list; an empty span with the carriage-return attribute counts as a CR -/
def markTxt (crAttr : Option Bytes) : List Tok → Bytes
  | [] => []
  | .txt c :: r => c :: markTxt crAttr r
  | .opn a :: .cls :: r => (if crAttr == some a then [13] else []) ++ markTxt crAttr r
  | _ :: r => markTxt crAttr r

def lineText (crAttr : Option Bytes) (line : Bytes) : Bytes := unescape (markTxt crAttr (toks line))

/-- html[a..b) -/
def cut (html : Bytes) (a b : Nat) : Bytes := (html.drop a).take (b - a)

/-- `HtmlRenderer::lines()` -/
def cutLines (html : Bytes) : List Nat → List Bytes
  | [] => []
  | [a] => [cut html a html.length]
  | a :: b :: r => cut html a b :: cutLines html (b :: r)

def lineStartsGo : Nat → Bytes → List Nat
  | _, [] => []
  | i, c :: r => if c = 10 && !r.isEmpty then (i + 1) :: lineStartsGo (i + 1) r else lineStartsGo (i + 1) r

/-- 0 and the byte after every newline except a final one -/
def lineStarts (html : Bytes) : List Nat := 0 :: lineStartsGo 0 html

def increasing : List Nat → Bool
  | a :: b :: r => a < b && increasing (b :: r)
  | _ => true

/-- The normalisation of carriage returns in the decoded text: the CR of CRLF is dropped; any other
CR is dropped, or kept as byte 13 when `mark` (a carriage-return highlight is configured).
`strict = false`: a CR directly followed by another CR is dropped even when `mark`. -/
def crProc (mark strict : Bool) : Bytes → Bytes
  | [] => []
  | c :: r =>
    if c = 13 then
      match r with
      | 10 :: _ => crProc mark strict r
      | 13 :: _ => (if mark && strict then [13] else []) ++ crProc mark strict r
      | _ => (if mark then [13] else []) ++ crProc mark strict r
    else c :: crProc mark strict r

def splitLinesGo (cur : Bytes) : Bytes → List Bytes
  | [] => if cur.isEmpty then [] else [cur.reverse]
  | c :: r => if c = 10 then (10 :: cur).reverse :: splitLinesGo [] r else splitLinesGo (c :: cur) r

/-- split after every newline -/
def splitLines (bs : Bytes) : List Bytes := splitLinesGo [] bs

/-- the stack of open highlights at every newline of the decoded text, in order -/
def nlStacks (dec : Bytes → Bytes) (src : Bytes) : List Nat → List Ev → List (List Nat)
  | _, [] => []
  | hl, .start h :: r => nlStacks dec src (hl ++ [h]) r
  | hl, .stop :: r => nlStacks dec src hl.dropLast r
  | hl, .source s e :: r => ((dec (sliceT src s e)).filter (· = 10)).map (fun _ => hl) ++ nlStacks dec src hl r

def endsWith (l suf : Bytes) : Bool := decide (l.drop (l.length - suf.length) = suf) && decide (suf.length ≤ l.length)
def startsWith (l pre : Bytes) : Bool := decide (l.take pre.length = pre)

def reopenOk (cfg : RCfg) : List (List Nat) → List Bytes → Bool
  | [], _ => true
  | _, [] => false
  | k :: ks, l :: ls =>
    endsWith l ((k.flatMap fun _ => spanClose) ++ [10]) &&
    (match ls with
     | [] => true
     | l2 :: _ => startsWith l2 (k.flatMap (spanOpen cfg))) &&
    reopenOk cfg ks ls

/-- Does some highlight of the stream get the same attribute as the carriage-return highlight?
(Then an empty span of that highlight cannot be told from a CR marker and the marker is not judged.) -/
def crhUsed (cfg : RCfg) (evs : List Ev) : Bool :=
  match cfg.crh with
  | none => false
  | some h => evs.any fun | .start h' => cfg.attr h' == cfg.attr h | _ => false

/-- line texts against the expected lines (`strict`: see `crProc`) -/
def lineTextOk (strict : Bool) (dec : Bytes → Bytes) (cfg : RCfg) (evs : List Ev) (src : Bytes) (ls : List Bytes) : Bool :=
  let mark := cfg.crh.isSome && !crhUsed cfg evs
  let crAttr := if mark then cfg.crh.map cfg.attr else none
  let t := crProc mark strict (decoded dec evs src)
  let got := ls.map (lineText crAttr)
  decide (got = splitLines (t ++ [10])) || (t.getLast? == some 10 && decide (got = splitLines t))

/-- The per-line judge; the name of the first failing clause or "ok".  `balanced` = the event stream
is balanced (the tag clauses only make sense then). -/
def judgeLines (dec : Bytes → Bytes) (cfg : RCfg) (balanced : Bool) (evs : List Ev) (src : Bytes) (html : Bytes)
    (offs : List Nat) : String :=
  let ls := cutLines html offs
  if !(offs.head? == some 0 && increasing offs && offs.all (· < html.length)) then "offsets-monotone-in-bounds"
  else if !decide (offs = lineStarts html) then "offsets-are-line-starts"
  else if !(ls.all fun l => l.getLast? == some 10) then "line-newline"
  else if balanced && !(ls.all fun l => balancedGo 0 (toks l)) then "line-tags"
  else if balanced && !reopenOk cfg (nlStacks dec src [] evs) ls then "line-reopen"
  else if !lineTextOk true dec cfg evs src ls then
    (if lineTextOk false dec cfg evs src ls then "line-text:cr-before-cr-unstyled" else "line-text")
  else "ok"

end TsVerif.C17
