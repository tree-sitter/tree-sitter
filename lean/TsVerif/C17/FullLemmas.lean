import TsVerif.C17.Full
import TsVerif.C17.MergeMultiLemmas
/-!
Well-formedness and termination of the end-to-end model (`Full.lean`), along the lines of
`MergeMultiLemmas.lean`, for layers with scope stacks and the model-driven injection step.
`sort_layers` and `insert_layer` of this model are the functions of `Keyed.lean`; an iteration is analysed once
(`StepCase`, `stepM_case`).
-/
namespace TsVerif.C17.Full

def totalEnds : List FLayer → Nat
  | [] => 0
  | l :: r => l.ends.length + totalEnds r

def LayerOk (n : Nat) (l : FLayer) : Prop :=
  (∀ eb ∈ l.ends, eb ≤ n) ∧ (∀ c ∈ l.caps, c.s ≤ n ∧ c.e ≤ n)

def DefsOk (n : Nat) (cx : Ctx) : Prop := ∀ d ∈ cx.defs, ∀ c ∈ d.caps, c.s ≤ n ∧ c.e ≤ n

theorem sortKey_none {l : FLayer} (h : sortKey l = none) : l.caps = [] ∧ l.ends = [] := by
  unfold sortKey at h
  split at h
  · split at h <;> cases h
  · cases h
  · cases h
  · exact ⟨‹_›, ‹_›⟩

theorem leadCount_eq (k : Key) (ls : List FLayer) : leadCount k ls = Keyed.leadCount sortKey k ls := by
  induction ls with
  | nil => rfl
  | cons l r ih => rw [leadCount, Keyed.leadCount, ih]; rfl

theorem sortLayers_eq (ls : List FLayer) : sortLayers ls = Keyed.sortLayers sortKey ls := by
  induction ls with
  | nil => rfl
  | cons l r ih => simp only [sortLayers, Keyed.sortLayers, ih, leadCount_eq]; rfl

theorem insGo_eq (k : Key) (nl : FLayer) (ls : List FLayer) : insGo k nl ls = Keyed.insGo sortKey k nl ls := by
  induction ls with
  | nil => rfl
  | cons l r ih => rw [insGo, Keyed.insGo, ih]; rfl

theorem insertLayer_eq (ls : List FLayer) (nl : FLayer) : insertLayer ls nl = Keyed.insertLayer sortKey ls nl := by
  unfold insertLayer Keyed.insertLayer
  cases sortKey nl with
  | none => rfl
  | some k => cases ls <;> simp only [insGo_eq]

theorem foldl_insertById (cx : Ctx) (ids : List Nat) (ls : List FLayer) :
    ids.foldl (insertById cx) ls = (ids.filterMap (mkLayer cx)).foldl insertLayer ls := by
  induction ids generalizing ls with
  | nil => rfl
  | cons j r ih =>
    rw [List.foldl_cons, ih, insertById, List.filterMap_cons]
    cases mkLayer cx j <;> rfl

theorem sortLayers_dropped (ls : List FLayer) : Keyed.Dropped sortKey ls (sortLayers ls) :=
  sortLayers_eq ls ▸ Keyed.sortLayers_dropped ls

theorem insertLayer_dropped (ls : List FLayer) (nl : FLayer) : Keyed.Dropped sortKey (nl :: ls) (insertLayer ls nl) :=
  insertLayer_eq ls nl ▸ Keyed.insertLayer_dropped ls nl

theorem fold_insertLayer_dropped (news ls : List FLayer) : Keyed.Dropped sortKey (news ++ ls) (news.foldl insertLayer ls) := by
  have : insertLayer = Keyed.insertLayer sortKey := funext fun ls => funext (insertLayer_eq ls)
  exact this ▸ Keyed.foldl_insertLayer_dropped news ls

theorem fold_insertById_dropped (cx : Ctx) (ids : List Nat) (ls : List FLayer) :
    Keyed.Dropped sortKey (ids.filterMap (mkLayer cx) ++ ls) (ids.foldl (insertById cx) ls) :=
  foldl_insertById cx ids ls ▸ fold_insertLayer_dropped _ ls

theorem sumW_eq (f : FLayer → Nat) (ls : List FLayer) : sumW f ls = (ls.map f).sum := by
  induction ls with
  | nil => rfl
  | cons l r ih => rw [sumW, ih, List.map_cons, List.sum_cons]

theorem sumW_dropped {f : FLayer → Nat} (hf : ∀ l, sortKey l = none → f l = 0) {xs ys : List FLayer}
    (h : Keyed.Dropped sortKey xs ys) : sumW f ys = sumW f xs := by
  rw [sumW_eq, sumW_eq, h.sum f hf]

theorem totalEnds_eq (ls : List FLayer) : totalEnds ls = sumW (·.ends.length) ls := by
  induction ls with
  | nil => rfl
  | cons l r ih => rw [totalEnds, ih, sumW]

theorem totalEnds_dropped {xs ys : List FLayer} (h : Keyed.Dropped sortKey xs ys) : totalEnds ys = totalEnds xs := by
  rw [totalEnds_eq, totalEnds_eq, sumW_dropped (fun l hl => by rw [(sortKey_none hl).2]; rfl) h]

theorem totalEnds_sortLayers (ls : List FLayer) : totalEnds (sortLayers ls) = totalEnds ls :=
  totalEnds_dropped (sortLayers_dropped ls)

theorem mem_sortLayers {ls : List FLayer} {l : FLayer} (h : l ∈ sortLayers ls) : l ∈ ls :=
  (sortLayers_dropped ls).mem h

theorem head_sortLayers (ls : List FLayer) (l : FLayer) (r : List FLayer) (h : sortLayers ls = l :: r) :
    sortKey l ≠ none :=
  Keyed.head_sortLayers (sortLayers_eq ls ▸ h)

theorem totalEnds_insertLayer (ls : List FLayer) (nl : FLayer) (hn : nl.ends = []) :
    totalEnds (insertLayer ls nl) = totalEnds ls := by
  rw [totalEnds_dropped (insertLayer_dropped ls nl), totalEnds, hn]
  exact Nat.zero_add _

theorem mkLayer_some {cx : Ctx} {j : Nat} {y : FLayer} (h : mkLayer cx j = some y) :
    ∃ d, cx.defs[j]? = some d ∧ y =
      ⟨d.lang, d.depth, d.ranges, d.caps, [], [{ inherits := false, re := usizeMax, defs := [] }]⟩ := by
  unfold mkLayer at h
  cases hg : cx.defs[j]? with
  | none => rw [hg] at h; cases h
  | some d => rw [hg] at h; cases h; exact ⟨d, rfl, rfl⟩

theorem mkLayer_ok {n : Nat} {cx : Ctx} (hd : DefsOk n cx) {id : Nat} {nl : FLayer}
    (h : mkLayer cx id = some nl) : nl.ends = [] ∧ LayerOk n nl := by
  obtain ⟨d, hg, rfl⟩ := mkLayer_some h
  exact ⟨rfl, nofun, hd d (List.mem_of_getElem? hg)⟩

theorem totalEnds_fresh (cx : Ctx) (ids : List Nat) (ls : List FLayer) :
    totalEnds (ids.filterMap (mkLayer cx) ++ ls) = totalEnds ls := by
  induction ids with
  | nil => rfl
  | cons j r ih =>
    rw [List.filterMap_cons]
    cases hm : mkLayer cx j with
    | none => exact ih
    | some nl =>
      obtain ⟨_, _, rfl⟩ := mkLayer_some hm
      rw [List.cons_append, totalEnds, ih]
      exact Nat.zero_add _

theorem fold_insert_ok {n : Nat} {cx : Ctx} (hd : DefsOk n cx) (ids : List Nat) (ls : List FLayer)
    (h : ∀ l ∈ ls, LayerOk n l) :
    totalEnds (ids.foldl (insertById cx) ls) = totalEnds ls ∧
      ∀ l ∈ ids.foldl (insertById cx) ls, LayerOk n l := by
  refine ⟨by rw [totalEnds_dropped (fold_insertById_dropped cx ids ls), totalEnds_fresh], fun l hl => ?_⟩
  rcases List.mem_append.mp ((fold_insertById_dropped cx ids ls).mem hl) with hl | hl
  · obtain ⟨j, _, hm⟩ := List.mem_filterMap.mp hl
    exact (mkLayer_ok hd hm).2
  · exact h l hl

theorem capsW_congr_mem (cx : Ctx) {w1 w2 : Nat → Nat} (lang depth : Nat) (ranges : List Rg) (caps : List FCap)
    (h : ∀ c ∈ caps, ∀ m, c.kind = .inj m → ∀ j ∈ injIds cx lang depth ranges m, w1 j = w2 j) :
    capsW cx w1 lang depth ranges caps = capsW cx w2 lang depth ranges caps := by
  induction caps with
  | nil => rfl
  | cons c r ih =>
    simp only [capsW]
    rw [ih (fun c' hc' => h c' (List.mem_cons_of_mem _ hc'))]
    congr 1
    unfold capW
    cases hk : c.kind with
    | inj m => simp only; rw [idsW_congr _ (h c (List.mem_cons_self) m hk)]
    | _ => rfl

theorem wtK_succ (cx : Ctx) : ∀ k j, cx.defs.length - j ≤ k → wtK cx (k + 1) j = wtK cx k j := by
  intro k
  induction k with
  | zero => intro j h; rw [wtK, wtK, List.getElem?_eq_none (by omega)]
  | succ k ih =>
    intro j h
    rw [wtK, wtK]
    cases cx.defs[j]? with
    | none => rfl
    | some d =>
      show capsW _ _ _ _ _ _ = capsW _ _ _ _ _ _
      congr 1
      funext j'
      split
      · exact ih j' (by omega)
      · rfl

theorem wtK_stable (cx : Ctx) : ∀ (m j k : Nat), cx.defs.length - j ≤ m → cx.defs.length - j ≤ k →
    wtK cx k j = wtK cx (cx.defs.length - j) j := by
  intro _ j k _ hk
  obtain ⟨i, rfl⟩ := Nat.exists_eq_add_of_le hk
  induction i with
  | zero => rfl
  | succ i ih => rw [← Nat.add_assoc, wtK_succ cx _ j (by omega), ih (by omega)]

theorem refsUp_spec {cx : Ctx} (hr : refsUp cx = true) {i : Nat} {d : FDef}
    (hd : cx.defs[i]? = some d) {c : FCap} (hc : c ∈ d.caps) {m : InjMatch} (hk : c.kind = .inj m)
    {j : Nat} (hj : j ∈ injIds cx d.lang d.depth d.ranges m) : i < j := by
  have hi := (List.getElem?_eq_some_iff.mp hd).1
  have h1 := List.all_eq_true.mp hr i (List.mem_range.mpr hi)
  rw [hd] at h1
  have h2 := List.all_eq_true.mp h1 c hc
  rw [hk] at h2
  have h3 := List.all_eq_true.mp h2 j hj
  simpa using h3

theorem wt_eq {cx : Ctx} (hr : refsUp cx = true) {j : Nat} {d : FDef}
    (hd : cx.defs[j]? = some d) : wt cx j = capsW cx (wt cx) d.lang d.depth d.ranges d.caps := by
  have hj := (List.getElem?_eq_some_iff.mp hd).1
  obtain ⟨q, hq⟩ : ∃ q, cx.defs.length - j = q + 1 := ⟨cx.defs.length - j - 1, by omega⟩
  unfold wt
  rw [hq]
  simp only [wtK, hd]
  apply capsW_congr_mem
  intro c hc m hk j' hj'
  have hlt : j < j' := refsUp_spec hr hd hc hk hj'
  simp only [if_pos hlt]
  exact wtK_stable cx (cx.defs.length - j') j' q (Nat.le_refl _) (by omega)

theorem layerW_zero (cx : Ctx) (l : FLayer) (h : sortKey l = none) : layerW cx l = 0 := by
  rw [layerW, (sortKey_none h).1, (sortKey_none h).2]; rfl

theorem sumW_sortLayers (cx : Ctx) (ls : List FLayer) :
    sumW (layerW cx) (sortLayers ls) = sumW (layerW cx) ls :=
  sumW_dropped (layerW_zero cx) (sortLayers_dropped ls)

theorem layerW_mkLayer {cx : Ctx} (hr : refsUp cx = true) {id : Nat} {nl : FLayer}
    (h : mkLayer cx id = some nl) : layerW cx nl = wt cx id := by
  obtain ⟨d, hg, rfl⟩ := mkLayer_some h
  rw [wt_eq hr hg]
  exact Nat.zero_add _

theorem sumW_fold_insert {cx : Ctx} (hr : refsUp cx = true) (ids : List Nat) (ls : List FLayer) :
    sumW (layerW cx) (ids.foldl (insertById cx) ls) + ids.length
      ≤ sumW (layerW cx) ls + idsW (wt cx) ids := by
  rw [sumW_dropped (layerW_zero cx) (fold_insertById_dropped cx ids ls)]
  induction ids with
  | nil => exact Nat.le_refl _
  | cons id r ih =>
    rw [List.filterMap_cons, idsW, List.length_cons]
    cases hm : mkLayer cx id with
    | none => simp only; omega
    | some nl =>
      simp only [List.cons_append, sumW]
      rw [layerW_mkLayer hr hm]
      omega

theorem capW_ge_two (cx : Ctx) (w : Nat → Nat) (lang depth : Nat) (ranges : List Rg) (c : FCap) :
    2 ≤ capW cx w lang depth ranges c := by
  unfold capW; cases c.kind <;> simp

theorem localsRun_suffix (r : LRun) (c : FCap) (rest : List FCap) : (localsRun r c rest).2.2 <:+ rest := by
  fun_induction localsRun r c rest with
  | case2 _ _ _ _ _ _ _ ih => exact ih.trans (List.suffix_cons _ _)
  | _ => exact List.suffix_refl _

theorem collapseL_suffix (isLocal : Bool) (node : Nat) (h : Option Nat) (caps : List FCap) :
    (collapseL isLocal node h caps).2 <:+ caps := by
  fun_induction collapseL isLocal node h caps with
  | case1 | case5 => exact List.suffix_refl _
  | case2 _ _ _ _ _ _ _ _ ih | case3 _ _ _ _ _ _ _ _ ih | case4 _ _ _ _ _ ih => exact ih.trans (List.suffix_cons _ _)

theorem capsW_suffix (cx : Ctx) (w : Nat → Nat) (lang depth : Nat) (ranges : List Rg) {a b : List FCap} (h : a <:+ b) :
    capsW cx w lang depth ranges a ≤ capsW cx w lang depth ranges b := by
  obtain ⟨m, rfl⟩ := h
  induction m with
  | nil => exact Nat.le_refl _
  | cons x m ih => exact Nat.le_trans ih (Nat.le_add_left _ _)

structure SInv (n : Nat) (st : FSt) : Prop where
  offn : st.off ≤ n
  lok : ∀ l ∈ st.layers, LayerOk n l
  head : ∀ l r, st.layers = l :: r → sortKey l ≠ none

def StepOk (n : Nat) (st : FSt) : StepRes → Prop
  | .done evs => wellFormedFrom n st.off (totalEnds st.layers) evs = true
  | .more evs st' => SInv n st' ∧ ∀ rest, wellFormedFrom n st'.off (totalEnds st'.layers) rest = true →
      wellFormedFrom n st.off (totalEnds st.layers) (evs ++ rest) = true

theorem sinv_sorted {n off : Nat} {last : Option (Nat × Nat × Nat)} {X : List FLayer} (ho : off ≤ n)
    (hX : ∀ l ∈ X, LayerOk n l) : SInv n { layers := sortLayers X, off := off, last := last } :=
  { offn := ho
    lok := fun l hl => hX l (mem_sortLayers hl)
    head := fun l r h => head_sortLayers X l r h }

theorem action_spec (l : FLayer) : match action l with
    | .final => sortKey l = none
    | .pop eb ends' => l.ends = eb :: ends'
    | .take c caps' => l.caps = c :: caps' := by
  unfold action sortKey
  cases l.caps with
  | nil => cases l.ends <;> rfl
  | cons c cs =>
    cases l.ends with
    | nil => rfl
    | cons e es => by_cases h : e ≤ c.s <;> simp only [h, if_true, if_false]

theorem action_take_of {l : FLayer} {c : FCap} {caps' : List FCap} (hcaps : l.caps = c :: caps')
    (hends : ∀ eb ∈ l.ends.head?, c.s < eb) : action l = .take c caps' := by
  unfold action
  rw [hcaps]
  cases he : l.ends with
  | nil => rfl
  | cons eb ends' => exact if_neg (Nat.not_le.mpr (hends eb (by rw [he]; rfl)))

/-- The cases of one iteration on a state whose first layer is `l` (as `C17.StepCase`; a capture that is not an injection
goes through the locals loop and leaves a suffix `cs` of the captures and a scope stack `sc`). -/
inductive StepCase (cx : Ctx) (n : Nat) (st : FSt) (l : FLayer) (rest : List FLayer) : StepRes → Prop
  | finish (hk : sortKey l = none) (hge : ¬ st.off < n) : StepCase cx n st l rest (.done [])
  | final (hk : sortKey l = none) (hlt : st.off < n) :
      StepCase cx n st l rest (.more [.source st.off n] { st with off := n, layers := sortLayers (l :: rest) })
  | pop {eb : Nat} {ends' : List Nat} (he : l.ends = eb :: ends') : StepCase cx n st l rest (stepPop st l rest eb ends')
  | inj {c : FCap} {caps' : List FCap} {m : InjMatch} (hc : l.caps = c :: caps') (hkind : c.kind = .inj m) :
      StepCase cx n st l rest (stepInj cx st { l with caps := caps' } rest (injIds cx l.lang l.depth l.ranges m))
  | skip {c : FCap} {caps' cs : List FCap} {sc : List LScope} (hc : l.caps = c :: caps') (hs : cs <:+ caps') :
      StepCase cx n st l rest (stepSkip st { l with caps := cs, scopes := sc } rest)
  | start {c : FCap} {caps' cs : List FCap} {sc : List LScope} {hh : Nat} (hc : l.caps = c :: caps')
      (hs : cs <:+ caps') : StepCase cx n st l rest (stepStart st { l with caps := cs, scopes := sc } rest c hh)

theorem stepM_case (cx : Ctx) (n : Nat) (st : FSt) (l : FLayer) (rest : List FLayer) (hl : st.layers = l :: rest) :
    StepCase cx n st l rest (stepM cx n st) := by
  unfold stepM
  rw [hl]
  simp only
  have hsp := action_spec l
  cases hact : action l with
  | final =>
    rw [hact] at hsp
    simp only
    split
    · exact .final hsp ‹_›
    · exact .finish hsp ‹_›
  | pop eb ends' => rw [hact] at hsp; exact .pop hsp
  | take c caps' =>
    rw [hact] at hsp
    simp only
    have hloc : StepCase cx n st l rest (stepLocals st l rest c caps') := by
      have hrun := localsRun_suffix { scopes := popScopes c.s l.scopes, refHl := none, defP := false } c caps'
      simp only [stepLocals]
      split
      · exact .skip hsp hrun
      · split
        · exact .skip hsp hrun
        · split
          · exact .start hsp ((collapseL_suffix _ _ _ _).trans hrun)
          · exact .skip hsp ((collapseL_suffix _ _ _ _).trans hrun)
    cases hk : c.kind with
    | inj m => exact .inj hsp hk
    | _ => exact hloc

theorem stepM_more {cx : Ctx} {n : Nat} {st st' : FSt} {evs : List Ev} (h : stepM cx n st = .more evs st') :
    ∃ l rest, st.layers = l :: rest ∧ StepCase cx n st l rest (.more evs st') := by
  cases hls : st.layers with
  | nil => unfold stepM at h; rw [hls] at h; cases h
  | cons l rest => exact ⟨l, rest, rfl, h ▸ stepM_case cx n st l rest hls⟩

theorem stepM_done {cx : Ctx} {n : Nat} {st : FSt} {evs : List Ev} (h : stepM cx n st = .done evs) :
    ∀ l rest, st.layers = l :: rest → sortKey l = none := by
  intro l rest hl
  have hit := stepM_case cx n st l rest hl
  rw [h] at hit
  cases hit with
  | finish hk => exact hk

theorem step_sound {n : Nat} {cx : Ctx} (hd : DefsOk n cx) (st : FSt) (hi : SInv n st) :
    StepOk n st (stepM cx n st) := by
  have hoff : st.off ≤ n := hi.offn
  cases hr : stepM cx n st with
  | done evs =>
    cases hls : st.layers with
    | cons l rest => exact absurd (stepM_done hr l rest hls) (hi.head l rest hls)
    | nil =>
      unfold stepM at hr
      rw [hls] at hr
      cases hr
      show wellFormedFrom n st.off (totalEnds st.layers) _ = true
      rw [hls]
      exact wf_final hoff
  | more evs st' =>
    obtain ⟨l, rest, hls, hit⟩ := stepM_more hr
    have hl : (∀ eb ∈ l.ends, eb ≤ n) ∧ ∀ c ∈ l.caps, c.s ≤ n ∧ c.e ≤ n := hi.lok l (hls ▸ List.mem_cons_self)
    have hrest : ∀ x ∈ rest, LayerOk n x := fun x hx => hi.lok x (hls ▸ List.mem_cons_of_mem _ hx)
    have htake : ∀ {c caps'}, l.caps = c :: caps' → (c.s ≤ n ∧ c.e ≤ n) ∧ ∀ x ∈ caps', x.s ≤ n ∧ x.e ≤ n :=
      fun hc => by
        have h2 := hl.2
        rw [hc] at h2
        exact ⟨h2 _ List.mem_cons_self, fun x hx => h2 x (List.mem_cons_of_mem _ hx)⟩
    unfold StepOk
    rw [hls]
    cases hit with
    | final hk => exact absurd hk (hi.head l rest hls)
    | pop he =>
      rw [he] at hl
      have hebn := hl.1 _ List.mem_cons_self
      refine ⟨sinv_sorted (emitM_le _ hoff hebn)
        (List.forall_mem_cons.mpr ⟨⟨fun y hy => hl.1 y (List.mem_cons_of_mem _ hy), hl.2⟩, hrest⟩), fun evs hw => ?_⟩
      rw [totalEnds_sortLayers] at hw
      rw [totalEnds, he, List.length_cons, Nat.add_right_comm]
      exact wf_pop hebn hw
    | @inj _ caps' m hc =>
      have hf := fold_insert_ok hd (injIds cx l.lang l.depth l.ranges m) ({ l with caps := caps' } :: rest)
        (List.forall_mem_cons.mpr ⟨⟨hl.1, (htake hc).2⟩, hrest⟩)
      refine ⟨sinv_sorted hoff hf.2, fun evs hw => ?_⟩
      rw [totalEnds_sortLayers, hf.1] at hw
      exact hw
    | skip hc hs =>
      refine ⟨sinv_sorted hoff (List.forall_mem_cons.mpr ⟨⟨hl.1, fun y hy => (htake hc).2 y (hs.subset hy)⟩, hrest⟩),
        fun evs hw => ?_⟩
      rw [totalEnds_sortLayers] at hw
      exact hw
    | start hc hs =>
      have ⟨hcin, hcaps'⟩ := htake hc
      refine ⟨sinv_sorted (emitM_le _ hoff hcin.1) (List.forall_mem_cons.mpr
        ⟨⟨List.forall_mem_cons.mpr ⟨hcin.2, hl.1⟩, fun y hy => hcaps' y (hs.subset hy)⟩, hrest⟩), fun evs hw => ?_⟩
      rw [totalEnds_sortLayers, totalEnds, List.length_cons, Nat.add_right_comm] at hw
      exact wf_push hcin.1 hw

theorem runM_wf {n : Nat} {cx : Ctx} (hd : DefsOk n cx) : ∀ (fuel : Nat) (st : FSt), SInv n st →
    (runM cx n fuel st).2 = true →
    wellFormedFrom n st.off (totalEnds st.layers) (runM cx n fuel st).1 = true := by
  intro fuel
  induction fuel with
  | zero => intro st _ h; cases h
  | succ fuel ih =>
    intro st hi hfin
    have hs := step_sound hd st hi
    unfold runM at hfin ⊢
    cases hstep : stepM cx n st with
    | done evs =>
      rw [hstep] at hs
      exact hs
    | more evs st' =>
      rw [hstep] at hs hfin
      simp only at hfin ⊢
      exact hs.2 _ (ih st' hs.1 hfin)

theorem step_mu {n : Nat} {cx : Ctx} (hr : refsUp cx = true) (st : FSt) (hi : SInv n st)
    {evs : List Ev} {st' : FSt} (h : stepM cx n st = .more evs st') :
    sumW (layerW cx) st'.layers < sumW (layerW cx) st.layers := by
  obtain ⟨l, rest, hls, hit⟩ := stepM_more h
  rw [hls]
  have htake : ∀ {c caps'}, l.caps = c :: caps' → layerW cx l = l.ends.length +
      (capW cx (wt cx) l.lang l.depth l.ranges c + capsW cx (wt cx) l.lang l.depth l.ranges caps') ∧
      2 ≤ capW cx (wt cx) l.lang l.depth l.ranges c :=
    fun hc => ⟨by rw [layerW, hc]; rfl, capW_ge_two _ _ _ _ _ _⟩
  cases hit with
  | final hk => exact absurd hk (hi.head l rest hls)
  | pop he =>
    simp only [sumW_sortLayers, sumW, layerW, he, List.length_cons]
    omega
  | @inj c caps' m hc hk =>
    have hf := sumW_fold_insert hr (injIds cx l.lang l.depth l.ranges m) ({ l with caps := caps' } :: rest)
    have hcw : capW cx (wt cx) l.lang l.depth l.ranges c = 2 + idsW (wt cx) (injIds cx l.lang l.depth l.ranges m) := by
      unfold capW; rw [hk]
    simp only [sumW_sortLayers, sumW, (htake hc).1, hcw] at hf ⊢
    simp only [layerW] at hf ⊢
    omega
  | skip hc hs =>
    have := capsW_suffix cx (wt cx) l.lang l.depth l.ranges hs
    have := (htake hc).2
    simp only [sumW_sortLayers, sumW, (htake hc).1]
    simp only [layerW]
    omega
  | start hc hs =>
    have := capsW_suffix cx (wt cx) l.lang l.depth l.ranges hs
    have := (htake hc).2
    simp only [sumW_sortLayers, sumW, (htake hc).1]
    simp only [layerW, List.length_cons]
    omega

theorem runM_fin {n : Nat} {cx : Ctx} (hd : DefsOk n cx) (hr : refsUp cx = true) :
    ∀ (fuel : Nat) (st : FSt), SInv n st → sumW (layerW cx) st.layers < fuel →
      (runM cx n fuel st).2 = true := by
  intro fuel
  induction fuel with
  | zero => intro st _ h; omega
  | succ fuel ih =>
    intro st hi hlt
    have hs := step_sound hd st hi
    unfold runM
    cases hstep : stepM cx n st with
    | done evs => rfl
    | more evs st' =>
      rw [hstep] at hs
      simp only
      have hmu := step_mu hr st hi hstep
      exact ih st' hs.1 (by omega)

theorem initLayers_dropped (cx : Ctx) (top : List Nat) :
    Keyed.Dropped sortKey (top.filterMap (mkLayer cx)) (initLayers cx top) := by
  unfold initLayers
  split
  · cases top.filterMap (mkLayer cx) with
    | nil => exact .refl _
    | cons l0 r => exact (Keyed.Dropped.of_perm (List.perm_append_singleton l0 r).symm).trans (fold_insertLayer_dropped r [l0])
  · exact .refl _

end TsVerif.C17.Full
