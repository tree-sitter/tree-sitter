import TsVerif.C17.Judge
/-!
# C17 helper lemmas: the HTML renderer read back

The renderer invariant `Inv st t`: stripping the tags from the html written so far gives the escaped form of
the text `t` rendered so far, outside a tag, and a remembered carriage-return offset lies outside a tag.
Every write of the renderer is either escaped text or `Neutral` (whole tags), so the invariant passes through
`add_text`, `add_carriage_return`, `start_highlight`, `end_highlight` and the final newline.
-/
namespace TsVerif.C17

@[simp] theorem html_push (st : RState) (bs : Bytes) : (st.push bs).html = st.html ++ bs := by
  simp [RState.html, RState.push]

@[simp] theorem lastCR_push (st : RState) (bs : Bytes) : (st.push bs).lastCR = st.lastCR := rfl

theorem html_insertAt (st : RState) (off : Nat) (ins : Bytes) :
    (st.insertAt off ins).html = st.html.take off ++ ins ++ st.html.drop off := by
  simp [RState.html, RState.insertAt, List.take_reverse, List.drop_reverse]

@[simp] theorem lastCR_insertAt (st : RState) (off : Nat) (ins : Bytes) :
    (st.insertAt off ins).lastCR = st.lastCR := rfl

theorem strip_append (s : Bool) (a b : Bytes) : strip s (a ++ b) = strip s a ++ strip (endSt s a) b := by
  induction a generalizing s with
  | nil => simp [strip, endSt]
  | cons c r ih =>
    cases s <;> simp only [List.cons_append, strip, endSt] <;> split <;> simp [ih]

theorem endSt_append (s : Bool) (a b : Bytes) : endSt s (a ++ b) = endSt (endSt s a) b := by
  induction a generalizing s with
  | nil => simp [endSt]
  | cons c r ih =>
    cases s <;> simp only [List.cons_append, endSt] <;> split <;> simp [ih]

theorem strip_true_body (body rest : Bytes) (h : 62 ∉ body) :
    strip true (body ++ 62 :: rest) = strip false rest := by
  induction body with
  | nil => simp [strip]
  | cons c r ih =>
    have hc : c ≠ 62 := by intro e; apply h; simp [e]
    have hr : 62 ∉ r := by intro e; apply h; simp [e]
    simp [strip, hc, ih hr]

theorem endSt_true_body (body rest : Bytes) (h : 62 ∉ body) :
    endSt true (body ++ 62 :: rest) = endSt false rest := by
  induction body with
  | nil => simp [endSt]
  | cons c r ih =>
    have hc : c ≠ 62 := by intro e; apply h; simp [e]
    have hr : 62 ∉ r := by intro e; apply h; simp [e]
    simp [endSt, hc, ih hr]

def Neutral (xs : Bytes) : Prop := strip false xs = [] ∧ endSt false xs = false

theorem Neutral.nil : Neutral [] := by simp [Neutral, strip, endSt]

theorem Neutral.append {a b : Bytes} (ha : Neutral a) (hb : Neutral b) : Neutral (a ++ b) := by
  constructor
  · rw [strip_append, ha.1, ha.2, hb.1]; rfl
  · rw [endSt_append, ha.2, hb.2]

theorem Neutral.flatMap {α : Type} (l : List α) (f : α → Bytes) (h : ∀ a, Neutral (f a)) :
    Neutral (l.flatMap f) := by
  induction l with
  | nil => exact Neutral.nil
  | cons a r ih => simpa [List.flatMap_cons] using (h a).append ih

theorem Neutral.insert {x : Bytes} (hn : Neutral x) (a b : Bytes) (ha : endSt false a = false) :
    strip false (a ++ x ++ b) = strip false (a ++ b) ∧ endSt false (a ++ x ++ b) = endSt false (a ++ b) := by
  simp only [List.append_assoc, strip_append, endSt_append, ha, hn.1, hn.2, List.nil_append, and_self]

theorem neutral_spanClose : Neutral spanClose := by
  constructor <;> decide

theorem neutral_tag (body : Bytes) (h : 62 ∉ body) : Neutral (60 :: (body ++ [62])) :=
  ⟨strip_true_body body [] h, endSt_true_body body [] h⟩

theorem neutral_spanOpen (cfg : RCfg) (h : Nat) (hattr : 62 ∉ cfg.attr h) : Neutral (spanOpen cfg h) := by
  show Neutral (60 :: ([115, 112, 97, 110, 32] ++ cfg.attr h ++ [62]))
  refine neutral_tag _ ?_
  simp only [List.mem_append, not_or]
  exact ⟨by decide, hattr⟩

theorem neutral_crSpan (cfg : RCfg) (h : Nat) (hattr : 62 ∉ cfg.attr h) : Neutral (crSpan cfg h) := by
  have : crSpan cfg h = spanOpen cfg h ++ spanClose := by simp [crSpan, spanOpen]
  rw [this]; exact (neutral_spanOpen cfg h hattr).append neutral_spanClose

/-- Facts about the five entities are checked by evaluation. -/
theorem esc_cases (c : Nat) : c ∈ [62, 60, 38, 39, 34] ∨ (c ≠ 60 ∧ c ≠ 38 ∧ esc c = [c]) := by
  by_cases h : c ∈ [62, 60, 38, 39, 34]
  · exact .inl h
  · simp only [List.mem_cons, List.not_mem_nil, or_false, not_or] at h
    exact .inr ⟨h.2.1, h.2.2.1, by simp [esc, htmlEscape, h]⟩

theorem strip_esc (c : Nat) : strip false (esc c) = esc c ∧ endSt false (esc c) = false := by
  rcases esc_cases c with h | ⟨h60, _, he⟩
  · exact (by decide : ∀ c ∈ [62, 60, 38, 39, 34], strip false (esc c) = esc c ∧ endSt false (esc c) = false) c h
  · rw [he]; simp [strip, endSt, h60]

theorem esc_ne_nil (c : Nat) : esc c ≠ [] := by
  rcases esc_cases c with h | ⟨_, _, he⟩
  · exact (by decide : ∀ c ∈ [62, 60, 38, 39, 34], esc c ≠ []) c h
  · rw [he]; exact nofun

theorem getLast?_append_ne_nil (a b : Bytes) (h : b ≠ []) : (a ++ b).getLast? = b.getLast? := by
  cases b with
  | nil => contradiction
  | cons x r =>
    rw [List.getLast?_append, List.getLast?_eq_some_getLast (List.cons_ne_nil x r)]; rfl

theorem esc_getLast_nl (c : Nat) (h : (esc c).getLast? = some 10) : c = 10 := by
  rcases esc_cases c with hm | ⟨_, _, he⟩
  · exact absurd h ((by decide : ∀ c ∈ [62, 60, 38, 39, 34], (esc c).getLast? ≠ some 10) c hm)
  · rw [he] at h; simpa using h

theorem unescapeAux_esc (c : Nat) (r : Bytes) : unescapeAux 0 (esc c ++ r) = c :: unescapeAux 0 r := by
  rcases esc_cases c with hm | ⟨_, h38, he⟩
  · simp only [List.mem_cons, List.not_mem_nil, or_false] at hm
    rcases hm with rfl | rfl | rfl | rfl | rfl <;> rfl
  · rw [he]; simp [unescapeAux, h38]

theorem unescape_flatMap_esc (t : Bytes) : unescape (t.flatMap esc) = t := by
  induction t with
  | nil => rfl
  | cons c r ih =>
    simp only [List.flatMap_cons, unescape] at *
    rw [unescapeAux_esc, ih]

theorem flatMap_esc_ends_nl (t u : Bytes) (h : t.flatMap esc = u ++ [10]) : t.getLast? = some 10 := by
  rcases List.eq_nil_or_concat t with rfl | ⟨t', c, rfl⟩
  · simp at h
  · have h2 : (esc c).getLast? = some 10 := by
      have h' : t'.flatMap esc ++ esc c = u ++ [10] := by simpa [List.flatMap_append] using h
      have := congrArg List.getLast? h'
      rw [getLast?_append_ne_nil _ _ (esc_ne_nil c)] at this
      simpa using this
    have := esc_getLast_nl c h2
    simp [this]

structure Inv (st : RState) (t : Bytes) : Prop where
  text : strip false st.html = t.flatMap esc
  closed : endSt false st.html = false
  cr : ∀ off, st.lastCR = some off → off ≤ st.html.length ∧ endSt false (st.html.take off) = false

theorem inv_push {st : RState} {t : Bytes} (hi : Inv st t) (xs ys : Bytes)
    (hx : strip false xs = ys.flatMap esc) (hc : endSt false xs = false) : Inv (st.push xs) (t ++ ys) := by
  constructor
  · rw [html_push, strip_append, hi.closed, hi.text, hx, List.flatMap_append]
  · rw [html_push, endSt_append, hi.closed, hc]
  · intro off ho
    rw [lastCR_push] at ho
    obtain ⟨h1, h2⟩ := hi.cr off ho
    rw [html_push]
    constructor
    · simp; omega
    · rw [List.take_append_of_le_length h1]; exact h2

theorem inv_push_neutral {st : RState} {t : Bytes} (hi : Inv st t) (xs : Bytes) (hn : Neutral xs) :
    Inv (st.push xs) t := by
  have := inv_push hi xs [] (by simpa using hn.1) hn.2
  simpa using this

theorem inv_push_esc {st : RState} {t : Bytes} (hi : Inv st t) (c : Nat) :
    Inv (st.push (esc c)) (t ++ [c]) :=
  inv_push hi (esc c) [c] (by simp [(strip_esc c).1]) (strip_esc c).2

theorem inv_clearCR {st : RState} {t : Bytes} (hi : Inv st t) : Inv { st with lastCR := none } t := by
  constructor
  · exact hi.text
  · exact hi.closed
  · intro off h; simp at h

theorem esc_nl : esc 10 = [10] := by decide

theorem inv_lineOffsets {st : RState} {t : Bytes} (hi : Inv st t) (lo : List Nat) :
    Inv { st with lineOffsets := lo } t := ⟨hi.text, hi.closed, hi.cr⟩

theorem inv_addNewline (cfg : RCfg) (hattr : ∀ h, 62 ∉ cfg.attr h) (hl : List Nat) {st : RState} {t : Bytes}
    (hi : Inv st t) : Inv (addNewline cfg hl st) (t ++ [10]) := by
  unfold addNewline
  have a1 := inv_push_neutral hi (hl.flatMap fun _ => spanClose)
    (Neutral.flatMap _ _ fun _ => neutral_spanClose)
  have a2 := inv_push a1 [10] [10] (by decide) (by decide)
  exact inv_push_neutral (inv_lineOffsets a2 _) _ (Neutral.flatMap _ _ fun h => neutral_spanOpen cfg h (hattr h))

theorem addPlain_eq (st : RState) (c : Nat) : addPlain st c = st.push (esc c) := by
  unfold addPlain esc
  cases htmlEscape c <;> rfl

theorem inv_markCR {st : RState} {t : Bytes} (hi : Inv st t) : Inv { st with lastCR := some st.rhtml.length } t := by
  refine ⟨hi.text, hi.closed, fun off ho => ?_⟩
  cases ho
  show st.rhtml.length ≤ st.html.length ∧ endSt false (st.html.take st.rhtml.length) = false
  rw [← List.length_reverse, ← RState.html, List.take_length]
  exact ⟨Nat.le_refl _, hi.closed⟩

def evText (dec : Bytes → Bytes) (src : Bytes) : Ev → Bytes
  | .source s e => (dec (sliceT src s e)).filter (· ≠ 13)
  | _ => []

/-- The seven ways in which the renderer changes its state.  An invariant `I st t` (`t` = the text, i.e. the CR-free
decoded bytes, written so far) that survives these survives `add_text`, the event loop of `render` and the final
carriage-return flush. -/
structure Writes (cfg : RCfg) (I : RState → Bytes → Prop) : Prop where
  close : ∀ {st t}, I st t → I (st.push spanClose) t
  opn : ∀ {st t} (h : Nat), I st t → I (st.push (spanOpen cfg h)) t
  esc : ∀ {st t} (c : Nat), c ≠ 10 → I st t → I (st.push (esc c)) (t ++ [c])
  newline : ∀ {st t} (hl : List Nat), st.lastCR = none → I st t → I (addNewline cfg hl st) (t ++ [10])
  mark : ∀ {st t}, I st t → I { st with lastCR := some st.rhtml.length } t
  clear : ∀ {st t}, I st t → I { st with lastCR := none } t
  insert : ∀ {st t off} (h : Nat), st.lastCR = some off → I st t →
    I (RState.insertAt { st with lastCR := none } off (crSpan cfg h)) t

theorem lastCR_addCR (cfg : RCfg) (st : RState) (off : Nat) : (addCR cfg st off).lastCR = st.lastCR := by
  unfold addCR; cases cfg.crh <;> rfl

theorem lastCR_resolveCR (cfg : RCfg) (st : RState) (c : Nat) : (resolveCR cfg st c).lastCR = none := by
  unfold resolveCR
  cases ho : st.lastCR with
  | none => exact ho
  | some off =>
    simp only
    split
    · exact lastCR_addCR _ _ _
    · rfl

namespace Writes
variable {cfg : RCfg} {I : RState → Bytes → Prop} (W : Writes cfg I) {st : RState} {t : Bytes}
include W

theorem addCR {off : Nat} (ho : st.lastCR = some off) (hi : I st t) : I (addCR cfg { st with lastCR := none } off) t := by
  unfold TsVerif.C17.addCR
  cases cfg.crh with
  | none => exact W.clear hi
  | some h => exact W.insert h ho hi

theorem resolveCR (c : Nat) (hi : I st t) : I (resolveCR cfg st c) t := by
  unfold TsVerif.C17.resolveCR
  cases ho : st.lastCR with
  | none => exact hi
  | some off =>
    simp only
    split
    · exact W.addCR ho hi
    · exact W.clear hi

theorem finishCR (hi : I st t) : I (finishCR cfg st) t := by
  unfold TsVerif.C17.finishCR
  cases ho : st.lastCR with
  | none => exact hi
  | some off => exact W.addCR ho hi

theorem addByte (hl : List Nat) (c : Nat) (hi : I st t) : I (addByte cfg hl st c) (t ++ [c].filter (· ≠ 13)) := by
  unfold TsVerif.C17.addByte
  by_cases h13 : c = 13
  · subst h13
    rw [if_pos rfl, show [13].filter (· ≠ 13) = [] from rfl, List.append_nil]
    split
    · exact W.mark (W.finishCR hi)
    · exact W.mark hi
  · rw [if_neg h13, show [c].filter (· ≠ 13) = [c] by simp [h13]]
    have hi1 := W.resolveCR c hi
    by_cases h10 : c = 10
    · subst h10; rw [if_pos rfl]; exact W.newline hl (lastCR_resolveCR cfg st 10) hi1
    · rw [if_neg h10, addPlain_eq]; exact W.esc c h10 hi1

theorem addText (dec : Bytes → Bytes) (hl : List Nat) (chunk : Bytes) (hi : I st t) :
    I (addText dec cfg hl st chunk) (t ++ (dec chunk).filter (· ≠ 13)) := by
  unfold TsVerif.C17.addText
  generalize dec chunk = bs
  induction bs generalizing st t with
  | nil => simpa using hi
  | cons c r ih =>
    have := ih (W.addByte hl c hi)
    rwa [List.append_assoc, ← List.filter_append] at this

theorem fold (dec : Bytes → Bytes) (src : Bytes) (evs : List Ev) {p : RState × List Nat} (hi : I p.1 t) :
    I (evs.foldl (renderEv dec cfg src) p).1 (t ++ evs.flatMap (evText dec src)) := by
  induction evs generalizing p t with
  | nil => simpa using hi
  | cons ev r ih =>
    rw [List.foldl_cons, List.flatMap_cons, ← List.append_assoc]
    refine ih ?_
    cases ev with
    | source s e => exact W.addText dec p.2 _ hi
    | start h => simpa [renderEv, evText] using W.opn h hi
    | stop => simpa [renderEv, evText] using W.close hi

end Writes

/-- The late insertion of `<span …></span>` at a remembered carriage return is text-neutral: the offset is a tag boundary. -/
theorem inv_writes (cfg : RCfg) (hattr : ∀ h, 62 ∉ cfg.attr h) : Writes cfg Inv where
  close hi := inv_push_neutral hi _ neutral_spanClose
  opn h hi := inv_push_neutral hi _ (neutral_spanOpen cfg h (hattr h))
  esc c _ hi := inv_push_esc hi c
  newline hl _ hi := inv_addNewline cfg hattr hl hi
  mark hi := inv_markCR hi
  clear hi := inv_clearCR hi
  insert {st t off} h ho hi := by
    obtain ⟨_, h2⟩ := hi.cr off ho
    have hhtml : (RState.insertAt { st with lastCR := none } off (crSpan cfg h)).html
        = st.html.take off ++ crSpan cfg h ++ st.html.drop off := html_insertAt _ _ _
    obtain ⟨e1, e2⟩ := (neutral_crSpan cfg h (hattr h)).insert _ (st.html.drop off) h2
    rw [List.take_append_drop] at e1 e2
    exact ⟨by rw [hhtml, e1]; exact hi.text, by rw [hhtml, e2]; exact hi.closed, nofun⟩

theorem textOf_eq (dec : Bytes → Bytes) (evs : List Ev) (src : Bytes) :
    textOf dec evs src = evs.flatMap (evText dec src) := by
  unfold textOf decoded
  induction evs with
  | nil => rfl
  | cons ev r ih =>
    simp only [List.flatMap_cons, List.filter_append, ih]
    cases ev <;> simp [evText]

theorem html_finishOffsets (st : RState) : (finishOffsets st).html = st.html := by
  unfold finishOffsets; split <;> rfl

theorem htmlText_finish (cfg : RCfg) (hattr : ∀ h, 62 ∉ cfg.attr h) {st : RState} {t : Bytes} (hi : Inv st t) :
    htmlText (renderFinish cfg st).html = t ++ [10] ∨
    (htmlText (renderFinish cfg st).html = t ∧ t.getLast? = some 10) := by
  unfold renderFinish
  rw [html_finishOffsets]
  have hi1 := (inv_writes cfg hattr).finishCR hi
  generalize finishCR cfg st = st1 at hi1 ⊢
  unfold finishNewline
  by_cases hh : st1.rhtml.head? ≠ some 10
  · rw [if_pos hh]
    left
    have := inv_push hi1 [10] [10] (by decide) (by decide)
    unfold htmlText stripTags
    rw [this.text, unescape_flatMap_esc]
  · rw [if_neg hh]
    right
    have hh' : st1.rhtml.head? = some 10 := by simpa using hh
    obtain ⟨r', hr⟩ := List.head?_eq_some_iff.mp hh'
    have hhtml : st1.html = r'.reverse ++ [10] := by simp [RState.html, hr]
    have hcl : endSt false r'.reverse = false := by
      have := hi1.closed
      rw [hhtml, endSt_append] at this
      cases hc : endSt false r'.reverse with
      | false => rfl
      | true => rw [hc] at this; simp [endSt] at this
    have htx : t.flatMap esc = strip false r'.reverse ++ [10] := by
      rw [← hi1.text, hhtml, strip_append, hcl]; rfl
    constructor
    · unfold htmlText stripTags
      rw [hi1.text, unescape_flatMap_esc]
    · exact flatMap_esc_ends_nl t _ htx

/-- For EVERY event stream, decoder and source, and every attribute callback that never writes `>`: the HTML with tags removed and entities decoded is
the decoded text of the `Source` chunks with carriage returns dropped, plus the final newline. -/
theorem render_roundtrip_gen (dec : Bytes → Bytes) (cfg : RCfg) (hattr : ∀ h, 62 ∉ cfg.attr h)
    (evs : List Ev) (src : Bytes) : judgeHtml dec evs src (renderT dec cfg evs src).html = true := by
  have hi : Inv (evs.foldl (renderEv dec cfg src) ({}, [])).1 (textOf dec evs src) := by
    have := (inv_writes cfg hattr).fold dec src evs (p := ({}, [])) (t := []) ⟨rfl, rfl, nofun⟩
    simpa [textOf_eq] using this
  unfold judgeHtml renderT
  rcases htmlText_finish cfg hattr hi with h | ⟨h1, h2⟩
  · simp [h]
  · simp [h1, h2]

end TsVerif.C17
