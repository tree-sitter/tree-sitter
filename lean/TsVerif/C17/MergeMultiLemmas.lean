import TsVerif.C17.Keyed
import TsVerif.C17.MergeLemmas
/-!
# C17 helper lemmas: the multi-layer merge yields a well-formed stream when it finishes, and finishes within its measure

`sort_layers` / `insert_layer` of this model are those of `Keyed.lean`; one iteration of `stepM` by cases (`StepCase`, `stepM_case`).
-/
namespace TsVerif.C17
open Keyed (Dropped)

def totalEnds : List MLayer → Nat
  | [] => 0
  | l :: r => l.ends.length + totalEnds r

def LayerOk (n : Nat) (l : MLayer) : Prop :=
  (∀ eb ∈ l.ends, eb ≤ n) ∧ (∀ c ∈ l.caps, c.s ≤ n ∧ c.e ≤ n)

def DefsOk (n : Nat) (defs : List LayerDef) : Prop := ∀ d ∈ defs, ∀ c ∈ d.caps, c.s ≤ n ∧ c.e ≤ n

theorem sortKey_none {l : MLayer} (h : sortKey l = none) : l.caps = [] ∧ l.ends = [] := by
  revert h
  fun_cases sortKey l with
  | case5 he hc => exact fun _ => ⟨hc, he⟩
  | _ => exact nofun

theorem leadCount_eq (k : Key) (ls : List MLayer) : leadCount k ls = Keyed.leadCount sortKey k ls := by
  induction ls with
  | nil => rfl
  | cons l r ih => rw [leadCount, Keyed.leadCount, ih]; rfl

theorem sortLayers_eq (ls : List MLayer) : sortLayers ls = Keyed.sortLayers sortKey ls := by
  induction ls with
  | nil => rfl
  | cons l r ih => simp only [sortLayers, Keyed.sortLayers, ih, leadCount_eq]; rfl

theorem insGo_eq (k : Key) (nl : MLayer) (ls : List MLayer) : insGo k nl ls = Keyed.insGo sortKey k nl ls := by
  induction ls with
  | nil => rfl
  | cons l r ih => rw [insGo, Keyed.insGo, ih]; rfl

theorem insertLayer_eq (ls : List MLayer) (nl : MLayer) : insertLayer ls nl = Keyed.insertLayer sortKey ls nl := by
  unfold insertLayer Keyed.insertLayer
  cases sortKey nl with
  | none => rfl
  | some k => cases ls <;> simp only [insGo_eq]

theorem foldl_insertById (defs : List LayerDef) (ids : List Nat) (ls : List MLayer) :
    ids.foldl (insertById defs) ls = (ids.filterMap (mkLayer defs)).foldl insertLayer ls := by
  induction ids generalizing ls with
  | nil => rfl
  | cons j r ih =>
    rw [List.foldl_cons, ih, insertById, List.filterMap_cons]
    cases mkLayer defs j <;> rfl

theorem sortLayers_dropped (ls : List MLayer) : Dropped sortKey ls (sortLayers ls) :=
  sortLayers_eq ls ▸ Keyed.sortLayers_dropped ls

theorem insertLayer_dropped (ls : List MLayer) (nl : MLayer) : Dropped sortKey (nl :: ls) (insertLayer ls nl) :=
  insertLayer_eq ls nl ▸ Keyed.insertLayer_dropped ls nl

theorem fold_insertLayer_dropped (news ls : List MLayer) : Dropped sortKey (news ++ ls) (news.foldl insertLayer ls) := by
  have : insertLayer = Keyed.insertLayer sortKey := funext fun ls => funext (insertLayer_eq ls)
  exact this ▸ Keyed.foldl_insertLayer_dropped news ls

theorem fold_insertById_dropped (defs : List LayerDef) (ids : List Nat) (ls : List MLayer) :
    Dropped sortKey (ids.filterMap (mkLayer defs) ++ ls) (ids.foldl (insertById defs) ls) :=
  foldl_insertById defs ids ls ▸ fold_insertLayer_dropped _ ls

theorem initLayersR_dropped (defs : List LayerDef) (top : List Nat) :
    Dropped sortKey (top.filterMap (mkLayer defs)) (initLayersR defs top) := by
  unfold initLayersR
  cases top.filterMap (mkLayer defs) with
  | nil => exact .refl _
  | cons l0 r =>
    exact ((Dropped.of_perm (List.perm_append_singleton l0 r).symm).trans (fold_insertLayer_dropped r [l0])).trans
      (sortLayers_dropped _)

theorem mem_initLayersR {defs : List LayerDef} {top : List Nat} {y : MLayer} (h : y ∈ initLayersR defs top) :
    ∃ j ∈ top, mkLayer defs j = some y :=
  List.mem_filterMap.mp ((initLayersR_dropped defs top).mem h)

theorem sumW_eq (f : MLayer → Nat) (ls : List MLayer) : sumW f ls = (ls.map f).sum := by
  induction ls with
  | nil => rfl
  | cons l r ih => rw [sumW, ih, List.map_cons, List.sum_cons]

theorem sumW_dropped {f : MLayer → Nat} (hf : ∀ l, sortKey l = none → f l = 0) {xs ys : List MLayer}
    (h : Dropped sortKey xs ys) : sumW f ys = sumW f xs := by
  rw [sumW_eq, sumW_eq, h.sum f hf]

theorem totalEnds_eq (ls : List MLayer) : totalEnds ls = sumW (·.ends.length) ls := by
  induction ls with
  | nil => rfl
  | cons l r ih => rw [totalEnds, ih, sumW]

theorem totalEnds_dropped {xs ys : List MLayer} (h : Dropped sortKey xs ys) : totalEnds ys = totalEnds xs := by
  rw [totalEnds_eq, totalEnds_eq, sumW_dropped (fun l hl => by rw [(sortKey_none hl).2]; rfl) h]

theorem totalEnds_sortLayers (ls : List MLayer) : totalEnds (sortLayers ls) = totalEnds ls :=
  totalEnds_dropped (sortLayers_dropped ls)

theorem mem_sortLayers {ls : List MLayer} {l : MLayer} (h : l ∈ sortLayers ls) : l ∈ ls :=
  (sortLayers_dropped ls).mem h

theorem head_sortLayers (ls : List MLayer) (l : MLayer) (r : List MLayer) (h : sortLayers ls = l :: r) :
    sortKey l ≠ none :=
  Keyed.head_sortLayers (sortLayers_eq ls ▸ h)

theorem totalEnds_insertLayer (ls : List MLayer) (nl : MLayer) (hn : nl.ends = []) :
    totalEnds (insertLayer ls nl) = totalEnds ls := by
  rw [totalEnds_dropped (insertLayer_dropped ls nl), totalEnds, hn]
  exact Nat.zero_add _

theorem mkLayer_some {defs : List LayerDef} {j : Nat} {y : MLayer} (h : mkLayer defs j = some y) :
    ∃ d, defs[j]? = some d ∧ y = ⟨d.depth, d.caps, [], j⟩ := by
  obtain ⟨d, hd, rfl⟩ := Option.map_eq_some_iff.mp h
  exact ⟨d, hd, rfl⟩

theorem mem_fold_insertById {defs : List LayerDef} {ids : List Nat} {ls : List MLayer} {y : MLayer}
    (h : y ∈ ids.foldl (insertById defs) ls) : y ∈ ls ∨ ∃ j ∈ ids, mkLayer defs j = some y := by
  rcases List.mem_append.mp ((fold_insertById_dropped defs ids ls).mem h) with h | h
  · exact .inr (List.mem_filterMap.mp h)
  · exact .inl h

theorem mkLayer_ok {n : Nat} {defs : List LayerDef} (hd : DefsOk n defs) {id : Nat} {nl : MLayer}
    (h : mkLayer defs id = some nl) : nl.ends = [] ∧ LayerOk n nl := by
  obtain ⟨d, hg, rfl⟩ := mkLayer_some h
  exact ⟨rfl, nofun, hd d (List.mem_of_getElem? hg)⟩

theorem totalEnds_fresh (defs : List LayerDef) (ids : List Nat) (ls : List MLayer) :
    totalEnds (ids.filterMap (mkLayer defs) ++ ls) = totalEnds ls := by
  induction ids with
  | nil => rfl
  | cons j r ih =>
    rw [List.filterMap_cons]
    cases hm : mkLayer defs j with
    | none => exact ih
    | some nl =>
      obtain ⟨_, _, rfl⟩ := mkLayer_some hm
      rw [List.cons_append, totalEnds, ih]
      exact Nat.zero_add _

theorem fold_insert_ok {n : Nat} {defs : List LayerDef} (hd : DefsOk n defs) (ids : List Nat) (ls : List MLayer)
    (h : ∀ l ∈ ls, LayerOk n l) :
    totalEnds (ids.foldl (insertById defs) ls) = totalEnds ls ∧
      ∀ l ∈ ids.foldl (insertById defs) ls, LayerOk n l := by
  refine ⟨by rw [totalEnds_dropped (fold_insertById_dropped defs ids ls), totalEnds_fresh], fun l hl => ?_⟩
  rcases mem_fold_insertById hl with hl | ⟨j, _, hm⟩
  · exact h l hl
  · exact (mkLayer_ok hd hm).2

theorem collapse_isSuffix (node : Nat) (h : Option Nat) (caps : List RCap) : (collapse node h caps).2 <:+ caps := by
  fun_induction collapse node h caps with
  | case1 | case3 => exact List.suffix_refl _
  | case2 _ _ _ _ ih => exact ih.trans (List.suffix_cons _ _)

theorem collapse_suffix (node : Nat) : ∀ (caps : List RCap) (h : Option Nat),
    ∃ mid, caps = mid ++ (collapse node h caps).2 :=
  fun caps h => let ⟨m, hm⟩ := collapse_isSuffix node h caps; ⟨m, hm.symm⟩

theorem mem_collapse {node : Nat} {h : Option Nat} {caps : List RCap} {c : RCap}
    (hc : c ∈ (collapse node h caps).2) : c ∈ caps :=
  (collapse_isSuffix node h caps).subset hc

theorem collapse_fst_some {node hh : Nat} : ∀ (caps : List RCap) (h : Option Nat),
    (collapse node h caps).1 = some hh → h = some hh ∨ ∃ c' ∈ caps, c'.node = node ∧ c'.kind = .hl (some hh) := by
  intro caps
  induction caps with
  | nil => intro h hc; exact Or.inl (by simpa [collapse] using hc)
  | cons x r ih =>
    intro h hc
    unfold collapse at hc
    by_cases hx : x.node = node
    · simp only [hx, if_true] at hc
      rcases ih _ hc with h1 | ⟨c', h1, h2, h3⟩
      · refine Or.inr ⟨x, List.mem_cons_self, hx, ?_⟩
        cases hk : x.kind with
        | hl h' => rw [hk] at h1; simp only at h1; rw [h1]
        | inj ids => rw [hk] at h1; simp at h1
      · exact Or.inr ⟨c', List.mem_cons_of_mem _ h1, h2, h3⟩
    · simp only [hx, if_false] at hc
      exact Or.inl hc

theorem emitM_eq (off t : Nat) (ev : Ev) : emitM off t ev = (emitEv off t ev, max off t) := by
  unfold emitM emitEv
  split
  · rw [Nat.max_eq_right (Nat.le_of_lt ‹_›)]
  · rw [Nat.max_eq_left (Nat.le_of_not_lt ‹_›)]

theorem emitM_le {n off t : Nat} (ev : Ev) (ho : off ≤ n) (ht : t ≤ n) : (emitM off t ev).2 ≤ n := by
  rw [emitM_eq]; exact Nat.max_le.mpr ⟨ho, ht⟩

theorem wf_pop {n off t d : Nat} {rest : List Ev} (ht : t ≤ n)
    (h : wellFormedFrom n (emitM off t .stop).2 d rest = true) :
    wellFormedFrom n off (d + 1) ((emitM off t .stop).1 ++ rest) = true := by
  rw [emitM_eq] at h ⊢
  exact wf_stop ht h

theorem wf_push {n off t d hh : Nat} {rest : List Ev} (ht : t ≤ n)
    (h : wellFormedFrom n (emitM off t (.start hh)).2 (d + 1) rest = true) :
    wellFormedFrom n off d ((emitM off t (.start hh)).1 ++ rest) = true := by
  rw [emitM_eq] at h ⊢
  exact wf_start ht h

/-- Under which every iteration keeps the stream well formed: offset, open ends and capture bounds inside the source, and a
first layer with a sort key — so the `emit_event(source.len(), None)` of a key-less first layer, which would cut the stream
short while other layers still have events, is unreachable. -/
structure SInv (n : Nat) (st : MSt) : Prop where
  offn : st.off ≤ n
  lok : ∀ l ∈ st.layers, LayerOk n l
  head : ∀ l r, st.layers = l :: r → sortKey l ≠ none

/-- What an iteration owes: the nesting depth of the stream so far is `totalEnds` (one open `Start` per end on some
layer's stack), so a stream that is well formed from the next state at that depth is well formed from this one with the
iteration's events in front. -/
def StepOk (n : Nat) (st : MSt) : StepRes → Prop
  | .done evs => wellFormedFrom n st.off (totalEnds st.layers) evs = true
  | .more evs st' => SInv n st' ∧ ∀ rest, wellFormedFrom n st'.off (totalEnds st'.layers) rest = true →
      wellFormedFrom n st.off (totalEnds st.layers) (evs ++ rest) = true

theorem sinv_sorted {n off : Nat} {last : Option (Nat × Nat × Nat)} {X : List MLayer} (ho : off ≤ n)
    (hX : ∀ l ∈ X, LayerOk n l) : SInv n { layers := sortLayers X, off := off, last := last } :=
  { offn := ho
    lok := fun l hl => hX l (mem_sortLayers hl)
    head := fun l r h => head_sortLayers X l r h }

theorem defsOk_of_defsIn {n : Nat} {defs : List LayerDef} (hd : defsIn n defs = true) : DefsOk n defs := by
  intro d hdm c hc
  simpa using List.all_eq_true.mp (List.all_eq_true.mp hd d hdm) c hc

theorem sinv_init {n : Nat} {defs : List LayerDef} (hd : DefsOk n defs) (top : List Nat) :
    SInv n { layers := sortLayers (top.filterMap (mkLayer defs)) } :=
  sinv_sorted (Nat.zero_le _) fun _ hl =>
    let ⟨_, _, hm⟩ := List.mem_filterMap.mp hl
    (mkLayer_ok hd hm).2

theorem sinv_initR {n : Nat} {defs : List LayerDef} (hd : DefsOk n defs) (top : List Nat) :
    SInv n { layers := initLayersR defs top } where
  offn := Nat.zero_le _
  lok _ hl :=
    let ⟨_, _, hm⟩ := mem_initLayersR hl
    (mkLayer_ok hd hm).2
  head l r h := by
    unfold initLayersR at h
    split at h
    · cases h
    · exact head_sortLayers _ l r h

theorem action_spec (l : MLayer) : match action l with
    | .final => sortKey l = none
    | .pop eb ends' => l.ends = eb :: ends' ∧ sortKey l = some (eb, false, l.depth)
    | .take c caps' => l.caps = c :: caps' ∧ sortKey l = some (c.s, true, l.depth) := by
  unfold sortKey
  fun_cases action l with
  | case1 he hc => rw [hc, he]
  | case2 eb ends' he hc => rw [hc, he]; exact ⟨rfl, rfl⟩
  | case3 c caps' he hc => rw [hc, he]; exact ⟨rfl, rfl⟩
  | case4 c caps' eb ends' he hc hle => rw [hc, he]; exact ⟨rfl, if_neg (Nat.not_lt.mpr hle)⟩
  | case5 c caps' eb ends' he hc hle => rw [hc, he]; exact ⟨rfl, if_pos (Nat.lt_of_not_le hle)⟩

/-- The cases of one iteration on a state whose first layer is `l`, with the events it yields and the state it leaves.
Every case names the field of `l` it consumes and the sort key `l` had. -/
inductive StepCase (defs : List LayerDef) (n : Nat) (st : MSt) (l : MLayer) (rest : List MLayer) : StepRes → Prop
  | finish (hk : sortKey l = none) (hge : ¬ st.off < n) : StepCase defs n st l rest (.done [])
  | final (hk : sortKey l = none) (hlt : st.off < n) :
      StepCase defs n st l rest (.more [.source st.off n] { st with off := n, layers := sortLayers (l :: rest) })
  | pop {eb : Nat} {ends' : List Nat} (he : l.ends = eb :: ends') (hk : sortKey l = some (eb, false, l.depth)) :
      StepCase defs n st l rest (stepPop st l rest eb ends')
  | inj {c : RCap} {caps' : List RCap} {ids : List Nat} (hc : l.caps = c :: caps')
      (hk : sortKey l = some (c.s, true, l.depth)) (hkind : c.kind = .inj ids) :
      StepCase defs n st l rest (stepInj defs st { l with caps := caps' } rest ids)
  | skip {c : RCap} {caps' cs : List RCap} (hc : l.caps = c :: caps') (hk : sortKey l = some (c.s, true, l.depth))
      (hs : cs <:+ caps') : StepCase defs n st l rest (stepSkip st { l with caps := cs } rest)
  | start {c : RCap} {caps' : List RCap} {h : Option Nat} {hh : Nat} (hc : l.caps = c :: caps')
      (hk : sortKey l = some (c.s, true, l.depth)) (hkind : c.kind = .hl h)
      (hcol : (collapse c.node h caps').1 = some hh) :
      StepCase defs n st l rest (stepStart st l rest c hh (collapse c.node h caps').2)

theorem stepM_case (defs : List LayerDef) (n : Nat) (st : MSt) (l : MLayer) (rest : List MLayer)
    (hl : st.layers = l :: rest) : StepCase defs n st l rest (stepM defs n st) := by
  unfold stepM
  rw [hl]
  simp only
  have hsp := action_spec l
  cases hact : action l with
  | final =>
    rw [hact] at hsp
    simp only
    split
    · exact .final hsp ‹_›
    · exact .finish hsp ‹_›
  | pop eb ends' => rw [hact] at hsp; exact .pop hsp.1 hsp.2
  | take c caps' =>
    rw [hact] at hsp
    simp only
    cases hk : c.kind with
    | inj ids => exact .inj hsp.1 hsp.2 hk
    | hl h =>
      simp only
      split
      · exact .skip hsp.1 hsp.2 (List.suffix_refl _)
      · split
        · exact .start hsp.1 hsp.2 hk ‹_›
        · exact .skip hsp.1 hsp.2 (collapse_isSuffix _ _ _)

theorem stepM_more {defs : List LayerDef} {n : Nat} {st st' : MSt} {evs : List Ev} (h : stepM defs n st = .more evs st') :
    ∃ l rest, st.layers = l :: rest ∧ StepCase defs n st l rest (.more evs st') := by
  cases hls : st.layers with
  | nil => unfold stepM at h; rw [hls] at h; cases h
  | cons l rest => exact ⟨l, rest, rfl, h ▸ stepM_case defs n st l rest hls⟩

theorem stepM_layers {defs : List LayerDef} {n : Nat} {st st' : MSt} {evs : List Ev}
    (h : stepM defs n st = .more evs st') :
    ∃ (l : MLayer) (rest : List MLayer) (l' : MLayer) (ids : List Nat), st.layers = l :: rest ∧
      (∀ c ∈ l'.caps, c ∈ l.caps) ∧
      st'.layers = sortLayers (ids.foldl (insertById defs) (l' :: rest)) := by
  obtain ⟨l, rest, hl, hit⟩ := stepM_more h
  cases hit with
  | final => exact ⟨l, rest, l, [], hl, fun _ hc => hc, rfl⟩
  | @pop _ ends' => exact ⟨l, rest, { l with ends := ends' }, [], hl, fun _ hc => hc, rfl⟩
  | inj hc => exact ⟨l, rest, _, _, hl, fun x hx => hc ▸ List.mem_cons_of_mem _ hx, rfl⟩
  | skip hc _ hs => exact ⟨l, rest, _, [], hl, fun x hx => hc ▸ List.mem_cons_of_mem _ (hs.subset hx), rfl⟩
  | start hc => exact ⟨l, rest, _, [], hl, fun x hx => hc ▸ List.mem_cons_of_mem _ (mem_collapse hx), rfl⟩

theorem stepM_done {defs : List LayerDef} {n : Nat} {st : MSt} {evs : List Ev} (h : stepM defs n st = .done evs) :
    ∀ l rest, st.layers = l :: rest → sortKey l = none := by
  intro l rest hl
  have hit := stepM_case defs n st l rest hl
  rw [h] at hit
  cases hit with
  | finish hk => exact hk

theorem iterM_invariant {defs : List LayerDef} {n : Nat} (P : MSt → Prop)
    (hstep : ∀ st st' evs, P st → stepM defs n st = .more evs st' → P st') :
    ∀ (k : Nat) (st st' : MSt), P st → iterM defs n k st = some st' → P st' := by
  intro k st st' hp h
  fun_induction iterM defs n k st with
  | case1 => cases h; exact hp
  | case2 => cases h
  | case3 _ st _ st1 hs ih => exact ih (hstep st st1 _ hp hs) h

theorem runM_iter (defs : List LayerDef) (n : Nat) : ∀ (fuel : Nat) (st : MSt), (runM defs n fuel st).2 = true →
    ∃ k st' evs, iterM defs n k st = some st' ∧ stepM defs n st' = .done evs := by
  intro fuel
  induction fuel with
  | zero => intro st h; cases h
  | succ fuel ih =>
    intro st h
    unfold runM at h
    cases hstep : stepM defs n st with
    | done evs => exact ⟨0, st, evs, rfl, hstep⟩
    | more evs st1 =>
      rw [hstep] at h
      simp only at h
      obtain ⟨k, st', evs', h1, h2⟩ := ih st1 h
      refine ⟨k + 1, st', evs', ?_, h2⟩
      unfold iterM
      rw [hstep]
      exact h1

theorem step_sound {n : Nat} {defs : List LayerDef} (hd : DefsOk n defs) (st : MSt) (hi : SInv n st) :
    StepOk n st (stepM defs n st) := by
  have hoff : st.off ≤ n := hi.offn
  cases hr : stepM defs n st with
  | done evs =>
    cases hls : st.layers with
    | cons l rest => exact absurd (stepM_done hr l rest hls) (hi.head l rest hls)
    | nil =>
      unfold stepM at hr
      rw [hls] at hr
      cases hr
      show wellFormedFrom n st.off (totalEnds st.layers) _ = true
      rw [hls]
      exact wf_final hoff
  | more evs st' =>
    obtain ⟨l, rest, hls, hit⟩ := stepM_more hr
    have hl : (∀ eb ∈ l.ends, eb ≤ n) ∧ ∀ c ∈ l.caps, c.s ≤ n ∧ c.e ≤ n := hi.lok l (hls ▸ List.mem_cons_self)
    have hrest : ∀ x ∈ rest, LayerOk n x := fun x hx => hi.lok x (hls ▸ List.mem_cons_of_mem _ hx)
    have htake : ∀ {c caps'}, l.caps = c :: caps' → (c.s ≤ n ∧ c.e ≤ n) ∧ ∀ x ∈ caps', x.s ≤ n ∧ x.e ≤ n :=
      fun hc => by
        have h2 := hl.2
        rw [hc] at h2
        exact ⟨h2 _ List.mem_cons_self, fun x hx => h2 x (List.mem_cons_of_mem _ hx)⟩
    unfold StepOk
    rw [hls]
    cases hit with
    | final hk => exact absurd hk (hi.head l rest hls)
    | pop he =>
      rw [he] at hl
      have hebn := hl.1 _ List.mem_cons_self
      refine ⟨sinv_sorted (emitM_le _ hoff hebn)
        (List.forall_mem_cons.mpr ⟨⟨fun y hy => hl.1 y (List.mem_cons_of_mem _ hy), hl.2⟩, hrest⟩), fun evs hw => ?_⟩
      rw [totalEnds_sortLayers] at hw
      rw [totalEnds, he, List.length_cons, Nat.add_right_comm]
      exact wf_pop hebn hw
    | @inj _ caps' ids hc =>
      have hf := fold_insert_ok hd ids ({ l with caps := caps' } :: rest)
        (List.forall_mem_cons.mpr ⟨⟨hl.1, (htake hc).2⟩, hrest⟩)
      refine ⟨sinv_sorted hoff hf.2, fun evs hw => ?_⟩
      rw [totalEnds_sortLayers, hf.1] at hw
      exact hw
    | skip hc _ hs =>
      refine ⟨sinv_sorted hoff (List.forall_mem_cons.mpr ⟨⟨hl.1, fun y hy => (htake hc).2 y (hs.subset hy)⟩, hrest⟩),
        fun evs hw => ?_⟩
      rw [totalEnds_sortLayers] at hw
      exact hw
    | start hc =>
      have ⟨hcin, hcaps'⟩ := htake hc
      refine ⟨sinv_sorted (emitM_le _ hoff hcin.1) (List.forall_mem_cons.mpr
        ⟨⟨List.forall_mem_cons.mpr ⟨hcin.2, hl.1⟩, fun y hy => hcaps' y (mem_collapse hy)⟩, hrest⟩), fun evs hw => ?_⟩
      rw [totalEnds_sortLayers, totalEnds, List.length_cons, Nat.add_right_comm] at hw
      exact wf_push hcin.1 hw

theorem runM_wf {n : Nat} {defs : List LayerDef} (hd : DefsOk n defs) : ∀ (fuel : Nat) (st : MSt), SInv n st →
    (runM defs n fuel st).2 = true →
    wellFormedFrom n st.off (totalEnds st.layers) (runM defs n fuel st).1 = true := by
  intro fuel st hi hfin
  fun_induction runM defs n fuel st with
  | case1 => cases hfin
  | case2 _ st _ hstep => have hs := step_sound hd st hi; rwa [hstep] at hs
  | case3 _ st _ _ hstep _ ih =>
    have hs := step_sound hd st hi
    rw [hstep] at hs
    exact hs.2 _ (ih hs.1 hfin)

theorem idsW_congr {w1 w2 : Nat → Nat} (ids : List Nat) (h : ∀ j ∈ ids, w1 j = w2 j) :
    idsW w1 ids = idsW w2 ids := by
  induction ids with
  | nil => rfl
  | cons j r ih =>
    simp only [idsW]
    rw [h j (List.mem_cons_self), ih (fun j' hj' => h j' (List.mem_cons_of_mem _ hj'))]

theorem capsW_congr_mem {w1 w2 : Nat → Nat} (caps : List RCap)
    (h : ∀ c ∈ caps, ∀ ids, c.kind = .inj ids → ∀ j ∈ ids, w1 j = w2 j) : capsW w1 caps = capsW w2 caps := by
  induction caps with
  | nil => rfl
  | cons c r ih =>
    simp only [capsW]
    rw [ih (fun c' hc' => h c' (List.mem_cons_of_mem _ hc'))]
    congr 1
    unfold capW
    cases hk : c.kind with
    | hl _ => rfl
    | inj ids => simp only; rw [idsW_congr ids (h c (List.mem_cons_self) ids hk)]

theorem wtK_succ (defs : List LayerDef) : ∀ k j, defs.length - j ≤ k → wtK defs (k + 1) j = wtK defs k j := by
  intro k
  induction k with
  | zero => intro j h; rw [wtK, wtK, List.getElem?_eq_none (by omega)]
  | succ k ih =>
    intro j h
    rw [wtK, wtK]
    cases defs[j]? with
    | none => rfl
    | some d =>
      show capsW _ _ = capsW _ _
      congr 1
      funext j'
      split
      · exact ih j' (by omega)
      · rfl

theorem wtK_stable (defs : List LayerDef) : ∀ (m j k : Nat), defs.length - j ≤ m → defs.length - j ≤ k →
    wtK defs k j = wtK defs (defs.length - j) j := by
  intro _ j k _ hk
  obtain ⟨i, rfl⟩ := Nat.exists_eq_add_of_le hk
  induction i with
  | zero => rfl
  | succ i ih => rw [← Nat.add_assoc, wtK_succ defs _ j (by omega), ih (by omega)]

theorem refsUp_spec {defs : List LayerDef} (hr : refsUp defs = true) {i : Nat} {d : LayerDef}
    (hd : defs[i]? = some d) {c : RCap} (hc : c ∈ d.caps) {ids : List Nat} (hk : c.kind = .inj ids)
    {j : Nat} (hj : j ∈ ids) : i < j := by
  have hi := (List.getElem?_eq_some_iff.mp hd).1
  have h1 := List.all_eq_true.mp hr i (List.mem_range.mpr hi)
  rw [hd] at h1
  have h2 := List.all_eq_true.mp h1 c hc
  rw [hk] at h2
  exact of_decide_eq_true (List.all_eq_true.mp h2 j hj)

theorem wt_eq {defs : List LayerDef} (hr : refsUp defs = true) {j : Nat} {d : LayerDef}
    (hd : defs[j]? = some d) : wt defs j = capsW (wt defs) d.caps := by
  have hj := (List.getElem?_eq_some_iff.mp hd).1
  obtain ⟨q, hq⟩ : ∃ q, defs.length - j = q + 1 := ⟨defs.length - j - 1, by omega⟩
  unfold wt
  rw [hq]
  simp only [wtK, hd]
  apply capsW_congr_mem
  intro c hc ids hk j' hj'
  have hlt : j < j' := refsUp_spec hr hd hc hk hj'
  simp only [if_pos hlt]
  exact wtK_stable defs (defs.length - j') j' q (Nat.le_refl _) (by omega)

theorem layerW_zero (defs : List LayerDef) (l : MLayer) (h : sortKey l = none) : layerW defs l = 0 := by
  rw [layerW, (sortKey_none h).1, (sortKey_none h).2]; rfl

theorem sumW_sortLayers (defs : List LayerDef) (ls : List MLayer) :
    sumW (layerW defs) (sortLayers ls) = sumW (layerW defs) ls :=
  sumW_dropped (layerW_zero defs) (sortLayers_dropped ls)

theorem layerW_mkLayer {defs : List LayerDef} (hr : refsUp defs = true) {id : Nat} {nl : MLayer}
    (h : mkLayer defs id = some nl) : layerW defs nl = wt defs id := by
  obtain ⟨d, hg, rfl⟩ := mkLayer_some h
  rw [wt_eq hr hg]
  exact Nat.zero_add _

/-- The layers an injection capture creates weigh at most what the capture paid for them. -/
theorem sumW_fold_insert {defs : List LayerDef} (hr : refsUp defs = true) (ids : List Nat) (ls : List MLayer) :
    sumW (layerW defs) (ids.foldl (insertById defs) ls) + ids.length
      ≤ sumW (layerW defs) ls + idsW (wt defs) ids := by
  rw [sumW_dropped (layerW_zero defs) (fold_insertById_dropped defs ids ls)]
  induction ids with
  | nil => exact Nat.le_refl _
  | cons id r ih =>
    rw [List.filterMap_cons, idsW, List.length_cons]
    cases hm : mkLayer defs id with
    | none => simp only; omega
    | some nl =>
      simp only [List.cons_append, sumW]
      rw [layerW_mkLayer hr hm]
      omega

theorem capsW_suffix (w : Nat → Nat) {a b : List RCap} (h : a <:+ b) : capsW w a ≤ capsW w b := by
  obtain ⟨m, rfl⟩ := h
  induction m with
  | nil => exact Nat.le_refl _
  | cons x m ih => exact Nat.le_trans ih (Nat.le_add_left _ _)

theorem capW_ge_two (w : Nat → Nat) (c : RCap) : 2 ≤ capW w c := by
  unfold capW
  cases c.kind with
  | hl _ => exact Nat.le_refl 2
  | inj ids => exact Nat.le_add_right 2 _

theorem step_mu {n : Nat} {defs : List LayerDef} (hr : refsUp defs = true) (st : MSt) (hi : SInv n st)
    {evs : List Ev} {st' : MSt} (h : stepM defs n st = .more evs st') :
    sumW (layerW defs) st'.layers < sumW (layerW defs) st.layers := by
  obtain ⟨l, rest, hls, hit⟩ := stepM_more h
  rw [hls]
  have htake : ∀ {c caps'}, l.caps = c :: caps' →
      layerW defs l = l.ends.length + (capW (wt defs) c + capsW (wt defs) caps') ∧ 2 ≤ capW (wt defs) c :=
    fun hc => ⟨by rw [layerW, hc]; rfl, capW_ge_two _ _⟩
  cases hit with
  | final hk => exact absurd hk (hi.head l rest hls)
  | pop he =>
    simp only [sumW_sortLayers, sumW, layerW, he, List.length_cons]
    omega
  | @inj c caps' ids hc _ hk =>
    have hf := sumW_fold_insert hr ids ({ l with caps := caps' } :: rest)
    have hcw : capW (wt defs) c = 2 + idsW (wt defs) ids := by unfold capW; rw [hk]
    simp only [sumW_sortLayers, sumW, (htake hc).1, hcw] at hf ⊢
    simp only [layerW] at hf ⊢
    omega
  | skip hc _ hs =>
    have := capsW_suffix (wt defs) hs
    have := (htake hc).2
    simp only [sumW_sortLayers, sumW, (htake hc).1]
    simp only [layerW]
    omega
  | @start c caps' hh _ hc =>
    have := capsW_suffix (wt defs) (collapse_isSuffix c.node hh caps')
    have := (htake hc).2
    simp only [sumW_sortLayers, sumW, (htake hc).1]
    simp only [layerW, List.length_cons]
    omega

theorem runM_fin {n : Nat} {defs : List LayerDef} (hd : DefsOk n defs) (hr : refsUp defs = true) :
    ∀ (fuel : Nat) (st : MSt), SInv n st → sumW (layerW defs) st.layers < fuel →
      (runM defs n fuel st).2 = true := by
  intro fuel st hi hlt
  fun_induction runM defs n fuel st with
  | case1 => omega
  | case2 => rfl
  | case3 _ st _ _ hstep _ ih =>
    have hs := step_sound hd st hi
    rw [hstep] at hs
    have hmu := step_mu hr st hi hstep
    exact ih hs.1 (by omega)
end TsVerif.C17
