import TsVerif.C17.MergeMulti
/-!
# C17: the premises of the ordering and well-nestedness theorems about the multi-layer merge, and the ghost run

What `merge_events_in_place` (`DefsNice`) and `merge_well_nested_*` (`staticNice`, `dynNice`) assume of a layer table, as
decidable tests that the driver evaluates on every real case, and the run with the global stack of open span ends
(`ghostStep`, `iterG`) that the well-nestedness theorems speak about.

`injTieOkP`: when an injection capture at byte `p` creates a layer with a span capture at `p`, no non-empty span
capture starting at `p` of a layer shallower than the new one can already be open: none BEFORE the injection
capture in the creating layer, none at all in any other layer.  (In the real code injection patterns precede highlight
patterns in the combined query, so the deeper layer exists before its parent opens a span there.)
-/
namespace TsVerif.C17

def capAfterR (p c : RCap) : Bool := p.s ≤ c.s && (p.e ≤ c.s || c.e ≤ p.e)

/-- Captures of one layer: `s ≤ e`, in start order, any two nested or disjoint, in nesting order. -/
def capsOkR : List RCap → Bool
  | [] => true
  | c :: r => decide (c.s ≤ c.e) && r.all (capAfterR c) && capsOkR r

/-- The layer data: every layer's captures are in order, and the layers an injection capture creates
only have captures that start at or after that capture (their content lies behind it). -/
def DefsNice (defs : List LayerDef) : Prop :=
  (∀ d ∈ defs, capsOkR d.caps = true) ∧
  ∀ d ∈ defs, ∀ c ∈ d.caps, ∀ ids, c.kind = .inj ids → ∀ j ∈ ids, ∀ d', defs[j]? = some d' → ∀ c' ∈ d'.caps, c.s ≤ c'.s

def hlSome (c : RCap) : Bool := match c.kind with | .hl (some _) => true | _ => false

def isSpan (d : LayerDef) (c : RCap) : Bool := d.caps.any fun c' => c'.node == c.node && hlSome c'

/-- The captures that can become a SPAN (`collapse` keeps the last highlight capture of the node). -/
def spanCaps (d : LayerDef) : List RCap := d.caps.filter (isSpan d)

def injIds (c : RCap) : List Nat := match c.kind with | .inj ids => ids | .hl _ => []

def refsC (caps : List RCap) : List Nat := caps.flatMap injIds

def refsOf (defs : List LayerDef) (j : Nat) : List Nat :=
  match defs[j]? with
  | some d => refsC d.caps
  | none => []

/-- `j` and everything reachable from it, with multiplicity (`k` = remaining depth). -/
def tree (defs : List LayerDef) : Nat → Nat → List Nat
  | 0, j => [j]
  | k + 1, j => j :: (refsOf defs j).flatMap (tree defs k)

def closureNodup (defs : List LayerDef) (top : List Nat) : Bool :=
  decide (top.flatMap (tree defs defs.length)).Nodup

def defsNiceD (defs : List LayerDef) : Bool :=
  (defs.all fun d => capsOkR d.caps) &&
  defs.all fun d => d.caps.all fun c =>
    match c.kind with
    | .inj ids => ids.all fun j => match defs[j]? with
      | some d' => d'.caps.all fun c' => decide (c.s ≤ c'.s)
      | none => true
    | _ => true

def injTieOkP (defs : List LayerDef) : Bool :=
  (List.range defs.length).all fun i =>
    match defs[i]? with
    | none => true
    | some di => (List.range di.caps.length).all fun idx =>
      match di.caps[idx]? with
      | none => true
      | some c => (injIds c).all fun j =>
        match defs[j]? with
        | none => true
        | some dj =>
          !((spanCaps dj).any fun c' => c'.s == c.s) ||
          (List.range defs.length).all fun k =>
            match defs[k]? with
            | none => true
            | some dk =>
              (if k = i then (di.caps.take idx).filter (isSpan di) else spanCaps dk).all fun a =>
                !(a.s == c.s && decide (a.s < a.e)) || !decide (dk.depth < dj.depth)

def noInj (defs : List LayerDef) : Bool :=
  defs.all fun d => d.caps.all fun c => match c.kind with | .hl _ => true | .inj _ => false

/-- Different layers, over the captures that can become spans: a capture that starts strictly
inside another layer's capture ends inside it (laminar); two non-empty captures that start at the
same byte belong to layers of different depths and the SHALLOWER layer's capture is not the longer
one (the code emits the deeper layer's Start first at a tie -- the orientation of the StackSpec judge's `startTiesOk`,
which however also admits a tie between layers of equal depth). -/
def crossNice (defs : List LayerDef) : Bool :=
  (List.range defs.length).all fun i => (List.range defs.length).all fun j =>
    i == j ||
    match defs[i]?, defs[j]? with
    | some di, some dj => (spanCaps di).all fun a => (spanCaps dj).all fun b =>
        (!(a.s < b.s && b.s < a.e) || decide (b.e ≤ a.e)) &&
        (!(a.s == b.s && a.s < a.e && b.s < b.e) ||
          (di.depth != dj.depth && (!(di.depth < dj.depth) || decide (a.e ≤ b.e))))
    | _, _ => true

/-- The laminar half of `crossNice` alone (reporting only: splits the real cases that `crossNice`
excludes into "not laminar" and "start tie with the wrong orientation"). -/
def crossLam (defs : List LayerDef) : Bool :=
  (List.range defs.length).all fun i => (List.range defs.length).all fun j =>
    i == j ||
    match defs[i]?, defs[j]? with
    | some di, some dj => (spanCaps di).all fun a => (spanCaps dj).all fun b =>
        (!(a.s < b.s && b.s < a.e) || decide (b.e ≤ a.e))
    | _, _ => true

/-- The decidable premise of `merge_well_nested_partial`: static layers (no injection capture), each
layer's captures in order (start order, nested or disjoint, nesting order), different layers laminar
with start ties only between different depths, the shallower layer's span not the longer one (`crossNice`). -/
def staticNice (defs : List LayerDef) : Bool :=
  (defs.all fun d => capsOkR d.caps) && noInj defs && crossNice defs

/-- The decidable premise of `merge_well_nested_dynamic_partial`: every layer's captures in order and
the layers an injection capture creates behind it (`defsNiceD`), injections refer to later table
entries (`refsUp`), every layer id referenced at most once from `top` and the reachable injection
captures (`closureNodup`), span captures of different layers laminar with oriented start ties
(`crossNice`), no span can be open at the byte where a deeper layer appears with a span capture
(`injTieOkP`). -/
def dynNice (defs : List LayerDef) (top : List Nat) : Bool :=
  defsNiceD defs && refsUp defs && closureNodup defs top && crossNice defs && injTieOkP defs

/-- The global stack of open ends kept by stack discipline: `none` = an End found a top that is
not the end being closed. -/
def ghostStep (st : MSt) (evs : List Ev) (G : List Nat) : Option (List Nat) :=
  match evs.getLast?, st.layers with
  | some .stop, l :: _ =>
    (match l.ends, G with
     | eb :: _, g :: G' => if g = eb then some G' else none
     | _, _ => none)
  | some (.start _), l :: _ =>
    (match l.caps with
     | c :: _ => some (c.e :: G)
     | [] => none)
  | _, _ => some G

/-- `k` iterations with the ghost stack.  `none`: an End found the wrong top at some iteration — or the run was over before `k`
iterations (`stepM` = `.done`); to tell the two apart compare with `iterM`. -/
def iterG (defs : List LayerDef) (n : Nat) : Nat → MSt → List Nat → Option (MSt × List Nat)
  | 0, st, G => some (st, G)
  | k + 1, st, G =>
    match stepM defs n st with
    | .done _ => none
    | .more evs st' =>
      match ghostStep st evs G with
      | none => none
      | some G' => iterG defs n k st' G'

end TsVerif.C17
