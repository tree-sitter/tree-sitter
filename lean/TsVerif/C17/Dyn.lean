import TsVerif.C17.Order
/-!
# C17: what the premises of the well-nestedness theorems say, and the counting lemmas for the two multisets of a state

The Bool premises of `Premises.lean` read as propositions (`…_spec`, `…_of_…`), and what `sort_layers`, `insert_layer` and
consuming captures do to `allP` and `allEnds`.
`pend`/`allP`: the ids a state still "owns" — each live layer's id and the trees of its pending injection references; the
invariant is that this list has no duplicates (an injection step moves ids from a tree to the live
list, consuming captures only removes ids).  `allEnds`: all open ends of all layers, what the global stack of the ghost run is a
permutation of.
-/
namespace TsVerif.C17

theorem defsNice_of_D {defs : List LayerDef} (h : defsNiceD defs = true) : DefsNice defs := by
  simp only [defsNiceD, Bool.and_eq_true] at h
  refine ⟨fun d hd => List.all_eq_true.mp h.1 d hd, ?_⟩
  intro d hd c hc ids hk j hj d' hd' c' hc'
  have h1 := List.all_eq_true.mp (List.all_eq_true.mp h.2 d hd) c hc
  simp only [hk] at h1
  have h2 := List.all_eq_true.mp h1 j hj
  simp only [hd'] at h2
  simpa using List.all_eq_true.mp h2 c' hc'

/-- `pre` = the captures of entry `i` before its injection capture `c`, which creates entry `j`; `c'` = a span capture of `j` at `c.s`;
`a` = a non-empty span capture starting at `c.s` that may be open when `c` is taken (among `pre` in entry `i`, anywhere in another
entry `k`): its layer is not shallower than `j`. -/
theorem injTieOkP_spec {defs : List LayerDef} (h : injTieOkP defs = true) {i j k : Nat} {di dj dk : LayerDef}
    {pre post : List RCap} {c c' a : RCap}
    (hi : defs[i]? = some di) (hcaps : di.caps = pre ++ c :: post) (hj : j ∈ injIds c) (hdj : defs[j]? = some dj)
    (hc' : c' ∈ spanCaps dj) (hs' : c'.s = c.s) (hk : defs[k]? = some dk)
    (ha : if k = i then a ∈ pre ∧ isSpan di a = true else a ∈ spanCaps dk) (has : a.s = c.s) (hne : a.s < a.e) :
    ¬ dk.depth < dj.depth := by
  have h1 := List.all_eq_true.mp h i (List.mem_range.mpr (List.getElem?_eq_some_iff.mp hi).1)
  simp only [hi] at h1
  have hidx : pre.length < di.caps.length := by rw [hcaps]; simp
  have h2 := List.all_eq_true.mp h1 pre.length (List.mem_range.mpr hidx)
  have hget : di.caps[pre.length]? = some c := by rw [hcaps]; simp
  simp only [hget] at h2
  have h3 := List.all_eq_true.mp h2 j hj
  simp only [hdj] at h3
  have hany : ((spanCaps dj).any fun c' => c'.s == c.s) = true :=
    List.any_eq_true.mpr ⟨c', hc', by simp [hs']⟩
  simp only [hany, Bool.not_true, Bool.false_or] at h3
  have h4 := List.all_eq_true.mp h3 k (List.mem_range.mpr (List.getElem?_eq_some_iff.mp hk).1)
  simp only [hk] at h4
  have htake : di.caps.take pre.length = pre := by rw [hcaps]; simp
  have hmem : a ∈ (if k = i then (di.caps.take pre.length).filter (isSpan di) else spanCaps dk) := by
    by_cases hki : k = i
    · rw [if_pos hki] at ha ⊢
      rw [htake]
      exact List.mem_filter.mpr ha
    · rw [if_neg hki] at ha ⊢
      exact ha
  have h5 := List.all_eq_true.mp h4 a hmem
  simp only [has, beq_self_eq_true, Bool.true_and, Bool.or_eq_true, Bool.not_eq_true', decide_eq_false_iff_not] at h5
  rcases h5 with h5 | h5
  · exact absurd (by omega : c.s < a.e) h5
  · exact h5

theorem crossNice_spec {defs : List LayerDef} (h : crossNice defs = true) {i j : Nat} {di dj : LayerDef}
    (hij : i ≠ j) (hi : defs[i]? = some di) (hj : defs[j]? = some dj) {a b : RCap}
    (ha : a ∈ spanCaps di) (hb : b ∈ spanCaps dj) :
    (a.s < b.s → b.s < a.e → b.e ≤ a.e) ∧
    (a.s = b.s → a.s < a.e → b.s < b.e → di.depth ≠ dj.depth ∧ (di.depth < dj.depth → a.e ≤ b.e)) := by
  have hil := (List.getElem?_eq_some_iff.mp hi).1
  have hjl := (List.getElem?_eq_some_iff.mp hj).1
  have h1 := List.all_eq_true.mp h i (List.mem_range.mpr hil)
  have h2 := List.all_eq_true.mp h1 j (List.mem_range.mpr hjl)
  simp only [Bool.or_eq_true, beq_iff_eq, hij, false_or, hi, hj] at h2
  have h3 := List.all_eq_true.mp (List.all_eq_true.mp h2 a ha) b hb
  simp only [Bool.and_eq_true, bne_iff_ne, ne_eq, Bool.or_eq_true, Bool.not_eq_true', decide_eq_true_eq,
    Bool.and_eq_false_iff, decide_eq_false_iff_not, beq_eq_false_iff_ne] at h3
  refine ⟨fun h4 h5 => ?_, fun h4 h5 h6 => ⟨?_, fun h7 => ?_⟩⟩ <;> omega

theorem noInj_kind {defs : List LayerDef} (h : noInj defs = true) {d : LayerDef} (hd : d ∈ defs)
    {c : RCap} (hc : c ∈ d.caps) (ids : List Nat) : c.kind ≠ .inj ids := by
  intro hk
  have := List.all_eq_true.mp (List.all_eq_true.mp h d hd) c hc
  rw [hk] at this
  cases this

theorem defsNice_of_static {defs : List LayerDef} (h1 : (defs.all fun d => capsOkR d.caps) = true)
    (h2 : noInj defs = true) : DefsNice defs :=
  ⟨fun d hd => List.all_eq_true.mp h1 d hd, fun _ hd _ hc ids hk => absurd hk (noInj_kind h2 hd hc ids)⟩

theorem dynNice_spec {defs : List LayerDef} {top : List Nat} (h : dynNice defs top = true) :
    DefsNice defs ∧ refsUp defs = true ∧ (top.flatMap (tree defs defs.length)).Nodup ∧
      crossNice defs = true ∧ injTieOkP defs = true := by
  simp only [dynNice, Bool.and_eq_true] at h
  exact ⟨defsNice_of_D h.1.1.1.1, h.1.1.1.2, of_decide_eq_true h.1.1.2, h.1.2, h.2⟩

theorem injIds_of_noInj {defs : List LayerDef} (h : noInj defs = true) {d : LayerDef} (hd : d ∈ defs)
    {c : RCap} (hc : c ∈ d.caps) : injIds c = [] := by
  unfold injIds
  cases hk : c.kind with
  | hl _ => rfl
  | inj ids => exact absurd hk (noInj_kind h hd hc ids)

theorem refsOf_of_noInj {defs : List LayerDef} (h : noInj defs = true) (j : Nat) : refsOf defs j = [] := by
  unfold refsOf
  cases hd : defs[j]? with
  | none => rfl
  | some d => exact List.flatMap_eq_nil_iff.mpr fun _ hc => injIds_of_noInj h (List.mem_of_getElem? hd) hc

theorem tree_of_noInj {defs : List LayerDef} (h : noInj defs = true) (k j : Nat) : tree defs k j = [j] := by
  cases k with
  | zero => rfl
  | succ k => simp [tree, refsOf_of_noInj h]

theorem dynNice_of_static {defs : List LayerDef} {top : List Nat} (h : staticNice defs = true) (hnd : top.Nodup) :
    dynNice defs top = true := by
  simp only [staticNice, Bool.and_eq_true] at h
  obtain ⟨⟨h1, h2⟩, h3⟩ := h
  simp only [dynNice, Bool.and_eq_true]
  refine ⟨⟨⟨⟨?_, ?_⟩, ?_⟩, h3⟩, ?_⟩
  · simp only [defsNiceD, Bool.and_eq_true]
    refine ⟨h1, List.all_eq_true.mpr fun d hd => List.all_eq_true.mpr fun c hc => ?_⟩
    cases hkk : c.kind with
    | hl _ => rfl
    | inj ids => exact absurd hkk (noInj_kind h2 hd hc ids)
  · unfold refsUp
    refine List.all_eq_true.mpr fun i _ => ?_
    cases hd : defs[i]? with
    | none => rfl
    | some d =>
      simp only
      refine List.all_eq_true.mpr fun c hc => ?_
      cases hkk : c.kind with
      | hl _ => rfl
      | inj ids => exact absurd hkk (noInj_kind h2 (List.mem_of_getElem? hd) hc ids)
  · unfold closureNodup
    rw [funext (tree_of_noInj h2 defs.length), List.flatMap_singleton']
    exact decide_eq_true hnd
  · unfold injTieOkP
    refine List.all_eq_true.mpr fun i _ => ?_
    cases hd : defs[i]? with
    | none => rfl
    | some d =>
      simp only
      refine List.all_eq_true.mpr fun idx _ => ?_
      cases hc : d.caps[idx]? with
      | none => rfl
      | some c =>
        simp only
        rw [injIds_of_noInj h2 (List.mem_of_getElem? hd) (List.mem_of_getElem? hc)]
        rfl

def pend (defs : List LayerDef) (y : MLayer) : List Nat :=
  y.id :: (refsC y.caps).flatMap (tree defs defs.length)

def allP (defs : List LayerDef) (ls : List MLayer) : List Nat := ls.flatMap (pend defs)

theorem allP_cons (defs : List LayerDef) (y : MLayer) (r : List MLayer) :
    allP defs (y :: r) = pend defs y ++ allP defs r := by simp [allP]

theorem allP_append (defs : List LayerDef) (a b : List MLayer) :
    allP defs (a ++ b) = allP defs a ++ allP defs b := by simp [allP]

theorem refsOf_gt {defs : List LayerDef} (hr : refsUp defs = true) {j r : Nat} (h : r ∈ refsOf defs j) : j < r := by
  unfold refsOf at h
  cases hd : defs[j]? with
  | none => rw [hd] at h; simp at h
  | some d =>
    rw [hd] at h
    simp only [refsC, List.mem_flatMap] at h
    obtain ⟨c, hc, hrc⟩ := h
    unfold injIds at hrc
    cases hk : c.kind with
    | hl _ => rw [hk] at hrc; simp at hrc
    | inj ids => rw [hk] at hrc; exact refsUp_spec hr hd hc hk hrc

theorem flatMap_congr_mem {α β : Type} (l : List α) (f g : α → List β) (h : ∀ x ∈ l, f x = g x) :
    l.flatMap f = l.flatMap g := by
  induction l with
  | nil => rfl
  | cons x r ih =>
    simp only [List.flatMap_cons]
    rw [h x List.mem_cons_self, ih (fun y hy => h y (List.mem_cons_of_mem _ hy))]

theorem tree_stable {defs : List LayerDef} (hr : refsUp defs = true) :
    ∀ k j, defs.length ≤ j + k → tree defs (k + 1) j = tree defs k j := by
  intro k
  induction k with
  | zero =>
    intro j h
    have : refsOf defs j = [] := by
      unfold refsOf
      rw [List.getElem?_eq_none (by omega)]
    simp [tree, this]
  | succ k ih =>
    intro j h
    show j :: (refsOf defs j).flatMap (tree defs (k + 1)) = j :: (refsOf defs j).flatMap (tree defs k)
    rw [flatMap_congr_mem _ _ _ (fun r hr' => ih r (by have := refsOf_gt hr hr'; omega))]

theorem pend_mk {defs : List LayerDef} (hr : refsUp defs = true) {j : Nat} {nl : MLayer}
    (hm : mkLayer defs j = some nl) : pend defs nl = tree defs defs.length j := by
  obtain ⟨dj, hdj, rfl⟩ := mkLayer_some hm
  rw [← tree_stable hr defs.length j (by omega)]
  have e : tree defs (defs.length + 1) j = j :: (refsOf defs j).flatMap (tree defs defs.length) := rfl
  rw [e]
  unfold refsOf pend
  rw [hdj]

theorem cnt_dropped (defs : List LayerDef) (a : Nat) {xs ys : List MLayer} (h : Keyed.Dropped sortKey xs ys) :
    List.count a (allP defs ys) ≤ List.count a (allP defs xs) :=
  h.count_le (pend defs) a

theorem cnt_sortLayers (defs : List LayerDef) (a : Nat) : ∀ ls : List MLayer,
    List.count a (allP defs (sortLayers ls)) ≤ List.count a (allP defs ls) :=
  fun ls => cnt_dropped defs a (sortLayers_dropped ls)

theorem cnt_insGo (defs : List LayerDef) (a : Nat) (k : Key) (nl : MLayer) : ∀ ls : List MLayer,
    List.count a (allP defs (insGo k nl ls)) ≤ List.count a (pend defs nl) + List.count a (allP defs ls) := by
  intro ls
  have := cnt_dropped defs a (insGo_eq k nl ls ▸ Keyed.insGo_dropped k nl ls)
  rwa [allP_cons, List.count_append] at this

theorem cnt_insertLayer (defs : List LayerDef) (a : Nat) (ls : List MLayer) (nl : MLayer) :
    List.count a (allP defs (insertLayer ls nl)) ≤ List.count a (allP defs ls) + List.count a (pend defs nl) := by
  have := cnt_dropped defs a (insertLayer_dropped ls nl)
  rwa [allP_cons, List.count_append, Nat.add_comm] at this

theorem allP_fresh {defs : List LayerDef} (hr : refsUp defs = true) (ids : List Nat) :
    (allP defs (ids.filterMap (mkLayer defs))).Sublist (ids.flatMap (tree defs defs.length)) := by
  induction ids with
  | nil => exact .slnil
  | cons j r ih =>
    rw [List.filterMap_cons, List.flatMap_cons]
    cases hm : mkLayer defs j with
    | none => exact ih.trans (List.sublist_append_right _ _)
    | some nl => rw [allP_cons, pend_mk hr hm]; exact (List.Sublist.refl _).append ih

theorem cnt_fold (defs : List LayerDef) (hr : refsUp defs = true) (a : Nat) : ∀ (ids : List Nat) (ls : List MLayer),
    List.count a (allP defs (ids.foldl (insertById defs) ls)) ≤
      List.count a (allP defs ls) + List.count a (ids.flatMap (tree defs defs.length)) := by
  intro ids ls
  have h1 := cnt_dropped defs a (fold_insertById_dropped defs ids ls)
  have h2 := (allP_fresh hr ids).count_le a
  rw [allP_append, List.count_append] at h1
  omega

theorem cnt_ids (defs : List LayerDef) (a : Nat) : ∀ ls : List MLayer,
    List.count a (ls.map (·.id)) ≤ List.count a (allP defs ls) := by
  intro ls
  induction ls with
  | nil => simp [allP]
  | cons y r ih =>
    simp only [List.map_cons, allP_cons, List.count_append, pend, List.count_cons]
    omega

theorem nodup_ids_of_allP {defs : List LayerDef} {ls : List MLayer} (h : (allP defs ls).Nodup) :
    (ls.map (·.id)).Nodup :=
  List.nodup_iff_count.mpr fun a => Nat.le_trans (cnt_ids defs a ls) (List.nodup_iff_count.mp h a)

theorem nodup_head_suffix {defs : List LayerDef} {l l' : MLayer} {rest : List MLayer} {mid : List RCap}
    (hid : l'.id = l.id) (hmid : l.caps = mid ++ l'.caps) (h : (allP defs (l :: rest)).Nodup) :
    (allP defs (sortLayers (l' :: rest))).Nodup := by
  refine List.nodup_iff_count.mpr fun a => ?_
  have h1 := List.nodup_iff_count.mp h a
  have h2 := cnt_sortLayers defs a (l' :: rest)
  simp only [allP_cons, List.count_append, pend, hid, hmid, refsC, List.flatMap_append, List.count_cons] at h1 h2
  omega

theorem nodup_inj_step {defs : List LayerDef} (hr : refsUp defs = true) {l : MLayer} {rest : List MLayer}
    {c : RCap} {caps' : List RCap} {ids : List Nat} (hc : l.caps = c :: caps') (hk : c.kind = .inj ids)
    (h : (allP defs (l :: rest)).Nodup) :
    (allP defs (sortLayers (ids.foldl (insertById defs) ({ l with caps := caps' } :: rest)))).Nodup := by
  refine List.nodup_iff_count.mpr fun a => ?_
  have h1 := List.nodup_iff_count.mp h a
  have h2 := cnt_sortLayers defs a (ids.foldl (insertById defs) ({ l with caps := caps' } :: rest))
  have h3 := cnt_fold defs hr a ids ({ l with caps := caps' } :: rest)
  have hi : injIds c = ids := by unfold injIds; rw [hk]
  simp only [allP_cons, List.count_append, pend, hc, refsC, List.flatMap_cons, List.flatMap_append, hi,
    List.count_cons] at h1 h3
  omega

def allEnds (ls : List MLayer) : List Nat := ls.flatMap (·.ends)

theorem allEnds_cons (l : MLayer) (r : List MLayer) : allEnds (l :: r) = l.ends ++ allEnds r :=
  List.flatMap_cons

theorem allEnds_append (a b : List MLayer) : allEnds (a ++ b) = allEnds a ++ allEnds b :=
  List.flatMap_append

theorem allEnds_nil_of (ls : List MLayer) (h : ∀ y ∈ ls, y.ends = []) : allEnds ls = [] :=
  List.flatMap_eq_nil_iff.mpr h

theorem allEnds_dropped {xs ys : List MLayer} (h : Keyed.Dropped sortKey xs ys) : (allEnds ys).Perm (allEnds xs) :=
  h.flatMap _ fun _ hl => (sortKey_none hl).2

theorem allEnds_sortLayers (ls : List MLayer) : (allEnds (sortLayers ls)).Perm (allEnds ls) :=
  allEnds_dropped (sortLayers_dropped ls)

theorem ids_sortLayers (ls : List MLayer) (h : (ls.map (·.id)).Nodup) : ((sortLayers ls).map (·.id)).Nodup :=
  (sortLayers_dropped ls).nodup_map _ h

theorem cntE_insGo (a : Nat) (k : Key) (nl : MLayer) : ∀ ls : List MLayer,
    List.count a (allEnds (insGo k nl ls)) = List.count a nl.ends + List.count a (allEnds ls) := by
  intro ls
  rw [(allEnds_dropped (insGo_eq k nl ls ▸ Keyed.insGo_dropped k nl ls)).count_eq, allEnds_cons, List.count_append]

theorem allEnds_fold_insertById (defs : List LayerDef) (ids : List Nat) (ls : List MLayer) :
    (allEnds (ids.foldl (insertById defs) ls)).Perm (allEnds ls) := by
  have hfresh : allEnds (ids.filterMap (mkLayer defs)) = [] :=
    allEnds_nil_of _ fun y hy =>
      let ⟨_, _, hm⟩ := List.mem_filterMap.mp hy
      let ⟨_, _, he⟩ := mkLayer_some hm
      he ▸ rfl
  have := allEnds_dropped (fold_insertById_dropped defs ids ls)
  rwa [allEnds_append, hfresh] at this

theorem cntE_fold (defs : List LayerDef) (a : Nat) : ∀ (ids : List Nat) (ls : List MLayer),
    List.count a (allEnds (ids.foldl (insertById defs) ls)) = List.count a (allEnds ls) :=
  fun ids ls => (allEnds_fold_insertById defs ids ls).count_eq a

end TsVerif.C17
