import TsVerif.C17.Full
/-!
Clause 5 of the clause map in `Props.lean`: the content ranges `intersect_ranges` hands to the parser of
an injected layer, and the language `injection_for_match` picks.
-/
namespace TsVerif.C17

def GoodR (parents gaps : List Rg) (r : Rg) : Prop :=
  r.1 < r.2 ∧ (∃ p ∈ parents, p.1 ≤ r.1 ∧ r.2 ≤ p.2) ∧ (∃ g ∈ gaps, g.1 ≤ r.1 ∧ r.2 ≤ g.2)

theorem irStep_ok {parents gaps : List Rg} {g cur : Rg} (hg : g ∈ gaps) (hcur : cur ∈ parents)
    {rs : Nat} (hrs : g.1 ≤ rs) {acc : List Rg} (hacc : ∀ r ∈ acc, GoodR parents gaps r) :
    g.1 ≤ (irStep rs g.2 cur acc).1 ∧ ∀ r ∈ (irStep rs g.2 cur acc).2.1, GoodR parents gaps r := by
  have push : ∀ (c : Prop) [Decidable c] (new : Rg), (c → GoodR parents gaps new) →
      ∀ r ∈ (if c then acc ++ [new] else acc), GoodR parents gaps r := by
    intro c _ new hn r hr
    by_cases hc : c
    · rw [if_pos hc] at hr
      rcases List.mem_append.mp hr with hr | hr
      · exact hacc r hr
      · simp only [List.mem_singleton] at hr; subst hr; exact hn hc
    · rw [if_neg hc] at hr; exact hacc r hr
  have hr : rs ≤ (if rs < cur.1 then cur.1 else rs) ∧ cur.1 ≤ (if rs < cur.1 then cur.1 else rs) := by
    split <;> omega
  fun_cases irStep rs g.2 cur acc with
  | case1 h1 rs1 h2 =>
    have hr1 : rs ≤ rs1 ∧ cur.1 ≤ rs1 := hr
    refine ⟨Nat.le_trans hrs (Nat.le_of_lt h1), push _ _ fun h3 => ?_⟩
    exact ⟨h3, ⟨cur, hcur, hr1.2, Nat.le_refl _⟩, ⟨g, hg, by simp only; omega, by simp only; omega⟩⟩
  | case2 h1 rs1 h2 =>
    have hr1 : rs ≤ rs1 ∧ cur.1 ≤ rs1 := hr
    refine ⟨Nat.le_trans hrs hr1.1, push _ _ fun h3 => ?_⟩
    exact ⟨h3, ⟨cur, hcur, hr1.2, by simp only; omega⟩, ⟨g, hg, by simp only; omega, Nat.le_refl _⟩⟩
  | case3 => exact ⟨hrs, hacc⟩

def IOk (parents gaps : List Rg) (out : IRes) : Prop :=
  (∀ r ∈ out.1, GoodR parents gaps r) ∧ out.2.1 ∈ parents ∧ ∀ x ∈ out.2.2.1, x ∈ parents

theorem irWhile_ok {parents gaps : List Rg} {g : Rg} (hg : g ∈ gaps) :
    ∀ (rest : List Rg) (rs : Nat) (cur : Rg) (acc : List Rg), g.1 ≤ rs → cur ∈ parents →
      (∀ x ∈ rest, x ∈ parents) → (∀ r ∈ acc, GoodR parents gaps r) →
      IOk parents gaps (irWhile rs g.2 cur rest acc) := by
  intro rest rs cur acc hrs hcur hrest hacc
  fun_induction irWhile rs g.2 cur rest acc with
  | case1 | case2 => exact ⟨(irStep_ok hg hcur hrs hacc).2, hcur, hrest⟩
  | case3 _ _ _ _ _ nx _ ih =>
    have hs := irStep_ok hg hcur hrs hacc
    exact ih hs.1 (hrest nx List.mem_cons_self) (fun x hx => hrest x (List.mem_cons_of_mem _ hx)) hs.2
  | case4 => exact ⟨hacc, hcur, hrest⟩

theorem irExcl_ok {parents gaps : List Rg} : ∀ (excl : List Rg) (prevEnd : Nat) (cur : Rg) (rest acc : List Rg),
    (∀ g ∈ gapsOf prevEnd excl, g ∈ gaps) → cur ∈ parents → (∀ x ∈ rest, x ∈ parents) →
    (∀ r ∈ acc, GoodR parents gaps r) → IOk parents gaps (irExcl prevEnd excl cur rest acc) := by
  intro excl prevEnd cur rest acc hgaps hcur hrest hacc
  fun_induction irExcl prevEnd excl cur rest acc with
  | case1 => exact ⟨hacc, hcur, hrest⟩
  | case2 _ _ _ _ _ _ _ ih => exact ih (fun g hg => hgaps g (List.mem_cons_of_mem _ hg)) hcur hrest hacc
  | case3 prevEnd cur rest acc x =>
    exact irWhile_ok (g := (prevEnd, x.1)) (hgaps _ List.mem_cons_self) rest prevEnd cur acc (Nat.le_refl _) hcur hrest hacc
  | case4 prevEnd cur rest acc x _ _ _ _ ih =>
    have hw := irWhile_ok (g := (prevEnd, x.1)) (hgaps _ List.mem_cons_self) rest prevEnd cur acc (Nat.le_refl _) hcur hrest hacc
    exact ih (fun g hg => hgaps g (List.mem_cons_of_mem _ hg)) hw.2.1 hw.2.2 hw.1

def allGaps (incl : Bool) (nodes : List INode) : List Rg :=
  nodes.flatMap fun nd => gapsOf nd.s (exclOf incl nd)

theorem irNodes_ok {parents gaps : List Rg} (incl : Bool) : ∀ (nodes : List INode) (cur : Rg) (rest acc : List Rg),
    (∀ g ∈ allGaps incl nodes, g ∈ gaps) → cur ∈ parents → (∀ x ∈ rest, x ∈ parents) →
    (∀ r ∈ acc, GoodR parents gaps r) → ∀ r ∈ irNodes incl nodes cur rest acc, GoodR parents gaps r := by
  intro nodes cur rest acc hgaps hcur hrest hacc
  fun_induction irNodes incl nodes cur rest acc with
  | case1 => exact hacc
  | case2 cur rest acc nd =>
    exact (irExcl_ok (exclOf incl nd) nd.s cur rest acc (fun g hg => hgaps g (List.mem_append_left _ hg)) hcur hrest hacc).1
  | case3 cur rest acc nd _ _ _ ih =>
    have he := irExcl_ok (exclOf incl nd) nd.s cur rest acc (fun g hg => hgaps g (List.mem_append_left _ hg)) hcur hrest hacc
    exact ih (fun g hg => hgaps g (List.mem_append_right _ hg)) he.2.1 he.2.2 he.1

/-- Children in order inside `[lo, hi]`: `lo ≤ c₁.start ≤ c₁.end ≤ c₂.start ≤ … ≤ hi`. -/
def chainOk (lo hi : Nat) : List Rg → Prop
  | [] => lo ≤ hi
  | c :: r => lo ≤ c.1 ∧ c.1 ≤ c.2 ∧ chainOk c.2 hi r

theorem chainOk_le {lo hi : Nat} {ch : List Rg} (h : chainOk lo hi ch) : lo ≤ hi := by
  induction ch generalizing lo with
  | nil => exact h
  | cons c r ih => have := ih h.2.2; have := h.1; have := h.2.1; omega

theorem chainOk_mem {lo hi : Nat} {ch : List Rg} (h : chainOk lo hi ch) : ∀ c ∈ ch, lo ≤ c.1 ∧ c.2 ≤ hi := by
  induction ch generalizing lo with
  | nil => intro c hc; simp at hc
  | cons c r ih =>
    intro c' hc'
    rcases List.mem_cons.mp hc' with rfl | hc'
    · exact ⟨h.1, chainOk_le h.2.2⟩
    · have hi := ih h.2.2 c' hc'; have h1 := h.1; have h2 := h.2.1; exact ⟨by omega, hi.2⟩

theorem gaps_chain {lo hi : Nat} {ch : List Rg} (h : chainOk lo hi ch) :
    ∀ g ∈ gapsOf lo (ch ++ [(hi, hi)]), lo ≤ g.1 ∧ g.2 ≤ hi ∧ ∀ c ∈ ch, c.2 ≤ g.1 ∨ g.2 ≤ c.1 := by
  induction ch generalizing lo with
  | nil =>
    intro g hgm
    simp [gapsOf] at hgm
    subst hgm
    exact ⟨Nat.le_refl _, Nat.le_refl _, fun c hc => by simp at hc⟩
  | cons c r ih =>
    intro g hgm
    simp only [List.cons_append, gapsOf, List.mem_cons] at hgm
    have hc2 := chainOk_le h.2.2
    rcases hgm with rfl | hgm
    · refine ⟨Nat.le_refl _, by simp only; have := h.2.1; omega, ?_⟩
      intro c' hc'
      rcases List.mem_cons.mp hc' with rfl | hc'
      · exact Or.inr (Nat.le_refl _)
      · have := (chainOk_mem h.2.2 c' hc').1; have := h.2.1; exact Or.inr (by simp only; omega)
    · obtain ⟨h1, h2, h3⟩ := ih h.2.2 g hgm
      refine ⟨by have := h.1; have := h.2.1; omega, h2, ?_⟩
      intro c' hc'
      rcases List.mem_cons.mp hc' with rfl | hc'
      · exact Or.inl h1
      · exact h3 c' hc'

/-! ## the ranges come out ordered and disjoint

No hypothesis on the parent ranges is needed: every produced piece starts at or after the running
`range.start_byte`, which is never before the end of an earlier piece. -/

/-- The loops keep `b` at or below the running `range.start_byte`. -/
def OrdR (acc : List Rg) (b : Nat) : Prop :=
  acc.Pairwise (fun r r' => r.2 ≤ r'.1) ∧ ∀ r ∈ acc, r.1 < r.2 ∧ r.2 ≤ b

theorem OrdR.mono {acc : List Rg} {b b' : Nat} (h : OrdR acc b) (hb : b ≤ b') : OrdR acc b' :=
  ⟨h.1, fun r hr => ⟨(h.2 r hr).1, Nat.le_trans (h.2 r hr).2 hb⟩⟩

theorem OrdR.snoc {acc : List Rg} {b a e : Nat} (h : OrdR acc b) (hba : b ≤ a) (hae : a < e) :
    OrdR (acc ++ [(a, e)]) e := by
  refine ⟨List.pairwise_append.mpr ⟨h.1, List.pairwise_singleton _ _, fun r hr r' hr' => ?_⟩, fun r hr => ?_⟩
  · rw [List.mem_singleton.mp hr']
    exact Nat.le_trans (h.2 r hr).2 hba
  · rcases List.mem_append.mp hr with hr | hr
    · exact ⟨(h.2 r hr).1, Nat.le_trans (h.2 r hr).2 (Nat.le_trans hba (Nat.le_of_lt hae))⟩
    · rw [List.mem_singleton.mp hr]
      exact ⟨hae, Nat.le_refl _⟩

theorem irStep_ord {acc : List Rg} {b rs re : Nat} (cur : Rg) (h : OrdR acc b) (hb : b ≤ rs) (hre : rs ≤ re) :
    ((irStep rs re cur acc).2.2 = true → OrdR (irStep rs re cur acc).2.1 re) ∧
    ((irStep rs re cur acc).2.2 = false →
      OrdR (irStep rs re cur acc).2.1 (irStep rs re cur acc).1 ∧ (irStep rs re cur acc).1 ≤ re) := by
  have hrs1 : rs ≤ if rs < cur.1 then cur.1 else rs := by split <;> omega
  fun_cases irStep rs re cur acc with
  | case1 h1 rs1 h2 =>
    have : rs ≤ rs1 := hrs1
    refine ⟨nofun, fun _ => ⟨?_, Nat.le_of_lt h2⟩⟩
    show OrdR (if rs1 < cur.2 then _ else _) cur.2
    split
    · exact h.snoc (by omega) ‹_›
    · exact h.mono (by omega)
  | case2 h1 rs1 h2 =>
    have : rs ≤ rs1 := hrs1
    refine ⟨fun _ => ?_, nofun⟩
    show OrdR (if rs1 < re then _ else _) re
    split
    · exact h.snoc (by omega) ‹_›
    · exact h.mono (by omega)
  | case3 => exact ⟨nofun, fun _ => ⟨h.mono hb, hre⟩⟩

theorem irWhile_ord (re : Nat) : ∀ (rest : List Rg) (rs : Nat) (cur : Rg) (acc : List Rg) (b : Nat),
    OrdR acc b → b ≤ rs → rs ≤ re → OrdR (irWhile rs re cur rest acc).1 re := by
  intro rest rs cur acc b h hb hre
  fun_induction irWhile rs re cur rest acc generalizing b with
  | case1 _ _ cur _ _ hbrk => exact (irStep_ord cur h hb hre).1 hbrk
  | case2 _ cur _ _ hbrk =>
    have := (irStep_ord cur h hb hre).2 (Bool.eq_false_iff.mpr hbrk)
    exact this.1.mono this.2
  | case3 _ cur _ _ hbrk _ _ ih =>
    have := (irStep_ord cur h hb hre).2 (Bool.eq_false_iff.mpr hbrk)
    exact ih _ this.1 (Nat.le_refl _) this.2
  | case4 => exact h.mono (by omega)

/-- The excluded ranges (children, then the empty range after the node) in order from `prevEnd`. -/
def chainUp (prevEnd : Nat) : List Rg → Prop
  | [] => True
  | x :: xs => prevEnd ≤ x.1 ∧ x.1 ≤ x.2 ∧ chainUp x.2 xs

def lastEnd (prevEnd : Nat) : List Rg → Nat
  | [] => prevEnd
  | x :: xs => lastEnd x.2 xs

theorem chainUp_le (excl : List Rg) (p : Nat) (h : chainUp p excl) : p ≤ lastEnd p excl := by
  induction excl generalizing p with
  | nil => exact Nat.le_refl _
  | cons x xs ih => have := ih x.2 h.2.2; have := h.1; have := h.2.1; simp only [lastEnd]; omega

theorem irExcl_ord : ∀ (excl : List Rg) (prevEnd : Nat) (cur : Rg) (rest acc : List Rg) (b : Nat),
    OrdR acc b → b ≤ prevEnd → chainUp prevEnd excl →
    OrdR (irExcl prevEnd excl cur rest acc).1 (lastEnd prevEnd excl) := by
  intro excl prevEnd cur rest acc b h hb hc
  fun_induction irExcl prevEnd excl cur rest acc generalizing b with
  | case1 => exact h.mono hb
  | case2 _ _ _ _ _ _ _ ih => exact ih b h (by have := hc.1; have := hc.2.1; omega) hc.2.2
  | case3 prevEnd cur rest acc x xs =>
    have := chainUp_le xs x.2 hc.2.2
    exact (irWhile_ord x.1 rest prevEnd cur acc b h hb hc.1).mono (by have := hc.2.1; simp only [lastEnd]; omega)
  | case4 prevEnd cur rest acc x _ _ _ _ ih =>
    exact ih x.1 (irWhile_ord x.1 rest prevEnd cur acc b h hb hc.1) hc.2.1 hc.2.2

def nodesUp (b : Nat) : List INode → Prop
  | [] => True
  | nd :: ns => b ≤ nd.s ∧ chainOk nd.s nd.e nd.children ∧ nodesUp nd.e ns

theorem chainUp_excl (ch : List Rg) (lo hi : Nat) (h : chainOk lo hi ch) :
    chainUp lo (ch ++ [(hi, hi)]) ∧ lastEnd lo (ch ++ [(hi, hi)]) = hi := by
  induction ch generalizing lo with
  | nil => exact ⟨⟨h, Nat.le_refl _, trivial⟩, rfl⟩
  | cons c r ih => exact ⟨⟨h.1, h.2.1, (ih c.2 h.2.2).1⟩, (ih c.2 h.2.2).2⟩

theorem exclOf_up (incl : Bool) (nd : INode) (h : chainOk nd.s nd.e nd.children) :
    chainUp nd.s (exclOf incl nd) ∧ lastEnd nd.s (exclOf incl nd) = nd.e := by
  unfold exclOf
  cases incl with
  | true => exact chainUp_excl [] nd.s nd.e (chainOk_le h)
  | false => exact chainUp_excl nd.children nd.s nd.e h

theorem irNodes_ord (incl : Bool) : ∀ (nodes : List INode) (cur : Rg) (rest acc : List Rg) (b : Nat),
    OrdR acc b → nodesUp b nodes → ∃ b', OrdR (irNodes incl nodes cur rest acc) b' := by
  intro nodes cur rest acc b h hn
  fun_induction irNodes incl nodes cur rest acc generalizing b with
  | case1 => exact ⟨b, h⟩
  | case2 cur rest acc nd =>
    have hx := exclOf_up incl nd hn.2.1
    exact ⟨_, irExcl_ord (exclOf incl nd) nd.s cur rest acc b h hn.1 hx.1⟩
  | case3 cur rest acc nd _ _ _ ih =>
    have hx := exclOf_up incl nd hn.2.1
    exact ih nd.e (hx.2 ▸ irExcl_ord (exclOf incl nd) nd.s cur rest acc b h hn.1 hx.1) hn.2.2

/-- Every range computed by `intersect_ranges` — for ANY parent ranges, nodes and children (no
ordering assumption) — is non-empty, lies inside one of the parent layer's ranges, and lies inside
one gap of one content node (the stretch between two consecutive excluded ranges). -/
theorem intersect_ranges_spec (parents : List Rg) (nodes : List INode) (incl : Bool) :
    ∀ r ∈ intersectRanges parents nodes incl,
      r.1 < r.2 ∧ (∃ p ∈ parents, p.1 ≤ r.1 ∧ r.2 ≤ p.2) ∧
      (∃ g ∈ allGaps incl nodes, g.1 ≤ r.1 ∧ r.2 ≤ g.2) := by
  unfold intersectRanges
  cases parents with
  | nil => intro r hr; simp at hr
  | cons p ps =>
    exact irNodes_ok incl nodes p ps [] (fun g hg => hg) (List.mem_cons_self)
      (fun x hx => List.mem_cons_of_mem _ hx) (fun r hr => by simp at hr)

/-- When every content node has its children in order
inside it (true of syntax nodes), each content range lies inside the parent layer, inside a content
node, and — without `include-children` — is disjoint from every child of that node.  So a layer
created for these ranges is parsed only over text of the injection's content. -/
theorem injected_content_inside (parents : List Rg) (nodes : List INode) (incl : Bool)
    (hn : ∀ nd ∈ nodes, chainOk nd.s nd.e nd.children) :
    ∀ r ∈ intersectRanges parents nodes incl,
      (∃ p ∈ parents, p.1 ≤ r.1 ∧ r.2 ≤ p.2) ∧
      ∃ nd ∈ nodes, nd.s ≤ r.1 ∧ r.2 ≤ nd.e ∧
        (incl = false → ∀ c ∈ nd.children, c.2 ≤ r.1 ∨ r.2 ≤ c.1) := by
  intro r hr
  obtain ⟨hne, hp, g, hg, hg1, hg2⟩ := intersect_ranges_spec parents nodes incl r hr
  refine ⟨hp, ?_⟩
  obtain ⟨nd, hnd, hgn⟩ := List.mem_flatMap.mp hg
  refine ⟨nd, hnd, ?_⟩
  have hch : chainOk nd.s nd.e (if incl then [] else nd.children) := by
    cases incl
    · exact hn nd hnd
    · exact chainOk_le (hn nd hnd)
  obtain ⟨h1, h2, h3⟩ := gaps_chain hch g hgn
  refine ⟨Nat.le_trans h1 hg1, Nat.le_trans hg2 h2, fun hf c hc => ?_⟩
  subst hf
  exact (h3 c hc).imp (fun h => Nat.le_trans h hg1) (fun h => Nat.le_trans hg2 h)

/-- non-vacuity: two parent ranges, one node with two children, children excluded -/
example : intersectRanges [(0, 10), (14, 30)] [⟨2, 25, [(4, 6), (16, 18)]⟩] false
      = [(2, 4), (6, 10), (14, 16), (18, 25)] ∧
    chainOk 2 25 [(4, 6), (16, 18)] := by
  refine ⟨by decide, ?_⟩
  simp [chainOk]

/-- Order and disjointness of the injection content ranges: for ANY parent ranges (ordered or not,
overlapping or not) and content nodes listed in document order, each with its children in order inside
it (`nodesUp 0 nodes` — true of the syntax nodes a query cursor yields for one pattern in order),
the list `intersect_ranges` returns consists of non-empty ranges and every range ends at or before
the start of every later one — i.e. it is a valid `included_ranges` argument for `Parser::parse`
(`ts_parser_set_included_ranges` demands exactly this order). -/
theorem intersect_ranges_ordered (parents : List Rg) (nodes : List INode) (incl : Bool)
    (hn : nodesUp 0 nodes) :
    (intersectRanges parents nodes incl).Pairwise (fun r r' => r.2 ≤ r'.1) ∧
    ∀ r ∈ intersectRanges parents nodes incl, r.1 < r.2 := by
  unfold intersectRanges
  cases parents with
  | nil => exact ⟨List.Pairwise.nil, fun r hr => by simp at hr⟩
  | cons p ps =>
    obtain ⟨b', hb'⟩ := irNodes_ord incl nodes p ps [] 0 ⟨List.Pairwise.nil, fun r hr => by simp at hr⟩ hn
    exact ⟨hb'.1, fun r hr => (hb'.2 r hr).1⟩

/-- The injection branch of `HighlightIter::next` passes ONE content node (`&[content_node]`): its
content ranges are ordered and disjoint as soon as the node's children are in order inside it —
whatever the layer's own ranges are. -/
theorem injection_ranges_ordered (parents : List Rg) (nd : INode) (incl : Bool)
    (h : chainOk nd.s nd.e nd.children) :
    (intersectRanges parents [nd] incl).Pairwise (fun r r' => r.2 ≤ r'.1) ∧
    ∀ r ∈ intersectRanges parents [nd] incl, r.1 < r.2 :=
  intersect_ranges_ordered parents [nd] incl ⟨Nat.zero_le _, h, trivial⟩

/-- non-vacuity: two content nodes, the first with two children, parents with a gap that splits a
piece -/
example : nodesUp 0 [⟨2, 20, [(4, 6), (10, 12)]⟩, ⟨25, 30, []⟩] ∧
    intersectRanges [(0, 8), (9, 40)] [⟨2, 20, [(4, 6), (10, 12)]⟩, ⟨25, 30, []⟩] false =
      [(2, 4), (6, 8), (9, 10), (12, 20), (25, 30)] := by
  refine ⟨?_, by decide⟩
  simp [nodesUp, chainOk]

/-- The node-order hypothesis is needed: content nodes listed backwards give ranges out of order. -/
example : intersectRanges [(0, 40)] [⟨25, 30, []⟩, ⟨2, 20, []⟩] true = [(25, 30), (2, 20)] := by decide +kernel

/-- `injection_for_match`: a language captured from the source (`@injection.language`) wins over every property
(`injection.language` / `injection.self` / `injection.parent`). -/
theorem injection_language_captured (cfgLang : Nat) (parent : Option Nat) (nm : Nat) (content : Option INode)
    (props : List Full.IProp) :
    (Full.injectionForMatch cfgLang parent ⟨some nm, content, props⟩).1 = some nm := by
  unfold Full.injectionForMatch
  simp only
  generalize false = b
  induction props generalizing b with
  | nil => rfl
  | cons p r ih =>
    cases p <;> simp only [List.foldl_cons, Option.isNone_some, Bool.false_eq_true, ↓reduceIte] <;> exact ih _

end TsVerif.C17
