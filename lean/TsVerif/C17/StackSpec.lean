import TsVerif.C17.Full
import TsVerif.C17.Observed
/-!
# C17 judge: the scope stack over every `Source` span is the one the layers' captures define

SPEC-level clause, independent of the merge ports (no `sort_key`, no event ordering): from the
per-layer capture data the harness extracts through the public API,

* `layerSpans d` = the highlighted ranges `(start, end, highlight)` of ONE layer: per node the last
  highlight pattern wins (the `#is-not? local` patterns are skipped for local definitions /
  references), a resolved reference takes the definition's highlight — the per-layer meaning of the
  captures (functions of `Locals.lean` / `Full.lean` applied to one layer in isolation);
* `expected` highlights over a `Source` span `[a,b)` = those of all spans, of all layers, that
  contain `[a,b)`;
* `observed` = the stack the event stream defines (`Start` pushes, `End` pops).

The clause is evaluated only when `startTiesOk` holds (see there) and ALL spans of all layers form a laminar family (any two nested or
disjoint): with combined injections spans of different layers may overlap improperly, and then an
`End` necessarily pops another layer's span (the unchanged code does that too); such cases are
reported as `skip`.  Cross-layer de-duplication (`last_highlight_range`: a capture whose range was
just highlighted by a deeper layer is dropped) is accounted for by bounds: the observed multiset of
highlights must contain the expected one with every shallower same-range duplicate removed, and be
contained in the expected one without any removal.
-/
namespace TsVerif.C17
open Full

structure Span where
  s : Nat
  e : Nat
  h : Nat
  depth : Nat
  deriving Repr

def layerSpansGo (depth : Nat) : Nat → List LScope → List FCap → List Span
  | 0, _, _ => []
  | _ + 1, _, [] => []
  | f + 1, scopes, c :: rest =>
    match c.kind with
    | .inj _ => layerSpansGo depth f scopes rest
    | _ =>
      let run := Full.localsRun { scopes := popScopes c.s scopes, refHl := none, defP := false } c rest
      match run.2.1 with
      | none => layerSpansGo depth f run.1.scopes run.2.2
      | some hc =>
        let col := Full.collapseL (run.1.defP || run.1.refHl.isSome) hc.node (hlOf hc) run.2.2
        let scopes' := if run.1.defP then setDefHl col.1 run.1.scopes else run.1.scopes
        match run.1.refHl.or col.1 with
        | some hh => { s := c.s, e := c.e, h := hh, depth := depth } :: layerSpansGo depth f scopes' col.2
        | none => layerSpansGo depth f scopes' col.2

def layerSpans (d : FDef) : List Span :=
  layerSpansGo d.depth (d.caps.length + 1) [{ inherits := false, re := usizeMax, defs := [] }] d.caps

def allSpans (defs : List FDef) : List Span := defs.flatMap layerSpans

/-- insertion into a list sorted by (start ascending, end descending) -/
def insertSpan (x : Span) : List Span → List Span
  | [] => [x]
  | y :: r => if x.s < y.s || (x.s == y.s && x.e ≥ y.e) then x :: y :: r else y :: insertSpan x r

def sortSpans (l : List Span) : List Span := l.foldr insertSpan []

/-- Sweep over the sorted spans with the stack of enclosing spans: `false` on a partial overlap. -/
def laminarGo : List Span → List Span → Bool
  | _, [] => true
  | stack, x :: r =>
    let stack' := stack.dropWhile fun t => t.e ≤ x.s && !(t.s == x.s && t.e == x.e)
    match stack' with
    | t :: _ => if x.e ≤ t.e then laminarGo (x :: stack') r else false
    | [] => laminarGo [x] r

def laminar (spans : List Span) : Bool := laminarGo [] (sortSpans (spans.filter fun x => x.s < x.e))

/-- At one offset the code emits the `Start`s of deeper layers first ("scope boundaries from deeper
layers first"), so a deeper layer's span becomes the OUTER one.  That agrees with the ranges only if
every shallower-layer span starting at the same offset is not longer than the deeper one; otherwise
(typically: the injection's content node itself is highlighted and the injected layer's first node
starts with it) the unchanged code already nests the two the wrong way round and the clause is not
applicable.  Sweep over the spans sorted by start: within a group of equal starts compare all pairs. -/
def startTiesOk (spans : List Span) : Bool :=
  let real := sortSpans (spans.filter fun x => x.s < x.e)
  let rec go : List Span → Bool
    | [] => true
    | x :: r =>
      ((r.takeWhile fun y => y.s == x.s).all fun y =>
        -- x comes first in the order (start asc, end desc): x.e ≥ y.e
        (x.depth == y.depth) || (x.e == y.e) || (x.depth > y.depth)) && go r
  go real

/-- multiset inclusion of lists of numbers -/
def msub : List Nat → List Nat → Bool
  | [], _ => true
  | x :: r, l => if l.contains x then msub r (l.erase x) else false

/-- A span that a deeper layer has with exactly the same range (candidate for `last_highlight_range`). -/
def shadowed (spans : List Span) (x : Span) : Bool :=
  spans.any fun y => y.s == x.s && y.e == x.e && y.depth > x.depth

/-- `none` = not applicable (spans not laminar); `some (a, b)` = first `Source` span whose observed
highlights are not between the two expected bounds; `some (0, 0)` with `ok` … see `judgeStacks`. -/
def firstStackMismatch (spans : List Span) (evs : List Ev) : Option (Nat × Nat) :=
  let real := spans.filter fun x => x.s < x.e
  let lower := real.filter fun x => !shadowed real x
  ((observed evs).find? fun (a, b, st) =>
    let up := (real.filter fun x => x.s ≤ a && b ≤ x.e).map (·.h)
    let lo := (lower.filter fun x => x.s ≤ a && b ≤ x.e).map (·.h)
    -- a capture boundary strictly inside a `Source` span: the highlight was not opened / closed in place
    let inside := lower.any fun x => (a < x.s && x.s < b) || (a < x.e && x.e < b)
    inside || !(msub lo st && msub st up)).map fun (a, b, _) => (a, b)

/-- Within ONE layer the query cursor yields the captures of nodes that start at the same byte in
PATTERN order, not in nesting order; when a query lists the pattern of an inner node before the
pattern of an enclosing node that starts with it (`(word) @h.word` … `(call) @h.call`), the unchanged
code opens the inner highlight first and the stack is nested the wrong way round.  The clause
assumes captures in nesting order: among the spans of a layer (in capture order) that start at the
same offset, ends must not increase. -/
def captureOrderOk (l : List Span) : Bool :=
  match l with
  | [] => true
  | x :: r => ((r.filter fun y => y.s == x.s && x.s < x.e).all fun y => y.e ≤ x.e) && captureOrderOk r

/-- `skip…` when the clause is not applicable, else `ok` / `FAIL a-b`. -/
def judgeStacks (defs : List FDef) (evs : List Ev) : String :=
  let spans := allSpans defs
  if !(defs.all fun d => captureOrderOk (layerSpans d)) then "skip-capture-order"
  else if !laminar spans then "skip"
  else if !startTiesOk spans then "skip-start-tie"
  else match firstStackMismatch spans evs with
    | none => "ok"
    | some (a, b) => s!"FAIL@{a}-{b}"

end TsVerif.C17
