import TsVerif.C17.MergeMulti
/-!
# C17: `sort_layers` and `insert_layer` over any element type with a sort key

`MergeMulti.lean` and `Full.lean` both port `sort_layers` / `insert_layer`, for their own layer types.
Here the two functions are written once over a type `α` with `key : α → Option Key`; each model proves
that its port is this one.

What both functions do to the list is one fact (`Dropped`): the result is the input without some
elements that have no key, in some order.  Membership, sums of a weight that vanishes on key-less
elements, `flatMap`s of a function that is `[]` on them, counts and `Nodup` all follow from it.
-/
namespace TsVerif.C17.Keyed

variable {α : Type} (key : α → Option Key)

def leadCount (k : Key) : List α → Nat
  | [] => 0
  | l :: r =>
    match key l with
    | some k' => if keyLt k' k then leadCount k r + 1 else 0
    | none => 0

def sortLayers : List α → List α
  | [] => []
  | l0 :: rest =>
    match key l0 with
    | none => sortLayers rest
    | some k => rest.take (leadCount key k rest) ++ l0 :: rest.drop (leadCount key k rest)

def insGo (k : Key) (x : α) : List α → List α
  | [] => [x]
  | li :: r =>
    match key li with
    | some ki => if keyLt k ki then x :: li :: r else li :: insGo k x r
    | none => insGo k x r

def insertLayer (ls : List α) (x : α) : List α :=
  match key x with
  | none => ls
  | some k =>
    match ls with
    | [] => [x]
    | l0 :: rest => l0 :: insGo key k x rest

def Dropped (xs ys : List α) : Prop := ∃ d, xs.Perm (ys ++ d) ∧ ∀ x ∈ d, key x = none

variable {key}

theorem Dropped.of_perm {xs ys : List α} (h : xs.Perm ys) : Dropped key xs ys :=
  ⟨[], by rwa [List.append_nil], fun _ h => nomatch h⟩

theorem Dropped.refl (xs : List α) : Dropped key xs xs := .of_perm (.refl _)

theorem Dropped.trans {xs ys zs : List α} (h1 : Dropped key xs ys) (h2 : Dropped key ys zs) : Dropped key xs zs := by
  obtain ⟨d1, p1, n1⟩ := h1
  obtain ⟨d2, p2, n2⟩ := h2
  refine ⟨d2 ++ d1, ?_, fun x hx => (List.mem_append.mp hx).elim (n2 x) (n1 x)⟩
  rw [← List.append_assoc]
  exact p1.trans (p2.append_right d1)

theorem Dropped.cons (a : α) {xs ys : List α} (h : Dropped key xs ys) : Dropped key (a :: xs) (a :: ys) :=
  let ⟨d, p, n⟩ := h
  ⟨d, p.cons a, n⟩

theorem Dropped.append_left (a : List α) {xs ys : List α} (h : Dropped key xs ys) : Dropped key (a ++ xs) (a ++ ys) := by
  induction a with
  | nil => exact h
  | cons x a ih => exact ih.cons x

theorem Dropped.drop_head {a : α} (ha : key a = none) {xs ys : List α} (h : Dropped key xs ys) :
    Dropped key (a :: xs) ys :=
  let ⟨d, p, n⟩ := h
  ⟨a :: d, (p.cons a).trans List.perm_middle.symm, List.forall_mem_cons.mpr ⟨ha, n⟩⟩

theorem sortLayers_dropped (ls : List α) : Dropped key ls (sortLayers key ls) := by
  fun_induction sortLayers key ls with
  | case1 => exact .refl _
  | case2 _ _ hk ih => exact ih.drop_head hk
  | case3 =>
    refine .of_perm ((List.perm_middle.trans ?_).symm)
    rw [List.take_append_drop]

theorem insGo_dropped (k : Key) (x : α) (ls : List α) : Dropped key (x :: ls) (insGo key k x ls) := by
  fun_induction insGo key k x ls with
  | case1 | case2 => exact .refl _
  | case3 li r _ _ _ ih => exact (Dropped.of_perm (.swap li x r)).trans (ih.cons li)
  | case4 li r hk ih => exact (Dropped.of_perm (.swap li x r)).trans (ih.drop_head hk)

theorem insertLayer_dropped (ls : List α) (x : α) : Dropped key (x :: ls) (insertLayer key ls x) := by
  fun_cases insertLayer key ls x with
  | case1 ls hk => exact (Dropped.refl ls).drop_head hk
  | case2 => exact .refl _
  | case3 _ _ l0 rest => exact (Dropped.of_perm (.swap l0 x rest)).trans ((insGo_dropped _ x rest).cons l0)

theorem foldl_insertLayer_dropped (news ls : List α) :
    Dropped key (news ++ ls) (news.foldl (insertLayer key) ls) := by
  induction news generalizing ls with
  | nil => exact .refl _
  | cons x r ih =>
    refine (Dropped.of_perm List.perm_middle.symm).trans (((insertLayer_dropped ls x).append_left r).trans (ih _))

section
variable {xs ys : List α} (h : Dropped key xs ys)
include h

theorem Dropped.mem {y : α} (hy : y ∈ ys) : y ∈ xs :=
  let ⟨_, p, _⟩ := h
  p.symm.subset (List.mem_append_left _ hy)

theorem Dropped.sum (f : α → Nat) (hf : ∀ x, key x = none → f x = 0) : (ys.map f).sum = (xs.map f).sum := by
  obtain ⟨d, p, n⟩ := h
  have hd : (d.map f).sum = 0 := by
    clear p
    induction d with
    | nil => rfl
    | cons x d ih =>
      rw [List.map_cons, List.sum_cons, hf x (n x List.mem_cons_self), ih fun y hy => n y (List.mem_cons_of_mem _ hy)]
  rw [(p.map f).sum_nat, List.map_append, List.sum_append_nat, hd, Nat.add_zero]

theorem Dropped.flatMap {β : Type} (g : α → List β) (hg : ∀ x, key x = none → g x = []) :
    (ys.flatMap g).Perm (xs.flatMap g) := by
  obtain ⟨d, p, n⟩ := h
  have := p.flatMap_right g
  rw [List.flatMap_append, List.flatMap_eq_nil_iff.mpr fun x hx => hg x (n x hx), List.append_nil] at this
  exact this.symm

theorem Dropped.count_le {β : Type} [BEq β] (g : α → List β) (a : β) :
    (ys.flatMap g).count a ≤ (xs.flatMap g).count a := by
  obtain ⟨d, p, _⟩ := h
  rw [(p.flatMap_right g).count_eq, List.flatMap_append, List.count_append]
  exact Nat.le_add_right _ _

theorem Dropped.nodup_map {β : Type} (f : α → β) (hn : (xs.map f).Nodup) : (ys.map f).Nodup := by
  obtain ⟨d, p, _⟩ := h
  have := (p.map f).nodup_iff.mp hn
  rw [List.map_append] at this
  exact (List.nodup_append.mp this).1

end

theorem head_sortLayers {ls : List α} {l : α} {r : List α} (h : sortLayers key ls = l :: r) : key l ≠ none := by
  fun_induction sortLayers key ls with
  | case1 => cases h
  | case2 _ _ _ ih => exact ih h
  | case3 l0 rest k hk =>
    -- either no layer is passed over and `l0` stays first, or the first of `rest` is: it has a key below `k`
    revert h
    fun_cases leadCount key k rest with
    | case2 x _ _ hx => rintro ⟨⟩; rw [hx]; exact nofun
    | _ => rintro ⟨⟩; rw [hk]; exact nofun

end TsVerif.C17.Keyed
