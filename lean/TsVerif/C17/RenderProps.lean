import TsVerif.C17.Lossy
import TsVerif.C17.LinesThm
/-!
Clauses 6–9 of the clause map in `Props.lean`: the HTML renderer's output read back (tags removed, entities decoded) against the
source (`render_roundtrip_gen`, for any decoder, is in `Lemmas.lean`; the `LossyUtf8` iterator against the replacement-complete
decoding, clause 8, in `Lossy.lean`).
-/
namespace TsVerif.C17

theorem decoded_congr (d1 d2 : Bytes → Bytes) (evs : List Ev) (src : Bytes)
    (h : ∀ s e, Ev.source s e ∈ evs → d1 (sliceT src s e) = d2 (sliceT src s e)) :
    decoded d1 evs src = decoded d2 evs src := by
  induction evs with
  | nil => rfl
  | cons ev r ih =>
    have ihr := ih (fun s e hm => h s e (List.mem_cons_of_mem _ hm))
    unfold decoded at *
    simp only [List.flatMap_cons, ihr]
    cases ev with
    | source s e => simp only; rw [h s e (List.mem_cons_self)]
    | start _ => rfl
    | stop => rfl

/-- The attribute callback of the examples: `c` and a digit, no `>`. -/
def exCfg : RCfg := { attr := fun h => [99, 48 + h % 10], crh := some 7 }

theorem exCfg_nl : ∀ h, 10 ∉ exCfg.attr h := by
  intro h; simp only [exCfg, List.mem_cons, List.not_mem_nil, or_false, not_or]; omega

/-- non-vacuity of `render_line_offsets` (`LinesThm.lean`): `a\r\nb\r` inside a highlight with a
carriage-return highlight renders as `<span c1>a</span>\n<span c1>b<span c7></span></span>\n`; the CR of
CRLF leaves no marker, the CR at the end does, and the second line starts at byte 18. -/
example : (renderT lossyFixed exCfg [Ev.start 1, .source 0 5, .stop] [97, 13, 10, 98, 13]).lineOffsets = [0, 18] ∧
    lineStarts (renderT lossyFixed exCfg [Ev.start 1, .source 0 5, .stop] [97, 13, 10, 98, 13]).html = [0, 18] := by decide +kernel

theorem exCfg_attr : ∀ h, 62 ∉ exCfg.attr h := by
  intro h; simp only [exCfg, List.mem_cons, List.not_mem_nil, or_false, not_or]; omega

/-- Full statement, with the repaired iterator: the text read back is the source normalised by the
replacement-complete decoding. -/
theorem render_roundtrip_fixed (cfg : RCfg) (hattr : ∀ h, 62 ∉ cfg.attr h) (evs : List Ev) (src : Bytes) :
    judgeHtml lossySpec evs src (renderT lossyFixed cfg evs src).html = true := by
  rw [funext lossyFixed_eq_spec]
  exact render_roundtrip_gen lossySpec cfg hattr evs src

/-- The renderer clause for the iterator `lossy`, when every `Source` chunk is free of tail loss (does not end inside a
multi-byte sequence, nor with an invalid sequence right after a valid character).  Without that hypothesis it does not
hold: witnesses below. -/
theorem render_roundtrip_partial (cfg : RCfg) (hattr : ∀ h, 62 ∉ cfg.attr h) (evs : List Ev) (src : Bytes)
    (hchunks : ∀ s e, Ev.source s e ∈ evs → tailLoss (sliceT src s e) = false) :
    judgeHtml lossySpec evs src (renderT lossy cfg evs src).html = true := by
  have h := render_roundtrip_gen lossy cfg hattr evs src
  have ht : textOf lossy evs src = textOf lossySpec evs src := by
    unfold textOf
    rw [decoded_congr lossy lossySpec evs src (fun s e hm => lossy_eq_spec_partial _ (hchunks s e hm))]
  unfold judgeHtml at *
  rw [← ht]; exact h

/-- non-vacuity of `render_roundtrip_partial`: nested highlight over CR LF, an escaped `<`, a lone CR -/
example : (∀ s e, Ev.source s e ∈ [Ev.start 1, .source 0 3, .stop, .source 3 6] →
      tailLoss (sliceT [97, 13, 10, 60, 0xFF, 13] s e) = false) ∧
    wellFormed 6 [Ev.start 1, .source 0 3, .stop, .source 3 6] = true ∧
    htmlText (renderT lossy exCfg [Ev.start 1, .source 0 3, .stop, .source 3 6] [97, 13, 10, 60, 0xFF, 13]).html
      = [97, 10, 60, 0xEF, 0xBF, 0xBD, 10] := by
  refine ⟨?_, by decide, by decide⟩
  intro s e hm
  simp only [List.mem_cons, List.not_mem_nil, or_false, reduceCtorEq, false_or, Ev.source.injEq] at hm
  rcases hm with ⟨rfl, rfl⟩ | ⟨rfl, rfl⟩ <;> decide

/-- Witness (a) that the hypothesis of `render_roundtrip_partial` is needed: a chunk boundary inside `é…` / a source ending in a truncated
sequence loses the chunk's text: `ab\xe2` renders as an empty line. -/
theorem render_roundtrip_witness_truncated :
    judgeHtml lossySpec [Ev.source 0 3] [97, 98, 0xE2] (renderT lossy exCfg [Ev.source 0 3] [97, 98, 0xE2]).html = false ∧
    (renderT lossy exCfg [Ev.source 0 3] [97, 98, 0xE2]).html = [10] := by decide +kernel

/-- Witness (b): `ab\xff` renders as `ab` — the replacement character is lost. -/
theorem render_roundtrip_witness_final_invalid :
    judgeHtml lossySpec [Ev.source 0 3] [97, 98, 0xFF] (renderT lossy exCfg [Ev.source 0 3] [97, 98, 0xFF]).html = false := by decide +kernel

/-- A well-formed stream never makes `&source[start..end]` panic. -/
theorem render_total_of_wellFormed (dec : Bytes → Bytes) (cfg : RCfg) (evs : List Ev) (src : Bytes)
    (hwf : wellFormed src.length evs = true) : render dec cfg evs src = some (renderT dec cfg evs src) := by
  have key : ∀ (evs : List Ev) (pos depth : Nat), wellFormedFrom src.length pos depth evs = true →
      slicesOk src.length evs = true := by
    intro evs
    induction evs with
    | nil => intros; rfl
    | cons ev r ih =>
      intro pos depth h
      unfold slicesOk
      rw [List.all_cons, Bool.and_eq_true]
      cases ev with
      | source s e =>
        rw [wellFormedFrom, Bool.and_eq_true, Bool.and_eq_true, Bool.and_eq_true] at h
        exact ⟨Bool.and_eq_true_iff.mpr ⟨decide_eq_true (Nat.le_of_lt (of_decide_eq_true h.1.1.2)), h.1.2⟩, ih e depth h.2⟩
      | start hh => exact ⟨rfl, ih pos (depth + 1) h⟩
      | stop =>
        rw [wellFormedFrom, Bool.and_eq_true] at h
        exact ⟨rfl, ih pos (depth - 1) h.2⟩
  unfold render
  rw [if_pos (key evs 0 0 hwf)]

example : wellFormed 5 [Ev.start 3, .source 0 2, .start 4, .source 2 5, .stop, .stop] = true := by decide +kernel

/-- For a well-formed stream none of whose chunks ends inside a multi-byte sequence, decoding chunk by
chunk is decoding the whole source: the normalised text is `lossySpec src` with CRs dropped. -/
theorem normalize_whole (evs : List Ev) (src : Bytes) (hwf : wellFormed src.length evs = true)
    (hb : ∀ s e, Ev.source s e ∈ evs → endsTruncated (sliceT src s e) = false) :
    textOf lossySpec evs src = (lossySpec src).filter (· ≠ 13) := by
  unfold textOf
  rw [decoded_whole src evs 0 0 hwf hb, List.drop_zero]

/-- non-vacuity: chunk boundaries between characters (é | €), CR LF inside a highlight -/
example : wellFormed 7 [Ev.source 0 2, .start 1, .source 2 7, .stop] = true ∧
    (∀ s e, Ev.source s e ∈ [Ev.source 0 2, .start 1, .source 2 7, .stop] →
      endsTruncated (sliceT [0xC3, 0xA9, 0xE2, 0x82, 0xAC, 13, 10] s e) = false) := by
  refine ⟨by decide, ?_⟩
  intro s e hm
  simp only [List.mem_cons, List.not_mem_nil, or_false, reduceCtorEq, false_or, Ev.source.injEq] at hm
  rcases hm with ⟨rfl, rfl⟩ | ⟨rfl, rfl⟩ <;> decide

/-- The hypothesis cannot be dropped: a boundary inside `é` gives two replacement characters. -/
example : decoded lossySpec [Ev.source 0 1, .source 1 2] [0xC3, 0xA9] ≠ lossySpec [0xC3, 0xA9] := by decide +kernel

/-- The property's HTML clause about the WHOLE source, for the repaired code: tags removed and
entities decoded, the HTML is the lossily decoded source without CRs, plus the final newline. -/
theorem render_roundtrip_whole_fixed (cfg : RCfg) (hattr : ∀ h, 62 ∉ cfg.attr h) (evs : List Ev) (src : Bytes)
    (hwf : wellFormed src.length evs = true)
    (hb : ∀ s e, Ev.source s e ∈ evs → endsTruncated (sliceT src s e) = false) :
    let t := (lossySpec src).filter (· ≠ 13)
    let x := htmlText (renderT lossyFixed cfg evs src).html
    x = t ++ [10] ∨ (x = t ∧ t.getLast? = some 10) := by
  have h := render_roundtrip_fixed cfg hattr evs src
  unfold judgeHtml at h
  rw [normalize_whole evs src hwf hb] at h
  simpa using h

/-- The renderer clause of the property, for the code as committed (`lossyFixed`): for a WELL-FORMED
event stream over a VALID UTF-8 source whose `Source` spans do not end inside a character, the HTML
with tags removed and entities decoded is the source with carriage returns dropped, followed by the
final newline — which may be omitted only if that text already ends in a newline (exactly what
`judgeHtml` checks on every real output). -/
theorem render_reproduces_source (cfg : RCfg) (hattr : ∀ h, 62 ∉ cfg.attr h) (evs : List Ev) (src : Bytes)
    (hwf : wellFormed src.length evs = true) (hvalid : fromUtf8 src = none)
    (hb : ∀ s e, Ev.source s e ∈ evs → endsTruncated (sliceT src s e) = false) :
    let t := src.filter (· ≠ 13)
    let x := htmlText (renderT lossyFixed cfg evs src).html
    x = t ++ [10] ∨ (x = t ∧ t.getLast? = some 10) := by
  have h := render_roundtrip_whole_fixed cfg hattr evs src hwf hb
  rw [lossySpec_valid src hvalid] at h
  exact h

/-- non-vacuity: `a<é\r\n€` highlighted in two spans; the text comes back with `\r` dropped -/
example : wellFormed 9 [Ev.start 1, .source 0 4, .stop, .source 4 9] = true ∧
    fromUtf8 [97, 60, 0xC3, 0xA9, 13, 10, 0xE2, 0x82, 0xAC] = none ∧
    (∀ s e, Ev.source s e ∈ [Ev.start 1, .source 0 4, .stop, .source 4 9] →
      endsTruncated (sliceT [97, 60, 0xC3, 0xA9, 13, 10, 0xE2, 0x82, 0xAC] s e) = false) ∧
    htmlText (renderT lossyFixed exCfg [Ev.start 1, .source 0 4, .stop, .source 4 9] [97, 60, 0xC3, 0xA9, 13, 10, 0xE2, 0x82, 0xAC]).html
      = [97, 60, 0xC3, 0xA9, 10, 0xE2, 0x82, 0xAC, 10] := by
  refine ⟨by decide, by decide, ?_, by decide⟩
  intro s e hm
  simp only [List.mem_cons, List.not_mem_nil, or_false, reduceCtorEq, false_or, Ev.source.injEq] at hm
  rcases hm with ⟨rfl, rfl⟩ | ⟨rfl, rfl⟩ <;> decide

end TsVerif.C17
