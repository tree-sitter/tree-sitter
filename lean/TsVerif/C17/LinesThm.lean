import TsVerif.C17.Lines
import TsVerif.C17.Lemmas
/-!
# C17 — the model renderer's `line_offsets` are exactly the line starts of its html
-/
namespace TsVerif.C17

def nlPosGo : Nat → Bytes → List Nat
  | _, [] => []
  | i, c :: r => if c = 10 then (i + 1) :: nlPosGo (i + 1) r else nlPosGo (i + 1) r

theorem nlPos_append (a b : Bytes) : ∀ i, nlPosGo i (a ++ b) = nlPosGo i a ++ nlPosGo (i + a.length) b := by
  induction a with
  | nil => intro i; simp [nlPosGo]
  | cons c r ih =>
    intro i
    simp only [List.cons_append, nlPosGo, List.length_cons]
    rw [ih (i + 1)]
    have : i + 1 + r.length = i + (r.length + 1) := by omega
    rw [this]
    split <;> simp

theorem nlPos_none (b : Bytes) (h : 10 ∉ b) : ∀ i, nlPosGo i b = [] := by
  intro i
  fun_induction nlPosGo i b with
  | case1 => rfl
  | case2 => exact absurd List.mem_cons_self h
  | case3 _ _ _ _ ih => exact ih fun hm => h (List.mem_cons_of_mem _ hm)

theorem nlPos_le (b : Bytes) : ∀ i, ∀ x ∈ nlPosGo i b, x ≤ i + b.length := by
  intro i x hx
  fun_induction nlPosGo i b with
  | case1 => cases hx
  | case2 _ _ ih =>
    rw [List.length_cons]
    rcases List.mem_cons.mp hx with rfl | hx'
    · omega
    · have := ih hx'; omega
  | case3 _ _ _ _ ih => have := ih hx; rw [List.length_cons]; omega

theorem lineStartsGo_snoc (a : Bytes) : ∀ i, lineStartsGo i (a ++ [10]) = nlPosGo i a := by
  induction a with
  | nil => intro i; simp [lineStartsGo, nlPosGo]
  | cons c r ih =>
    intro i
    simp only [List.cons_append, lineStartsGo, nlPosGo]
    rw [ih (i + 1)]
    have : (r ++ [10]).isEmpty = false := by cases r <;> rfl
    simp [this]

def no10 (xs : Bytes) : Prop := 10 ∉ xs

/-- `line_offsets` is 0 and the position after every newline written so far, and no newline lies behind a pending CR offset —
so the late insertion of the CR marker there shifts no recorded line start. -/
structure JInv (st : RState) : Prop where
  offs : st.lineOffsets = 0 :: nlPosGo 0 st.html
  cr : ∀ off, st.lastCR = some off → off ≤ st.html.length ∧ 10 ∉ st.html.drop off

theorem rlen (st : RState) : st.rhtml.length = st.html.length := by simp [RState.html]

theorem jinv_push {st : RState} (hj : JInv st) (xs : Bytes) (hx : 10 ∉ xs) : JInv (st.push xs) := by
  constructor
  · show st.lineOffsets = 0 :: nlPosGo 0 (st.push xs).html
    rw [html_push, nlPos_append, nlPos_none xs hx, List.append_nil]
    exact hj.offs
  · intro off ho
    rw [lastCR_push] at ho
    obtain ⟨h1, h2⟩ := hj.cr off ho
    rw [html_push]
    refine ⟨by rw [List.length_append]; omega, ?_⟩
    rw [List.drop_append_of_le_length h1]
    exact fun hm => (List.mem_append.mp hm).elim h2 hx

theorem no10_spanClose : 10 ∉ spanClose := by decide

theorem no10_flatMap {α : Type} (l : List α) (f : α → Bytes) (h : ∀ a, 10 ∉ f a) : 10 ∉ l.flatMap f := by
  intro hm
  obtain ⟨a, _, ha⟩ := List.mem_flatMap.mp hm
  exact h a ha

theorem no10_spanOpen (cfg : RCfg) (hnl : ∀ h, 10 ∉ cfg.attr h) (h : Nat) : 10 ∉ spanOpen cfg h := by
  unfold spanOpen spanPre
  intro hm
  simp only [List.mem_append, List.mem_cons, List.not_mem_nil, or_false] at hm
  rcases hm with (hm | hm) | hm
  · omega
  · exact hnl h hm
  · omega

theorem no10_crSpan (cfg : RCfg) (hnl : ∀ h, 10 ∉ cfg.attr h) (h : Nat) : 10 ∉ crSpan cfg h := by
  have : crSpan cfg h = spanOpen cfg h ++ spanClose := (List.append_assoc _ _ _).symm
  rw [this]
  exact fun hm => (List.mem_append.mp hm).elim (no10_spanOpen cfg hnl h) no10_spanClose

theorem html_addNewline (cfg : RCfg) (hl : List Nat) (st : RState) :
    (addNewline cfg hl st).html = st.html ++ (hl.flatMap fun _ => spanClose) ++ [10] ++ hl.flatMap (spanOpen cfg) := by
  unfold addNewline
  simp [RState.html, RState.push]

theorem offs_addNewline (cfg : RCfg) (hl : List Nat) (st : RState) :
    (addNewline cfg hl st).lineOffsets =
      st.lineOffsets ++ [(st.html ++ (hl.flatMap fun _ => spanClose) ++ [10]).length] := by
  unfold addNewline
  simp [RState.html, RState.push]
  omega

theorem jinv_addNewline (cfg : RCfg) (hnl : ∀ h, 10 ∉ cfg.attr h) (hl : List Nat) {st : RState} (hj : JInv st)
    (hcr : st.lastCR = none) : JInv (addNewline cfg hl st) := by
  have hcr' : (addNewline cfg hl st).lastCR = none := by unfold addNewline; exact hcr
  constructor
  · rw [html_addNewline, offs_addNewline, nlPos_append, nlPos_append, nlPos_append,
      nlPos_none _ (no10_flatMap hl _ fun _ => no10_spanClose),
      nlPos_none _ (no10_flatMap hl _ (no10_spanOpen cfg hnl)), hj.offs]
    simp [nlPosGo]
    omega
  · intro off ho
    rw [hcr'] at ho
    simp at ho

theorem esc_no10 (c : Nat) (hc : c ≠ 10) : 10 ∉ esc c := by
  rcases esc_cases c with hm | ⟨_, _, he⟩
  · exact (by decide : ∀ c ∈ [62, 60, 38, 39, 34], 10 ∉ esc c) c hm
  · rw [he]; simpa using hc.symm

/-- Inserting `<span …></span>` at a remembered carriage return moves no recorded offset: no newline lies behind it. -/
theorem jinv_writes (cfg : RCfg) (hnl : ∀ h, 10 ∉ cfg.attr h) : Writes cfg fun st _ => JInv st where
  close hj := jinv_push hj _ no10_spanClose
  opn h hj := jinv_push hj _ (no10_spanOpen cfg hnl h)
  esc c hc hj := jinv_push hj _ (esc_no10 c hc)
  newline hl hcr hj := jinv_addNewline cfg hnl hl hj hcr
  mark {st _} hj := ⟨hj.offs, fun off ho => by
    cases ho
    show st.rhtml.length ≤ st.html.length ∧ 10 ∉ st.html.drop st.rhtml.length
    rw [rlen]; simp⟩
  clear hj := ⟨hj.offs, nofun⟩
  insert {st _ off} h ho hj := by
    obtain ⟨h1, h2⟩ := hj.cr off ho
    refine ⟨?_, fun o hh => nomatch hh⟩
    show st.lineOffsets = 0 :: nlPosGo 0 (RState.insertAt { st with lastCR := none } off (crSpan cfg h)).html
    rw [html_insertAt]
    show st.lineOffsets = 0 :: nlPosGo 0 (st.html.take off ++ crSpan cfg h ++ st.html.drop off)
    rw [nlPos_append, nlPos_append, nlPos_none _ (no10_crSpan cfg hnl h), nlPos_none _ h2, List.append_nil,
      List.append_nil, hj.offs]
    conv => lhs; rw [← List.take_append_drop off st.html, nlPos_append, nlPos_none _ h2, List.append_nil]

/-- The model renderer's `line_offsets` are exactly the line starts of its html: 0 and the byte after
every newline except a final one.  Hence every offset is the start of a line, none is missing,
`lines()` concatenates to the whole html and every line ends with a newline (the html ends with one).
Hypothesis: the attribute callback writes no newline (otherwise a newline inside a tag would look
like a line break to `lineStarts`). -/
theorem render_line_offsets (dec : Bytes → Bytes) (cfg : RCfg) (hnl : ∀ h, 10 ∉ cfg.attr h) (evs : List Ev) (src : Bytes) :
    (renderT dec cfg evs src).lineOffsets = lineStarts (renderT dec cfg evs src).html ∧
    (renderT dec cfg evs src).html.getLast? = some 10 := by
  unfold renderT renderFinish
  have hj : JInv (evs.foldl (renderEv dec cfg src) ({}, [])).1 :=
    (jinv_writes cfg hnl).fold dec src evs (p := ({}, [])) (t := []) ⟨rfl, nofun⟩
  generalize (evs.foldl (renderEv dec cfg src) ({}, [])).1 = st0 at hj
  have hj1 : JInv (finishCR cfg st0) := (jinv_writes cfg hnl).finishCR (t := []) hj
  generalize finishCR cfg st0 = st at hj1
  rw [html_finishOffsets]
  unfold finishNewline
  have hhead : st.rhtml.head? = st.html.getLast? := by simp [RState.html, List.getLast?_reverse]
  by_cases hlast : st.html.getLast? = some 10
  ·
    have hc0 : ¬ st.rhtml.head? ≠ some 10 := by rw [hhead, hlast]; simp
    rw [if_neg hc0]
    refine ⟨?_, hlast⟩
    obtain ⟨a, ha⟩ := List.getLast?_eq_some_iff.mp hlast
    unfold finishOffsets lineStarts
    have hoffs : st.lineOffsets = 0 :: (nlPosGo 0 a ++ [a.length + 1]) := by
      rw [hj1.offs, ha, nlPos_append]; simp [nlPosGo]
    have hlen : st.rhtml.length = a.length + 1 := by rw [rlen, ha, List.length_append]; rfl
    have hc : st.lineOffsets.getLast? = some st.rhtml.length := by
      rw [hoffs, hlen, ← List.cons_append, List.getLast?_concat]
    rw [if_pos hc]
    show st.lineOffsets.dropLast = 0 :: lineStartsGo 0 st.html
    rw [hoffs, ha, lineStartsGo_snoc, ← List.cons_append, List.dropLast_concat]
  ·
    have hc0 : st.rhtml.head? ≠ some 10 := by rw [hhead]; exact hlast
    rw [if_pos hc0]
    refine ⟨?_, by simp⟩
    unfold finishOffsets lineStarts
    have hoffs : (st.push [10]).lineOffsets = 0 :: nlPosGo 0 st.html := hj1.offs
    have hne : (st.push [10]).lineOffsets.getLast? ≠ some (st.push [10]).rhtml.length := by
      rw [hoffs, rlen, html_push, List.length_append, List.length_singleton]
      intro h
      rcases List.mem_cons.mp (List.mem_of_getLast? h) with h0 | h1
      · omega
      · have := nlPos_le st.html 0 _ h1; omega
    rw [if_neg hne, html_push, lineStartsGo_snoc]
    exact hoffs

end TsVerif.C17
