import TsVerif.C16.Table
/-!
# C16 — the look-ahead iterator lists the non-zero cells of its state

`Run` is the client loop over `next` as a relation; the port of `ts_lookahead_iterator__next` is used through one
equation per branch.  For a small state the run is the storage-order list of the decoded groups and
`ts_language_lookup` is the first match in them; for a large state the run is the list of the
non-zero columns of the row.
-/
namespace TsVerif.C16

/-- The observable behaviour of a client loop `while (next(it)) use(it.symbol, it.table_value)`,
as a relation (so that no fuel is involved in the statements). -/
inductive Run (L : Lang) : Iter → List (Nat × Nat) → Prop
  | stop {it : Iter} : (next L it).1 = false → Run L it []
  | step {it : Iter} {xs : List (Nat × Nat)} : (next L it).1 = true → Run L (next L it).2 xs →
      Run L it (((next L it).2.symbol, (next L it).2.tableValue) :: xs)

theorem Run.stop' {L : Lang} {it it' : Iter} (h : next L it = (false, it')) : Run L it [] :=
  Run.stop (by rw [h])

theorem Run.step' {L : Lang} {it it' : Iter} {xs : List (Nat × Nat)} (h : next L it = (true, it'))
    (hr : Run L it' xs) : Run L it ((it'.symbol, it'.tableValue) :: xs) := by
  have := Run.step (L := L) (it := it) (xs := xs) (by rw [h]) (by rw [h]; exact hr)
  rwa [h] at this

theorem collect_of_run {L : Lang} {it : Iter} {xs : List (Nat × Nat)} (h : Run L it xs) :
    ∀ fuel, xs.length < fuel → collect L fuel it = xs := by
  induction h with
  | @stop it h =>
    rintro (_ | f) hf
    · cases hf
    · rw [collect, show next L it = (false, (next L it).2) by rw [← h]]
  | @step it xs h _ ih =>
    rintro (_ | f) hf
    · cases hf
    · rw [collect, show next L it = (true, (next L it).2) by rw [← h]]
      exact congrArg _ (ih f (Nat.lt_of_succ_lt_succ hf))

theorem run_functional {L : Lang} {it : Iter} {xs ys : List (Nat × Nat)} (h : Run L it xs) (h' : Run L it ys) :
    xs = ys := by
  induction h generalizing ys with
  | stop h => cases h' with
    | stop _ => rfl
    | step h2 _ => simp [h] at h2
  | step h _ ih => cases h' with
    | stop h2 => simp [h] at h2
    | step _ r => rw [ih r]

theorem finish_eq (L : Lang) (it : Iter) : finish L it =
    (true, { it with actionCount := if it.symbol < L.tokenCount then L.ac it.tableValue else 0,
                     nextState := if it.symbol < L.tokenCount then 0 else it.tableValue, phase := .positioned }) := by
  unfold finish
  split <;> rfl

/-- the symbol the large-state scan starts from -/
def startOf (it : Iter) : Nat := if it.phase = .fresh then 0 else it.symbol + 1

theorem next_done {L : Lang} {it : Iter} (hp : it.phase = .done) : next L it = (false, it) := by
  unfold next; rw [if_pos hp]

theorem next_in_group {L : Lang} {it : Iter} (hp : it.phase ≠ .done) (hs : it.isSmall = true)
    (hd : it.data + 1 ≠ it.groupEnd) :
    next L it = (true, { it with data := it.data + 1, symbol := L.st (it.data + 1), phase := .positioned }) := by
  unfold next; rw [if_neg hp, if_pos hs]; exact if_neg hd

theorem next_last_group {L : Lang} {it : Iter} (hp : it.phase ≠ .done) (hs : it.isSmall = true)
    (hd : it.data + 1 = it.groupEnd) (hg : it.groupCount = 0) :
    next L it = (false, { it with data := it.data + 1, phase := .done }) := by
  unfold next; rw [if_neg hp, if_pos hs]; simp only [hd, hg, if_true]

theorem next_group {L : Lang} {it : Iter} (hp : it.phase ≠ .done) (hs : it.isSmall = true)
    (hd : it.data + 1 = it.groupEnd) (hg : it.groupCount ≠ 0) :
    next L it = finish L { it with data := it.data + 1 + 2, groupCount := it.groupCount - 1,
                                   tableValue := L.st (it.data + 1), groupEnd := it.data + 1 + 2 + L.st (it.data + 1 + 1),
                                   symbol := L.st (it.data + 1 + 2) } := by
  unfold next; rw [if_neg hp, if_pos hs]; simp only [hd, hg, if_true, if_false]

theorem next_large {L : Lang} {it : Iter} (hp : it.phase ≠ .done) (hs : it.isSmall = false) :
    next L it = if scanRow L it.data (startOf it) ≥ L.symbolCount then (false, { it with phase := .done })
      else finish L { it with symbol := scanRow L it.data (startOf it), tableValue := L.pt (it.data + scanRow L it.data (startOf it)) } := by
  unfold next; rw [if_neg hp, hs]; rfl

/-- `ge`: the end of the current group, `gc`: the groups left after it, `k`: its symbols not yet yielded; `hk`: what any iterator
standing on the group's last symbol goes on to yield. -/
theorem run_group (L : Lang) (rest : List (Nat × Nat)) (ge gc : Nat) :
    ∀ (k : Nat) (it : Iter), it.isSmall = true → it.phase = .positioned → it.data + 1 + k = ge →
      it.groupEnd = ge → it.groupCount = gc →
      (∀ it' : Iter, it'.isSmall = true → it'.phase = .positioned → it'.data + 1 = ge →
          it'.groupEnd = ge → it'.groupCount = gc → Run L it' rest) →
      Run L it ((symsAt L k (it.data + 1)).map (fun s => (s, it.tableValue)) ++ rest) := by
  intro k
  induction k with
  | zero =>
    intro it hs hp hd hge hgc hk
    exact hk it hs hp hd hge hgc
  | succ k ih =>
    intro it hs hp hd hge hgc hk
    have hn := next_in_group (L := L) (it := it) (by rw [hp]; exact Phase.noConfusion) hs (by omega)
    exact Run.step' hn (ih _ hs rfl (by rw [← hd]; exact Nat.add_right_comm ..) hge hgc hk)

theorem run_groups (L : Lang) :
    ∀ (g p : Nat) (it : Iter), it.isSmall = true → it.phase ≠ .done → it.data + 1 = p →
      it.groupEnd = p → it.groupCount = g → groupsWF L g p = true →
      Run L it (flatten (decode L g p)) := by
  intro g
  induction g with
  | zero =>
    intro p it hs hp hd hge hgc _
    exact Run.stop' (next_last_group hp hs (hd.trans hge.symm) hgc)
  | succ g ih =>
    intro p it hs hp hd hge hgc hwf
    subst hd
    simp only [groupsWF, Bool.and_eq_true, decide_eq_true_eq] at hwf
    obtain ⟨⟨⟨hc, _⟩, _⟩, hrest⟩ := hwf
    obtain ⟨c, hc'⟩ : ∃ c, L.st (it.data + 1 + 1) = c + 1 := ⟨_, (Nat.sub_add_cancel hc).symm⟩
    have hn := next_group (L := L) hp hs hge.symm (by rw [hgc]; exact Nat.succ_ne_zero g)
    rw [finish_eq] at hn
    -- the group's first symbol comes with the step into the group, its other `c` symbols by `run_group`
    have := Run.step' hn (run_group L _ (it.data + 1 + 2 + L.st (it.data + 1 + 1)) g c _ hs rfl
      (by show it.data + 1 + 2 + 1 + c = _; rw [hc', Nat.add_comm c 1, Nat.add_assoc]) rfl (by show it.groupCount - 1 = g; rw [hgc]; rfl)
      (fun it' hs' hp' hd' hge' hgc' => ih _ it' hs' (by rw [hp']; exact Phase.noConfusion) hd' hge' hgc' hrest))
    simpa only [decode, flatten, hc', symsAt, List.map_cons, List.cons_append] using this

theorem symsAt_length (L : Lang) : ∀ n q, (symsAt L n q).length = n
  | 0, _ => rfl
  | n + 1, q => congrArg (· + 1) (symsAt_length L n (q + 1))

/-- where the `smallTable.size` in `fuelFor` comes from -/
theorem flatten_length_endPos (L : Lang) : ∀ (g p : Nat),
    (flatten (decode L g p)).length + 2 * g + p = endPos L g p := by
  intro g
  induction g with
  | zero => intro p; simp [decode, flatten, endPos]
  | succ g ih =>
    intro p
    have := ih (p + 2 + L.st (p + 1))
    simp only [decode, flatten, endPos, List.length_append, List.length_map, symsAt_length]
    omega

-- what `lookupSmall` computes, on the decoded groups
def firstMatch (sym : Nat) : List (Nat × List Nat) → Nat
  | [] => 0
  | (v, syms) :: rest => if sym ∈ syms then v else firstMatch sym rest

theorem scanSyms_iff (L : Lang) (sym : Nat) : ∀ (n pos : Nat),
    scanSyms L sym n pos = true ↔ sym ∈ symsAt L n pos := by
  intro n
  induction n with
  | zero => intro pos; simp [scanSyms, symsAt]
  | succ n ih =>
    intro pos
    simp only [scanSyms, symsAt, List.mem_cons]
    by_cases h : L.st pos = sym
    · simp [h]
    · have h' : ¬ sym = L.st pos := fun e => h e.symm
      simp [h, h', ih]

theorem lookupSmall_decode (L : Lang) (sym : Nat) : ∀ (g pos : Nat),
    lookupSmall L sym g pos = firstMatch sym (decode L g pos) := by
  intro g
  induction g with
  | zero => intro pos; rfl
  | succ g ih =>
    intro pos
    simp only [lookupSmall, decode, firstMatch]
    by_cases h : scanSyms L sym (L.st (pos + 1)) (pos + 2) = true
    · have := (scanSyms_iff L sym _ _).1 h
      simp [h, this]
    · have hm : ¬ sym ∈ symsAt L (L.st (pos + 1)) (pos + 2) := fun m => h ((scanSyms_iff L sym _ _).2 m)
      simp [h, hm, ih]

/-- the first matching group is the only one (no symbol in two groups), and no group has the value 0 -/
theorem mem_flatten_decode (L : Lang) (sym v : Nat) : ∀ (g p : Nat), groupsWF L g p = true →
    ((flatten (decode L g p)).map (·.1)).Nodup →
    ((sym, v) ∈ flatten (decode L g p) ↔ sym < L.symbolCount ∧ firstMatch sym (decode L g p) = v ∧ v ≠ 0) := by
  intro g
  induction g with
  | zero =>
    intro p _ _
    simp only [decode, flatten, firstMatch, List.not_mem_nil, false_iff]
    rintro ⟨_, rfl, h⟩
    exact h rfl
  | succ g ih =>
    intro p hwf hnd
    simp only [groupsWF, Bool.and_eq_true, decide_eq_true_eq, List.all_eq_true] at hwf
    obtain ⟨⟨⟨_, hv⟩, hs⟩, hrest⟩ := hwf
    simp only [decode, flatten, List.map_append, List.map_map] at hnd ⊢
    obtain ⟨_, hnd2, hdis⟩ := List.nodup_append.1 hnd
    simp only [firstMatch, List.mem_append, List.mem_map, Prod.mk.injEq, ih _ hrest hnd2]
    by_cases hm : sym ∈ symsAt L (L.st (p + 1)) (p + 2)
    · rw [if_pos hm]
      constructor
      · rintro (⟨_, _, _, rfl⟩ | h)
        · exact ⟨hs sym hm, rfl, hv⟩
        · exact absurd rfl (hdis sym (List.mem_map.2 ⟨sym, hm, rfl⟩) sym
            (List.mem_map.2 ⟨(sym, v), (ih _ hrest hnd2).2 h, rfl⟩))
      · rintro ⟨_, rfl, _⟩
        exact Or.inl ⟨sym, hm, rfl, rfl⟩
    · rw [if_neg hm]
      constructor
      · rintro (⟨_, h, rfl, _⟩ | h)
        · exact absurd h hm
        · exact h
      · exact Or.inr

def nzList (f : Nat → Nat) : (k start : Nat) → List Nat
  | 0, _ => []
  | k + 1, s => if f s ≠ 0 then s :: nzList f k (s + 1) else nzList f k (s + 1)

theorem nzList_eq_filter (f : Nat → Nat) : ∀ (k s : Nat), nzList f k s = (List.range' s k).filter (fun x => f x != 0) := by
  intro k
  induction k with
  | zero => intro s; rfl
  | succ k ih =>
    intro s
    rw [nzList, ih, List.range'_succ, List.filter_cons]
    simp only [bne_iff_ne]

theorem mem_nzList (f : Nat → Nat) (k s x : Nat) : x ∈ nzList f k s ↔ s ≤ x ∧ x < s + k ∧ f x ≠ 0 := by
  rw [nzList_eq_filter, List.mem_filter, List.mem_range'_1, bne_iff_ne, and_assoc]

theorem nzList_nodup (f : Nat → Nat) (k s : Nat) : (nzList f k s).Nodup := by
  rw [nzList_eq_filter]
  exact List.Nodup.sublist List.filter_sublist (List.nodup_range' 1)

theorem nzList_length (f : Nat → Nat) (k s : Nat) : (nzList f k s).length ≤ k := by
  rw [nzList_eq_filter]
  exact Nat.le_trans (List.length_filter_le _ _) (Nat.le_of_eq List.length_range')

theorem scanRow_of_ge {L : Lang} {s : Nat} (row : Nat) (hs : L.symbolCount ≤ s) : scanRow L row s = s := by
  unfold scanRow
  rw [Nat.sub_eq_zero_of_le hs]
  rfl

theorem scanRow_of_lt {L : Lang} {s : Nat} (row : Nat) (hs : s < L.symbolCount) :
    scanRow L row s = if L.pt (row + s) != 0 then s else scanRow L row (s + 1) := by
  unfold scanRow
  rw [← Nat.succ_pred_eq_of_pos (Nat.sub_pos_of_lt hs)]
  rfl

theorem nzList_scan (L : Lang) (row : Nat) : ∀ (k s : Nat), s + k = L.symbolCount →
    (scanRow L row s ≥ L.symbolCount ∧ nzList (fun j => L.pt (row + j)) k s = []) ∨
    (scanRow L row s < L.symbolCount ∧ s ≤ scanRow L row s ∧ L.pt (row + scanRow L row s) ≠ 0 ∧
      ∃ k', k' < k ∧ scanRow L row s + 1 + k' = L.symbolCount ∧
        nzList (fun j => L.pt (row + j)) k s =
          scanRow L row s :: nzList (fun j => L.pt (row + j)) k' (scanRow L row s + 1)) := by
  intro k
  induction k with
  | zero =>
    intro s h
    have hs : L.symbolCount ≤ s := Nat.le_of_eq h.symm
    rw [scanRow_of_ge row hs]
    exact Or.inl ⟨hs, rfl⟩
  | succ k ih =>
    intro s h
    have hs : s < L.symbolCount := Nat.lt_of_lt_of_eq (Nat.lt_add_of_pos_right (Nat.succ_pos k)) h
    have h' : s + 1 + k = L.symbolCount := (Nat.add_right_comm s 1 k).trans h
    rw [scanRow_of_lt row hs, nzList]
    by_cases hz : L.pt (row + s) = 0
    · rw [if_neg (by rw [hz]; exact Bool.noConfusion), if_neg (fun h => h hz)]
      rcases ih (s + 1) h' with h1 | ⟨h1, h2, h3, k', hk', hb, he⟩
      · exact Or.inl h1
      · exact Or.inr ⟨h1, Nat.le_of_succ_le h2, h3, k', Nat.lt_succ_of_lt hk', hb, he⟩
    · rw [if_pos (bne_iff_ne.2 hz), if_pos hz]
      exact Or.inr ⟨hs, Nat.le_refl _, hz, k, Nat.lt_succ_self _, h', rfl⟩

/-- strong induction on the number of columns left, because one call of `next` may skip several zero columns -/
theorem run_large (L : Lang) (row : Nat) : ∀ (k : Nat) (it : Iter), it.isSmall = false → it.phase ≠ .done →
    it.data = row → startOf it + k = L.symbolCount →
    Run L it ((nzList (fun j => L.pt (row + j)) k (startOf it)).map (fun s => (s, L.pt (row + s)))) := by
  intro k
  induction k using Nat.strongRecOn with
  | _ k ih =>
    intro it hs hp hd hk
    subst hd
    have hn := next_large (L := L) hp hs
    rcases nzList_scan L it.data k (startOf it) hk with ⟨h1, h2⟩ | ⟨h1, _, _, k', hk', hb, he⟩
    · rw [h2]
      rw [if_pos h1] at hn
      exact Run.stop' hn
    · rw [if_neg (Nat.not_le.2 h1), finish_eq] at hn
      rw [he]
      exact Run.step' hn (ih k' hk' _ hs Phase.noConfusion rfl hb)

/-- the non-zero cells of a state in storage order -/
def cells (L : Lang) (s : Nat) : List (Nat × Nat) :=
  if s ≥ L.largeStateCount then
    flatten (decode L (L.st (L.sm (s - L.largeStateCount))) (L.sm (s - L.largeStateCount) + 1))
  else (nzList (fun j => L.pt (s * L.symbolCount + j)) L.symbolCount 0).map fun x => (x, L.pt (s * L.symbolCount + x))

theorem smallStateWF_of_tableWF {L : Lang} (hwf : tableWF L = true) {s : Nat} (hs : s < L.stateCount)
    (hsmall : s ≥ L.largeStateCount) : smallStateWF L s = true := by
  simp only [tableWF, Bool.and_eq_true, decide_eq_true_eq, List.all_eq_true, List.mem_range] at hwf
  have hw := hwf.2 (s - L.largeStateCount) (Nat.sub_lt_sub_right hsmall hs)
  rwa [Nat.add_sub_of_le hsmall] at hw

theorem run_cells (L : Lang) (hwf : tableWF L = true) (s : Nat) (hs : s < L.stateCount) :
    Run L (lookaheads L s) (cells L s) ∧ (cells L s).length < fuelFor L := by
  unfold cells lookaheads
  by_cases hsmall : s ≥ L.largeStateCount
  · have hw := smallStateWF_of_tableWF hwf hs hsmall
    simp only [smallStateWF, Bool.and_eq_true, decide_eq_true_eq] at hw
    simp only [hsmall, decide_true, if_true]
    generalize L.sm (s - L.largeStateCount) = i at hw ⊢
    obtain ⟨⟨⟨_, hg⟩, hend⟩, _⟩ := hw
    refine ⟨run_groups L _ _ _ rfl Phase.noConfusion rfl rfl rfl hg, ?_⟩
    have := flatten_length_endPos L (L.st i) (i + 1)
    exact Nat.lt_succ_of_le (Nat.le_trans (Nat.le_trans
      (this ▸ Nat.le_trans (Nat.le_add_right _ _) (Nat.le_add_right _ _)) hend) (Nat.le_add_right _ _))
  · simp only [hsmall, decide_false, Bool.false_eq_true, if_false]
    refine ⟨run_large L (s * L.symbolCount) L.symbolCount _ rfl Phase.noConfusion rfl (Nat.zero_add _), ?_⟩
    rw [List.length_map]
    exact Nat.lt_succ_of_le (Nat.le_trans (nzList_length _ _ _) (Nat.le_add_left _ _))

theorem lookaheadList_eq (L : Lang) (hwf : tableWF L = true) (s : Nat) (hs : s < L.stateCount) :
    lookaheadList L s = cells L s :=
  collect_of_run (run_cells L hwf s hs).1 _ (run_cells L hwf s hs).2

theorem cells_spec (L : Lang) (hwf : tableWF L = true) (s : Nat) (hs : s < L.stateCount) :
    ((cells L s).map (·.1)).Nodup ∧
      ∀ sym v, (sym, v) ∈ cells L s ↔ (sym < L.symbolCount ∧ lookup L s sym = v ∧ v ≠ 0) := by
  unfold cells lookup
  by_cases hsmall : s ≥ L.largeStateCount
  · have hw := smallStateWF_of_tableWF hwf hs hsmall
    simp only [smallStateWF, Bool.and_eq_true, decide_eq_true_eq] at hw
    simp only [hsmall, if_true, lookupSmall_decode]
    exact ⟨hw.2, fun sym v => mem_flatten_decode L sym v _ _ hw.1.1.2 hw.2⟩
  · simp only [hsmall, if_false]
    refine ⟨?_, fun sym v => ?_⟩
    · rw [List.map_map]
      exact (List.map_id _).symm ▸ nzList_nodup _ _ _
    · simp only [List.mem_map, Prod.mk.injEq, mem_nzList, Nat.zero_le, Nat.zero_add, true_and]
      constructor
      · rintro ⟨a, ⟨h2, h3⟩, rfl, rfl⟩
        exact ⟨h2, rfl, h3⟩
      · rintro ⟨h1, rfl, h3⟩
        exact ⟨sym, ⟨h1, h3⟩, rfl, rfl⟩

/-- The client-visible list is the run of the iterator: the fuel of `collect` suffices. -/
theorem lookaheadList_run (L : Lang) (hwf : tableWF L = true) (s : Nat) (hs : s < L.stateCount) :
    Run L (lookaheads L s) (lookaheadList L s) :=
  lookaheadList_eq L hwf s hs ▸ (run_cells L hwf s hs).1

/-- For every well-formed table and every state, the iterator lists a
symbol iff the parse table has an entry for it in that state, and lists no symbol twice. -/
theorem lookahead_enumerates (L : Lang) (hwf : tableWF L = true) (s : Nat) (hs : s < L.stateCount) :
    (lookaheadSyms L s).Nodup ∧
    ∀ sym, sym ∈ lookaheadSyms L s ↔ (sym < L.symbolCount ∧ lookup L s sym ≠ 0) := by
  obtain ⟨hnd, hmem⟩ := cells_spec L hwf s hs
  rw [lookaheadSyms, lookaheadList_eq L hwf s hs]
  refine ⟨hnd, fun sym => ?_⟩
  simp only [List.mem_map]
  constructor
  · rintro ⟨⟨a, v⟩, hm, rfl⟩
    obtain ⟨h1, rfl, h3⟩ := (hmem a v).1 hm
    exact ⟨h1, h3⟩
  · rintro ⟨h1, h2⟩
    exact ⟨(sym, lookup L s sym), (hmem sym _).2 ⟨h1, rfl, h2⟩, rfl⟩

/-- The value the iterator exposes with a symbol (`table_value`, from which
`next_state` / the action list are read) is the parser's own table entry. -/
theorem lookahead_values (L : Lang) (hwf : tableWF L = true) (s : Nat) (hs : s < L.stateCount) :
    ∀ p ∈ lookaheadList L s, p.2 = lookup L s p.1 ∧ p.2 ≠ 0 := by
  rw [lookaheadList_eq L hwf s hs]
  rintro ⟨a, v⟩ hp
  have := ((cells_spec L hwf s hs).2 a v).1 hp
  exact ⟨this.2.1.symm, this.2.2⟩

/-- "exactly, each once": the iterator's output is a permutation of the exhaustive scan. -/
theorem lookahead_perm_nonzero (L : Lang) (hwf : tableWF L = true) (s : Nat) (hs : s < L.stateCount) :
    (lookaheadSyms L s).Perm (nonzeroSyms L s) := by
  obtain ⟨hnd, hmem⟩ := lookahead_enumerates L hwf s hs
  have hnd2 : (nonzeroSyms L s).Nodup := by
    unfold nonzeroSyms
    exact List.Nodup.sublist List.filter_sublist List.nodup_range
  refine (List.perm_ext_iff_of_nodup hnd hnd2).2 ?_
  intro sym
  rw [hmem]
  simp [nonzeroSyms]

/-- once `next` has returned false it keeps returning false and the iterator no longer moves. -/
theorem lookahead_done_stays (L : Lang) (it : Iter) (h : (next L it).1 = false) :
    next L (next L it).2 = (false, (next L it).2) := by
  -- `next` answers false only from the three branches that leave the phase `done`
  have hdone : (next L it).2.phase = .done := by
    by_cases hp : it.phase = .done
    · rw [next_done hp]; exact hp
    cases hs : it.isSmall with
    | true =>
      by_cases hd : it.data + 1 = it.groupEnd
      · by_cases hg : it.groupCount = 0
        · rw [next_last_group hp hs hd hg]
        · rw [next_group hp hs hd hg, finish_eq] at h; cases h
      · rw [next_in_group hp hs hd] at h; cases h
    | false =>
      rw [next_large hp hs] at h ⊢
      by_cases hr : scanRow L it.data (startOf it) ≥ L.symbolCount
      · rw [if_pos hr]
      · rw [if_neg hr, finish_eq] at h; cases h
  exact next_done hdone

end TsVerif.C16
