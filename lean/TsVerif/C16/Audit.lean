import TsVerif.C16.Witnesses
#print axioms TsVerif.C16.lookahead_enumerates
#print axioms TsVerif.C16.lookahead_values
#print axioms TsVerif.C16.lookahead_perm_nonzero
#print axioms TsVerif.C16.lookaheadList_run
#print axioms TsVerif.C16.lookahead_done_stays
#print axioms TsVerif.C16.conforms_iff
#print axioms TsVerif.C16.allowed_iff_reach
#print axioms TsVerif.C16.closure_always_converges
#print axioms TsVerif.C16.derive_sound_partial
#print axioms TsVerif.C16.derive_entry_fields_partial
#print axioms TsVerif.C16.collapse_preserves_admitted
#print axioms TsVerif.C16.name_roundtrip
#print axioms TsVerif.C16.field_roundtrip
#print axioms TsVerif.C16.real_file_admits
#print axioms TsVerif.C16.inline_round
#print axioms TsVerif.C16.inlined_file_admits
#print axioms TsVerif.C16.lfp_closed
#print axioms TsVerif.C16.lfp_least
#print axioms TsVerif.C16.lfp_admits
#print axioms TsVerif.C16.extras_transparent
#print axioms TsVerif.C16.derive_entry_fields_extras
#print axioms TsVerif.C16.Derive.foWit
#print axioms TsVerif.C16.lookahead_covers_driver
#print axioms TsVerif.C16.lookahead_covers_steps
#print axioms TsVerif.C16.lookahead_yields_have_actions
#print axioms TsVerif.C16.kinds_listed_sound
#print axioms TsVerif.C16.symbol_type_flags
