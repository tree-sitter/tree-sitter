import TsVerif.C16.Derive
/-!
# C16 — executable side of the derivation model

`InfoF` is a finite `Info`; `closedB` decides `Closed` for it (`closedB_sound`), so that on every run the
check can evaluate closedness of the REAL node-types.json (visible rules) together with the least
information of the hidden rules (`leastHidden`, computed by iterating the inequations) against the
productions of the real grammar — and then `derive_sound_partial` applies to the real file.
-/
namespace TsVerif.C16.Derive
open TsVerif.C16

structure VarInfo where
  children : List TypeRef := []
  childMax : Nat := 0
  childMin : Nat := 0
  fields : List (String × List TypeRef × Nat × Nat) := []     -- field, kinds, max, min
  plain : List TypeRef := []
  plainMax : Nat := 0
  plainMin : Nat := 0
  deriving Repr, Inhabited, BEq

abbrev InfoF := List VarInfo

def InfoF.var (I : InfoF) (v : Nat) : VarInfo := I.getD v {}
def VarInfo.field (vi : VarInfo) (f : String) : Option (String × List TypeRef × Nat × Nat) :=
  vi.fields.find? (fun e => e.1 == f)

def InfoF.toInfo (I : InfoF) : Info :=
  { children := fun v => (I.var v).children,
    childMax := fun v => (I.var v).childMax,
    childMin := fun v => (I.var v).childMin,
    fieldTypes := fun v f => match (I.var v).field f with | some e => e.2.1 | none => [],
    fieldMax := fun v f => match (I.var v).field f with | some e => e.2.2.1 | none => 0,
    fieldMin := fun v f => match (I.var v).field f with | some e => e.2.2.2 | none => 0,
    plainTypes := fun v => (I.var v).plain,
    plainMax := fun v => (I.var v).plainMax,
    plainMin := fun v => (I.var v).plainMin }

/-- every field name used by a step of the grammar or present in the information -/
def fieldUniverse (G : Grammar) (I : InfoF) : List String :=
  (G.prods.flatMap (fun ps => ps.flatMap (fun p => p.filterMap (·.field)))) ++ I.flatMap (fun vi => vi.fields.map (·.1))

def stepClosedB (G : Grammar) (I : InfoF) (v : Nat) (s : Step) : Bool :=
  let J := I.toInfo
  match visTy G s with
  | some ty =>
    decide (ty ∈ J.children v) &&
    (match s.field with
     | some f => decide (ty ∈ J.fieldTypes v f)
     | none => !ty.named || decide (ty ∈ J.plainTypes v))
  | none => match G.kind s.sym with
    | .token _ => true
    | .rule h _ =>
      (J.children h).all (fun t => decide (t ∈ J.children v)) &&
      (I.var h).fields.all (fun e => e.2.1.all (fun t => decide (t ∈ J.fieldTypes v e.1))) &&
      (match s.field with
       | some f => (J.children h).all (fun t => decide (t ∈ J.fieldTypes v f))
       | none => (J.plainTypes h).all (fun t => decide (t ∈ J.plainTypes v)))

def prodClosedB (G : Grammar) (I : InfoF) (F : List String) (v : Nat) (p : List Step) : Bool :=
  let J := I.toInfo
  p.all (stepClosedB G I v) &&
  (decide (2 ≤ J.childMax v) || decide (sumBy (stepChildMax G J) p ≤ J.childMax v)) &&
  F.all (fun f => decide (2 ≤ J.fieldMax v f) || decide (sumBy (stepFieldMax G J f) p ≤ J.fieldMax v f)) &&
  decide (J.childMin v ≤ sumBy (stepChildMin G J) p) &&
  F.all (fun f => decide (J.fieldMin v f ≤ sumBy (stepFieldMin G J f) p)) &&
  (decide (2 ≤ J.plainMax v) || decide (sumBy (stepPlainMax G J) p ≤ J.plainMax v)) &&
  decide (J.plainMin v ≤ sumBy (stepPlainMin G J) p)

/-- decides `Closed G I.toInfo` -/
def closedB (G : Grammar) (I : InfoF) : Bool :=
  let F := fieldUniverse G I
  (List.range G.prods.length).all (fun v => (G.prodsOf v).all (prodClosedB G I F v))

/-- first production that is not closed: (variable, production index) — diagnostics -/
def firstOpen (G : Grammar) (I : InfoF) : Option (Nat × Nat) :=
  let F := fieldUniverse G I
  (List.range G.prods.length).findSome? (fun v =>
    ((G.prodsOf v).zipIdx.find? (fun (p, _) => !prodClosedB G I F v p)).map (fun (_, i) => (v, i)))

/-! ## least information of the hidden rules, by iteration -/

def satAdd (a b : Nat) : Nat := min (a + b) 2
def unionTy (a b : List TypeRef) : List TypeRef := a ++ b.filter (fun t => !decide (t ∈ a))

structure Acc where
  children : List TypeRef := []
  plain : List TypeRef := []
  fields : List (String × List TypeRef) := []
  deriving Inhabited

def Acc.addField (a : Acc) (f : String) (ts : List TypeRef) : Acc :=
  if a.fields.any (·.1 == f) then
    { a with fields := a.fields.map (fun e => if e.1 == f then (e.1, unionTy e.2 ts) else e) }
  else { a with fields := a.fields ++ [(f, ts)] }

/-- kinds contributed by one step (with the current information of hidden rules) -/
def stepTypes (G : Grammar) (I : InfoF) (a : Acc) (s : Step) : Acc :=
  match visTy G s with
  | some ty =>
    let a := { a with children := unionTy a.children [ty] }
    match s.field with
    | some f => a.addField f [ty]
    | none => if ty.named then { a with plain := unionTy a.plain [ty] } else a
  | none => match G.kind s.sym with
    | .token _ => a
    | .rule h _ =>
      let hi := I.var h
      let a := { a with children := unionTy a.children hi.children }
      let a := hi.fields.foldl (fun a e => a.addField e.1 e.2.1) a
      match s.field with
      | some f => a.addField f hi.children
      | none => { a with plain := unionTy a.plain hi.plain }

/-- one round: recompute the information of variable `v` from its productions -/
def stepVar (G : Grammar) (I : InfoF) (F : List String) (v : Nat) : VarInfo :=
  let J := I.toInfo
  let ps := G.prodsOf v
  let acc := ps.foldl (fun a p => p.foldl (stepTypes G I) a) ({} : Acc)
  let maxOver (g : List Step → Nat) : Nat := ps.foldl (fun m p => max m (min (g p) 2)) 0
  let minOver (g : List Step → Nat) : Nat := ps.foldl (fun m p => min m (g p)) 2
  { children := acc.children, plain := acc.plain,
    childMax := maxOver (sumBy (stepChildMax G J)), childMin := minOver (sumBy (stepChildMin G J)),
    plainMax := maxOver (sumBy (stepPlainMax G J)), plainMin := minOver (sumBy (stepPlainMin G J)),
    fields := F.filterMap (fun f =>
      let ts := (acc.fields.find? (·.1 == f)).map (·.2) |>.getD []
      let mx := maxOver (sumBy (stepFieldMax G J f))
      -- the entry is kept even when the field does not occur (yet): its minimum must come down from "many",
      -- not up from 0 (a recursive hidden rule would otherwise stay at "not required" although the field is
      -- present in every derivation)
      some (f, ts, mx, minOver (sumBy (stepFieldMin G J f)))) }

/-- iterate from the bottom (no kinds, maximum 0, minimum "many") over the variables in `hidden`;
the other variables keep the information given in `I0` (the real node-types file) -/
def iterate (G : Grammar) (F : List String) (hidden : List Nat) : Nat → InfoF → InfoF
  | 0, I => I
  | n + 1, I =>
    let I' := (List.range I.length).map (fun v => if hidden.contains v then stepVar G I F v else I.var v)
    if I' == I then I else iterate G F hidden n I'

end TsVerif.C16.Derive
