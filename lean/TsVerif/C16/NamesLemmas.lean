import TsVerif.C16.Names
/-!
# C16 — the name tables: what the decidable checks on a symbol table give

`namesRoundTrip`, `pubConsistent`, `kindsListed` are evaluated on every real table; these lemmas say in `Prop` what a `true`
answer means, and what the port of `ts_language_symbol_type` answers.
-/
namespace TsVerif.C16

/-- If the two decidable checks hold for a symbol table then every public symbol
of a symbol with a node kind is found again from its own name and namedness. -/
theorem name_roundtrip (T : SymTab) (h1 : namesRoundTrip T = true) (h2 : pubConsistent T = true) :
    ∀ s ∈ T.syms, s.hasKind = true →
      ∃ p, T.syms[s.pub]? = some p ∧ p.name = s.name ∧ p.named = s.named ∧
        symbolForName T p.name p.named = s.pub := by
  intro s hs hk
  simp only [namesRoundTrip, List.all_eq_true, Bool.or_eq_true, Bool.not_eq_true', beq_iff_eq] at h1
  simp only [pubConsistent, List.all_eq_true, Bool.or_eq_true, Bool.not_eq_true'] at h2
  have a := h1 s hs
  have b := h2 s hs
  rw [hk] at a b
  simp only [Bool.true_eq_false, false_or] at a b
  cases hp : T.syms[s.pub]? with
  | none => simp [hp] at b
  | some p =>
    simp only [hp, Bool.and_eq_true, beq_iff_eq] at b
    exact ⟨p, rfl, b.1.1.1, b.1.1.2, by rw [b.1.1.1, b.1.1.2]; exact a⟩

/-- With pairwise distinct field names, id → name → id is the identity on
`1 … field_count`. -/
theorem field_roundtrip (T : SymTab) (hnd : T.fieldNames.Nodup) :
    ∀ id, 1 ≤ id → id ≤ T.fieldNames.length →
      ∃ n, fieldNameForId T id = some n ∧ fieldIdForName T n = id := by
  rintro (_ | k) h1 h2
  · cases h1
  · have hlt : k < T.fieldNames.length := h2
    refine ⟨T.fieldNames[k], ?_, ?_⟩
    · rw [fieldNameForId, if_neg (Nat.succ_ne_zero k), Nat.add_sub_cancel, List.getElem?_eq_getElem hlt]
    · rw [fieldIdForName, List.Nodup.idxOf_getElem hnd k hlt, if_pos hlt]

/-- What the port of `ts_language_symbol_type` answers to the bindings' three
questions, in terms of the table's metadata (compared with the real function for every id: `corr_symtype`) -/
theorem symbol_type_flags (s : SymInfo) :
    kindFlags s = (s.visible, s.named && s.visible, s.supertype && !s.visible) := by
  cases s with
  | mk n v nm sup p => cases v <;> cases nm <;> cases sup <;> rfl

/-- "each node type is listed" on the level of the LANGUAGE, not of sampled
trees — when the decidable `kindsListed` holds for a symbol table and the entries of a node-types file
(evaluated on every real pair), every symbol a node can carry (visible; inlined rule names excepted,
they never become nodes) has an entry of its (kind, named), and every supertype symbol a supertype entry. -/
theorem kinds_listed_sound (T : SymTab) (inl : List (List Nat)) (entries : List (List Nat × Bool × Bool))
    (h : kindsListed T inl entries = true) (s : SymInfo) (hs : s ∈ T.syms) :
    (s.visible = true → s.name ∉ inl → ∃ e ∈ entries, e.1 = s.name ∧ e.2.1 = s.named ∧ e.2.2 = false) ∧
    (s.supertype = true → s.visible = false → ∃ e ∈ entries, e.1 = s.name ∧ e.2.2 = true) := by
  unfold kindsListed at h
  have h1 := (List.all_eq_true.1 h) s hs
  simp only [Bool.and_eq_true, Bool.or_eq_true, Bool.not_eq_true', Bool.and_eq_false_imp, List.any_eq_true,
    beq_iff_eq, Bool.not_eq_false'] at h1
  constructor
  · intro hv hn
    rcases h1.1 with h2 | ⟨e, he, h3⟩
    · have := h2 hv
      simp only [List.contains_iff_mem] at this
      exact absurd this hn
    · exact ⟨e, he, h3.1.1, h3.1.2, h3.2⟩
  · intro hsup hv
    rcases h1.2 with h2 | ⟨e, he, h3⟩
    · have := h2 hsup
      rw [hv] at this; cases this
    · exact ⟨e, he, h3.1, h3.2⟩

end TsVerif.C16
