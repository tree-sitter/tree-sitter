import TsVerif.C16.Derive
/-!
# C16 — inlined rules as substitution (`prepare_grammar/process_inlines.rs`)

`process_inlines` replaces, in every production, a step whose symbol is an inlined variable by each of
that variable's productions; every inserted step takes the removed step's alias (if it has one) and
the removed step's field (if it has one) — `override`.  `expandProd` is that substitution for one
production (all inlined references of the production at once), `inlineG` for a grammar.

`KidsNI` is the derivation semantics of the ORIGINAL grammar in which a reference to an inlined
variable contributes the children of one of the variable's productions, spliced in place, with the
reference's alias / field stamped on every step of that production (no node for the variable itself).
`inline_round`: the derivations of `inlineG G inl` are exactly those.

One round replaces the references present in `G`; references to inlined variables INSIDE the inserted
productions remain (and are then hidden-rule references).  The driver applies rounds (`inlineRounds`) until no
reference is left — each round is an instance of the theorem; nothing is proved about the composite `inlineRounds`.
-/
namespace TsVerif.C16.Derive

/-- the inserted step: alias and field of the removed step win when present -/
def override (o s : Step) : Step :=
  { sym := s.sym,
    field := match o.field with | some f => some f | none => s.field,
    alias := match o.alias with | some a => some a | none => s.alias }

def inlRef (G : Grammar) (inl : List Nat) (s : Step) : Option Nat :=
  match G.kind s.sym with
  | .rule h _ => if inl.contains h then some h else none
  | .token _ => none

def expandProd (G : Grammar) (inl : List Nat) : List Step → List (List Step)
  | [] => [[]]
  | s :: rest =>
    match inlRef G inl s with
    | some h => (G.prodsOf h).flatMap (fun q => (expandProd G inl rest).map (fun t => q.map (override s) ++ t))
    | none => (expandProd G inl rest).map (fun t => s :: t)

def inlineG (G : Grammar) (inl : List Nat) : Grammar :=
  { syms := G.syms, prods := G.prods.map (fun ps => ps.flatMap (expandProd G inl)) }

/-- does any production still refer to an inlined variable (from a variable that is itself not inlined)? -/
def hasInlRef (G : Grammar) (inl : List Nat) : Bool :=
  (List.range G.prods.length).any (fun v => !inl.contains v && (G.prodsOf v).any (fun p => p.any (fun s => (inlRef G inl s).isSome)))

def inlineRounds (inl : List Nat) (budget : Nat) : Nat → Grammar → Option Grammar
  | 0, G => if hasInlRef G inl then none else some G
  | n + 1, G =>
    if hasInlRef G inl then
      let G' := inlineG G inl
      if (G'.prods.foldl (fun a ps => a + ps.length) 0) > budget then none else inlineRounds inl budget n G'
    else some G

def StepKidsI (G : Grammar) (inl : List Nat) (K : Nat → List Child → Prop) (s : Step) (k : List Child) : Prop :=
  match inlRef G inl s with
  | some h => ∃ q ∈ G.prodsOf h, StepsKids G K (q.map (override s)) k
  | none => StepKids G K s k

def StepsKidsI (G : Grammar) (inl : List Nat) (K : Nat → List Child → Prop) : List Step → List Child → Prop
  | [], ks => ks = []
  | s :: rest, ks => ∃ k1 k2, ks = k1 ++ k2 ∧ StepKidsI G inl K s k1 ∧ StepsKidsI G inl K rest k2

def KidsNI (G : Grammar) (inl : List Nat) : Nat → Nat → List Child → Prop
  | 0, _, _ => False
  | n + 1, v, ks => ∃ p ∈ G.prodsOf v, StepsKidsI G inl (KidsNI G inl n) p ks

theorem stepsKids_append (G : Grammar) (K : Nat → List Child → Prop) (a b : List Step) (ks : List Child) :
    StepsKids G K (a ++ b) ks ↔ ∃ k1 k2, ks = k1 ++ k2 ∧ StepsKids G K a k1 ∧ StepsKids G K b k2 := by
  induction a generalizing ks with
  | nil =>
    simp only [List.nil_append, StepsKids]
    constructor
    · intro h; exact ⟨[], ks, rfl, rfl, h⟩
    · rintro ⟨k1, k2, rfl, rfl, h⟩; exact h
  | cons s rest ih =>
    simp only [List.cons_append, StepsKids]
    constructor
    · rintro ⟨k1, k2, rfl, h1, h2⟩
      obtain ⟨k3, k4, rfl, h3, h4⟩ := (ih k2).1 h2
      exact ⟨k1 ++ k3, k4, by simp, ⟨k1, k3, rfl, h1, h3⟩, h4⟩
    · rintro ⟨k1, k2, rfl, ⟨k3, k4, rfl, h3, h4⟩, h2⟩
      exact ⟨k3, k4 ++ k2, by simp, h3, (ih _).2 ⟨k4, k2, rfl, h4, h2⟩⟩

theorem inlineG_kind (G : Grammar) (inl : List Nat) (s : Nat) : (inlineG G inl).kind s = G.kind s := rfl

theorem inlineG_visTy (G : Grammar) (inl : List Nat) (s : Step) : visTy (inlineG G inl) s = visTy G s := rfl

theorem inlineG_stepKids (G : Grammar) (inl : List Nat) (K : Nat → List Child → Prop) (s : Step) (k : List Child) :
    StepKids (inlineG G inl) K s k ↔ StepKids G K s k := Iff.rfl

theorem inlineG_stepsKids (G : Grammar) (inl : List Nat) (K : Nat → List Child → Prop) :
    StepsKids (inlineG G inl) K = StepsKids G K := by
  -- an equality of functions, for `inline_round` to rewrite with; the recursive `StepsKids` unfolds unapplied only by `delta`
  delta StepsKids
  rfl

theorem inlineG_prodsOf (G : Grammar) (inl : List Nat) (v : Nat) :
    (inlineG G inl).prodsOf v = (G.prodsOf v).flatMap (expandProd G inl) := by
  unfold Grammar.prodsOf inlineG
  simp only [List.getD_eq_getElem?_getD, List.getElem?_map]
  cases G.prods[v]? <;> simp

theorem expandProd_sound (G : Grammar) (inl : List Nat) (K : Nat → List Child → Prop) (p : List Step) (ks : List Child) :
    (∃ p' ∈ expandProd G inl p, StepsKids G K p' ks) ↔ StepsKidsI G inl K p ks := by
  induction p generalizing ks with
  | nil =>
    simp only [expandProd, List.mem_singleton, StepsKidsI]
    constructor
    · rintro ⟨p', rfl, h⟩; exact h
    · intro h; exact ⟨[], rfl, h⟩
  | cons s rest ih =>
    simp only [StepsKidsI]
    unfold expandProd StepKidsI
    cases hr : inlRef G inl s with
    | none =>
      simp only [List.mem_map]
      constructor
      · rintro ⟨_, ⟨t, ht, rfl⟩, k1, k2, e, h1, h2⟩
        exact ⟨k1, k2, e, h1, (ih k2).1 ⟨t, ht, h2⟩⟩
      · rintro ⟨k1, k2, e, h1, h2⟩
        obtain ⟨t, ht, h3⟩ := (ih k2).2 h2
        exact ⟨s :: t, ⟨t, ht, rfl⟩, ⟨k1, k2, e, h1, h3⟩⟩
    | some h =>
      simp only [List.mem_flatMap, List.mem_map]
      constructor
      · rintro ⟨p', ⟨q, hq, t, ht, rfl⟩, hd⟩
        obtain ⟨k1, k2, e, h1, h2⟩ := (stepsKids_append G K _ _ ks).1 hd
        exact ⟨k1, k2, e, ⟨q, hq, h1⟩, (ih k2).1 ⟨t, ht, h2⟩⟩
      · rintro ⟨k1, k2, e, ⟨q, hq, h1⟩, h2⟩
        obtain ⟨t, ht, h3⟩ := (ih k2).2 h2
        exact ⟨q.map (override s) ++ t, ⟨q, hq, t, ht, rfl⟩, (stepsKids_append G K _ _ ks).2 ⟨k1, k2, e, h1, h3⟩⟩

end TsVerif.C16.Derive

namespace TsVerif.C16
open Derive

/-- `process_inlines` as substitution.  The children sequences derivable in the grammar
whose productions have every reference to an inlined variable replaced by each of that variable's
productions (the inserted steps taking the reference's alias and field: `override`) are EXACTLY the
sequences derivable in the original grammar when such a reference contributes the children of one of
the variable's productions, spliced in place with the alias / field stamped on every step (`KidsNI`):
no node for the inlined variable, and an inner field is REPLACED by the reference's field. -/
theorem inline_round (G : Grammar) (inl : List Nat) (n v : Nat) (ks : List Child) :
    KidsN (inlineG G inl) n v ks ↔ KidsNI G inl n v ks := by
  induction n generalizing v ks with
  | zero => exact Iff.rfl
  | succ n ih =>
    have hK : KidsN (inlineG G inl) n = KidsNI G inl n := funext fun v => funext fun ks => propext (ih v ks)
    simp only [KidsN, KidsNI, inlineG_prodsOf, List.mem_flatMap, hK, inlineG_stepsKids]
    constructor
    · rintro ⟨p', ⟨p, hp, hp'⟩, h⟩
      exact ⟨p, hp, (expandProd_sound G inl _ p ks).1 ⟨p', hp', h⟩⟩
    · rintro ⟨p, hp, h⟩
      obtain ⟨p', hp', h'⟩ := (expandProd_sound G inl _ p ks).2 h
      exact ⟨p', ⟨p, hp, hp'⟩, h'⟩

end TsVerif.C16
