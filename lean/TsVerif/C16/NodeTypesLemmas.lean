import TsVerif.C16.NodeTypes
/-!
# C16 — lemmas relating the node-types checker to declarative conformance
-/
namespace TsVerif.C16

theorem mem_subsOf {nt : NodeTypes} {s t : TypeRef} :
    t ∈ subsOf nt s ↔ ∃ e ∈ nt, e.ty = s ∧ ∃ subs, e.subtypes = some subs ∧ t ∈ subs := by
  simp only [subsOf, List.mem_flatMap]
  refine exists_congr fun e => and_congr_right fun _ => ?_
  by_cases h : e.ty = s <;> cases hs : e.subtypes <;> simp [h]

theorem closed_iff {nt : NodeTypes} {S : List TypeRef} :
    closed nt S = true ↔ ∀ s ∈ S, ∀ t ∈ subsOf nt s, t ∈ S := by
  simp only [closed, List.all_eq_true, List.mem_flatMap, decide_eq_true_eq]
  constructor
  · intro h s hs t ht; exact h t ⟨s, hs, ht⟩
  · rintro h t ⟨s, hs, ht⟩; exact h s hs t ht

theorem closure_spec (nt : NodeTypes) (roots : List TypeRef) : ∀ (fuel : Nat) (S0 S : List TypeRef),
    closure nt fuel S0 = some S → (∀ t ∈ roots, t ∈ S0) → (∀ t ∈ S0, Reach nt roots t) →
    ∀ t, t ∈ S ↔ Reach nt roots t := by
  have final : ∀ S : List TypeRef, closed nt S = true → (∀ t ∈ roots, t ∈ S) → (∀ t ∈ S, Reach nt roots t) →
      ∀ t, t ∈ S ↔ Reach nt roots t := by
    intro S hc hr hs t
    constructor
    · exact hs t
    · intro h
      induction h with
      | base hm => exact hr _ hm
      | sub _ he hty hsub ht ih =>
        exact (closed_iff.1 hc) _ ih _ (mem_subsOf.2 ⟨_, he, hty, _, hsub, ht⟩)
  intro fuel S0 S h hr hs
  induction fuel generalizing S0 <;> simp only [closure] at h <;> split at h
  case zero.isTrue hc | succ.isTrue hc => cases h; exact final _ hc hr hs
  case zero.isFalse => cases h
  case succ.isFalse f ih _ =>
    apply ih _ h
    · intro t ht; exact List.mem_append_left _ (hr t ht)
    · intro t ht
      simp only [stepSet, List.mem_append, List.mem_filter, List.mem_flatMap] at ht
      rcases ht with ht | ⟨⟨s, hsS, hts⟩, _⟩
      · exact hs t ht
      · obtain ⟨e, he, hty, subs, hsub, htm⟩ := mem_subsOf.1 hts
        exact Reach.sub (hs s hsS) he hty hsub htm

theorem reach_of_roots {nt : NodeTypes} {roots roots' : List TypeRef}
    (h : ∀ r ∈ roots, Reach nt roots' r) {t : TypeRef} (ht : Reach nt roots t) : Reach nt roots' t := by
  induction ht with
  | base hm => exact h _ hm
  | sub _ he hty hsub htm ih => exact Reach.sub ih he hty hsub htm

def missing (nt : NodeTypes) (S : List TypeRef) : Nat := ((typeUniverse nt).filter (fun t => !decide (t ∈ S))).length

theorem filter_filter_of_imp {α : Type} {p q : α → Bool} (h : ∀ x, q x = true → p x = true) (l : List α) :
    (l.filter p).filter q = l.filter q := by
  rw [List.filter_filter]
  refine List.filter_congr fun x _ => ?_
  cases hq : q x
  · rfl
  · exact h x hq

theorem filter_length_lt {α : Type} (U : List α) (p q : α → Bool) (hpq : ∀ x, q x = true → p x = true)
    (x : α) (hx : x ∈ U) (hp : p x = true) (hq : q x = false) :
    (U.filter q).length < (U.filter p).length := by
  -- filtering by `q` is filtering by `p` and then by `q`, which drops `x`
  rw [← filter_filter_of_imp hpq]
  exact List.length_filter_lt_length_iff_exists.2 ⟨x, List.mem_filter.2 ⟨hx, hp⟩, by simp [hq]⟩

theorem subsOf_universe {nt : NodeTypes} {s t : TypeRef} (h : t ∈ subsOf nt s) : t ∈ typeUniverse nt := by
  obtain ⟨e, he, _, subs, hs, ht⟩ := mem_subsOf.1 h
  simp only [typeUniverse, List.mem_flatMap]
  exact ⟨e, he, by simp [hs, ht]⟩

theorem missing_step_lt {nt : NodeTypes} {S : List TypeRef} (h : closed nt S = false) :
    missing nt (stepSet nt S) < missing nt S := by
  -- a set that is not closed has a member with a subtype `t` outside it; the round adds `t`
  obtain ⟨t, ht, hts⟩ := List.all_eq_false.1 h
  have hts : t ∉ S := by simpa using hts
  obtain ⟨s, _, hs⟩ := List.mem_flatMap.1 ht
  apply filter_length_lt (typeUniverse nt) _ _ ?_ t (subsOf_universe hs)
  · simp [hts]
  · simp [stepSet, ht, hts]
  · intro x hx
    simp only [Bool.not_eq_true', decide_eq_false_iff_not, stepSet, List.mem_append] at hx ⊢
    exact fun h => hx (Or.inl h)

theorem closure_converges (nt : NodeTypes) : ∀ (fuel : Nat) (S : List TypeRef), missing nt S ≤ fuel →
    (closure nt fuel S).isSome = true := by
  intro fuel S hm
  induction fuel generalizing S <;> cases hc : closed nt S <;>
    simp only [closure, hc, Bool.false_eq_true, if_false, if_true, Option.isSome_some, Option.isSome_none]
  case zero.false => exact Nat.not_lt_zero _ (Nat.lt_of_lt_of_le (missing_step_lt hc) hm)
  case succ.false f ih => exact ih _ (Nat.le_of_lt_succ (Nat.lt_of_lt_of_le (missing_step_lt hc) hm))

theorem closure_always_converges (nt : NodeTypes) (roots : List TypeRef) :
    (closure nt (closureFuel nt) roots).isSome = true :=
  closure_converges nt _ _ (List.length_filter_le _ _)

theorem ntWF_always (nt : NodeTypes) : ntWF nt = true := by
  simp only [ntWF, List.all_eq_true, Bool.and_eq_true]
  intro e _
  refine ⟨fun fs _ => closure_always_converges nt _, ?_⟩
  cases e.children with
  | none => rfl
  | some spec => exact closure_always_converges nt _

/-- `allowed` decides "an allowed type (through supertypes)", for every file and type list (the saturation always
converges: `closure_always_converges`). -/
theorem allowed_iff_reach (nt : NodeTypes) (spec : ChildSpec) (t : TypeRef) :
    allowed nt spec t = true ↔ Reach nt spec.types t := by
  unfold allowed
  cases hc : closure nt (closureFuel nt) spec.types with
  | none => have := closure_always_converges nt spec.types; rw [hc] at this; cases this
  | some S =>
    rw [← closure_spec nt spec.types _ _ _ hc (fun _ h => h) (fun _ h => Reach.base h) t]
    exact decide_eq_true_iff

theorem quantOK_iff (spec : ChildSpec) (n : Nat) : quantOK spec n = true ↔ QuantOK spec n := by
  unfold quantOK QuantOK
  cases spec.required <;> cases spec.multiple <;> simp

theorem childOK_iff (nt : NodeTypes) (e : Entry) (k : VT) : childOK nt e k = true ↔ ChildOK nt e k := by
  unfold childOK ChildOK
  simp only [Bool.and_eq_true, List.all_eq_true, List.any_eq_true, decide_eq_true_eq, allowed_iff_reach, Bool.or_eq_true,
    Bool.not_eq_true', Bool.and_eq_false_imp, List.isEmpty_iff]
  refine and_congr Iff.rfl ?_
  cases e.children <;> cases k.ty.named <;> simp [allowed_iff_reach, Decidable.imp_iff_not_or]

theorem entryOK_iff (nt : NodeTypes) (e : Entry) (kids : List VT) : entryOK nt e kids = true ↔ EntryOK nt e kids := by
  have extra : ∀ (b : Bool) (p : Prop), (b = true ∨ p) ↔ (b = false → p) := fun b p => by cases b <;> simp
  unfold entryOK EntryOK
  cases e.children <;>
    simp only [Bool.and_eq_true, List.all_eq_true, Bool.or_eq_true, Option.isNone_iff_eq_none, quantOK_iff, childOK_iff,
      extra, and_assoc, Option.some.injEq, forall_eq', reduceCtorEq, false_imp_iff, implies_true, and_true]

theorem nodeOK_iff (nt : NodeTypes) (ty : TypeRef) (kids : List VT) :
    nodeOK nt ty kids = true ↔ NodeOK nt ty kids := by
  simp only [nodeOK, NodeOK, List.any_eq_true, Bool.and_eq_true, decide_eq_true_eq, entryOK_iff]

theorem countField_nonExtra (kids : List VT) (f : String) :
    countField (kids.filter (fun k => !k.extra)) f = countField kids f :=
  congrArg List.length (filter_filter_of_imp (fun _ h => (Bool.and_eq_true_iff.1 h).1) kids)

theorem countPlain_nonExtra (kids : List VT) : countPlain (kids.filter (fun k => !k.extra)) = countPlain kids :=
  congrArg List.length (filter_filter_of_imp (fun _ h => (Bool.and_eq_true_iff.1 (Bool.and_eq_true_iff.1 h).1).1) kids)

mutual
  /-- For EVERY node-types file and EVERY tree the executable judge decides exactly the
  declarative conformance.  (No side condition: the supertype saturation provably converges within
  `closureFuel nt` rounds, `ntWF_always` — each round that is not yet closed adds a new member of the
  finite set of types mentioned in `subtypes` lists.) -/
  theorem conforms_iff (nt : NodeTypes) (vt : VT) : checkConforms nt vt = true ↔ Conforms nt vt :=
    match vt with
    | .node ty ex fl kids => by
      simp only [checkConforms, Conforms, Bool.and_eq_true, nodeOK_iff, conformsAll_iff nt (ntWF_always nt) kids]
  theorem conformsAll_iff (nt : NodeTypes) (h : ntWF nt = true) : ∀ kids : List VT,
      checkAll nt kids = true ↔ ConformsAll nt kids
    | [] => by simp [checkAll, ConformsAll]
    | k :: ks => by
      simp only [checkAll, ConformsAll, Bool.and_eq_true, conforms_iff nt k, conformsAll_iff nt h ks]
end

/-- An extra may appear anywhere in any children list; whether a node's entry
holds depends only on the children that are NOT flagged extra.  (The extra children themselves are
admitted through the `"extra": true` mark of their own entry: judge `extraUnmarked` on every tree,
and on the grammar level every visible extra symbol must carry the mark — part of `model_closed`.) -/
theorem extras_transparent (nt : NodeTypes) (e : Entry) (kids kids' : List VT)
    (h : kids'.filter (fun k => !k.extra) = kids.filter (fun k => !k.extra)) :
    EntryOK nt e kids' ↔ EntryOK nt e kids := by
  have key : ∀ ks : List VT, EntryOK nt e (ks.filter (fun k => !k.extra)) ↔ EntryOK nt e ks := fun ks => by
    simp only [EntryOK, countField_nonExtra, countPlain_nonExtra, List.mem_filter, Bool.not_eq_true', and_imp,
      forall_self_imp]
  rw [← key kids', h, key kids]

end TsVerif.C16
