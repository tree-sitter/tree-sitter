import TsVerif.C16.Table
/-!
# C16 — judges evaluated on the implementation's outputs (pure functions used by the driver)
-/
namespace TsVerif.C16

/-- one `next()` result as a client sees it: symbol, table value, next_state, action_count -/
abbrev Yield := Nat × Nat × Nat × Nat

/-- iterate the port of `ts_lookahead_iterator__next`, recording every exposed field -/
def collectFull (L : Lang) : (fuel : Nat) → Iter → List Yield
  | 0, _ => []
  | f + 1, it =>
    match next L it with
    | (true, it') => (it'.symbol, it'.tableValue, it'.nextState, it'.actionCount) :: collectFull L f it'
    | (false, _) => []

def modelYields (L : Lang) (state : Nat) : List Yield := collectFull L (fuelFor L) (lookaheads L state)

/-- model: `(sym, lookup state sym)` for every symbol with a non-zero entry -/
def modelNonzero (L : Lang) (state : Nat) : List (Nat × Nat) :=
  (List.range L.symbolCount).filterMap (fun sym =>
    let v := lookup L state sym
    if v != 0 then some (sym, v) else none)

/-- insertion sort on the symbol (small lists) -/
def insertBy (x : Nat × Nat) : List (Nat × Nat) → List (Nat × Nat)
  | [] => [x]
  | y :: ys => if x.1 ≤ y.1 then x :: y :: ys else y :: insertBy x ys
def sortBySym (xs : List (Nat × Nat)) : List (Nat × Nat) := xs.foldr insertBy []

/-- JUDGE (look-ahead clause, on the real iterator's output `la` and the real table scan `nz`):
the iterator lists exactly the symbols the parser has an entry for, each once, with that entry. -/
def judgeLookahead (la : List Yield) (nz : List (Nat × Nat)) : Bool :=
  sortBySym (la.map (fun y => (y.1, y.2.1))) == nz

/-- JUDGE: every accepted `(state, symbol)` is listed by the real iterator for that state -/
def listed (las : Array (List Yield)) (state sym : Nat) : Bool :=
  (las.getD state []).any (fun y => y.1 == sym)

/-- JUDGE (by name, from the parse log): some symbol of that name is listed in that state -/
def listedName (las : Array (List Yield)) (names : Array (List Nat)) (state : Nat) (name : List Nat) : Bool :=
  (las.getD state []).any (fun y => names.getD y.1 [] == name)

end TsVerif.C16
