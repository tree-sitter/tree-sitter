import TsVerif.C16.GrammarLemmas
/-!
# C16 — soundness of closed node-type information for the derivation semantics
-/
namespace TsVerif.C16.Derive

theorem cnt_append (f : String) (a b : List Child) : cnt f (a ++ b) = cnt f a + cnt f b := by
  unfold cnt
  rw [List.filter_append, List.length_append]

theorem cnt_single (f : String) (ty : TypeRef) (fo : Option String) :
    cnt f [⟨ty, fo.toList⟩] = if fo = some f then 1 else 0 := by
  cases fo with
  | none => rfl
  | some g =>
    by_cases h : g = f
    · subst h; simp [cnt]
    · have : ¬ f = g := fun e => h e.symm
      simp [cnt, h, this]

theorem cnt_le_length (f : String) (ks : List Child) : cnt f ks ≤ ks.length := by
  unfold cnt; exact List.length_filter_le _ _

theorem mem_addField (f : String) (fo : Option String) (c : Child) :
    f ∈ (addField fo c).fields ↔ fo = some f ∨ f ∈ c.fields := by
  cases fo with
  | none => simp [addField]
  | some g => simp [addField, eq_comm]

theorem cnt_map_addField (f : String) (fo : Option String) (ks : List Child) :
    cnt f (ks.map (addField fo)) = if fo = some f then ks.length else cnt f ks := by
  unfold cnt
  rw [List.filter_map, List.length_map]
  by_cases h : fo = some f
  · rw [if_pos h, List.filter_eq_self.2]
    exact fun c _ => decide_eq_true ((mem_addField f fo c).2 (Or.inl h))
  · rw [if_neg h]
    refine congrArg _ (List.filter_congr fun c _ => ?_)
    simp only [Function.comp, mem_addField, h, false_or]

theorem cntPlain_append (a b : List Child) : cntPlain (a ++ b) = cntPlain a + cntPlain b := by
  unfold cntPlain
  rw [List.filter_append, List.length_append]

theorem cntPlain_single (ty : TypeRef) (fo : Option String) :
    cntPlain [⟨ty, fo.toList⟩] = if fo = none ∧ ty.named = true then 1 else 0 := by
  cases fo with
  | none => cases hn : ty.named <;> simp [cntPlain, isPlain, hn]
  | some g => simp [cntPlain, isPlain]

theorem isPlain_addField (fo : Option String) (c : Child) :
    isPlain (addField fo c) = (decide (fo = none) && isPlain c) := by
  cases fo with
  | none => simp [isPlain, addField]
  | some g => simp [isPlain, addField]

theorem cntPlain_map_addField (fo : Option String) (ks : List Child) :
    cntPlain (ks.map (addField fo)) = if fo = none then cntPlain ks else 0 := by
  unfold cntPlain
  rw [List.filter_map, List.length_map]
  by_cases h : fo = none
  · rw [if_pos h]
    refine congrArg _ (List.filter_congr fun c _ => ?_)
    simp only [Function.comp, isPlain_addField, h, decide_true, Bool.true_and]
  · rw [if_neg h, List.filter_eq_nil_iff.2]
    · rfl
    · intro c _
      simp only [Function.comp, isPlain_addField, h, decide_false, Bool.false_and, Bool.false_eq_true, not_false_eq_true]

/-- what `Admits I v` says of a children sequence, with the six bounds of `v` replaced by given ones: the
bounds a step or a production contributes -/
def AdmitsWith (I : Info) (v : Nat) (cM : Nat) (fM : String → Nat) (cm : Nat) (fm : String → Nat) (pM pm : Nat)
    (ks : List Child) : Prop :=
  (∀ c ∈ ks, c.ty ∈ I.children v ∧ ∀ f ∈ c.fields, c.ty ∈ I.fieldTypes v f) ∧
  (cM < 2 → ks.length ≤ cM) ∧
  (∀ f, fM f < 2 → cnt f ks ≤ fM f) ∧
  (cm ≤ ks.length) ∧
  (∀ f, fm f ≤ cnt f ks) ∧
  (∀ c ∈ ks, isPlain c = true → c.ty ∈ I.plainTypes v) ∧
  (pM < 2 → cntPlain ks ≤ pM) ∧
  (pm ≤ cntPlain ks)

theorem le_of_lt_two {a A B : Nat} (ha : A < 2 → a ≤ A) (hA : B < 2 → A ≤ B) (h : B < 2) : a ≤ B :=
  Nat.le_trans (ha (Nat.lt_of_le_of_lt (hA h) h)) (hA h)

theorem AdmitsWith.nil (I : Info) (v : Nat) : AdmitsWith I v 0 (fun _ => 0) 0 (fun _ => 0) 0 0 [] := by
  unfold AdmitsWith
  exact ⟨fun _ h => (nomatch h), fun _ => Nat.le_refl _, fun _ _ => Nat.le_refl _, Nat.le_refl _, fun _ => Nat.le_refl _,
    fun _ h => (nomatch h), fun _ => Nat.le_refl _, Nat.le_refl _⟩

theorem AdmitsWith.append {I : Info} {v cM cm pM pm cM' cm' pM' pm' : Nat} {fM fm fM' fm' : String → Nat}
    {ks ks' : List Child} (h : AdmitsWith I v cM fM cm fm pM pm ks) (h' : AdmitsWith I v cM' fM' cm' fm' pM' pm' ks') :
    AdmitsWith I v (cM + cM') (fun f => fM f + fM' f) (cm + cm') (fun f => fm f + fm' f) (pM + pM') (pm + pm')
      (ks ++ ks') := by
  obtain ⟨a1, a2, a3, a4, a5, a6, a7, a8⟩ := h
  obtain ⟨b1, b2, b3, b4, b5, b6, b7, b8⟩ := h'
  refine ⟨fun c hc => (List.mem_append.1 hc).elim (a1 c) (b1 c), ?_, ?_, ?_, ?_,
    fun c hc => (List.mem_append.1 hc).elim (a6 c) (b6 c), ?_, ?_⟩
  · rw [List.length_append]; exact add_le_of_lt_two a2 b2
  · intro f; rw [cnt_append]; exact add_le_of_lt_two (a3 f) (b3 f)
  · rw [List.length_append]; exact Nat.add_le_add a4 b4
  · intro f; rw [cnt_append]; exact Nat.add_le_add (a5 f) (b5 f)
  · rw [cntPlain_append]; exact add_le_of_lt_two a7 b7
  · rw [cntPlain_append]; exact Nat.add_le_add a8 b8

theorem admits_iff_admitsWith {I : Info} {v : Nat} {ks : List Child} :
    Admits I v ks ↔ AdmitsWith I v (I.childMax v) (I.fieldMax v) (I.childMin v) (I.fieldMin v) (I.plainMax v) (I.plainMin v) ks :=
  Iff.rfl

/-- Stamping the field of a step on the admitted children of a hidden rule `h`: they are admitted for the parent `v` with the bounds of
`h` read through the stamp — under the step's own field every child counts, a stamped child is never plain. -/
theorem Admits.map_addField {I : Info} {h v : Nat} {fo : Option String} {ks : List Child} (ha : Admits I h ks)
    (c1 : ∀ t ∈ I.children h, t ∈ I.children v) (c2 : ∀ g, ∀ t ∈ I.fieldTypes h g, t ∈ I.fieldTypes v g)
    (c3 : ∀ f, fo = some f → ∀ t ∈ I.children h, t ∈ I.fieldTypes v f)
    (c4 : fo = none → ∀ t ∈ I.plainTypes h, t ∈ I.plainTypes v) :
    AdmitsWith I v (I.childMax h) (fun f => if fo = some f then I.childMax h else I.fieldMax h f) (I.childMin h)
      (fun f => if fo = some f then I.childMin h else I.fieldMin h f) (if fo = none then I.plainMax h else 0)
      (if fo = none then I.plainMin h else 0) (ks.map (addField fo)) := by
  obtain ⟨a1, a2, a3, a4, a5, a6, a7, a8⟩ := ha
  unfold AdmitsWith
  simp only [List.length_map, cnt_map_addField, cntPlain_map_addField, List.mem_map, forall_exists_index, and_imp,
    forall_apply_eq_imp_iff₂, mem_addField, isPlain_addField, Bool.and_eq_true, decide_eq_true_eq]
  refine ⟨?_, a2, ?_, a4, ?_, fun c hc hn hp => c4 hn _ (a6 c hc hp), ?_, ?_⟩
  · intro c hc
    refine ⟨c1 _ (a1 c hc).1, fun f hf => ?_⟩
    rcases hf with hf | hf
    · exact c3 f hf _ (a1 c hc).1
    · exact c2 f _ ((a1 c hc).2 f hf)
  · intro f
    split
    · exact a2
    · exact a3 f
  · intro f
    split
    · exact a4
    · exact a5 f
  · split
    · exact a7
    · exact fun _ => Nat.zero_le _
  · split
    · exact a8
    · exact Nat.le_refl _

/-- a maximum may be raised as far as the new one still says "not many", a minimum lowered -/
theorem AdmitsWith.mono {I : Info} {v cM cm pM pm cM' cm' pM' pm' : Nat} {fM fm fM' fm' : String → Nat} {ks : List Child}
    (h : AdmitsWith I v cM fM cm fm pM pm ks) (hcM : cM' < 2 → cM ≤ cM') (hfM : ∀ f, fM' f < 2 → fM f ≤ fM' f)
    (hcm : cm' ≤ cm) (hfm : ∀ f, fm' f ≤ fm f) (hpM : pM' < 2 → pM ≤ pM') (hpm : pm' ≤ pm) :
    AdmitsWith I v cM' fM' cm' fm' pM' pm' ks :=
  have ⟨r1, r2, r3, r4, r5, r6, r7, r8⟩ := h
  ⟨r1, le_of_lt_two r2 hcM, fun f => le_of_lt_two (r3 f) (hfM f), Nat.le_trans hcm r4, fun f => Nat.le_trans (hfm f) (r5 f),
    r6, le_of_lt_two r7 hpM, Nat.le_trans hpm r8⟩

theorem step_sound (G : Grammar) (I : Info) (K : Nat → List Child → Prop)
    (hK : ∀ h ks, K h ks → Admits I h ks) (v : Nat) (s : Step) (k : List Child)
    (hs : StepKids G K s k) (hc : StepClosed G I v s) :
    AdmitsWith I v (stepChildMax G I s) (fun f => stepFieldMax G I f s) (stepChildMin G I s)
      (fun f => stepFieldMin G I f s) (stepPlainMax G I s) (stepPlainMin G I s) k := by
  unfold StepKids at hs
  unfold StepClosed at hc
  unfold AdmitsWith stepChildMax stepFieldMax stepChildMin stepFieldMin stepPlainMax stepPlainMin
  cases hv : visTy G s with
  | some ty =>
    simp only [hv] at hs hc ⊢
    subst hs
    simp only [List.mem_singleton, forall_eq, cnt_single, cntPlain_single, List.length_singleton, Nat.le_refl, implies_true,
      true_and, and_true, Option.mem_toList]
    refine ⟨⟨hc.1, hc.2.1⟩, ?_⟩
    intro hpl
    simp only [isPlain, Bool.and_eq_true, List.isEmpty_iff, Option.toList_eq_nil_iff] at hpl
    exact hc.2.2 hpl.1 hpl.2
  | none =>
    simp only [hv] at hs hc ⊢
    cases hk : G.kind s.sym with
    | token t =>
      simp only [hk] at hs ⊢
      subst hs
      exact AdmitsWith.nil I v
    | rule h t =>
      simp only [hk] at hs hc ⊢
      obtain ⟨ks, hks, rfl⟩ := hs
      exact (hK h ks hks).map_addField hc.1 hc.2.1 hc.2.2.1 hc.2.2.2

theorem steps_sound (G : Grammar) (I : Info) (K : Nat → List Child → Prop)
    (hK : ∀ h ks, K h ks → Admits I h ks) (v : Nat) : ∀ (p : List Step) (ks : List Child),
    StepsKids G K p ks → (∀ s ∈ p, StepClosed G I v s) →
    AdmitsWith I v (sumBy (stepChildMax G I) p) (fun f => sumBy (stepFieldMax G I f) p) (sumBy (stepChildMin G I) p)
      (fun f => sumBy (stepFieldMin G I f) p) (sumBy (stepPlainMax G I) p) (sumBy (stepPlainMin G I) p) ks
  | [], _, h, _ => h ▸ AdmitsWith.nil I v
  | s :: rest, _, ⟨k1, k2, e, h1, h2⟩, hcl =>
    e ▸ (step_sound G I K hK v s k1 h1 (hcl s List.mem_cons_self)).append
      (steps_sound G I K hK v rest k2 h2 fun t ht => hcl t (List.mem_cons_of_mem _ ht))

theorem kidsN_sound (G : Grammar) (I : Info) (hcl : Closed G I) :
    ∀ (n v : Nat) (ks : List Child), KidsN G n v ks → Admits I v ks
  | 0, _, _, h => nomatch h
  | n + 1, v, ks, ⟨p, hp, hs⟩ =>
    -- the inequations of `Closed` weaken the production's sums to the bounds of `v`
    have ⟨c1, c2, c3, c4, c5, c6, c7⟩ := hcl v p hp
    admits_iff_admitsWith.2 ((steps_sound G I (KidsN G n) (kidsN_sound G I hcl n) v p ks hs c1).mono c2 c3 c4 c5 c6 c7)

/-- The `fields` part of the node-types entry that the information gives for rule `v`.  `children` is left `none`: the entry
speaks of the clauses of `EntryOK` about fields only (`derive_entry_fields_partial`), not of the named children without a field. -/
def toEntry (I : Info) (v : Nat) (ty : TypeRef) (names : List String) : Entry :=
  { ty := ty, children := none, subtypes := none,
    fields := names.map (fun f => (f, { required := decide (1 ≤ I.fieldMin v f), multiple := decide (2 ≤ I.fieldMax v f),
                                        types := I.fieldTypes v f })) }

/-- a derived child as the tree node a client sees -/
def kidVT (c : Child) : VT := .node c.ty false c.fields []

theorem countField_kidVT (ks : List Child) (f : String) : countField (ks.map kidVT) f = cnt f ks := by
  unfold countField cnt
  rw [List.filter_map, List.length_map]
  congr 1

end TsVerif.C16.Derive
