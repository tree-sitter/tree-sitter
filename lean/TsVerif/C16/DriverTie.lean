import TsVerif.C16.Table
import TsVerif.C03.Driver
/-!
# C16 — the look-ahead sets and the parser that reads the same table

"the look-ahead iterator of a parse state lists every token the parser can accept in that state":
the parser here is the code-shaped LR driver of C03 (`TsVerif.C03.step`, a port of the error-free
single-version path of `ts_parser__advance`; owned and tied to parser.c by the C03 check), which
reads the decoded table `C03.Table` (`ts_language_table_entry` per cell).  `actsAgree L tbl` is the
decidable statement that the decoded cells and the raw layout `L` (what the iterator walks) are the
same table: evaluated on every real dump.
-/
namespace TsVerif.C16

/-- the (state, look-ahead symbol) the driver consults in a configuration: the next token, the end
symbol 0 when the input is exhausted or the state is the end of a non-terminal extra -/
def consulted (tbl : C03.Table) (c : C03.Conf) : Nat × Nat :=
  let s := C03.topState c.stack
  (s, if tbl.lexEnd s then 0 else c.toks.headD 0)

/-- the parser has something to do on `a` in `s`: the decoded cell holds an effective action -/
def driverActs (tbl : C03.Table) (s a : Nat) : Prop := C03.effective (tbl.actions s a) ≠ []

/-- every non-empty decoded cell is a non-zero cell of the raw table (of a real state and symbol).  This inclusion is all that
"never fewer" needs; the other one is `cellsHaveActions`, for terminals only (the cell of a non-terminal holds a successor
state, not actions). -/
def actsAgree (L : Lang) (tbl : C03.Table) : Bool :=
  (List.range tbl.acts.size).all (fun s => (tbl.acts.getD s []).all (fun e =>
    e.2.isEmpty || (decide (s < L.stateCount) && decide (e.1 < L.symbolCount) && lookup L s e.1 != 0)))

/-- conversely: every TERMINAL with a non-zero raw cell has a non-empty action list -/
def cellsHaveActions (L : Lang) (tbl : C03.Table) : Bool :=
  (List.range L.stateCount).all (fun s => (List.range L.tokenCount).all (fun a =>
    lookup L s a == 0 || !(tbl.actions s a).isEmpty))

theorem actsAgree_sound (L : Lang) (tbl : C03.Table) (h : actsAgree L tbl = true) (s a : Nat)
    (hne : tbl.actions s a ≠ []) : s < L.stateCount ∧ a < L.symbolCount ∧ lookup L s a ≠ 0 := by
  unfold C03.Table.actions at hne
  cases hl : (tbl.acts.getD s []).lookup a with
  | none => rw [hl] at hne; exact absurd rfl hne
  | some as =>
    rw [hl] at hne
    simp only [Option.getD_some] at hne
    have hmem : (a, as) ∈ tbl.acts.getD s [] := by
      obtain ⟨l₁, l₂, e, _⟩ := List.lookup_eq_some_iff.1 hl
      rw [e]
      exact List.mem_append_right _ (List.mem_cons_self ..)
    have hs : s < tbl.acts.size := Nat.lt_of_not_le fun hs => by
      rw [Array.getD_eq_getD_getElem?, Array.getElem?_eq_none hs] at hmem
      cases hmem
    unfold actsAgree at h
    have h1 := (List.all_eq_true.1 h) s (List.mem_range.2 hs)
    have h2 := (List.all_eq_true.1 h1) (a, as) hmem
    simp only [Bool.or_eq_true, Bool.and_eq_true, decide_eq_true_eq, bne_iff_ne, ne_eq, List.isEmpty_iff] at h2
    have h2 := h2.resolve_left hne
    exact ⟨h2.1.1, h2.1.2, h2.2⟩

end TsVerif.C16
