import TsVerif.C16.NodeTypesLemmas
/-!
# C16 — the supertype-collapsing step of `generate_node_types` (`process_supertypes`, crates/generate/src/node_types.rs)

For every (supertype, subtypes) pair, in order: when a `types` list contains the supertype, its subtypes
are removed from the list (`collapseStage`, `collapse`: the port).  The admitted set — what `Reach` (membership through
`subtypes`) accepts — is unchanged, provided the pairs are entries of the file and no supertype is its own subtype.
-/
namespace TsVerif.C16

/-- one pair of `process_supertypes` -/
def collapseStage (pair : TypeRef × List TypeRef) (types : List TypeRef) : List TypeRef :=
  if pair.1 ∈ types then types.filter (fun t => !decide (t ∈ pair.2)) else types

/-- `process_supertypes` -/
def collapse (subMap : List (TypeRef × List TypeRef)) (types : List TypeRef) : List TypeRef :=
  subMap.foldl (fun acc pair => collapseStage pair acc) types

theorem collapseStage_subset (pair : TypeRef × List TypeRef) (types : List TypeRef) :
    ∀ t ∈ collapseStage pair types, t ∈ types := by
  intro t ht
  unfold collapseStage at ht
  split at ht
  · exact (List.mem_filter.1 ht).1
  · exact ht

theorem collapseStage_reach {nt : NodeTypes} (pair : TypeRef × List TypeRef)
    (hentry : ∃ e ∈ nt, e.ty = pair.1 ∧ e.subtypes = some pair.2) (hself : pair.1 ∉ pair.2)
    (types : List TypeRef) : ∀ t ∈ types, Reach nt (collapseStage pair types) t := by
  intro t ht
  unfold collapseStage
  split
  · rename_i hsup
    by_cases hts : t ∈ pair.2
    · obtain ⟨e, he, hty, hsub⟩ := hentry
      have hsupIn : pair.1 ∈ types.filter (fun t => !decide (t ∈ pair.2)) :=
        List.mem_filter.2 ⟨hsup, by simp [hself]⟩
      exact Reach.sub (Reach.base hsupIn) he hty hsub hts
    · exact Reach.base (List.mem_filter.2 ⟨ht, by simp [hts]⟩)
  · exact Reach.base ht

/-- The supertype-collapsing step of `generate_node_types`
(`process_supertypes`: when a `types` list contains a supertype, that supertype's subtypes are removed
from it, pair by pair) does not change the set of node types the list admits through `subtypes` —
for every file whose entries contain the pairs and in which no supertype is its own subtype. -/
theorem collapse_preserves_admitted (nt : NodeTypes) (subMap : List (TypeRef × List TypeRef))
    (h : ∀ pair ∈ subMap, (∃ e ∈ nt, e.ty = pair.1 ∧ e.subtypes = some pair.2) ∧ pair.1 ∉ pair.2)
    (types : List TypeRef) (t : TypeRef) : Reach nt (collapse subMap types) t ↔ Reach nt types t := by
  induction subMap generalizing types with
  | nil => rfl
  | cons pair rest ih =>
    have hp := h pair List.mem_cons_self
    have hrest := ih (fun q hq => h q (List.mem_cons_of_mem _ hq)) (collapseStage pair types)
    simp only [collapse, List.foldl_cons] at hrest ⊢
    rw [hrest]
    exact ⟨reach_of_roots fun r hr => Reach.base (collapseStage_subset pair types r hr),
      reach_of_roots (collapseStage_reach pair hp.1 hp.2 types)⟩

end TsVerif.C16
