import TsVerif.C16.Derive
/-!
# C16 — what the productions of a grammar contain

A production of `G.prodsOf v` lies in `G.prods`, and whatever one of its steps shows (a field name, a visible kind) lies in
the list collected over all productions — the shape of `fieldUniverse` and of the universe of the table iteration.  A field
name that no step carries and no rule records contributes 0 to every sum: the executable checks test the field clauses of
`Closed` for the names of the universe only.
-/
namespace TsVerif.C16.Derive

theorem getD_mem {α : Type} {l : List α} {i : Nat} {d : α} (h : l.getD i d ≠ d) :
    i < l.length ∧ l.getD i d ∈ l := by
  rw [List.getD_eq_getElem?_getD] at h ⊢
  by_cases hi : i < l.length
  · rw [List.getElem?_eq_getElem hi]
    exact ⟨hi, List.getElem_mem hi⟩
  · rw [List.getElem?_eq_none (Nat.le_of_not_lt hi)] at h
    exact absurd rfl h

theorem prodsOf_mem {G : Grammar} {v : Nat} {p : List Step} (hp : p ∈ G.prodsOf v) :
    v < G.prods.length ∧ G.prodsOf v ∈ G.prods :=
  getD_mem fun e => by rw [Grammar.prodsOf, e] at hp; cases hp

theorem mem_prods_filterMap {α : Type} {G : Grammar} {v : Nat} {p : List Step} {s : Step} (g : Step → Option α) {a : α}
    (hp : p ∈ G.prodsOf v) (hs : s ∈ p) (h : g s = some a) :
    a ∈ G.prods.flatMap (fun ps => ps.flatMap (fun p => p.filterMap g)) := by
  simp only [List.mem_flatMap, List.mem_filterMap]
  exact ⟨G.prodsOf v, (prodsOf_mem hp).2, p, hp, s, hs, h⟩

theorem sumBy_zero (g : Step → Nat) (p : List Step) (h : ∀ s ∈ p, g s = 0) : sumBy g p = 0 := by
  induction p with
  | nil => rfl
  | cons s rest ih =>
    simp only [sumBy, h s (List.mem_cons_self ..), ih (fun s' hs' => h s' (List.mem_cons_of_mem _ hs')), Nat.add_zero]

theorem stepFieldMax_eq_zero {G : Grammar} {I : Info} {f : String} {s : Step} (hs : s.field ≠ some f)
    (hI : ∀ h, I.fieldMax h f = 0) : stepFieldMax G I f s = 0 := by
  unfold stepFieldMax
  split
  · exact if_neg hs
  · split
    · rfl
    · rw [if_neg hs]; exact hI _

/-- sums below "2 = many" are bounded summand by summand -/
theorem add_le_of_lt_two {a b A B : Nat} (ha : A < 2 → a ≤ A) (hb : B < 2 → b ≤ B) (h : A + B < 2) :
    a + b ≤ A + B :=
  Nat.add_le_add (ha (Nat.lt_of_le_of_lt (Nat.le_add_right _ _) h)) (hb (Nat.lt_of_le_of_lt (Nat.le_add_left _ _) h))

end TsVerif.C16.Derive
