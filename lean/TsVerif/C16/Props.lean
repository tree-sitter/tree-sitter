import TsVerif.C16.Lemmas
import TsVerif.C16.NamesLemmas
import TsVerif.C16.NodeTypesLemmas
import TsVerif.C16.Collapse
import TsVerif.C16.DeriveLemmas
import TsVerif.C16.DeriveExecLemmas
import TsVerif.C16.Inline
import TsVerif.C16.Lfp
import TsVerif.C16.DriverTie
import TsVerif.C03.DriverSteps
/-!
# C16 — node-types.json, symbol tables and look-ahead sets are sound for every tree

Property text: "Every error-free tree a generated parser produces conforms to the node-types file
generated with it: each node type is listed, each child appears under the field (or the unnamed
children set) the file allows with an allowed type (through supertypes), required sets are
non-empty and non-multiple sets hold at most one node.  Symbol and field names round-trip through
their ids, and the look-ahead iterator of a parse state lists every token the parser can accept in
that state (merged states may list more, never fewer)."

Clause map — each phrase of the property text → theorems, with the status
  [P]  proved, for ALL tables / files / trees / grammars of the model (no hypothesis)
  [Ph] proved under a DECIDABLE hypothesis that the check evaluates on every real dump / file / grammar
  [T]  tie: a code-shaped port is compared with the real function on all states × symbols × names of each language
  [J]  judged only: a Lean judge on real outputs, no ∀-theorem about the implementation

1. "Every error-free tree a generated parser produces conforms to the node-types file generated with it"
   [P]  `conforms_iff` — the executable judge decides exactly the declarative `Conforms`, for every file and tree
        (no well-formedness hypothesis: `closure_always_converges`).
   [J]  every error-free tree of the sampled documents of every generated language is judged (`checkConforms`).
   [Ph] for ALL trees of a grammar, not only sampled ones: `real_file_admits` (hypothesis `closedB G I = true`, evaluated with
        `I` = the REAL node-types.json and `G` = the grammar's flattened productions after the verified inlining rounds —
        obligation `model:real-node-types-are-closed`) ⇒ every children sequence any rule can derive is admitted;
        `derive_sound_partial` / `derive_entry_fields_partial` (hypothesis `Closed`), `inline_round` + `inlined_file_admits`
        (process_inlines as substitution), `extras_transparent` + `derive_entry_fields_extras` (extras anywhere),
        `lfp_closed` / `lfp_least` / `lfp_admits` (the iteration reaches the least closed information within explicit fuel).
        PARTIAL: `G` is produced by the explorer's flattening (c16_flatten.rs), tied to the real prepare_grammar only by the
        production-shape correspondence [T] (child count + own field per child index of every named rule = real reduce
        actions); aliases per index, precedence and the repeat encoding are not compared.
2. "each node type is listed"
   [P]  part of `Conforms` (`NodeOK`: an entry with the node's (type, named) exists and is not a supertype entry).
   [Ph] `kinds_listed_sound` — on the level of the LANGUAGE: every symbol a node can carry (visible, not an inlined rule's
        name) has an entry, every supertype symbol a supertype entry; hypothesis `kindsListed`, evaluated on every real
        (symbol table, node-types file) pair.  [J] per node: kind id ↔ kind name ↔ id round trip.
3. "each child appears under the field (or the unnamed children set) the file allows with an allowed type (through supertypes)"
   [P]  `ChildOK` in `Conforms`; `allowed_iff_reach` (the saturation through `subtypes` computes exactly `Reach`, any depth);
        `collapse_preserves_admitted` (the generator's supertype collapsing does not change what a list admits);
        model level: clauses 1 and 6 of `Admits`.  [J] `subtypes` lists = the runtime's supertype map (`subtypesAgree`).
4. "required sets are non-empty and non-multiple sets hold at most one node"
   [P]  `QuantOK` in `Conforms` (fields and `children`); model level: clauses 2–5, 7, 8 of `Admits`
        (`childMax/fieldMax/plainMax < 2` bound the count, `…Min` are lower bounds).
5. "Symbol and field names round-trip through their ids"
   [Ph] `name_roundtrip` — hypothesis `namesRoundTrip ∧ pubConsistent` (decidable, evaluated on every real symbol table over
        the port `symbolForName`): every symbol with a node kind is found again from its public name and namedness.
   [Ph] `field_roundtrip` — hypothesis: pairwise distinct field names (decidable, evaluated on every real table).
   [P]  `symbol_type_flags` — the port of `ts_language_symbol_type` in terms of the metadata.
   [T]  `symbolForName`, `fieldIdForName`, `symbolType` vs the real functions for every symbol / field / probe name
        (C API and Rust binding).  [J] id → name → id for every id through the real functions; out-of-range ids.
6. "the look-ahead iterator of a parse state lists every token the parser can accept in that state (merged states may
   list more, never fewer)"
   [Ph] `lookahead_enumerates`, `lookahead_perm_nonzero`, `lookahead_values`, `lookaheadList_run` — hypothesis `tableWF`
        (decidable, evaluated on every real dump): for every state, large or small, iterating the port of
        `ts_lookahead_iterator__next` yields exactly the symbols with `ts_language_lookup ≠ 0`, each once, with the
        parser's own table value.  [P] `lookahead_done_stays`.
   [Ph] `lookahead_covers_driver` / `lookahead_covers_steps` — "the parser" = the code-shaped LR driver of C03 on the
        decoded table; hypothesis `actsAgree` (decoded cells = non-zero raw cells; evaluated on every dump): in EVERY
        configuration in which the driver shifts, reduces or accepts, its look-ahead is listed by the iterator of the
        state on top of the stack — so for every tree the driver accepts, every (state, look-ahead) on the way.
        `lookahead_yields_have_actions` (hypothesis `cellsHaveActions`): conversely every listed terminal has actions.
   [T]  ports of `ts_language_lookup`, `ts_language_lookaheads`, `ts_lookahead_iterator__next` vs the real functions for
        ALL states × ALL symbols (C) and the Rust iterator.  [J] every (state, look-ahead) the REAL parser acted on in the
        sampled parses (parse log) is listed by the REAL iterator.
   NOT proved here: that the real `ts_parser__advance` is the C03 driver (that tie belongs to the C03 check).

Boundary conventions fixed here (the English leaves them open): extras may appear anywhere and
are exempt from the child-membership and quantity clauses but must themselves conform; an
anonymous child without a field is not described by the file (the documentation says `children`
describes the *named* children without fields); a supertype entry never types a node of the tree.
-/
namespace TsVerif.C16
open Derive

/-- For every prepared grammar `G` (productions of steps with fields and
aliases, visible / hidden tokens and rules) and every node-type information `I` that is closed under
the inequations `get_variable_info` iterates (`Closed`), EVERY children sequence that the derivation
semantics can produce for a rule `v` — through any nesting of hidden rules, with fields inherited
through them — is admitted: each child's kind is in `children v`, each (field, child kind) pair is in
`fieldTypes v field`, each named child without a field is in `plainTypes v` (`children_without_fields`), and
the quantity flags hold for all three (`…Max < 2`, i.e. not `multiple`, bounds the count by it; `…Min`, i.e.
`required`, is a lower bound).
PARTIAL: `KidsN` has no inlined rules (`inline_round`), supertypes, extras (`extras_transparent`) or
cross-rule merging by default aliases, and the theorem is about closed information, not about the
iteration that computes the least one (`lfp_closed`).  OPEN: the same statement for the full `generate_node_types`. -/
theorem derive_sound_partial (G : Grammar) (I : Info) (hcl : Closed G I) (n v : Nat) (ks : List Child)
    (h : KidsN G n v ks) : Admits I v ks :=
  kidsN_sound G I hcl n v ks h

/-- In the vocabulary of `Conforms` — the entry built from closed
information admits every derived child under every field it carries (directly listed type) and its
`required` / `multiple` flags hold for the derived children. -/
theorem derive_entry_fields_partial (G : Grammar) (I : Info) (hcl : Closed G I) (nt : NodeTypes)
    (n v : Nat) (ks : List Child) (h : KidsN G n v ks) (ty : TypeRef) (names : List String)
    (hnames : ∀ c ∈ ks, ∀ f ∈ c.fields, f ∈ names) :
    (∀ k ∈ ks.map kidVT, ∀ f ∈ k.fields, ∃ fs ∈ (toEntry I v ty names).fields, fs.1 = f ∧ Reach nt fs.2.types k.ty) ∧
    (∀ fs ∈ (toEntry I v ty names).fields, QuantOK fs.2 (countField (ks.map kidVT) fs.1)) := by
  obtain ⟨a1, _, a3, _, a5, _⟩ := kidsN_sound G I hcl n v ks h
  constructor
  · intro k hk f hf
    obtain ⟨c, hc, rfl⟩ := List.mem_map.1 hk
    exact ⟨_, List.mem_map.2 ⟨f, hnames c hc f hf, rfl⟩, rfl, Reach.base ((a1 c hc).2 f hf)⟩
  · intro fs hfs
    obtain ⟨f, _, rfl⟩ := List.mem_map.1 hfs
    rw [countField_kidVT]
    refine ⟨fun hreq => Nat.le_trans (of_decide_eq_true hreq) (a5 f), fun hmul => ?_⟩
    have h2 : I.fieldMax v f < 2 := Nat.lt_of_not_le (of_decide_eq_false hmul)
    exact Nat.le_trans (a3 f h2) (Nat.le_of_lt_succ h2)

/-- The executable check the driver runs on REAL data on every run — `closedB G I`
with `G` the productions of a generated grammar (after the inlining rounds) and `I` the real
node-types.json entries of the visible rules together with the iterated information of the hidden
ones — is sound: when it answers `true`, every children sequence any rule can derive is admitted by
that information (obligation `model:real-node-types-are-closed`). -/
theorem real_file_admits (G : Grammar) (I : InfoF) (h : closedB G I = true) (n v : Nat) (ks : List Child)
    (hk : KidsN G n v ks) : Admits I.toInfo v ks :=
  kidsN_sound G I.toInfo (closedB_sound G I h) n v ks hk

/-- Information closed under the INLINED productions admits every derivation of
the original grammar with the inlined rules spliced. -/
theorem inlined_file_admits (G : Grammar) (inl : List Nat) (I : Info) (hcl : Closed (inlineG G inl) I)
    (n v : Nat) (ks : List Child) (hk : KidsNI G inl n v ks) : Admits I v ks :=
  kidsN_sound _ I hcl n v ks ((inline_round G inl n v ks).2 hk)

/-- `derive_entry_fields_partial` for a children list with extras
interleaved anywhere among the derived children. -/
theorem derive_entry_fields_extras (G : Grammar) (I : Info) (hcl : Closed G I) (nt : NodeTypes)
    (n v : Nat) (ks : List Child) (h : KidsN G n v ks) (ty : TypeRef) (names : List String)
    (hnames : ∀ c ∈ ks, ∀ f ∈ c.fields, f ∈ names) (zs : List VT)
    (hz : zs.filter (fun k => !k.extra) = ks.map kidVT) :
    (∀ k ∈ zs, k.extra = false → ∀ f ∈ k.fields, ∃ fs ∈ (toEntry I v ty names).fields, fs.1 = f ∧ Reach nt fs.2.types k.ty) ∧
    (∀ fs ∈ (toEntry I v ty names).fields, QuantOK fs.2 (countField zs fs.1)) := by
  obtain ⟨b1, b2⟩ := derive_entry_fields_partial G I hcl nt n v ks h ty names hnames
  constructor
  · intro k hk hex
    exact b1 k (hz ▸ List.mem_filter.2 ⟨hk, by rw [hex]; rfl⟩)
  · intro fs hfs
    rw [← countField_nonExtra, hz]
    exact b2 fs hfs

/-- so the least information itself admits every derivation -/
theorem lfp_admits (G : Grammar) (n v : Nat) (ks : List Child) (hk : KidsN G n v ks) : Admits (lfp G) v ks :=
  kidsN_sound G _ (lfp_closed G _ (Nat.le_refl _)) n v ks hk

/-- "lists every token the parser can accept in that state", with the
parser = the code-shaped LR driver of C03 reading the decoded table `tbl`.  For every raw table layout
`L` that is well formed and every decoded table whose non-empty cells are non-zero cells of `L`
(`actsAgree`, decidable, evaluated on every real dump): in EVERY configuration in which the driver has
an effective action on its look-ahead — the next token, or the end symbol — that look-ahead is listed
by the iterator of the state on top of the stack.  Never fewer; merged states may list more. -/
theorem lookahead_covers_driver (L : Lang) (tbl : C03.Table) (hwf : tableWF L = true) (hag : actsAgree L tbl = true)
    (c : C03.Conf) (hact : driverActs tbl (consulted tbl c).1 (consulted tbl c).2) :
    (consulted tbl c).2 ∈ lookaheadSyms L (consulted tbl c).1 := by
  -- an empty cell has no effective action
  obtain ⟨h1, h2, h3⟩ := actsAgree_sound L tbl hag _ _ fun h0 => hact (congrArg C03.effective h0)
  exact ((lookahead_enumerates L hwf _ h1).2 _).2 ⟨h2, h3⟩

/-- in particular at every step of every run, and at the accepting step: for every tree the driver
accepts, every (state, look-ahead) pair it went through is listed -/
theorem lookahead_covers_steps (L : Lang) (tbl : C03.Table) (hwf : tableWF L = true) (hag : actsAgree L tbl = true)
    (c : C03.Conf) (h : (∃ c', C03.step tbl c = .inl c') ∨ (∃ t, C03.step tbl c = .inr (.accepted t))) :
    (consulted tbl c).2 ∈ lookaheadSyms L (consulted tbl c).1 := by
  -- without an effective action the driver rejects: it neither continues nor accepts
  refine lookahead_covers_driver L tbl hwf hag c fun h0 => ?_
  rw [C03.step_rejects (by simpa [C03.cellActions, consulted, apply_ite] using h0)] at h
  rcases h with ⟨_, h⟩ | ⟨_, h⟩ <;> cases h

/-- Conversely, every TERMINAL the iterator yields in a state has a
non-empty action list there (`cellsHaveActions`, decidable, evaluated on every real dump). -/
theorem lookahead_yields_have_actions (L : Lang) (tbl : C03.Table) (hwf : tableWF L = true)
    (hc : cellsHaveActions L tbl = true) (s : Nat) (hs : s < L.stateCount) (a : Nat)
    (ha : a ∈ lookaheadSyms L s) (hat : a < L.tokenCount) : tbl.actions s a ≠ [] := by
  have h1 := ((lookahead_enumerates L hwf s hs).2 a).1 ha
  unfold cellsHaveActions at hc
  have h2 := (List.all_eq_true.1 ((List.all_eq_true.1 hc) s (List.mem_range.2 hs))) a (List.mem_range.2 hat)
  simp only [Bool.or_eq_true, beq_iff_eq, Bool.not_eq_true', List.isEmpty_eq_false_iff] at h2
  exact h2.resolve_left h1.2

end TsVerif.C16
