import TsVerif.C16.Props
/-!
# C16 — worked instances and witnesses

Small files, trees, tables and grammars on which the decidable hypotheses of the property theorems of `Props.lean` hold (or
are rejected), and the witnesses of the findings `C16-error-prefix`, `C16-inlined-alias-unlisted`, `C16-aliased-inline-multistep` and
`C16-inlined-field-override`.
-/
namespace TsVerif.C16

def exNT : NodeTypes :=
  [ { ty := ⟨"_expr", true⟩, fields := [], children := none, subtypes := some [⟨"num", true⟩, ⟨"neg", true⟩] },
    { ty := ⟨"neg", true⟩, fields := [("arg", ⟨true, false, [⟨"_expr", true⟩]⟩)], children := none, subtypes := none },
    { ty := ⟨"num", true⟩, fields := [], children := none, subtypes := none },
    { ty := ⟨"-", false⟩, fields := [], children := none, subtypes := none } ]

def exTree : VT :=
  .node ⟨"neg", true⟩ false [] [.node ⟨"-", false⟩ false [] [], .node ⟨"num", true⟩ false ["arg"] []]

example : ntWF exNT = true := by decide +kernel
example : checkConforms exNT exTree = true := by decide +kernel
example : Conforms exNT exTree := (conforms_iff exNT exTree).1 (by decide +kernel)
/-- a required field left empty does not conform -/
example : ¬ Conforms exNT (.node ⟨"neg", true⟩ false [] [.node ⟨"-", false⟩ false [] []]) :=
  fun h => by
    have := (conforms_iff exNT _).2 h
    revert this; decide +kernel

/-- WITNESS (finding `inlined-alias-unlisted`, zoo `fx_aliased_inlined_rules`, input `a;`): the
node-types.json generated before fixes/C16-inlined-alias-node-types.diff (reduced to the entries involved) types
`variable_name` as a child of `statement` but has no top-level entry for it, so the real tree
`(statement (variable_name) ";")` does not conform to it. -/
def witNT : NodeTypes :=
  [ { ty := ⟨"statement", true⟩, fields := [],
      children := some ⟨true, false, [⟨"member_expression", true⟩, ⟨"variable_name", true⟩]⟩, subtypes := none },
    { ty := ⟨";", false⟩, fields := [], children := none, subtypes := none } ]
example : ¬ Conforms witNT (.node ⟨"statement", true⟩ false [] [.node ⟨"variable_name", true⟩ false [] [], .node ⟨";", false⟩ false [] []]) :=
  fun h => by
    have := (conforms_iff witNT _).2 h
    revert this; decide +kernel

/-- WITNESS (finding `aliased-inline-multistep`, corpus grammar c16_msinline, input `rec < a > ;`): the
real node-types.json declares field `entry` of `msrec_stmt` as one non-multiple `thing`; the real tree
has three `thing` children under `entry` (every step of the inlined production got the alias and the
field). -/
def msWitNT : NodeTypes :=
  [ { ty := ⟨"msrec_stmt", true⟩, fields := [("entry", ⟨true, false, [⟨"thing", true⟩]⟩)], children := none, subtypes := none },
    { ty := ⟨"thing", true⟩, fields := [], children := some ⟨false, true, [⟨"word", true⟩]⟩, subtypes := none },
    { ty := ⟨"rec", false⟩, fields := [], children := none, subtypes := none },
    { ty := ⟨";", false⟩, fields := [], children := none, subtypes := none } ]
example : ¬ Conforms msWitNT (.node ⟨"msrec_stmt", true⟩ false []
    [.node ⟨"rec", false⟩ false [] [], .node ⟨"thing", true⟩ false ["entry"] [], .node ⟨"thing", true⟩ false ["entry"] [],
     .node ⟨"thing", true⟩ false ["entry"] [], .node ⟨";", false⟩ false [] []]) :=
  fun h => by
    have := (conforms_iff msWitNT _).2 h
    revert this; decide +kernel

/-- non-vacuity, and the shape of seeded change C16-r5: `_expression` with the named subtype `string`; the
list also holds the ANONYMOUS literal "string".  Collapsing keeps the literal; a collapse that compares
kinds only (ignoring `named`) would drop it, and the anonymous node would no longer be admitted. -/
def supNT : NodeTypes :=
  [ { ty := ⟨"_expression", true⟩, fields := [], children := none, subtypes := some [⟨"string", true⟩, ⟨"ident", true⟩] } ]
example : collapse [(⟨"_expression", true⟩, [⟨"string", true⟩, ⟨"ident", true⟩])]
    [⟨"_expression", true⟩, ⟨"string", true⟩, ⟨"string", false⟩] = [⟨"_expression", true⟩, ⟨"string", false⟩] := by decide +kernel
example : allowed supNT ⟨true, false, [⟨"_expression", true⟩, ⟨"string", false⟩]⟩ ⟨"string", false⟩ = true := by decide +kernel
example : allowed supNT ⟨true, false, [⟨"_expression", true⟩, ⟨"string", false⟩]⟩ ⟨"string", true⟩ = true := by decide +kernel
example : allowed supNT ⟨true, false, [⟨"_expression", true⟩]⟩ ⟨"string", false⟩ = false := by decide +kernel

def exTab : SymTab :=
  { syms := [⟨[101, 110, 100], false, false, false, 0⟩, ⟨[120], true, true, false, 1⟩, ⟨[121], true, false, false, 2⟩],
    fieldNames := [[97], [98]] }
example : namesRoundTrip exTab = true ∧ pubConsistent exTab = true := by decide +kernel
example : exTab.fieldNames.Nodup := by decide +kernel

/-- WITNESS (see notes/C16.md, finding `error-prefix`): before fixes/C16-error-prefix.diff
`ts_language_symbol_for_name` compared only `length` bytes with "ERROR", so a named kind that is a prefix of "ERROR"
mapped to the error symbol and did not round-trip. -/
example : namesRoundTrip { syms := [⟨[101, 110, 100], false, false, false, 0⟩, ⟨[69], true, true, false, 1⟩], fieldNames := [] } = false := by
  decide +kernel
/-- with the exact comparison of fixes/C16-error-prefix.diff the same table round-trips -/
example : namesRoundTrip { exactError := true, syms := [⟨[101, 110, 100], false, false, false, 0⟩, ⟨[69], true, true, false, 1⟩], fieldNames := [] } = true := by
  decide +kernel

/-- a two-state table: state 0 large (symbols 0 and 2 set), state 1 small with two groups -/
def exLang : Lang :=
  { symbolCount := 4, tokenCount := 3, stateCount := 2, largeStateCount := 1,
    parseTable := #[5, 0, 7, 0], smallTable := #[2, 9, 2, 1, 3, 4, 1, 0], smallMap := #[0],
    actionCounts := #[0, 0, 0, 0, 0, 1, 0, 1, 0, 1] }

example : tableWF exLang = true := by decide +kernel
example : lookaheadList exLang 0 = [(0, 5), (2, 7)] := by decide +kernel
example : lookaheadList exLang 1 = [(1, 9), (3, 9), (0, 4)] := by decide +kernel
example : lookup exLang 1 3 = 9 ∧ lookup exLang 1 2 = 0 := by decide +kernel
/-- a layout the predicate rejects: a group with zero symbols -/
example : tableWF { exLang with smallTable := #[1, 9, 0] } = false := by decide +kernel

namespace Derive

def tIdent : TypeRef := ⟨"ident", true⟩
def tColon : TypeRef := ⟨":", false⟩
def tNum : TypeRef := ⟨"num", true⟩

/-- `pair: key:ident ':' value:_vals` with the hidden rule `_vals: num | num num` -/
def exG : Grammar :=
  { syms := [.token (some tIdent), .token (some tColon), .rule 1 none, .token (some tNum)],
    prods := [ [ [⟨0, some "key", none⟩, ⟨1, none, none⟩, ⟨2, some "value", none⟩] ],
               [ [⟨3, none, none⟩], [⟨3, none, none⟩, ⟨3, none, none⟩] ] ] }

def exI : Info :=
  { children := fun v => if v = 0 then [tIdent, tColon, tNum] else [tNum],
    fieldTypes := fun v f => if v = 0 then (if f = "key" then [tIdent] else if f = "value" then [tNum] else []) else [],
    childMax := fun _ => 2,
    childMin := fun v => if v = 0 then 3 else 1,
    fieldMax := fun v f => if v = 0 then (if f = "key" then 1 else if f = "value" then 2 else 0) else 0,
    fieldMin := fun v f => if v = 0 then (if f = "key" then 1 else if f = "value" then 1 else 0) else 0,
    plainTypes := fun v => if v = 0 then [] else [tNum],
    plainMax := fun v => if v = 0 then 0 else 2,
    plainMin := fun v => if v = 0 then 0 else 1 }

/-- a derivation through the hidden rule: the two `num` children inherit the field `value` -/
example : KidsN exG 2 0 [⟨tIdent, ["key"]⟩, ⟨tColon, []⟩, ⟨tNum, ["value"]⟩, ⟨tNum, ["value"]⟩] := by
  refine ⟨_, List.mem_singleton.2 rfl, ?_⟩
  refine ⟨[⟨tIdent, ["key"]⟩], _, rfl, rfl, ?_⟩
  refine ⟨[⟨tColon, []⟩], _, rfl, rfl, ?_⟩
  refine ⟨[⟨tNum, ["value"]⟩, ⟨tNum, ["value"]⟩], [], rfl, ?_, rfl⟩
  refine ⟨[⟨tNum, []⟩, ⟨tNum, []⟩], ?_, rfl⟩
  refine ⟨[⟨3, none, none⟩, ⟨3, none, none⟩], List.mem_cons_of_mem _ (List.mem_singleton.2 rfl), ?_⟩
  exact ⟨[⟨tNum, []⟩], [⟨tNum, []⟩], rfl, rfl, [⟨tNum, []⟩], [], rfl, rfl, rfl⟩

/-- the information of the example is closed, so `derive_sound_partial` applies to it -/
example : Closed exG exI := by
  intro v p hp
  have hv : v < 2 := (prodsOf_mem hp).1
  obtain rfl | rfl : v = 0 ∨ v = 1 := by omega
  · obtain rfl : p = [⟨0, some "key", none⟩, ⟨1, none, none⟩, ⟨2, some "value", none⟩] := List.mem_singleton.1 hp
    refine ⟨?_, by decide +kernel, fun f => ?_, by decide +kernel, fun f => ?_, by decide +kernel, by decide +kernel⟩
    · intro s hs
      rcases hs with _ | ⟨_, _ | ⟨_, _ | ⟨_, ⟨⟩⟩⟩⟩
      · exact ⟨by decide +kernel, fun f hf => by cases hf; decide +kernel, fun h => nomatch h⟩
      · exact ⟨by decide +kernel, fun f hf => (nomatch hf), fun _ h => Bool.noConfusion h⟩
      · exact ⟨by decide +kernel, fun g t ht => (nomatch ht), fun f hf => by cases hf; decide +kernel, fun h => nomatch h⟩
    -- the two clauses about a field name `f`: evaluated for "key" and "value"; for any other name both sides vanish
    all_goals
      by_cases h1 : f = "key"
      · subst h1; decide +kernel
      by_cases h2 : f = "value"
      · subst h2; decide +kernel
    · intro _
      show (if some "key" = some f then 1 else 0) + ((if none = some f then 1 else 0) + ((if some "value" = some f then 2 else 0) + 0)) ≤ _
      rw [if_neg (fun h => h1 (Option.some.inj h).symm), if_neg (fun h => h2 (Option.some.inj h).symm), if_neg (fun h => nomatch h)]
      exact Nat.zero_le _
    · show (if f = "key" then 1 else if f = "value" then 1 else 0) ≤ _
      rw [if_neg h1, if_neg h2]
      exact Nat.zero_le _
  · -- both productions are one or two visible `num` steps without a field
    have hs : StepClosed exG exI 1 ⟨3, none, none⟩ := ⟨by decide +kernel, fun f hf => (nomatch hf), fun _ _ => by decide +kernel⟩
    rcases (List.mem_cons.1 hp).imp_right List.mem_singleton.1 with rfl | rfl <;>
      exact ⟨by simpa using hs, by decide +kernel, fun f _ => Nat.le_refl 0, by decide +kernel, fun f => Nat.zero_le _, by decide +kernel, by decide +kernel⟩


def exIF : InfoF :=
  [ { children := [tIdent, tColon, tNum], childMax := 2, childMin := 3,
      fields := [("key", [tIdent], 1, 1), ("value", [tNum], 2, 1)], plain := [], plainMax := 0, plainMin := 0 },
    { children := [tNum], childMax := 2, childMin := 1, fields := [], plain := [tNum], plainMax := 2, plainMin := 1 } ]

example : closedB exG exIF = true := by decide +kernel
/-- dropping the `multiple` flag of `value` is detected, with the production -/
example : firstOpen exG [ { exIF.var 0 with fields := [("key", [tIdent], 1, 1), ("value", [tNum], 1, 1)] }, exIF.var 1 ] = some (0, 0) := by decide +kernel
/-- dropping the kind `num` from field `value` is detected -/
example : closedB exG [ { exIF.var 0 with fields := [("key", [tIdent], 1, 1), ("value", [], 2, 1)] }, exIF.var 1 ] = false := by decide +kernel

example : Closed exG (lfp exG) := lfp_closed exG _ (Nat.le_refl _)

/-- the finding `C16-inlined-field-override`:
`fo_stmt: 'fo' outer:_fo_body ';'`, `_fo_body: inner:ident '=' ident`, `_fo_body` inlined -/
def foG : Grammar :=
  { syms := [.token (some ⟨"fo", false⟩), .token (some ⟨";", false⟩), .token (some tIdent), .token (some ⟨"=", false⟩),
             .rule 0 (some ⟨"fo_stmt", true⟩), .rule 1 none],
    prods := [ [ [⟨0, none, none⟩, ⟨5, some "outer", none⟩, ⟨1, none, none⟩] ],
               [ [⟨2, some "inner", none⟩, ⟨3, none, none⟩, ⟨2, none, none⟩] ] ] }

/-- the substitution: the three inserted steps carry `outer`; `inner` is gone -/
example : ((inlineG foG [1]).prodsOf 0).map (fun p => p.map (fun s => (s.sym, s.field))) =
    [[(0, none), (2, some "outer"), (3, some "outer"), (2, some "outer"), (1, none)]] := by decide +kernel

def foKids : List Child :=
  [⟨⟨"fo", false⟩, []⟩, ⟨tIdent, ["outer"]⟩, ⟨⟨"=", false⟩, ["outer"]⟩, ⟨tIdent, ["outer"]⟩, ⟨⟨";", false⟩, []⟩]

/-- The children of `fo a = b ;` are derivable with the inlined rule spliced, and NO
information that calls field `inner` required (as the real node-types.json does) admits them. -/
theorem foWit : KidsNI foG [1] 1 0 foKids ∧ ∀ I : Info, 1 ≤ I.fieldMin 0 "inner" → ¬ Admits I 0 foKids := by
  constructor
  · refine ⟨_, List.mem_singleton.2 rfl, ?_⟩
    refine ⟨[⟨⟨"fo", false⟩, []⟩], _, rfl, rfl, ?_⟩
    refine ⟨[⟨tIdent, ["outer"]⟩, ⟨⟨"=", false⟩, ["outer"]⟩, ⟨tIdent, ["outer"]⟩], _, rfl, ?_, ?_⟩
    · refine ⟨_, List.mem_singleton.2 rfl, ?_⟩
      exact ⟨[⟨tIdent, ["outer"]⟩], _, rfl, rfl, [⟨⟨"=", false⟩, ["outer"]⟩], _, rfl, rfl, [⟨tIdent, ["outer"]⟩], [], rfl, rfl, rfl⟩
    · exact ⟨[⟨⟨";", false⟩, []⟩], [], rfl, rfl, rfl⟩
  · -- no child of `foKids` carries `inner`
    exact fun I hI hA => absurd (Nat.le_trans hI (hA.2.2.2.2.1 "inner")) (by decide)

end Derive

end TsVerif.C16
