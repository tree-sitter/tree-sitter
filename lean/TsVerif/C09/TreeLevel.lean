import TsVerif.C09.Bom
import TsVerif.C01.Stream
/-!
# C09 — "offsets map one-to-one", and from "same characters" to "same tree" for deterministic parsing

* `starts_strict`, `offsets_one_to_one`: the byte offsets at which the characters of a scalar sequence start in
  its UTF-8 encoding and in its UTF-16 encoding are two strictly increasing lists of the same length — the map
  "k-th start ↦ k-th start" is a bijection between them (the `map` the judge uses to compare node positions of a
  UTF-16 drive with the canonical UTF-8 drive).  With `utf16_utf8_same_chars` (same code points, sizes = encoding
  lengths) this is the clause "UTF-8 versus UTF-16LE/BE delivery of the same characters (offsets map one-to-one)"
  at the level of the decoders.
* `driver_chunk_indep`: ANY deterministic lex/parse loop (C01's `runDriver`: lex mode from the parser state, one
  token from what is left of the lexer's observation sequence `(offset, look-ahead, size)*`) ends in the same
  parser state under two chunkings of the same text that both satisfy `WholeChar` — a corollary of
  `chars_chunk_indep_port_any` (no assumption about a BOM) by congruence.  As in C13/TreeLevel.lean the content is the modelling claim that a
  parse without external scanner reads the text only through the lexer's observations; it is not proved
  against the C code, and the tree-level claim for real parses is JUDGED per drive.
-/
namespace TsVerif.C09
open TsGen TsVerif.Lex TsVerif.Utf TsVerif.C01

-- the offsets at which the characters start AND the end offset (`cs.length + 1` entries)
def starts (len : Nat → Nat) : List Nat → Nat → List Nat
  | [], o => [o]
  | c :: cs, o => o :: starts len cs (o + len c)

theorem starts_length (len : Nat → Nat) : ∀ (cs : List Nat) (o : Nat), (starts len cs o).length = cs.length + 1
  | [], _ => rfl
  | _ :: cs, o => by simp [starts, starts_length len cs]

theorem starts_ge (len : Nat → Nat) : ∀ (cs : List Nat) (o : Nat), ∀ x ∈ starts len cs o, o ≤ x
  | [], o, x, h => by simp [starts] at h; omega
  | c :: cs, o, x, h => by
    simp only [starts, List.mem_cons] at h
    rcases h with rfl | h
    · exact Nat.le_refl _
    · have := starts_ge len cs _ x h; omega

theorem starts_strict (len : Nat → Nat) : ∀ (cs : List Nat) (o : Nat), (∀ c ∈ cs, 0 < len c) →
    (starts len cs o).Pairwise (· < ·)
  | [], _, _ => by simp [starts]
  | c :: cs, o, h => by
    simp only [starts, List.pairwise_cons]
    refine ⟨fun x hx => ?_, starts_strict len cs _ (fun c' hc' => h c' (List.mem_cons_of_mem _ hc'))⟩
    have := starts_ge len cs _ x hx
    have := h c (by simp)
    omega

theorem offsets_one_to_one (be : Bool) (cs : List Nat) :
    (starts (fun c => (encodeUtf8 c).length) cs 0).length = (starts (fun c => (encodeUtf16 be c).length) cs 0).length ∧
    (starts (fun c => (encodeUtf8 c).length) cs 0).Pairwise (· < ·) ∧
    (starts (fun c => (encodeUtf16 be c).length) cs 0).Pairwise (· < ·) :=
  ⟨by rw [starts_length, starts_length],
   starts_strict _ cs 0 (fun c _ => encodeUtf8_pos c),
   starts_strict _ cs 0 (fun c _ => encodeUtf16_pos be c)⟩

/-- Non-vacuity: `a€𝒳b` — UTF-8 starts 0,1,4,8,9; UTF-16 starts 0,2,4,8,10. -/
example : starts (fun c => (encodeUtf8 c).length) [0x61, 0x20AC, 0x1D4B3, 0x62] 0 = [0, 1, 4, 8, 9] ∧
    starts (fun c => (encodeUtf16 true c).length) [0x61, 0x20AC, 0x1D4B3, 0x62] 0 = [0, 2, 4, 8, 10] := by decide

theorem driver_chunk_indep {σ μ : Type} (step : σ → Tok → σ) (mode : σ → μ)
    (lexOne : μ → List (Nat × Int × Nat) → Tok)
    (text : List Nat) (r1 r2 : Read)
    (h1 : ChunkingOf text r1) (w1 : WholeChar text r1) (h2 : ChunkingOf text r2) (w2 : WholeChar text r2)
    (hsmall : text.length < UMAX) (fuel n : Nat) (s : σ) :
    runDriver step mode (fun m i => lexOne m ((lexStream r1 fuel).drop i)) n s 0 =
    runDriver step mode (fun m i => lexOne m ((lexStream r2 fuel).drop i)) n s 0 := by
  rw [chars_chunk_indep_port_any text r1 r2 h1 w1 h2 w2 hsmall fuel]

end TsVerif.C09
