import TsVerif.C09.TreeLevel
import TsVerif.C09.VersionOrder
#print axioms TsVerif.C09.decode_prefix_stable
#print axioms TsVerif.C09.decode_local
#print axioms TsVerif.C09.lookahead_chunk_indep
#print axioms TsVerif.C09.chars_chunk_dep_witness
#print axioms TsVerif.C09.chars_chunk_indep
#print axioms TsVerif.C09.chars_chunk_indep_two
#print axioms TsVerif.C09.lexStream_eq_coreChars
#print axioms TsVerif.C09.chars_chunk_indep_port
#print axioms TsVerif.C09.utf16_decode_encode
#print axioms TsVerif.C09.utf16be_trail_witness
#print axioms TsVerif.C09.utf8_decode_encode
#print axioms TsVerif.C09.utf16_utf8_same_chars
#print axioms TsVerif.C09.doAdvance_col
#print axioms TsVerif.C09.column_cache_eq
#print axioms TsVerif.C09.offsets_one_to_one
#print axioms TsVerif.C09.driver_chunk_indep
#print axioms TsVerif.C09.advance_skip
#print axioms TsVerif.C09.lexStream_bom
#print axioms TsVerif.C09.chars_chunk_indep_port_any
#print axioms TsVerif.C09.utf8_decode_sound
#print axioms TsVerif.C09.utf8_decode_exact
#print axioms TsVerif.C09.utf8_decode_injective
#print axioms TsVerif.C09.VersionOrder.compare_versions_mirror
#print axioms TsVerif.C09.VersionOrder.compare_versions_mirror_any
#print axioms TsVerif.C09.VersionOrder.compare_versions_mirror_wrapping
#print axioms TsVerif.C09.VersionOrder.compareWith_nat
#print axioms TsVerif.C09.VersionOrder.compareWith_wrapping_eq
#print axioms TsVerif.C09.VersionOrder.compare_versions_refl
#print axioms TsVerif.C09.VersionOrder.compare_versions_none_iff
#print axioms TsVerif.C09.VersionOrder.take_left_sound
#print axioms TsVerif.C09.VersionOrder.take_right_sound
#print axioms TsVerif.C09.VersionOrder.prefer_left_sound
#print axioms TsVerif.C09.VersionOrder.take_not_both
#print axioms TsVerif.C09.VersionOrder.take_left_gap
