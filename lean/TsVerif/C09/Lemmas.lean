import TsVerif.C09.Utf8
/-!
# C09 — the decoder ports

UTF-8 (`decodeUtf8`, the `U8_NEXT` port).  The hub is `WellFormed p c`: `p` is one of the well-formed UTF-8 byte sequences
of the Unicode Standard (Table 3-7) and `c` the scalar value it encodes.  The port reads exactly these
(`decode_wellFormed`, `decodeUtf8_ok`), and they are exactly the encodings of scalar values (`wellFormed_encode`,
`wellFormed_of_scalar`).  Round trip (`utf8_decode_encode`), soundness (`utf8_decode_sound`), prefix stability and the
size bounds are read off from that.

UTF-16 (`decodeUtf16`): the round trip `utf16_decode_encode`, at the end of the file.
-/
namespace TsVerif.Utf

theorem unit16_bytes (be : Bool) (u : Nat) :
    (if be then unit16 be (u / 256) (u % 256) else unit16 be (u % 256) (u / 256)) = u := by
  cases be <;> simp [unit16] <;> omega

/-- The mask is a variable with an equation (here and in `add_and`) so that the numerals of the port (`0xf`, `0x3f`) match
it syntactically and the equation is closed by `rfl`. -/
theorem and_mask (x n : Nat) (m : Nat) (hm : m = 2 ^ n - 1) : x &&& m = x % 2 ^ n := by
  subst hm; exact Nat.and_two_pow_sub_one_eq_mod x n

theorem shl_or (a b : Nat) (h : b < 64) : a <<< 6 ||| b = a * 64 + b := by
  rw [← Nat.shiftLeft_add_eq_or_of_lt (i := 6) (by simpa using h) a, Nat.shiftLeft_eq]

theorem trailVal_enc (k : Nat) (h : k < 64) : trailVal (0x80 + k) = some k := by
  unfold trailVal
  have : 0x80 ≤ 0x80 + k ∧ 0x80 + k ≤ 0xbf := by omega
  rw [if_pos this]
  have e : 0x80 + k - 0x80 = k := by omega
  rw [e]

/-- `U8_LEAD3_T1_BITS` read as a relation between the low nibble `l` of the lead byte `E0..EF` and the top three
bits `q` of the second byte: `80..BF` in general, `A0..BF` after `E0`, `80..9F` after `ED`. -/
theorem lead3T1Bits_iff : ∀ l, l < 16 → ∀ q, q < 8 →
    ((lead3T1Bits.getD l 0) &&& (1 <<< q) ≠ 0 ↔ (q = 4 ∨ q = 5) ∧ (l = 0 → q = 5) ∧ (l = 13 → q = 4)) := by
  decide

/-- `U8_LEAD4_T1_BITS` likewise, `l` the lead byte `F0..F4` minus `F0`, `q` the top nibble of the second byte:
`80..BF` in general, `90..BF` after `F0`, `80..8F` after `F4`. -/
theorem lead4T1Bits_iff : ∀ l, l < 5 → ∀ q, q < 16 →
    ((lead4T1Bits.getD q 0) &&& (1 <<< l) ≠ 0 ↔ (8 ≤ q ∧ q ≤ 11) ∧ (l = 0 → 9 ≤ q) ∧ (l = 4 → q = 8)) := by
  decide

theorem table3 : ∀ l, l < 16 → ∀ k, k < 64 → (l = 0 → 32 ≤ k) → (l = 13 → k < 32) →
    (lead3T1Bits.getD l 0) &&& (1 <<< ((0x80 + k) >>> 5)) ≠ 0 := by
  intro l hl k hk h0 hd
  rw [Nat.shiftRight_eq_div_pow]
  exact (lead3T1Bits_iff l hl _ (by omega)).2 (by omega)

theorem table4 : ∀ l, l < 5 → ∀ k, k < 64 → (l = 0 → 16 ≤ k) → (l = 4 → k < 16) →
    (lead4T1Bits.getD ((0x80 + k) >>> 4) 0) &&& (1 <<< l) ≠ 0 := by
  intro l hl k hk h0 hd
  rw [Nat.shiftRight_eq_div_pow]
  exact (lead4T1Bits_iff l hl _ (by omega)).2 (by omega)

theorem decodeSeq_encode (dec : List Nat → Int × Nat) (enc : Nat → List Nat)
    (hdec : ∀ c rest, Scalar c → dec (enc c ++ rest) = ((c : Int), (enc c).length))
    (hne : ∀ c, enc c ≠ []) :
    ∀ (cs : List Nat) (fuel : Nat), (∀ c ∈ cs, Scalar c) → cs.length ≤ fuel →
      decodeSeq dec fuel (cs.flatMap enc) = cs.map (fun (c : Nat) => ((c : Int), (enc c).length))
  | [], fuel, _, _ => by cases fuel <;> simp [decodeSeq]
  | c :: cs, 0, _, hl => by simp at hl
  | c :: cs, fuel + 1, hs, hl => by
    have hc := hs c (by simp)
    have hne' : (enc c ++ cs.flatMap enc).isEmpty = false :=
      List.isEmpty_eq_false_iff.2 fun h => hne c (List.append_eq_nil_iff.1 h).1
    simp only [List.flatMap_cons, decodeSeq, hne', Bool.false_eq_true, if_false, List.map_cons]
    rw [hdec c _ hc]
    simp only [List.drop_left']
    rw [decodeSeq_encode dec enc hdec hne cs fuel (fun x hx => hs x (List.mem_cons_of_mem _ hx)) (by simpa using hl)]

end TsVerif.Utf

namespace TsVerif.C09
open TsVerif.Utf

theorem trailVal_some (b t : Nat) (h : trailVal b = some t) : 0x80 ≤ b ∧ b ≤ 0xbf ∧ t = b - 0x80 := by
  unfold trailVal at h
  split at h
  · have := Option.some.inj h
    omega
  · cases h

/-- `A0..BF` after `E0` excludes the overlong forms, `80..9F` after `ED` the surrogates.  `q` is `b >>> 5`. -/
theorem table3_conv (l : Nat) (hl : l < 16) (q : Nat) (hq : q < 8)
    (h : (lead3T1Bits.getD l 0) &&& (1 <<< q) ≠ 0) : (q = 4 ∨ q = 5) ∧ (l = 0 → q = 5) ∧ (l = 13 → q = 4) :=
  (lead3T1Bits_iff l hl q hq).1 h

/-- `90..BF` after `F0` excludes the overlong forms, `80..8F` after `F4` what lies above U+10FFFF.  `q` is `b >>> 4`. -/
theorem table4_conv (l : Nat) (hl : l < 5) (q : Nat) (hq : q < 16)
    (h : (lead4T1Bits.getD q 0) &&& (1 <<< l) ≠ 0) : (8 ≤ q ∧ q ≤ 11) ∧ (l = 0 → 9 ≤ q) ∧ (l = 4 → q = 8) :=
  (lead4T1Bits_iff l hl q hq).1 h

/-- The well-formed UTF-8 byte sequences and the scalar value each encodes (Unicode Standard, Table 3-7), every byte
written as the base of its class plus its payload bits. -/
inductive WellFormed : List Nat → Nat → Prop
  | one (c : Nat) : c < 0x80 → WellFormed [c] c
  | two (x y : Nat) : 2 ≤ x → x < 32 → y < 64 → WellFormed [0xC0 + x, 0x80 + y] (x * 64 + y)
  | three (x y z : Nat) : x < 16 → y < 64 → z < 64 → (x = 0 → 32 ≤ y) → (x = 13 → y < 32) →
      WellFormed [0xE0 + x, 0x80 + y, 0x80 + z] ((x * 64 + y) * 64 + z)
  | four (x y z w : Nat) : x < 5 → y < 64 → z < 64 → w < 64 → (x = 0 → 16 ≤ y) → (x = 4 → y < 16) →
      WellFormed [0xF0 + x, 0x80 + y, 0x80 + z, 0x80 + w] (((x * 64 + y) * 64 + z) * 64 + w)

theorem WellFormed.length_pos {p : List Nat} {c : Nat} (h : WellFormed p c) : 1 ≤ p.length := by
  cases h <;> exact Nat.succ_pos _

theorem add_and (b k n : Nat) (hb : 2 ^ n ∣ b) (hk : k < 2 ^ n) (m : Nat) (hm : m = 2 ^ n - 1) :
    (b + k) &&& m = k := by
  rw [and_mask _ n m hm, Nat.add_mod, Nat.mod_eq_zero_of_dvd hb, Nat.zero_add, Nat.mod_mod, Nat.mod_eq_of_lt hk]

theorem decode_wellFormed {p : List Nat} {c : Nat} (h : WellFormed p c) (r : List Nat) :
    decodeUtf8 (p ++ r) = ((c : Int), p.length) := by
  cases h with
  | one c h => simp only [List.cons_append, List.nil_append, decodeUtf8, h, if_true, List.length_singleton]
  | two x y h1 h2 hy =>
    simp only [List.cons_append, List.nil_append, decodeUtf8, show ¬ 0xC0 + x < 0x80 by omega,
      show ¬ 0xC0 + x ≥ 0xe0 by omega, show 0xC0 + x ≥ 0xc2 by omega, trailVal_enc y hy,
      add_and 0xC0 x 5 ⟨6, rfl⟩ h2 _ rfl, shl_or _ _ hy, if_true, if_false]
    rfl
  | three x y z hx hy hz h0 hd =>
    have e : (0xE0 + x) &&& 0xf = x := add_and 0xE0 x 4 ⟨14, rfl⟩ hx _ rfl
    simp only [List.cons_append, List.nil_append, decodeUtf8, show ¬ 0xE0 + x < 0x80 by omega,
      show 0xE0 + x ≥ 0xe0 by omega, show 0xE0 + x < 0xf0 by omega, e, table3 x hx y hy h0 hd, trailVal_enc z hz,
      add_and 0x80 y 6 ⟨2, rfl⟩ hy _ rfl, shl_or _ _ hy, shl_or _ _ hz, ne_eq, not_false_eq_true, if_true, if_false]
    rfl
  | four x y z w hx hy hz hw h0 hd =>
    have e : 0xF0 + x - 0xf0 = x := Nat.add_sub_cancel_left _ _
    simp only [List.cons_append, List.nil_append, decodeUtf8, show ¬ 0xF0 + x < 0x80 by omega,
      show 0xF0 + x ≥ 0xe0 by omega, show ¬ 0xF0 + x < 0xf0 by omega, e, show x ≤ 4 by omega, table4 x hx y hy h0 hd,
      trailVal_enc z hz, trailVal_enc w hw, add_and 0x80 y 6 ⟨2, rfl⟩ hy _ rfl, shl_or _ _ hy, shl_or _ _ hz,
      shl_or _ _ hw, ne_eq, not_false_eq_true, and_self, if_true, if_false]
    rfl

theorem digit_div (n : Nat) {d : Nat} (h : d < 64) : (n * 64 + d) / 64 = n := by
  rw [Nat.add_comm, Nat.add_mul_div_right _ _ (by decide), Nat.div_eq_of_lt h, Nat.zero_add]

theorem digit_mod (n : Nat) {d : Nat} (h : d < 64) : (n * 64 + d) % 64 = d := by
  rw [Nat.add_comm, Nat.add_mul_mod_self_right, Nat.mod_eq_of_lt h]

theorem div_4096 (c : Nat) : c / 4096 = c / 64 / 64 := (Nat.div_div_eq_div_mul c 64 64).symm

theorem div_262144 (c : Nat) : c / 262144 = c / 64 / 64 / 64 := by
  rw [Nat.div_div_eq_div_mul, Nat.div_div_eq_div_mul]

theorem wellFormed_encode {p : List Nat} {c : Nat} (h : WellFormed p c) : Scalar c ∧ encodeUtf8 c = p := by
  unfold Scalar encodeUtf8
  cases h with
  | one c h => exact ⟨by omega, if_pos h⟩
  | two x y h1 h2 hy =>
    refine ⟨by omega, ?_⟩
    rw [if_neg (by omega), if_pos (by omega), digit_div _ hy, digit_mod _ hy]
  | three x y z hx hy hz h0 hd =>
    refine ⟨by omega, ?_⟩
    rw [if_neg (by omega), if_neg (by omega), if_pos (by omega), div_4096, digit_div _ hz, digit_mod _ hz,
      digit_div _ hy, digit_mod _ hy]
  | four x y z w hx hy hz hw h0 hd =>
    refine ⟨by omega, ?_⟩
    rw [if_neg (by omega), if_neg (by omega), if_neg (by omega), div_262144, div_4096, digit_div _ hw,
      digit_mod _ hw, digit_div _ hz, digit_mod _ hz, digit_div _ hy, digit_mod _ hy]

/-- The sequence is made of the base-64 digits of `c`. -/
theorem wellFormed_of_scalar {c : Nat} (h : Scalar c) : ∃ p, WellFormed p c := by
  unfold Scalar at h
  by_cases c1 : c < 0x80
  · exact ⟨_, .one c c1⟩
  by_cases c2 : c < 0x800
  · have := WellFormed.two (c / 64) (c % 64) (by omega) (by omega) (Nat.mod_lt _ (by decide))
    rw [Nat.div_add_mod'] at this
    exact ⟨_, this⟩
  by_cases c3 : c < 0x10000
  · have := WellFormed.three (c / 64 / 64) (c / 64 % 64) (c % 64) (by omega) (Nat.mod_lt _ (by decide))
      (Nat.mod_lt _ (by decide)) (by omega) (by omega)
    rw [Nat.div_add_mod', Nat.div_add_mod'] at this
    exact ⟨_, this⟩
  · have := WellFormed.four (c / 64 / 64 / 64) (c / 64 / 64 % 64) (c / 64 % 64) (c % 64) (by omega)
      (Nat.mod_lt _ (by decide)) (Nat.mod_lt _ (by decide)) (Nat.mod_lt _ (by decide)) (by omega) (by omega)
    rw [Nat.div_add_mod', Nat.div_add_mod', Nat.div_add_mod'] at this
    exact ⟨_, this⟩

theorem utf8_decode_encode (c : Nat) (hc : Scalar c) (rest : List Nat) :
    decodeUtf8 (encodeUtf8 c ++ rest) = ((c : Int), (encodeUtf8 c).length) := by
  obtain ⟨p, hp⟩ := wellFormed_of_scalar hc
  rw [(wellFormed_encode hp).2]
  exact decode_wellFormed hp rest

theorem encodeUtf8_pos (c : Nat) : 0 < (encodeUtf8 c).length := by
  unfold encodeUtf8; split <;> (try split) <;> (try split) <;> simp

theorem encodeUtf16_pos (be : Bool) (c : Nat) : 0 < (encodeUtf16 be c).length := by
  unfold encodeUtf16; cases be <;> simp <;> split <;> simp

theorem and_shl_eq_zero {v q : Nat} (h : v < 2 ^ q) : v &&& 1 <<< q = 0 := by
  apply Nat.eq_of_testBit_eq
  intro i
  rw [Nat.testBit_and, Nat.one_shiftLeft, Nat.testBit_two_pow, Nat.zero_testBit]
  by_cases hi : q = i
  · subst hi; rw [Nat.testBit_lt_two_pow h]; rfl
  · simp [hi]

theorem trail_payload {b t : Nat} (h : trailVal b = some t) : ∃ y, b = 0x80 + y ∧ y < 64 := by
  have := trailVal_some b t h
  exact ⟨b - 0x80, by omega, by omega⟩

theorem lead3_second (x b : Nat) (hx : x < 16) (h : lead3T1Bits.getD x 0 &&& 1 <<< (b >>> 5) ≠ 0) :
    ∃ y, b = 0x80 + y ∧ y < 64 ∧ (x = 0 → 32 ≤ y) ∧ (x = 13 → y < 32) := by
  have hq : b >>> 5 < 8 := by
    apply Nat.lt_of_not_le
    intro hge
    have hv : ∀ x < 16, lead3T1Bits.getD x 0 < 2 ^ 8 := by decide
    exact h (and_shl_eq_zero (Nat.lt_of_lt_of_le (hv x hx) (Nat.pow_le_pow_right (by decide) hge)))
  have := table3_conv x hx _ hq h
  rw [Nat.shiftRight_eq_div_pow] at this
  exact ⟨b - 0x80, by omega⟩

theorem lead4_second (x b : Nat) (hx : x < 5) (h : lead4T1Bits.getD (b >>> 4) 0 &&& 1 <<< x ≠ 0) :
    ∃ y, b = 0x80 + y ∧ y < 64 ∧ (x = 0 → 16 ≤ y) ∧ (x = 4 → y < 16) := by
  have hq : b >>> 4 < 16 := by
    apply Nat.lt_of_not_le
    intro hge
    rw [List.getD_eq_getElem?_getD, List.getElem?_eq_none hge] at h
    exact h (Nat.zero_and _)
  have := table4_conv x hx _ hq h
  rw [Nat.shiftRight_eq_div_pow] at this
  exact ⟨b - 0x80, by omega⟩

theorem decodeUtf8_ok (s : List Nat) : (decodeUtf8 s).1 ≠ DECODE_ERROR →
    ∃ p c, WellFormed p c ∧ p <+: s := by
  fun_cases decodeUtf8 s
  any_goals exact fun h => absurd rfl h
  all_goals refine fun _ => ?_
  -- one byte, three bytes, four bytes, two bytes: the order of the branches of the port
  next a r h1 _ => exact ⟨_, _, .one a h1, [a].prefix_append r⟩
  next a _ b h2 h3 _ hb _ c r _ hc _ =>
    obtain ⟨x, rfl⟩ : ∃ x, a = 0xE0 + x := ⟨a - 0xE0, by omega⟩
    have hx : x < 16 := by omega
    replace hb : lead3T1Bits.getD ((0xE0 + x) &&& 0xf) 0 &&& 1 <<< (b >>> 5) ≠ 0 := hb
    rw [add_and 0xE0 x 4 ⟨14, rfl⟩ hx _ rfl] at hb
    obtain ⟨y, rfl, hy, h0, hd⟩ := lead3_second x b hx hb
    obtain ⟨z, rfl, hz⟩ := trail_payload hc
    exact ⟨_, _, .three x y z hx hy hz h0 hd, List.prefix_append _ r⟩
  next a _ b h2 h3 _ hb _ c _ hc _ d r _ hd _ =>
    obtain ⟨x, rfl⟩ : ∃ x, a = 0xF0 + x := ⟨a - 0xF0, by omega⟩
    replace hb : 0xF0 + x - 0xF0 ≤ 4 ∧ lead4T1Bits.getD (b >>> 4) 0 &&& 1 <<< (0xF0 + x - 0xF0) ≠ 0 := hb
    rw [Nat.add_sub_cancel_left] at hb
    obtain ⟨y, rfl, hy, h0, h4⟩ := lead4_second x b (by omega) hb.2
    obtain ⟨z, rfl, hz⟩ := trail_payload hc
    obtain ⟨w, rfl, hw⟩ := trail_payload hd
    exact ⟨_, _, .four x y z w (by omega) hy hz hw h0 h4, List.prefix_append _ r⟩
  next a _ b r h2 h3 _ hb _ =>
    obtain ⟨x, rfl⟩ : ∃ x, a = 0xC0 + x := ⟨a - 0xC0, by omega⟩
    obtain ⟨y, rfl, hy⟩ := trail_payload hb
    exact ⟨_, _, .two x y (by omega) (by omega) hy, List.prefix_append _ r⟩

/-- No bound on the bytes is needed: a byte ≥ 256 among the bytes READ leads to `TS_DECODE_ERROR`, one behind them is never
looked at. -/
theorem decodeUtf8_sound {s : List Nat} {cp : Int} {n : Nat} (h : decodeUtf8 s = (cp, n)) (hc : cp ≠ DECODE_ERROR) :
    ∃ c : Nat, cp = (c : Int) ∧ Scalar c ∧ encodeUtf8 c <+: s ∧ n = (encodeUtf8 c).length := by
  obtain ⟨p, c, hp, t, rfl⟩ := decodeUtf8_ok s (by rw [h]; exact hc)
  obtain ⟨hs, rfl⟩ := wellFormed_encode hp
  rw [decode_wellFormed hp t] at h
  cases h
  exact ⟨c, rfl, hs, List.prefix_append _ t, rfl⟩

theorem utf8_decode_sound (s : List Nat) (hb : ∀ b ∈ s, b < 256) (cp : Int) (n : Nat)
    (h : decodeUtf8 s = (cp, n)) (hc : cp ≠ DECODE_ERROR) :
    ∃ c : Nat, cp = (c : Int) ∧ Scalar c ∧ s.take n = encodeUtf8 c ∧ n = (encodeUtf8 c).length := by
  obtain ⟨c, e, hs, hp, rfl⟩ := decodeUtf8_sound h hc
  exact ⟨c, e, hs, List.prefix_iff_eq_take.1 hp |>.symm, rfl⟩

theorem utf8_decode_exact (s : List Nat) (hb : ∀ b ∈ s, b < 256) (c n : Nat) :
    decodeUtf8 s = ((c : Int), n) ↔ Scalar c ∧ encodeUtf8 c <+: s ∧ n = (encodeUtf8 c).length := by
  constructor
  · intro h
    obtain ⟨c', e, hs, hp, hl⟩ := decodeUtf8_sound h (by unfold DECODE_ERROR; omega)
    cases Int.ofNat.inj e
    exact ⟨hs, hp, hl⟩
  · rintro ⟨hs, ⟨rest, rfl⟩, rfl⟩
    exact utf8_decode_encode c hs rest

theorem utf8_decode_injective (s1 s2 : List Nat) (h1 : ∀ b ∈ s1, b < 256) (h2 : ∀ b ∈ s2, b < 256)
    (cp : Int) (n1 n2 : Nat) (d1 : decodeUtf8 s1 = (cp, n1)) (d2 : decodeUtf8 s2 = (cp, n2))
    (hc : cp ≠ DECODE_ERROR) : n1 = n2 ∧ s1.take n1 = s2.take n2 := by
  obtain ⟨c1, e1, _, t1, l1⟩ := utf8_decode_sound s1 h1 cp n1 d1 hc
  obtain ⟨c2, e2, _, t2, l2⟩ := utf8_decode_sound s2 h2 cp n2 d2 hc
  cases Int.ofNat.inj (e1.symm.trans e2)
  exact ⟨by rw [l1, l2], by rw [t1, t2]⟩

/-- Non-vacuity: a well-formed 4-byte sequence followed by junk; and the premises of the rejections:
the overlong `C0 80`, `E0 80 80`, `F0 80 80 80`, the surrogate `ED A0 80` and `F4 90 80 80` (> U+10FFFF) are
all errors. -/
example : decodeUtf8 [0xF0, 0x9D, 0x92, 0xB3, 0xFF] = (0x1D4B3, 4) ∧
    (∀ b ∈ [0xF0, 0x9D, 0x92, 0xB3, 0xFF], b < 256) ∧
    (decodeUtf8 [0xC0, 0x80]).1 = DECODE_ERROR ∧ (decodeUtf8 [0xE0, 0x80, 0x80]).1 = DECODE_ERROR ∧
    (decodeUtf8 [0xF0, 0x80, 0x80, 0x80]).1 = DECODE_ERROR ∧ (decodeUtf8 [0xED, 0xA0, 0x80]).1 = DECODE_ERROR ∧
    (decodeUtf8 [0xF4, 0x90, 0x80, 0x80]).1 = DECODE_ERROR := by decide

theorem decode_take4 (a b c d : Nat) (rest : List Nat) :
    decodeUtf8 (a :: b :: c :: d :: rest) = decodeUtf8 [a, b, c, d] := rfl

theorem decode_prefix_stable (p s : List Nat) (hp : p <+: s) (cp : Int) (n : Nat)
    (h : decodeUtf8 p = (cp, n)) (hc : cp ≠ DECODE_ERROR) : decodeUtf8 s = (cp, n) := by
  obtain ⟨q, c, hq, ⟨t, rfl⟩⟩ := decodeUtf8_ok p (by rw [h]; exact hc)
  obtain ⟨u, rfl⟩ := hp
  rw [← h, List.append_assoc, decode_wellFormed hq, decode_wellFormed hq]

theorem decode_ge4 (p s : List Nat) (hp : p <+: s) (h4 : 4 ≤ p.length) : decodeUtf8 s = decodeUtf8 p := by
  obtain ⟨t, rfl⟩ := hp
  match p, h4 with
  | a :: b :: c :: d :: r, _ => rfl

theorem decode_ok_size (s : List Nat) (cp : Int) (n : Nat) (h : decodeUtf8 s = (cp, n)) (hc : cp ≠ DECODE_ERROR) :
    1 ≤ n ∧ n ≤ s.length := by
  obtain ⟨q, c, hq, ⟨t, rfl⟩⟩ := decodeUtf8_ok s (by rw [h]; exact hc)
  rw [decode_wellFormed hq t] at h
  cases h
  exact ⟨hq.length_pos, by rw [List.length_append]; exact Nat.le_add_right _ _⟩

theorem decode_err_prefix (p s : List Nat) (hp : p <+: s) (h : (decodeUtf8 s).1 = DECODE_ERROR) :
    (decodeUtf8 p).1 = DECODE_ERROR := by
  by_cases hc : (decodeUtf8 p).1 = DECODE_ERROR
  · exact hc
  · have := decode_prefix_stable p s hp (decodeUtf8 p).1 (decodeUtf8 p).2 rfl hc
    rw [this] at h; exact absurd h hc

theorem decode16_bmp (be : Bool) (a b : Nat) (rest : List Nat)
    (h : ¬ (0xD800 ≤ unit16 be a b ∧ unit16 be a b < 0xDC00)) (sw : Bool) :
    decodeUtf16 be (a :: b :: rest) sw = (((unit16 be a b : Nat) : Int), 2) := by
  simp only [decodeUtf16, h, if_false]

theorem decode16_pair (be : Bool) (a b a2 b2 : Nat) (rest : List Nat)
    (h : 0xD800 ≤ unit16 be a b ∧ unit16 be a b < 0xDC00)
    (h2 : 0xDC00 ≤ unit16 be a2 b2 ∧ unit16 be a2 b2 < 0xE000) :
    decodeUtf16 be (a :: b :: a2 :: b2 :: rest) true =
      (((unit16 be a b * 1024 + unit16 be a2 b2 - SURROGATE_OFFSET : Nat) : Int), 4) := by
  simp only [decodeUtf16, h, h2, and_self, if_true]

theorem unit16_split (be : Bool) (u : Nat) :
    ∃ a b, (if be then [u / 256, u % 256] else [u % 256, u / 256]) = [a, b] ∧ unit16 be a b = u := by
  cases be
  · exact ⟨_, _, rfl, unit16_bytes false u⟩
  · exact ⟨_, _, rfl, unit16_bytes true u⟩

/-- The UTF-16 decoder with the trail unit converted like the lead unit (`swapTrail = true`) reads back every Unicode scalar value from its UTF-16LE/BE encoding, whatever
follows, with the right size. -/
theorem utf16_decode_encode (be : Bool) (c : Nat) (hc : Scalar c) (rest : List Nat) :
    decodeUtf16 be (encodeUtf16 be c ++ rest) true = ((c : Int), (encodeUtf16 be c).length) := by
  obtain ⟨h1, h2⟩ := hc
  unfold encodeUtf16
  by_cases hb : c < 0x10000
  · obtain ⟨a, b, e, hu⟩ := unit16_split be c
    simp only [hb, if_true, e]
    have := decode16_bmp be a b rest (by rw [hu]; omega) true
    rwa [hu] at this
  · obtain ⟨a, b, e, hu⟩ := unit16_split be (0xD800 + (c - 0x10000) / 1024)
    obtain ⟨a', b', e', hu'⟩ := unit16_split be (0xDC00 + (c - 0x10000) % 1024)
    simp only [hb, if_false, e, e']
    have := decode16_pair be a b a' b' rest (by rw [hu]; omega) (by rw [hu']; omega)
    rw [hu, hu', show (0xD800 + (c - 0x10000) / 1024) * 1024 + (0xDC00 + (c - 0x10000) % 1024) - SURROGATE_OFFSET = c by
      unfold SURROGATE_OFFSET; omega] at this
    exact this

end TsVerif.C09
