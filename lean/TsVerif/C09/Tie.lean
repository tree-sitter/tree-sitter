import TsVerif.C13.LexerLemmas
/-!
# C09 — tying the full lexer port (`Lexer.start` / `Lexer.advance`) to the chunk logic `coreChars`

The invariant along a run: `Inv l` (default range, a chunk covers the position), `CacheOK text ⟨chunkStart, chunk⟩`, and
"`coreLook` at the position, from the PREVIOUS cache, returns this state's look-ahead, size and cache" (`Inv.of_look`
re-establishes the first two from the third).  `lexChars_after_advance` is the induction; it is stated for any state that
agrees with `l.advance` on the seven fields the sequence depends on, so that `Bom.lean` can use it after
`advance(skip = true)`.
-/
namespace TsVerif.C09
open TsGen TsVerif.Lex TsVerif.Utf

def obs (l : Lexer) : Nat × Int × Nat × Nat × List Nat × Nat :=
  (l.pos.bytes, l.lookahead, l.laSize, l.chunkStart, l.chunk, l.idx)

/-- `refill_eq` field by field, split on the EOF flag of `coreLook` as its users split.  The premise `chunk ≠ []` of the last
part is what `coreLook_facts` gives under a chunking (a retry that fetched nothing is EOF for `refill`, not for `coreLook`). -/
theorem refill_spec (read : Read) (l : Lexer) :
    let r := coreLook read l.pos.bytes ⟨l.chunkStart, l.chunk⟩
    (l.refill read).pos = l.pos ∧ (l.refill read).ranges = l.ranges ∧
    (r.2.2.2 = true →
      (l.refill read).idx = l.count ∧ (l.refill read).lookahead = 0 ∧ (l.refill read).laSize = 1) ∧
    (r.2.2.2 = false → r.2.2.1.chunk ≠ [] →
      (l.refill read).idx = l.idx ∧ (l.refill read).lookahead = r.1 ∧ (l.refill read).laSize = r.2.1 ∧
      (l.refill read).chunkStart = r.2.2.1.cs ∧ (l.refill read).chunk = r.2.2.1.chunk) := by
  rw [refill_eq]
  refine ⟨rfl, rfl, fun h => ?_, fun _ hne => ⟨if_neg (by simpa using hne), rfl, rfl, rfl, rfl⟩⟩
  obtain ⟨h1, h2, h3⟩ := coreLook_eof read _ _ h
  exact ⟨if_pos h3, h1, h2⟩

/-- The lexer stands inside the default range with a decoded look-ahead inside its cached chunk.  `small`: `UMAX` is
`DEFAULT_RANGE.end_byte`; the bound keeps the range loop of `do_advance` from leaving the default range
(`doAdvance_refill_gen`), and is why every theorem from here on assumes `text.length < UMAX`. -/
structure Inv (l : Lexer) : Prop where
  ranges : l.ranges = #[DEFAULT_RANGE]
  idx : l.idx = 0
  size : 1 ≤ l.laSize
  lo : l.chunkStart ≤ l.pos.bytes
  hi : l.pos.bytes < l.chunkStart + l.chunk.length
  small : l.pos.bytes + l.laSize < UMAX

theorem Inv.not_eof {l : Lexer} (h : Inv l) : l.eof = false := by
  simp [Lexer.eof, Lexer.count, h.ranges, h.idx]

/-- In the default range (position below `UINT32_MAX`) the range-skipping loop of `ts_lexer__do_advance` does nothing
(`advTail_here`): `do_advance` is the position update, the `skip` assignment and `refill`. -/
theorem doAdvance_refill_gen (read : Read) (l : Lexer) (skip : Bool) (h : Inv l) :
    ∃ l1 : Lexer, l.doAdvance read skip = l1.refill read ∧ l1.pos = (C13.posUpd l).pos ∧
      l1.ranges = l.ranges ∧ l1.idx = 0 ∧ l1.chunkStart = l.chunkStart ∧ l1.chunk = l.chunk := by
  obtain ⟨p1, p2, p3, p4, p5, _⟩ := C13.posUpd_facts l h.size
  have hr : (C13.posUpd l).range (C13.posUpd l).idx = DEFAULT_RANGE := by
    simp [Lexer.range, p2, p3, h.ranges, h.idx]
  refine ⟨_, (C13.doAdvance_eq read l skip).trans (C13.advTail_here read _ skip (by simp [p2, p3, h.ranges, h.idx])
    (by rw [hr, p1]; exact h.small) (by rw [hr]; decide)), ?_⟩
  cases skip <;> exact ⟨rfl, p2, p3.trans h.idx, p4, p5⟩

theorem doAdvance_refill (read : Read) (l : Lexer) (h : Inv l) :
    ∃ l1 : Lexer, l.doAdvance read false = l1.refill read ∧ l1.pos.bytes = l.pos.bytes + l.laSize ∧
      l1.ranges = l.ranges ∧ l1.idx = 0 ∧ l1.chunkStart = l.chunkStart ∧ l1.chunk = l.chunk := by
  obtain ⟨l1, e, q1, q⟩ := doAdvance_refill_gen read l false h
  exact ⟨l1, e, by rw [q1]; exact (C13.posUpd_facts l h.size).1, q⟩

theorem Inv.congr {l l' : Lexer} (h : Inv l) (e1 : l'.ranges = l.ranges) (e2 : l'.idx = l.idx) (e3 : l'.pos = l.pos)
    (e4 : l'.laSize = l.laSize) (e5 : l'.chunkStart = l.chunkStart) (e6 : l'.chunk = l.chunk) : Inv l' :=
  ⟨e1.trans h.ranges, e2.trans h.idx, e4 ▸ h.size, by rw [e5, e3]; exact h.lo, by rw [e5, e6, e3]; exact h.hi,
    by rw [e3, e4]; exact h.small⟩

theorem advance_spec (read : Read) (l : Lexer) (h : Inv l) :
    let r := coreLook read (l.pos.bytes + l.laSize) ⟨l.chunkStart, l.chunk⟩
    (l.advance read false).pos.bytes = l.pos.bytes + l.laSize ∧ (l.advance read false).ranges = l.ranges ∧
    (r.2.2.2 = true → (l.advance read false).idx = l.count) ∧
    (r.2.2.2 = false → r.2.2.1.chunk ≠ [] →
      (l.advance read false).idx = 0 ∧ (l.advance read false).lookahead = r.1 ∧ (l.advance read false).laSize = r.2.1 ∧
      (l.advance read false).chunkStart = r.2.2.1.cs ∧ (l.advance read false).chunk = r.2.2.1.chunk) := by
  have hne : l.chunk.isEmpty = false :=
    List.isEmpty_eq_false_iff.2 (List.ne_nil_of_length_pos (by have := h.lo; have := h.hi; omega))
  -- `advance` is `do_advance` up to `colValue`; in the default range `do_advance` is `refill` at `pos + size`; `refill_spec`
  obtain ⟨c, e, -⟩ := advance_eq_doAdvance read l false hne h.not_eof h.lo
    (by simp [Lexer.range, h.ranges, h.idx, DEFAULT_RANGE, UMAX])
  obtain ⟨l1, e1, q1, q2, q3, q4, q5⟩ := doAdvance_refill read l h
  have sp := refill_spec read l1
  simp only at sp
  rw [q1, q4, q5] at sp
  rw [e, e1]
  generalize l1.refill read = y at sp ⊢
  refine ⟨by show y.pos.bytes = _; rw [sp.1]; exact q1, by show y.ranges = _; rw [sp.2.1]; exact q2, fun hb => ?_,
    fun hb hc => ?_⟩
  · show y.idx = _
    rw [(sp.2.2.1 hb).1]
    simp [Lexer.count, q2]
  · have := sp.2.2.2 hb hc
    exact ⟨by show y.idx = _; rw [this.1]; exact q3, this.2⟩

theorem Inv.of_look (text : List Nat) (read : Read) (hch : ChunkingOf text read) (hsmall : text.length < UMAX)
    (l : Lexer) (c : Cache) (hr : l.ranges = #[DEFAULT_RANGE]) (hi : l.idx = 0) (hok : CacheOK text c)
    (hlook : coreLook read l.pos.bytes c = (l.lookahead, l.laSize, ⟨l.chunkStart, l.chunk⟩, false)) :
    Inv l ∧ CacheOK text ⟨l.chunkStart, l.chunk⟩ := by
  have hf := coreLook_facts text read hch l.pos.bytes c hok (by rw [hlook])
  simp only [hlook] at hf
  obtain ⟨_, k2, k3, k4, k5, k6⟩ := hf
  exact ⟨⟨hr, hi, k5, k3, k4, by omega⟩, Or.inr k2⟩

theorem lexChars_eof (read : Read) (fuel : Nat) (l : Lexer) (h : l.eof = true) : lexChars read fuel l = [] := by
  cases fuel with
  | zero => rfl
  | succ f => unfold lexChars; rw [if_pos h]

theorem lexChars_after_advance (text : List Nat) (read : Read) (hch : ChunkingOf text read) (hsmall : text.length < UMAX)
    (l : Lexer) (hinv : Inv l) (hok : CacheOK text ⟨l.chunkStart, l.chunk⟩) (l2 : Lexer)
    (e1 : l2.pos = (l.advance read false).pos) (e2 : l2.ranges = (l.advance read false).ranges)
    (e3 : l2.idx = (l.advance read false).idx) (e4 : l2.lookahead = (l.advance read false).lookahead)
    (e5 : l2.laSize = (l.advance read false).laSize) (e6 : l2.chunkStart = (l.advance read false).chunkStart)
    (e7 : l2.chunk = (l.advance read false).chunk) (fuel : Nat) :
    lexChars read fuel l2 = coreChars read fuel (l.pos.bytes + l.laSize) ⟨l.chunkStart, l.chunk⟩ := by
  induction fuel generalizing l l2 with
  | zero => rfl
  | succ fuel ih =>
    have sp := advance_spec read l hinv
    simp only at sp
    obtain ⟨s1, s2, s3, s4⟩ := sp
    cases heof : (coreLook read (l.pos.bytes + l.laSize) ⟨l.chunkStart, l.chunk⟩).2.2.2 with
    | true =>
      have : l2.eof = true := by simp [Lexer.eof, Lexer.count, e2, e3, s2, s3 heof]
      rw [lexChars_eof read _ l2 this, coreChars_eof read _ _ _ heof]
    | false =>
      obtain ⟨t1, t2, t3, t4, t5⟩ := s4 heof (coreLook_facts text read hch _ _ hok heof).1
      have hp : l2.pos.bytes = l.pos.bytes + l.laSize := by rw [e1, s1]
      have hlook : coreLook read l2.pos.bytes ⟨l.chunkStart, l.chunk⟩ =
          (l2.lookahead, l2.laSize, ⟨l2.chunkStart, l2.chunk⟩, false) := by
        rw [hp, e4, e5, e6, e7, t2, t3, t4, t5]; rw [← heof]
      obtain ⟨hinv2, hok2⟩ := Inv.of_look text read hch hsmall l2 _ (e2.trans (s2.trans hinv.ranges)) (e3.trans t1)
        hok hlook
      rw [← hp, coreChars_succ, hlook]
      unfold lexChars
      simp only [hinv2.not_eof, Bool.false_eq_true, if_false]
      exact congrArg _ (ih l2 hinv2 hok2 _ rfl rfl rfl rfl rfl rfl rfl)

theorem lexChars_core (text : List Nat) (read : Read) (hch : ChunkingOf text read) (hsmall : text.length < UMAX) :
    ∀ (fuel : Nat) (l : Lexer) (cprev : Cache), Inv l → CacheOK text cprev →
      coreLook read l.pos.bytes cprev = (l.lookahead, l.laSize, ⟨l.chunkStart, l.chunk⟩, false) →
      lexChars read fuel l = coreChars read fuel l.pos.bytes cprev := by
  intro fuel l cprev hinv hok hlook
  cases fuel with
  | zero => rfl
  | succ fuel =>
    rw [coreChars_succ, hlook]
    unfold lexChars
    simp only [hinv.not_eof, Bool.false_eq_true, if_false]
    exact congrArg _ (lexChars_after_advance text read hch hsmall l hinv
      (Inv.of_look text read hch hsmall l cprev hinv.ranges hinv.idx hok hlook).2 _ rfl rfl rfl rfl rfl rfl rfl fuel)

/-- The state in which `ts_lexer_start` decodes its first look-ahead. -/
def l00 : Lexer := { (({} : Lexer).setInput) with tokStart := (({} : Lexer).setInput).pos, tokEnd := LENGTH_UNDEFINED }

theorem l00_fields : l00.pos = length_zero ∧ l00.idx = 0 ∧ l00.ranges = #[DEFAULT_RANGE] ∧ l00.chunk = [] ∧
    l00.chunkStart = 0 ∧ l00.laSize = 0 := by
  decide

/-- The body of `ts_lexer_start` after its first two assignments, from a state without chunk and look-ahead. -/
theorem start_body (read : Read) (m : Lexer) (he : m.eof = false) (h4 : m.chunk = []) (h6 : m.laSize = 0)
    (h5 : m.chunkStart = 0) :
    (if !m.eof then
      let l := if m.chunk.isEmpty then m.getChunk read else m
      let l := if l.laSize == 0 then l.getLookahead read else l
      if l.pos.bytes == 0 then
        let l := if l.lookahead == BYTE_ORDER_MARK then l.advance read true else l
        { l with colValid := true, colValue := 0 }
      else l
    else m) =
      if (m.refill read).pos.bytes == 0 then
        { (if (m.refill read).lookahead == BYTE_ORDER_MARK then (m.refill read).advance read true else m.refill read)
          with colValid := true, colValue := 0 }
      else m.refill read := by
  have hr : (if m.chunk.isEmpty = true then m.getChunk read else m) = m.getChunk read := by simp [h4]
  have hl : (m.getChunk read).laSize = 0 := by unfold Lexer.getChunk; simp only; split <;> simp [h6]
  have hrefill : m.refill read = (m.getChunk read).getLookahead read := by
    unfold Lexer.refill; simp [h4, h5]
  simp only [he, Bool.not_false, if_true, hr, hl, beq_self_eq_true]
  rw [← hrefill]

theorem start_eq (read : Read) :
    ({} : Lexer).setInput.start read =
      { (if (l00.refill read).lookahead == BYTE_ORDER_MARK then (l00.refill read).advance read true else l00.refill read)
        with colValid := true, colValue := 0 } := by
  obtain ⟨f1, f2, f3, f4, f5, f6⟩ := l00_fields
  have he : l00.eof = false := by simp [Lexer.eof, Lexer.count, f2, f3]
  exact (start_body read l00 he f4 f6 f5).trans (if_pos (by rw [(refill_spec read l00).1, f1]; rfl))

/-- The first fetch-and-decode of `ts_lexer_start`.  `y` is handed out as a variable: unifying through `refill` is slow. -/
theorem refill_l00 (text : List Nat) (read : Read) (hch : ChunkingOf text read) (hsmall : text.length < UMAX) :
    ∃ y, l00.refill read = y ∧
    ((coreLook read 0 ⟨0, []⟩).2.2.2 = true → y.eof = true ∧ y.lookahead = 0) ∧
    ((coreLook read 0 ⟨0, []⟩).2.2.2 = false → y.pos.bytes = 0 ∧ Inv y ∧ CacheOK text ⟨y.chunkStart, y.chunk⟩ ∧
      coreLook read 0 ⟨0, []⟩ = (y.lookahead, y.laSize, ⟨y.chunkStart, y.chunk⟩, false)) := by
  obtain ⟨f1, f2, f3, f4, f5, -⟩ := l00_fields
  have sp := refill_spec read l00
  simp only at sp
  rw [f1, f4, f5, show length_zero.bytes = 0 from rfl] at sp
  generalize l00.refill read = y at sp ⊢
  obtain ⟨s1, s2, s3, s4⟩ := sp
  refine ⟨y, rfl, fun heof => ⟨?_, (s3 heof).2.1⟩, fun heof => ?_⟩
  · show (y.idx == y.ranges.size) = true
    rw [(s3 heof).1, s2]; simp [Lexer.count]
  · obtain ⟨t1, t2, t3, t4, t5⟩ := s4 heof (coreLook_facts text read hch 0 ⟨0, []⟩ (Or.inl rfl) heof).1
    have hp0 : y.pos.bytes = 0 := by rw [s1]; rfl
    have hlook : coreLook read y.pos.bytes ⟨0, []⟩ = (y.lookahead, y.laSize, ⟨y.chunkStart, y.chunk⟩, false) := by
      rw [hp0, t2, t3, t4, t5]; rw [← heof]
    obtain ⟨hinv, hok⟩ := Inv.of_look text read hch hsmall y _ (s2.trans f3) (t1.trans f2) (Or.inl rfl) hlook
    exact ⟨hp0, hinv, hok, hp0 ▸ hlook⟩

end TsVerif.C09
