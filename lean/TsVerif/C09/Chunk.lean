import TsVerif.C09.Model
import TsVerif.C09.Lemmas
/-!
# C09 — the chunk logic (`fetch`, `decodeAt`, `coreLook`, `coreChars`) over a chunking of a text

Nothing here mentions the `Lexer` record: `decodeAt_eq` is the normal form of the decoding step of
`ts_lexer__get_lookahead` with which every chunk proof starts; `fetch_facts`, `decodeAt_facts`, `coreLook_facts` say that
under `ChunkingOf` the cache stays a piece of the text that covers the offset and the character reported lies inside the
text.
-/
namespace TsVerif.C09
open TsVerif.Utf TsVerif.Lex

theorem norm_ok (r : Int × Nat) (h : r.1 ≠ DECODE_ERROR) : norm r = r := by
  unfold norm
  rw [if_neg (by simpa using h)]

theorem norm_err (r : Int × Nat) (h : r.1 = DECODE_ERROR) : norm r = (DECODE_ERROR, 1) := by
  unfold norm
  rw [if_pos (by simpa using h)]

theorem norm_size (s : List Nat) : 1 ≤ (norm (decodeUtf8 s)).2 := by
  unfold norm
  split
  · exact Nat.le_refl 1
  · rename_i h
    exact (decode_ok_size s (decodeUtf8 s).1 (decodeUtf8 s).2 rfl (by simpa using h)).1

theorem norm_le (s : List Nat) (hs : s ≠ []) : (norm (decodeUtf8 s)).2 ≤ s.length := by
  unfold norm
  split
  · exact List.length_pos_iff.2 hs
  · rename_i h
    exact (decode_ok_size s (decodeUtf8 s).1 (decodeUtf8 s).2 rfl (by simpa using h)).2

theorem decodeAt_eq (read : Read) (bytes : List Nat) (pos : Nat) :
    decodeAt read bytes pos =
      if bytes.headD 0 < 0x80 then (((bytes.headD 0 : Nat) : Int), 1, none)
      else if ((decodeUtf8 bytes).1 == DECODE_ERROR && decide (bytes.length < 4)) = true then
        ((norm (decodeUtf8 (read pos))).1, (norm (decodeUtf8 (read pos))).2, some (read pos))
      else ((norm (decodeUtf8 bytes)).1, (norm (decodeUtf8 bytes)).2, none) := by
  unfold decodeAt
  by_cases h1 : bytes.headD 0 < 0x80
  · simp only [h1, if_true]
  by_cases h2 : ((decodeUtf8 bytes).1 == DECODE_ERROR && decide (bytes.length < 4)) = true
  · simp only [h1, h2, if_true, if_false, norm]
    split <;> rfl
  · simp only [h1, h2, if_false, norm, Bool.false_eq_true]
    split <;> rfl

theorem prefix_drop_len {a text : List Nat} {p : Nat} (h : a <+: text.drop p) : a.length ≤ text.length - p := by
  rw [← List.length_drop]; exact h.length_le

theorem drop_prefix (chunk text : List Nat) (cs pos : Nat) (h : chunk <+: text.drop cs)
    (h1 : cs ≤ pos) (h2 : pos < cs + chunk.length) :
    chunk.drop (pos - cs) <+: text.drop pos ∧ chunk.drop (pos - cs) ≠ [] := by
  obtain ⟨t, ht⟩ := h
  refine ⟨⟨t, ?_⟩, ?_⟩
  · have : (chunk ++ t).drop (pos - cs) = chunk.drop (pos - cs) ++ t :=
      List.drop_append_of_le_length (by omega)
    rw [← this, ht, List.drop_drop]
    congr 1; omega
  · intro he
    have := congrArg List.length he
    simp at this; omega

theorem decodeAt_facts (text : List Nat) (read : Read) (hch : ChunkingOf text read) (pos : Nat) (bytes : List Nat)
    (hne : bytes ≠ []) (hpre : bytes <+: text.drop pos) :
    1 ≤ (decodeAt read bytes pos).2.1 ∧ pos + (decodeAt read bytes pos).2.1 ≤ text.length ∧
    (∀ nc, (decodeAt read bytes pos).2.2 = some nc → nc = read pos ∧ nc ≠ [] ∧ nc <+: text.drop pos) := by
  have hb := prefix_drop_len hpre
  have hbl : 0 < bytes.length := List.length_pos_iff.2 hne
  obtain ⟨hr1, hr2⟩ := hch.1 pos (by omega)
  have hrl := prefix_drop_len hr2
  rw [decodeAt_eq]
  split
  · exact ⟨Nat.le_refl 1, (by omega : pos + 1 ≤ text.length), fun nc h => by cases h⟩
  split
  · exact ⟨norm_size _, Nat.le_trans (Nat.add_le_add_left (norm_le _ hr1) pos) (by omega),
      fun nc h => by cases h; exact ⟨rfl, hr1, hr2⟩⟩
  · exact ⟨norm_size _, Nat.le_trans (Nat.add_le_add_left (norm_le _ hne) pos) (by omega), fun nc h => by cases h⟩

theorem fetch_facts (text : List Nat) (read : Read) (hch : ChunkingOf text read) (pos : Nat) (c : Cache)
    (hc : CacheOK text c) :
    ((fetch read pos c).chunk = [] → text.length ≤ pos) ∧
    ((fetch read pos c).chunk ≠ [] → pos < text.length ∧
      (fetch read pos c).chunk <+: text.drop (fetch read pos c).cs ∧
      (fetch read pos c).cs ≤ pos ∧ pos < (fetch read pos c).cs + (fetch read pos c).chunk.length) := by
  unfold fetch
  split
  · by_cases hp : pos < text.length
    · obtain ⟨h1, h2⟩ := hch.1 pos hp
      exact ⟨fun h => absurd h h1, fun _ => ⟨hp, h2, Nat.le_refl _, Nat.lt_add_of_pos_right (List.length_pos_iff.2 h1)⟩⟩
    · exact ⟨fun _ => Nat.le_of_not_lt hp, fun h => absurd (hch.2 pos (Nat.le_of_not_lt hp)) h⟩
  · rename_i hin
    refine ⟨fun h => ?_, fun h => ?_⟩
    · rw [h] at hin; simp at hin; omega
    · rcases hc with h0 | hpre
      · exact absurd h0 h
      · have := prefix_drop_len hpre
        exact ⟨by omega, hpre, by omega, by omega⟩

theorem coreLook_eof (read : Read) (pos : Nat) (c : Cache) (h : (coreLook read pos c).2.2.2 = true) :
    (coreLook read pos c).1 = 0 ∧ (coreLook read pos c).2.1 = 1 ∧ (coreLook read pos c).2.2.1.chunk.isEmpty = true := by
  unfold coreLook at h ⊢
  simp only at h ⊢
  split
  · exact ⟨rfl, rfl, ‹_›⟩
  · rename_i hne
    simp [hne] at h

theorem coreLook_ascii (read : Read) (pos cs : Nat) (chunk : List Nat) (h1 : cs ≤ pos) (h2 : pos < cs + chunk.length)
    (hb : chunk.getD (pos - cs) 0 < 0x80) :
    coreLook read pos ⟨cs, chunk⟩ = (((chunk.getD (pos - cs) 0 : Nat) : Int), 1, ⟨cs, chunk⟩, false) := by
  have hne : chunk.isEmpty = false := List.isEmpty_eq_false_iff.2 (List.ne_nil_of_length_pos (by omega))
  have hh : (chunk.drop (pos - cs)).headD 0 = chunk.getD (pos - cs) 0 := by
    simp [List.headD_eq_head?_getD, List.getD_eq_getElem?_getD]
  unfold coreLook fetch
  simp only [show ¬(pos < cs ∨ pos ≥ cs + chunk.length) by omega, if_false, hne, Bool.false_eq_true, decodeAt_eq, hh, hb,
    if_true]

theorem coreLook_facts (text : List Nat) (read : Read) (hch : ChunkingOf text read) (pos : Nat) (c : Cache)
    (hc : CacheOK text c) (hne : (coreLook read pos c).2.2.2 = false) :
    let r := coreLook read pos c
    r.2.2.1.chunk ≠ [] ∧ r.2.2.1.chunk <+: text.drop r.2.2.1.cs ∧ r.2.2.1.cs ≤ pos ∧
    pos < r.2.2.1.cs + r.2.2.1.chunk.length ∧ 1 ≤ r.2.1 ∧ pos + r.2.1 ≤ text.length := by
  have hf := (fetch_facts text read hch pos c hc).2
  unfold coreLook at hne ⊢
  simp only at hne ⊢
  generalize fetch read pos c = c1 at hf hne ⊢
  by_cases he : c1.chunk.isEmpty = true
  · simp [he] at hne
  · have he' : c1.chunk.isEmpty = false := by simpa using he
    have hne1 : c1.chunk ≠ [] := List.isEmpty_eq_false_iff.1 he'
    obtain ⟨_, hpre, h1, h2⟩ := hf hne1
    simp only [he', Bool.false_eq_true, if_false]
    obtain ⟨hb1, hb2⟩ := drop_prefix c1.chunk text c1.cs pos hpre h1 h2
    obtain ⟨f1, f2, f3⟩ := decodeAt_facts text read hch pos _ hb2 hb1
    cases hnc : (decodeAt read (c1.chunk.drop (pos - c1.cs)) pos).2.2 with
    | none => exact ⟨hne1, hpre, h1, h2, f1, f2⟩
    | some nc =>
      obtain ⟨g1, g2, g3⟩ := f3 nc hnc
      have hl : 0 < nc.length := List.length_pos_iff.2 g2
      exact ⟨g2, g3, Nat.le_refl _, by simp; omega, f1, f2⟩

theorem coreChars_succ (read : Read) (fuel pos : Nat) (c : Cache) :
    coreChars read (fuel + 1) pos c =
      (if (coreLook read pos c).2.2.2 then []
       else (pos, (coreLook read pos c).1, (coreLook read pos c).2.1) ::
         coreChars read fuel (pos + (coreLook read pos c).2.1) (coreLook read pos c).2.2.1) := by
  conv => lhs; unfold coreChars
  unfold coreLook
  simp only
  split <;> simp_all

theorem coreChars_eof (read : Read) (fuel pos : Nat) (c : Cache) (h : (coreLook read pos c).2.2.2 = true) :
    coreChars read fuel pos c = [] := by
  cases fuel with
  | zero => rfl
  | succ f => rw [coreChars_succ, if_pos h]

end TsVerif.C09
