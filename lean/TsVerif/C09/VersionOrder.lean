/-
C09 (the tree is a pure function of language, text and included ranges) — the version order.

`ts_parser__compare_versions` (lib/src/parser.c) is the one place where the GLR driver decides which of
two stack versions survives (`ts_parser__condense_stack`, `ts_parser__better_version_exists`).  Its
translation `TsGen.ts_parser__compare_versions` is REGENERATED from /repo on every run (translator item
`Parser/ts_parser__compare_versions`, tie theorem `TsVerif.GenTie.tie_ts_parser__compare_versions`).
For the result of a parse not to depend on how the parse was driven, the decision must not depend on
the ORDER in which two versions happen to be numbered — versions are renumbered by every pause, merge
and removal, and a resumed parse or a differently chunked read may enumerate them differently.  The
theorems below state that for every pair of statuses:

* `compare_versions_mirror`   comparing (b, a) gives exactly the mirrored verdict of comparing (a, b);
* `compare_versions_refl`     a version is never preferred to an equal one;
* `compare_versions_none_iff` "no preference" is returned exactly for statuses that agree on
                               is_in_error, cost and dynamic precedence;
* `take_left_sound` / `take_right_sound`   a version is DISCARDED outright (`Take…`) only in favour of a
                               strictly cheaper one;
* `prefer_left_sound`         a version is preferred only if it is not in error while the other is, or
                               is at most as expensive;
* `take_not_both`             two versions are never each discarded in favour of the other (no cycle
                               of length two, hence `condense_stack` cannot remove both).

Modelled, not verified: `unsigned` arithmetic is taken in ℕ by the translator, while the product
`(b.cost - a.cost) * (1 + a.node_count)` wraps at 2^32 in C.  The mirror law does not depend on that:
`compare_versions_mirror_any` proves it for ANY decisive-gap test, and `compare_versions_mirror_wrapping`
instantiates it with the 32-bit wrapping product.  `take_left_gap` is about the ℕ product only.
-/
import TsVerif.Gen.Parser

namespace TsVerif.C09.VersionOrder
open TsGen

def mirror : ErrorComparison → ErrorComparison
  | .ErrorComparisonTakeLeft => .ErrorComparisonTakeRight
  | .ErrorComparisonPreferLeft => .ErrorComparisonPreferRight
  | .ErrorComparisonNone => .ErrorComparisonNone
  | .ErrorComparisonPreferRight => .ErrorComparisonPreferLeft
  | .ErrorComparisonTakeRight => .ErrorComparisonTakeLeft

theorem mirror_mirror (c : ErrorComparison) : mirror (mirror c) = c := by
  cases c <;> rfl

/-- `ts_parser__compare_versions` with ANY threshold test `far d n` in place of the ℕ product (in particular
the wrapping 32-bit product of the C code): the mirror law does not depend on the arithmetic of the
"is the cost difference decisive" test, only on the structure of the branches. -/
def compareWith (far : Nat → Nat → Bool) (a b : ErrorStatus) : ErrorComparison :=
  if !a.is_in_error && b.is_in_error then
    if a.cost < b.cost then .ErrorComparisonTakeLeft else .ErrorComparisonPreferLeft
  else if a.is_in_error && !b.is_in_error then
    if b.cost < a.cost then .ErrorComparisonTakeRight else .ErrorComparisonPreferRight
  else if a.cost < b.cost then
    if far (b.cost - a.cost) a.node_count then .ErrorComparisonTakeLeft else .ErrorComparisonPreferLeft
  else if b.cost < a.cost then
    if far (a.cost - b.cost) b.node_count then .ErrorComparisonTakeRight else .ErrorComparisonPreferRight
  else if a.dynamic_precedence > b.dynamic_precedence then .ErrorComparisonPreferLeft
  else if b.dynamic_precedence > a.dynamic_precedence then .ErrorComparisonPreferRight
  else .ErrorComparisonNone

theorem compareWith_nat (a b : ErrorStatus) :
    compareWith (fun d n => decide (d * (1 + n) > MAX_COST_DIFFERENCE)) a b
      = ts_parser__compare_versions a b := by
  obtain ⟨ac, an, ad, ae⟩ := a
  obtain ⟨bc, bn, bd, be⟩ := b
  simp only [compareWith, ts_parser__compare_versions]
  cases ae <;> cases be <;> simp <;> grind

/-! ## The decision table

`Exact far a b v` is row `v` of the decision table of the comparison, for ANY decisive-gap test `far`: the order behind
it is "not in error" before "in error", then lower cost, then higher dynamic precedence (`Wins`); the win is outright
(`Take…`) when the winner is strictly cheaper and the error flags differ or the gap is decisive.  The rows for the right
version are those for the left version with the arguments swapped, so the table is mirror-symmetric by definition.
The comparison is sound for the table and the table is deterministic (`Wins` refines a strict order), hence
`compareWith_iff`; the mirror law and the soundness theorems below are readings of that. -/

section Table
variable {far : Nat → Nat → Bool} {a b : ErrorStatus} {s t : Bool} {v w : ErrorComparison}

/-- The left version wins; `strong = true` is the outright win (`Take…`), `false` the preference (`Prefer…`). -/
def Wins (far : Nat → Nat → Bool) (a b : ErrorStatus) (strong : Bool) : Prop :=
  ((a.is_in_error = false ∧ b.is_in_error = true) ∧ strong = decide (a.cost < b.cost)) ∨
  (a.is_in_error = b.is_in_error ∧ a.cost < b.cost ∧ strong = far (b.cost - a.cost) a.node_count) ∨
  (a.is_in_error = b.is_in_error ∧ a.cost = b.cost ∧ b.dynamic_precedence < a.dynamic_precedence ∧ strong = false)

def Tie (a b : ErrorStatus) : Prop :=
  a.is_in_error = b.is_in_error ∧ a.cost = b.cost ∧ a.dynamic_precedence = b.dynamic_precedence

def Exact (far : Nat → Nat → Bool) (a b : ErrorStatus) : ErrorComparison → Prop
  | .ErrorComparisonTakeLeft => Wins far a b true
  | .ErrorComparisonPreferLeft => Wins far a b false
  | .ErrorComparisonNone => Tie a b
  | .ErrorComparisonPreferRight => Wins far b a false
  | .ErrorComparisonTakeRight => Wins far b a true

theorem tie_symm (h : Tie a b) : Tie b a := ⟨h.1.symm, h.2.1.symm, h.2.2.symm⟩

theorem exact_mirror : Exact far b a (mirror v) ↔ Exact far a b v := by
  cases v
  case ErrorComparisonNone => exact ⟨tie_symm, tie_symm⟩
  all_goals exact Iff.rfl

theorem flags_same {x y : Bool} (h₁ : ¬(!x && y) = true) (h₂ : ¬(x && !y) = true) : x = y := by
  cases x <;> cases y <;> simp_all

theorem flags_lr {x y : Bool} (h : (!x && y) = true) : x = false ∧ y = true := by
  cases x <;> cases y <;> simp_all

theorem flags_rl {x y : Bool} (h : (x && !y) = true) : y = false ∧ x = true := by
  cases x <;> cases y <;> simp_all

theorem compareWith_exact (far : Nat → Nat → Bool) (a b : ErrorStatus) : Exact far a b (compareWith far a b) := by
  fun_cases compareWith far a b
  next h hc => exact .inl ⟨flags_lr h, (decide_eq_true hc).symm⟩
  next h hc => exact .inl ⟨flags_lr h, (decide_eq_false hc).symm⟩
  next _ h hc => exact .inl ⟨flags_rl h, (decide_eq_true hc).symm⟩
  next _ h hc => exact .inl ⟨flags_rl h, (decide_eq_false hc).symm⟩
  next h₁ h₂ hc hf => exact .inr (.inl ⟨flags_same h₁ h₂, hc, hf.symm⟩)
  next h₁ h₂ hc hf => exact .inr (.inl ⟨flags_same h₁ h₂, hc, (eq_false_of_ne_true hf).symm⟩)
  next h₁ h₂ _ hc hf => exact .inr (.inl ⟨(flags_same h₁ h₂).symm, hc, hf.symm⟩)
  next h₁ h₂ _ hc hf => exact .inr (.inl ⟨(flags_same h₁ h₂).symm, hc, (eq_false_of_ne_true hf).symm⟩)
  next h₁ h₂ hc hc' hd => exact .inr (.inr ⟨flags_same h₁ h₂, by omega, hd, rfl⟩)
  next h₁ h₂ hc hc' _ hd => exact .inr (.inr ⟨(flags_same h₁ h₂).symm, by omega, hd, rfl⟩)
  next h₁ h₂ hc hc' hd hd' => exact ⟨flags_same h₁ h₂, by omega, by omega⟩

/-- the strict order behind `Wins` (not in error < in error, then cost, then higher dynamic precedence), in a
form `omega` can read -/
theorem wins_lt (h : Wins far a b s) :
    a.is_in_error.toNat < b.is_in_error.toNat ∨ (a.is_in_error.toNat = b.is_in_error.toNat ∧
      (a.cost < b.cost ∨ (a.cost = b.cost ∧ b.dynamic_precedence < a.dynamic_precedence))) := by
  rcases h with ⟨⟨h₁, h₂⟩, _⟩ | ⟨he, hc, _⟩ | ⟨he, hc, hd, _⟩
  · exact .inl (by rw [h₁, h₂]; decide)
  · exact .inr ⟨by rw [he], .inl hc⟩
  · exact .inr ⟨by rw [he], .inr ⟨hc, hd⟩⟩

theorem wins_not_tie (h : Wins far a b s) : ¬ Tie a b := by
  rintro ⟨he, hc, hd⟩
  have := wins_lt h
  rw [he] at this
  omega

theorem wins_asymm (h : Wins far a b s) : ¬ Wins far b a t := by
  intro h'
  have := wins_lt h
  have := wins_lt h'
  omega

theorem wins_strength (h : Wins far a b s) (h' : Wins far a b t) : s = t := by
  rcases h with ⟨⟨h₁, h₂⟩, hs⟩ | ⟨he, hc, hs⟩ | ⟨he, hc, hd, hs⟩ <;>
    rcases h' with ⟨⟨h₁', h₂'⟩, ht⟩ | ⟨he', hc', ht⟩ | ⟨he', hc', hd', ht⟩
  · exact hs.trans ht.symm
  · rw [h₁, h₂] at he'; cases he'
  · rw [h₁, h₂] at he'; cases he'
  · rw [h₁', h₂'] at he; cases he
  · exact hs.trans ht.symm
  · omega
  · rw [h₁', h₂'] at he; cases he
  · omega
  · exact hs.trans ht.symm

theorem wins_left (h : Wins far a b s) : Exact far a b w → w = bif s then .ErrorComparisonTakeLeft else .ErrorComparisonPreferLeft := by
  cases w
  · exact fun h' => by cases wins_strength h' h; rfl
  · exact fun h' => by cases wins_strength h' h; rfl
  · exact fun h' => absurd h' (wins_not_tie h)
  · exact fun h' => absurd h' (wins_asymm h)
  · exact fun h' => absurd h' (wins_asymm h)

theorem tie_none (h : Tie a b) : Exact far a b w → w = .ErrorComparisonNone := by
  cases w
  · exact fun h' => absurd h (wins_not_tie h')
  · exact fun h' => absurd h (wins_not_tie h')
  · exact fun _ => rfl
  · exact fun h' => absurd (tie_symm h) (wins_not_tie h')
  · exact fun h' => absurd (tie_symm h) (wins_not_tie h')

theorem eq_of_mirror_eq (h : mirror w = v) : w = mirror v := by rw [← h, mirror_mirror]

theorem exact_unique (h : Exact far a b v) (h' : Exact far a b w) : v = w := by
  cases v
  · exact (wins_left h h').symm
  · exact (wins_left h h').symm
  · exact (tie_none h h').symm
  · exact (eq_of_mirror_eq (wins_left h (exact_mirror.2 h'))).symm
  · exact (eq_of_mirror_eq (wins_left h (exact_mirror.2 h'))).symm

theorem compareWith_iff : compareWith far a b = v ↔ Exact far a b v :=
  ⟨fun h => h ▸ compareWith_exact far a b, fun h => exact_unique (compareWith_exact far a b) h⟩

theorem exact_take_lt (h : Exact far a b .ErrorComparisonTakeLeft) : a.cost < b.cost := by
  rcases h with ⟨_, hs⟩ | ⟨_, hc, _⟩ | ⟨_, _, _, hs⟩
  · exact of_decide_eq_true hs.symm
  · exact hc
  · cases hs

theorem wins_le (h : Wins far a b s) : (a.is_in_error = false ∧ b.is_in_error = true) ∨ a.cost ≤ b.cost := by
  rcases h with ⟨hf, _⟩ | ⟨_, hc, _⟩ | ⟨_, hc, _⟩
  · exact .inl hf
  · exact .inr (Nat.le_of_lt hc)
  · exact .inr (Nat.le_of_eq hc)

theorem exact_left_le (h : Exact far a b .ErrorComparisonPreferLeft ∨ Exact far a b .ErrorComparisonTakeLeft) :
    (a.is_in_error = false ∧ b.is_in_error = true) ∨ a.cost ≤ b.cost :=
  h.elim wins_le wins_le

end Table

theorem compare_versions_mirror_any (far : Nat → Nat → Bool) (a b : ErrorStatus) :
    compareWith far b a = mirror (compareWith far a b) :=
  compareWith_iff.2 (exact_mirror.2 (compareWith_exact far a b))

theorem compare_versions_mirror (a b : ErrorStatus) :
    ts_parser__compare_versions b a = mirror (ts_parser__compare_versions a b) := by
  rw [← compareWith_nat, ← compareWith_nat]
  exact compare_versions_mirror_any _ a b

theorem compare_versions_mirror_wrapping (a b : ErrorStatus) :
    compareWith (fun d n => decide ((d * (1 + n)) % 4294967296 > MAX_COST_DIFFERENCE)) b a
      = mirror (compareWith (fun d n => decide ((d * (1 + n)) % 4294967296 > MAX_COST_DIFFERENCE)) a b) :=
  compare_versions_mirror_any _ a b

/-- Where the product does not wrap, the wrapping comparison IS the translated function. -/
theorem compareWith_wrapping_eq (a b : ErrorStatus)
    (h₁ : (b.cost - a.cost) * (1 + a.node_count) < 4294967296)
    (h₂ : (a.cost - b.cost) * (1 + b.node_count) < 4294967296) :
    compareWith (fun d n => decide ((d * (1 + n)) % 4294967296 > MAX_COST_DIFFERENCE)) a b
      = ts_parser__compare_versions a b := by
  rw [← compareWith_nat]
  obtain ⟨ac, an, ad, ae⟩ := a
  obtain ⟨bc, bn, bd, be⟩ := b
  simp only [compareWith] at *
  simp only [Nat.mod_eq_of_lt h₁, Nat.mod_eq_of_lt h₂]

theorem compare_versions_iff {a b : ErrorStatus} {v : ErrorComparison} :
    ts_parser__compare_versions a b = v ↔ Exact (fun d n => decide (d * (1 + n) > MAX_COST_DIFFERENCE)) a b v := by
  rw [← compareWith_nat]
  exact compareWith_iff

theorem compare_versions_none_iff (a b : ErrorStatus) :
    ts_parser__compare_versions a b = .ErrorComparisonNone ↔
      (a.is_in_error = b.is_in_error ∧ a.cost = b.cost ∧ a.dynamic_precedence = b.dynamic_precedence) :=
  compare_versions_iff

theorem compare_versions_refl (a : ErrorStatus) :
    ts_parser__compare_versions a a = .ErrorComparisonNone :=
  (compare_versions_none_iff a a).2 ⟨rfl, rfl, rfl⟩

theorem take_left_sound (a b : ErrorStatus)
    (h : ts_parser__compare_versions a b = .ErrorComparisonTakeLeft) : a.cost < b.cost :=
  exact_take_lt (compare_versions_iff.1 h)

theorem take_right_sound (a b : ErrorStatus)
    (h : ts_parser__compare_versions a b = .ErrorComparisonTakeRight) : b.cost < a.cost :=
  take_left_sound b a (by rw [compare_versions_mirror a b, h]; rfl)

theorem prefer_left_sound (a b : ErrorStatus)
    (h : ts_parser__compare_versions a b = .ErrorComparisonPreferLeft ∨
         ts_parser__compare_versions a b = .ErrorComparisonTakeLeft) :
    (a.is_in_error = false ∧ b.is_in_error = true) ∨ a.cost ≤ b.cost :=
  exact_left_le (h.imp compare_versions_iff.1 compare_versions_iff.1)

theorem take_not_both (a b : ErrorStatus)
    (h₁ : ts_parser__compare_versions a b = .ErrorComparisonTakeLeft) :
    ts_parser__compare_versions b a ≠ .ErrorComparisonTakeLeft := by
  intro h₂
  have := take_left_sound a b h₁
  have := take_left_sound b a h₂
  omega

theorem take_left_gap (a b : ErrorStatus) (he : a.is_in_error = b.is_in_error)
    (h : ts_parser__compare_versions a b = .ErrorComparisonTakeLeft) :
    (b.cost - a.cost) * (1 + a.node_count) > MAX_COST_DIFFERENCE := by
  rcases compare_versions_iff.1 h with ⟨⟨h₁, h₂⟩, _⟩ | ⟨_, _, hf⟩ | ⟨_, _, _, hf⟩
  · rw [he, h₂] at h₁
    cases h₁
  · exact of_decide_eq_true hf.symm
  · cases hf

/-! Non-vacuity: each verdict is reachable, and the hypotheses of the conditional theorems are met. -/
example : ts_parser__compare_versions ⟨0, 3, 0, false⟩ ⟨500, 0, 0, false⟩ = .ErrorComparisonTakeLeft := by decide
example : ts_parser__compare_versions ⟨0, 0, 0, false⟩ ⟨100, 3, 0, false⟩ = .ErrorComparisonPreferLeft := by decide
example : ts_parser__compare_versions ⟨7, 1, -2, true⟩ ⟨7, 9, -2, true⟩ = .ErrorComparisonNone := by decide
example : ts_parser__compare_versions ⟨7, 1, -2, true⟩ ⟨7, 9, 3, true⟩ = .ErrorComparisonPreferRight := by decide
example : ts_parser__compare_versions ⟨900, 1, 0, true⟩ ⟨7, 9, 3, false⟩ = .ErrorComparisonTakeRight := by decide
example : MAX_COST_DIFFERENCE = 18 * ERROR_COST_PER_SKIPPED_TREE := by decide

end TsVerif.C09.VersionOrder
