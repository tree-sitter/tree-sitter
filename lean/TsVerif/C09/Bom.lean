import TsVerif.C09.Props
/-!
# C09 — texts that begin with a byte-order mark

`ts_lexer_start` skips a BOM at offset 0 by `advance(skip = true)`.  `skip` only moves `token_start_position`
(`advance_skip` in `C13/LexerLemmas.lean`), and nothing the character sequence depends on reads that field.  Hence
`lexStream_bom` (the full port produces the chunk logic's sequence without its first element) and
`chars_chunk_indep_port_any`: chunk independence of the full port with NO assumption about a BOM.
-/
namespace TsVerif.C09
open TsGen TsVerif.Lex TsVerif.Utf

theorem lexStream_bom (text : List Nat) (read : Read) (hch : ChunkingOf text read)
    (hsmall : text.length < UMAX) (hbom : (coreLook read 0 ⟨0, []⟩).1 = BYTE_ORDER_MARK) (fuel : Nat) :
    lexStream read fuel = (coreChars read (fuel + 1) 0 ⟨0, []⟩).tail := by
  have heof : (coreLook read 0 ⟨0, []⟩).2.2.2 = false := by
    cases h : (coreLook read 0 ⟨0, []⟩).2.2.2 with
    | false => rfl
    | true => rw [(coreLook_eof read 0 _ h).1] at hbom; cases hbom
  obtain ⟨y, hy, -, h2⟩ := refill_l00 text read hch hsmall
  obtain ⟨hp0, hinv, hok, hlook⟩ := h2 heof
  unfold lexStream
  rw [start_eq, hy]
  rw [hlook] at hbom
  obtain ⟨t, ht⟩ := advance_skip read y
  rw [if_pos (by rw [show y.lookahead = _ from hbom]; rfl), ht]
  -- what `start` returns differs from `y.advance read false` in `token_start_position` and the column cache only
  rw [lexChars_after_advance text read hch hsmall y hinv hok
      { ({ y.advance read false with tokStart := t } : Lexer) with colValid := true, colValue := 0 }
      rfl rfl rfl rfl rfl rfl rfl fuel, coreChars_succ, hlook]
  simp only [Bool.false_eq_true, if_false, List.tail_cons]
  rw [hp0]

theorem chars_chunk_indep_port_any (text : List Nat) (r1 r2 : Read)
    (h1 : ChunkingOf text r1) (w1 : WholeChar text r1) (h2 : ChunkingOf text r2) (w2 : WholeChar text r2)
    (hsmall : text.length < UMAX) (fuel : Nat) : lexStream r1 fuel = lexStream r2 fuel := by
  have hfirst : (coreLook r1 0 ⟨0, []⟩).1 = (coreLook r2 0 ⟨0, []⟩).1 := by
    obtain ⟨a1, b1⟩ := coreLook_spec text r1 h1 w1 0 ⟨0, []⟩ (Or.inl rfl)
    obtain ⟨a2, b2⟩ := coreLook_spec text r2 h2 w2 0 ⟨0, []⟩ (Or.inl rfl)
    by_cases hl : text.length ≤ 0
    · rw [(coreLook_eof r1 0 _ (a1.2 hl)).1, (coreLook_eof r2 0 _ (a2.2 hl)).1]
    · exact (congrArg Prod.fst (b1 (Bool.eq_false_iff.2 (mt a1.1 hl)))).trans
        (congrArg Prod.fst (b2 (Bool.eq_false_iff.2 (mt a2.1 hl)))).symm
  by_cases hb : (coreLook r1 0 ⟨0, []⟩).1 = BYTE_ORDER_MARK
  · rw [lexStream_bom text r1 h1 hsmall hb, lexStream_bom text r2 h2 hsmall (hfirst ▸ hb),
      chars_chunk_indep_two text r1 r2 h1 w1 h2 w2 (fuel + 1)]
  · exact chars_chunk_indep_port text r1 r2 h1 w1 h2 w2 hsmall hb (by rw [← hfirst]; exact hb) fuel

/-- Non-vacuity: a text beginning with a BOM (`EF BB BF a`), 3-byte chunks: the port skips the mark. -/
example : let text := [0xEF, 0xBB, 0xBF, 0x61]
    lexStream (fun i => (text.drop i).take 3) 5 = [(3, 0x61, 1)] ∧
    coreChars (fun i => (text.drop i).take 3) 6 0 ⟨0, []⟩ = [(0, 0xFEFF, 3), (3, 0x61, 1)] := by decide

end TsVerif.C09
