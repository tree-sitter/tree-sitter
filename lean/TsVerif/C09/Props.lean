import TsVerif.C09.Tie
import TsVerif.C09.Column
/-!
# C09 — The tree is a pure function of language, text and included ranges

Property text: "The tree returned for a document does not depend on how the parse was driven: the
chunk boundaries of the read callback, UTF-8 versus UTF-16LE/BE delivery of the same characters
(offsets map one-to-one), whether the parser object is new or was used before (other documents,
other languages, ranges set and cleared, reset), whether logging is on, or whether the parse was
cancelled by the progress callback at any point and then resumed. After a cancelled parse, reset
makes the parser behave like a new one."

Clause-by-clause map (phrase of the property text → theorem; PROVED = kernel-checked ∀-theorem about the ports
`Utf8.lean` (= `ts_decode_utf8`/`U8_NEXT`, `ts_decode_utf16_le/_be`) and `C13/Lexer.lean` (= `lexer.c`), tied to the C
code by scripted runs of the real lexer under chunkers; JUDGED = the Lean judge compares the full dump of the tree of
every drive with the dump of the canonical drive (fresh parser, one chunk, UTF-8, nothing switched on) — implementation
against implementation, there is no model of `TSParser`):

A. "The tree returned for a document does not depend on how the parse was driven" — the quantifier over drives; see
   the table of sources below.  Tree level: JUDGED for every drive; PROVED only for deterministic parsing as a
   function of the lexer's observations (`TreeLevel.lean`: `driver_chunk_indep`; modelling claim not proved).
B. "the chunk boundaries of the read callback"
   * PROVED, lexer level: `decode_local` (decoder looks at ≤ 4 bytes, prefix-stable) → `lookahead_chunk_indep` (what
     `ts_lexer__get_lookahead` computes — ASCII shortcut, decode, retry with a fresh chunk — is the decoding of the
     rest of the text for EVERY chunking and EVERY cached chunk, provided the chunk returned at that offset holds the
     whole character, `wholeCharAt`) → `chars_chunk_indep`, `chars_chunk_indep_two` (whole sequence `(offset, code
     point, size)` for the chunk logic `coreChars`) → `lexStream_eq_coreChars`, `chars_chunk_indep_port` (the FULL
     port: `set_input`, `start`, `advance` with the ASCII fast path, row/column/column-cache updates, range loop over
     the default range).  Hypotheses: `WholeChar` (NEEDED: `chars_chunk_dep_witness`, finding
     C09-short-chunk-at-char-start), text < 2^32 bytes.  Texts that BEGIN with a BOM: `advance_skip`
     (`skip = true` only moves `token_start_position`; `C13/LexerLemmas.lean`), `Bom.lean` — `lexStream_bom` (the port's sequence is the chunk logic's
     without its first element), `chars_chunk_indep_port_any` (chunk independence of the full port with NO assumption
     about a BOM).
   * columns under chunking: `column_cache_eq` (+ `doAdvance_col`) — a valid column cache equals what the
     recomputation loop of `get_column` returns.
   * JUDGED: fixed 1/2/3/4/7-byte chunks, every split of documents ≤ 9 bytes, random splits (also inside
     characters), byte- and point-addressed callbacks.
C. "UTF-8 versus UTF-16LE/BE delivery of the same characters (offsets map one-to-one)"
   * PROVED, decoder level: `utf8_decode_encode`, `utf16_decode_encode` (each decoder port reads back every scalar
     value from its encoding), `utf16_utf8_same_chars` (same code points from both encodings of any scalar sequence,
     sizes = encoding lengths), `offsets_one_to_one` (TreeLevel.lean: the character starts in the two encodings are
     strictly increasing lists of equal length).  `utf16be_trail_witness`: unicode.h before /repo 6297e1d did NOT read
     UTF-16BE surrogate pairs (finding C09-utf16be-surrogate-pair, fixed; both decoder variants are carried and the
     check picks the one /repo behaves like).  Lemmas.lean: `utf8_decode_sound` / `utf8_decode_exact` /
     `utf8_decode_injective` — the converse of `utf8_decode_encode`: the `U8_NEXT` port returns a code point ONLY for
     the shortest-form encoding of a scalar value (no overlong forms, no surrogates, nothing above U+10FFFF), so the
     UTF-8 side of the character correspondence is a bijection between scalars and accepted byte sequences.
   * NOT proved: the lexer port run over a UTF-16 input (the port is instantiated with the UTF-8 decoder; the chunk
     theorems B are stated for UTF-8 only).
   * JUDGED: UTF-16LE/BE whole, chunked, point-addressed; positions compared through the offset map; for erroneous
     texts the trees can differ genuinely (finding C09-utf16-error-recovery: costs count BYTES).
D. "whether the parser object is new or was used before (other documents, other languages, ranges set and cleared,
   reset)" — JUDGED only (histories of 1–5 operations, see table).
E. "whether logging is on" — JUDGED only (logger on; dot graphs on; both; switched on and off again before).
F. "whether the parse was cancelled by the progress callback at any point and then resumed" — JUDGED only: every
   callback index when ≤ 12 (else sampled), resumed with the same input (whole or in 4-byte chunks).  Genuinely false
   in two ways, both from the round restarting at stack version 0: findings C09-resume-error-recovery (erroneous
   texts) and C09-resume-token-parse-state (error-free: only recorded parse states / fragile marks differ); hidden
   repeat-node rotation is accepted when the visible trees are identical (counted, `internal`).
G. "After a cancelled parse, reset makes the parser behave like a new one." — JUDGED only: cancel at index k, reset,
   parse afresh (never failed); inside histories: cancelled parses of this and of another document, in this and in
   another language, cleared by `reset` or by `set_language`.

Sources of variation the property quantifies over — theorem (lexer level) / judged on real runs / known finding:

| source | theorem | judged drives (`drives_by_source` in the evidence) | findings |
|---|---|---|---|
| chunk boundaries, byte-addressed | B | `c<k>`, `s<splits>` | short-chunk-at-char-start |
| chunk boundaries, point-addressed callback | – (the port ignores the point; the tie checks the points handed out) | `pt:c<k>` | – |
| encoding UTF-16LE / BE | C (decoder level) | `u16le`, `u16be`, `:c<k>`, `:pt:c<k>` | utf16be-surrogate-pair (fixed), utf16-error-recovery |
| encoding: custom decode function | – | `custom:c<k>` (a UTF-8 decoder passed as `TSInputEncodingCustom`) | – |
| callback style: whole slice vs callback | – | canonical = `Parser::parse(slice)`; every other drive is a callback | – |
| parser reuse ACROSS ENCODINGS (UTF-8 ↔ UTF-16LE ↔ UTF-16BE ↔ custom decoder, non-ASCII text; every final encoding) | – | `hist:enc8|enc16le|enc16be|enccustom`, `<u16le|u16be|custom>:after:<ops>` | – (seeded C09-r6) |
| parser reuse: other / same / half document | – | `hist:other|same|half` | – |
| old-tree-less re-parse after an incremental parse | – | `hist:incr`, `hist:same` | – |
| other language, switched back (with parse / without / with a pending cancelled parse) | – | `hist:lang|flip|langcancel` | – |
| ranges set and cleared (with / without a parse) | – | `hist:ranges|rset` | – |
| `ts_parser_reset` (idle / after cancel at first or later callback / after cancel of another document) | – | `hist:reset|cancel|cancelk|cancelo`, `cancel:<k>:reset` | – |
| cancelled parse cleared by `set_language` instead of `reset` | – | `hist:cancelsl` | – |
| first parse of the object FAILED (no language assigned) | – | `failed` | – |
| logger on / dot graphs on / both / switched off again | – | `log`, `dot`, `dotlog`, `hist:logoff|dotoff` | – |
| resume after cancellation | – | `cancel:<k>:resume`, `:resume4` | resume-error-recovery, resume-token-parse-state |
| timeout / cancellation flag | n/a: removed from the API at this HEAD (`api.h` has neither; the progress callback is the only way to stop a parse) | – | – |
| wasm store, `set_language` with an incompatible ABI | out of scope (no parse happens) | – | – |
-/
namespace TsVerif.C09
open TsGen TsVerif.Lex TsVerif.Utf

/-- The decoder port looks at no more than four bytes, and a successful decode of a
prefix is the decode of the whole. -/
theorem decode_local (p s : List Nat) (hp : p <+: s) :
    (4 ≤ p.length → decodeUtf8 s = decodeUtf8 p) ∧
    ((decodeUtf8 p).1 ≠ DECODE_ERROR → decodeUtf8 s = decodeUtf8 p) :=
  ⟨decode_ge4 p s hp, fun hc => decode_prefix_stable p s hp (decodeUtf8 p).1 (decodeUtf8 p).2 rfl hc⟩

/-- Let `bytes` be what is left of the cached chunk at offset `pos`
(any non-empty prefix of the rest of the text — whatever chunk happens to be cached) and `read` any
chunking of the text whose chunk at `pos` holds the whole character.  Then the look-ahead and its
size computed by `ts_lexer__get_lookahead` are those obtained from the rest of the text in one
piece: they do not depend on the chunk boundaries. -/
theorem lookahead_chunk_indep (text : List Nat) (read : Read) (pos : Nat) (bytes : List Nat)
    (hch : ChunkingOf text read) (hw : wholeCharAt text read pos)
    (hne : bytes ≠ []) (hpre : bytes <+: text.drop pos) :
    ((decodeAt read bytes pos).1, (decodeAt read bytes pos).2.1) = norm (decodeUtf8 (text.drop pos)) := by
  have hpos : pos < text.length := by
    apply Nat.lt_of_not_le
    intro h
    rw [List.drop_eq_nil_of_le h] at hpre
    exact hne (List.prefix_nil.1 hpre)
  obtain ⟨hc1, hc2⟩ := hch.1 pos hpos
  rw [decodeAt_eq]
  split
  · -- ASCII shortcut: a one-byte character, whatever follows
    rename_i hb
    obtain ⟨b0, bt, rfl⟩ := List.exists_cons_of_ne_nil hne
    obtain ⟨t, ht⟩ := hpre
    have e : decodeUtf8 (b0 :: bt ++ t) = ((b0 : Int), 1) := decode_wellFormed (.one b0 hb) (bt ++ t)
    rw [← ht, e, norm_ok _ (by unfold DECODE_ERROR; omega)]
    rfl
  split
  · -- retry with a fresh chunk, which holds the whole character
    show norm (decodeUtf8 (read pos)) = _
    rcases hw with h1 | h2 | h3
    · rw [norm_err _ h1, norm_err _ (decode_err_prefix (read pos) _ hc2 h1)]
    · exact congrArg norm (decode_prefix_stable (read pos) _ hc2 _ _ rfl h2).symm
    · rw [h3]
  · -- the bytes at hand decide: they decode to a character, or there are four of them
    rename_i hno
    show norm (decodeUtf8 bytes) = _
    by_cases herr : (decodeUtf8 bytes).1 = DECODE_ERROR
    · rw [decode_ge4 bytes _ hpre (by simpa [herr] using hno)]
    · exact congrArg norm (decode_prefix_stable bytes _ hpre _ _ rfl herr).symm

theorem coreLook_spec (text : List Nat) (read : Read) (hch : ChunkingOf text read) (hw : WholeChar text read)
    (pos : Nat) (c : Cache) (hc : CacheOK text c) :
    ((coreLook read pos c).2.2.2 = true ↔ text.length ≤ pos) ∧
    ((coreLook read pos c).2.2.2 = false →
      ((coreLook read pos c).1, (coreLook read pos c).2.1) = norm (decodeUtf8 (text.drop pos))) := by
  obtain ⟨hemp, hne⟩ := fetch_facts text read hch pos c hc
  unfold coreLook
  simp only
  generalize fetch read pos c = c1 at hemp hne ⊢
  by_cases he : c1.chunk = []
  · have := hemp he
    simp [he, this]
  · obtain ⟨hp, hpre, h1, h2⟩ := hne he
    have hise : c1.chunk.isEmpty = false := List.isEmpty_eq_false_iff.2 he
    simp only [hise, Bool.false_eq_true, if_false]
    refine ⟨⟨fun h => (by simp at h), fun h => (by omega)⟩, fun _ => ?_⟩
    obtain ⟨hb1, hb2⟩ := drop_prefix c1.chunk text c1.cs pos hpre h1 h2
    exact lookahead_chunk_indep text read pos _ hch (hw pos hp) hb2 hb1

/-- Whole sequence, for the chunk logic of the lexer port: for every text
and every chunking of it that satisfies `WholeChar`, from any offset and any cache state that is
empty or a prefix of the text at `chunk_start`, the sequence of `(offset, code point or error,
size)` produced by fetch / decode-with-retry / advance-by-size equals the reference sequence of
the text decoded in one piece — hence it is the same for any two such chunkings
(`chars_chunk_indep_two`).  `coreChars` is the chunk logic of `Lexer.doAdvance`/`getLookahead`
without ranges, columns and the ASCII fast path; that `coreChars` and the full port `lexStream`
produce the same sequence is `lexStream_eq_coreChars` below (and checked by the driver on every chunk
drive, `core=ok`). -/
theorem chars_chunk_indep (text : List Nat) (read : Read)
    (hch : ChunkingOf text read) (hw : WholeChar text read) :
    ∀ (fuel pos : Nat) (c : Cache), CacheOK text c →
      coreChars read fuel pos c = refChars text fuel pos := by
  intro fuel
  induction fuel with
  | zero => intro pos c _; rfl
  | succ fuel ih =>
    intro pos c hc
    obtain ⟨heof, hval⟩ := coreLook_spec text read hch hw pos c hc
    rw [coreChars_succ]
    unfold refChars
    cases hb : (coreLook read pos c).2.2.2 with
    | true => rw [if_pos rfl, if_pos (heof.1 hb)]
    | false =>
      have hlt : ¬ pos ≥ text.length := fun h => by rw [heof.2 h] at hb; cases hb
      have k := Prod.mk.inj (hval hb)
      rw [if_neg (by decide), if_neg hlt, k.1, k.2,
        ih _ _ (Or.inr (coreLook_facts text read hch pos c hc hb).2.1)]
      rfl

theorem chars_chunk_indep_two (text : List Nat) (r1 r2 : Read)
    (h1 : ChunkingOf text r1) (w1 : WholeChar text r1) (h2 : ChunkingOf text r2) (w2 : WholeChar text r2)
    (fuel : Nat) : coreChars r1 fuel 0 ⟨0, []⟩ = coreChars r2 fuel 0 ⟨0, []⟩ := by
  rw [chars_chunk_indep text r1 h1 w1 fuel 0 _ (Or.inl rfl), chars_chunk_indep text r2 h2 w2 fuel 0 _ (Or.inl rfl)]

example : let text := [0x61, 0xe2, 0x82, 0xac, 0x62]
    coreChars (fun i => (text.drop i).take 3) 9 0 ⟨0, []⟩ = [(0, 0x61, 1), (1, 0x20ac, 3), (4, 0x62, 1)] := by decide

/-- For every text shorter than `UINT32_MAX` that does not begin with a
byte-order mark and every chunking of it, the sequence `(offset, look-ahead, size)` that the FULL
lexer port produces (`ts_lexer_set_input`, `ts_lexer_start`, then `ts_lexer__advance` with its ASCII
fast path, row/column and column-cache updates, the range-skipping loop over the default range)
is the sequence of the chunk logic `coreChars` that `chars_chunk_indep` is about. -/
theorem lexStream_eq_coreChars (text : List Nat) (read : Read) (hch : ChunkingOf text read)
    (hsmall : text.length < UMAX) (hbom : (coreLook read 0 ⟨0, []⟩).1 ≠ BYTE_ORDER_MARK) (fuel : Nat) :
    lexStream read fuel = coreChars read fuel 0 ⟨0, []⟩ := by
  unfold lexStream
  rw [start_eq]
  obtain ⟨y, hy, h1, h2⟩ := refill_l00 text read hch hsmall
  rw [hy]
  cases heof : (coreLook read 0 ⟨0, []⟩).2.2.2 with
  | true =>
    obtain ⟨he, hl⟩ := h1 heof
    have hla : (y.lookahead == BYTE_ORDER_MARK) = false := by rw [hl]; decide
    simp only [hla, Bool.false_eq_true, if_false]
    rw [coreChars_eof read _ _ _ heof]
    exact lexChars_eof read _ _ he
  | false =>
    obtain ⟨hp0, hinv, -, hlook⟩ := h2 heof
    have hla : (y.lookahead == BYTE_ORDER_MARK) = false := by
      rw [hlook] at hbom; simpa using hbom
    simp only [hla, Bool.false_eq_true, if_false]
    -- the column cache is not among the fields the character sequence depends on
    have := lexChars_core text read hch hsmall fuel { y with colValid := true, colValue := 0 } ⟨0, []⟩
      (hinv.congr rfl rfl rfl rfl rfl rfl) (Or.inl rfl)
      (by rw [show ({ y with colValid := true, colValue := 0 } : Lexer).pos.bytes = 0 from hp0]; exact hlook)
    rwa [show ({ y with colValid := true, colValue := 0 } : Lexer).pos.bytes = 0 from hp0] at this

/-- Chunk independence for the FULL lexer port: two chunkings of the same text (shorter than
`UINT32_MAX`, not starting with a byte-order mark) that both satisfy `WholeChar` make
`start`/`advance` produce the same `(offset, look-ahead, size)` sequence. -/
theorem chars_chunk_indep_port (text : List Nat) (r1 r2 : Read)
    (h1 : ChunkingOf text r1) (w1 : WholeChar text r1) (h2 : ChunkingOf text r2) (w2 : WholeChar text r2)
    (hsmall : text.length < UMAX)
    (b1 : (coreLook r1 0 ⟨0, []⟩).1 ≠ BYTE_ORDER_MARK) (b2 : (coreLook r2 0 ⟨0, []⟩).1 ≠ BYTE_ORDER_MARK)
    (fuel : Nat) : lexStream r1 fuel = lexStream r2 fuel := by
  rw [lexStream_eq_coreChars text r1 h1 hsmall b1, lexStream_eq_coreChars text r2 h2 hsmall b2]
  exact chars_chunk_indep_two text r1 r2 h1 w1 h2 w2 fuel

/-- For every sequence of Unicode scalar values, decoding its UTF-8 encoding with
the `U8_NEXT` port and its UTF-16LE/BE encoding with the UTF-16 port gives the same code points, one
character for one character; the sizes are the lengths of the respective encodings, so the offsets are
related by the unit map (prefix sums of those lengths). -/
theorem utf16_utf8_same_chars (be : Bool) (cs : List Nat) (h : ∀ c ∈ cs, Scalar c) (fuel : Nat) (hf : cs.length ≤ fuel) :
    decodeSeq decodeUtf8 fuel (cs.flatMap encodeUtf8) = cs.map (fun (c : Nat) => ((c : Int), (encodeUtf8 c).length)) ∧
    decodeSeq (fun s => decodeUtf16 be s true) fuel (cs.flatMap (encodeUtf16 be)) =
      cs.map (fun (c : Nat) => ((c : Int), (encodeUtf16 be c).length)) ∧
    (decodeSeq decodeUtf8 fuel (cs.flatMap encodeUtf8)).map (·.1) =
      (decodeSeq (fun s => decodeUtf16 be s true) fuel (cs.flatMap (encodeUtf16 be))).map (·.1) := by
  have a := decodeSeq_encode decodeUtf8 encodeUtf8 (fun c rest hc => utf8_decode_encode c hc rest)
    (fun c => List.ne_nil_of_length_pos (encodeUtf8_pos c)) cs fuel h hf
  have b := decodeSeq_encode (fun s => decodeUtf16 be s true) (encodeUtf16 be)
    (fun c rest hc => utf16_decode_encode be c hc rest)
    (fun c => List.ne_nil_of_length_pos (encodeUtf16_pos be c)) cs fuel h hf
  refine ⟨a, b, ?_⟩
  rw [a, b]; simp [List.map_map]

example : Scalar 0x1D4B3 ∧ encodeUtf8 0x1D4B3 = [0xF0, 0x9D, 0x92, 0xB3] ∧ encodeUtf8 0x20AC = [0xE2, 0x82, 0xAC] :=
  ⟨⟨by decide, by decide⟩, by decide, by decide⟩

/-- With the trail unit read in host order (`swapTrail = false`): the UTF-16BE encoding of U+1D4B3 (D8 35 DC B3) is read as the
unpaired lead surrogate 0xD835 of size 2 — the pair is not recognised; the LE encoding is read correctly. -/
theorem utf16be_trail_witness :
    decodeUtf16 true [0xD8, 0x35, 0xDC, 0xB3] false = (0xD835, 2) ∧
    decodeUtf16 true [0xD8, 0x35, 0xDC, 0xB3] true = (0x1D4B3, 4) ∧
    decodeUtf16 false [0x35, 0xD8, 0xB3, 0xDC] false = (0x1D4B3, 4) := by decide

example : Scalar 0x1D4B3 ∧ encodeUtf16 true 0x1D4B3 = [0xD8, 0x35, 0xDC, 0xB3] :=
  ⟨⟨by decide, by decide⟩, by decide⟩

/-- Start at a state whose column cache is valid and zero (what `get_column` sets up at
the line start).  After a same-line run of `n` characters the CACHED column is `n`, and the RECOMPUTATION
loop of `ts_lexer__get_column` started at the same state and aimed at the reached offset replays exactly
that run — it ends in the same state, hence returns the same column `n`.  The loop is run from `s` with fuel `n + 1`;
`Lexer.getColumn` on an INVALID cache (`goto` to the line start, `get_chunk`, `get_lookahead`, fuel `goal + 2`) is not
connected to it: the third conjunct is its valid-cache branch. -/
theorem column_cache_eq (read : Read) (s : Lexer) (n : Nat) (hrun : SameLineRun read s n)
    (hv : s.colValid = true) (h0 : s.colValue = 0) :
    (adv read n s).colValid = true ∧ (adv read n s).colValue = n ∧
    ((adv read n s).getColumn read).2 = n ∧
    (getColumnLoop read (n + 1) s (adv read n s).pos.bytes).colValue = n := by
  obtain ⟨c1, c2⟩ := adv_col read s n hrun hv n (Nat.le_refl _)
  have c2' : (adv read n s).colValue = n := by rw [c2, h0]; omega
  refine ⟨c1, c2', ?_, ?_⟩
  · unfold Lexer.getColumn; simp [c1, c2']
  · have := getColumnLoop_replays read s n hrun 0 (Nat.zero_le _)
    simp only [Nat.sub_zero, adv] at this
    rw [this]; exact c2'

/-- Non-vacuity: `ab c` in one chunk, started at offset 0 (cache valid, 0): a same-line run of 3 characters. -/
example : let read : Read := fun p => [0x61, 0x62, 0x20, 0x63].drop p
    let s := (({} : Lexer).setInput).start read
    s.colValid = true ∧ s.colValue = 0 ∧ (adv read 3 s).colValue = 3 ∧ (adv read 3 s).pos.bytes = 3 := by decide

/-- Non-vacuity: `a€b`, chunks of three bytes, at the start of `€`. -/
example : let text := [0x61, 0xe2, 0x82, 0xac, 0x62]
    let read : Read := fun i => (text.drop i).take 3
    wholeCharAt text read 1 ∧ [0xe2, 0x82, 0xac] <+: text.drop 1 := by
  refine ⟨Or.inr (Or.inl (by decide)), ⟨[0x62], rfl⟩⟩

/-- The proviso `WholeChar` is necessary.  `€` (E2 82 AC) delivered in one-byte
chunks — a chunking of the text — is seen by the lexer port as three decoding errors (the retry
re-fetches the same short chunk), in one chunk as the single character U+20AC. -/
theorem chars_chunk_dep_witness :
    let text := [0xe2, 0x82, 0xac]
    let one : Read := fun i => (text.drop i).take 1
    let whole : Read := fun i => text.drop i
    lexStream one 5 = [(0, -1, 1), (1, -1, 1), (2, -1, 1)] ∧
    lexStream whole 5 = [(0, 0x20ac, 3)] ∧
    ¬ wholeCharAt text one 0 := by
  refine ⟨by decide, by decide, ?_⟩
  unfold wholeCharAt
  decide

end TsVerif.C09
