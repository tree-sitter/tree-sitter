import TsVerif.C13.LexerLemmas
/-!
# C09 — the column cache of the lexer port (`column_data`) under `do_advance` and `get_column`

`SameLineRun read s n` collects, for every step `k < n` of the run `adv read · s`, the
hypotheses of `doAdvance_col` (a look-ahead that is not a line feed and not the byte-order mark at offset 0: the cached
column goes up by one, `adv_col`) and the guard of the loop of `ts_lexer__get_column` (not at EOF, a chunk, offset below
the goal: the loop takes the same step, `getColumnLoop_replays`).  `column_cache_eq` (Props.lean) puts the two together.
-/
namespace TsVerif.C09
open TsGen TsVerif.Lex TsVerif.Utf

def adv (read : Read) : Nat → Lexer → Lexer
  | 0, l => l
  | n + 1, l => adv read n (l.doAdvance read false)

theorem advTail_col (read : Read) (m : Lexer) (skip : Bool) :
    (C13.advTail read m skip).colValid = m.colValid ∧ (C13.advTail read m skip).colValue = m.colValue := by
  unfold C13.advTail
  generalize (if m.skipEmpty = true then skipLF (m.ranges.toList.drop m.idx) m.pos
    else skipL (m.ranges.toList.drop m.idx) m.pos) = sk
  obtain ⟨k, p, inR⟩ := sk
  cases inR <;> cases skip
  case true.false | true.true =>
    simp only [if_true, Bool.false_eq_true, if_false]
    rw [refill_eq]
    exact ⟨rfl, rfl⟩
  all_goals exact ⟨rfl, rfl⟩

theorem posUpd_col (l : Lexer) (hs : l.laSize ≠ 0) (hn : l.lookahead ≠ 10) :
    (C13.posUpd l).colValid = l.colValid ∧
    (C13.posUpd l).colValue =
      (if (!(l.pos.bytes == 0 && l.lookahead == BYTE_ORDER_MARK) && l.colValid) = true then l.colValue + 1 else l.colValue) := by
  unfold C13.posUpd
  rw [if_pos (by simpa using hs), if_neg (by simpa using hn)]
  dsimp only
  split <;> exact ⟨rfl, rfl⟩

theorem doAdvance_col (read : Read) (l : Lexer) (hs : l.laSize ≠ 0) (hn : l.lookahead ≠ 10) :
    (l.doAdvance read false).colValid = l.colValid ∧
    (l.doAdvance read false).colValue =
      (if (!(l.pos.bytes == 0 && l.lookahead == BYTE_ORDER_MARK) && l.colValid) = true then l.colValue + 1 else l.colValue) := by
  rw [C13.doAdvance_eq]
  exact ⟨(advTail_col read _ false).1.trans (posUpd_col l hs hn).1,
    (advTail_col read _ false).2.trans (posUpd_col l hs hn).2⟩

-- conjuncts 1–3: the premises of `doAdvance_col`; 4–6: the guard of the loop of `ts_lexer__get_column` (6: below the goal)
def SameLineRun (read : Read) (s : Lexer) (n : Nat) : Prop :=
  ∀ k, k < n →
    (adv read k s).laSize ≠ 0 ∧ (adv read k s).lookahead ≠ 10 ∧
    ¬ ((adv read k s).pos.bytes = 0 ∧ (adv read k s).lookahead = BYTE_ORDER_MARK) ∧
    (adv read k s).eof = false ∧ (adv read k s).chunk ≠ [] ∧
    (adv read k s).pos.bytes < (adv read n s).pos.bytes

theorem adv_succ (read : Read) (n : Nat) (s : Lexer) : adv read (n + 1) s = (adv read n s).doAdvance read false := by
  induction n generalizing s with
  | zero => rfl
  | succ n ih => show adv read (n + 1) (s.doAdvance read false) = _; rw [ih]; rfl

theorem adv_col (read : Read) (s : Lexer) (n : Nat) (hrun : SameLineRun read s n) (hv : s.colValid = true) :
    ∀ k, k ≤ n → (adv read k s).colValid = true ∧ (adv read k s).colValue = s.colValue + k := by
  intro k
  induction k with
  | zero => intro _; exact ⟨hv, rfl⟩
  | succ k ih =>
    intro hk
    obtain ⟨i1, i2⟩ := ih (by omega)
    obtain ⟨r1, r2, r3, _, _, _⟩ := hrun k (by omega)
    have := doAdvance_col read (adv read k s) r1 r2
    rw [adv_succ]
    have hb : (!((adv read k s).pos.bytes == 0 && (adv read k s).lookahead == BYTE_ORDER_MARK) && (adv read k s).colValid) = true := by
      rw [i1]
      simpa [Decidable.imp_iff_not_or] using r3
    rw [this.1, this.2, hb, i1, i2]
    exact ⟨rfl, by simp; omega⟩

theorem getColumnLoop_replays (read : Read) (s : Lexer) (n : Nat) (hrun : SameLineRun read s n) :
    ∀ k, k ≤ n → getColumnLoop read (n - k + 1) (adv read k s) (adv read n s).pos.bytes = adv read n s := by
  intro k hk
  generalize hd : n - k = d
  induction d generalizing k with
  | zero =>
    have : k = n := by omega
    subst this
    unfold getColumnLoop
    simp only [Nat.lt_irrefl, decide_false, Bool.false_and, Bool.false_eq_true, if_false]
  | succ d ih =>
    obtain ⟨r1, r2, r3, r4, r5, r6⟩ := hrun k (by omega)
    have hne : (adv read k s).chunk.isEmpty = false := List.isEmpty_eq_false_iff.2 r5
    unfold getColumnLoop
    simp only [r6, decide_true, r4, Bool.not_false, hne, Bool.and_self, if_true]
    rw [← adv_succ]
    cases he : (adv read (k + 1) s).eof with
    | true =>
      -- the run is not at the end before its last character, so this is the last one
      rw [if_pos rfl, show k + 1 = n from Classical.byContradiction fun hkn => by
        have := (hrun (k + 1) (by omega)).2.2.2.1
        rw [he] at this; cases this]
    | false =>
      rw [if_neg Bool.false_ne_true]
      exact ih (k + 1) (by omega) (by omega)

end TsVerif.C09
