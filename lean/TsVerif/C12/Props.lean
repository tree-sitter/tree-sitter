import TsVerif.C12.Levels
import TsVerif.C10.Shape
import TsVerif.C01.Props
/-!
# C12 — Re-parsing after a small edit reuses the unchanged parts of the old tree

Property text: "When a large error-free document receives a single small edit, the re-parse lexes
only a small fraction of the document's tokens, asks the input callback for only a small part of
the text, and the new tree shares the overwhelming majority of its nodes (same node identity) with
the old tree.  The fractions do not grow with document size."

CLAUSE-BY-CLAUSE MAP (property text → theorems; PROVED on the model / PARTIAL (hypothesis and how
often it holds on real data) / JUDGED ONLY on the real runtime, Judge.lean + checks/c12.py)

| phrase of the property | theorems / judge clause | status |
|---|---|---|
| "a large error-free document receives a single small edit" | premise of every case: `incr_error = scratch_error = 0`, incremental s-expression = scratch s-expression (`judgeCase`) | JUDGED (setup) |
| "the re-parse lexes only a small fraction of the document's tokens" | `lex_calls_bound` (C01 machine: lexed ≤ consumed − reused), `reparse_work_bound_partial` (uncovered nodes of the new tree ≤ (h+1)(w+λ+2)+Z+stray), `gate_state_test_partial` (C01: the gate's state test succeeds everywhere after a same-kind replacement) | PARTIAL: premise `stray = 0` holds in 0 of 84 evaluated re-parses (fragile repeat spine), `uncovered − stray` is 10–30; measured fraction JUDGED against thresholds |
| "asks the input callback for only a small part of the text" | bytes served by the counting 4-byte-chunk callback | JUDGED ONLY |
| "the new tree shares the overwhelming majority of its nodes (same node identity)" | on the edit: `edit_same_or_marked`, `unmarked_shared` (every unmarked subtree IS the old value), `marked_bound`, `marked_upper`, `rebuilt_kid_reaches`, `marked_fanout_bound`, `marked_total_bound_partial` (rebuilt nodes ≤ (h+1)(w+λ+2)+Z); on the re-parse: `reparse_work_bound_partial` | edit level PROVED (hypotheses `tiles`, `noCol`: evaluated, hold on every real tree); re-parse level PARTIAL (stray); fractions JUDGED (all heap nodes / visible nodes) |
| "The fractions do not grow with document size" | no term of `marked_total_bound_partial` / `reparse_work_bound_partial` depends on the document size except through `height`; `balanced` (repeat chains ≤ 2·log₂+4 deep) | bound PROVED, `balanced` and the growth comparison (≤ 1.5× + 1 %) JUDGED |
| quantifier "calibrated zoo grammars, 10^3..10^5 tokens, single-token edits at every relative position" | lst, arith, jsonish, stmt, cdecl (GLR), pyish, markscan, declscan × 10^3, 10^4 (thorough 10^5) × 6 positions | JUDGED |

Details per group of theorems (the quantitative clauses are runtime behaviour and are MEASURED and
judged against committed thresholds — see Judge.lean and checks/c12.py; what is proved is why the
amount of work is bounded by the edit, on the model of `ts_subtree_edit` that C10 ties to the code):
* "the marked set is small", as a COUNT — `edit_candidates_total_bound` (from `tips_le_gt`, `tips_bound`,
  `edit_candidates_bound`); the level statements below (`rebuilt_in_level`, `marked_total_bound_partial`) give
  membership of every rebuilt node in a list of bounded length.
* "the edit marks only the touched path" — `marked_bound`: every subtree that `editTree` does not
  return as the very same value has an extended span `[start of padding, end + lookahead_bytes]`
  that reaches the start of the edit; `edit_same_or_marked`: a subtree is either returned
  unchanged or carries `has_changes`.
  Upper side — `marked_upper`: in a tree without column-dependent nodes (`noCol`) a rebuilt subtree
  also starts at or before the old end of the edit.  For nodes that are column-dependent on the
  edited row (`stopsAt` of C10) this is judged on the dumps (`marksOk`), not proved.
* "the touched path is thin" — `rebuilt_kid_reaches` + `marked_fanout_bound`: of the children of ANY
  node at most `(old_end − start) + λ + 2` can be rebuilt (children of positive width, look-ahead
  ≤ λ), independent of the number of children; together with `balanced` (judged on the dumps:
  repeat chains are logarithmically deep) the marked set of a one-token edit is O(depth) nodes.
  Global: `level_reach_bound`, `reach_total_bound`, `rebuilt_in_level`,
  `marked_total_bound_partial` — for byte-tiling trees (`tiles`, decidable, an OBLIGATION evaluated
  on every real tree) the rebuilt nodes are among at most `(height+1)·(w+λ+2) + Z` nodes, `Z` =
  zero-width nodes (EOF leaf, zero-width external tokens, empty reductions — counted, not assumed
  away); the bound itself is evaluated on the real trees (`Drivers/C12.lean`).  The FULL statement about
  the re-parse (lexer calls + created nodes) is kept as OPEN in the doc comment of
  `marked_total_bound_partial`.
* "unchanged parts are shared" — `unmarked_shared`: every subtree of the edited tree without
  `has_changes` IS the subtree at the same path of the tree before the edit (same value; in the C
  code the same pointer, which `marksOk` checks on the dumps by comparing addresses).
* how the proofs go: `edited_at`: the node at a path of the edited tree is the old node or `editTree` of it
  under the edit translated by its offset; `marked_bound` and `marked_upper` are its two readings.  All counting
  is the potential argument of Levels.lean.
* "an interrupted re-parse resumes where it stopped" — `gloop_resume`, `gloop_resume_twice`.
* "reuse instead of lexing" — the gate accepts exactly the unmarked, non-fragile, non-error
  candidates (C01 `gate_accepts`); on C01's LR machine (`TsVerif/C01/LR.lean`, validated against
  the real parser on the dumped tables): `reused_not_lexed` (C01) — tokens taken from the lexer +
  tokens below reused subtrees = tokens consumed, so the tokens of a reused subtree are never
  requested — and `lex_calls_bound` below.  In terms of the shape of the tree,
  `edit_candidates_total_bound` bounds the marked nodes the re-parse descends through by
  `(w + λ + 2 + Z) · (height + 1)` and the reuse candidates by that times the fan-out; that `height`
  is logarithmic is the `Balanced` hypothesis, JUDGED on the dumps (`Judge.lean: balanced`).  The
  same bound for the lexer calls of the re-parse is OPEN (`stray`, see `reparse_work_bound_partial`).
-/
namespace TsVerif.C12
open TsGen TsVerif TsVerif.C10

/-- Stated again here because `open TsVerif.C10` would otherwise resolve the name to C10's, whose right-hand side is
`tb t`. -/
theorem totalSize_bytes (t : Tree) : t.totalSize.bytes = t.totalBytes :=
  _root_.TsVerif.totalSize_bytes t

theorem length_add_totalSize_bytes (cr : Length) (c : Tree) :
    (length_add cr c.totalSize).bytes = cr.bytes + c.totalBytes := by
  rw [length_add_bytes, totalSize_bytes]

/-- C10's `editKids_step` read for paths: the loop stops, or keeps the child, or edits it under the translated
edit.  The last conjunct (no column dependence ⇒ the child starts at or before the old end) is what `marked_upper`
and `tips_le_gt` rest on. -/
theorem editKids_cons (c : Tree) (rest : List Tree) (cx : Ctx) (ne cr : Length) (i : Nat) :
    editKids (c :: rest) cx ne cr i = c :: rest ∨
    ∃ (c' : Tree) (ne' : Length),
      editKids (c :: rest) cx ne cr i = c' :: editKids rest cx ne' (length_add cr c.totalSize) (i + 1) ∧
      (c' = c ∨ ∃ e' : Edit, c' = editTree c e' ∧
        e'.start.bytes = cx.start.bytes - cr.bytes ∧
        (e'.old_end.bytes = cx.oldEnd.bytes - cr.bytes ∨ e'.old_end.bytes = cx.start.bytes - cr.bytes) ∧
        (cx.parentDependsOnColumn = false → c.data.dependsOnColumn = false → cr.bytes ≤ cx.oldEnd.bytes)) := by
  rcases editKids_step c rest cx ne cr i with ⟨_, eq⟩ | ⟨_, eq⟩ | ⟨hns, _, eq⟩ | ⟨hns, _, eq⟩
  · exact Or.inr ⟨c, ne, eq, Or.inl rfl⟩
  · exact Or.inl eq
  · exact Or.inr ⟨_, _, eq, Or.inr ⟨_, rfl, Edit.rebase_start_bytes _ _, Or.inl (Edit.rebase_old_end_bytes _ _),
      le_oldEnd_of_not_stopsAt hns⟩⟩
  · exact Or.inr ⟨_, _, eq, Or.inr ⟨_, rfl, length_saturating_sub_bytes _ _,
      Or.inr (length_saturating_sub_bytes _ _), le_oldEnd_of_not_stopsAt hns⟩⟩

/-- The old end of the child's edit is a disjunction because a child that lies before the edit is given the
marking-only edit `Edit.point`, whose old end is its start. -/
theorem editKids_get : ∀ (ks : List Tree) (cx : Ctx) (ne cr : Length) (i j : Nat) (k' : Tree),
    (editKids ks cx ne cr i)[j]? = some k' →
    ∃ k, ks[j]? = some k ∧
      (k' = k ∨ ∃ e' : Edit, k' = editTree k e' ∧
        e'.start.bytes = cx.start.bytes - (cr.bytes + kidsOffset ks j) ∧
        (e'.old_end.bytes = cx.oldEnd.bytes - (cr.bytes + kidsOffset ks j) ∨
          e'.old_end.bytes = cx.start.bytes - (cr.bytes + kidsOffset ks j)) ∧
        (cx.parentDependsOnColumn = false → k.data.dependsOnColumn = false →
          cr.bytes + kidsOffset ks j ≤ cx.oldEnd.bytes))
  | [], cx, ne, cr, i, j, k', h => by
    unfold editKids at h
    simp at h
  | c :: rest, cx, ne, cr, i, j, k', h => by
    rcases editKids_cons c rest cx ne cr i with hstop | ⟨c', ne', heq, hc'⟩
    · rw [hstop] at h
      exact ⟨k', h, Or.inl rfl⟩
    · rw [heq] at h
      cases j with
      | zero =>
        cases Option.some.inj h
        exact ⟨c, rfl, hc'⟩
      | succ j =>
        obtain ⟨k, hk, hr⟩ := editKids_get rest cx ne' _ (i + 1) j k' h
        refine ⟨k, hk, ?_⟩
        rw [kidsOffset_succ, ← Nat.add_assoc, ← length_add_totalSize_bytes]
        exact hr

theorem editTree_cases (d : NodeData) (ks : List Tree) (e : Edit) :
    (editTree (.mk d ks) e = .mk d ks) ∨
    (e.start.bytes ≤ (Tree.mk d ks).totalBytes + d.lookahead ∧
      ∃ (d' : NodeData) (cx : Ctx) (ne : Length), d'.hasChanges = true ∧
        (cx.start = e.start ∧ cx.oldEnd = e.old_end ∧ cx.parentDependsOnColumn = d.dependsOnColumn) ∧
        editTree (.mk d ks) e = .mk d' (editKids ks cx ne length_zero 0)) := by
  rcases editTree_step d ks e with ⟨_, eq⟩ | ⟨h, eq⟩
  · exact Or.inl eq
  · exact Or.inr ⟨h, _, ctxOf d e, _, store_hasChanges _ _ _, ⟨rfl, rfl, rfl⟩, eq⟩

/-- `ts_subtree_edit` either returns a subtree as the very same value or
marks it. -/
theorem edit_same_or_marked (t : Tree) (e : Edit) :
    editTree t e = t ∨ (editTree t e).data.hasChanges = true := by
  obtain ⟨d, ks⟩ := t
  rcases editTree_cases d ks e with h | ⟨_, d', cx, ne, hd, _, h⟩
  · exact Or.inl h
  · exact Or.inr (by rw [h]; exact hd)

/-- Every subtree of the edited tree that does not carry `has_changes` is the
subtree at the same path of the tree before the edit — the very same value. -/
theorem unmarked_shared : ∀ (p : List Nat) (t : Tree) (e : Edit) (s : Tree),
    subtreeAt (editTree t e) p = some s → s.data.hasChanges = false → subtreeAt t p = some s
  | [], t, e, s, h, hu => by
    simp only [subtreeAt, Option.some.injEq] at h ⊢
    rcases edit_same_or_marked t e with h1 | h1
    · rw [← h, h1]
    · rw [h] at h1; rw [h1] at hu; contradiction
  | i :: q, .mk d ks, e, s, h, hu => by
    rcases editTree_cases d ks e with h1 | ⟨_, d', cx, ne, _, _, h1⟩
    · rw [h1] at h; exact h
    · rw [h1] at h
      obtain ⟨k', hk', h⟩ := subtreeAt_cons.1 h
      obtain ⟨k, hk, hr⟩ := editKids_get ks cx ne length_zero 0 i k' hk'
      refine subtreeAt_cons.2 ⟨k, hk, ?_⟩
      rcases hr with rfl | ⟨e', rfl, _⟩
      · exact h
      · exact unmarked_shared q k e' s h hu

/-- An edit `[s, e]` seen from a child that starts at `k ≤ e`: its start `s1` and old end `e1` in
the child's coordinates stay ordered and, translated back, inside `[s, e]`. -/
theorem translate_edit {s e k s1 e1 : Nat} (hle : s ≤ e) (hk : k ≤ e) (hs : s1 = s - k)
    (he : e1 = e - k ∨ e1 = s - k) : s1 ≤ e1 ∧ s ≤ s1 + k ∧ e1 + k ≤ e := by
  omega

/-- The node at path `p` of the edited tree is the old node at `p`, or `editTree` of it under the edit
translated by its offset `o` — and, in a tree without column-dependent nodes, the latter only when
`o` is at or before the old end of the edit. -/
theorem edited_at : ∀ (p : List Nat) (t : Tree) (e : Edit) (s s' : Tree) (o : Nat),
    subtreeAt t p = some s → subtreeAt (editTree t e) p = some s' → offsetAt t p = some o →
    s' = s ∨ ∃ e' : Edit, s' = editTree s e' ∧ e'.start.bytes = e.start.bytes - o ∧
      (e'.old_end.bytes = e.old_end.bytes - o ∨ e'.old_end.bytes = e.start.bytes - o) ∧
      (noCol t = true → e.start.bytes ≤ e.old_end.bytes → o ≤ e.old_end.bytes)
  | [], t, e, s, s', o, hs, hs', ho => by
    cases Option.some.inj hs
    cases Option.some.inj hs'
    cases Option.some.inj ho
    exact Or.inr ⟨e, rfl, rfl, Or.inl rfl, fun _ _ => Nat.zero_le _⟩
  | i :: q, .mk d ks, e, s, s', o, hs, hs', ho => by
    rcases editTree_cases d ks e with h1 | ⟨_, d', cx, ne, _, ⟨hcs, hco, hcp⟩, h1⟩
    · exact Or.inl (Option.some.inj ((h1 ▸ hs').symm.trans hs))
    · rw [h1] at hs'
      obtain ⟨k', hk', hs'⟩ := subtreeAt_cons.1 hs'
      obtain ⟨k, hk, hr⟩ := editKids_get ks cx ne length_zero 0 i k' hk'
      simp only [subtreeAt, offsetAt, hk] at hs ho
      obtain ⟨o', ho', rfl⟩ := Option.map_eq_some_iff.1 ho
      rcases hr with rfl | ⟨e₁, rfl, hst, hoe, hup⟩
      · exact Or.inl (Option.some.inj (hs'.symm.trans hs))
      · rw [hcs] at hst hoe
        rw [hco] at hoe hup
        simp only [length_zero, Nat.zero_add] at hst hoe hup
        rcases edited_at q k e₁ s s' o' hs hs' ho' with h | ⟨e', he', hst', hoe', hup'⟩
        · exact Or.inl h
        · refine Or.inr ⟨e', he', by rw [hst', hst, Nat.sub_sub, Nat.add_comm], ?_, ?_⟩
          · rcases hoe' with h2 | h2
            · rcases hoe with h3 | h3
              · exact Or.inl (by rw [h2, h3, Nat.sub_sub, Nat.add_comm])
              · exact Or.inr (by rw [h2, h3, Nat.sub_sub, Nat.add_comm])
            · exact Or.inr (by rw [h2, hst, Nat.sub_sub, Nat.add_comm])
          · intro hn hle
            simp only [noCol, Bool.and_eq_true, Bool.not_eq_true'] at hn
            have hnk := noColL_get ks i k hn.2 hk
            -- the one step that is not bookkeeping: the child's bound `o' ≤ e₁.old_end`, in the child's coordinates,
            -- is `o' + kidsOffset ks i ≤ e.old_end` in the parent's
            have h4 := translate_edit hle (hup (hcp.trans hn.1) (noCol_data k hnk)) hst hoe
            exact Nat.le_trans (Nat.add_le_add_right (hup' hnk h4.1) _) h4.2.2

/-- A subtree that the edit does not return as the very same value has an
extended span (padding start … end + lookahead_bytes) that reaches the start of the edit:
`e.start ≤ offset + total_bytes + lookahead_bytes`.  Hence everything whose extended span ends
before the edit starts is shared, whatever the size of the document. -/
theorem marked_bound : ∀ (p : List Nat) (t : Tree) (e : Edit) (s s' : Tree) (o : Nat),
    subtreeAt t p = some s → subtreeAt (editTree t e) p = some s' → offsetAt t p = some o → s' ≠ s →
    e.start.bytes ≤ o + s.totalBytes + s.data.lookahead := by
  intro p t e s s' o hs hs' ho hne
  rcases edited_at p t e s s' o hs hs' ho with h | ⟨e', he', hst, _, _⟩
  · exact absurd h hne
  · obtain ⟨d, ks⟩ := s
    rcases editTree_cases d ks e' with h1 | ⟨hb, _⟩
    · exact absurd (he'.trans h1) hne
    · simp only [Tree.data]
      omega

/-- In a tree without column-dependent nodes, a subtree that the edit does not
return as the very same value starts (padding included) at or before the old end of the edit. -/
theorem marked_upper : ∀ (p : List Nat) (t : Tree) (e : Edit) (s s' : Tree) (o : Nat),
    noCol t = true → e.start.bytes ≤ e.old_end.bytes →
    subtreeAt t p = some s → subtreeAt (editTree t e) p = some s' → offsetAt t p = some o → s' ≠ s →
    o ≤ e.old_end.bytes := by
  intro p t e s s' o hn hle hs hs' ho hne
  rcases edited_at p t e s s' o hs hs' ho with h | ⟨_, _, _, _, hup⟩
  · exact absurd h hne
  · exact hup hn hle

theorem rebuilt_reaches (p : List Nat) (t : Tree) (e : Edit) (s s' : Tree) (o : Nat)
    (hn : noCol t = true) (hle : e.start.bytes ≤ e.old_end.bytes)
    (hs : subtreeAt t p = some s) (hs' : subtreeAt (editTree t e) p = some s')
    (ho : offsetAt t p = some o) (hne : s' ≠ s) :
    reaches s o e.start.bytes e.old_end.bytes = true := by
  simp only [reaches, Bool.and_eq_true, decide_eq_true_eq]
  exact ⟨marked_upper p t e s s' o hn hle hs hs' ho hne, marked_bound p t e s s' o hs hs' ho hne⟩

/-- However many children a node has, at most
`(old_end − start) + lam + 2` of them can reach the edit — and only those can be rebuilt
(`rebuilt_kid_reaches`).  With `balanced` (every repeat chain logarithmically deep, judged on the
dumps) this is why a one-token edit marks O(depth) nodes. -/
theorem marked_fanout_bound (lam : Nat) (ks : List Tree) (e : Edit) (hle : e.start.bytes ≤ e.old_end.bytes)
    (h : ∀ k ∈ ks, 1 ≤ k.totalBytes ∧ k.data.lookahead ≤ lam) :
    countReachKids ks 0 e.start.bytes e.old_end.bytes ≤ (e.old_end.bytes - e.start.bytes) + lam + 2 := by
  have := (countReachKids_le lam e.start.bytes e.old_end.bytes hle ks 0 h).2 (by omega)
  omega

/-- A child that `ts_subtree_edit` does not return as the very same value
reaches the edit window (so it is one of the children counted by `countReachKids`). -/
theorem rebuilt_kid_reaches (d : NodeData) (ks : List Tree) (e : Edit) (j : Nat) (k k' : Tree)
    (hn : noCol (.mk d ks) = true) (hle : e.start.bytes ≤ e.old_end.bytes)
    (hk : ks[j]? = some k) (hk' : subtreeAt (editTree (.mk d ks) e) [j] = some k') (hne : k' ≠ k) :
    reaches k (kidsOffset ks j) e.start.bytes e.old_end.bytes = true :=
  rebuilt_reaches [j] (.mk d ks) e k k' _ hn hle (by simp [subtreeAt, hk]) hk' (by simp [offsetAt, hk]) hne

/-- Every subtree that `ts_subtree_edit` does not return as the very same value
is one of the counted nodes — it sits in the level of its depth and reaches the edit window. -/
theorem rebuilt_in_level (p : List Nat) (t : Tree) (e : Edit) (s s' : Tree) (o : Nat)
    (hn : noCol t = true) (hle : e.start.bytes ≤ e.old_end.bytes)
    (hs : subtreeAt t p = some s) (hs' : subtreeAt (editTree t e) p = some s')
    (ho : offsetAt t p = some o) (hne : s' ≠ s) :
    (o, s) ∈ reachL (levelList t 0 p.length) e.start.bytes e.old_end.bytes := by
  have hm := level_mem p t 0 s o hs ho
  rw [Nat.zero_add] at hm
  exact List.mem_filter.2 ⟨hm, rebuilt_reaches p t e s s' o hn hle hs hs' ho hne⟩

/-- The part of "re-parse work after a one-token edit is
O(depth + edit width), not O(document)" that is about `ts_subtree_edit`: for a byte-tiling tree
without column-dependent nodes, of height `h`, every rebuilt (marked) node is among the
`reachTotal` nodes, and there are at most `(h + 1) · (edit width + λ + 2) + Z` of those, `Z` = the
zero-width nodes — no term grows with the size of the document.

FULL STATEMENT (OPEN): the re-parse itself — lexer calls + nodes created by
`ts_parser_parse(edited tree)` ≤ c · ((h + 1) · (w + λ + 2) + Z) for error-free, GLR-free parses of
`Balanced` trees.  Missing: the LR driver with the real gate inside the machine (first-leaf test,
fragile repeat spine: on the pinned tree the number of gate EVENTS is linear in the document,
see notes/C12.md, so the full statement can hold for lexing and node creation only).  What is
proved towards it: this theorem (marking), `unmarked_shared` (everything else is shared),
C01 `gate_accepts` (unmarked, non-fragile, non-error candidates are accepted), C01
`incr_eq_scratch` + `lex_calls_bound` (reused subtrees are not lexed).  `height ≤ c·log n` for
repeat chains is JUDGED on the dumps (`balanced`). -/
theorem marked_total_bound_partial (t : Tree) (e : Edit) (h : Nat)
    (hn : noCol t = true) (ht : tiles t = true) (hle : e.start.bytes ≤ e.old_end.bytes) :
    (∀ (p : List Nat) (s s' : Tree) (o : Nat), p.length ≤ h →
        subtreeAt t p = some s → subtreeAt (editTree t e) p = some s' → offsetAt t p = some o → s' ≠ s →
        (o, s) ∈ reachL (levelList t 0 p.length) e.start.bytes e.old_end.bytes) ∧
    reachTotal t e.start.bytes e.old_end.bytes h ≤
      (h + 1) * ((e.old_end.bytes - e.start.bytes) + maxLa t + 2) + zerosTotal t h :=
  ⟨fun p s s' o _ hs hs' ho hne => rebuilt_in_level p t e s s' o hn hle hs hs' ho hne,
   reach_total_bound t e.start.bytes e.old_end.bytes hle ht h⟩

/-- "re-parse work after a small edit is O(depth + edit width), not
O(document)", as far as it can be stated on the result of the re-parse: let `t` be the NEW tree,
`[S, E]` the edit in new coordinates, `sh` the nodes taken over from the old tree.  The uncovered
nodes — leaves = tokens the lexer had to deliver (C01 `reused_not_lexed`), inner nodes = nodes the
parser had to create — number at most
`(h + 1) · ((E − S) + λ + 2) + Z + stray`, where `stray` counts uncovered nodes that do not even
reach the edit.  Under the DECIDABLE premise `stray = 0` ("everything the edit does not reach was
reused": no fragile repeat spine, no first-leaf refusals, no scanner-state skips) this is the bound
the property wants; the premise and `stray` are evaluated on every real re-parse.

FULL STATEMENT (OPEN): `stray = 0` (or `stray ≤ c·depth`) as a THEOREM about the reuse gate inside
the LR machine for tables whose repeat reductions are not fragile and whose first leaves are
reusable — needs the iterator + gate + `breakdown_top_of_stack` as a machine (C01's `IncrRun` takes
the reuse events as given). -/
theorem reparse_work_bound_partial (sh : Tree → Bool) (t : Tree) (S E h : Nat)
    (hSE : S ≤ E) (ht : tiles t = true) :
    uncoveredTotal sh t h ≤ (h + 1) * ((E - S) + maxLa t + 2) + zerosTotal t h + strayTotal sh t S E h := by
  have h1 := uncovered_split sh t S E h
  have h2 := reach_total_bound t S E hSE ht h
  omega

/-- In every incremental run of the LR machine the number of lexer calls is at
most the number of tokens consumed minus the tokens that lie below reused subtrees. -/
theorem lex_calls_bound (T : C01.LR.Table) (bottom l r : Nat) (c d : C01.LR.Stack × List C01.Tok)
    (h : C01.LR.IncrRun T bottom l r c d) : l ≤ c.2.length - d.2.length - r := by
  have := C01.reused_not_lexed T bottom l r c d h
  omega

/-! ## The reuse candidates after an edit

The re-parse descends through nodes that carry `has_changes` (`reusable_node_descend`) and offers every
unmarked node whose ancestors are all marked to the reuse gate (`front`, Shape.lean).  Here the marked
set of `editTree t e` is tied to the edit, for a tree `t` as the parser returns it (no marks, `clean`). -/

/-- In the edit of a tree without marks, a node that carries `has_changes` is
not the old node at its path. -/
theorem marked_is_rebuilt (p : List Nat) (t : Tree) (e : Edit) (s s' : Tree) (hc : clean t = true)
    (hs : subtreeAt t p = some s) (_hs' : subtreeAt (editTree t e) p = some s')
    (hm : s'.data.hasChanges = true) : s' ≠ s := by
  intro heq
  have := clean_sub p t s hc hs
  rw [heq, this] at hm
  contradiction

/-- Every marked node of the edited tree reaches the edit window — its
padding starts at or before `old_end` and its extended span ends at or after `start`. -/
theorem marked_reaches_window (p : List Nat) (t : Tree) (e : Edit) (s s' : Tree) (o : Nat)
    (hc : clean t = true) (hn : noCol t = true) (hle : e.start.bytes ≤ e.old_end.bytes)
    (hs : subtreeAt t p = some s) (hs' : subtreeAt (editTree t e) p = some s')
    (ho : offsetAt t p = some o) (hm : s'.data.hasChanges = true) :
    reaches s o e.start.bytes e.old_end.bytes = true :=
  rebuilt_reaches p t e s s' o hn hle hs hs' ho (marked_is_rebuilt p t e s s' hc hs hs' hm)

/-! Height and fan-out are functions of the shape, which the edit keeps (`C10.edit_shape`). -/

mutual
  theorem sameShape_shape : ∀ {t t' : Tree}, SameShape t t' → height t' = height t ∧ maxFan t' = maxFan t
    | _, _, .mk _ hk => by
      have h := sameShapeL_shape hk
      simp only [height, maxFan, h.1, h.2.1, h.2.2, and_self]
  theorem sameShapeL_shape : ∀ {ks ks' : List Tree}, SameShapeL ks ks' →
      ks'.length = ks.length ∧ heightL ks' = heightL ks ∧ maxFanL ks' = maxFanL ks
    | _, _, .nil => ⟨rfl, rfl, rfl⟩
    | _, _, .cons ht hr => by
      have h := sameShapeL_shape hr
      have hc := sameShape_shape ht
      simp only [List.length_cons, heightL, maxFanL, h.1, h.2.1, h.2.2, hc.1, hc.2, and_self]
end

theorem edit_shape : ∀ (t : Tree) (e : Edit),
    height (editTree t e) = height t ∧ maxFan (editTree t e) = maxFan t :=
  fun t e => sameShape_shape (C10.edit_shape t e)

theorem editKids_shape : ∀ (ks : List Tree) (cx : Ctx) (ne cr : Length) (i : Nat),
    (editKids ks cx ne cr i).length = ks.length ∧
    heightL (editKids ks cx ne cr i) = heightL ks ∧
    maxFanL (editKids ks cx ne cr i) = maxFanL ks :=
  fun ks cx ne cr i => sameShapeL_shape (C10.editKids_shape ks cx ne cr i)

/-- After `ts_subtree_edit` the re-parse has at most
`1 + tips · (height + 1) · fan-out` reuse candidates — `height` and fan-out those of the tree BEFORE
the edit (`edit_shape`), `tips` the number of marked paths of the edited tree — and every unmarked
subtree of the edited tree, in particular every candidate, IS the old subtree at its path. -/
theorem edit_candidates_bound (t : Tree) (e : Edit) :
    front (editTree t e) ≤ 1 + tips (editTree t e) * (height t + 1) * maxFan t ∧
    (∀ (p : List Nat) (s : Tree), subtreeAt (editTree t e) p = some s → s.data.hasChanges = false →
        subtreeAt t p = some s) := by
  have h := reuse_candidates_bound (editTree t e)
  rw [(edit_shape t e).1, (edit_shape t e).2] at h
  exact ⟨h, fun p s hs hu => unmarked_shared p t e s hs hu⟩

/-! ## The number of marked paths is bounded by the width of the edit

The tips of the edited tree are dominated by the geometric count `gt` on the tree BEFORE the edit
(`tips_le_gt`), which the potential argument bounds (Levels.lean `gt_bound`). -/

mutual
  /-- The window is given by two INEQUALITIES (`S ≤ start + off`, `old_end + off ≤ E`), not equalities: translated
  into a child's coordinates by truncated subtraction the edit can only shrink (`translate_edit`), and the induction
  has to survive that.  Case split: `editTree_cases` / `editKids_cons`. -/
  theorem tips_le_gt (S E : Nat) : ∀ (t : Tree) (e : Edit) (off : Nat),
      clean t = true → noCol t = true → e.start.bytes ≤ e.old_end.bytes →
      S ≤ e.start.bytes + off → e.old_end.bytes + off ≤ E →
      tips (editTree t e) ≤ gt S E t off
    | .mk d ks, e, off, hc, hn, hle, hS, hE => by
      rcases editTree_cases d ks e with h1 | ⟨hb, d', cx, ne, hd', ⟨hcs, hco, hcp⟩, h1⟩
      · rw [h1, (clean_tips _ hc).1]; exact Nat.zero_le _
      · rw [h1]
        simp only [clean, noCol, Bool.and_eq_true, Bool.not_eq_true'] at hc hn
        have ih := tipsL_le_gtL S E ks cx ne length_zero 0 off hc.2 hn.2 (hcp.trans hn.1)
          (by rw [hcs, hco]; exact hle) (by rw [hcs]; exact hS) (by rw [hco]; exact hE)
        rw [show off + length_zero.bytes = off from rfl] at ih
        have hr : reaches (.mk d ks) off S E = true := by
          simp only [reaches, Bool.and_eq_true, decide_eq_true_eq]
          simp only [Tree.data] at hb ⊢
          omega
        unfold tips gt
        rw [if_pos hd', if_pos hr]
        split
        · split <;> omega
        · have := tipsL_pos _ ‹_›
          split <;> omega
  theorem tipsL_le_gtL (S E : Nat) : ∀ (ks : List Tree) (cx : Ctx) (ne cr : Length) (i off : Nat),
      cleanL ks = true → noColL ks = true → cx.parentDependsOnColumn = false →
      cx.start.bytes ≤ cx.oldEnd.bytes →
      S ≤ cx.start.bytes + off → cx.oldEnd.bytes + off ≤ E →
      tipsL (editKids ks cx ne cr i) ≤ gtL S E ks (off + cr.bytes)
    | [], cx, ne, cr, i, off, _, _, _, _, _, _ => by
      unfold editKids
      exact Nat.zero_le _
    | c :: rest, cx, ne, cr, i, off, hc, hn, hp, hle, hS, hE => by
      rcases editKids_cons c rest cx ne cr i with hstop | ⟨c', ne', heq, hc'⟩
      · rw [hstop, (cleanL_tips _ hc).1]; exact Nat.zero_le _
      · simp only [cleanL, noColL, Bool.and_eq_true] at hc hn
        have ih := tipsL_le_gtL S E rest cx ne' (length_add cr c.totalSize) (i + 1) off hc.2 hn.2 hp hle hS hE
        rw [length_add_totalSize_bytes, ← Nat.add_assoc] at ih
        have hk : tips c' ≤ gt S E c (off + cr.bytes) := by
          rcases hc' with rfl | ⟨e', rfl, hst, hoe, hup⟩
          · rw [(clean_tips _ hc.1).1]; exact Nat.zero_le _
          · have h := translate_edit hle (hup hp (noCol_data c hn.1)) hst hoe
            exact tips_le_gt S E c e' (off + cr.bytes) hc.1 hn.1 h.1 (by omega) (by omega)
        rw [heq]
        simp only [tipsL, gtL]
        omega
end

/-- One edit of a byte-tiling tree without marks and without column-dependent nodes
leaves at most `(old_end − start) + λ + 2 + Z` marked paths (`Z` = zero-width nodes of the tree). -/
theorem tips_bound (t : Tree) (e : Edit) (hc : clean t = true) (hn : noCol t = true)
    (ht : tiles t = true) (hle : e.start.bytes ≤ e.old_end.bytes) :
    tips (editTree t e) ≤ (e.old_end.bytes - e.start.bytes) + maxLa t + 2 + zeros t := by
  have h1 := tips_le_gt e.start.bytes e.old_end.bytes t e 0 hc hn hle (by omega) (by omega)
  have h2 := gt_bound t e.start.bytes e.old_end.bytes hle ht
  omega

/-- The bound in terms of the shape of the tree: after ONE edit of a
tree as the parser returns it (no marks), byte-tiling and without column-dependent nodes, the marked
nodes that the re-parse descends through number at most `(w + λ + 2 + Z) · (height + 1)` and the
maximal unmarked subtrees (the reuse candidates, each the very same value as in the old tree) at most
`1 + (w + λ + 2 + Z) · (height + 1) · fan-out`; `w` = width of the edit, `λ` = largest
`lookahead_bytes`, `Z` = zero-width nodes.  The size of the document does not occur. -/
theorem edit_candidates_total_bound (t : Tree) (e : Edit) (hc : clean t = true) (hn : noCol t = true)
    (ht : tiles t = true) (hle : e.start.bytes ≤ e.old_end.bytes) :
    desc (editTree t e) ≤ ((e.old_end.bytes - e.start.bytes) + maxLa t + 2 + zeros t) * (height t + 1) ∧
    front (editTree t e) ≤
      1 + ((e.old_end.bytes - e.start.bytes) + maxLa t + 2 + zeros t) * (height t + 1) * maxFan t := by
  have hT := tips_bound t e hc hn ht hle
  have hd := desc_tips_bound (editTree t e) (height t + 1) (by rw [(edit_shape t e).1]; omega)
  have hf := (edit_candidates_bound t e).1
  have h1 : tips (editTree t e) * (height t + 1) ≤
      ((e.old_end.bytes - e.start.bytes) + maxLa t + 2 + zeros t) * (height t + 1) :=
    Nat.mul_le_mul_right _ hT
  have h2 := Nat.mul_le_mul_right (maxFan t) h1
  exact ⟨Nat.le_trans hd h1, by omega⟩

def leaf2 (sym : Nat) : Tree :=
  .mk { (default : NodeData) with symbol := sym, size := { bytes := 2, extent := { row := 0, column := 2 } } } []

/-- `root3` covers six bytes with three leaves `[0,2) [2,4) [4,6)`. -/
def root3 : Tree :=
  .mk { (default : NodeData) with symbol := 9, size := { bytes := 6, extent := { row := 0, column := 6 } } }
    [leaf2 1, leaf2 2, leaf2 3]

/-- Replace byte 3 (inside the middle leaf) by two bytes. -/
def edit3 : Edit :=
  { start := { bytes := 3, extent := { row := 0, column := 3 } }
    old_end := { bytes := 4, extent := { row := 0, column := 4 } }
    new_end := { bytes := 5, extent := { row := 0, column := 5 } } }

/-- The outer leaves are returned as the very same values (`unmarked_shared` applies: they are
unmarked), the middle one is rebuilt and marked, its offset 2 satisfies both bounds
(`3 ≤ 2 + 2 + 0`, `2 ≤ 4`), and `root3` has no column-dependent node. -/
example :
    subtreeAt (editTree root3 edit3) [0] = some (leaf2 1) ∧
    subtreeAt (editTree root3 edit3) [2] = some (leaf2 3) ∧
    (∃ s', subtreeAt (editTree root3 edit3) [1] = some s' ∧ s'.data.hasChanges = true ∧
      s'.data.size.bytes = 3) ∧
    subtreeAt root3 [1] = some (leaf2 2) ∧ offsetAt root3 [1] = some 2 ∧ noCol root3 = true ∧
    edit3.start.bytes ≤ edit3.old_end.bytes :=
  ⟨by rfl, by rfl, ⟨_, by rfl, by rfl, by rfl⟩, by rfl, by rfl, by rfl, by decide⟩

/-- The fan-out bound on the concrete tree: two of the three leaves reach the edit `[3,4]`
(the bound is `(4 − 3) + 0 + 2 = 3`), and the hypotheses of `marked_fanout_bound` hold. -/
example : countReachKids [leaf2 1, leaf2 2, leaf2 3] 0 3 4 = 2 ∧
    (∀ k ∈ [leaf2 1, leaf2 2, leaf2 3], 1 ≤ k.totalBytes ∧ k.data.lookahead ≤ 0) := by
  refine ⟨by decide, ?_⟩
  intro k hk
  simp only [List.mem_cons, List.not_mem_nil, or_false] at hk
  rcases hk with rfl | rfl | rfl <;> decide

/-- The global bound on the concrete tree: hypotheses hold, 3 nodes reach the edit (root + two
leaves), the bound is `(1+1)·((4−3)+0+2) + 0 = 6`. -/
example : tiles root3 = true ∧ noCol root3 = true ∧ height root3 = 1 ∧ maxLa root3 = 0 ∧
    reachTotal root3 3 4 1 = 3 ∧ zerosTotal root3 1 = 0 := by decide +kernel

/-- `reparse_work_bound_partial` on the concrete tree with the middle leaf fresh and the outer
leaves shared: 2 uncovered nodes (root, middle leaf), no stray node. -/
example : let sh : Tree → Bool := fun t => t.data.symbol == 1 || t.data.symbol == 3
    uncoveredTotal sh root3 1 = 2 ∧ strayTotal sh root3 3 4 1 = 0 := by decide +kernel

/-- `root3`/`edit3`: the tree before the edit is clean; the edited tree has 2 descended
nodes (root, middle leaf), 1 tip, 2 candidates (the outer leaves), height 1, fan-out 3: the bound is
`2 ≤ 1 + 1·2·3`, and `front + desc = 4 ≤ 1 + 2·3`. -/
example : clean root3 = true ∧ noCol root3 = true ∧
    desc (editTree root3 edit3) = 2 ∧ tips (editTree root3 edit3) = 1 ∧
    front (editTree root3 edit3) = 2 ∧ height (editTree root3 edit3) = 1 ∧
    maxFan (editTree root3 edit3) = 3 := by decide +kernel

/-- A two-level tree: the inner node `mid` holds the edited leaf; the candidates are the two
siblings of `mid` and the two siblings of the leaf (4), descended 3, one tip. -/
def mid3 : Tree :=
  .mk { (default : NodeData) with symbol := 8, size := { bytes := 6, extent := { row := 0, column := 6 } } }
    [leaf2 1, leaf2 2, leaf2 3]
def root9 : Tree :=
  .mk { (default : NodeData) with symbol := 9, size := { bytes := 18, extent := { row := 0, column := 18 } } }
    [root3, mid3, root3]
def edit9 : Edit :=
  { start := { bytes := 9, extent := { row := 0, column := 9 } }
    old_end := { bytes := 10, extent := { row := 0, column := 10 } }
    new_end := { bytes := 11, extent := { row := 0, column := 11 } } }

example : clean root9 = true ∧ desc (editTree root9 edit9) = 3 ∧ tips (editTree root9 edit9) = 1 ∧
    front (editTree root9 edit9) = 4 ∧ height (editTree root9 edit9) = 2 ∧
    maxFan (editTree root9 edit9) = 3 := by decide +kernel

/-- Non-vacuity: the hypotheses hold for `root9`/`edit9`; 1 tip ≤ (10−9)+0+2+0 = 3; 3 descended
≤ 3·3; 4 candidates ≤ 1 + 3·3·3. -/
example : clean root9 = true ∧ noCol root9 = true ∧ tiles root9 = true ∧
    edit9.start.bytes ≤ edit9.old_end.bytes ∧ zeros root9 = 0 ∧ maxLa root9 = 0 ∧
    gt 9 10 root9 0 = 2 ∧ tips (editTree root9 edit9) = 1 := by decide +kernel

/-! ## An interrupted and resumed re-parse in the gate-loop model

`ts_parser_parse` can be cancelled by the progress callback (it returns NULL with the parse stack
and the old-tree cursor `self->reusable_node` left as they are) and resumed by calling it again
(`ts_parser_has_outstanding_parse` → `resume_parsing`: the per-parse initialisation, including
`reusable_node_reset(old_tree->root)`, is skipped).  In C01's `GateLoop` model the state of the
re-parse is the pair (stack, frontier) and a run is `gloop` with fuel, so `gloop_resume` (fuel is additive) says
that cancelling and resuming FROM THE SAVED PAIR costs nothing.  That the REAL runtime keeps
`self->reusable_node` (and the stack) across a cancelled `ts_parser_parse` is NOT proved — it is judged by the
interrupted drives of `harness/src/bin/c12.rs` (sums of lexed tokens / served bytes / fresh nodes over the
interrupted and the resumed runs against the same thresholds).
-/
open TsVerif.C01 TsVerif.C01.LR

theorem gloop_stuck (T : Table) (bottom : Nat) (st : Stack) (front : List OTree)
    (h : gstep T bottom st front = none) : ∀ n, gloop T bottom n st front = (st, front)
  | 0 => by simp [gloop]
  | n + 1 => by simp [gloop, h]

theorem gloop_resume (T : Table) (bottom : Nat) : ∀ (m n : Nat) (st : Stack) (front : List OTree),
    gloop T bottom (m + n) st front
      = gloop T bottom n (gloop T bottom m st front).1 (gloop T bottom m st front).2
  | 0, n, st, front => by simp [gloop]
  | m + 1, n, st, front => by
    have e : m + 1 + n = (m + n) + 1 := by omega
    rw [e]
    cases h : gstep T bottom st front with
    | none => simp [gloop, h, gloop_stuck T bottom st front h n]
    | some p =>
      obtain ⟨st', front'⟩ := p
      simp [gloop, h, gloop_resume T bottom m n st' front']

theorem gloop_resume_twice (T : Table) (bottom a b c : Nat) (st : Stack) (front : List OTree) :
    gloop T bottom (a + b + c) st front
      = (let r1 := gloop T bottom a st front
         let r2 := gloop T bottom b r1.1 r1.2
         gloop T bottom c r2.1 r2.2) := by
  simp only [gloop_resume T bottom (a + b) c, gloop_resume T bottom a b]

/-- Non-vacuity on C01's toy table: interrupted after 1 of 5 iterations and resumed from the saved pair
= the uninterrupted run (old subtree `A(a b)` reused, `c` shifted: states 4, 3, frontier consumed). -/
example : (gloop toyTable 0 4 (gloop toyTable 0 1 [] toyFront).1 (gloop toyTable 0 1 [] toyFront).2).1.map (·.state) = [4, 3]
    ∧ (gloop toyTable 0 1 [] toyFront).2.length = 1 := by
  constructor <;> rfl

/-- The hypothesis "resume from the SAVED frontier" matters: with the frontier dropped at the
interruption the resumed run stops where it was interrupted. -/
example : (gloop toyTable 0 4 (gloop toyTable 0 1 [] toyFront).1 []).1.map (·.state) = [3]
    ∧ (gloop toyTable 0 5 [] toyFront).1.map (·.state) = [4, 3] := by
  constructor <;> rfl

end TsVerif.C12
