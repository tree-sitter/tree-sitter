import TsVerif.Common.Tree
/-!
# C12 — counting functions for the top-down walk over the marks of an edited tree

Executable definitions (no Mathlib): the driver evaluates them on the real dumps of `ts_tree_edit`.
-/
namespace TsVerif.C12
open TsGen TsVerif

mutual
  /-- Descended nodes: marked (`has_changes`) nodes all of whose ancestors are marked. -/
  def desc : Tree → Nat
    | .mk d ks => if d.hasChanges then 1 + descL ks else 0
  def descL : List Tree → Nat
    | [] => 0
    | k :: rest => desc k + descL rest
end

mutual
  /-- Reuse candidates: unmarked nodes all of whose ancestors are marked (the maximal unmarked
  subtrees met by the top-down walk). -/
  def front : Tree → Nat
    | .mk d ks => if d.hasChanges then frontL ks else 1
  def frontL : List Tree → Nat
    | [] => 0
    | k :: rest => front k + frontL rest
end

mutual
  /-- Ends of the marked paths: descended nodes that have no marked child. -/
  def tips : Tree → Nat
    | .mk d ks => if d.hasChanges then (if descL ks = 0 then 1 else tipsL ks) else 0
  def tipsL : List Tree → Nat
    | [] => 0
    | k :: rest => tips k + tipsL rest
end

mutual
  def maxFan : Tree → Nat
    | .mk _ ks => max ks.length (maxFanL ks)
  def maxFanL : List Tree → Nat
    | [] => 0
    | k :: rest => max (maxFan k) (maxFanL rest)
end

mutual
  /-- No node carries `has_changes` (a tree as the parser returns it). -/
  def clean : Tree → Bool
    | .mk d ks => !d.hasChanges && cleanL ks
  def cleanL : List Tree → Bool
    | [] => true
    | k :: rest => clean k && cleanL rest
end

mutual
  /-- Zero-width nodes of the whole tree (EOF leaf, zero-width external tokens, empty reductions). -/
  def zeros : Tree → Nat
    | .mk d ks => (if d.padding.bytes + d.size.bytes = 0 then 1 else 0) + zerosLst ks
  def zerosLst : List Tree → Nat
    | [] => 0
    | k :: rest => zeros k + zerosLst rest
end

end TsVerif.C12
