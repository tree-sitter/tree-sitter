import TsVerif.Common.Tree
/-!
# C12 — vocabulary for "which nodes does one edit mark, and which stay the very same value"

Paths address subtrees (list of child indices); `offsetAt` is the byte offset of the start of a
subtree's padding relative to the start of the root's padding, computed by prefix sums over the
ORIGINAL tree (the edit is given in the original coordinates).
-/
namespace TsVerif.C12
open TsGen TsVerif

/-- The subtree at a path. -/
def subtreeAt : Tree → List Nat → Option Tree
  | t, [] => some t
  | .mk _ ks, i :: p =>
    match ks[i]? with
    | some k => subtreeAt k p
    | none => none

/-- Total bytes of the first `i` children. -/
def kidsOffset (ks : List Tree) (i : Nat) : Nat := ((ks.take i).map Tree.totalBytes).sum

/-- Byte offset (relative to the root's padding start) of the subtree at a path. -/
def offsetAt : Tree → List Nat → Option Nat
  | _, [] => some 0
  | .mk _ ks, i :: p =>
    match ks[i]? with
    | some k => (offsetAt k p).map (· + kidsOffset ks i)
    | none => none

/-- Does a child that starts (padding) at `off` reach the edit window: `off ≤ E` and
`S ≤ off + total_bytes + lookahead_bytes`?  (`marked_bound` ∧ `marked_upper` for that child.) -/
def reaches (k : Tree) (off S E : Nat) : Bool :=
  decide (off ≤ E) && decide (S ≤ off + k.totalBytes + k.data.lookahead)

/-- Number of children (laid out from `off`) that reach the window `[S, E]`. -/
def countReachKids : List Tree → Nat → Nat → Nat → Nat
  | [], _, _, _ => 0
  | k :: rest, off, S, E => (if reaches k off S E then 1 else 0) + countReachKids rest (off + k.totalBytes) S E

mutual
  /-- No node of the tree is column-dependent (`depends_on_column`, set only for tokens of
  external scanners that called `get_column`). -/
  def noCol : Tree → Bool
    | .mk d ks => !d.dependsOnColumn && noColL ks
  def noColL : List Tree → Bool
    | [] => true
    | k :: rest => noCol k && noColL rest
end

/-! ## Levels: the nodes at one depth, in document order, with their byte offsets -/

mutual
  /-- Nodes at depth `d` below `t` (laid out at `off`), in document order. -/
  def levelList (t : Tree) (off d : Nat) : List (Nat × Tree) :=
    match d with
    | 0 => [(off, t)]
    | d + 1 => match t with
      | .mk _ ks => levelKids ks off d
  def levelKids (ks : List Tree) (off d : Nat) : List (Nat × Tree) :=
    match ks with
    | [] => []
    | k :: rest => levelList k off d ++ levelKids rest (off + k.totalBytes) d
end

def sumTb : List Tree → Nat
  | [] => 0
  | k :: rest => k.totalBytes + sumTb rest

mutual
  /-- Byte tiling: every inner node's total equals the sum of its children's totals (what
  `ts_subtree_summarize_children` establishes; C10's `WFb`).  Decidable, evaluated on real dumps. -/
  def tiles : Tree → Bool
    | .mk d ks => (ks.isEmpty || decide (sumTb ks = d.padding.bytes + d.size.bytes)) && tilesL ks
  def tilesL : List Tree → Bool
    | [] => true
    | k :: rest => tiles k && tilesL rest
end

mutual
  /-- Largest `lookahead_bytes` in the tree (the `λ` of the bounds). -/
  def maxLa : Tree → Nat
    | .mk d ks => max d.lookahead (maxLaL ks)
  def maxLaL : List Tree → Nat
    | [] => 0
    | k :: rest => max (maxLa k) (maxLaL rest)
end

mutual
  def height : Tree → Nat
    | .mk _ ks => heightL ks
  def heightL : List Tree → Nat
    | [] => 0
    | k :: rest => max (height k + 1) (heightL rest)
end

/-! ## Uncovered nodes: what a re-parse has to lex / create

`sh` marks the nodes of the NEW tree that were taken over from the old tree (on the implementation:
the heap address occurs in the old tree).  A node is *covered* when it or an ancestor is shared;
the uncovered leaves are the tokens the lexer had to deliver (C01 `reused_not_lexed`: the tokens
below a reused subtree are never requested), the uncovered inner nodes are the nodes the parser had
to create. -/

mutual
  /-- Uncovered nodes at depth `d` below `t`, in document order. -/
  def levelListU (sh : Tree → Bool) (t : Tree) (off d : Nat) : List (Nat × Tree) :=
    if sh t then [] else
    match d with
    | 0 => [(off, t)]
    | d + 1 => match t with
      | .mk _ ks => levelKidsU sh ks off d
  def levelKidsU (sh : Tree → Bool) (ks : List Tree) (off d : Nat) : List (Nat × Tree) :=
    match ks with
    | [] => []
    | k :: rest => levelListU sh k off d ++ levelKidsU sh rest (off + k.totalBytes) d
end

/-- All uncovered nodes down to depth `h`. -/
def uncoveredTotal (sh : Tree → Bool) (t : Tree) : Nat → Nat
  | 0 => (levelListU sh t 0 0).length
  | h + 1 => uncoveredTotal sh t h + (levelListU sh t 0 (h + 1)).length

/-- Uncovered nodes that do NOT reach the window `[S, E]` (on the pinned runtime: the rebuilt
fragile repeat spine, re-parsed statements that start with the word token, …). -/
def strayTotal (sh : Tree → Bool) (t : Tree) (S E : Nat) : Nat → Nat
  | 0 => ((levelListU sh t 0 0).filter (fun x => !reaches x.2 x.1 S E)).length
  | h + 1 => strayTotal sh t S E h + ((levelListU sh t 0 (h + 1)).filter (fun x => !reaches x.2 x.1 S E)).length

/-- Items of a level that reach the window `[S, E]`. -/
def reachL (xs : List (Nat × Tree)) (S E : Nat) : List (Nat × Tree) :=
  xs.filter (fun x => reaches x.2 x.1 S E)

/-- Zero-width items of a level (EOF leaf, zero-width external tokens, empty reductions). -/
def zerosL (xs : List (Nat × Tree)) : Nat := (xs.filter (fun x => x.2.totalBytes == 0)).length

/-- Sum over the levels `0 … h`. -/
def reachTotal (t : Tree) (S E : Nat) : Nat → Nat
  | 0 => (reachL (levelList t 0 0) S E).length
  | h + 1 => reachTotal t S E h + (reachL (levelList t 0 (h + 1)) S E).length

def zerosTotal (t : Tree) : Nat → Nat
  | 0 => zerosL (levelList t 0 0)
  | h + 1 => zerosTotal t h + zerosL (levelList t 0 (h + 1))

end TsVerif.C12
