import TsVerif.C12.Model
import TsVerif.C12.Shape
/-!
# C12 lemmas — counting arguments on trees (no edit involved)

The potential argument: `pos lam S E x` is the position `x` clamped to `[S − lam − 1, E + 1]`; a node
of positive width that reaches the window `[S, E]` advances it by at least one (`reaches_pot`), so
nodes in document order that reach the window number at most `(E − S) + lam + 2`, zero-width nodes
costing one each.  Used along a `Chain` (`reach_chain_bound`; the nodes of one depth of a byte-tiling
tree form one, `level_chain`), along the children of one node (`countReachKids_le`) and
along the pairwise unrelated nodes counted by `gt` (`gt_pot`).

The top-down walk over the marks (`desc`, `front`, `tips` of Shape.lean): the marked nodes form `tips`
root-to-tip paths, so `front u ≤ 1 + tips u · (height u + 1) · maxFan u` (`reuse_candidates_bound`);
no term is the size of the document.

Zero-width nodes are counted per level down to a depth in the level bounds (`zerosL`, `zerosTotal`, Model.lean) and
over the whole tree in the `gt` bound (`zeros`, Shape.lean): the same nodes, so `zerosTotal t h ≤ zeros t`; no lemma
says so because no statement mixes the two.
-/
namespace TsVerif.C12
open TsGen TsVerif

/-- The potential.  A node can reach the window from up to `lam` bytes before `S` (its look-ahead), hence the
lower clamp `S − lam − 1`; both ends of the window are inclusive, which gives the `− 1` there and the `+ 1` at `E`.
The length of the clamp interval, `(E − S) + lam + 2`, is the `+ 2` of every bound of this property. -/
def pos (lam S E x : Nat) : Nat := min (max x (S - lam - 1)) (E + 1)

theorem pos_mono (lam S E x y : Nat) (h : x ≤ y) : pos lam S E x ≤ pos lam S E y :=
  Nat.le_min.2 ⟨Nat.le_trans (Nat.min_le_left _ _)
    (Nat.max_le.2 ⟨Nat.le_trans h (Nat.le_max_left _ _), Nat.le_max_right _ _⟩), Nat.min_le_right _ _⟩

theorem pos_le (lam S E x : Nat) : pos lam S E x ≤ E + 1 := Nat.min_le_right _ _

theorem pos_of_le (lam S E x : Nat) (hSE : S ≤ E) (h : x ≤ E) : pos lam S E x = max x (S - lam - 1) :=
  Nat.min_eq_left (by omega)

theorem pos_of_gt (lam S E x : Nat) (h : E < x) : pos lam S E x = E + 1 :=
  Nat.min_eq_right (by omega)

theorem pos_step (lam S E off w : Nat) (hSE : S ≤ E) (h1 : off ≤ E) (h2 : S ≤ off + w + lam) (hw : 0 < w) :
    pos lam S E off + 1 ≤ pos lam S E (off + w) := by
  rw [pos_of_le lam S E off hSE h1]
  exact Nat.le_min.2 ⟨Nat.le_trans (Nat.succ_le_of_lt (Nat.max_lt.2 ⟨by omega, by omega⟩)) (Nat.le_max_left _ _),
    by omega⟩

theorem reaches_pot (lam S E : Nat) (hSE : S ≤ E) (k : Tree) (off : Nat) (hl : k.data.lookahead ≤ lam) :
    (if reaches k off S E then 1 else 0) + pos lam S E off ≤
      pos lam S E (off + k.totalBytes) + (if k.totalBytes = 0 then 1 else 0) := by
  have hm := pos_mono lam S E off (off + k.totalBytes) (Nat.le_add_right _ _)
  by_cases hr : reaches k off S E = true
  · rw [if_pos hr]
    simp only [reaches, Bool.and_eq_true, decide_eq_true_eq] at hr
    by_cases hz : k.totalBytes = 0
    · rw [if_pos hz]; omega
    · have := pos_step lam S E off k.totalBytes hSE hr.1 (by omega) (by omega)
      rw [if_neg hz]; omega
  · rw [if_neg hr]; omega

/-- Items `(offset, node)` in document order inside `[lo, hi]`, each starting at or after the end of the one
before it; the empty chain still says `lo ≤ hi`, so that chains append (`chain_append`). -/
def Chain : Nat → Nat → List (Nat × Tree) → Prop
  | lo, hi, [] => lo ≤ hi
  | lo, hi, x :: rest => lo ≤ x.1 ∧ Chain (x.1 + x.2.totalBytes) hi rest

theorem chain_lo : ∀ (xs : List (Nat × Tree)) (lo hi : Nat), Chain lo hi xs → ∀ x ∈ xs, lo ≤ x.1
  | y :: rest, lo, hi, h, x, hx => by
    rcases List.mem_cons.1 hx with rfl | hx
    · exact h.1
    · have := chain_lo rest _ hi h.2 x hx
      have := h.1
      omega

theorem chain_append : ∀ (xs ys : List (Nat × Tree)) (lo mid hi : Nat),
    Chain lo mid xs → Chain mid hi ys → Chain lo hi (xs ++ ys)
  | [], [], _, _, _, h1, h2 => Nat.le_trans h1 h2
  | [], _ :: _, _, _, _, h1, h2 => ⟨Nat.le_trans h1 h2.1, h2.2⟩
  | _ :: rest, ys, _, mid, hi, h1, h2 => ⟨h1.1, chain_append rest ys _ mid hi h1.2 h2⟩

theorem reachL_cons (x : Nat × Tree) (rest : List (Nat × Tree)) (S E : Nat) :
    (reachL (x :: rest) S E).length = (if reaches x.2 x.1 S E then 1 else 0) + (reachL rest S E).length := by
  unfold reachL
  rw [List.filter_cons]
  split
  · rw [List.length_cons, Nat.add_comm]
  · rw [Nat.zero_add]

theorem zerosL_cons (x : Nat × Tree) (rest : List (Nat × Tree)) :
    zerosL (x :: rest) = (if x.2.totalBytes = 0 then 1 else 0) + zerosL rest := by
  unfold zerosL
  rw [List.filter_cons]
  by_cases h : x.2.totalBytes = 0
  · rw [if_pos (beq_iff_eq.2 h), if_pos h, List.length_cons, Nat.add_comm]
  · rw [if_neg (fun h' => h (beq_iff_eq.1 h')), if_neg h, Nat.zero_add]

theorem reach_chain_pot (lam S E : Nat) (hSE : S ≤ E) :
    ∀ (xs : List (Nat × Tree)) (lo hi : Nat), Chain lo hi xs → (∀ x ∈ xs, x.2.data.lookahead ≤ lam) →
      (reachL xs S E).length + pos lam S E lo ≤ pos lam S E hi + zerosL xs
  | [], lo, hi, hc, _ => by
    have := pos_mono lam S E lo hi hc
    simpa [reachL, zerosL] using this
  | x :: rest, lo, hi, hc, hl => by
    have ih := reach_chain_pot lam S E hSE rest _ hi hc.2 (fun y hy => hl y (List.mem_cons_of_mem _ hy))
    have h1 := reaches_pot lam S E hSE x.2 x.1 (hl x List.mem_cons_self)
    have h0 := pos_mono lam S E lo x.1 hc.1
    rw [reachL_cons, zerosL_cons]
    omega

theorem reach_chain_bound (lam S E : Nat) (hSE : S ≤ E) :
    ∀ (xs : List (Nat × Tree)) (lo hi : Nat), Chain lo hi xs → (∀ x ∈ xs, x.2.data.lookahead ≤ lam) →
      (E < lo → (reachL xs S E).length = 0) ∧
      (lo ≤ E → (reachL xs S E).length + max lo (S - lam - 1) ≤ E + 1 + zerosL xs) := by
  intro xs lo hi hc hl
  constructor
  · intro h
    have : reachL xs S E = [] := List.filter_eq_nil_iff.2 fun x hx => by
      have := chain_lo xs lo hi hc x hx
      simp only [reaches, Bool.and_eq_true, decide_eq_true_eq]
      omega
    rw [this]; rfl
  · intro h
    have hp := reach_chain_pot lam S E hSE xs lo hi hc hl
    rw [pos_of_le lam S E lo hSE h] at hp
    have := pos_le lam S E hi
    omega

theorem countReachKids_pot (lam S E : Nat) (hSE : S ≤ E) :
    ∀ (ks : List Tree) (off : Nat), (∀ k ∈ ks, 1 ≤ k.totalBytes ∧ k.data.lookahead ≤ lam) →
      countReachKids ks off S E + pos lam S E off ≤ pos lam S E (off + sumTb ks)
  | [], off, _ => by simp [countReachKids, sumTb]
  | k :: rest, off, h => by
    have hk := h k List.mem_cons_self
    have ih := countReachKids_pot lam S E hSE rest (off + k.totalBytes) (fun x hx => h x (List.mem_cons_of_mem _ hx))
    have h1 := reaches_pot lam S E hSE k off hk.2
    rw [if_neg (by omega : ¬ k.totalBytes = 0)] at h1
    unfold countReachKids sumTb
    rw [← Nat.add_assoc off]
    omega

theorem countReachKids_le (lam S E : Nat) (hSE : S ≤ E) :
    ∀ (ks : List Tree) (off : Nat), (∀ k ∈ ks, 1 ≤ k.totalBytes ∧ k.data.lookahead ≤ lam) →
      (E < off → countReachKids ks off S E = 0) ∧
      (off ≤ E → countReachKids ks off S E + max off (S - lam - 1) ≤ E + 1) := by
  intro ks off h
  have hp := countReachKids_pot lam S E hSE ks off h
  have hhi := pos_le lam S E (off + sumTb ks)
  constructor
  · intro hgt
    rw [pos_of_gt lam S E off hgt] at hp
    omega
  · intro hle
    rw [pos_of_le lam S E off hSE hle] at hp
    omega

theorem sumTb_tiles (d : NodeData) (ks : List Tree) (h : tiles (.mk d ks) = true) :
    ks = [] ∨ sumTb ks = (Tree.mk d ks).totalBytes := by
  simp only [tiles, Bool.and_eq_true, Bool.or_eq_true, decide_eq_true_eq, List.isEmpty_iff] at h
  exact h.1

mutual
  theorem level_chain : ∀ (t : Tree) (off d : Nat), tiles t = true →
      Chain off (off + t.totalBytes) (levelList t off d)
    | t, off, 0, _ => by
      unfold levelList
      exact ⟨Nat.le_refl _, Nat.le_refl _⟩
    | .mk nd ks, off, d + 1, h => by
      unfold levelList
      have hc := levelKids_chain ks off d (by simp only [tiles, Bool.and_eq_true] at h; exact h.2)
      rcases sumTb_tiles nd ks h with h0 | h0
      · subst h0
        exact Nat.le_add_right _ _
      · rw [← h0]; exact hc
  theorem levelKids_chain : ∀ (ks : List Tree) (off d : Nat), tilesL ks = true →
      Chain off (off + sumTb ks) (levelKids ks off d)
    | [], off, d, _ => Nat.le_refl _
    | k :: rest, off, d, h => by
      simp only [tilesL, Bool.and_eq_true] at h
      unfold levelKids
      have h2 := levelKids_chain rest (off + k.totalBytes) d h.2
      rw [Nat.add_assoc] at h2
      exact chain_append _ _ _ _ _ (level_chain k off d h.1) h2
end

mutual
  theorem level_la : ∀ (t : Tree) (off d : Nat) (x : Nat × Tree), x ∈ levelList t off d → x.2.data.lookahead ≤ maxLa t
    | .mk nd ks, off, 0, x, h => by
      unfold levelList at h
      rw [List.mem_singleton.1 h]
      exact Nat.le_max_left _ _
    | .mk nd ks, off, d + 1, x, h => by
      unfold levelList at h
      exact Nat.le_trans (levelKids_la ks off d x h) (Nat.le_max_right _ _)
  theorem levelKids_la : ∀ (ks : List Tree) (off d : Nat) (x : Nat × Tree), x ∈ levelKids ks off d → x.2.data.lookahead ≤ maxLaL ks
    | [], _, _, x, h => by simp [levelKids] at h
    | k :: rest, off, d, x, h => by
      unfold levelKids at h
      rcases List.mem_append.1 h with h | h
      · exact Nat.le_trans (level_la k off d x h) (Nat.le_max_left _ _)
      · exact Nat.le_trans (levelKids_la rest _ d x h) (Nat.le_max_right _ _)
end

/-- In a byte-tiling tree, at every depth at most
`(E − S) + λ + 2` nodes of positive width reach the window `[S, E]` (`λ` = largest
`lookahead_bytes`); each zero-width node of that depth (EOF leaf, zero-width external tokens,
empty reductions) may add one. -/
theorem level_reach_bound (t : Tree) (d S E : Nat) (hSE : S ≤ E) (ht : tiles t = true) :
    (reachL (levelList t 0 d) S E).length ≤ (E - S) + maxLa t + 2 + zerosL (levelList t 0 d) := by
  have h := (reach_chain_bound (maxLa t) S E hSE (levelList t 0 d) 0 _ (level_chain t 0 d ht)
    (fun x hx => level_la t 0 d x hx)).2 (by omega)
  omega

theorem reach_total_bound (t : Tree) (S E : Nat) (hSE : S ≤ E) (ht : tiles t = true) :
    ∀ h, reachTotal t S E h ≤ (h + 1) * ((E - S) + maxLa t + 2) + zerosTotal t h
  | 0 => by
    have := level_reach_bound t 0 S E hSE ht
    simp only [reachTotal, zerosTotal]; omega
  | h + 1 => by
    have ih := reach_total_bound t S E hSE ht h
    have := level_reach_bound t (h + 1) S E hSE ht
    simp only [reachTotal, zerosTotal]
    rw [Nat.succ_mul]
    omega

theorem kidsOffset_zero (ks : List Tree) : kidsOffset ks 0 = 0 := rfl

theorem kidsOffset_succ (c : Tree) (rest : List Tree) (j : Nat) :
    kidsOffset (c :: rest) (j + 1) = c.totalBytes + kidsOffset rest j := by
  simp [kidsOffset]

theorem levelKids_mem : ∀ (ks : List Tree) (off d i : Nat) (k : Tree) (x : Nat × Tree),
    ks[i]? = some k → x ∈ levelList k (off + kidsOffset ks i) d → x ∈ levelKids ks off d
  | [], _, _, _, _, _, h, _ => by simp at h
  | c :: rest, off, d, 0, k, x, h, hx => by
    cases Option.some.inj h
    unfold levelKids
    exact List.mem_append_left _ hx
  | c :: rest, off, d, i + 1, k, x, h, hx => by
    unfold levelKids
    rw [kidsOffset_succ, ← Nat.add_assoc] at hx
    exact List.mem_append_right _ (levelKids_mem rest (off + c.totalBytes) d i k x h hx)

theorem subtreeAt_cons {d : NodeData} {ks : List Tree} {i : Nat} {q : List Nat} {s : Tree} :
    subtreeAt (.mk d ks) (i :: q) = some s ↔ ∃ k, ks[i]? = some k ∧ subtreeAt k q = some s := by
  simp only [subtreeAt]
  cases ks[i]? <;> simp

theorem offsetAt_cons {d : NodeData} {ks : List Tree} {i : Nat} {q : List Nat} {o : Nat} :
    offsetAt (.mk d ks) (i :: q) = some o ↔
      ∃ k o', ks[i]? = some k ∧ offsetAt k q = some o' ∧ o' + kidsOffset ks i = o := by
  simp only [offsetAt]
  cases ks[i]? <;> simp

theorem level_mem : ∀ (p : List Nat) (t : Tree) (off : Nat) (s : Tree) (o : Nat),
    subtreeAt t p = some s → offsetAt t p = some o → (off + o, s) ∈ levelList t off p.length
  | [], t, off, s, o, hs, ho => by
    cases Option.some.inj hs
    cases Option.some.inj ho
    unfold levelList
    exact List.mem_singleton.2 rfl
  | i :: q, .mk nd ks, off, s, o, hs, ho => by
    obtain ⟨k, hk, hs⟩ := subtreeAt_cons.1 hs
    obtain ⟨k', o', hk', ho', rfl⟩ := offsetAt_cons.1 ho
    cases Option.some.inj (hk.symm.trans hk')
    have ih := level_mem q k (off + kidsOffset ks i) s o' hs ho'
    rw [Nat.add_assoc, Nat.add_comm (kidsOffset ks i)] at ih
    unfold levelList
    exact levelKids_mem ks off q.length i k _ hk ih

mutual
  theorem levelListU_sublist (sh : Tree → Bool) : ∀ (t : Tree) (off d : Nat),
      (levelListU sh t off d).Sublist (levelList t off d)
    | t, off, 0 => by
      unfold levelListU levelList
      split
      · exact List.nil_sublist _
      · exact List.Sublist.refl _
    | .mk nd ks, off, d + 1 => by
      unfold levelListU levelList
      split
      · exact List.nil_sublist _
      · exact levelKidsU_sublist sh ks off d
  theorem levelKidsU_sublist (sh : Tree → Bool) : ∀ (ks : List Tree) (off d : Nat),
      (levelKidsU sh ks off d).Sublist (levelKids ks off d)
    | [], _, _ => List.Sublist.refl _
    | k :: rest, off, d => by
      unfold levelKidsU levelKids
      exact List.Sublist.append (levelListU_sublist sh k off d) (levelKidsU_sublist sh rest _ d)
end

theorem uncovered_level_split (sh : Tree → Bool) (t : Tree) (d S E : Nat) :
    (levelListU sh t 0 d).length ≤ (reachL (levelList t 0 d) S E).length +
      ((levelListU sh t 0 d).filter (fun x => !reaches x.2 x.1 S E)).length := by
  have h1 : ((levelListU sh t 0 d).filter (fun x => reaches x.2 x.1 S E)).length ≤ (reachL (levelList t 0 d) S E).length :=
    (List.Sublist.filter _ (levelListU_sublist sh t 0 d)).length_le
  have h2 := List.length_eq_countP_add_countP (fun x : Nat × Tree => reaches x.2 x.1 S E) (l := levelListU sh t 0 d)
  simp only [List.countP_eq_length_filter, Bool.not_eq_true, Bool.decide_eq_false] at h2
  omega

theorem uncovered_split (sh : Tree → Bool) (t : Tree) (S E : Nat) :
    ∀ h, uncoveredTotal sh t h ≤ reachTotal t S E h + strayTotal sh t S E h
  | 0 => by
    have := uncovered_level_split sh t 0 S E
    simp only [uncoveredTotal, reachTotal, strayTotal]; omega
  | h + 1 => by
    have ih := uncovered_split sh t S E h
    have := uncovered_level_split sh t (h + 1) S E
    simp only [uncoveredTotal, reachTotal, strayTotal]; omega

mutual
  /-- The top-down walk visits `front + desc` nodes; apart from the root each of
  them is a child of a descended node, and a node has at most `F` children. -/
  theorem front_desc_bound (u : Tree) (F : Nat) (hF : maxFan u ≤ F) :
      front u + desc u ≤ 1 + desc u * F :=
    match u, hF with
    | .mk d ks, h => by
      simp only [maxFan, Nat.max_le] at h
      have hl := frontL_descL_aux F ks h.2
      unfold front desc
      split
      · rw [Nat.add_mul, Nat.one_mul]
        omega
      · omega
  theorem frontL_descL_aux (F : Nat) : ∀ (ks : List Tree), maxFanL ks ≤ F →
      frontL ks + descL ks ≤ ks.length + descL ks * F
    | [], _ => by simp [frontL, descL]
    | k :: rest, h => by
      simp only [maxFanL, Nat.max_le] at h
      have h1 := front_desc_bound k F h.1
      have h2 := frontL_descL_aux F rest h.2
      simp only [frontL, descL, List.length_cons]
      rw [Nat.add_mul]
      omega
end

mutual
  theorem desc_tips_aux : ∀ (t : Tree) (H : Nat), height t < H → desc t ≤ tips t * H
    | .mk d ks, H, h => by
      simp only [height] at h
      unfold desc tips
      split
      · split
        · omega
        · rename_i h0
          obtain ⟨H', rfl⟩ : ∃ H', H = H' + 1 := ⟨H - 1, by omega⟩
          have hl := descL_tipsL_aux ks H' (by omega)
          -- a marked child exists, so there is a tip below
          have hpos : 1 ≤ tipsL ks := Nat.pos_of_ne_zero fun hz => by
            rw [hz, Nat.zero_mul] at hl; omega
          rw [Nat.mul_add, Nat.mul_one]
          omega
      · exact Nat.zero_le _
  theorem descL_tipsL_aux : ∀ (ks : List Tree) (H : Nat), heightL ks ≤ H → descL ks ≤ tipsL ks * H
    | [], _, _ => Nat.zero_le _
    | k :: rest, H, h => by
      simp only [heightL, Nat.max_le] at h
      have h1 := desc_tips_aux k H h.1
      have h2 := descL_tipsL_aux rest H h.2
      simp only [descL, tipsL]
      rw [Nat.add_mul]
      omega
end

theorem tipsL_pos (ks : List Tree) (h : descL ks ≠ 0) : 1 ≤ tipsL ks :=
  Nat.pos_of_ne_zero fun hz => by
    have := descL_tipsL_aux ks _ (Nat.le_refl _)
    rw [hz, Nat.zero_mul] at this
    omega

/-- The marked set consists of `tips` root-to-tip paths, each at most
`height + 1` nodes long. -/
theorem desc_tips_bound (u : Tree) (H : Nat) (hH : height u < H) : desc u ≤ tips u * H :=
  desc_tips_aux u H hH

/-- The number of maximal unmarked subtrees (reuse candidates of the
re-parse) is at most `1 + (marked paths) · (depth + 1) · (fan-out)` — whatever the number of nodes
of the tree. -/
theorem reuse_candidates_bound (u : Tree) :
    front u ≤ 1 + tips u * (height u + 1) * maxFan u := by
  have h1 := front_desc_bound u (maxFan u) (Nat.le_refl _)
  have h2 := desc_tips_bound u (height u + 1) (by omega)
  have h3 : desc u * maxFan u ≤ tips u * (height u + 1) * maxFan u := Nat.mul_le_mul_right _ h2
  omega

mutual
  theorem clean_sub : ∀ (p : List Nat) (t s : Tree), clean t = true → subtreeAt t p = some s →
      s.data.hasChanges = false
    | [], .mk d ks, s, h, hs => by
      simp only [clean, Bool.and_eq_true, Bool.not_eq_true'] at h
      cases Option.some.inj hs
      exact h.1
    | i :: q, .mk d ks, s, h, hs => by
      simp only [clean, Bool.and_eq_true] at h
      exact cleanL_sub ks i q s h.2 hs
  theorem cleanL_sub : ∀ (ks : List Tree) (i : Nat) (q : List Nat) (s : Tree), cleanL ks = true →
      (match ks[i]? with | some k => subtreeAt k q | none => none) = some s →
      s.data.hasChanges = false
    | [], _, _, _, _, hs => by simp at hs
    | k :: rest, 0, q, s, h, hs => by
      simp only [cleanL, Bool.and_eq_true] at h
      exact clean_sub q k s h.1 hs
    | k :: rest, i + 1, q, s, h, hs => by
      simp only [cleanL, Bool.and_eq_true] at h
      simp only [List.getElem?_cons_succ] at hs
      exact cleanL_sub rest i q s h.2 hs
end

theorem clean_tips : ∀ (t : Tree), clean t = true → tips t = 0 ∧ desc t = 0
  | .mk d ks, h => by
    simp only [clean, Bool.and_eq_true, Bool.not_eq_true'] at h
    simp [tips, desc, h.1]

theorem cleanL_tips : ∀ (ks : List Tree), cleanL ks = true → tipsL ks = 0 ∧ descL ks = 0
  | [], _ => ⟨rfl, rfl⟩
  | k :: rest, h => by
    simp only [cleanL, Bool.and_eq_true] at h
    have h1 := clean_tips k h.1
    have h2 := cleanL_tips rest h.2
    simp [tipsL, descL, h1.1, h1.2, h2.1, h2.2]

theorem noCol_data : ∀ (t : Tree), noCol t = true → t.data.dependsOnColumn = false
  | .mk d ks, h => by
    simp only [noCol, Bool.and_eq_true, Bool.not_eq_true'] at h
    exact h.1

theorem noColL_get : ∀ (ks : List Tree) (i : Nat) (k : Tree), noColL ks = true → ks[i]? = some k → noCol k = true
  | [], _, _, _, h => by simp at h
  | c :: rest, 0, k, hn, h => by
    simp only [noColL, Bool.and_eq_true] at hn
    cases Option.some.inj h
    exact hn.1
  | c :: rest, i + 1, k, hn, h => by
    simp only [noColL, Bool.and_eq_true] at hn
    exact noColL_get rest i k hn.2 h

mutual
  /-- The lowest nodes that reach the window `[S, E]`.  The counted nodes are pairwise unrelated, hence in
  document order, which is what lets the potential bound them; the ends of the marked paths of an edited tree
  are among them (`tips_le_gt`, Props.lean). -/
  def gt (S E : Nat) : Tree → Nat → Nat
    | .mk d ks, off =>
      if reaches (.mk d ks) off S E then (if gtL S E ks off = 0 then 1 else gtL S E ks off) else 0
  def gtL (S E : Nat) : List Tree → Nat → Nat
    | [], _ => 0
    | k :: rest, off => gt S E k off + gtL S E rest (off + k.totalBytes)
end

mutual
  theorem gt_pot (lam S E : Nat) (hSE : S ≤ E) : ∀ (t : Tree) (off : Nat), tiles t = true → maxLa t ≤ lam →
      gt S E t off + pos lam S E off ≤ pos lam S E (off + t.totalBytes) + zeros t
    | .mk d ks, off, ht, hl => by
      simp only [maxLa, Nat.max_le] at hl
      have hk := reaches_pot lam S E hSE (.mk d ks) off hl.1
      unfold gt zeros
      by_cases h0 : gtL S E ks off = 0
      · -- no descendant is counted: the node counts itself if it reaches the window
        rw [if_pos h0]
        exact Nat.le_trans hk (Nat.add_le_add_left (Nat.le_add_right _ _) _)
      · -- otherwise the count is that of the children, which tile the node
        have ih := gtL_pot lam S E hSE ks off (by simp only [tiles, Bool.and_eq_true] at ht; exact ht.2)
          hl.2
        rcases sumTb_tiles d ks ht with he | he
        · subst he; exact absurd rfl h0
        · rw [he] at ih
          rw [if_neg h0]
          split <;> omega
  theorem gtL_pot (lam S E : Nat) (hSE : S ≤ E) : ∀ (ks : List Tree) (off : Nat), tilesL ks = true → maxLaL ks ≤ lam →
      gtL S E ks off + pos lam S E off ≤ pos lam S E (off + sumTb ks) + zerosLst ks
    | [], off, _, _ => by simp [gtL, sumTb, zerosLst]
    | k :: rest, off, ht, hl => by
      simp only [tilesL, Bool.and_eq_true] at ht
      simp only [maxLaL, Nat.max_le] at hl
      have h1 := gt_pot lam S E hSE k off ht.1 hl.1
      have h2 := gtL_pot lam S E hSE rest (off + k.totalBytes) ht.2 hl.2
      simp only [gtL, sumTb, zerosLst]
      rw [← Nat.add_assoc off]
      omega
end

/-- At most `(E − S) + λ + 2` pairwise unrelated nodes of positive width reach the
window; every zero-width node may add one. -/
theorem gt_bound (t : Tree) (S E : Nat) (hSE : S ≤ E) (ht : tiles t = true) :
    gt S E t 0 ≤ (E - S) + maxLa t + 2 + zeros t := by
  have h := gt_pot (maxLa t) S E hSE t 0 ht (Nat.le_refl _)
  rw [pos_of_le _ S E 0 hSE (Nat.zero_le _)] at h
  have := pos_le (maxLa t) S E (0 + t.totalBytes)
  omega

end TsVerif.C12
