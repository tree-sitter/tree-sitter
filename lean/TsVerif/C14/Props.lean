import TsVerif.C14.NoExtraStart
import TsVerif.C14.ScanP
/-!
# C14 — The generated lexer implements the documented token disambiguation rules

Property text: "At each position the generated lexer returns the token chosen by the documented
rules among the tokens valid in the current parse state: higher lexical precedence first, then the
longest match of the token's regular expression, then string literals over patterns, then earlier
definition in the grammar. With a word token declared, a keyword is recognised only when the whole
word equals it, and extras are skipped between tokens."

Clause map — each phrase of the property text → theorems, with the status
  [P]  proved for the model, for ALL token sets / valid sets / inputs (no hypothesis)
  [Ph] proved under a hypothesis that is stated and, where decidable, evaluated by the check
  [T]  tie: the model function is compared with the REAL generated lexer (correspondence, sampled token sets × inputs)
  [J]  judged only: a Lean judge evaluates the clause on real outputs, no ∀-theorem about the implementation

1. "the token's regular expression" (what a match is)
   [P] `deriv_correct` — `matchesB r w ↔ Matches r w`: the derivative matcher decides the denotational semantics
       (classes incl. negated, concatenation, alternation, `*`, derived `+ ? {m,n}`, literals).
   [T] Unicode property classes, case-insensitive flags and large character sets are expanded by the explorer into
       ranges with the generator's own tables before they reach the model (harness/src/bin/c14.rs); trusted, see notes.
2. "the token chosen by the documented rules … higher lexical precedence first, then the longest match …, then string
   literals over patterns, then earlier definition"
   [P] `refToken_spec` — the documented choice is a valid matching candidate, at least as good as every candidate in the
       order `Better`, and the ONLY such candidate; `refToken_rules` — the four rules one by one (plus the undocumented
       immediate-token tie-break, DIFFERENCE 3); `refToken_none` — no token iff no valid token matches a non-empty prefix.
3. "At each position the generated lexer returns [that token]"
   [P] `lexScan_sound` — whatever the model of the generated lexer's scan returns is a valid matching candidate and the
       documented choice among the candidates of the same length.
   [P] `lexScan_vs_refToken` — for ARBITRARY precedences: the scan returns the documented choice OR a strictly longer token
       of strictly lower precedence (DIFFERENCE 1, the only possible deviation); `lexScan_none_iff`;
       `lexScan_eq_refToken_iff`; `lexScan_eq_refToken_of_longest`.
   [Ph] `lexScan_flat` — hypothesis `FlatPrec` (all valid tokens share one precedence): `lexScan = refToken` everywhere.
   [P] `lexScanP_eq_lexScan` — precedences INSIDE a token (`Token.alts`, `scanP`): without them `lexScanP` is `lexScan`;
       with them the documentation is silent, such sets are only tied [T], not judged against `refToken`.
   [T] real lexer = `lexScan` / `lexScanP` on every token of every sampled input (leaf sequences of real parses; keyword
       sets through `withKeywordsIn`); [J] real lexer vs `refToken` with every difference classified — two classes are
       KNOWN FINDINGS (lower-precedence overtake = DIFFERENCE 1; merged-lex-state continuation leak = DIFFERENCE 4).
   NOT proved: the generated C lexer / `build_lex_table` itself is not modelled; 3 is about the model `lexScan` and tied by [T].
4. "among the tokens valid in the current parse state"
   [P] every theorem is parametric in `valid : Nat → Bool`; `validAt` removes immediate tokens after skipped extras.
   [J] two-mode grammars: per lexing step the valid set is read from the REAL look-ahead iterator of the real parse state
       (parse log), and the real token is judged against `refToken` with that set; known finding: through merged lex states
       a token that is not valid in the state can win (a repair was prototyped, fixes/proposed/C14-merged-lex-state-continuation.diff; not integrated: it changes the tables of existing grammars).
5. "extras are skipped between tokens"
   [P] `tokenize_spec` — the reference tokenization satisfies `Tokenized`: before every token exactly the maximal run of
       extras is skipped (the token starts at a non-extra character), the token is the chooser's answer at that position,
       is non-empty, and after the last token only extras remain; `tokenize_increasing`; `refTokenize_progress` (no fuel
       effects).  [T] real leaf positions = reference token positions.
   Tokens that can BEGIN with a character that is also an extra (a line-break token next to /\s/ extras; TsVerif/C14/Sep.lean):
   skipping and matching interleave in ONE automaton; `sepScan` is a code-shaped port of what `populate_state` /
   `prefer_transition` do with separator transitions.
   [P] `sepStep_cut_pure_separator` / `sepScan_cut_pure_separator` — rule A: in a state that has completed a token of
       precedence ≥ 0, a character only the separator loop can take ends the scan: the completed token is returned before
       further extras are skipped;  `sepStep_skip` — a pure separator transition moves the token start (SKIP).
   [T] real lexer = `tokenizeSep` on every string of every such set (10 sets / ~130 000 strings per quick run), and
       `tokenizeSep` = `skipExtras` + `lexScan` on every string of the sets WITHOUT such tokens (~296 000 strings per run).
   [Ph] the latter is also a theorem (TsVerif/C14/NoExtraStart.lean), hypothesis `NoExtraStart` (the derivative of every token by
       every extras character is the empty regex — the Bool the driver evaluates, `noExtraStartB_sound`):
       `lexOneSep_eq_skip_lexScan` (one lexing step: same token, start = number of leading extras, same end),
       `sepAtEof_eq` (end of input accepted iff only extras remain), `tokenizeSep_eq_tokenizeAux` /
       `tokenizeSep_eq_refTokenize` (whole tokenizations, every fuel); non-vacuity `arith_noExtraStart` (zoo/arith token set);
       counter-example without the hypothesis: /b+/, `"  "`, input `b␣` (the `sepeof` finding).  [J] `skippedToken`: walking the REAL tokens, no skipped position is the start of a valid
       token; `overlapDeviation`: first deviation from the documented reading (skip extras up to the first position where
       a token matches) — two classes are KNOWN FINDINGS (`sepeof`: trailing extras rejected after a partial token;
       `sepabsorb`: a token's extent includes extras), anything else is a violation.
6. "With a word token declared, a keyword is recognised only when the whole word equals it"
   [P] `keyword_whole_word` (only-if: a keyword is returned only when the main lexer matched the word token and the keyword
       lexer matched exactly the same characters), `keyword_matches_word`, `keyword_recognised` (if), per parse state:
       `keyword_in_state`, `keyword_not_ok_stays_word` (reserved words / keywords not valid in the state).
   [T] keyword sets of the real language (accept sets of `ts_lex_keywords`, read tolerantly from parser.c) vs the model.
   [J] WHICH tokens the generator makes keywords is part of which token wins (`identify_keywords`); it is not modelled, the
       model takes the real keyword set as input.  Judged on it: `shadowedKeyword` — no keyword is shadowed by a String
       keyword that is preferred on a text both match (it could never be returned by the keyword lexer and must stay in the
       main lexer); and per failed parse `wholeWordRejected` — the lexer returned a token without an action in the state
       although a token with an action there matches exactly the whole word (reserved words excepted: that rejection is
       their documented meaning).

DIFFERENCES between the documented order and the generated lexer (the correspondence check
compares the real lexer with `lexScan`, and counts how often `lexScan` and `refToken` differ):
1. `build_lex_table::populate_state` builds ONE DFA for all valid tokens.  In a DFA state that
   completes a token of precedence `P`, an outgoing transition is kept iff its precedence — the
   MAXIMUM over all tokens that can take it (`NfaCursor::group_transitions`) — is ≥ `P`
   (`prefer_transition`).  So a longer match of a lower-precedence token is cut when nothing of
   precedence ≥ `P` can continue (this agrees with "higher precedence first"), but it SURVIVES when
   some token of precedence ≥ `P` can continue on the same character, even if that token never
   completes; the lexer then returns the longer lower-precedence token.  `overtake_witness` below
   is such an input: the documented order picks the precedence-1 token, the scan (and the real
   lexer) the longer precedence-0 token.
2. the cut-off uses the completion of the CURRENT DFA state only: after a state with no completion
   the scan goes on whatever was completed earlier.
3. implicit precedence: String 2, RegExp 0, and `token.immediate(…)` adds 1 (`get_implicit_precedence`):
   at equal precedence and length an immediate token beats a non-immediate one of the same kind even
   when it is defined later (undocumented; modelled in `keyOf`, spelled out in `refToken_rules`);
   "String over RegExp" is unaffected (3, 2 > 1, 0).
4. (context-aware lexing) every theorem is parametric in the valid-token predicate; the check
   instantiates it with the valid set of the real parse state (from the parse table) in two-mode
   grammars.  With merged lex states the generated lexer may return a token that is NOT valid in the
   current state.  When the input cannot be continued to a sentence anyway this is harmless and not
   judged; when a valid sentence is rejected because of it, it is a violation — two classes are known
   findings (through the overtake of DIFFERENCE 1, and `C14-merged-lex-state-continuation-leak`:
   `compute_conflict_status` does not see that a longer token of another state matches a continuation
   of a completed token that is itself still alive; a prototyped repair is in fixes/proposed/, not integrated).
5. only error-free parses are compared token by token; when the reference finds no token at some
   position the real parser must report an error, and vice versa.
-/
namespace TsVerif.C14
open Regex

theorem deriv_correct (r : Regex) (w : List Nat) : matchesB r w = true ↔ Matches r w :=
  Regex.deriv_correct r w

theorem refToken_spec (toks : List Token) (valid : Nat → Bool) (input : List Nat) (b : Cand)
    (h : refToken toks valid input = some b) :
    IsCand toks valid input b ∧
    (∀ c, IsCand toks valid input c → Better (keyOf toks b) (keyOf toks c)) ∧
    (∀ b', IsCand toks valid input b' → (∀ c, IsCand toks valid input c → Better (keyOf toks b') (keyOf toks c)) → b' = b) := by
  obtain ⟨hm, hbest⟩ := (bestOf_spec toks _).2 b h
  have hcand := (mem_candidates toks valid input b).1 hm
  have hall : ∀ c, IsCand toks valid input c → Better (keyOf toks b) (keyOf toks c) :=
    fun c hc => hbest c ((mem_candidates toks valid input c).2 hc)
  refine ⟨hcand, hall, ?_⟩
  intro b' hb' hbest'
  exact keyOf_inj toks (Better.antisymm (hbest' b hcand) (hall b' hb'))

theorem refToken_none (toks : List Token) (valid : Nat → Bool) (input : List Nat) :
    refToken toks valid input = none ↔ ∀ c, ¬ IsCand toks valid input c := by
  unfold refToken
  rw [(bestOf_spec toks _).1, List.eq_nil_iff_forall_not_mem]
  exact forall_congr' fun c => not_congr (mem_candidates toks valid input c)

/-- The conjuncts in order: rule 1 (precedence), rule 2 (length), rule 3 (String over RegExp), the immediate-token
tie-break of DIFFERENCE 3, rule 4 (earlier definition). -/
theorem refToken_rules (toks : List Token) (valid : Nat → Bool) (input : List Nat) (b c : Cand)
    (h : refToken toks valid input = some b) (hc : IsCand toks valid input c) :
    let tb := tokAt toks b.1; let tc := tokAt toks c.1
    tc.prec ≤ tb.prec ∧
    (tc.prec = tb.prec → c.2 ≤ b.2) ∧
    (tc.prec = tb.prec → c.2 = b.2 → tc.isString = true → tb.isString = true) ∧
    (tc.prec = tb.prec → c.2 = b.2 → tc.isString = tb.isString → tc.immediate = true → tb.immediate = true) ∧
    (tc.prec = tb.prec → c.2 = b.2 → tc.isString = tb.isString → tc.immediate = tb.immediate → b.1 ≤ c.1) := by
  have hb := (refToken_spec toks valid input b h).2.1 c hc
  simp only [Better, keyOf] at hb
  have ib : (if (tokAt toks b.1).immediate = true then 1 else 0 : Nat) ≤ 1 := by split <;> omega
  have ic : (if (tokAt toks c.1).immediate = true then 1 else 0 : Nat) ≤ 1 := by split <;> omega
  have sb : (if (tokAt toks b.1).isString = true then 2 else 0 : Nat) = 0 ∨ (if (tokAt toks b.1).isString = true then 2 else 0 : Nat) = 2 := by split <;> omega
  refine ⟨by omega, fun h1 => by omega, ?_, ?_, ?_⟩
  · intro h1 h2 h3
    rw [h3] at hb
    by_cases hs : (tokAt toks b.1).isString = true
    · exact hs
    · simp only [hs] at hb
      simp only [Bool.false_eq_true, if_false, if_true] at hb
      omega
  · intro h1 h2 h3 h4
    rw [h3, h4] at hb
    by_cases hs : (tokAt toks b.1).immediate = true
    · exact hs
    · simp only [hs] at hb
      simp only [Bool.false_eq_true, if_false, if_true] at hb
      omega
  · intro h1 h2 h3 h4
    rw [h3, h4] at hb
    omega

theorem lexScan_sound (toks : List Token) (valid : Nat → Bool) (input : List Nat) (c : Cand)
    (h : lexScan toks valid input = some c) :
    IsCand toks valid input c ∧
    ∀ j, IsCand toks valid input (j, c.2) → Better (keyOf toks c) (keyOf toks (j, c.2)) :=
  lexScan_ok toks valid input c h

/-- for ANY precedences.  If the documented rules choose `b`, the scan returns
some `c`, and either `c = b` or `c` is STRICTLY LONGER and of STRICTLY LOWER precedence than `b`
(DIFFERENCE 1, "overtake") — no other kind of deviation exists.  Reason: the token of `b` has maximal
precedence among all candidates and stays alive up to `b`'s length, so the all-or-nothing cut-off
cannot fire before that length (`scan_reaches`); at that length the scan holds the documented
choice; afterwards its answer can only be replaced by longer completions (`scan_some`). -/
theorem lexScan_vs_refToken (toks : List Token) (valid : Nat → Bool) (input : List Nat) (b : Cand)
    (h : refToken toks valid input = some b) :
    ∃ c, lexScan toks valid input = some c ∧
      (c = b ∨ (b.2 < c.2 ∧ (tokAt toks c.1).prec < (tokAt toks b.1).prec)) := by
  obtain ⟨hb, hbest, _⟩ := refToken_spec toks valid input b h
  have htop : ∀ c, IsCand toks valid input c → (tokAt toks c.1).prec ≤ (tokAt toks b.1).prec := by
    intro c hc
    have := hbest c hc
    simp only [Better, keyOf] at this
    omega
  obtain ⟨c, hc, hle⟩ := scan_reaches toks valid input b hb (fun c hc _ => htop c hc) input _ 0 none none
    rfl rfl nofun (fun hle => by have := hb.pos; omega)
  refine ⟨c, hc, ?_⟩
  obtain ⟨hcc, hsame⟩ := lexScan_sound toks valid input c hc
  have hbc := hbest c hcc
  by_cases hlen : c.2 = b.2
  · have hcb := hsame b.1 (hlen ▸ hb)
    rw [hlen] at hcb
    exact .inl (keyOf_inj toks (Better.antisymm hcb hbc))
  · simp only [Better, keyOf] at hbc
    exact .inr ⟨by omega, by omega⟩

theorem lexScan_none_iff (toks : List Token) (valid : Nat → Bool) (input : List Nat) :
    lexScan toks valid input = none ↔ refToken toks valid input = none := by
  constructor
  · intro hs
    cases hr : refToken toks valid input with
    | none => rfl
    | some b =>
      obtain ⟨c, hc, _⟩ := lexScan_vs_refToken toks valid input b hr
      rw [hs] at hc; cases hc
  · intro hr
    have hno := (refToken_none toks valid input).1 hr
    cases hs : lexScan toks valid input with
    | none => rfl
    | some c => exact absurd (lexScan_sound toks valid input c hs).1 (hno c)

/-- when all valid tokens have the same lexical precedence the cut-off can never
fire and the generated lexer's scan returns exactly the documented choice (longest match, then
String over RegExp, then rule order). -/
theorem lexScan_flat (toks : List Token) (valid : Nat → Bool) (input : List Nat) (p : Int)
    (hflat : FlatPrec toks valid p) : lexScan toks valid input = refToken toks valid input := by
  cases hr : refToken toks valid input with
  | none => exact (lexScan_none_iff toks valid input).2 hr
  | some b =>
    obtain ⟨c, hc, rfl | ⟨_, hlt⟩⟩ := lexScan_vs_refToken toks valid input b hr
    · exact hc
    · -- a longer answer would have strictly lower precedence
      have hb := (refToken_spec toks valid input b hr).1
      have hcc := (lexScan_sound toks valid input c hc).1
      rw [hflat c.1 hcc.lt hcc.isValid, hflat b.1 hb.lt hb.isValid] at hlt
      exact absurd hlt (Int.lt_irrefl p)

theorem lexScan_eq_refToken_iff (toks : List Token) (valid : Nat → Bool) (input : List Nat) (b : Cand)
    (h : refToken toks valid input = some b) :
    lexScan toks valid input = some b ↔ ∀ c, lexScan toks valid input = some c → c.2 ≤ b.2 := by
  constructor
  · intro hs c hc; rw [hs] at hc; cases hc; exact Nat.le_refl _
  · intro hall
    obtain ⟨c, hc, hor⟩ := lexScan_vs_refToken toks valid input b h
    rcases hor with rfl | ⟨hlt, _⟩
    · exact hc
    · have := hall c hc; omega

/-- sufficient condition in terms of candidates only: when no candidate is longer than the documented
choice (in particular when all candidates have one precedence, or when the highest-precedence
candidate is also a longest one) the scan returns the documented choice. -/
theorem lexScan_eq_refToken_of_longest (toks : List Token) (valid : Nat → Bool) (input : List Nat) (b : Cand)
    (h : refToken toks valid input = some b) (hlong : ∀ c, IsCand toks valid input c → c.2 ≤ b.2) :
    lexScan toks valid input = some b :=
  (lexScan_eq_refToken_iff toks valid input b h).2 fun c hc => hlong c (lexScan_sound toks valid input c hc).1

/-- the scan with precedences INSIDE tokens (`scanP`: the transitions
of an alternative carry that alternative's precedence, the completed token its own) is the scan of all
the theorems above whenever no token has inner precedences — so those theorems describe `lexScanP`
on every ordinary token set, and `lexScanP` is what the check compares the real lexer with when a
set does contain `token(choice(prec(p1, …), prec(p2, …)))`. -/
theorem lexScanP_eq_lexScan (toks : List Token) (valid : Nat → Bool) (hU : ∀ i, (tokAt toks i).alts = [])
    (input : List Nat) : lexScanP toks valid input = lexScan toks valid input := by
  unfold lexScanP lexScan
  have hrs : toks.map (fun t => (altsOf t).map (·.2)) = (toks.map (·.re)).map (fun r => [r]) := by
    rw [List.map_map]
    apply List.map_congr_left
    intro t ht
    obtain ⟨i, hi, rfl⟩ := List.getElem_of_mem ht
    have := hU i
    simp only [tokAt, List.getD_eq_getElem?_getD, List.getElem?_eq_getElem hi, Option.getD_some] at this
    simp [altsOf, this]
  rw [hrs]
  exact scanP_eq_scan toks valid hU input _ 0 none none

/-- any fuel above the input length gives the same answer, i.e. the
tokenizer never stops for lack of fuel (each step consumes at least one character). -/
theorem refTokenize_progress (choose : Nat → List Nat → Option Cand) (isExtra : Nat → Bool) (input : List Nat)
    (fuel : Nat) (h : input.length < fuel) :
    tokenizeAux choose isExtra fuel 0 input = refTokenize choose isExtra input :=
  tokenizeAux_fuel choose isExtra fuel (input.length + 1) 0 input h (Nat.lt_succ_self _)

def Increasing : Nat → List (Nat × Nat × Nat) → Prop
  | _, [] => True
  | pos, (_, s, e) :: rest => pos ≤ s ∧ s < e ∧ Increasing e rest

theorem tokenize_increasing (choose : Nat → List Nat → Option Cand) (isExtra : Nat → Bool) :
    ∀ (fuel pos : Nat) (input : List Nat) (ts : List (Nat × Nat × Nat)),
      tokenizeAux choose isExtra fuel pos input = some ts → Increasing pos ts := by
  intro fuel
  induction fuel with
  | zero => intro pos input ts h; cases h
  | succ f ih =>
    intro pos input ts h
    rcases tokenizeAux_some h rfl rfl with ⟨_, rfl⟩ | ⟨i, n, ts', _, hn, _, hts, rfl⟩
    · trivial
    · exact ⟨by omega, by omega, ih _ _ _ hts⟩

/-- what a correct tokenization of the remaining input `rem` (starting at absolute position `pos`)
is: before every token a (possibly empty) run of extras — ALL of them, the token starts at a
non-extra character —, the token is the chooser's answer at exactly that position (told how many
extras were skipped), it is non-empty, and the rest is tokenized from its end; after the last token
only extras remain. -/
def Tokenized (choose : Nat → List Nat → Option Cand) (isExtra : Nat → Bool) :
    List Nat → Nat → List (Nat × Nat × Nat) → Prop
  | rem, _, [] => rem.all isExtra = true
  | rem, pos, (i, s, e) :: rest =>
    ∃ gap tail, rem = gap ++ tail ∧ gap.all isExtra = true ∧ (∃ c t, tail = c :: t ∧ isExtra c = false) ∧
      s = pos + gap.length ∧ s < e ∧ choose gap.length tail = some (i, e - s) ∧
      Tokenized choose isExtra (tail.drop (e - s)) e rest

/-- whatever the reference tokenizer returns is a correct tokenization in the sense
of `Tokenized` — extras (and only extras) are skipped between tokens, and each token is the
chooser's (i.e. `refToken`'s / `lexScan`'s with the state's valid set) answer at its position. -/
theorem tokenize_spec (choose : Nat → List Nat → Option Cand) (isExtra : Nat → Bool) :
    ∀ (fuel pos : Nat) (input : List Nat) (ts : List (Nat × Nat × Nat)),
      tokenizeAux choose isExtra fuel pos input = some ts → Tokenized choose isExtra input pos ts := by
  intro fuel
  induction fuel with
  | zero => intro pos input ts h; cases h
  | succ f ih =>
    intro pos input ts h
    obtain ⟨gap, hsplit, hgap, htail⟩ := skipExtras_split isExtra input
    have hlen : input.length - (skipExtras isExtra input).length = gap.length := by
      have := skipExtras_gap isExtra hsplit
      omega
    rcases tokenizeAux_some h rfl hlen with ⟨hnil, rfl⟩ | ⟨i, n, ts', hne, hn, hch, hts, rfl⟩
    · rw [hnil, List.append_nil] at hsplit
      show input.all isExtra = true
      rw [hsplit]; exact hgap
    · have hn' : pos + gap.length + n - (pos + gap.length) = n := by omega
      refine ⟨gap, skipExtras isExtra input, hsplit, hgap, htail.resolve_left hne, rfl, by omega, ?_, ?_⟩
      · rw [hn']; exact hch
      · rw [hn']; exact ih _ _ _ hts

/-- the "if" direction of clause 6: when the whole word equals a keyword that is acceptable in the state,
the keyword is returned -/
theorem keyword_recognised (main kw : List Nat → Option Cand) (word : Nat) (ok : Nat → Bool) (input : List Nat)
    (n k : Nat) (hm : main input = some (word, n)) (hk : kw input = some (k, n)) (hok : ok k = true) :
    withKeywordsIn main kw word ok input = some (k, n) ∧ withKeywords main kw word input = some (k, n) := by
  simp [withKeywordsIn, withKeywords, hm, hk, hok]

/-- in a parse state, a keyword `i` replaces the word token only when the main lexer
returned the word token, the keyword lexer (all keywords) matched exactly the same `n` characters, and
the keyword is valid or reserved in that state (`ok`); otherwise the main lexer's answer stands.  In
particular a keyword that is neither valid nor reserved in the state is lexed as the word token. -/
theorem keyword_in_state (main kw : List Nat → Option Cand) (word : Nat) (ok : Nat → Bool) (input : List Nat)
    (i n : Nat) (h : withKeywordsIn main kw word ok input = some (i, n)) :
    main input = some (i, n) ∨ (main input = some (word, n) ∧ kw input = some (i, n) ∧ ok i = true) := by
  unfold withKeywordsIn at h
  split at h
  next j m hm =>
    split at h
    next hj =>
      split at h
      next k l hk =>
        split at h
        next hl =>
          cases h
          exact .inr ⟨hj ▸ hm, hl.1 ▸ hk, hl.2⟩
        · cases h; exact .inl hm
      · cases h; exact .inl hm
    · cases h; exact .inl hm
  · cases h

/-- with keyword extraction, a keyword `i` is returned only when the main lexer
matched the word token with some length `n` and the keyword lexer matched exactly those `n`
characters (the whole word); in every other case the main lexer's answer stands. -/
theorem keyword_whole_word (main kw : List Nat → Option Cand) (word : Nat) (input : List Nat) (i n : Nat)
    (h : withKeywords main kw word input = some (i, n)) :
    main input = some (i, n) ∨ (main input = some (word, n) ∧ kw input = some (i, n)) := by
  have hw : withKeywords main kw word input = withKeywordsIn main kw word (fun _ => true) input := by
    simp only [withKeywords, withKeywordsIn, and_true]
  rw [hw] at h
  exact (keyword_in_state main kw word _ input i n h).imp id fun h => ⟨h.1, h.2.1⟩

/-- with the scan as keyword lexer the returned keyword really matches the whole word -/
theorem keyword_matches_word (toks : List Token) (validKw : Nat → Bool) (main : List Nat → Option Cand)
    (word : Nat) (input : List Nat) (i n : Nat)
    (h : withKeywords main (lexScan toks validKw) word input = some (i, n)) (hne : main input ≠ some (i, n)) :
    main input = some (word, n) ∧ validKw i = true ∧ Matches (tokAt toks i).re (input.take n) := by
  rcases keyword_whole_word _ _ _ _ _ _ h with h1 | ⟨h1, h2⟩
  · exact absurd h1 hne
  · have := (lexScan_sound toks validKw input (i, n) h2).1
    exact ⟨h1, this.isValid, this.matches⟩

theorem keyword_not_ok_stays_word (main kw : List Nat → Option Cand) (word : Nat) (ok : Nat → Bool) (input : List Nat)
    (n k : Nat) (hm : main input = some (word, n)) (hk : kw input = some (k, n)) (hok : ok k = false) :
    withKeywordsIn main kw word ok input = some (word, n) := by
  simp [withKeywordsIn, hm, hk, hok]

/-- tokens over `a`=97 `b`=98: 0 = "a" (String), 1 = /a+/ , 2 = /[ab]+/ with precedence 0 -/
def exToks : List Token :=
  [ (Token.mk4 (lit [97]) 0 true false), (Token.mk4 (plus (chr 97)) 0 false false), (Token.mk4 (plus (.cls [(97, 98)] false)) 0 false false) ]

example : matchesB (rep (chr 97) 1 2) [97, 97] = true := by decide
example : Matches (plus (chr 97)) [97, 97] := (deriv_correct _ _).1 (by decide)
example : refToken exToks (fun _ => true) [97] = some (0, 1) := by decide        -- String over RegExp
example : refToken exToks (fun _ => true) [97, 97, 98] = some (2, 3) := by decide  -- longest match
example : refToken exToks (fun i => i != 2) [97, 97, 98] = some (1, 2) := by decide  -- only valid tokens
example : lexScan exToks (fun _ => true) [97, 97, 98] = some (2, 3) := by decide
example : FlatPrec exToks (fun _ => true) 0 := by
  intro i hi _
  have : i = 0 ∨ i = 1 ∨ i = 2 := by simp [exToks] at hi; omega
  rcases this with rfl | rfl | rfl <;> rfl
example : refTokenize (fun _ => refToken exToks (fun _ => true)) (fun c => c == 32) [97, 32, 97, 97, 32, 98] =
    some [(0, 0, 1), (1, 2, 4), (2, 5, 6)] := by decide

/-- immediate tokens: 0 = "a", 1 = immediate "b".  `ab` is two tokens, in `a b` the blank rules the
immediate token out, so no token is found after the blank. -/
def immToks : List Token := [ (Token.mk4 (lit [97]) 0 true false), (Token.mk4 (lit [98]) 0 true true) ]
example : refTokenize (fun off => refToken immToks (validAt immToks (fun _ => true) off)) (fun c => c == 32) [97, 98] =
    some [(0, 0, 1), (1, 1, 2)] := by decide
example : refTokenize (fun off => refToken immToks (validAt immToks (fun _ => true) off)) (fun c => c == 32) [97, 32, 98] =
    none := by decide

/-- DIFFERENCE 1 witness.  0 = "a" with precedence 1, 1 = "abX" with precedence 1 (X = `d`),
2 = /ab+/ with precedence 0; input `abb`.  The documented order takes the precedence-1 token "a";
the scan (like the generated lexer, see corpus/c14.txt) returns the longer precedence-0 token,
because the transition on `b` is shared with the precedence-1 token "abd". -/
def overtakeToks : List Token :=
  [ (Token.mk4 (lit [97]) 1 true false), (Token.mk4 (lit [97, 98, 100]) 1 true false), (Token.mk4 (.seq (chr 97) (plus (chr 98))) 0 false false) ]
theorem overtake_witness :
    refToken overtakeToks (fun _ => true) [97, 98, 98] = some (0, 1) ∧
    lexScan overtakeToks (fun _ => true) [97, 98, 98] = some (2, 3) := by decide

/-- word token 1 = /[a-z]+/ , keyword 0 = "if": `if ` gives the keyword, `ifx` the word -/
def kwToks : List Token := [ (Token.mk4 (lit [105, 102]) 0 true false), (Token.mk4 (plus (.cls [(97, 122)] false)) 0 false false) ]
example : withKeywords (lexScan kwToks (fun i => i == 1)) (lexScan kwToks (fun i => i == 0)) 1 [105, 102, 32] = some (0, 2) := by decide
example : withKeywords (lexScan kwToks (fun i => i == 1)) (lexScan kwToks (fun i => i == 0)) 1 [105, 102, 120] = some (1, 3) := by decide

end TsVerif.C14
