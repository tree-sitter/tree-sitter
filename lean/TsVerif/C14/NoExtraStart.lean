import TsVerif.C14.Scan
import TsVerif.C14.Tokenize
import TsVerif.C14.Sep
/-!
# C14 — the separator-aware scan is "skip the extras, then `lexScan`" when no token can begin with an extras character

`NoExtraStart toks isExtra`: the derivative of every token's regex by every extras character is the
(syntactically) empty regex — the condition the driver evaluates (`overlapsExtras`, negated) to decide
which model a token set is lexed with.

The proof follows the automaton through two phases: while it reads leading extras every step is a pure
separator transition (`SkipInv`, `skip_step`); from the first other character on the separator loop is
dead and a step of `sepScan` is a step of `scan` on the same live tokens (`SimRel`, `sepScan_sim`).
-/
namespace TsVerif.C14
open Regex

def NoExtraStart (toks : List Token) (isExtra : Nat → Bool) : Prop :=
  ∀ i, i < toks.length → ∀ c, isExtra c = true → (deriv c (tokAt toks i).re).isEmpty = true

/-- a `lexScan` answer relative to the input after `d` skipped extras, as `(token, start, end)` -/
def liftC (d : Nat) : Option Cand → Option (Nat × Nat × Nat)
  | none => none
  | some (i, n) => some (i, d, d + n)

/-- Threads `B` of the separator-aware automaton against threads `L` of `scan`, which runs with the valid set `valid'`
(at the use site `validAt toks valid d`: immediate tokens dropped after `d > 0` skipped extras).  A token valid for
`scan` has the same thread on both sides; one that is not — an immediate token after skipped extras — is an invalid
token for `scan` but a DEAD THREAD (never started, `.empty`) for `sepScan`: hence the disjunction. -/
def SimRel (toks : List Token) (valid valid' : Nat → Bool) (B L : List Regex) : Prop :=
  ∀ i, i < toks.length →
    (valid' i = true → valid i = true ∧ B.getD i .empty = L.getD i .empty) ∧
    (valid' i = false → valid i = false ∨ B.getD i .empty = .empty)

theorem SimRel.deriv {toks : List Token} {valid valid' : Nat → Bool} {B L : List Regex}
    (h : SimRel toks valid valid' B L) (c : Nat) : SimRel toks valid valid' (B.map (deriv c)) (L.map (deriv c)) := by
  intro i hi
  obtain ⟨h1, h2⟩ := h i hi
  rw [getD_map_deriv, getD_map_deriv]
  exact ⟨fun hv => ⟨(h1 hv).1, by rw [(h1 hv).2]⟩, fun hv => (h2 hv).imp_right fun h => by rw [h]; rfl⟩

theorem aliveIdx_sim {toks : List Token} {valid valid' : Nat → Bool} {B L : List Regex}
    (h : SimRel toks valid valid' B L) : aliveIdx toks valid B = aliveIdx toks valid' L := by
  unfold aliveIdx
  apply List.filter_congr
  intro i hi
  obtain ⟨h1, h2⟩ := h i (List.mem_range.1 hi)
  cases hv : valid' i with
  | true => obtain ⟨a, b⟩ := h1 hv; simp only [a, b]
  | false =>
    rcases h2 hv with h | h
    · simp only [h, Bool.false_and]
    · simp only [h, isEmpty, Bool.not_true, Bool.and_false, Bool.false_and]

theorem comps_sim {toks : List Token} {valid valid' : Nat → Bool} {B L : List Regex}
    (h : SimRel toks valid valid' B L) :
    (aliveIdx toks valid' L).filter (fun i => nullable (B.getD i .empty)) =
      (aliveIdx toks valid' L).filter (fun i => nullable (L.getD i .empty)) := by
  apply List.filter_congr
  intro i hi
  unfold aliveIdx at hi
  rw [List.mem_filter] at hi
  rw [((h i (List.mem_range.1 hi.1)).1 (Bool.and_eq_true_iff.1 hi.2).1).2]

/-- The second phase as a whole: `d` extras were skipped (the token start), `scan` has read `kl` characters, `st.k = d + kl`.
The side condition: the separator loop is dead, or (first step after the skipped extras) it is still alive but nothing
is completed and the next character is no extra, so the loop cannot take it. -/
theorem sepScan_sim (toks : List Token) (valid valid' : Nat → Bool) (isExtra : Nat → Bool) (d : Nat) :
    ∀ (rest : List Nat) (st : SepSt) (L : List Regex) (kl : Nat) (cur : Option Int) (last : Option Cand),
      SimRel toks valid valid' (sepBase toks st) L →
      (st.sep = false ∨ (st.cur = none ∧ ∀ c r, rest = c :: r → isExtra c = false)) →
      st.k = d + kl → st.start = d → st.cur.map (·.1) = cur → st.last = liftC d last →
      sepScan toks valid isExtra rest st = liftC d (scan toks valid' rest L kl cur last) := by
  intro rest
  induction rest with
  | nil => intro st L kl cur last _ _ _ _ _ hl; exact hl
  | cons c rest ih =>
    intro st L kl cur last hR hC hk hs hcur hl
    have hsepC : (st.sep && isExtra c) = false := by
      rcases hC with h | ⟨_, h⟩
      · simp [h]
      · simp [h c rest rfl]
    have hR' := hR.deriv c
    simp only [sepScan, scan, sepStep_eq, hsepC, aliveIdx_sim hR', comps_sim hR']
    cases hm : maxPrec toks (aliveIdx toks valid' (L.map (deriv c))) with
    | none => simp [maxPrec_none hm, hl]
    | some m =>
      rw [sepCut_eq_cut hm (hC.imp_right And.left), hcur]
      simp only [isEmpty_of_maxPrec hm, Bool.false_and, Bool.false_eq_true, if_false]
      by_cases hc : cut cur m = true
      · simp only [hc, if_true]; exact hl
      · -- the next state has `sep = false`: its base threads are its own threads
        simp only [hc, Bool.false_eq_true, if_false]
        rw [bestOf_len toks (st.k + 1) (kl + 1)]
        have hRn : ∀ (st' : SepSt), st'.sep = false → st'.rs = (sepBase toks st).map (deriv c) →
            SimRel toks valid valid' (sepBase toks st') (L.map (deriv c)) := by
          intro st' hs' hr' i hi
          have := hR' i hi
          rw [sepBase_getD toks st' i hi, hs', hr']
          simpa using this
        cases hb : bestOf toks (((aliveIdx toks valid' (L.map (deriv c))).filter
            (fun i => nullable ((L.map (deriv c)).getD i .empty))).map (fun i => (i, kl + 1))) with
        | none => exact ih _ _ _ _ _ (hRn _ rfl rfl) (Or.inl rfl) (by simp only; omega) hs rfl hl
        | some b =>
          obtain ⟨i, _, rfl⟩ := List.mem_map.1 ((bestOf_spec toks _).2 _ hb).1
          refine ih _ _ _ _ _ (hRn _ rfl rfl) (Or.inl rfl) (by simp only; omega) hs rfl ?_
          simp only [Option.map_some, liftC, hs, hk, Nat.add_assoc]

/-- the states of the first phase: only extras read, every step a pure separator transition -/
structure SkipInv (st : SepSt) : Prop where
  sep : st.sep = true
  rs : ∀ i, st.rs.getD i .empty = .empty
  cur : st.cur = none
  last : st.last = none
  start : st.start = st.k
  eof : st.eofOk = true

theorem SkipInv.init : SkipInv ({} : SepSt) :=
  ⟨rfl, fun i => by simp, rfl, rfl, rfl, rfl⟩

theorem skip_step {toks : List Token} (valid : Nat → Bool) {isExtra : Nat → Bool} (hN : NoExtraStart toks isExtra)
    {st : SepSt} (inv : SkipInv st) {c : Nat} (hx : isExtra c = true) :
    ∃ st', sepStep toks valid isExtra c st = .go st' ∧ SkipInv st' ∧ st'.k = st.k + 1 := by
  -- every thread dies on an extra: the old ones are dead already, a fresh one by `hN`
  have hE : ∀ i, ((sepBase toks st).map (deriv c)).getD i .empty = .empty := by
    intro i
    by_cases hi : i < toks.length
    · rw [getD_map_deriv, sepBase_getD toks st i hi, inv.rs i, inv.sep]
      split
      · have := hN i hi c hx
        rw [mkAlt_empty_left]
        cases h : deriv c (tokAt toks i).re <;> simp [h, isEmpty] at this ⊢
      · rfl
    · simp [List.getD, sepBase, Nat.le_of_not_lt hi]
  have hdead : aliveIdx toks valid ((sepBase toks st).map (deriv c)) = [] := by
    unfold aliveIdx
    rw [List.filter_eq_nil_iff]
    intro i _
    rw [hE i]; simp [isEmpty]
  exact ⟨_, sepStep_sep_only toks valid isExtra c st inv.cur inv.sep hx hdead, ⟨rfl, hE, rfl, inv.last, rfl, inv.eof⟩, rfl⟩

theorem skip_simrel (toks : List Token) (valid : Nat → Bool) {st : SepSt} (inv : SkipInv st) :
    SimRel toks valid (validAt toks valid st.k) (sepBase toks st) (toks.map (·.re)) := by
  intro i hi
  have : (toks.map (·.re)).getD i .empty = (tokAt toks i).re := getD_map_derivs toks [] hi
  rw [sepBase_getD toks st i hi, inv.rs i, inv.sep, this, mkAlt_empty_left]
  cases hv : valid i <;> cases hc : (st.k == 0 || !(tokAt toks i).immediate) <;> simp [validAt, hv, hc]

theorem sepScan_skip {toks : List Token} (valid : Nat → Bool) {isExtra : Nat → Bool} (hN : NoExtraStart toks isExtra) :
    ∀ (input : List Nat) (st : SepSt), SkipInv st →
      sepScan toks valid isExtra input st =
        liftC (st.k + (input.length - (skipExtras isExtra input).length))
          (lexScan toks (validAt toks valid (st.k + (input.length - (skipExtras isExtra input).length)))
            (skipExtras isExtra input)) := by
  intro input
  induction input with
  | nil => intro st inv; simp [sepScan, skipExtras, lexScan, scan, liftC, inv.last]
  | cons c rest ih =>
    intro st inv
    by_cases hx : isExtra c = true
    · obtain ⟨st', hgo, inv', hk'⟩ := skip_step valid hN inv hx
      have hle := skipExtras_length_le isExtra rest
      have harith : st.k + ((c :: rest).length - (skipExtras isExtra rest).length) =
          st'.k + (rest.length - (skipExtras isExtra rest).length) := by
        simp only [List.length_cons]; omega
      simp only [sepScan, hgo]
      rw [skipExtras_cons_extra rest hx, harith]
      exact ih st' inv'
    · rw [skipExtras_cons_non rest hx]
      simp only [Nat.sub_self, Nat.add_zero, lexScan]
      refine sepScan_sim toks valid (validAt toks valid st.k) isExtra st.k (c :: rest) st _ 0 none none
        (skip_simrel toks valid inv) (Or.inr ⟨inv.cur, ?_⟩) rfl inv.start (by rw [inv.cur]; rfl) (by rw [inv.last]; rfl)
      intro c' r h
      cases h
      simpa using hx

/-- For every token list in which no token can begin with an extras character,
every valid predicate and every input: the separator-aware automaton returns `(i, d, d + n)` where `d`
is the number of leading extras and `(i, n)` is what `lexScan` (immediate tokens dropped when `d > 0`)
returns on the input after them — and nothing when `lexScan` returns nothing. -/
theorem lexOneSep_eq_skip_lexScan (toks : List Token) (valid : Nat → Bool) (isExtra : Nat → Bool)
    (hN : NoExtraStart toks isExtra) (input : List Nat) :
    lexOneSep toks valid isExtra input =
      liftC (input.length - (skipExtras isExtra input).length)
        (lexScan toks (validAt toks valid (input.length - (skipExtras isExtra input).length)) (skipExtras isExtra input)) := by
  have := sepScan_skip valid hN input {} SkipInv.init
  simpa [lexOneSep] using this

theorem sepAtEof_skip {toks : List Token} (valid : Nat → Bool) {isExtra : Nat → Bool} (hN : NoExtraStart toks isExtra) :
    ∀ (input : List Nat) (st : SepSt), SkipInv st →
      sepAtEof toks valid isExtra input st = (skipExtras isExtra input).isEmpty := by
  intro input
  induction input with
  | nil => intro st inv; exact inv.eof
  | cons c rest ih =>
    intro st inv
    by_cases hx : isExtra c = true
    · obtain ⟨st', hgo, inv', _⟩ := skip_step valid hN inv hx
      simp only [sepAtEof, hgo]
      rw [skipExtras_cons_extra rest hx]
      exact ih st' inv'
    · rw [skipExtras_cons_non rest hx]
      exact Bool.eq_false_iff.2 fun ht => hx ((sepAtEof_true _ st ht).2 c rest rfl)

theorem sepAtEof_eq (toks : List Token) (valid : Nat → Bool) (isExtra : Nat → Bool)
    (hN : NoExtraStart toks isExtra) (input : List Nat) :
    sepAtEof toks valid isExtra input {} = (skipExtras isExtra input).isEmpty :=
  sepAtEof_skip valid hN input {} SkipInv.init

/-- For every token list in which no token can begin with an extras character,
every valid predicate, fuel, position and input, the separator-aware tokenizer `tokenizeSep` returns
exactly what the reference tokenizer (`skipExtras`, then `lexScan` with immediate tokens dropped after
skipped extras) returns — the same tokens with the same extents, and an error in the same cases. -/
theorem tokenizeSep_eq_tokenizeAux (toks : List Token) (valid : Nat → Bool) (isExtra : Nat → Bool)
    (hN : NoExtraStart toks isExtra) :
    ∀ (f pos : Nat) (input : List Nat),
      tokenizeSep toks valid isExtra f pos input =
        tokenizeAux (fun off => lexScan toks (validAt toks valid off)) isExtra f pos input := by
  intro f
  induction f with
  | zero => intro pos input; rfl
  | succ f ih =>
    intro pos input
    simp only [tokenizeSep, tokenizeAux, lexOne]
    rw [lexOneSep_eq_skip_lexScan toks valid isExtra hN input, sepAtEof_eq toks valid isExtra hN input]
    have hdr := skipExtras_eq_drop isExtra input
    generalize hd : input.length - (skipExtras isExtra input).length = d at hdr ⊢
    by_cases hE : (skipExtras isExtra input).isEmpty = true
    · have h0 : skipExtras isExtra input = [] := List.isEmpty_iff.1 hE
      simp [h0, lexScan, scan, liftC]
    · rw [if_neg hE]
      cases hl : lexScan toks (validAt toks valid d) (skipExtras isExtra input) with
      | none => simp [liftC, hE]
      | some b =>
        obtain ⟨i, n⟩ := b
        have hn : 1 ≤ n := (lexScan_ok _ _ _ _ hl).1.pos
        have hdrop : input.drop (d + n) = (skipExtras isExtra input).drop n := by
          rw [hdr, List.drop_drop]
        have h1 : ¬(d + n = 0 ∨ d + n < d) := by omega
        have h2 : ¬ n = 0 := by omega
        simp only [liftC, h1, h2, if_false, hdrop, ih, Nat.add_assoc]
        rw [if_neg hE]
        cases tokenizeAux (fun off => lexScan toks (validAt toks valid off)) isExtra f (pos + (d + n))
          (List.drop n (skipExtras isExtra input)) <;> rfl

/-- against `refTokenize` (fuel `|input| + 1`).  The driver runs `tokenizeSep` with fuel `|input| + 2`:
`tokenizeSep_eq_tokenizeAux` at that fuel and `tokenizeAux_fuel` give the same right-hand side. -/
theorem tokenizeSep_eq_refTokenize (toks : List Token) (valid : Nat → Bool) (isExtra : Nat → Bool)
    (hN : NoExtraStart toks isExtra) (input : List Nat) :
    tokenizeSep toks valid isExtra (input.length + 1) 0 input =
      refTokenize (fun off => lexScan toks (validAt toks valid off)) isExtra input :=
  tokenizeSep_eq_tokenizeAux toks valid isExtra hN _ _ _

/-- `NoExtraStart` as a Bool over a finite list of extras characters (used for `arith_noExtraStart`; the driver decides
which model a token set is lexed with by its own `overlapsExtras`, not by this function) -/
def noExtraStartB (toks : List Token) (xs : List Nat) : Bool :=
  toks.all (fun t => xs.all (fun c => (deriv c t.re).isEmpty))

theorem noExtraStartB_sound (toks : List Token) (xs : List Nat) (isExtra : Nat → Bool)
    (h : noExtraStartB toks xs = true) (hx : ∀ c, isExtra c = true → c ∈ xs) : NoExtraStart toks isExtra := by
  intro i hi c hc
  have hmem : tokAt toks i ∈ toks := by
    simp [tokAt, List.getD_eq_getElem?_getD, List.getElem?_eq_getElem hi]
  simp only [noExtraStartB, List.all_eq_true] at h
  exact h _ hmem c (hx c hc)

/-- the token set of the zoo grammar `arith` (zoo/arith/grammar.js): number /[0-9]+/, ident /[a-z_][a-z0-9_]*/,
comment /#[^\n]*/ and the literals `+ - * / ^ ( ) , ;`; extras /\s/ -/
def arithToks : List Token :=
  [ Token.mk4 (plus (.cls [(48, 57)] false)) 0 false false,
    Token.mk4 (.seq (.cls [(97, 122), (95, 95)] false) (.star (.cls [(97, 122), (48, 57), (95, 95)] false))) 0 false false,
    Token.mk4 (.seq (chr 35) (.star (.cls [(10, 10)] true))) 0 false false,
    Token.mk4 (lit [43]) 0 true false, Token.mk4 (lit [45]) 0 true false, Token.mk4 (lit [42]) 0 true false,
    Token.mk4 (lit [47]) 0 true false, Token.mk4 (lit [94]) 0 true false, Token.mk4 (lit [40]) 0 true false,
    Token.mk4 (lit [41]) 0 true false, Token.mk4 (lit [44]) 0 true false, Token.mk4 (lit [59]) 0 true false ]

def isWs (c : Nat) : Bool := (decide (9 ≤ c) && decide (c ≤ 13)) || c == 32

/-- non-vacuity: the hypothesis holds for a real token set (the negated class of `comment` included) … -/
theorem arith_noExtraStart : NoExtraStart arithToks isWs := by
  refine noExtraStartB_sound arithToks [9, 10, 11, 12, 13, 32] isWs (by decide) ?_
  intro c hc
  simp only [isWs, Bool.or_eq_true, Bool.and_eq_true, decide_eq_true_eq, beq_iff_eq] at hc
  simp only [List.mem_cons, List.not_mem_nil, or_false]
  omega

/-- … and the common answer is not trivial: `x1 + 42;` → ident 0..2, `+` 3..4, number 5..7, `;` 7..8 -/
example : tokenizeSep arithToks (fun _ => true) isWs 9 0 [120, 49, 32, 43, 32, 52, 50, 59] =
    some [(1, 0, 2), (3, 3, 4), (0, 5, 7), (11, 7, 8)] := by decide
example : tokenizeSep arithToks (fun _ => true) isWs 9 0 [120, 49, 32, 43, 32, 52, 50, 59] =
    refTokenize (fun off => lexScan arithToks (validAt arithToks (fun _ => true) off)) isWs [120, 49, 32, 43, 32, 52, 50, 59] :=
  tokenizeSep_eq_refTokenize arithToks (fun _ => true) isWs arith_noExtraStart [120, 49, 32, 43, 32, 52, 50, 59]

/-- the hypothesis is needed: tokens /b+/ and `"  "` (two blanks) with extras /[ \n]/ (known finding
`C14-trailing-extras-rejected-after-partial-token`): the hypothesis fails, and on `b␣` the separator-aware
tokenizer reports an error where the reference tokenizer returns the token `b` -/
def sepeofToks : List Token := [ Token.mk4 (plus (chr 98)) 0 false false, Token.mk4 (lit [32, 32]) 0 true false ]
def isBlankNl (c : Nat) : Bool := c == 32 || c == 10

example : ¬ NoExtraStart sepeofToks isBlankNl := by
  intro h
  have := h 1 (by decide) 32 (by decide)
  revert this
  decide

example : tokenizeSep sepeofToks (fun _ => true) isBlankNl 3 0 [98, 32] = none ∧
    tokenizeAux (fun off => lexScan sepeofToks (validAt sepeofToks (fun _ => true) off)) isBlankNl 3 0 [98, 32] =
      some [(0, 0, 1)] := by decide

/-- and one lexing step already differs in the token's extent (`sepabsorb`): in `b␣b` after the first `b` the
automaton's second token starts at the blank -/
example : lexOneSep sepeofToks (fun _ => true) isBlankNl [32, 98] = some (0, 0, 2) ∧
    liftC 1 (lexScan sepeofToks (fun _ => true) [98]) = some (0, 1, 2) := by decide

end TsVerif.C14
