import TsVerif.C14.Props
#print axioms TsVerif.C14.deriv_correct
#print axioms TsVerif.C14.refToken_spec
#print axioms TsVerif.C14.refToken_none
#print axioms TsVerif.C14.refToken_rules
#print axioms TsVerif.C14.lexScan_sound
#print axioms TsVerif.C14.lexScan_flat
#print axioms TsVerif.C14.lexScan_vs_refToken
#print axioms TsVerif.C14.lexScan_none_iff
#print axioms TsVerif.C14.lexScan_eq_refToken_iff
#print axioms TsVerif.C14.lexScan_eq_refToken_of_longest
#print axioms TsVerif.C14.lexScanP_eq_lexScan
#print axioms TsVerif.C14.refTokenize_progress
#print axioms TsVerif.C14.tokenize_increasing
#print axioms TsVerif.C14.keyword_whole_word
#print axioms TsVerif.C14.keyword_matches_word
#print axioms TsVerif.C14.keyword_in_state
#print axioms TsVerif.C14.keyword_not_ok_stays_word
#print axioms TsVerif.C14.overtake_witness
#print axioms TsVerif.C14.tokenize_spec
#print axioms TsVerif.C14.keyword_recognised
#print axioms TsVerif.C14.sepStep_cut_pure_separator
#print axioms TsVerif.C14.sepScan_cut_pure_separator
#print axioms TsVerif.C14.sepStep_skip
#print axioms TsVerif.C14.lexOneSep_eq_skip_lexScan
#print axioms TsVerif.C14.sepAtEof_eq
#print axioms TsVerif.C14.tokenizeSep_eq_tokenizeAux
#print axioms TsVerif.C14.tokenizeSep_eq_refTokenize
#print axioms TsVerif.C14.noExtraStartB_sound
#print axioms TsVerif.C14.arith_noExtraStart
