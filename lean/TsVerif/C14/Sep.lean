import TsVerif.C14.Lex
/-!
# C14 — tokens that begin with characters that are also extras

Every token's NFA is `separator* token` (`expand_tokens`), and the lexer runs ONE automaton for
"skip the extras, then match a token".  As long as no token can begin with an extra character this
is the same as `skipExtras` followed by `lexScan` (what `lexOne` does).  When a token CAN begin with
an extra character (a line-break token `/\n/` with `/\s/` among the extras) the two interleave, and
`build_lex_table::populate_state` + `TokenConflictMap::prefer_transition` decide:

* in a state that has completed a token of precedence `P`, the merged transition on the next
  character (precedence = maximum over everything that can take it, separator loop = 0) is dropped when
  its precedence is below `P`; on a tie it is dropped when it is a PURE separator transition (rule A: a
  completed token is returned before more extras are skipped), and, if the separator loop is still
  alive in the state, when it neither continues the separator loop nor the completed token (rule B);
* a pure separator transition is a `SKIP` (the token start moves), every other one an `ADVANCE`.

`sepScan` is that automaton on threads of Brzozowski derivatives (one union of live threads per
token, a flag for the separator loop).  It is compared with the real lexer on every token set in
which some token can begin with an extra character (correspondence), and `sepScan_cut_pure_separator`
/ `sepStep_skip` state rule A and the SKIP rule.
-/
namespace TsVerif.C14
open Regex

structure SepSt where
  /-- the separator loop is alive: every character consumed so far was taken by it as well -/
  sep : Bool := true
  /-- per token: the union of its live threads (a thread starts wherever the separator loop is) -/
  rs : List Regex := []
  /-- characters consumed -/
  k : Nat := 0
  /-- start of the token: after the last pure separator transition -/
  start : Nat := 0
  /-- completion of the current state: precedence and token -/
  cur : Option (Int × Nat) := none
  /-- last accepted token: index, start, end -/
  last : Option (Nat × Nat × Nat) := none
  /-- the end of input is acceptable here: only pure separator transitions so far
  (`add_state(transition.states, eof_valid && transition.is_separator)`) -/
  eofOk : Bool := true
  deriving Inhabited

/-- the threads before a character is read: a fresh thread of every token where the separator loop
is (immediate tokens have no separator prefix: only at the very beginning) -/
def sepBase (toks : List Token) (st : SepSt) : List Regex :=
  (List.range toks.length).map (fun i =>
    let r := st.rs.getD i .empty
    if st.sep && (st.k == 0 || !(tokAt toks i).immediate) then mkAlt r (tokAt toks i).re else r)

inductive SepOut where
  | stop
  | go (st : SepSt)

def sepStep (toks : List Token) (valid : Nat → Bool) (isExtra : Nat → Bool) (c : Nat) (st : SepSt) : SepOut :=
  let rs' := (sepBase toks st).map (deriv c)
  let alive := aliveIdx toks valid rs'
  let sepC := st.sep && isExtra c
  if alive.isEmpty && !sepC then .stop
  else
    let m : Int := match maxPrec toks alive with
      | some m => if sepC then max m 0 else m
      | none => 0
    let sepOnly := alive.isEmpty
    let cutNow := match st.cur with
      | some (P, c0) => decide (m < P) || (m == P && (sepOnly || (st.sep && !(sepC || alive.contains c0))))
      | none => false
    if cutNow then .stop
    else
      let start' := if sepOnly then st.k + 1 else st.start
      let comps := alive.filter (fun i => nullable (rs'.getD i .empty))
      match bestOf toks (comps.map (fun i => (i, st.k + 1))) with
      | some b => .go { sep := sepC, rs := rs', k := st.k + 1, start := start',
                        cur := some ((tokAt toks b.1).prec, b.1), last := some (b.1, start', st.k + 1), eofOk := st.eofOk && sepOnly }
      | none => .go { sep := sepC, rs := rs', k := st.k + 1, start := start', cur := none, last := st.last, eofOk := st.eofOk && sepOnly }

def sepScan (toks : List Token) (valid : Nat → Bool) (isExtra : Nat → Bool) : List Nat → SepSt → Option (Nat × Nat × Nat)
  | [], st => st.last
  | c :: rest, st =>
    match sepStep toks valid isExtra c st with
    | .stop => st.last
    | .go st' => sepScan toks valid isExtra rest st'

/-- no token: is the end of input reached in a state that accepts it?  (After a transition that some
token thread took part in, the end of input is no longer acceptable: a lone blank before the end of
input is an ERROR when some token begins with two blanks: known finding
`C14-trailing-extras-rejected-after-partial-token`, see the end of NoExtraStart.lean.) -/
def sepAtEof (toks : List Token) (valid : Nat → Bool) (isExtra : Nat → Bool) : List Nat → SepSt → Bool
  | [], st => st.eofOk
  | c :: rest, st =>
    match sepStep toks valid isExtra c st with
    | .stop => false
    | .go st' => sepAtEof toks valid isExtra rest st'

/-- one lexing step from the current position: (token, start, end) relative to `input` -/
def lexOneSep (toks : List Token) (valid : Nat → Bool) (isExtra : Nat → Bool) (input : List Nat) : Option (Nat × Nat × Nat) :=
  sepScan toks valid isExtra input {}

/-- tokenize: `(token, start, end)` with absolute positions; `none` = some position has no token -/
def tokenizeSep (toks : List Token) (valid : Nat → Bool) (isExtra : Nat → Bool) :
    (fuel pos : Nat) → (input : List Nat) → Option (List (Nat × Nat × Nat))
  | 0, _, _ => none
  | f + 1, pos, input =>
    match lexOneSep toks valid isExtra input with
    | none => if sepAtEof toks valid isExtra input {} then some [] else none
    | some (i, s, e) =>
      if e = 0 ∨ e < s then none
      else match tokenizeSep toks valid isExtra f (pos + e) (input.drop e) with
        | some ts => some ((i, pos + s, pos + e) :: ts)
        | none => none

/-- `prefer_transition` in a state with a completed token: is the merged transition on the next
character — taken by the tokens `alive` and, if `sepC`, by the separator loop — dropped?
Rule B of the real function asks whether the transition contains an NFA state of the completed variable
(token_conflicts.rs); a variable owns the states of its own separator prefix (expand_tokens.rs), which is what
`sepC ||` stands for.  An immediate token has no separator prefix, so for an immediate `c0` completed while the
separator loop is alive the `sepC` disjunct is an approximation. -/
def sepCut (toks : List Token) (st : SepSt) (alive : List Nat) (sepC : Bool) : Bool :=
  let m : Int := match maxPrec toks alive with
    | some m => if sepC then max m 0 else m
    | none => 0
  match st.cur with
  | some (P, c0) => decide (m < P) || (m == P && (alive.isEmpty || (st.sep && !(sepC || alive.contains c0))))
  | none => false

/-- `sepStep` with the cut-off named (`sepCut`) and the two arms of its last `match` as one state read off the best
completion: the form the proofs use. -/
theorem sepStep_eq (toks : List Token) (valid : Nat → Bool) (isExtra : Nat → Bool) (c : Nat) (st : SepSt) :
    sepStep toks valid isExtra c st =
      let rs' := (sepBase toks st).map (deriv c)
      let alive := aliveIdx toks valid rs'
      let sepC := st.sep && isExtra c
      if alive.isEmpty && !sepC then .stop
      else if sepCut toks st alive sepC then .stop
      else
        let start' := if alive.isEmpty then st.k + 1 else st.start
        let ob := bestOf toks ((alive.filter (fun i => nullable (rs'.getD i .empty))).map (fun i => (i, st.k + 1)))
        .go { sep := sepC, rs := rs', k := st.k + 1, start := start',
              cur := ob.map (fun b => ((tokAt toks b.1).prec, b.1)),
              last := match ob with
                | some b => some (b.1, start', st.k + 1)
                | none => st.last,
              eofOk := st.eofOk && alive.isEmpty } := by
  unfold sepStep sepCut
  simp only
  generalize bestOf toks _ = ob
  cases ob <;> rfl

/-- rule A: in a state that has completed a token whose precedence is at least the separators' (0),
a character that only the separator loop can take ends the scan — the completed token is returned,
no further extras are skipped. -/
theorem sepStep_cut_pure_separator (toks : List Token) (valid : Nat → Bool) (isExtra : Nat → Bool) (c : Nat)
    (st : SepSt) (P : Int) (c0 : Nat) (hcur : st.cur = some (P, c0)) (hP : 0 ≤ P)
    (hdead : aliveIdx toks valid ((sepBase toks st).map (deriv c)) = []) :
    sepStep toks valid isExtra c st = .stop := by
  rw [sepStep_eq]
  simp only [hdead, List.isEmpty_nil, Bool.true_and, sepCut, maxPrec, hcur, Bool.true_or, Bool.and_true]
  cases st.sep && isExtra c
  · rfl
  · -- the separator loop alone: precedence 0 against `P ≥ 0`
    have : (decide ((0 : Int) < P) || (0 : Int) == P) = true := by
      simp only [Bool.or_eq_true, decide_eq_true_eq, beq_iff_eq]; omega
    simp [this]

theorem sepScan_cut_pure_separator (toks : List Token) (valid : Nat → Bool) (isExtra : Nat → Bool) (c : Nat)
    (rest : List Nat) (st : SepSt) (P : Int) (c0 : Nat) (hcur : st.cur = some (P, c0)) (hP : 0 ≤ P)
    (hdead : aliveIdx toks valid ((sepBase toks st).map (deriv c)) = []) :
    sepScan toks valid isExtra (c :: rest) st = st.last := by
  simp only [sepScan, sepStep_cut_pure_separator toks valid isExtra c st P c0 hcur hP hdead]

theorem sepStep_sep_only (toks : List Token) (valid : Nat → Bool) (isExtra : Nat → Bool) (c : Nat) (st : SepSt)
    (hcur : st.cur = none) (hsep : st.sep = true) (hx : isExtra c = true)
    (hdead : aliveIdx toks valid ((sepBase toks st).map (deriv c)) = []) :
    sepStep toks valid isExtra c st =
      .go { sep := true, rs := (sepBase toks st).map (deriv c), k := st.k + 1, start := st.k + 1, cur := none,
            last := st.last, eofOk := st.eofOk } := by
  rw [sepStep_eq]
  simp only [hdead, hsep, hx, sepCut, hcur, List.isEmpty_nil, Bool.and_self, Bool.not_true, Bool.and_false,
    Bool.false_eq_true, if_false, if_true, List.filter_nil, List.map_nil, bestOf, Bool.and_true]
  rfl

/-- the SKIP rule: a transition that only the separator loop takes moves the token start past it -/
theorem sepStep_skip (toks : List Token) (valid : Nat → Bool) (isExtra : Nat → Bool) (c : Nat) (st : SepSt)
    (hcur : st.cur = none) (hsep : st.sep = true) (hx : isExtra c = true)
    (hdead : aliveIdx toks valid ((sepBase toks st).map (deriv c)) = []) :
    ∃ st', sepStep toks valid isExtra c st = .go st' ∧ st'.start = st.k + 1 ∧ st'.k = st.k + 1 ∧ st'.sep = true ∧
      st'.last = st.last ∧ st'.eofOk = st.eofOk :=
  ⟨_, sepStep_sep_only toks valid isExtra c st hcur hsep hx hdead, rfl, rfl, rfl, rfl, rfl⟩

theorem sepBase_getD (toks : List Token) (st : SepSt) (i : Nat) (hi : i < toks.length) :
    (sepBase toks st).getD i .empty =
      (if st.sep && (st.k == 0 || !(tokAt toks i).immediate) then mkAlt (st.rs.getD i .empty) (tokAt toks i).re
       else st.rs.getD i .empty) := by
  simp [sepBase, List.getD_eq_getElem?_getD, List.getElem?_map, List.getElem?_range hi]

theorem sepBase_length (toks : List Token) (st : SepSt) : (sepBase toks st).length = toks.length := by
  simp [sepBase]

theorem isEmpty_of_maxPrec {toks : List Token} {l : List Nat} {m : Int} (h : maxPrec toks l = some m) :
    l.isEmpty = false := by
  cases l
  · cases h
  · rfl

theorem sepCut_eq_cut {toks : List Token} {st : SepSt} {alive : List Nat} {m : Int}
    (hm : maxPrec toks alive = some m) (hC : st.sep = false ∨ st.cur = none) :
    sepCut toks st alive false = cut (st.cur.map (·.1)) m := by
  unfold sepCut
  rcases hC with h | h
  · cases st.cur <;> simp [hm, isEmpty_of_maxPrec hm, h, cut]
  · simp [h, cut]

theorem sepStep_shape (toks : List Token) (valid isExtra : Nat → Bool) (c : Nat) (st : SepSt) :
    sepStep toks valid isExtra c st = .stop ∨
    ∃ s, sepStep toks valid isExtra c st = .go s ∧
      s.eofOk = (st.eofOk && (aliveIdx toks valid ((sepBase toks st).map (deriv c))).isEmpty) ∧
      ¬ ((aliveIdx toks valid ((sepBase toks st).map (deriv c))).isEmpty && !(st.sep && isExtra c)) = true := by
  rw [sepStep_eq]
  simp only
  generalize sepCut toks st _ _ = cutNow
  by_cases h : ((aliveIdx toks valid ((sepBase toks st).map (deriv c))).isEmpty && !(st.sep && isExtra c)) = true
  · exact .inl (if_pos h)
  · rw [if_neg h]
    cases cutNow
    · exact .inr ⟨_, rfl, rfl, h⟩
    · exact .inl rfl

theorem sepAtEof_true {toks : List Token} {valid isExtra : Nat → Bool} :
    ∀ (input : List Nat) (st : SepSt), sepAtEof toks valid isExtra input st = true →
      st.eofOk = true ∧ ∀ c rest, input = c :: rest → isExtra c = true
  | [], st, h => ⟨h, nofun⟩
  | c :: rest, st, h => by
    simp only [sepAtEof] at h
    rcases sepStep_shape toks valid isExtra c st with h0 | ⟨s, h1, h2, h3⟩
    · rw [h0] at h; cases h
    · rw [h1] at h
      have he := (sepAtEof_true rest s h).1
      simp only [h2, Bool.and_eq_true] at he
      rw [he.2] at h3
      refine ⟨he.1, fun c' _ e => ?_⟩
      cases e
      exact (by simpa using h3 : st.sep = true ∧ isExtra c = true).2

theorem sepAtEof_false {toks : List Token} {valid isExtra : Nat → Bool} :
    ∀ (input : List Nat) (st : SepSt), st.eofOk = false → sepAtEof toks valid isExtra input st = false := by
  intro input st h
  apply Bool.eq_false_iff.2
  intro ht
  rw [(sepAtEof_true input st ht).1] at h; cases h

end TsVerif.C14
