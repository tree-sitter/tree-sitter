import TsVerif.C14.Choice
/-!
# C14 — the cut-off scan

The scan is followed under one position invariant — having read `I.take k`, the thread of token `t` is
`derivs t.re (I.take k)` — which turns its data into statements about candidates: a token is alive iff it has not died
on the text read (`mem_alive`), the completions after `n` characters are the candidates of length `n` (`mem_comps`).
-/
namespace TsVerif.C14
open Regex

/-- what `lexScan_sound` (clause 3) says of the scan's answer: a candidate, and the documented choice among the
candidates of its own length -/
def ScanOK (toks : List Token) (valid : Nat → Bool) (I : List Nat) (c : Cand) : Prop :=
  IsCand toks valid I c ∧ ∀ j, IsCand toks valid I (j, c.2) → Better (keyOf toks c) (keyOf toks (j, c.2))

/-- the hypothesis of `lexScan_flat`: all valid tokens share one lexical precedence -/
def FlatPrec (toks : List Token) (valid : Nat → Bool) (p : Int) : Prop :=
  ∀ i, i < toks.length → valid i = true → (tokAt toks i).prec = p

theorem derivs_not_empty_of_matches {r : Regex} {u w : List Nat} (h : Matches r (u ++ w)) :
    (derivs r u).isEmpty = false := by
  have := (derivs_iff r u w).2 h
  cases hd : derivs r u <;> simp_all [Regex.isEmpty]
  exact absurd this matches_empty_false

theorem scan_next {toks : List Token} {I : List Nat} {ch : Nat} {rest : List Nat} {rs : List Regex} {k : Nat}
    (hin : ch :: rest = I.drop k) (hrs : rs = toks.map (fun t => derivs t.re (I.take k))) :
    k < I.length ∧ rest = I.drop (k + 1) ∧
      rs.map (deriv ch) = toks.map (fun t => derivs t.re (I.take (k + 1))) := by
  have hk : k < I.length :=
    Nat.lt_of_not_le fun h => by rw [List.drop_eq_nil_of_le h] at hin; cases hin
  rw [List.drop_eq_getElem_cons hk] at hin
  injection hin with h1 h2
  refine ⟨hk, h2, ?_⟩
  rw [hrs, List.map_map, List.take_succ_eq_append_getElem hk, ← h1]
  exact List.map_congr_left fun t _ => by simp [derivs, List.foldl_append]

theorem getD_map_derivs (toks : List Token) (u : List Nat) {i : Nat} (hi : i < toks.length) :
    (toks.map (fun t => derivs t.re u)).getD i .empty = derivs (tokAt toks i).re u := by
  simp [List.getD, tokAt, hi]

theorem mem_alive {toks : List Token} {valid : Nat → Bool} {u : List Nat} {i : Nat} :
    i ∈ aliveIdx toks valid (toks.map (fun t => derivs t.re u)) ↔
      i < toks.length ∧ valid i = true ∧ (derivs (tokAt toks i).re u).isEmpty = false := by
  simp only [aliveIdx, List.mem_filter, List.mem_range, Bool.and_eq_true, Bool.not_eq_eq_eq_not, Bool.not_true]
  exact and_congr_right fun hi => by rw [getD_map_derivs toks u hi]

theorem alive_of_cand {toks : List Token} {valid : Nat → Bool} {I : List Nat} {d : Cand}
    (hd : IsCand toks valid I d) {n : Nat} (hn : n ≤ d.2) :
    d.1 ∈ aliveIdx toks valid (toks.map (fun t => derivs t.re (I.take n))) := by
  refine mem_alive.2 ⟨hd.lt, hd.isValid, derivs_not_empty_of_matches (w := (I.take d.2).drop n) ?_⟩
  have : I.take n = (I.take d.2).take n := by rw [List.take_take, Nat.min_eq_left hn]
  rw [this, List.take_append_drop]
  exact hd.matches

theorem mem_comps {toks : List Token} {valid : Nat → Bool} {I : List Nat} {n : Nat} (h1 : 1 ≤ n)
    (hn : n ≤ I.length) {c : Cand} :
    c ∈ ((aliveIdx toks valid (toks.map (fun t => derivs t.re (I.take n)))).filter
          (fun i => nullable ((toks.map (fun t => derivs t.re (I.take n))).getD i .empty))).map (fun i => (i, n)) ↔
      IsCand toks valid I c ∧ c.2 = n := by
  obtain ⟨i, m⟩ := c
  simp only [List.mem_map, List.mem_filter, mem_alive, Prod.mk.injEq]
  constructor
  · rintro ⟨_, ⟨⟨hi, hv, _⟩, hnull⟩, rfl, rfl⟩
    rw [getD_map_derivs toks _ hi] at hnull
    exact ⟨⟨hi, hv, h1, hn, (Regex.deriv_correct _ _).1 hnull⟩, rfl⟩
  · rintro ⟨⟨hi, hv, _, _, hm⟩, rfl⟩
    have hnull := (Regex.deriv_correct _ _).2 hm
    refine ⟨i, ⟨⟨hi, hv, nullable_not_isEmpty hnull⟩, ?_⟩, rfl, rfl⟩
    rw [getD_map_derivs toks _ hi]; exact hnull

theorem maxPrec_none {toks : List Token} : ∀ {is : List Nat}, maxPrec toks is = none → is = []
  | [], _ => rfl
  | i :: is, h => by
    simp only [maxPrec] at h
    split at h <;> cases h

theorem maxPrec_ge {toks : List Token} : ∀ {is : List Nat} {i : Nat}, i ∈ is →
    ∃ m, maxPrec toks is = some m ∧ (tokAt toks i).prec ≤ m := by
  intro is
  induction is with
  | nil => intro i h; cases h
  | cons j is ih =>
    intro i hi
    simp only [maxPrec]
    rcases List.mem_cons.1 hi with rfl | hi
    · cases hm : maxPrec toks is with
      | none => exact ⟨_, rfl, Int.le_refl _⟩
      | some m => exact ⟨_, rfl, Int.le_max_right _ _⟩
    · obtain ⟨m, hm, hle⟩ := ih hi
      rw [hm]
      exact ⟨_, rfl, Int.le_trans hle (Int.le_max_left _ _)⟩

theorem scan_sound (toks : List Token) (valid : Nat → Bool) (I : List Nat) :
    ∀ (input : List Nat) (rs : List Regex) (k : Nat) (cur : Option Int) (last : Option Cand),
      input = I.drop k → rs = toks.map (fun t => derivs t.re (I.take k)) →
      (∀ c, last = some c → ScanOK toks valid I c) →
      ∀ c, scan toks valid input rs k cur last = some c → ScanOK toks valid I c := by
  intro input
  induction input with
  | nil => intro rs k cur last _ _ hl c hc; exact hl c hc
  | cons ch rest ih =>
    intro rs k cur last hin hrs hl c hc
    obtain ⟨hk, hdrop, hrs'⟩ := scan_next hin hrs
    simp only [scan, hrs'] at hc
    split at hc
    · exact hl c hc
    · split at hc
      · exact hl c hc
      · split at hc
        next b hb =>
          refine ih _ _ _ _ hdrop rfl ?_ c hc
          intro c' hc'
          cases hc'
          -- the new answer is the best completion, i.e. the best candidate of length `k + 1`
          obtain ⟨hmem, hbest⟩ := (bestOf_spec toks _).2 b hb
          obtain ⟨hcand, hlen⟩ := (mem_comps (Nat.le_add_left 1 k) hk).1 hmem
          exact ⟨hcand, fun j hj => hbest _ ((mem_comps (Nat.le_add_left 1 k) hk).2 ⟨hj, hlen⟩)⟩
        · exact ih _ _ _ _ hdrop rfl hl c hc

theorem lexScan_ok (toks : List Token) (valid : Nat → Bool) (I : List Nat) (c : Cand)
    (h : lexScan toks valid I = some c) : ScanOK toks valid I c := by
  unfold lexScan at h
  refine scan_sound toks valid I I _ 0 none none (by simp) ?_ (by intro c h; cases h) c h
  simp [derivs]

/-- A held answer is only replaced by a longer one: what `lexScan_vs_refToken` needs after the documented choice has
been reached. -/
theorem scan_some (toks : List Token) (valid : Nat → Bool) :
    ∀ (input : List Nat) (rs : List Regex) (k : Nat) (cur : Option Int) (c0 : Cand),
      ∃ c, scan toks valid input rs k cur (some c0) = some c ∧ (c = c0 ∨ k < c.2) := by
  intro input
  induction input with
  | nil => intro rs k cur c0; exact ⟨c0, rfl, .inl rfl⟩
  | cons ch rest ih =>
    intro rs k cur c0
    simp only [scan]
    split
    · exact ⟨c0, rfl, .inl rfl⟩
    · split
      · exact ⟨c0, rfl, .inl rfl⟩
      · split
        next b hb =>
          obtain ⟨i, _, rfl⟩ := List.mem_map.1 ((bestOf_spec toks _).2 b hb).1
          obtain ⟨c, hc, h⟩ := ih (rs.map (deriv ch)) (k + 1) (some (tokAt toks i).prec) (i, k + 1)
          exact ⟨c, hc, .inr (h.elim (fun h => h ▸ Nat.lt_succ_self k) Nat.lt_of_succ_lt)⟩
        · obtain ⟨c, hc, h⟩ := ih (rs.map (deriv ch)) (k + 1) none c0
          exact ⟨c, hc, h.imp id (by omega)⟩

theorem scan_mono (toks : List Token) (valid : Nat → Bool) :
    ∀ (input : List Nat) (rs : List Regex) (k : Nat) (cur : Option Int) (c0 : Cand), c0.2 ≤ k →
      ∃ c, scan toks valid input rs k cur (some c0) = some c ∧ c0.2 ≤ c.2 := by
  intro input rs k cur c0 hk
  obtain ⟨c, hc, h⟩ := scan_some toks valid input rs k cur c0
  exact ⟨c, hc, by rcases h with rfl | h <;> omega⟩

/-- A candidate `d` that no candidate of at most its length outranks in precedence is always reached:
the cut-off cannot fire before its length, because its token stays alive with at least the completed
precedence. -/
theorem scan_reaches (toks : List Token) (valid : Nat → Bool) (I : List Nat) (d : Cand)
    (hd : IsCand toks valid I d)
    (htop : ∀ c, IsCand toks valid I c → c.2 ≤ d.2 → (tokAt toks c.1).prec ≤ (tokAt toks d.1).prec) :
    ∀ (input : List Nat) (rs : List Regex) (k : Nat) (cur : Option Int) (last : Option Cand),
      input = I.drop k → rs = toks.map (fun t => derivs t.re (I.take k)) →
      (∀ P, cur = some P → P ≤ (tokAt toks d.1).prec) →
      (d.2 ≤ k → ∃ c, last = some c ∧ d.2 ≤ c.2) →
      ∃ c, scan toks valid input rs k cur last = some c ∧ d.2 ≤ c.2 := by
  intro input
  induction input with
  | nil =>
    intro rs k cur last hin _ _ hreach
    have hlen : I.length ≤ k :=
      Nat.le_of_not_lt fun h => by rw [List.drop_eq_getElem_cons h] at hin; cases hin
    exact hreach (by have := hd.le; omega)
  | cons ch rest ih =>
    intro rs k cur last hin hrs hcur hreach
    by_cases hdk : d.2 ≤ k
    · -- already reached: whatever happens, the answer only grows
      obtain ⟨c0, rfl, hle⟩ := hreach hdk
      obtain ⟨c, hc, h⟩ := scan_some toks valid (ch :: rest) rs k cur c0
      exact ⟨c, hc, by rcases h with rfl | h <;> omega⟩
    · obtain ⟨hk, hdrop, hrs'⟩ := scan_next hin hrs
      obtain ⟨m, hm, hmle⟩ := maxPrec_ge (toks := toks) (alive_of_cand (valid := valid) hd (n := k + 1) (by omega))
      have hcut : cut cur m = false := by
        cases hc : cur with
        | none => rfl
        | some P => have := hcur P hc; simp only [cut, decide_eq_false_iff_not]; omega
      simp only [scan, hrs', hm, hcut, Bool.false_eq_true, if_false]
      split
      next b hb =>
        -- the completion is a candidate of length `k + 1 ≤ d.2`, so its precedence is at most `d`'s
        obtain ⟨hcand, hlen⟩ := (mem_comps (Nat.le_add_left 1 k) hk).1 ((bestOf_spec toks _).2 b hb).1
        refine ih _ _ _ _ hdrop rfl ?_ fun hle => ⟨b, rfl, by omega⟩
        intro P hP; cases hP; exact htop b hcand (by omega)
      next hb =>
        refine ih _ _ _ _ hdrop rfl nofun fun hle => ?_
        -- `d.2 = k + 1` would make `d` a completion
        have := (mem_comps (Nat.le_add_left 1 k) hk).2 ⟨hd, show d.2 = k + 1 by omega⟩
        rw [(bestOf_spec toks _).1.1 hb] at this; cases this

theorem scan_reaches_top (toks : List Token) (valid : Nat → Bool) (I : List Nat) (d : Cand)
    (hd : IsCand toks valid I d)
    (htop : ∀ c, IsCand toks valid I c → (tokAt toks c.1).prec ≤ (tokAt toks d.1).prec) :
    ∀ (input : List Nat) (rs : List Regex) (k : Nat) (cur : Option Int) (last : Option Cand),
      input = I.drop k → rs = toks.map (fun t => derivs t.re (I.take k)) →
      (∀ P, cur = some P → P ≤ (tokAt toks d.1).prec) →
      (∀ c, last = some c → c.2 ≤ k) →
      (d.2 ≤ k → ∃ c, last = some c ∧ d.2 ≤ c.2) →
      ∃ c, scan toks valid input rs k cur last = some c ∧ d.2 ≤ c.2 :=
  fun input rs k cur last hin hrs hcur _ hreach =>
    scan_reaches toks valid I d hd (fun c hc _ => htop c hc) input rs k cur last hin hrs hcur hreach

theorem scan_flat (toks : List Token) (valid : Nat → Bool) (I : List Nat) (p : Int)
    (hflat : FlatPrec toks valid p) :
    ∀ (input : List Nat) (rs : List Regex) (k : Nat) (cur : Option Int) (last : Option Cand),
      input = I.drop k → k ≤ I.length → rs = toks.map (fun t => derivs t.re (I.take k)) →
      (cur = none ∨ cur = some p) →
      (∀ c', IsCand toks valid I c' → c'.2 ≤ k → ∃ c, last = some c ∧ c'.2 ≤ c.2) →
      ∀ c', IsCand toks valid I c' → ∃ c, scan toks valid input rs k cur last = some c ∧ c'.2 ≤ c.2 := by
  intro input rs k cur last hin _ hrs hcur hinv c' hc'
  have hp : ∀ c, IsCand toks valid I c → (tokAt toks c.1).prec = p := fun c hc => hflat c.1 hc.lt hc.isValid
  refine scan_reaches toks valid I c' hc' (fun c hc _ => by rw [hp c hc, hp c' hc']; exact Int.le_refl _)
    input rs k cur last hin hrs (fun P hP => ?_) (hinv c' hc')
  rcases hcur with h | h
  · rw [h] at hP; cases hP
  · rw [h] at hP; cases hP; rw [hp c' hc']; exact Int.le_refl _

end TsVerif.C14
