import TsVerif.C14.RegexLemmas
import TsVerif.C14.Lex
/-! # C14 — `scanP` is `scan` when no token has inner precedences -/
namespace TsVerif.C14
open Regex

theorem maxInt_map_prec (toks : List Token) : ∀ is : List Nat, maxInt (is.map (fun i => (tokAt toks i).prec)) = maxPrec toks is := by
  intro is
  induction is with
  | nil => rfl
  | cons i is ih => simp only [List.map_cons, maxInt, maxPrec, ih]

theorem alivePrecs_single (toks : List Token) (valid : Nat → Bool) (rs : List Regex)
    (hU : ∀ i, (tokAt toks i).alts = []) :
    alivePrecs toks valid (rs.map (fun r => [r])) = (aliveIdx toks valid rs).map (fun i => (tokAt toks i).prec) := by
  unfold alivePrecs aliveIdx
  generalize List.range toks.length = is
  induction is with
  | nil => rfl
  | cons i is ih =>
    simp only [List.flatMap_cons, List.filter_cons, ih]
    have halts : altsOf (tokAt toks i) = [((tokAt toks i).prec, (tokAt toks i).re)] := by
      simp [altsOf, hU i]
    rw [halts]
    simp only [List.getD_eq_getElem?_getD, List.getElem?_map]
    cases rs[i]? with
    | none => cases valid i <;> simp [Regex.isEmpty]
    | some x => cases valid i <;> cases he : x.isEmpty <;> simp [he]

theorem comps_single (toks : List Token) (valid : Nat → Bool) (rs : List Regex) :
    (List.range toks.length).filter (fun i => valid i && ((rs.map (fun r => [r])).getD i []).any nullable) =
    (aliveIdx toks valid rs).filter (fun i => nullable (rs.getD i .empty)) := by
  unfold aliveIdx
  rw [List.filter_filter]
  apply List.filter_congr
  intro i _
  simp only [List.getD_eq_getElem?_getD, List.getElem?_map]
  cases rs[i]? with
  | none => simp [nullable, Regex.isEmpty]
  | some x =>
    cases hn : nullable x with
    | false => simp [hn]
    | true => simp [hn, nullable_not_isEmpty hn]

theorem scanP_eq_scan (toks : List Token) (valid : Nat → Bool) (hU : ∀ i, (tokAt toks i).alts = []) :
    ∀ (input : List Nat) (rs : List Regex) (k : Nat) (cur : Option Int) (last : Option Cand),
      scanP toks valid input (rs.map (fun r => [r])) k cur last = scan toks valid input rs k cur last := by
  intro input
  induction input with
  | nil => intro rs k cur last; rfl
  | cons c rest ih =>
    intro rs k cur last
    have hmap : (rs.map (fun r => [r])).map (fun alts => alts.map (deriv c)) = (rs.map (deriv c)).map (fun r => [r]) := by
      simp [List.map_map, Function.comp_def]
    simp only [scanP, scan, hmap, alivePrecs_single toks valid _ hU, maxInt_map_prec, comps_single, ih]

end TsVerif.C14
