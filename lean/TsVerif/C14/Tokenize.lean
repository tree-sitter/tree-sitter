import TsVerif.C14.Lex
/-! # C14 — `skipExtras` and one round of the tokenizer loop `tokenizeAux` -/
namespace TsVerif.C14
open Regex

theorem skipExtras_cons_extra {isExtra : Nat → Bool} {c : Nat} (rest : List Nat) (hx : isExtra c = true) :
    skipExtras isExtra (c :: rest) = skipExtras isExtra rest := by simp [skipExtras, hx]

theorem skipExtras_cons_non {isExtra : Nat → Bool} {c : Nat} (rest : List Nat) (hx : ¬ isExtra c = true) :
    skipExtras isExtra (c :: rest) = c :: rest := by simp [skipExtras, hx]

theorem skipExtras_split (isExtra : Nat → Bool) : ∀ l : List Nat,
    ∃ gap, l = gap ++ skipExtras isExtra l ∧ gap.all isExtra = true ∧
      (skipExtras isExtra l = [] ∨ ∃ c t, skipExtras isExtra l = c :: t ∧ isExtra c = false)
  | [] => ⟨[], rfl, rfl, Or.inl rfl⟩
  | c :: rest => by
    by_cases hc : isExtra c = true
    · obtain ⟨gap, h1, h2, h3⟩ := skipExtras_split isExtra rest
      rw [skipExtras_cons_extra rest hc]
      exact ⟨c :: gap, congrArg (c :: ·) h1, by simp only [List.all_cons, hc, h2, Bool.and_self], h3⟩
    · rw [skipExtras_cons_non rest hc]
      exact ⟨[], rfl, rfl, .inr ⟨c, rest, rfl, by simpa using hc⟩⟩

theorem skipExtras_gap (isExtra : Nat → Bool) {gap input : List Nat} (h : input = gap ++ skipExtras isExtra input) :
    input.length = gap.length + (skipExtras isExtra input).length := by
  simpa using congrArg List.length h

theorem skipExtras_length_le (isExtra : Nat → Bool) (input : List Nat) :
    (skipExtras isExtra input).length ≤ input.length := by
  obtain ⟨gap, h, _⟩ := skipExtras_split isExtra input
  have := skipExtras_gap isExtra h
  omega

theorem skipExtras_eq_drop (isExtra : Nat → Bool) : ∀ input : List Nat,
    skipExtras isExtra input = input.drop (input.length - (skipExtras isExtra input).length) := by
  intro input
  obtain ⟨gap, h, _⟩ := skipExtras_split isExtra input
  have := skipExtras_gap isExtra h
  rw [show input.length - (skipExtras isExtra input).length = gap.length by omega]
  conv => rhs; rw [h]
  exact (List.drop_left ..).symm

theorem tokenizeAux_fuel (choose : Nat → List Nat → Option Cand) (isExtra : Nat → Bool) :
    ∀ (f1 f2 pos : Nat) (input : List Nat), input.length < f1 → input.length < f2 →
      tokenizeAux choose isExtra f1 pos input = tokenizeAux choose isExtra f2 pos input := by
  intro f1
  induction f1 with
  | zero => intro f2 pos input h; omega
  | succ f1 ih =>
    intro f2 pos input h1 h2
    cases f2 with
    | zero => omega
    | succ f2 =>
      simp only [tokenizeAux, lexOne]
      split
      · rfl
      next hne =>
        cases choose (input.length - (skipExtras isExtra input).length) (skipExtras isExtra input) with
        | none => rfl
        | some c =>
          simp only
          split
          · rfl
          · -- the rest is shorter than the input: something non-empty was left after the extras, and `n ≠ 0`
            have := skipExtras_length_le isExtra input
            have : (skipExtras isExtra input).length ≠ 0 := fun h => hne (by simp [List.eq_nil_of_length_eq_zero h])
            have : ((skipExtras isExtra input).drop c.2).length < input.length := by
              simp only [List.length_drop]; omega
            rw [ih f2 _ _ (by omega) (by omega)]

/-- `inp` and `off` come with equations so that a caller can name them in its own terms (`tokenize_spec`: `off` is the
length of the gap). -/
theorem tokenizeAux_some {choose : Nat → List Nat → Option Cand} {isExtra : Nat → Bool} {f pos : Nat}
    {input : List Nat} {ts : List (Nat × Nat × Nat)} (h : tokenizeAux choose isExtra (f + 1) pos input = some ts)
    {inp : List Nat} {off : Nat} (hinp : skipExtras isExtra input = inp) (hoff : input.length - inp.length = off) :
    (inp = [] ∧ ts = []) ∨
    ∃ i n ts', inp ≠ [] ∧ n ≠ 0 ∧ choose off inp = some (i, n) ∧
      tokenizeAux choose isExtra f (pos + off + n) (inp.drop n) = some ts' ∧
      ts = (i, pos + off, pos + off + n) :: ts' := by
  subst hinp hoff
  simp only [tokenizeAux, lexOne] at h
  split at h
  next he => cases h; exact .inl ⟨List.isEmpty_iff.1 he, rfl⟩
  next he =>
    right
    cases hc : choose (input.length - (skipExtras isExtra input).length) (skipExtras isExtra input) with
    | none => simp [hc] at h
    | some c =>
      obtain ⟨i, n⟩ := c
      simp only [hc] at h
      split at h
      · cases h
      next hn =>
        split at h
        next ts' hts => cases h; exact ⟨i, n, ts', fun e => he (by simp [e]), hn, rfl, hts, rfl⟩
        · cases h

end TsVerif.C14
