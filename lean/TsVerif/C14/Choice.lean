import TsVerif.C14.RegexLemmas
import TsVerif.C14.Lex
/-!
# C14 — candidates and the documented choice

`candidates` lists exactly the `IsCand` (`mem_candidates`); `Better` is a total order on keys and `bestOf` its arg-max
(`bestOf_spec`), so `refToken` is the one candidate no other beats.
-/
namespace TsVerif.C14
open Regex

theorem IsCand.lt {toks : List Token} {valid : Nat → Bool} {input : List Nat} {c : Cand}
    (h : IsCand toks valid input c) : c.1 < toks.length := h.1
theorem IsCand.isValid {toks : List Token} {valid : Nat → Bool} {input : List Nat} {c : Cand}
    (h : IsCand toks valid input c) : valid c.1 = true := h.2.1
theorem IsCand.pos {toks : List Token} {valid : Nat → Bool} {input : List Nat} {c : Cand}
    (h : IsCand toks valid input c) : 1 ≤ c.2 := h.2.2.1
theorem IsCand.le {toks : List Token} {valid : Nat → Bool} {input : List Nat} {c : Cand}
    (h : IsCand toks valid input c) : c.2 ≤ input.length := h.2.2.2.1
theorem IsCand.matches {toks : List Token} {valid : Nat → Bool} {input : List Nat} {c : Cand}
    (h : IsCand toks valid input c) : Matches (tokAt toks c.1).re (input.take c.2) := h.2.2.2.2

theorem mem_matchLensAux : ∀ (input : List Nat) (r : Regex) (k n : Nat),
    n ∈ matchLensAux r input k ↔ ∃ m, n = k + m ∧ 1 ≤ m ∧ m ≤ input.length ∧ Matches r (input.take m) := by
  intro input
  induction input with
  | nil =>
    intro r k n
    simp only [matchLensAux, List.not_mem_nil, false_iff]
    rintro ⟨m, _, h1, h2, _⟩
    simp at h2; omega
  | cons c rest ih =>
    intro r k n
    simp only [matchLensAux, List.mem_append, ih]
    constructor
    · rintro (h | ⟨m, rfl, hm1, hm2, hm⟩)
      · split at h
        next hn =>
          exact ⟨1, List.mem_singleton.1 h, Nat.le_refl _, by simp, (Regex.deriv_correct r [c]).1 hn⟩
        · cases h
      · exact ⟨m + 1, by omega, by omega, by simp; omega, (deriv_iff c r _).1 hm⟩
    · rintro ⟨m, rfl, hm1, hm2, hm⟩
      obtain _ | _ | m := m
      · omega
      · have hn : nullable (deriv c r) = true := (Regex.deriv_correct r [c]).2 hm
        exact .inl (by rw [if_pos hn]; exact List.mem_singleton.2 rfl)
      · exact .inr ⟨m + 1, by omega, by omega, by simp at hm2; omega, (deriv_iff c r _).2 hm⟩

theorem mem_candidates (toks : List Token) (valid : Nat → Bool) (input : List Nat) (c : Cand) :
    c ∈ candidates toks valid input ↔ IsCand toks valid input c := by
  obtain ⟨i, n⟩ := c
  simp only [candidates, matchLens, List.mem_flatMap, List.mem_range, IsCand]
  constructor
  · rintro ⟨j, hj, hm⟩
    split at hm
    next hv =>
      obtain ⟨_, hm, h⟩ := List.mem_map.1 hm
      cases h
      obtain ⟨m, rfl, h⟩ := (mem_matchLensAux _ _ _ _).1 hm
      rw [Nat.zero_add]
      exact ⟨hj, hv, h⟩
    · cases hm
  · rintro ⟨h1, h2, h⟩
    refine ⟨i, h1, ?_⟩
    rw [if_pos h2]
    exact List.mem_map.2 ⟨n, (mem_matchLensAux _ _ _ _).2 ⟨n, (Nat.zero_add n).symm, h⟩, rfl⟩

theorem Better.total (a b : Key) : Better a b ∨ Better b a := by
  unfold Better; omega

theorem Better.trans {a b c : Key} (h1 : Better a b) (h2 : Better b c) : Better a c := by
  unfold Better at *; omega

theorem Better.antisymm {a b : Key} (h1 : Better a b) (h2 : Better b a) : a = b := by
  unfold Better at *
  have : a.p = b.p ∧ a.n = b.n ∧ a.s = b.s ∧ a.i = b.i := by omega
  cases a; cases b; simp_all

theorem foldl_best (toks : List Token) : ∀ (cs : List Cand) (c0 : Cand),
    let m := cs.foldl (fun acc d => if Better (keyOf toks acc) (keyOf toks d) then acc else d) c0
    (m = c0 ∨ m ∈ cs) ∧ Better (keyOf toks m) (keyOf toks c0) ∧ ∀ d ∈ cs, Better (keyOf toks m) (keyOf toks d) := by
  intro cs
  induction cs with
  | nil => exact fun c0 => ⟨.inl rfl, (Better.total _ _).elim id id, nofun⟩
  | cons d cs ih =>
    intro c0
    simp only [List.foldl_cons]
    generalize hc1 : (if Better (keyOf toks c0) (keyOf toks d) then c0 else d) = c1
    have h0 : (c1 = c0 ∨ c1 = d) ∧ Better (keyOf toks c1) (keyOf toks c0) ∧ Better (keyOf toks c1) (keyOf toks d) := by
      split at hc1 <;> subst hc1
      next hb => exact ⟨.inl rfl, (Better.total _ _).elim id id, hb⟩
      next hb => exact ⟨.inr rfl, (Better.total _ _).resolve_left hb, (Better.total _ _).elim id id⟩
    obtain ⟨h1, h2, h3⟩ := ih c1
    refine ⟨?_, Better.trans h2 h0.2.1, fun e he => ?_⟩
    · rcases h1 with h1 | h1
      · rw [h1]; exact h0.1.imp id fun (h : c1 = d) => h ▸ List.mem_cons_self
      · exact .inr (List.mem_cons_of_mem _ h1)
    · rcases List.mem_cons.1 he with rfl | he
      · exact Better.trans h2 h0.2.2
      · exact h3 e he

theorem bestOf_spec (toks : List Token) (cs : List Cand) :
    (bestOf toks cs = none ↔ cs = []) ∧
    ∀ b, bestOf toks cs = some b → b ∈ cs ∧ ∀ d ∈ cs, Better (keyOf toks b) (keyOf toks d) := by
  cases cs with
  | nil => simp [bestOf]
  | cons c cs =>
    refine ⟨by simp [bestOf], fun b hb => ?_⟩
    obtain ⟨h1, h2, h3⟩ := foldl_best toks cs c
    cases hb
    exact ⟨List.mem_cons.2 h1, List.forall_mem_cons.2 ⟨h2, h3⟩⟩

theorem keyOf_inj (toks : List Token) {a b : Cand} (h : keyOf toks a = keyOf toks b) : a = b := by
  obtain ⟨i, n⟩ := a; obtain ⟨j, m⟩ := b
  simp only [keyOf, Key.mk.injEq] at h
  simp [h.2.1, h.2.2.2]

theorem foldl_best_len (toks : List Token) (a b : Nat) : ∀ (cs : List Nat) (i0 : Nat),
    (cs.map (fun i => (i, a))).foldl (fun acc d => if Better (keyOf toks acc) (keyOf toks d) then acc else d) (i0, a) =
      (((cs.map (fun i => (i, b))).foldl (fun acc d => if Better (keyOf toks acc) (keyOf toks d) then acc else d) (i0, b)).1, a) := by
  intro cs
  induction cs with
  | nil => intro i0; rfl
  | cons j cs ih =>
    intro i0
    simp only [List.map_cons, List.foldl_cons]
    have hB : Better (keyOf toks (i0, a)) (keyOf toks (j, a)) ↔ Better (keyOf toks (i0, b)) (keyOf toks (j, b)) := by
      simp [Better, keyOf]
    by_cases hb : Better (keyOf toks (i0, b)) (keyOf toks (j, b))
    · rw [if_pos hb, if_pos (hB.2 hb)]; exact ih i0
    · rw [if_neg hb, if_neg (fun x => hb (hB.1 x))]; exact ih j

/-- The winner among completions of one length does not depend on the length (`sepScan_sim`: `sepStep` counts from the
start of the input, `scan` from the end of the skipped extras). -/
theorem bestOf_len (toks : List Token) (a b : Nat) (cs : List Nat) :
    bestOf toks (cs.map (fun i => (i, a))) = (bestOf toks (cs.map (fun i => (i, b)))).map (fun x => (x.1, a)) := by
  cases cs with
  | nil => rfl
  | cons j cs => simp only [List.map_cons, bestOf, Option.map_some, foldl_best_len toks a b cs j]

end TsVerif.C14
