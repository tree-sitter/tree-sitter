import TsVerif.C14.Regex
/-! # C14 — the derivative matcher decides `Matches`: the smart constructors keep the language, `nullable_iff`, `deriv_iff`,
hence `deriv_correct`. -/
namespace TsVerif.C14.Regex

theorem matches_empty_false {w : List Nat} : ¬ Matches .empty w := by
  intro h; cases h

theorem matches_seq_iff {a b : Regex} {w : List Nat} :
    Matches (.seq a b) w ↔ ∃ u v, w = u ++ v ∧ Matches a u ∧ Matches b v :=
  ⟨fun h => by cases h with | seq h1 h2 => exact ⟨_, _, rfl, h1, h2⟩, fun ⟨_, _, e, h1, h2⟩ => e ▸ .seq h1 h2⟩

theorem matches_mkSeq {a b : Regex} {w : List Nat} : Matches (mkSeq a b) w ↔ Matches (.seq a b) w := by
  unfold mkSeq
  split
  case h_3 =>
    rw [matches_seq_iff]
    exact ⟨fun h => ⟨[], w, rfl, .eps, h⟩, fun ⟨u, v, e, h1, h2⟩ => by cases h1; exact e ▸ h2⟩
  all_goals simp [matches_seq_iff, matches_empty_false]

theorem matches_alt_iff {a b : Regex} {w : List Nat} : Matches (.alt a b) w ↔ Matches a w ∨ Matches b w :=
  ⟨fun h => by cases h with | altL h => exact .inl h | altR h => exact .inr h, fun h => h.elim .altL .altR⟩

theorem matches_mkAlt {a b : Regex} {w : List Nat} : Matches (mkAlt a b) w ↔ Matches (.alt a b) w := by
  unfold mkAlt
  split
  case h_3 =>
    split
    next h => subst h; simp [matches_alt_iff]
    · exact Iff.rfl
  all_goals simp [matches_alt_iff, matches_empty_false]

theorem nullable_iff (r : Regex) : nullable r = true ↔ Matches r [] := by
  induction r with
  | empty => simp [nullable]; exact matches_empty_false
  | eps => simp [nullable]; exact .eps
  | cls rs neg => simp [nullable]; intro h; cases h
  | seq a b iha ihb =>
    simp only [nullable, Bool.and_eq_true, iha, ihb, matches_seq_iff]
    constructor
    · rintro ⟨h1, h2⟩; exact ⟨[], [], rfl, h1, h2⟩
    · rintro ⟨u, v, e, h1, h2⟩
      obtain ⟨rfl, rfl⟩ := List.append_eq_nil_iff.1 e.symm
      exact ⟨h1, h2⟩
  | alt a b iha ihb => simp only [nullable, Bool.or_eq_true, iha, ihb, matches_alt_iff]
  | star a _ => simp [nullable]; exact .starNil

/-- A non-empty match of `a*` begins with a NON-EMPTY match of `a` (the induction on the derivation steps over empty
iterations): what the `star` case of `deriv_iff` needs. -/
theorem star_cons_split {a : Regex} {w : List Nat} (h : Matches (.star a) w) :
    ∀ c rest, w = c :: rest → ∃ u v, rest = u ++ v ∧ Matches a (c :: u) ∧ Matches (.star a) v := by
  generalize hr : Regex.star a = r at h
  induction h with
  | eps => cases hr
  | cls _ => cases hr
  | seq _ _ => cases hr
  | altL _ => cases hr
  | altR _ => cases hr
  | starNil => intro c rest h; cases h
  | @starCons a' u v h1 h2 _ ih2 =>
    cases hr
    intro c rest hw
    cases u with
    | nil => exact ih2 rfl c rest (by simpa using hw)
    | cons d u' =>
      simp only [List.cons_append, List.cons.injEq] at hw
      obtain ⟨rfl, rfl⟩ := hw
      exact ⟨u', v, rfl, h1, h2⟩

theorem matches_eps_iff {w : List Nat} : Matches .eps w ↔ w = [] :=
  ⟨fun h => by cases h; rfl, fun h => h ▸ .eps⟩

theorem matches_cls_cons_iff {rs : List (Nat × Nat)} {neg : Bool} {c : Nat} {w : List Nat} :
    Matches (.cls rs neg) (c :: w) ↔ w = [] ∧ clsHas rs neg c = true :=
  ⟨fun h => by cases h with | cls h => exact ⟨rfl, h⟩, fun ⟨e, h⟩ => e ▸ .cls h⟩

theorem matches_seq_cons_iff {a b : Regex} {c : Nat} {w : List Nat} :
    Matches (.seq a b) (c :: w) ↔
      (∃ u v, w = u ++ v ∧ Matches a (c :: u) ∧ Matches b v) ∨ (Matches a [] ∧ Matches b (c :: w)) := by
  rw [matches_seq_iff]
  constructor
  · rintro ⟨u, v, e, h1, h2⟩
    cases u with
    | nil => exact .inr ⟨h1, e ▸ h2⟩
    | cons d u' => cases e; exact .inl ⟨u', v, rfl, h1, h2⟩
  · rintro (⟨u, v, rfl, h1, h2⟩ | ⟨h1, h2⟩)
    · exact ⟨c :: u, v, rfl, h1, h2⟩
    · exact ⟨[], _, rfl, h1, h2⟩

theorem deriv_iff (c : Nat) (r : Regex) : ∀ w, Matches (deriv c r) w ↔ Matches r (c :: w) := by
  induction r with
  | empty | eps => intro w; simp [deriv, matches_empty_false, matches_eps_iff]
  | cls rs neg =>
    intro w
    simp only [deriv]
    split <;> simp [matches_cls_cons_iff, matches_eps_iff, matches_empty_false, *]
  | seq a b iha ihb =>
    intro w
    have hseq : Matches (mkSeq (deriv c a) b) w ↔ ∃ u v, w = u ++ v ∧ Matches a (c :: u) ∧ Matches b v := by
      rw [matches_mkSeq, matches_seq_iff]; simp only [iha]
    simp only [deriv]
    split
    next hn =>
      rw [matches_mkAlt, matches_alt_iff, hseq, ihb, matches_seq_cons_iff]
      exact or_congr_right ⟨fun h => ⟨(nullable_iff a).1 hn, h⟩, fun h => h.2⟩
    next hn =>
      rw [hseq, matches_seq_cons_iff]
      exact ⟨.inl, fun h => h.resolve_right fun h => hn ((nullable_iff a).2 h.1)⟩
  | alt a b iha ihb =>
    intro w
    simp only [deriv]
    rw [matches_mkAlt, matches_alt_iff, matches_alt_iff, iha, ihb]
  | star a iha =>
    intro w
    simp only [deriv]
    rw [matches_mkSeq, matches_seq_iff]
    simp only [iha]
    exact ⟨fun ⟨u, v, e, h1, h2⟩ => e ▸ .starCons h1 h2, fun h => star_cons_split h c w rfl⟩

theorem derivs_iff (r : Regex) (u : List Nat) : ∀ w, Matches (derivs r u) w ↔ Matches r (u ++ w) := by
  induction u generalizing r with
  | nil => intro w; simp [derivs]
  | cons c u ih =>
    intro w
    simp only [derivs, List.foldl_cons, List.cons_append]
    have := ih (deriv c r) w
    simp only [derivs] at this
    rw [this, deriv_iff]

theorem deriv_correct (r : Regex) (w : List Nat) : matchesB r w = true ↔ Matches r w := by
  unfold matchesB
  rw [nullable_iff, derivs_iff]
  simp

end TsVerif.C14.Regex

namespace TsVerif.C14
open Regex

theorem getD_map_deriv (B : List Regex) (c i : Nat) :
    (B.map (deriv c)).getD i .empty = deriv c (B.getD i .empty) := by
  simp only [List.getD_eq_getElem?_getD, List.getElem?_map]
  cases B[i]? <;> simp [deriv]

theorem mkAlt_empty_left (b : Regex) : mkAlt .empty b = b := by
  cases b <;> rfl

theorem nullable_not_isEmpty {r : Regex} (h : nullable r = true) : r.isEmpty = false := by
  cases r <;> simp_all [nullable, Regex.isEmpty]

end TsVerif.C14
