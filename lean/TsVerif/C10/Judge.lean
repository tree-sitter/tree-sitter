import TsVerif.C10.Model
import TsVerif.Common.LengthAlgebra
/-!
# C10 judge and correspondence, evaluated on dumps of real trees

`corr` compares the model's `editTree before e` with the implementation's `after` dump field by
field; `judge` decides the property's clauses on the implementation's `after` dump alone (given
the before dump, the edit and the two texts).  The same definitions are used by the theorems.
-/
namespace TsVerif.C10
open TsGen TsVerif

/-- Fields that `ts_subtree_edit` may change or must preserve, compared between model and real. -/
def sameNode (a b : NodeData) : Bool :=
  a.symbol == b.symbol && decide (a.padding = b.padding) && decide (a.size = b.size) &&
  a.lookahead == b.lookahead && a.parseState == b.parseState && a.visible == b.visible &&
  a.named == b.named && a.extra == b.extra && a.hasChanges == b.hasChanges &&
  a.isMissing == b.isMissing && a.isKeyword == b.isKeyword && a.fragileLeft == b.fragileLeft &&
  a.fragileRight == b.fragileRight && a.hasExternalTokens == b.hasExternalTokens &&
  a.dependsOnColumn == b.dependsOnColumn && a.isInline == b.isInline && a.errorCost == b.errorCost

mutual
  /-- First path (child indices, reversed) at which two trees differ on `sameNode`, if any. -/
  def diffTree (a b : Tree) (path : List Nat) : Option (List Nat) :=
    match a, b with
    | .mk da ka, .mk db kb =>
      if !sameNode da db then some path
      else diffKids ka kb path 0
  def diffKids (ka kb : List Tree) (path : List Nat) (i : Nat) : Option (List Nat) :=
    match ka, kb with
    | [], [] => none
    | a :: ra, b :: rb =>
      match diffTree a b (i :: path) with
      | some p => some p
      | none => diffKids ra rb path (i + 1)
    | _, _ => some (i :: path)
end

/-- Position of byte offset `i` in `text` obtained by counting newlines (10). -/
def posOf (text : Array Nat) (i : Nat) : TSPoint := Id.run do
  let mut row := 0
  let mut col := 0
  for k in [0:i] do
    if text.getD k 0 == 10 then
      row := row + 1
      col := 0
    else
      col := col + 1
  return { row := row, column := col }

/-- The position map φ of an edit on lengths: identity before `start`, shift from `old_end` on. -/
def phi (e : Edit) (x : Length) : Length :=
  length_add e.new_end (length_sub x e.old_end)

structure Stats where
  nodes : Nat := 0
  kept : Nat := 0
  shifted : Nat := 0
  touched : Nat := 0
  fail : Option String := none
  deriving Repr

def Stats.bad (s : Stats) (msg : String) : Stats :=
  match s.fail with
  | some _ => s
  | none => { s with fail := some msg }

def sliceEq (t1 : Array Nat) (a1 : Nat) (t2 : Array Nat) (a2 : Nat) (n : Nat) : Bool := Id.run do
  for k in [0:n] do
    if t1.getD (a1 + k) 256 != t2.getD (a2 + k) 257 then return false
  return true

mutual
  /-- Walk the before tree and the implementation's after tree in lock step.
  `off`/`off'` are the absolute positions (as `Length`) where the node's padding starts;
  `anc` says whether some ancestor was required to be marked. Returns stats and whether this
  subtree contained a touched node (so the caller can demand marks on ancestors). -/
  def judgeTree (e : Edit) (text text' : Array Nat) (t t' : Tree) (off off' : Length) (st : Stats) : Stats × Bool :=
    match t, t' with
    | .mk d kids, .mk d' kids' =>
      let a := length_add off d.padding
      let b := length_add a d.size
      let c := b.bytes + d.lookahead
      let a' := length_add off' d'.padding
      let b' := length_add a' d'.size
      let st := { st with nodes := st.nodes + 1 }
      -- shape
      let st := if d.symbol != d'.symbol || kids.length != kids'.length || d.lookahead != d'.lookahead
                   || d.visible != d'.visible || d.named != d'.named || d.extra != d'.extra
                   || d.isMissing != d'.isMissing
                then st.bad s!"shape changed at node starting at byte {a.bytes}" else st
      let pure := e.old_end.bytes == e.start.bytes
      let noop := pure && e.new_end.bytes == e.start.bytes
      -- ends before the change: keeps its byte and row/column range
      let st :=
        if b.bytes < e.start.bytes || (b.bytes == e.start.bytes && !pure) then
          let st := { st with kept := st.kept + 1 }
          if decide (a' = a) && decide (b' = b) then st
          else st.bad s!"node [{a.bytes},{b.bytes}) ends before the change but moved to [{a'.bytes},{b'.bytes}) rows {a'.extent.row}:{a'.extent.column}"
        else st
      -- starts after the change: shifted by φ, same characters, correct row/column
      let st :=
        if a.bytes ≥ e.old_end.bytes && !noop && !(b.bytes < e.start.bytes || (b.bytes == e.start.bytes && !pure)) then
          let st := { st with shifted := st.shifted + 1 }
          let ea := phi e a
          let eb := phi e b
          if a'.bytes != ea.bytes || b'.bytes != eb.bytes then
            st.bad s!"node [{a.bytes},{b.bytes}) starts after the change; expected bytes [{ea.bytes},{eb.bytes}) got [{a'.bytes},{b'.bytes})"
          else if !(sliceEq text a.bytes text' a'.bytes (b.bytes - a.bytes)) then
            st.bad s!"node [{a.bytes},{b.bytes}) no longer covers the same characters"
          else if decide (a'.extent ≠ posOf text' a'.bytes) || decide (b'.extent ≠ posOf text' b'.bytes) then
            st.bad s!"node at new bytes [{a'.bytes},{b'.bytes}) has row/column {a'.extent.row}:{a'.extent.column}-{b'.extent.row}:{b'.extent.column}, text says {(posOf text' a'.bytes).row}:{(posOf text' a'.bytes).column}-{(posOf text' b'.bytes).row}:{(posOf text' b'.bytes).column}"
          else st
        else st
      -- overlaps the change (or its look-ahead does): has_changes
      let touched := !noop && a.bytes < e.old_end.bytes && e.start.bytes < c
      let touched := touched || (!noop && pure && a.bytes < e.start.bytes && e.start.bytes < c)
      let st := if touched then { st with touched := st.touched + 1 } else st
      let (st, below) := judgeKids e text text' kids kids' off off' st false
      let must := touched || below
      let st := if must && !d'.hasChanges then
                  st.bad s!"node [{a.bytes},{b.bytes}) look-ahead end {c} overlaps the change (or a descendant does) but has_changes is false"
                else st
      (st, must)
  def judgeKids (e : Edit) (text text' : Array Nat) (ks ks' : List Tree) (off off' : Length) (st : Stats) (acc : Bool) : Stats × Bool :=
    match ks, ks' with
    | k :: rest, k' :: rest' =>
      let (st, m) := judgeTree e text text' k k' off off' st
      judgeKids e text text' rest rest' (length_add off k.totalSize) (length_add off' k'.totalSize) st (acc || m)
    | _, _ => (st, acc)
end


/-! ## The theorems' hypothesis, decided on real trees -/

def tbJ (t : Tree) : Nat := t.data.padding.bytes + t.data.size.bytes

mutual
  /-- Decidable version of `WFb` (Bytes.lean): every inner node's padding is its first child's
  padding and its total is the sum of its children's totals (byte dimension). -/
  def wfbCheck : Tree → Bool
    | .mk _ [] => true
    | .mk d (k :: ks) =>
      wfbCheck k && wfbCheckL ks && d.padding.bytes == k.data.padding.bytes &&
        d.padding.bytes + d.size.bytes == tbJ k + sumTJ ks
  def wfbCheckL : List Tree → Bool
    | [] => true
    | t :: ts => wfbCheck t && wfbCheckL ts
  def sumTJ : List Tree → Nat
    | [] => 0
    | t :: ts => tbJ t + sumTJ ts
end


mutual
  /-- Decidable version of `LaOK` (Marks.lean): no child's look-ahead end exceeds its parent's. -/
  def laokCheck : Tree → Bool
    | .mk d ks => laokCheckL ks 0 (d.padding.bytes + d.size.bytes + d.lookahead)
  def laokCheckL : List Tree → Nat → Nat → Bool
    | [], _, _ => true
    | c :: rest, l, B =>
      laokCheck c && decide (l + tbJ c + c.data.lookahead ≤ B) && laokCheckL rest (l + tbJ c) B
end

/-- The byte a stored position moves to under the property's mapping (the statement of
`range_edit_eq_phi`, written out): at or after the old end it is shifted, strictly inside the replaced
text it collapses to the start, up to the start it stays. -/
def movedByte (b : Nat) (e : TSInputEdit) : Nat :=
  if b ≥ e.old_end_byte then e.new_end_byte + (b - e.old_end_byte)
  else if b > e.start_byte then e.start_byte else b

/-- Where `ts_range_edit` puts a range END at 32 bits: an open end (`UINT32_MAX`) stays open, a shifted
end that no longer fits 32 bits becomes the open end (the C code's wrap-around test), otherwise
`movedByte`. -/
def movedEndSat (b : Nat) (e : TSInputEdit) : Nat :=
  if b ≥ e.old_end_byte then
    if b = 4294967295 then 4294967295
    else if e.new_end_byte + (b - e.old_end_byte) ≥ 4294967296 then 4294967295
    else e.new_end_byte + (b - e.old_end_byte)
  else if b > e.start_byte then e.start_byte else b

/-- … and a range START (no open-end exemption: only the wrap-around test). -/
def movedStartSat (b : Nat) (e : TSInputEdit) : Nat :=
  if b ≥ e.old_end_byte then
    if e.new_end_byte + (b - e.old_end_byte) ≥ 4294967296 then 4294967295
    else e.new_end_byte + (b - e.old_end_byte)
  else if b > e.start_byte then e.start_byte else b

/-- Judge for the tree's stored included ranges (property text: "the tree's stored included ranges move
by the same mapping"): same number of ranges, and for every 32-bit range both byte ends are the moved
bytes of `range_edit_sat` (open ends stay open, overflow saturates to the open end), and an open end keeps
its end point.  Returns the index of the first offending range. -/
def rangesJudge (old new : List TSRange) (e : TSInputEdit) : Option Nat :=
  if old.length ≠ new.length then some old.length else
  let rec go : List TSRange → List TSRange → Nat → Option Nat
    | r :: rs, n :: ns, i =>
      -- both byte ends, for every 32-bit range and edit (open ends, sentinels and overflow included)
      if r.start_byte < 4294967296 ∧ r.end_byte < 4294967296 ∧ e.new_end_byte < 4294967296 ∧
         (n.end_byte ≠ movedEndSat r.end_byte e ∨ n.start_byte ≠ movedStartSat r.start_byte e) then some i
      -- an OPEN end (`UINT32_MAX`, "to the end of the document") also keeps its end point
      else if r.end_byte = 4294967295 ∧ e.start_byte ≤ e.old_end_byte ∧ e.old_end_byte < 4294967296 ∧
         e.new_end_byte + r.start_byte < 4294967296 ∧ n.end_point ≠ r.end_point then some i
      else go rs ns (i + 1)
    | _, _, _ => none
  go old new 0


end TsVerif.C10

/-! ## Row/column consistency with a text, decided on real trees (hypothesis of `edit_consistent`) -/
namespace TsVerif.C10
open TsGen TsVerif

mutual
  /-- `R` is the text from the node's frame (start of its padding) on.  Every stored padding/size is
  the `lengthOf` (bytes, newline-counted row/column) of the bytes it covers; children sit at
  consecutive frames. -/
  def consCheckAt (R : List Nat) : Tree → Bool
    | .mk d ks =>
      decide (d.padding.bytes + d.size.bytes ≤ R.length) &&
      decide (d.padding = lengthOf (R.take d.padding.bytes)) &&
      decide (d.size = lengthOf ((R.drop d.padding.bytes).take d.size.bytes)) &&
      consCheckAtL R ks
  def consCheckAtL (R : List Nat) : List Tree → Bool
    | [] => true
    | c :: rest => consCheckAt R c && consCheckAtL (R.drop (tbJ c)) rest
end

/-- Decidable version of `Cons T t A` (Text.lean): the subtree `t` whose padding starts at absolute
byte `A` of text `T` stores exactly the row/column extents that counting newlines in `T` gives. -/
def consCheck (T : List Nat) (t : Tree) (A : Nat) : Bool :=
  decide (A ≤ T.length) && consCheckAt (T.drop A) t

/-- Decidable version of `EditOK` (Text.lean) given the old text `T` and the new text `T2`: the
edit's byte offsets describe how `T2` arises from `T`, and its three points are the newline-counted
row/column of those offsets (start, old end in `T`; new end in `T2`). -/
def editOKCheck (T T2 : List Nat) (e : Edit) : Bool :=
  decide (e.start.bytes ≤ e.old_end.bytes) && decide (e.old_end.bytes ≤ T.length) &&
  decide (e.start.bytes ≤ e.new_end.bytes) && decide (e.new_end.bytes ≤ T2.length) &&
  decide (T2 = T.take e.start.bytes ++ (T2.drop e.start.bytes).take (e.new_end.bytes - e.start.bytes)
                ++ T.drop e.old_end.bytes) &&
  decide (e.start = lengthOf (T.take e.start.bytes)) &&
  decide (e.old_end = lengthOf (T.take e.old_end.bytes)) &&
  decide (e.new_end = lengthOf (T2.take e.new_end.bytes))

end TsVerif.C10
