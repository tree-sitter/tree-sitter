import TsVerif.C10.Text
/-!
# C10 — the edit keeps a tree consistent with the text (row/column dimension)

`editTree_cons`: if a subtree at old frame `A` is consistent with the old text `T` (`Cons T t A`) and
the `Edit` it receives is the text change expressed in its frame (`TForm`), the edited subtree is
consistent with the new text `T'` at its new frame `A'`.

This file follows the loop in TEXT coordinates and does not use `Loop` (Loop.lean): what it has to carry from
child to child are equations between `Length`s (`cx.start = lenS T Ap S`, `l = lenS T Ap Al`, …), which say more
than the byte inequalities of `Loop` and are not stable under its change of frame
(`length_saturating_sub a (length_add l z)` is `length_saturating_sub (length_saturating_sub a l) z` only for
lengths measured in one text).
-/
namespace TsVerif.C10
open TsGen TsVerif

mutual
  /-- A consistent subtree moves to any text, at any frame, that agrees with the old one on the subtree's window.
  `cons_keep` (before the change) and `cons_shift` / `consL_shift` (after it) are its two uses. -/
  theorem cons_transport : ∀ (t : Tree) (T T' : List Nat) (A A' : Nat), WFb t → Cons T t A →
      (∀ a b, A ≤ a → a ≤ b → b ≤ A + tb t → lenS T a b = lenS T' (A' + (a - A)) (A' + (b - A))) →
      A' + tb t ≤ T'.length → Cons T' t A'
    | .mk d ks, T, T', A, A', hw, hc, h, hl => by
      simp only [Cons] at hc ⊢
      obtain ⟨⟨hb, hp, hz⟩, hkids⟩ := hc
      simp only [tb_mk] at h hl
      refine ⟨NodeCons.of (A' + d.padding.bytes) (A' + d.padding.bytes + d.size.bytes) ?_ ?_
        (by omega) (by omega) (by omega), ?_⟩
      · exact hp.trans ((h A _ (by omega) (by omega) (by omega)).trans (by congr 1 <;> omega))
      · exact hz.trans ((h _ _ (by omega) (by omega) (by omega)).trans (by congr 1 <;> omega))
      · have hs := hw.kids.2
        exact consL_transport ks T T' A A' hw.kids.1 hkids (fun a b h1 h2 h3 => h a b h1 h2 (by omega)) (by omega)
  theorem consL_transport : ∀ (ks : List Tree) (T T' : List Nat) (A A' : Nat), WFbL ks → ConsL T ks A →
      (∀ a b, A ≤ a → a ≤ b → b ≤ A + sumT ks → lenS T a b = lenS T' (A' + (a - A)) (A' + (b - A))) →
      A' + sumT ks ≤ T'.length → ConsL T' ks A'
    | [], _, _, _, _, _, _, _, _ => by simp only [ConsL]
    | c :: rest, T, T', A, A', hw, hc, h, hl => by
      cases hw with
      | cons _ _ hwc hwr =>
      simp only [ConsL] at hc ⊢
      simp only [sumT_cons] at h hl
      refine ⟨cons_transport c T T' A A' hwc hc.1 (fun a b h1 h2 h3 => h a b h1 h2 (by omega)) (by omega),
        consL_transport rest T T' (A + tb c) (A' + tb c) hwr hc.2 (fun a b h1 h2 h3 => ?_) (by omega)⟩
      rw [h a b (by omega) h2 (by omega)]
      congr 1 <;> omega
end

theorem cons_keep {T T' : List Nat} {S O N : Nat} (hc : Chg T T' S O N) (t : Tree) (A : Nat)
    (hw : WFb t) (h : Cons T t A) (hS : A + tb t ≤ S) : Cons T' t A := by
  have := hc.sn; have := hc.len_add; have := hc.ot
  refine cons_transport t T T' A A hw h ?_ (by omega)
  intro a b h1 h2 h3
  rw [← hc.below a b (by omega)]
  congr 1 <;> omega

theorem cons_shift {T T' : List Nat} {S O N : Nat} (hc : Chg T T' S O N) (t : Tree) (A : Nat)
    (hw : WFb t) (h : Cons T t A) (hO : O ≤ A) : Cons T' t (N + (A - O)) := by
  have := hc.len_add; have := h.total.2
  exact cons_transport t T T' A _ hw h (fun _ _ h1 h2 _ => hc.above_frame hO h1 h2) (by omega)

theorem tb_take (c : Tree) {cx : Ctx} {ne l : Length} {Ap Al S O N : Nat}
    (hsb : Ap + cx.start.bytes = S) (hob : Ap + cx.oldEnd.bytes = O) (hnb : Ap + ne.bytes = N)
    (hlb : Ap + l.bytes = Al) (hso : S ≤ O) (hsn : S ≤ N) (hAl : Al ≤ S)
    (ht : l.bytes + tb c > cx.start.bytes ∨
      (l.bytes + tb c = cx.start.bytes ∧ cx.oldEnd.bytes = cx.start.bytes)) :
    Al + tb (editTree c ((kidsEdit cx ne).rebase l)) = N + (Al + tb c - O) := by
  subst hsb hob hnb hlb
  rw [rebase_tb c cx ne l ⟨Nat.le_of_add_le_add_left hso, Nat.le_of_add_le_add_left hsn⟩,
    endMapN_pos (by omega)]
  omega

theorem consL_total {T : List Nat} : ∀ (ks : List Tree) (A : Nat), ConsL T ks A → A ≤ T.length →
    A + sumT ks ≤ T.length
  | [], _, _, hA => hA
  | c :: rest, A, hc, _ => by
    simp only [ConsL] at hc
    have := consL_total rest (A + tb c) hc.2 hc.1.total.2
    rw [sumT_cons]; omega

theorem consL_shift {T T' : List Nat} {S O N : Nat} (hc : Chg T T' S O N) (ks : List Tree) (A : Nat)
    (hw : WFbL ks) (h : ConsL T ks A) (hA : A ≤ T.length) (hO : O ≤ A) : ConsL T' ks (N + (A - O)) := by
  have := hc.len_add; have := consL_total ks A h hA
  exact consL_transport ks T T' A _ hw h (fun _ _ h1 h2 _ => hc.above_frame hO h1 h2) (by omega)

/-- The `Edit` received by the frame at old byte `A` / new byte `A'`: the change `(S, O, N)` in
that frame's coordinates.  Either the frame starts at or before the change and stays (`A' = A`), or
an earlier sibling already took the inserted text and the frame moves by φ. -/
structure TForm (T T' : List Nat) (S O N A A' : Nat) (e : Edit) : Prop where
  hs : e.start = lenS T A S
  ho : e.old_end = lenS T A O
  hn : e.new_end = lenS T' A' N
  pos : (A ≤ S ∧ A' = A) ∨ (S ≤ A ∧ A' = N + (A - O))

/-- `P`, `E`: content start and end of the node.  `below` / `above` are a change seen from frame `A` (`above` in the
form of `Chg.above_eq`), taken as raw hypotheses and not as a `Chg` because the lemma is applied at a change DIFFERENT from the loop's: seen from a frame
after an earlier sibling took the inserted text the change deletes `[A, O)` if `A ≤ O` and is empty otherwise
(`reshape_consumed`). -/
theorem reshape_lenS {T T' : List Nat} {A A' P E O N : Nat} {p z : Length} {e : Edit}
    (hp : p = lenS T A P) (hz : z = lenS T P E) (hAP : A ≤ P) (hPE : P ≤ E) (hE : E ≤ T.length)
    (ho : e.old_end = lenS T A O) (hn : e.new_end = lenS T' A' N)
    (hso : A + e.start.bytes ≤ O) (hot : O ≤ T.length) (hsn : A' + e.start.bytes ≤ N)
    (hlen : N + T.length ≤ T'.length + O)
    (below : ∀ a b, A ≤ a → a ≤ b → b ≤ A + e.start.bytes →
      lenS T a b = lenS T' (A' + (a - A)) (A' + (b - A)))
    (above : ∀ a b, O ≤ a → lenS T a b = lenS T' (N + (a - O)) (N + (b - O))) :
    NodeCons T' A' (reshape p z e).1 (reshape p z e).2 := by
  have hpb : A + p.bytes = P := lenS_bytes_add hp hAP (by omega)
  have hzb : P + z.bytes = E := lenS_bytes_add hz hPE hE
  have hob : A + e.old_end.bytes = O := lenS_bytes_add ho (Nat.le_trans (Nat.le_add_right _ _) hso) hot
  have hnb : A' + e.new_end.bytes = N := lenS_bytes_add hn (by omega) (by omega)
  have hAO : A ≤ O := Nat.le.intro hob
  have hAN : A' ≤ N := Nat.le.intro hnb
  have mono : ∀ x y, x ≤ y → N + (x - O) ≤ N + (y - O) := fun x y h =>
    Nat.add_le_add_left (Nat.sub_le_sub_right h O) N
  have bp : P ≤ A + e.start.bytes → lenS T A P = lenS T' A' (A' + (P - A)) := fun h =>
    (below A P (Nat.le_refl _) hAP h).trans (by rw [Nat.sub_self, Nat.add_zero])
  unfold reshape
  simp only [length_add_bytes]
  by_cases c1 : e.old_end.bytes ≤ p.bytes
  · rw [if_pos c1]
    refine NodeCons.of (N + (P - O)) (N + (E - O)) ?_ ?_ (Nat.le_trans hAN (Nat.le_add_right _ _))
      (mono P E hPE) (by omega)
    · show length_add e.new_end (length_sub p e.old_end) = _
      rw [hn, hp, ho, lenS_sub T A O P hAO (by omega), above O P (Nat.le_refl _), Nat.sub_self, Nat.add_zero,
        lenS_add T' A' N _ hAN (Nat.le_add_right _ _)]
    · exact hz.trans (above P E (by omega))
  · rw [if_neg c1]
    by_cases c2 : e.start.bytes < p.bytes
    · rw [if_pos c2]
      refine NodeCons.of N (N + (E - O)) hn ?_ hAN (Nat.le_add_right _ _) (by omega)
      show length_saturating_sub z (length_sub e.old_end p) = _
      rw [hz, ho, hp, lenS_sub T A P O hAP (by omega), sat_lenS T P E O (by omega) hot hE,
        above O E (Nat.le_refl _), Nat.sub_self, Nat.add_zero]
    · rw [if_neg c2]
      by_cases c3 : e.start.bytes < p.bytes + z.bytes ∨ (e.start.bytes = p.bytes + z.bytes ∧ e.old_end.bytes = e.start.bytes)
      · rw [if_pos c3]
        refine NodeCons.of (A' + (P - A)) (N + (E - O)) (hp.trans (bp (by omega))) ?_ (Nat.le_add_right _ _)
          (by omega) (by omega)
        show length_add (length_sub e.new_end p) (length_saturating_sub (length_add p z) e.old_end) = _
        rw [hn, hp, hz, ho, lenS_add T A P E hAP hPE, bp (by omega),
          lenS_sub T' A' _ N (Nat.le_add_right _ _) (by omega), sat_lenS T A E O hAO hot hE,
          above O E (Nat.le_refl _), Nat.sub_self, Nat.add_zero, lenS_add T' _ N _ (by omega) (Nat.le_add_right _ _)]
      · rw [if_neg c3]
        exact NodeCons.of (A' + (P - A)) (A' + (E - A)) (hp.trans (bp (by omega)))
          (hz.trans (below P E hAP hPE (by omega))) (Nat.le_add_right _ _)
          (Nat.add_le_add_left (Nat.sub_le_sub_right hPE A) A') (by omega)

theorem reshape_full {T T' : List Nat} {S O N : Nat} (hc : Chg T T' S O N) {A P E : Nat} {p z : Length} {e : Edit}
    (hp : p = lenS T A P) (hz : z = lenS T P E) (hAP : A ≤ P) (hPE : P ≤ E) (hE : E ≤ T.length)
    (hAS : A ≤ S) (hs : e.start = lenS T A S) (ho : e.old_end = lenS T A O) (hn : e.new_end = lenS T' A N) :
    NodeCons T' A (reshape p z e).1 (reshape p z e).2 := by
  have hso := hc.so; have hot := hc.ot; have hsn := hc.sn
  have hsb : A + e.start.bytes = S := lenS_bytes_add hs hAS (by omega)
  refine reshape_lenS hp hz hAP hPE hE ho hn (by omega) hot (by omega) (Nat.le_of_eq hc.len_add)
    (fun a b h1 h2 h3 => ?_) fun a b h => hc.above_eq a b _ _ h rfl rfl
  rw [← hc.below a b (by omega)]
  congr 1 <;> omega

theorem reshape_consumed {T T' : List Nat} {S O N : Nat} (hc : Chg T T' S O N) {A A' P E : Nat} {p z : Length} {e : Edit}
    (hp : p = lenS T A P) (hz : z = lenS T P E) (hAP : A ≤ P) (hPE : P ≤ E) (hE : E ≤ T.length)
    (hAS : S ≤ A) (hA' : A' = N + (A - O))
    (hs : e.start = lenS T A S) (ho : e.old_end = lenS T A O) (hn : e.new_end = lenS T' A' N) :
    NodeCons T' A' (reshape p z e).1 (reshape p z e).2 := by
  have hso := hc.so; have hot := hc.ot; have hl := hc.len_add
  have hsb : e.start.bytes = 0 := by rw [hs, lenS_bytes _ _ _ (by omega)]; omega
  have hz0 : ∀ a b, b ≤ A + e.start.bytes → A ≤ a → lenS T a b = lenS T' (A' + (a - A)) (A' + (b - A)) :=
    fun a b h2 h1 => by rw [lenS_zero _ _ _ (by omega), lenS_zero _ _ _ (by omega)]
  rcases Nat.le_total A O with h | h
  · -- the frame lies inside the replaced text: from here the change deletes `[A, O)`
    obtain rfl : A' = N := by omega
    refine reshape_lenS (N := A') hp hz hAP hPE hE ho (hn.trans ?_) (by omega) hot (by omega) (Nat.le_of_eq hl)
      (fun a b h1 _ h3 => hz0 a b h3 h1) fun a b h => hc.above_eq a b _ _ h rfl rfl
    rw [lenS_zero _ _ _ (Nat.le_refl _)]
  · -- the frame lies after the replaced text: nothing changes from here on
    refine reshape_lenS (O := A) (N := A') hp hz hAP hPE hE (ho.trans ?_) (hn.trans ?_) (by omega) (by omega)
      (by omega) (by omega) (fun a b h1 _ h3 => hz0 a b h3 h1) (fun a b ha => by
        by_cases hb : A ≤ b
        · exact hc.above_eq a b _ _ (by omega) (by omega) (by omega)
        · rw [lenS_zero T a b (by omega), lenS_zero T' _ _ (by omega)])
    · rw [lenS_zero _ _ _ h, lenS_zero _ _ _ (Nat.le_refl _)]
    · rw [lenS_zero _ _ _ (by omega), lenS_zero _ _ _ (Nat.le_refl _)]

theorem reshape_cons {T T' : List Nat} {S O N : Nat} (hc : Chg T T' S O N) {A A' : Nat} {p z : Length} {e : Edit}
    (hn : NodeCons T A p z) (hf : TForm T T' S O N A A' e) :
    NodeCons T' A' (reshape p z e).1 (reshape p z e).2 := by
  obtain ⟨hb, hp, hz⟩ := hn
  obtain ⟨hs, ho, hne, hpos⟩ := hf
  rcases hpos with ⟨h1, h2⟩ | ⟨h1, h2⟩
  · subst h2
    exact reshape_full hc hp hz (by omega) (by omega) hb h1 hs ho hne
  · exact reshape_consumed hc hp hz (by omega) (by omega) hb h1 h2 hs ho hne

mutual
  /-- The one step that is not gluing: a child that is only marked receives `Edit.point x`, which is not the
  change `(S, O, N)` in its frame.  It is the TRIVIAL change at `x` there (`Chg.trivial`), so the same theorem
  applies with `T' = T`, and the result is moved to the real `T'` by `cons_keep` / `cons_transport`. -/
  theorem editTree_cons : ∀ (t : Tree) (e : Edit) (T T' : List Nat) (S O N A A' : Nat),
      Chg T T' S O N → WFb t → Cons T t A → TForm T T' S O N A A' e → Cons T' (editTree t e) A'
    | .mk d ks, e, T, T', S, O, N, A, A', hc, hw, hcons, hf => by
      have hso := hc.so; have hot := hc.ot; have hsn := hc.sn
      have ⟨hnode, hkids⟩ := hcons
      obtain ⟨rb, rp, rz⟩ := reshape_cons hc hnode hf
      obtain ⟨hb, _, _⟩ := hnode
      obtain ⟨hs, ho, hn, hpos⟩ := hf
      have hsb : e.start.bytes = S - A := by rw [hs]; exact lenS_bytes _ _ _ (by omega)
      have hob : e.old_end.bytes = O - A := by rw [ho]; exact lenS_bytes _ _ _ (by omega)
      rcases editTree_step d ks e with ⟨hr0, eq⟩ | ⟨hr0, eq⟩ <;> rw [eq]
      · rcases hpos with ⟨h1, h2⟩ | ⟨h1, h2⟩ <;> rw [h2]
        · exact cons_keep hc _ A hw hcons (by rw [tb_mk]; omega)
        · exact cons_shift hc _ A hw hcons (by omega)
      · have hwl := hw.kids.1
        have hA := (lenS_zero T A A (Nat.le_refl _)).symm
        simp only [Cons, NodeCons, store_padding, store_size_lengthOf d _ rz]
        refine ⟨⟨rb, rp, rz⟩, ?_⟩
        rcases hpos with ⟨h1, h2⟩ | ⟨h1, h2⟩ <;> rw [h2] at hn ⊢
        · exact editKidsA_cons ks _ e.new_end length_zero 0 T T' S O N A A hc hwl hkids
            (Nat.le_refl _) h1 hs ho hn hA rfl (fun _ => rfl)
        · have hn0 : e.new_end = e.start := by
            rw [hn, hs, lenS_zero _ _ _ (by omega), lenS_zero _ _ _ h1]
          exact editKidsB_cons ks _ e.new_end length_zero 0 T T' S O N A A hc hwl hkids
            (Nat.le_refl _) h1 (by omega) hs ho hA rfl hn0

  /-- Child loop before the inserted text has been attributed to a child: the parent's frame `Ap`
  and the next child's frame `Al` are at or before the change and do not move. -/
  theorem editKidsA_cons : ∀ (ks : List Tree) (cx : Ctx) (ne l : Length) (i : Nat) (T T' : List Nat)
      (S O N Ap Al : Nat),
      Chg T T' S O N → WFbL ks → ConsL T ks Al → Ap ≤ Al → Al ≤ S →
      cx.start = lenS T Ap S → cx.oldEnd = lenS T Ap O → ne = lenS T' Ap N → l = lenS T Ap Al →
      cx.isPureInsertion = decide (cx.oldEnd.bytes = cx.start.bytes) →
      ((l.bytes = cx.start.bytes ∧ cx.oldEnd.bytes = cx.start.bytes) → i = 0) →
      ConsL T' (editKids ks cx ne l i) Al
    | [], _, _, _, _, _, _, _, _, _, _, _, _, _, _, _, _, _, _, _, _, _, _ => by
      rw [editKids_nil]; simp only [ConsL]
    | c :: rest, cx, ne, l, i, T, T', S, O, N, Ap, Al, hc, hw, hcons, hAp, hAl, hs, ho, hn, hl, hpure, hinv => by
      have hso := hc.so; have hot := hc.ot; have hsn := hc.sn
      have hlen := hc.len_add
      cases hw with
      | cons _ _ hwc hwr =>
      obtain ⟨hcc, hcr⟩ := hcons
      have htb := hcc.total.2
      have hS : Ap ≤ S := Nat.le_trans hAp hAl
      have hST : S ≤ T.length := Nat.le_trans hso hot
      have hsb : Ap + cx.start.bytes = S := lenS_bytes_add hs hS hST
      have hob : Ap + cx.oldEnd.bytes = O := lenS_bytes_add ho (Nat.le_trans hS hso) hot
      have hnb : Ap + ne.bytes = N := lenS_bytes_add hn (Nat.le_trans hS hsn) (by omega)
      have hlb : Ap + l.bytes = Al := lenS_bytes_add hl hAp (Nat.le_trans hAl hST)
      have hl' := hcc.next hl hAp
      have hx : length_saturating_sub cx.start l = lenS T Al S := sat_lenS_eq hs hl hAp (Nat.le_trans hAl hST) hST
      rcases editKids_step c rest cx ne l i with ⟨h, eq⟩ | ⟨hb, eq⟩ | ⟨_, ht, eq⟩ | ⟨_, ht, eq⟩ <;>
        rw [eq] <;> simp only [ConsL]
      · exact ⟨cons_keep hc c Al hwc hcc (by omega),
          editKidsA_cons rest cx ne (length_add l c.totalSize) (i + 1) T T' S O N Ap (Al + tb c) hc hwr hcr
            (Nat.le_trans hAp (Nat.le_add_right _ _)) (by omega) hs ho hn hl' hpure
            (by simp only [length_add_bytes, totalSize_bytes]; omega)⟩
      · omega
      · rw [hpure, decide_eq_true_eq] at ht
        have hform : TForm T T' S O N Al Al ((kidsEdit cx ne).rebase l) :=
          ⟨hx, sat_lenS_eq ho hl hAp (Nat.le_trans hAl hST) hot,
           sat_lenS_eq hn (hl.trans (hc.below Ap Al hAl).symm) hAp (by omega) (by omega), Or.inl ⟨hAl, rfl⟩⟩
        refine ⟨editTree_cons c _ T T' S O N Al Al hc hwc hcc hform, ?_⟩
        rw [tb_take c hsb hob hnb hlb hso hsn hAl ht]
        exact editKidsB_cons rest cx cx.start (length_add l c.totalSize) (i + 1) T T' S O N Ap
          (Al + tb c) hc hwr hcr (Nat.le_trans hAp (Nat.le_add_right _ _)) (by omega) htb hs ho hl' hpure rfl
      · rw [hpure, decide_eq_true_eq] at ht
        have it := editTree_cons c (.point (length_saturating_sub cx.start l)) T T S S S Al Al
          (Chg.trivial T S hST) hwc hcc ⟨hx, hx, hx, Or.inl ⟨hAl, rfl⟩⟩
        refine ⟨cons_keep hc _ Al (editTree_wfb c _ hwc (EditB.point _)) it (by rw [tb_point]; omega), ?_⟩
        rw [tb_point]
        exact editKidsA_cons rest cx ne (length_add l c.totalSize) (i + 1) T T' S O N Ap (Al + tb c) hc hwr hcr
          (Nat.le_trans hAp (Nat.le_add_right _ _)) (by omega) hs ho hn hl' hpure
          (by simp only [length_add_bytes, totalSize_bytes]; omega)

  /-- Child loop after the inserted text has been attributed (`edit.new_end = edit.start`): the
  next child's frame `Al` is at or after the start of the change and moves to `N + (Al − O)`. -/
  theorem editKidsB_cons : ∀ (ks : List Tree) (cx : Ctx) (ne l : Length) (i : Nat) (T T' : List Nat)
      (S O N Ap Al : Nat),
      Chg T T' S O N → WFbL ks → ConsL T ks Al → Ap ≤ Al → S ≤ Al → Al ≤ T.length →
      cx.start = lenS T Ap S → cx.oldEnd = lenS T Ap O → l = lenS T Ap Al →
      cx.isPureInsertion = decide (cx.oldEnd.bytes = cx.start.bytes) → ne = cx.start →
      ConsL T' (editKids ks cx ne l i) (N + (Al - O))
    | [], _, _, _, _, _, _, _, _, _, _, _, _, _, _, _, _, _, _, _, _, _, _ => by
      rw [editKids_nil]; simp only [ConsL]
    | c :: rest, cx, ne, l, i, T, T', S, O, N, Ap, Al, hc, hw, hcons, hAp, hSl, hAlT, hs, ho, hl, hpure, hne => by
      subst hne
      have hso := hc.so; have hot := hc.ot
      have hlen := hc.len_add
      cases hw with
      | cons _ _ hwc hwr =>
      have ⟨hcc, hcr⟩ := hcons
      have htb := hcc.total.2
      obtain ⟨hsl, hso', hol⟩ : cx.start.bytes ≤ l.bytes ∧ cx.start.bytes ≤ cx.oldEnd.bytes ∧
          cx.oldEnd.bytes - l.bytes = O - Al := by
        rw [hs, ho, hl, lenS_bytes _ _ _ (by omega), lenS_bytes _ _ _ hot, lenS_bytes _ _ _ hAlT]; omega
      have hl' := hcc.next hl hAp
      have hx : length_saturating_sub cx.start l = lenS T Al S := sat_lenS_eq hs hl hAp hAlT (Nat.le_trans hso hot)
      have ihr := editKidsB_cons rest cx cx.start (length_add l c.totalSize) (i + 1) T T' S O N Ap
        (Al + tb c) hc hwr hcr (Nat.le_trans hAp (Nat.le_add_right _ _)) (Nat.le_trans hSl (Nat.le_add_right _ _)) htb hs ho hl' hpure rfl
      rcases editKids_step c rest cx cx.start l i with ⟨h, eq⟩ | ⟨hb, eq⟩ | ⟨_, ht, eq⟩ | ⟨_, ht, eq⟩ <;>
        rw [eq]
      · omega
      · exact consL_shift hc (c :: rest) Al (.cons _ _ hwc hwr) hcons hAlT (by omega)
      · have hform : TForm T T' S O N Al (N + (Al - O)) ((kidsEdit cx cx.start).rebase l) :=
          ⟨hx, sat_lenS_eq ho hl hAp hAlT hot,
           hx.trans (by rw [lenS_zero T Al S hSl, lenS_zero T' (N + (Al - O)) N (by omega)]),
           Or.inr ⟨hSl, rfl⟩⟩
        simp only [ConsL]
        refine ⟨editTree_cons c _ T T' S O N Al (N + (Al - O)) hc hwc hcc hform, ?_⟩
        rw [rebase_tb c cx cx.start l ⟨hso', Nat.le_refl _⟩, Nat.sub_eq_zero_of_le hsl, endMapN_zero, hol,
          show N + (Al - O) + (tb c - (O - Al)) = N + (Al + tb c - O) by omega]
        exact ihr
      · rw [hpure, decide_eq_true_eq] at ht
        have hx0 : length_saturating_sub cx.start l = lenS T Al Al := by
          rw [hx, lenS_zero T Al S (by omega), lenS_zero T Al Al (Nat.le_refl _)]
        have it := editTree_cons c (.point (length_saturating_sub cx.start l)) T T Al Al Al Al Al
          (Chg.trivial T Al hAlT) hwc hcc
          ⟨hx0, hx0, hx0, Or.inl ⟨Nat.le_refl _, rfl⟩⟩
        have h0 : tb c = 0 := by omega
        simp only [ConsL]
        refine ⟨cons_transport _ T T' Al (N + (Al - O)) (editTree_wfb c _ hwc (EditB.point _)) it ?_
          (by rw [tb_point]; omega), ?_⟩
        · intro a b h1 h2 h3
          rw [tb_point] at h3
          rw [lenS_zero T a b (by omega), lenS_zero T' _ _ (by omega)]
        · rw [tb_point, show N + (Al - O) + tb c = N + (Al + tb c - O) by omega]
          exact ihr
end

end TsVerif.C10
