import TsVerif.C10.Lemmas
/-!
# C10 — the edit never changes the shape of a tree

`SameShape t t'`: same paths, and at every node the fields `sameShapeData` lists.  Whatever is a function of the
paths alone (height, fan-out: C12) is therefore unchanged by `editTree`.
-/
namespace TsVerif.C10
open TsGen TsVerif

/-- What `ts_subtree_edit` may not change in a node. -/
def sameShapeData (a b : NodeData) : Prop :=
  a.symbol = b.symbol ∧ a.lookahead = b.lookahead ∧ a.parseState = b.parseState ∧
  a.visible = b.visible ∧ a.named = b.named ∧ a.extra = b.extra ∧ a.isMissing = b.isMissing ∧
  a.isKeyword = b.isKeyword

mutual
  inductive SameShape : Tree → Tree → Prop
    | mk {d d' : NodeData} {ks ks' : List Tree} :
        sameShapeData d d' → SameShapeL ks ks' → SameShape (.mk d ks) (.mk d' ks')
  inductive SameShapeL : List Tree → List Tree → Prop
    | nil : SameShapeL [] []
    | cons {t t' : Tree} {ts ts' : List Tree} : SameShape t t' → SameShapeL ts ts' → SameShapeL (t :: ts) (t' :: ts')
end

theorem sameShapeData_store (d : NodeData) (p s : Length) : sameShapeData d (store d p s) := by
  unfold store sameShapeData
  split
  · split <;> simp
  · simp

mutual
  theorem SameShape.refl : ∀ t : Tree, SameShape t t
    | .mk d ks => .mk (by simp [sameShapeData]) (SameShapeL.refl ks)
  theorem SameShapeL.refl : ∀ ts : List Tree, SameShapeL ts ts
    | [] => .nil
    | t :: ts => .cons (SameShape.refl t) (SameShapeL.refl ts)
end

mutual
  /-- Editing never changes the shape of a tree (same paths, symbols, look-ahead,
  parse states and all flags other than `has_changes` / the inline promotion). -/
  theorem edit_shape : ∀ (t : Tree) (e : Edit), SameShape t (editTree t e)
    | .mk d ks, e => by
      rcases editTree_step d ks e with ⟨_, eq⟩ | ⟨_, eq⟩ <;> rw [eq]
      · exact SameShape.refl _
      · exact .mk (sameShapeData_store _ _ _) (editKids_shape ks _ _ _ _)
  theorem editKids_shape : ∀ (ks : List Tree) (cx : Ctx) (ne cr : Length) (i : Nat),
      SameShapeL ks (editKids ks cx ne cr i)
    | [], _, _, _, _ => by rw [editKids_nil]; exact .nil
    | c :: rest, cx, ne, cr, i => by
      rcases editKids_step c rest cx ne cr i with ⟨_, eq⟩ | ⟨_, eq⟩ | ⟨_, _, eq⟩ | ⟨_, _, eq⟩ <;> rw [eq]
      · exact .cons (SameShape.refl _) (editKids_shape rest _ _ _ _)
      · exact SameShapeL.refl _
      · exact .cons (edit_shape c _) (editKids_shape rest _ _ _ _)
      · exact .cons (edit_shape c _) (editKids_shape rest _ _ _ _)
end

end TsVerif.C10
