import TsVerif.C10.Bytes
/-!
# C10 — absolute byte spans of all nodes; lists related element by element (`All2`)

The edit keeps the shape, so the nodes before and after are paired by their place in the preorder listing: every
property theorem has the form `All2 R (listing of t) (listing of (editTree t e))`.
-/
namespace TsVerif.C10
open TsGen TsVerif

abbrev Span := Nat × Nat

mutual
  /-- Preorder list of (content start, content end) of every node; `A` = where `t`'s padding starts. -/
  def spans : Tree → Nat → List Span
    | .mk d ks, A => (A + d.padding.bytes, A + d.padding.bytes + d.size.bytes) :: spansL ks A
  def spansL : List Tree → Nat → List Span
    | [], _ => []
    | c :: rest, A => spans c A ++ spansL rest (A + tb c)
end

inductive All2 {α β : Type} (R : α → β → Prop) : List α → List β → Prop
  | nil : All2 R [] []
  | cons {a b as bs} : R a b → All2 R as bs → All2 R (a :: as) (b :: bs)

theorem All2.append {α β : Type} {R : α → β → Prop} {xs ys : List α} {us vs : List β}
    (h1 : All2 R xs us) (h2 : All2 R ys vs) : All2 R (xs ++ ys) (us ++ vs) := by
  induction h1 with
  | nil => simpa using h2
  | cons h _ ih => exact All2.cons h ih

theorem All2.maps {α β γ : Type} {R : α → β → Prop} (f : γ → α) (g : γ → β) {xs : List γ}
    (h : ∀ a, a ∈ xs → R (f a) (g a)) : All2 R (xs.map f) (xs.map g) := by
  induction xs with
  | nil => exact All2.nil
  | cons a as ih => exact All2.cons (h a (by simp)) (ih fun b hb => h b (by simp [hb]))

theorem All2.of_map {α β γ δ : Type} {R : γ → δ → Prop} (f : α → γ) (g : β → δ) :
    ∀ (xs : List α) (us : List β), All2 R (xs.map f) (us.map g) → All2 (fun a b => R (f a) (g b)) xs us
  | [], [], _ => All2.nil
  | [], _ :: _, h => by cases h
  | _ :: _, [], h => by cases h
  | x :: xs, u :: us, h => by
    cases h with
    | cons h1 h2 => exact All2.cons h1 (All2.of_map f g xs us h2)

theorem All2.mono2 {α β : Type} {R S : α → β → Prop} {xs : List α} {us : List β}
    (h : All2 R xs us) (hRS : ∀ a b, a ∈ xs → b ∈ us → R a b → S a b) : All2 S xs us := by
  induction h with
  | nil => exact All2.nil
  | cons h _ ih =>
    refine All2.cons (hRS _ _ (by simp) (by simp) h) (ih ?_)
    intro a b ha hb; exact hRS a b (by simp [ha]) (by simp [hb])

theorem All2.mono {α β : Type} {R S : α → β → Prop} {xs : List α} {us : List β}
    (h : All2 R xs us) (hRS : ∀ a b, a ∈ xs → R a b → S a b) : All2 S xs us :=
  h.mono2 fun a b ha _ => hRS a b ha

def shift (B : Nat) (p : Span) : Span := (p.1 + B, p.2 + B)

mutual
  theorem spans_shift : ∀ (t : Tree) (A B : Nat), spans t (A + B) = (spans t A).map (shift B)
    | .mk d ks, A, B => by
      simp only [spans, List.map_cons, shift]
      rw [spansL_shift ks A B]
      congr 1
      simp only [Prod.mk.injEq]; omega
  theorem spansL_shift : ∀ (ks : List Tree) (A B : Nat), spansL ks (A + B) = (spansL ks A).map (shift B)
    | [], _, _ => by simp [spansL]
    | c :: rest, A, B => by
      simp only [spansL, List.map_append]
      rw [spans_shift c A B, show A + B + tb c = (A + tb c) + B by omega, spansL_shift rest (A + tb c) B]
end

theorem spansL_frame (ks : List Tree) (A : Nat) : spansL ks A = (spansL ks 0).map (shift A) := by
  rw [← spansL_shift, Nat.zero_add]

mutual
  theorem spans_ge : ∀ (t : Tree) (A : Nat) (p : Span), p ∈ spans t A → A ≤ p.1 ∧ p.1 ≤ p.2
    | .mk d ks, A, p, h => by
      simp only [spans, List.mem_cons] at h
      rcases h with h | h
      · subst h; simp
      · exact spansL_ge ks A p h
  theorem spansL_ge : ∀ (ks : List Tree) (A : Nat) (p : Span), p ∈ spansL ks A → A ≤ p.1 ∧ p.1 ≤ p.2
    | [], _, _, h => by simp [spansL] at h
    | c :: rest, A, p, h => by
      simp only [spansL, List.mem_append] at h
      rcases h with h | h
      · exact spans_ge c A p h
      · have := spansL_ge rest (A + tb c) p h
        omega
end

mutual
  theorem spans_le_end : ∀ (t : Tree) (A : Nat) (p : Span), WFb t → p ∈ spans t A → p.2 ≤ A + tb t
    | .mk d ks, A, p, hw, h => by
      simp only [spans, List.mem_cons] at h
      rw [tb_mk]
      rcases h with h | h
      · subst h; exact Nat.le_of_eq (Nat.add_assoc _ _ _)
      · have := spansL_le_end ks A p hw.kids.1 h
        have := hw.kids.2
        omega
  theorem spansL_le_end : ∀ (ks : List Tree) (A : Nat) (p : Span), WFbL ks → p ∈ spansL ks A → p.2 ≤ A + sumT ks
    | [], _, _, _, h => by simp [spansL] at h
    | c :: rest, A, p, hw, h => by
      cases hw with
      | cons _ _ hc hrest =>
      simp only [spansL, List.mem_append] at h
      rcases h with h | h
      · have := spans_le_end c A p hc h
        simp only [sumT_cons]; omega
      · have := spansL_le_end rest (A + tb c) p hrest h
        simp only [sumT_cons]; omega
end

end TsVerif.C10
