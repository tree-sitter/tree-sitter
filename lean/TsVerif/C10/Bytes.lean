import TsVerif.C10.Loop
/-!
# C10 — the edit preserves byte tiling

`WFb t`: in the byte dimension every inner node's padding equals its first child's padding and
its total (padding + size) equals the sum of its children's totals — what
`ts_subtree_summarize_children` establishes and what makes absolute positions well defined.

None of the arithmetic needs the recursion into the tree: the total of an edited node is read off its own
data, the total of the edited children is an induction over the list, the first child's padding is one turn
of the loop.
-/
namespace TsVerif.C10
open TsGen TsVerif

mutual
  inductive WFb : Tree → Prop
    | leaf (d : NodeData) : WFb (.mk d [])
    | node (d : NodeData) (k : Tree) (ks : List Tree) :
        WFb k → WFbL ks → d.padding.bytes = k.data.padding.bytes →
        d.padding.bytes + d.size.bytes = sumT (k :: ks) → WFb (.mk d (k :: ks))
  inductive WFbL : List Tree → Prop
    | nil : WFbL []
    | cons (t : Tree) (ts : List Tree) : WFb t → WFbL ts → WFbL (t :: ts)
end

theorem WFb.kids {d : NodeData} {ks : List Tree} (h : WFb (.mk d ks)) :
    WFbL ks ∧ sumT ks ≤ d.padding.bytes + d.size.bytes := by
  cases h with
  | leaf _ => exact ⟨.nil, Nat.zero_le _⟩
  | node _ _ _ hk hks _ hs => exact ⟨.cons _ _ hk hks, Nat.le_of_eq hs.symm⟩

theorem editTree_tb_eq (t : Tree) (e : Edit) (he : EditB e) :
    tb (editTree t e) = endMapN e.start.bytes e.old_end.bytes e.new_end.bytes (tb t) := by
  obtain ⟨d, ks⟩ := t
  rcases editTree_step d ks e with ⟨hr, eq⟩ | ⟨hr, eq⟩ <;> rw [eq]
  · unfold EditB at he
    rw [tb_mk]
    exact (endMapN_of_le (by omega) (by omega)).symm
  · simp only [tb_mk, store_padding_bytes, store_size_bytes]
    exact reshape_total_bytes _ _ e he

theorem editTree_pad (t : Tree) (e : Edit) (he : EditB e) :
    (editTree t e).data.padding.bytes =
      startMapN e.start.bytes e.old_end.bytes e.new_end.bytes t.data.padding.bytes := by
  obtain ⟨d, ks⟩ := t
  rcases editTree_step d ks e with ⟨hr, eq⟩ | ⟨hr, eq⟩ <;> rw [eq]
  · unfold EditB at he
    show d.padding.bytes = startMapN _ _ _ d.padding.bytes
    exact (startMapN_of_le he.1 (by omega) (by omega)).symm
  · exact (store_padding_bytes _ _ _).trans (reshape_pad_bytes _ _ e)

theorem rebase_tb (c : Tree) (cx : Ctx) (ne l : Length) (he : EditB (kidsEdit cx ne)) :
    tb (editTree c ((kidsEdit cx ne).rebase l)) =
      endMapN (cx.start.bytes - l.bytes) (cx.oldEnd.bytes - l.bytes) (ne.bytes - l.bytes) (tb c) := by
  simpa only [Edit.rebase_start_bytes, Edit.rebase_old_end_bytes, Edit.rebase_new_end_bytes, kidsEdit]
    using editTree_tb_eq c _ (he.rebase l)

theorem tb_point (c : Tree) (x : Length) : tb (editTree c (.point x)) = tb c :=
  (editTree_tb_eq c _ (EditB.point x)).trans (endMapN_point _ _)

theorem editKids_sumT : ∀ (ks : List Tree) (cx : Ctx) (ne l : Length) (i : Nat), Loop cx ne l i ks →
    sumT (editKids ks cx ne l i) = endMapN (cx.start.bytes - l.bytes) (cx.oldEnd.bytes - l.bytes) (ne.bytes - l.bytes) (sumT ks)
  | [], cx, ne, l, i, h => by
    rw [editKids_nil, sumT_nil]
    exact h.nil.symm
  | c :: rest, cx, ne, l, i, h => by
    have ih := fun ne' => editKids_sumT rest cx ne' (length_add l c.totalSize) (i + 1)
    simp only [length_add_bytes, totalSize_bytes, Nat.sub_add_eq] at ih ⊢
    rw [sumT_cons]
    rcases h.step with ⟨hx, eq, h'⟩ | ⟨hx, eq, h'⟩ | ⟨⟨h1, h2, h3⟩, eq⟩ | ⟨hx, hn, eq, h'⟩ <;> rw [eq, sumT_cons]
    · rw [ih ne h']; exact endMapN_before h.rel_so h.rel_sn hx.1
    · rw [tb_point, ih ne h']; exact endMapN_before h.rel_so h.rel_sn hx.1
    · rw [h1, h2, h3, endMapN_zero]; rfl
    · rw [rebase_tb c cx ne l ⟨h.so, h.sn⟩, ih _ h']
      exact endMapN_take h.rel_so hx hn

theorem editKids_head_pad (k : Tree) (rest : List Tree) (cx : Ctx) (ne l : Length)
    (hso : cx.start.bytes ≤ cx.oldEnd.bytes) (hsn : cx.start.bytes ≤ ne.bytes)
    (hpure : cx.isPureInsertion = decide (cx.oldEnd.bytes = cx.start.bytes)) (hl : l.bytes = 0) :
    ∃ k' rest', editKids (k :: rest) cx ne l 0 = k' :: rest' ∧
      k'.data.padding.bytes = startMapN cx.start.bytes cx.oldEnd.bytes ne.bytes k.data.padding.bytes := by
  have hpad : tb k ≤ cx.start.bytes → ¬ (tb k = cx.start.bytes ∧ cx.oldEnd.bytes = cx.start.bytes) →
      k.data.padding.bytes = startMapN cx.start.bytes cx.oldEnd.bytes ne.bytes k.data.padding.bytes := fun h1 h2 =>
    have : k.data.padding.bytes ≤ tb k := Nat.le_add_right _ _
    (startMapN_lo (by omega) (by omega)).symm
  rcases editKids_step k rest cx ne l 0 with ⟨h, eq⟩ | ⟨hb, eq⟩ | ⟨_, ht, eq⟩ | ⟨_, ht, eq⟩ <;>
    refine ⟨_, _, eq, ?_⟩
  · exact hpad (by omega) (by omega)
  · have : tb k ≤ cx.start.bytes ∧ ¬ (tb k = cx.start.bytes ∧ cx.oldEnd.bytes = cx.start.bytes) := by omega
    exact hpad this.1 this.2
  · rw [editTree_pad k _ (EditB.rebase (e := kidsEdit cx ne) ⟨hso, hsn⟩ l)]
    simp only [Edit.rebase_start_bytes, Edit.rebase_old_end_bytes, Edit.rebase_new_end_bytes, kidsEdit, hl,
      Nat.sub_zero]
  · rw [hpure, decide_eq_true_eq] at ht
    rw [editTree_pad k _ (EditB.point _)]
    exact (startMapN_point _ _).trans (hpad (by omega) (by omega))

mutual
  theorem editTree_wfb : ∀ (t : Tree) (e : Edit), WFb t → EditB e → WFb (editTree t e)
    | .mk d ks, e, hw, he => by
      rcases editTree_step d ks e with ⟨_, eq⟩ | ⟨_, eq⟩ <;> rw [eq]
      · exact hw
      · have hwk := editKids_wfb ks (ctxOf d e) e.new_end length_zero 0 hw.kids.1 he.1 he.2
        cases ks with
        | nil => rw [editKids_nil]; exact .leaf _
        | cons k ks =>
          cases hw with
          | node _ _ _ _ _ hpad hsum =>
          obtain ⟨k', rest', hres, hkpad⟩ := editKids_head_pad k ks (ctxOf d e) e.new_end length_zero he.1 he.2 rfl rfl
          have hs := editKids_sumT (k :: ks) (ctxOf d e) e.new_end length_zero 0 (Loop.ofNode d e he k ks)
          rw [hres] at hwk hs ⊢
          cases hwk with
          | cons _ _ hwk hwr =>
          refine .node _ _ _ hwk hwr ?_ ?_
          · rw [store_padding_bytes, reshape_pad_bytes, hkpad, hpad]; rfl
          · have ht := editTree_tb_eq (.mk d (k :: ks)) e he
            rw [eq, tb_mk, tb_mk, hsum] at ht
            rw [ht, hs]
            rfl
  theorem editKids_wfb : ∀ (ks : List Tree) (cx : Ctx) (ne l : Length) (i : Nat),
      WFbL ks → cx.start.bytes ≤ cx.oldEnd.bytes → cx.start.bytes ≤ ne.bytes →
      WFbL (editKids ks cx ne l i)
    | [], _, _, _, _, _, _, _ => by rw [editKids_nil]; exact .nil
    | c :: rest, cx, ne, l, i, hw, hso, hsn => by
      cases hw with
      | cons _ _ hc hrest =>
      have ih := fun ne' => editKids_wfb rest cx ne' (length_add l c.totalSize) (i + 1) hrest hso
      rcases editKids_step c rest cx ne l i with ⟨_, eq⟩ | ⟨_, eq⟩ | ⟨_, _, eq⟩ | ⟨_, _, eq⟩ <;> rw [eq]
      · exact .cons _ _ hc (ih ne hsn)
      · exact .cons _ _ hc hrest
      · exact .cons _ _ (editTree_wfb c _ hc (EditB.rebase (e := kidsEdit cx ne) ⟨hso, hsn⟩ l))
          (ih cx.start (Nat.le_refl _))
      · exact .cons _ _ (editTree_wfb c _ hc (EditB.point _)) (ih ne hsn)
end

def TreeGoal (t : Tree) (e : Edit) : Prop :=
  WFb (editTree t e) ∧
  (Takes (tb t) e → tb (editTree t e) = e.new_end.bytes + (tb t - e.old_end.bytes)) ∧
  (¬ Takes (tb t) e → tb (editTree t e) = tb t) ∧
  (editTree t e).data.padding.bytes = padB t.data.padding.bytes e

/-- The child-loop condition "some child takes the edit", in closed form. -/
def KTakes (cx : Ctx) (l : Nat) (S : Nat) : Prop :=
  cx.start.bytes < l + S ∨ (cx.start.bytes = l + S ∧ cx.oldEnd.bytes = cx.start.bytes)

theorem editTree_bytes : ∀ (t : Tree) (e : Edit), WFb t → EditB e → TreeGoal t e :=
  fun t e hw he => ⟨editTree_wfb t e hw he, fun hT => (editTree_tb_eq t e he).trans (endMapN_takes hT),
    fun hT => (editTree_tb_eq t e he).trans (endMapN_not_takes hT), editTree_pad t e he⟩

/-- Child loop before the inserted text has been attributed to a child. -/
theorem editKidsA_bytes : ∀ (ks : List Tree) (cx : Ctx) (ne l : Length) (i : Nat),
    WFbL ks → cx.start.bytes ≤ cx.oldEnd.bytes →
    cx.isPureInsertion = decide (cx.oldEnd.bytes = cx.start.bytes) →
    cx.start.bytes ≤ ne.bytes → l.bytes ≤ cx.start.bytes →
    ((l.bytes = cx.start.bytes ∧ cx.oldEnd.bytes = cx.start.bytes) → i = 0 ∧ ks ≠ []) →
    WFbL (editKids ks cx ne l i) ∧
    (KTakes cx l.bytes (sumT ks) →
      sumT (editKids ks cx ne l i) = (ne.bytes - l.bytes) + ((l.bytes + sumT ks) - cx.oldEnd.bytes)) ∧
    (¬ KTakes cx l.bytes (sumT ks) → sumT (editKids ks cx ne l i) = sumT ks) ∧
    (i = 0 → l.bytes = 0 → ∀ k rest, ks = k :: rest →
      ∃ k' rest', editKids ks cx ne l i = k' :: rest' ∧
        k'.data.padding.bytes = padB k.data.padding.bytes (kidsEdit cx ne)) := by
  intro ks cx ne l i hw hso hpure hsn hls hinv
  have hs := editKids_sumT ks cx ne l i ⟨hso, hpure, hsn, .inl hls, fun h => hinv ⟨h.1, h.2.1⟩⟩
  unfold endMapN at hs
  unfold KTakes
  refine ⟨editKids_wfb ks cx ne l i hw hso hsn, fun hk => ?_, fun hk => ?_, ?_⟩
  · rw [hs, if_pos (by omega)]; omega
  · rw [hs, if_neg (by omega)]
  · rintro rfl hl k rest rfl
    exact editKids_head_pad k rest cx ne l hso hsn hpure hl

/-- Child loop after the inserted text has been attributed (`edit.new_end = edit.start`). -/
theorem editKidsB_bytes : ∀ (ks : List Tree) (cx : Ctx) (ne l : Length) (i : Nat),
    WFbL ks → cx.start.bytes ≤ cx.oldEnd.bytes →
    cx.isPureInsertion = decide (cx.oldEnd.bytes = cx.start.bytes) →
    ne = cx.start → l.bytes ≥ cx.start.bytes →
    WFbL (editKids ks cx ne l i) ∧
    sumT (editKids ks cx ne l i) = sumT ks - (cx.oldEnd.bytes - l.bytes) := by
  intro ks cx ne l i hw hso hpure hne hls
  subst hne
  have hs := editKids_sumT ks cx cx.start l i
    ⟨hso, hpure, Nat.le_refl _, .inr rfl, fun h => absurd h.2.2 (Nat.lt_irrefl _)⟩
  unfold endMapN at hs
  refine ⟨editKids_wfb ks cx cx.start l i hw hso (Nat.le_refl _), ?_⟩
  rw [hs]
  split <;> omega

end TsVerif.C10
