import TsVerif.C10.Judge
/-!
# C10 — the stand-alone point / range edit functions and the stored included ranges

`ts_point_edit` and `ts_range_edit` (generated: Gen/Edit.lean) against the map φ of the judge (`phi`) and the
byte maps `movedEndSat` / `movedStartSat` (Judge.lean).
-/
namespace TsVerif.C10
open TsGen TsVerif

def mkLen (b : Nat) (p : TSPoint) : Length := { bytes := b, extent := p }

/-- The stand-alone point edit moves a position at or after the old end by
the same map φ that the judge (and `editTree`) use, keeps positions up to `start`, and collapses
positions inside the replaced text to the new end. -/
theorem point_edit_eq_phi (p : TSPoint) (b : Nat) (e : TSInputEdit) :
    (b ≥ e.old_end_byte → ts_point_edit p b e =
        ((phi (Edit.ofInput e) (mkLen b p)).extent, (phi (Edit.ofInput e) (mkLen b p)).bytes)) ∧
    (b ≤ e.start_byte → b < e.old_end_byte → ts_point_edit p b e = (p, b)) ∧
    (e.start_byte < b → b < e.old_end_byte → ts_point_edit p b e = (e.new_end_point, e.new_end_byte)) := by
  refine ⟨?_, ?_, ?_⟩
  · intro h
    simp [ts_point_edit, phi, Edit.ofInput, mkLen, length_add, length_sub, h]
  · intro h1 h2
    have h3 : ¬ (b ≥ e.old_end_byte) := by omega
    have h4 : ¬ (b > e.start_byte) := by omega
    simp [ts_point_edit, h3, h4]
  · intro h1 h2
    have h3 : ¬ (b ≥ e.old_end_byte) := by omega
    simp [ts_point_edit, h3, h1]

/-- First phase of `ts_range_edit`: the END of the range.  `rangeEditEnd` / `rangeEditStart` are the two halves of
the GENERATED `TsGen.ts_range_edit`, copied by hand; `range_edit_phases … := rfl` ties the copy to the generated
text, and a regeneration that changes `ts_range_edit` breaks that `rfl` first. -/
def rangeEditEnd (range : TSRange) (edit : TSInputEdit) : TSRange :=
  if (range.end_byte ≥ edit.old_end_byte) then
    if (range.end_byte ≠ 4294967295) then
      let range := { range with end_byte := ((edit.new_end_byte + ((range.end_byte + 4294967296 - edit.old_end_byte) % 4294967296)) % 4294967296) }
      let range := { range with end_point := (point_add edit.new_end_point (point_sub range.end_point edit.old_end_point)) }
      if (range.end_byte < edit.new_end_byte) then
        let range := { range with end_byte := 4294967295 }
        let range := { range with end_point := POINT_MAX }
        range
      else
        range
    else
      range
  else
    if (range.end_byte > edit.start_byte) then
      let range := { range with end_byte := edit.start_byte }
      let range := { range with end_point := edit.start_point }
      range
    else
      range

/-- Second phase of `ts_range_edit`: the START of the range. -/
def rangeEditStart (range : TSRange) (edit : TSInputEdit) : TSRange :=
  if (range.start_byte ≥ edit.old_end_byte) then
    let range := { range with start_byte := ((edit.new_end_byte + ((range.start_byte + 4294967296 - edit.old_end_byte) % 4294967296)) % 4294967296) }
    let range := { range with start_point := (point_add edit.new_end_point (point_sub range.start_point edit.old_end_point)) }
    if (range.start_byte < edit.new_end_byte) then
      let range := { range with start_byte := 4294967295 }
      let range := { range with start_point := POINT_MAX }
      range
    else
      range
  else
    if (range.start_byte > edit.start_byte) then
      let range := { range with start_byte := edit.start_byte }
      let range := { range with start_point := edit.start_point }
      range
    else
      range

theorem range_edit_phases (r : TSRange) (e : TSInputEdit) :
    ts_range_edit r e = rangeEditStart (rangeEditEnd r e) e := rfl

theorem rangeEditStart_end (x : TSRange) (e : TSInputEdit) : (rangeEditStart x e).end_byte = x.end_byte := by
  unfold rangeEditStart; dsimp only
  repeat' split
  all_goals rfl

theorem rangeEditEnd_start (x : TSRange) (e : TSInputEdit) : (rangeEditEnd x e).start_byte = x.start_byte := by
  unfold rangeEditEnd; dsimp only
  repeat' split
  all_goals rfl

/-- The C code's 32-bit shift `new_end + (b - old_end)` with its wrap-around test, in `Nat`. -/
theorem wrap_shift (b o n : Nat) (hb : b < 4294967296) (hn : n < 4294967296) (h : b ≥ o) :
    (if (n + (b + 4294967296 - o) % 4294967296) % 4294967296 < n then 4294967295
      else (n + (b + 4294967296 - o) % 4294967296) % 4294967296) =
    if n + (b - o) ≥ 4294967296 then 4294967295 else n + (b - o) := by
  split <;> split <;> omega

theorem rangeEditEnd_end (x : TSRange) (e : TSInputEdit)
    (he : x.end_byte < 4294967296) (hn : e.new_end_byte < 4294967296) :
    (rangeEditEnd x e).end_byte = movedEndSat x.end_byte e := by
  unfold rangeEditEnd movedEndSat
  dsimp only
  split
  · split
    · rw [← wrap_shift _ _ _ he hn ‹_›]; split <;> rfl
    · rw [if_pos (Decidable.not_not.mp ‹_›)]; exact Decidable.not_not.mp ‹_›
  · split <;> rfl

theorem rangeEditStart_start (x : TSRange) (e : TSInputEdit)
    (hs : x.start_byte < 4294967296) (hn : e.new_end_byte < 4294967296) :
    (rangeEditStart x e).start_byte = movedStartSat x.start_byte e := by
  unfold rangeEditStart movedStartSat
  dsimp only
  split
  · rw [← wrap_shift _ _ _ hs hn ‹_›]; split <;> rfl
  · split <;> rfl

/-- The byte ends of `ts_range_edit` for EVERY 32-bit range and edit (including
open ends, `UINT32_MAX` sentinels and shifts that overflow 32 bits): the end moves by `movedEndSat`,
the start by `movedStartSat`.  Contains `range_edit_eq_phi` and the byte part of
`range_edit_open_end`; the stand-alone helper (also through the Rust binding's
`InputEdit::edit_range`) and `ts_tree_edit`'s stored ranges are both judged against it. -/
theorem range_edit_sat (r : TSRange) (e : TSInputEdit)
    (hs : r.start_byte < 4294967296) (he : r.end_byte < 4294967296)
    (hn : e.new_end_byte < 4294967296) :
    (ts_range_edit r e).end_byte = movedEndSat r.end_byte e ∧
    (ts_range_edit r e).start_byte = movedStartSat r.start_byte e :=
  by
  rw [range_edit_phases, rangeEditStart_end, rangeEditEnd_end r e he hn,
    rangeEditStart_start _ e (by rw [rangeEditEnd_start]; exact hs) hn, rangeEditEnd_start]
  exact ⟨rfl, rfl⟩

/-- Byte dimension, no sentinel/overflow: each end of a stored range is shifted by φ at or after the old
end, collapsed to `start_byte` strictly inside the replaced text (`ts_point_edit` collapses to `new_end_byte`
there: `point_edit_eq_phi`), and kept up to the start. -/
theorem range_edit_eq_phi (r : TSRange) (e : TSInputEdit)
    (hs : r.start_byte ≤ r.end_byte) (hmax : r.end_byte < 4294967295)
    (hno : e.new_end_byte + r.end_byte < 4294967296)
    (hedit : e.start_byte ≤ e.old_end_byte) :
    (ts_range_edit r e).end_byte =
      (if r.end_byte ≥ e.old_end_byte then e.new_end_byte + (r.end_byte - e.old_end_byte)
       else if r.end_byte > e.start_byte then e.start_byte else r.end_byte) ∧
    (ts_range_edit r e).start_byte =
      (if r.start_byte ≥ e.old_end_byte then e.new_end_byte + (r.start_byte - e.old_end_byte)
       else if r.start_byte > e.start_byte then e.start_byte else r.start_byte) := by
  have h := range_edit_sat r e (by omega) (by omega) (by omega)
  rw [h.1, h.2]
  unfold movedEndSat movedStartSat
  constructor
  · split
    · rw [if_neg (by omega), if_neg (by omega)]
    · rfl
  · split
    · rw [if_neg (by omega)]
    · rfl

/-- A range whose end is open (`UINT32_MAX`, the default "to the end of the
document" range of every tree parsed without explicit ranges) keeps its open end and end point under
every edit, and its start moves like any other position. -/
theorem range_edit_open_end (r : TSRange) (e : TSInputEdit)
    (hopen : r.end_byte = 4294967295) (_hedit : e.start_byte ≤ e.old_end_byte)
    (hoe : e.old_end_byte < 4294967296) (hno : e.new_end_byte + r.start_byte < 4294967296) :
    (ts_range_edit r e).end_byte = 4294967295 ∧ (ts_range_edit r e).end_point = r.end_point ∧
    (ts_range_edit r e).start_byte =
      (if r.start_byte ≥ e.old_end_byte then e.new_end_byte + (r.start_byte - e.old_end_byte)
       else if r.start_byte > e.start_byte then e.start_byte else r.start_byte) := by
  have h1 : e.old_end_byte ≤ 4294967295 := by omega
  have w2 : r.start_byte ≥ e.old_end_byte →
      (e.new_end_byte + (r.start_byte + 4294967296 - e.old_end_byte) % 4294967296) % 4294967296
        = e.new_end_byte + (r.start_byte - e.old_end_byte) := by intro h; omega
  have n1 : ∀ x, ¬ (e.new_end_byte + x < e.new_end_byte) := by intro x; omega
  unfold ts_range_edit
  by_cases h3 : r.start_byte ≥ e.old_end_byte <;> by_cases h4 : r.start_byte > e.start_byte <;>
    simp [h1, hopen, h3, h4, w2, n1] <;> (try omega)

/-- `rangesJudge` never rejects what `ts_range_edit` computes (so a rejection is a deviation of the
implementation from the proved mapping, not of the judge from the model). -/
theorem rangesJudge_model (rs : List TSRange) (e : TSInputEdit) :
    rangesJudge rs (rs.map (ts_range_edit · e)) e = none := by
  unfold rangesJudge
  simp only [List.length_map, ne_eq, not_true_eq_false, if_false]
  suffices h : ∀ i, rangesJudge.go e rs (rs.map (ts_range_edit · e)) i = none from h 0
  induction rs with
  | nil => intro i; simp [rangesJudge.go]
  | cons r rs ih =>
    intro i
    simp only [List.map_cons, rangesJudge.go]
    rw [if_neg, if_neg]
    · exact ih (i + 1)
    · rintro ⟨h1, h2, h3, h4, h5⟩
      exact h5 (range_edit_open_end r e h1 h2 h3 h4).2.1
    · rintro ⟨h1, h2, h3, h5⟩
      have := range_edit_sat r e h1 h2 h3
      rcases h5 with h5 | h5
      · exact h5 this.1
      · exact h5 this.2

-- non-vacuity: a concrete edit satisfying the hypotheses of `range_edit_eq_phi`
example : let r : TSRange := { start_point := ⟨0, 2⟩, end_point := ⟨0, 9⟩, start_byte := 2, end_byte := 9 }
    let e : TSInputEdit := { start_byte := 1, old_end_byte := 3, new_end_byte := 6,
                             start_point := ⟨0,1⟩, old_end_point := ⟨0,3⟩, new_end_point := ⟨0,6⟩ }
    r.start_byte ≤ r.end_byte ∧ r.end_byte < 4294967295 ∧ e.new_end_byte + r.end_byte < 4294967296 ∧
    (ts_range_edit r e).start_byte = 1 ∧ (ts_range_edit r e).end_byte = 12 := by decide

end TsVerif.C10
