import TsVerif.C10.Spans
/-!
# C10 — how `editTree` moves the byte span of every node (kept / shifted clauses)

`Rel s o n p q` is the property's pair of clauses for one node; `spans_edit` says more: every span, also of the
nodes that overlap the change, goes where the position map `mvN` (Map.lean) puts it, and `Rel` is read off the
map (`rel_mv`).  `noop_spans` first: for an edit whose three positions coincide the map is the identity, and
then the statement needs no tiling.
-/
namespace TsVerif.C10
open TsGen TsVerif

/-- The property's two positional clauses for one node, in bytes: `p` = old span, `q` = new span.
* a node that ends before the change (or exactly at its start, unless the edit is a pure
  insertion there) keeps its span;
* a node that starts at or after the old end is shifted by φ(x) = new_end + (x − old_end). -/
def Rel (s o n : Nat) (p q : Span) : Prop :=
  ((p.2 < s ∨ (p.2 = s ∧ o ≠ s)) → q = p) ∧
  (o ≤ p.1 → q = (n + (p.1 - o), n + (p.2 - o)))

mutual
  theorem noop_spans : ∀ (t : Tree) (e : Edit) (A : Nat),
      e.old_end.bytes = e.start.bytes → e.new_end.bytes = e.start.bytes →
      spans (editTree t e) A = spans t A ∧ tb (editTree t e) = tb t
    | .mk d ks, e, A, h1, h2 => by
      obtain ⟨r1, r2⟩ := reshape_noop d.padding d.size e h1 h2
      rcases editTree_step d ks e with ⟨_, eq⟩ | ⟨_, eq⟩ <;> rw [eq]
      · exact ⟨rfl, rfl⟩
      · have hk := noop_spansL ks (ctxOf d e) e.new_end length_zero 0 A h1 h2
        simp only [spans, tb_mk, store_padding_bytes, store_size_bytes, r1, r2, hk.1, and_self]
  theorem noop_spansL : ∀ (ks : List Tree) (cx : Ctx) (ne l : Length) (i : Nat) (A : Nat),
      cx.oldEnd.bytes = cx.start.bytes → ne.bytes = cx.start.bytes →
      spansL (editKids ks cx ne l i) A = spansL ks A ∧ sumT (editKids ks cx ne l i) = sumT ks
    | [], _, _, _, _, _, _, _ => by rw [editKids_nil]; exact ⟨rfl, rfl⟩
    | c :: rest, cx, ne, l, i, A, h1, h2 => by
      have ih := fun ne h => noop_spansL rest cx ne (length_add l c.totalSize) (i + 1) (A + tb c) h1 h
      rcases editKids_step c rest cx ne l i with ⟨_, eq⟩ | ⟨_, eq⟩ | ⟨_, _, eq⟩ | ⟨_, _, eq⟩ <;> rw [eq]
      · simp only [spansL, sumT_cons, ih ne h2, and_self]
      · exact ⟨rfl, rfl⟩
      · have it := noop_spans c ((kidsEdit cx ne).rebase l) A
          (by simp only [Edit.rebase_old_end_bytes, Edit.rebase_start_bytes, kidsEdit, h1])
          (by simp only [Edit.rebase_new_end_bytes, Edit.rebase_start_bytes, kidsEdit, h2])
        simp only [spansL, sumT_cons, it, ih cx.start rfl, and_self]
      · have it := noop_spans c (.point (length_saturating_sub cx.start l)) A rfl rfl
        simp only [spansL, sumT_cons, it, ih ne h2, and_self]
end

theorem rel_mv {s o n : Nat} {p : Span} (hso : s ≤ o) (hp : p.1 ≤ p.2) : Rel s o n p (mvN s o n p) := by
  refine ⟨fun hk => ?_, fun hs => ?_⟩ <;> simp only [mvN, startMapN, endMapN]
  · rw [if_neg (by omega), if_neg (by omega), if_neg (by omega)]
  · rw [if_pos hs, if_pos (by omega)]

theorem mv_before {s o n x : Nat} (hx : x ≤ s) (hso : s ≤ o) (hsn : s ≤ n) (p : Span) :
    mvN s o n (shift x p) = shift x (mvN (s - x) (o - x) (n - x) p) :=
  Prod.ext (startMapN_before hx hso hsn p.1)
    (by simp only [mvN, shift]; rw [Nat.add_comm p.2 x, ← endMapN_before hso hsn hx, Nat.add_comm])

theorem mv_after {s o n x : Nat} (hso : s ≤ o) (hx : s ≤ x) (hn : s < x ∨ o = s ∨ n = s) (p : Span) :
    mvN s o n (shift x p) = shift (endMapN s o n x) (mvN (s - x) (o - x) (s - x) p) := by
  rw [Nat.sub_eq_zero_of_le hx]
  exact Prod.ext (startMapN_after hso hx hn p.1)
    (by simp only [mvN, shift]
        rw [Nat.add_comm p.2 x, ← endMapN_take hso hx hn, Nat.sub_eq_zero_of_le hx, Nat.add_comm])

theorem mv_spent (p : Span) : mvN 0 0 0 p = p := by
  simp only [mvN, startMapN, endMapN_zero, Nat.zero_le, if_true, Nat.zero_add, Nat.sub_zero]

theorem map_mv_kept {s o n : Nat} {t : Tree} (hw : WFb t) (hso : s ≤ o) (hx : tb t ≤ s)
    (hx' : tb t = s → o = s → n = s) : (spans t 0).map (mvN s o n) = spans t 0 := by
  refine (List.map_congr_left fun p hp => ?_).trans (List.map_id _)
  have := spans_le_end t 0 p hw hp
  have := (spans_ge t 0 p hp).2
  exact Prod.ext (startMapN_of_le hso (by omega) (by omega)) (endMapN_of_le (by omega) (by omega))

mutual
  theorem spans_edit : ∀ (t : Tree) (e : Edit), WFb t → EditB e →
      spans (editTree t e) 0 = (spans t 0).map (mvN e.start.bytes e.old_end.bytes e.new_end.bytes)
    | .mk d ks, e, hw, he => by
      rcases editTree_step d ks e with ⟨hr, eq⟩ | ⟨hr, eq⟩ <;> rw [eq]
      · exact (map_mv_kept hw he.1 (by rw [tb_mk]; omega) (by rw [tb_mk]; omega)).symm
      · have ht := editTree_tb_eq (.mk d ks) e he
        rw [eq] at ht
        simp only [tb_mk, store_padding_bytes, store_size_bytes, reshape_pad_bytes] at ht
        simp only [spans, Nat.zero_add, List.map_cons, mvN, store_padding_bytes, store_size_bytes, ht,
          reshape_pad_bytes]
        congr 1
        cases ks with
        | nil => rw [editKids_nil]; rfl
        | cons k ks =>
          have := spansL_edit (k :: ks) (ctxOf d e) e.new_end length_zero 0 hw.kids.1 (Loop.ofNode d e he k ks)
          simpa only [length_zero_bytes, Nat.sub_zero, ctxOf] using this

  theorem spansL_edit : ∀ (ks : List Tree) (cx : Ctx) (ne l : Length) (i : Nat), WFbL ks → Loop cx ne l i ks →
      spansL (editKids ks cx ne l i) 0 =
        (spansL ks 0).map (mvN (cx.start.bytes - l.bytes) (cx.oldEnd.bytes - l.bytes) (ne.bytes - l.bytes))
    | [], _, _, _, _, _, _ => by rw [editKids_nil]; rfl
    | c :: rest, cx, ne, l, i, hw, h => by
      cases hw with
      | cons _ _ hc hrest =>
      have ih := fun ne' => spansL_edit rest cx ne' (length_add l c.totalSize) (i + 1) hrest
      simp only [length_add_bytes, totalSize_bytes, Nat.sub_add_eq] at ih
      have unmoved : ∀ c', spans c' 0 = spans c 0 → tb c' = tb c →
          (tb c ≤ cx.start.bytes - l.bytes ∧ (tb c = cx.start.bytes - l.bytes → cx.oldEnd.bytes - l.bytes ≠ tb c)) →
          Loop cx ne (length_add l c.totalSize) (i + 1) rest →
          spansL (c' :: editKids rest cx ne (length_add l c.totalSize) (i + 1)) 0 =
            (spansL (c :: rest) 0).map
              (mvN (cx.start.bytes - l.bytes) (cx.oldEnd.bytes - l.bytes) (ne.bytes - l.bytes)) := by
        intro c' e1 e2 hx h'
        simp only [spansL, e1, e2, Nat.zero_add, List.map_append]
        rw [spansL_frame rest, spansL_frame (editKids _ _ _ _ _), ih ne h', List.map_map, List.map_map,
          map_mv_kept hc h.rel_so hx.1 (fun h1 h2 => absurd (h2.trans h1.symm) (hx.2 h1))]
        exact congrArg _ (List.map_congr_left fun p _ => (mv_before hx.1 h.rel_so h.rel_sn p).symm)
      rcases h.step with ⟨hx, eq, h'⟩ | ⟨hx, eq, h'⟩ | ⟨⟨h1, h2, h3⟩, eq⟩ | ⟨hx, hn, eq, h'⟩ <;> rw [eq]
      · exact unmoved c rfl rfl hx h'
      · obtain ⟨n1, n2⟩ := noop_spans c (.point (length_saturating_sub cx.start l)) 0 rfl rfl
        exact unmoved _ n1 n2 hx h'
      · rw [h1, h2, h3]
        exact ((List.map_congr_left fun p _ => mv_spent p).trans (List.map_id _)).symm
      · have it : spans (editTree c ((kidsEdit cx ne).rebase l)) 0 = (spans c 0).map
            (mvN (cx.start.bytes - l.bytes) (cx.oldEnd.bytes - l.bytes) (ne.bytes - l.bytes)) := by
          simpa only [Edit.rebase_start_bytes, Edit.rebase_old_end_bytes, Edit.rebase_new_end_bytes, kidsEdit]
            using spans_edit c _ hc (EditB.rebase (e := kidsEdit cx ne) ⟨h.so, h.sn⟩ l)
        simp only [spansL, Nat.zero_add, List.map_append]
        rw [spansL_frame rest, spansL_frame (editKids _ _ _ _ _), rebase_tb c cx ne l ⟨h.so, h.sn⟩, it,
          ih _ h', List.map_map, List.map_map]
        exact congrArg _ (List.map_congr_left fun p _ => (mv_after h.rel_so hx hn p).symm)
end

theorem editTree_moves : ∀ (t : Tree) (e : Edit), WFb t → EditB e →
    All2 (Rel e.start.bytes e.old_end.bytes e.new_end.bytes) (spans t 0) (spans (editTree t e) 0) := by
  intro t e hw he
  rw [spans_edit t e hw he, ← List.map_id (spans t 0), List.map_map]
  exact All2.maps _ _ fun p hp => rel_mv he.1 (spans_ge t 0 p hp).2

theorem editKidsA_moves : ∀ (ks : List Tree) (cx : Ctx) (ne l : Length) (i : Nat),
    WFbL ks → cx.start.bytes ≤ cx.oldEnd.bytes →
    cx.isPureInsertion = decide (cx.oldEnd.bytes = cx.start.bytes) →
    cx.start.bytes ≤ ne.bytes → l.bytes ≤ cx.start.bytes →
    ((l.bytes = cx.start.bytes ∧ cx.oldEnd.bytes = cx.start.bytes) → i = 0 ∧ ks ≠ []) →
    All2 (Rel cx.start.bytes cx.oldEnd.bytes ne.bytes) (spansL ks l.bytes) (spansL (editKids ks cx ne l i) l.bytes) := by
  intro ks cx ne l i hw hso hpure hsn hls hinv
  rw [spansL_frame ks, spansL_frame (editKids _ _ _ _ _),
    spansL_edit ks cx ne l i hw ⟨hso, hpure, hsn, .inl hls, fun h => hinv ⟨h.1, h.2.1⟩⟩, List.map_map]
  refine All2.maps _ _ fun p hp => ?_
  rw [Function.comp, ← mv_before hls hso hsn]
  exact rel_mv hso (Nat.add_le_add_right (spansL_ge ks 0 p hp).2 _)

/-- After the insertion has been attributed: `n0` is the original `new_end`, the loop now runs
with `edit.new_end = edit.start`; children at old offset `l` sit at `n0 + (l − old_end)`. -/
theorem editKidsB_moves : ∀ (ks : List Tree) (cx : Ctx) (n0 l : Length) (i : Nat),
    WFbL ks → cx.start.bytes ≤ cx.oldEnd.bytes → cx.start.bytes ≤ n0.bytes →
    cx.isPureInsertion = decide (cx.oldEnd.bytes = cx.start.bytes) →
    l.bytes ≥ cx.start.bytes → (l.bytes > cx.start.bytes ∨ cx.oldEnd.bytes = cx.start.bytes) →
    All2 (Rel cx.start.bytes cx.oldEnd.bytes n0.bytes) (spansL ks l.bytes)
      (spansL (editKids ks cx cx.start l i) (n0.bytes + (l.bytes - cx.oldEnd.bytes))) := by
  intro ks cx n0 l i hw hso _ hpure hls hinv
  rw [spansL_frame ks, spansL_frame (editKids _ _ _ _ _), spansL_edit ks cx cx.start l i hw
    ⟨hso, hpure, Nat.le_refl _, .inr rfl, fun h => absurd h.2.2 (Nat.lt_irrefl _)⟩, List.map_map,
    ← endMapN_pos (s := cx.start.bytes) (n := n0.bytes) (show _ ∨ (_ ∧ cx.oldEnd.bytes = cx.start.bytes) by omega)]
  refine All2.maps _ _ fun p hp => ?_
  rw [Function.comp, ← mv_after hso hls (by omega)]
  exact rel_mv hso (Nat.add_le_add_right (spansL_ge ks 0 p hp).2 _)

end TsVerif.C10
