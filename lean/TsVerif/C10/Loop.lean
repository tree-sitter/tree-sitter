import TsVerif.C10.Lemmas
/-!
# C10 — what the child loop maintains (byte dimension)

`Loop cx ne l i ks`: the invariant of the child loop `editKids ks cx ne l i`.  The loop's edit is always read
from the loop's current frame `l` — in bytes `(start − l, oldEnd − l, ne − l)`, truncated — so that "before"
and "after the inserted text has been attributed to a child" are one statement: afterwards
`start − l = 0 = ne − l`.
-/
namespace TsVerif.C10
open TsGen TsVerif

/-- Either the frame is at or before the edit or the inserted text has been attributed to an earlier child
(`ne = start`); a frame exactly at a pure insertion that is still to be attributed is the node's own frame
(first child). -/
structure Loop (cx : Ctx) (ne l : Length) (i : Nat) (ks : List Tree) : Prop where
  so : cx.start.bytes ≤ cx.oldEnd.bytes
  pure : cx.isPureInsertion = decide (cx.oldEnd.bytes = cx.start.bytes)
  sn : cx.start.bytes ≤ ne.bytes
  ph : l.bytes ≤ cx.start.bytes ∨ ne.bytes = cx.start.bytes
  first : (l.bytes = cx.start.bytes ∧ cx.oldEnd.bytes = cx.start.bytes ∧ cx.start.bytes < ne.bytes) →
    i = 0 ∧ ks ≠ []

namespace Loop
variable {cx : Ctx} {ne l : Length} {i : Nat} {ks : List Tree}

theorem rel_so (h : Loop cx ne l i ks) : cx.start.bytes - l.bytes ≤ cx.oldEnd.bytes - l.bytes :=
  Nat.sub_le_sub_right h.so _

theorem rel_sn (h : Loop cx ne l i ks) : cx.start.bytes - l.bytes ≤ ne.bytes - l.bytes :=
  Nat.sub_le_sub_right h.sn _

/-- No inserted text is left to attribute (a pure insertion exactly at the frame, `start − l = 0 = oldEnd − l`,
would be, but then `first` says the list is not empty unless `ne − l = 0`). -/
theorem nil (h : Loop cx ne l i []) :
    endMapN (cx.start.bytes - l.bytes) (cx.oldEnd.bytes - l.bytes) (ne.bytes - l.bytes) 0 = 0 :=
  endMapN_of_le (Nat.zero_le _) fun _ _ => by
    have h0 : ¬ (l.bytes = cx.start.bytes ∧ cx.oldEnd.bytes = cx.start.bytes ∧ cx.start.bytes < ne.bytes) :=
      fun h' => (h.first h').2 rfl
    have := h.so; have := h.sn; have := h.ph
    omega

/-- One turn, in the order skipped / only marked / stop / takes (not the order of `editKids_step`).  The conditions
are those of the map lemmas, seen from frame `l`: `tb c ≤ s' ∧ (tb c = s' → o' ≠ tb c)` is "the child does not take
the edit" (`endMapN_before`, `map_mv_kept`), the pair in the last case is `h`, `hn` of `endMapN_take`. -/
theorem step {c : Tree} {rest : List Tree} (h : Loop cx ne l i (c :: rest)) :
    ((tb c ≤ cx.start.bytes - l.bytes ∧ (tb c = cx.start.bytes - l.bytes → cx.oldEnd.bytes - l.bytes ≠ tb c)) ∧
      editKids (c :: rest) cx ne l i = c :: editKids rest cx ne (length_add l c.totalSize) (i + 1) ∧
      Loop cx ne (length_add l c.totalSize) (i + 1) rest) ∨
    ((tb c ≤ cx.start.bytes - l.bytes ∧ (tb c = cx.start.bytes - l.bytes → cx.oldEnd.bytes - l.bytes ≠ tb c)) ∧
      editKids (c :: rest) cx ne l i =
        editTree c (Edit.point (length_saturating_sub cx.start l)) ::
          editKids rest cx ne (length_add l c.totalSize) (i + 1) ∧
      Loop cx ne (length_add l c.totalSize) (i + 1) rest) ∨
    ((cx.start.bytes - l.bytes = 0 ∧ cx.oldEnd.bytes - l.bytes = 0 ∧ ne.bytes - l.bytes = 0) ∧
      editKids (c :: rest) cx ne l i = c :: rest) ∨
    (cx.start.bytes - l.bytes ≤ tb c ∧
      (cx.start.bytes - l.bytes < tb c ∨ cx.oldEnd.bytes - l.bytes = cx.start.bytes - l.bytes ∨
        ne.bytes - l.bytes = cx.start.bytes - l.bytes) ∧
      editKids (c :: rest) cx ne l i =
        editTree c ((kidsEdit cx ne).rebase l) :: editKids rest cx cx.start (length_add l c.totalSize) (i + 1) ∧
      Loop cx cx.start (length_add l c.totalSize) (i + 1) rest) := by
  obtain ⟨hso, hpure, hsn, hph, hfirst⟩ := h
  have h0 : ¬ (l.bytes = cx.start.bytes ∧ cx.oldEnd.bytes = cx.start.bytes ∧ cx.start.bytes < ne.bytes) ∨ i = 0 := by
    by_cases h' : l.bytes = cx.start.bytes ∧ cx.oldEnd.bytes = cx.start.bytes ∧ cx.start.bytes < ne.bytes
    · exact .inr (hfirst h').1
    · exact .inl h'
  rcases editKids_step c rest cx ne l i with ⟨hc, eq⟩ | ⟨hc, eq⟩ | ⟨_, hc, eq⟩ | ⟨_, hc, eq⟩
  · exact .inl ⟨⟨by omega, by omega⟩, eq, hso, hpure, hsn, by simp only [length_add_bytes, totalSize_bytes]; omega, by simp only [length_add_bytes, totalSize_bytes]; omega⟩
  · exact .inr (.inr (.inl ⟨by omega, eq⟩))
  · rw [hpure, decide_eq_true_eq] at hc
    exact .inr (.inr (.inr ⟨by omega, by omega, eq, hso, hpure, Nat.le_refl _, .inr rfl, by omega⟩))
  · rw [hpure, decide_eq_true_eq] at hc
    exact .inr (.inl ⟨⟨by omega, by omega⟩, eq, hso, hpure, hsn, by simp only [length_add_bytes, totalSize_bytes]; omega, by simp only [length_add_bytes, totalSize_bytes]; omega⟩)

end Loop

theorem Loop.ofNode (d : NodeData) (e : Edit) (he : EditB e) (k : Tree) (ks : List Tree) :
    Loop (ctxOf d e) e.new_end length_zero 0 (k :: ks) :=
  ⟨he.1, rfl, he.2, .inl (Nat.zero_le _), fun _ => ⟨rfl, List.cons_ne_nil _ _⟩⟩

end TsVerif.C10
