import TsVerif.C10.Spans
/-!
# C10 — every node whose extended span meets the change is marked (`has_changes`)

Absolute-coordinate induction: `S`/`O` are the edit's start / old end in root coordinates, `A` the
absolute offset of the current frame.  Whatever `Edit` a frame receives from its parent's child loop
has one of two *forms* w.r.t. `(S, O, A)` (`Form`), and both forms reach every non-empty node whose
extended span `[content start, content end + look-ahead)` meets `[S, O)`.

This file does not use `Loop` (Loop.lean): marking depends neither on `new_end` nor on which child the inserted
text is attributed to, so the loop's two states are not distinguished.
-/
namespace TsVerif.C10
open TsGen TsVerif

abbrev Ext := Nat × Nat × Nat   -- (frame start f, content start a, look-ahead end c)

mutual
  def ext : Tree → Nat → List Ext
    | .mk d ks, A =>
      (A, A + d.padding.bytes, A + d.padding.bytes + d.size.bytes + d.lookahead) :: extL ks A
  def extL : List Tree → Nat → List Ext
    | [], _ => []
    | c :: rest, A => ext c A ++ extL rest (A + tb c)
end

mutual
  def flags : Tree → List Bool
    | .mk d ks => d.hasChanges :: flagsL ks
  def flagsL : List Tree → List Bool
    | [] => []
    | c :: rest => flags c ++ flagsL rest
end

mutual
  /-- Look-ahead monotonicity (what `ts_subtree_summarize_children` establishes): a child's
  look-ahead end never exceeds its parent's. -/
  inductive LaOK : Tree → Prop
    | mk (d : NodeData) (ks : List Tree) :
        LaOKL ks 0 (d.padding.bytes + d.size.bytes + d.lookahead) → LaOK (.mk d ks)
  inductive LaOKL : List Tree → Nat → Nat → Prop
    | nil (l B : Nat) : LaOKL [] l B
    | cons (c : Tree) (rest : List Tree) (l B : Nat) :
        LaOK c → l + tb c + c.data.lookahead ≤ B → LaOKL rest (l + tb c) B → LaOKL (c :: rest) l B
end

/-- A node whose extended span `[content start a, look-ahead end c)` meets `[S, O)` is marked — provided it is
not completely empty, `f < c` (no padding, no size, no look-ahead): such a node strictly inside the deleted text
is passed a point edit at its own end and `editTree` returns it unmarked (the `example` after `edit_marks`,
Props.lean).  The property text has no such exemption. -/
def Mark (S O : Nat) (x : Ext) (f : Bool) : Prop :=
  (x.2.1 < O ∧ S < x.2.2 ∧ x.1 < x.2.2) → f = true

mutual
  theorem ext_bounds : ∀ (t : Tree) (A : Nat) (x : Ext), WFb t → LaOK t → x ∈ ext t A →
      A ≤ x.1 ∧ x.1 ≤ x.2.1 ∧ x.2.1 ≤ x.2.2 ∧ x.2.2 ≤ A + tb t + t.data.lookahead
    | .mk d ks, A, x, hw, hl, hx => by
      simp only [ext, List.mem_cons] at hx
      rcases hx with hx | hx
      · subst hx; simp only [tb_mk, Tree.data]; omega
      · cases hl with
        | mk _ _ hl =>
        have := extL_bounds ks A 0 _ x hw.kids.1 hl (by simpa using hx)
        simp only [tb_mk, Tree.data]; omega
  theorem extL_bounds : ∀ (ks : List Tree) (A l B : Nat) (x : Ext), WFbL ks → LaOKL ks l B →
      x ∈ extL ks (A + l) → A + l ≤ x.1 ∧ x.1 ≤ x.2.1 ∧ x.2.1 ≤ x.2.2 ∧ x.2.2 ≤ A + B
    | [], _, _, _, _, _, _, hx => by simp [extL] at hx
    | c :: rest, A, l, B, x, hw, hl, hx => by
      cases hw with
      | cons _ _ hc hrest =>
      cases hl with
      | cons _ _ _ _ hlc hb hlr =>
      simp only [extL, List.mem_append] at hx
      rcases hx with hx | hx
      · have := ext_bounds c (A + l) x hc hlc hx
        omega
      · have := extL_bounds rest A (l + tb c) B x hrest hlr (by rw [← Nat.add_assoc]; exact hx)
        omega
end

/-- The two shapes of the `Edit` a frame at absolute offset `A` (total `T`) can receive: the parent's edit
re-based, or a point edit at `S − A` — which a frame gets only when it lies wholly at or before `S`
(`A ≤ S → A + T ≤ S`) or is empty and after it (`S < A → T = 0`). -/
def Form (S O A T : Nat) (e : Edit) : Prop :=
  e.start.bytes = S - A ∧
  (e.old_end.bytes = O - A ∨ (e.old_end.bytes = S - A ∧ (A ≤ S → A + T ≤ S) ∧ (S < A → T = 0)))

theorem Form.rebase {S O A T a : Nat} {e : Edit} (l : Length) (hf : Form S O A T e) (h : l.bytes + a ≤ T) :
    Form S O (A + l.bytes) a (e.rebase l) := by
  simp only [Form, Edit.rebase_start_bytes, Edit.rebase_old_end_bytes] at hf ⊢
  obtain ⟨h1, h2 | ⟨h2, h3, h4⟩⟩ := hf
  · exact ⟨by rw [h1, Nat.sub_add_eq], .inl (by rw [h2, Nat.sub_add_eq])⟩
  · exact ⟨by rw [h1, Nat.sub_add_eq], .inr ⟨by rw [h2, Nat.sub_add_eq], by omega, by omega⟩⟩

theorem Form.point {S O A T a : Nat} {e : Edit} (l : Length) (hf : Form S O A T e)
    (h : l.bytes + a ≤ e.start.bytes) :
    Form S O (A + l.bytes) a (.point (length_saturating_sub e.start l)) := by
  simp only [Form, Edit.point, length_saturating_sub_bytes] at hf ⊢
  have e : e.start.bytes - l.bytes = S - (A + l.bytes) := by rw [hf.1, Nat.sub_add_eq]
  exact ⟨e, .inr ⟨e, by omega, by omega⟩⟩

theorem all2_unmarked {S O : Nat} (xs : List Ext) (fs : List Bool) (hlen : xs.length = fs.length)
    (h : ∀ x ∈ xs, ¬ (x.2.1 < O ∧ S < x.2.2 ∧ x.1 < x.2.2)) : All2 (Mark S O) xs fs := by
  induction xs generalizing fs with
  | nil => cases fs with
    | nil => exact All2.nil
    | cons _ _ => simp at hlen
  | cons x xs ih => cases fs with
    | nil => simp at hlen
    | cons f fs =>
      refine All2.cons (fun hx => absurd hx (h x (by simp))) (ih fs (by simpa using hlen) ?_)
      intro y hy; exact h y (by simp [hy])

mutual
  theorem ext_flags_len : ∀ (t : Tree) (A : Nat), (ext t A).length = (flags t).length
    | .mk d ks, A => by simp only [ext, flags, List.length_cons, extL_flags_len ks A]
  theorem extL_flags_len : ∀ (ks : List Tree) (A : Nat), (extL ks A).length = (flagsL ks).length
    | [], _ => rfl
    | c :: rest, A => by
      simp only [extL, flagsL, List.length_append, ext_flags_len c A, extL_flags_len rest (A + tb c)]
end

mutual
  theorem editTree_marks : ∀ (t : Tree) (e : Edit) (S O A : Nat), S ≤ O → WFb t → LaOK t →
      Form S O A (tb t) e → All2 (Mark S O) (ext t A) (flags (editTree t e))
    | .mk d ks, e, S, O, A, hSO, hw, hl, hf => by
      obtain ⟨hf1, hf2⟩ := hf
      rw [tb_mk] at hf2
      rcases editTree_step d ks e with ⟨hr, eq⟩ | ⟨hr, eq⟩ <;> rw [eq]
      · refine all2_unmarked _ _ (ext_flags_len _ _) fun x hx hm => ?_
        have := ext_bounds (.mk d ks) A x hw hl hx
        simp only [tb_mk, Tree.data] at this
        omega
      · simp only [ext, flags]
        refine All2.cons (fun _ => store_hasChanges _ _ _) ?_
        cases hl with
        | mk _ _ hl =>
        have hwl := hw.kids
        have hK := editKids_marks ks (ctxOf d e) e.new_end length_zero 0 S O A _ hSO hwl.1 hl hf1
          (by simp only [length_zero_bytes, ctxOf]; omega)
        simpa using hK

  /-- `B`: the parent's look-ahead end, relative to its frame.  `LaOK` is used in the skip and the stop case only:
  there the test on the child's look-ahead end has to speak for all its descendants. -/
  theorem editKids_marks : ∀ (ks : List Tree) (cx : Ctx) (ne l : Length) (i : Nat) (S O A B : Nat),
      S ≤ O → WFbL ks → LaOKL ks l.bytes B →
      cx.start.bytes = S - A →
      (cx.oldEnd.bytes = O - A ∨ (cx.oldEnd.bytes = S - A ∧ (A ≤ S → A + (l.bytes + sumT ks) ≤ S) ∧ (S < A → l.bytes + sumT ks = 0))) →
      All2 (Mark S O) (extL ks (A + l.bytes)) (flagsL (editKids ks cx ne l i))
    | [], _, _, _, _, _, _, _, _, _, _, _, _, _ => by
      rw [editKids_nil]; exact All2.nil
    | c :: rest, cx, ne, l, i, S, O, A, B, hSO, hw, hl, hf1, hf2 => by
      cases hw with
      | cons _ _ hc hrest =>
      cases hl with
      | cons _ _ _ _ hlc hbd hlr =>
      have hbc := fun x hx => ext_bounds c (A + l.bytes) x hc hlc hx
      rw [sumT_cons] at hf2
      have hf : Form S O A (l.bytes + (tb c + sumT rest)) (kidsEdit cx ne) := ⟨hf1, hf2⟩
      have ihr : ∀ ne', All2 (Mark S O) (extL rest (A + l.bytes + tb c))
          (flagsL (editKids rest cx ne' (length_add l c.totalSize) (i + 1))) := by
        intro ne'
        have ih := editKids_marks rest cx ne' (length_add l c.totalSize) (i + 1) S O A B hSO hrest
          (by simpa using hlr) hf1 (by simp only [length_add_bytes, totalSize_bytes]; omega)
        simp only [length_add_bytes, totalSize_bytes, ← Nat.add_assoc] at ih
        exact ih
      rcases editKids_step c rest cx ne l i with ⟨h, eq⟩ | ⟨hb, eq⟩ | ⟨_, ht, eq⟩ | ⟨_, ht, eq⟩ <;> rw [eq]
      · refine All2.append (all2_unmarked _ _ (ext_flags_len _ _) fun x hx hm => ?_) (ihr _)
        have := hbc x hx
        omega
      · refine all2_unmarked _ _ (extL_flags_len _ _) fun x hx hm => ?_
        have := extL_bounds (c :: rest) A l.bytes B x (.cons _ _ hc hrest) (.cons _ _ _ _ hlc hbd hlr) hx
        omega
      · exact All2.append (editTree_marks c _ S O (A + l.bytes) hSO hc hlc (hf.rebase l (by omega))) (ihr _)
      · exact All2.append (editTree_marks c _ S O (A + l.bytes) hSO hc hlc (hf.point l (show _ ≤ cx.start.bytes by omega))) (ihr _)
end

end TsVerif.C10
