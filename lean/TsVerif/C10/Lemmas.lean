import TsVerif.C10.Map
import TsVerif.Common.LengthAlgebra
/-!
# C10 — one turn of `editTree` and of its child loop; byte lemmas about `reshape` and `store`

`editTree_step` and `editKids_step` are the interface of the model: every induction of this directory over `editTree` /
`editKids` is a case split on them, and none unfolds the model.
They speak bytes only — which case is taken never depends on rows or columns, except through `stopsAt`.
-/
namespace TsVerif.C10
open TsGen TsVerif

attribute [simp] length_add_bytes length_sub_bytes length_zero_bytes length_saturating_sub_bytes

/-! `tb` is `Tree.totalBytes` (Common/Tree.lean) and `tbJ` (Judge.lean), `sumT` is `sumTJ`: the statements of this
directory write `tb` / `sumT`, the executable checks `tbJ` / `sumTJ`; all unfold to the same sum. -/

def tb (t : Tree) : Nat := t.data.padding.bytes + t.data.size.bytes

def sumT : List Tree → Nat
  | [] => 0
  | t :: ts => tb t + sumT ts

@[simp] theorem sumT_cons (c : Tree) (rest : List Tree) : sumT (c :: rest) = tb c + sumT rest := rfl
@[simp] theorem sumT_nil : sumT [] = 0 := rfl

theorem tb_mk (d : NodeData) (ks : List Tree) : tb (.mk d ks) = d.padding.bytes + d.size.bytes := rfl

@[simp] theorem totalSize_bytes (t : Tree) : t.totalSize.bytes = tb t :=
  _root_.TsVerif.totalSize_bytes t

/-- Edits whose three byte offsets are ordered the way `EditOK` says. -/
def EditB (e : Edit) : Prop := e.start.bytes ≤ e.old_end.bytes ∧ e.start.bytes ≤ e.new_end.bytes

/-- The record literal of `editTree` (Model.lean), named so that `editTree_step` can state the recursive call. -/
def ctxOf (d : NodeData) (e : Edit) : Ctx :=
  { parentDependsOnColumn := d.dependsOnColumn
    columnShifted := decide (e.new_end.extent.column ≠ e.old_end.extent.column)
    isPureInsertion := decide (e.old_end.bytes = e.start.bytes)
    padding := (reshape d.padding d.size e).1, oldEnd := e.old_end, start := e.start }

def kidsEdit (cx : Ctx) (ne : Length) : Edit := { start := cx.start, old_end := cx.oldEnd, new_end := ne }

/-- `e` in the coordinates of a frame that starts at `l`. -/
def Edit.rebase (e : Edit) (l : Length) : Edit :=
  { start := length_saturating_sub e.start l
    old_end := length_saturating_sub e.old_end l
    new_end := length_saturating_sub e.new_end l }

/-- The edit that changes no text at `x`; a subtree that receives it is only marked. -/
def Edit.point (x : Length) : Edit := { start := x, old_end := x, new_end := x }

@[simp] theorem Edit.rebase_start_bytes (e : Edit) (l : Length) :
    (e.rebase l).start.bytes = e.start.bytes - l.bytes := length_saturating_sub_bytes _ _
@[simp] theorem Edit.rebase_old_end_bytes (e : Edit) (l : Length) :
    (e.rebase l).old_end.bytes = e.old_end.bytes - l.bytes := length_saturating_sub_bytes _ _
@[simp] theorem Edit.rebase_new_end_bytes (e : Edit) (l : Length) :
    (e.rebase l).new_end.bytes = e.new_end.bytes - l.bytes := length_saturating_sub_bytes _ _

theorem EditB.rebase {e : Edit} (he : EditB e) (l : Length) : EditB (e.rebase l) := by
  unfold EditB at he ⊢
  simp only [Edit.rebase_start_bytes, Edit.rebase_old_end_bytes, Edit.rebase_new_end_bytes]
  omega

theorem EditB.point (x : Length) : EditB (.point x) := ⟨Nat.le_refl _, Nat.le_refl _⟩

theorem stopsAt_bytes (cx : Ctx) (cl cs : Length) (i : Nat) (b : Bool)
    (h : stopsAt cx cl cs i b = true) :
    cl.bytes > cx.oldEnd.bytes ∨ (cl.bytes = cx.oldEnd.bytes ∧ cs.bytes > 0 ∧ i > 0) := by
  unfold stopsAt at h
  simp only [Bool.and_eq_true, Bool.or_eq_true, decide_eq_true_eq] at h
  obtain ⟨⟨h1, _⟩, _⟩ := h
  rcases h1 with h1 | ⟨⟨h1, h2⟩, h3⟩
  · exact Or.inl h1
  · exact Or.inr ⟨h1, h2, h3⟩

theorem le_oldEnd_of_not_stopsAt {cx : Ctx} {childLeft childSize : Length} {i : Nat} {col : Bool}
    (h : ¬ stopsAt cx childLeft childSize i col = true) (hp : cx.parentDependsOnColumn = false)
    (hc : col = false) : childLeft.bytes ≤ cx.oldEnd.bytes := by
  subst hc
  unfold stopsAt at h
  simp [hp] at h
  omega

theorem editTree_step (d : NodeData) (ks : List Tree) (e : Edit) :
    ((e.start.bytes > d.padding.bytes + d.size.bytes + d.lookahead ∨
        ((e.old_end.bytes = e.start.bytes ∧ e.new_end.bytes = e.start.bytes) ∧
          e.start.bytes = d.padding.bytes + d.size.bytes + d.lookahead)) ∧
      editTree (.mk d ks) e = .mk d ks) ∨
    (e.start.bytes ≤ d.padding.bytes + d.size.bytes + d.lookahead ∧
      editTree (.mk d ks) e =
        .mk (store d (reshape d.padding d.size e).1 (reshape d.padding d.size e).2)
          (editKids ks (ctxOf d e) e.new_end length_zero 0)) := by
  rw [editTree]
  simp only [length_add_bytes]
  split
  · exact Or.inl ⟨‹_›, rfl⟩
  · exact Or.inr ⟨by omega, rfl⟩

theorem editKids_nil (cx : Ctx) (ne l : Length) (i : Nat) : editKids [] cx ne l i = [] := by
  rw [editKids]

/-- One turn of the child loop at child `c`, frame offset `l`: the child ends (with look-ahead)
before the edit and is skipped; or the loop stops; or the child takes the edit and the rest of the
loop runs with `new_end = start`; or the child lies before the edit and is only marked. -/
theorem editKids_step (c : Tree) (rest : List Tree) (cx : Ctx) (ne l : Length) (i : Nat) :
    (l.bytes + tb c + c.data.lookahead < cx.start.bytes ∧
      editKids (c :: rest) cx ne l i = c :: editKids rest cx ne (length_add l c.totalSize) (i + 1)) ∨
    ((l.bytes > cx.oldEnd.bytes ∨ (l.bytes = cx.oldEnd.bytes ∧ tb c > 0 ∧ i > 0)) ∧
      editKids (c :: rest) cx ne l i = c :: rest) ∨
    (¬ stopsAt cx l c.totalSize i c.data.dependsOnColumn = true ∧
      (l.bytes + tb c > cx.start.bytes ∨ (l.bytes + tb c = cx.start.bytes ∧ cx.isPureInsertion = true)) ∧
      editKids (c :: rest) cx ne l i =
        editTree c ((kidsEdit cx ne).rebase l) ::
          editKids rest cx cx.start (length_add l c.totalSize) (i + 1)) ∨
    (¬ stopsAt cx l c.totalSize i c.data.dependsOnColumn = true ∧
      ¬ (l.bytes + tb c > cx.start.bytes ∨ (l.bytes + tb c = cx.start.bytes ∧ cx.isPureInsertion = true)) ∧
      editKids (c :: rest) cx ne l i =
        editTree c (Edit.point (length_saturating_sub cx.start l)) ::
          editKids rest cx ne (length_add l c.totalSize) (i + 1)) := by
  rw [editKids]
  simp only [length_add_bytes, totalSize_bytes]
  split
  · exact Or.inl ⟨‹_›, rfl⟩
  · split
    · have hb := stopsAt_bytes _ _ _ _ _ ‹_›
      rw [totalSize_bytes] at hb
      exact Or.inr (Or.inl ⟨hb, rfl⟩)
    · rename_i hns
      split
      · exact Or.inr (Or.inr (Or.inl ⟨hns, ‹_›, rfl⟩))
      · exact Or.inr (Or.inr (Or.inr ⟨hns, ‹_›, rfl⟩))

theorem reshape_pad_bytes (p z : Length) (e : Edit) :
    (reshape p z e).1.bytes = startMapN e.start.bytes e.old_end.bytes e.new_end.bytes p.bytes := by
  unfold reshape startMapN
  simp only [length_add_bytes]
  split
  · simp
  · split
    · simp
    · split <;> simp

theorem reshape_total_bytes (p z : Length) (e : Edit) (he : EditB e) :
    (reshape p z e).1.bytes + (reshape p z e).2.bytes =
      endMapN e.start.bytes e.old_end.bytes e.new_end.bytes (p.bytes + z.bytes) := by
  obtain ⟨h1, h2⟩ := he
  unfold reshape endMapN
  simp only [length_add_bytes]
  split
  · simp only [length_add_bytes, length_sub_bytes]; split <;> omega
  · split
    · simp only [length_saturating_sub_bytes, length_sub_bytes]; split <;> omega
    · split
      · simp only [length_add_bytes, length_sub_bytes, length_saturating_sub_bytes]; omega
      · rfl

theorem reshape_noop (p z : Length) (e : Edit) (h1 : e.old_end.bytes = e.start.bytes)
    (h2 : e.new_end.bytes = e.start.bytes) :
    (reshape p z e).1.bytes = p.bytes ∧ (reshape p z e).2.bytes = z.bytes := by
  have hp := reshape_pad_bytes p z e
  have ht := reshape_total_bytes p z e ⟨Nat.le_of_eq h1.symm, Nat.le_of_eq h2.symm⟩
  rw [h1, h2, startMapN_point] at hp
  rw [h1, h2, endMapN_point, hp] at ht
  exact ⟨hp, Nat.add_left_cancel ht⟩

theorem store_padding (d : NodeData) (p z : Length) : (store d p z).padding = p := by
  unfold store
  split
  · split <;> rfl
  · rfl

@[simp] theorem store_padding_bytes (d : NodeData) (p z : Length) : (store d p z).padding.bytes = p.bytes :=
  congrArg Length.bytes (store_padding d p z)

@[simp] theorem store_size_bytes (d : NodeData) (p z : Length) : (store d p z).size.bytes = z.bytes := by
  unfold store
  split
  · split <;> rfl
  · rfl

theorem store_hasChanges (d : NodeData) (p z : Length) : (store d p z).hasChanges = true := by
  unfold store
  split
  · split <;> rfl
  · rfl

end TsVerif.C10
