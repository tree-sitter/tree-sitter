import TsVerif.C10.Text
import TsVerif.C10.Spans
/-!
# C10 — absolute positions (bytes, row, column) of all nodes

`pts t off`: start and end of every node as `Length`s, obtained by adding relative lengths down from the frame
position `off`, the way the runtime does.  In a tree consistent with a text they are the text's positions;
their byte components are `spans`.
-/
namespace TsVerif.C10
open TsGen TsVerif

mutual
  /-- Preorder list of the (content start, content end) positions of every node **as `Length`s**
  (bytes and row/column), computed the way the runtime does (`ts_node_start_point`, tree cursor):
  by `length_add`-ing relative lengths from the frame position `off`. -/
  def pts : Tree → Length → List (Length × Length)
    | .mk d ks, off =>
      (length_add off d.padding, length_add (length_add off d.padding) d.size) :: ptsL ks off
  def ptsL : List Tree → Length → List (Length × Length)
    | [], _ => []
    | c :: rest, off => pts c off ++ ptsL rest (length_add off c.totalSize)
end

def bytesOf (p : Length × Length) : Span := (p.1.bytes, p.2.bytes)

mutual
  theorem pts_bytes : ∀ (t : Tree) (off : Length), (pts t off).map bytesOf = spans t off.bytes
    | .mk d ks, off => by
      simp only [pts, spans, List.map_cons, bytesOf, length_add_bytes, ptsL_bytes ks off]
  theorem ptsL_bytes : ∀ (ks : List Tree) (off : Length), (ptsL ks off).map bytesOf = spansL ks off.bytes
    | [], _ => by simp only [ptsL, spansL, List.map_nil]
    | c :: rest, off => by
      simp only [ptsL, spansL, List.map_append, pts_bytes c off, ptsL_bytes rest (length_add off c.totalSize),
        length_add_bytes, totalSize_bytes]
end

def AbsOK (T : List Nat) (x : Length) : Prop := x = lenS T 0 x.bytes ∧ x.bytes ≤ T.length

theorem AbsOK.of {T : List Nat} {x : Length} (m : Nat) (h : x = lenS T 0 m) (hm : m ≤ T.length) : AbsOK T x := by
  have hb : x.bytes = m := by rw [h, lenS_bytes T 0 m hm]; omega
  unfold AbsOK
  rw [hb]; exact ⟨h, hm⟩

mutual
  theorem pts_cons : ∀ (t : Tree) (T : List Nat) (A : Nat) (off : Length), Cons T t A → off = lenS T 0 A →
      ∀ p ∈ pts t off, AbsOK T p.1 ∧ AbsOK T p.2 ∧ p.1.bytes ≤ p.2.bytes
    | .mk d ks, T, A, off, hc, hoff, p, hp => by
      simp only [Cons] at hc
      obtain ⟨⟨hb, hpd, hz⟩, hk⟩ := hc
      simp only [pts, List.mem_cons] at hp
      rcases hp with hp | hp
      · subst hp
        have e1 : length_add off d.padding = lenS T 0 (A + d.padding.bytes) := by
          rw [hoff]
          exact (congrArg (length_add (lenS T 0 A)) hpd).trans (lenS_add T 0 A _ (by omega) (by omega))
        have e2 : length_add (length_add off d.padding) d.size = lenS T 0 (A + d.padding.bytes + d.size.bytes) := by
          rw [e1]
          exact (congrArg (length_add (lenS T 0 (A + d.padding.bytes))) hz).trans
            (lenS_add T 0 _ _ (by omega) (by omega))
        exact ⟨AbsOK.of _ e1 (by omega), AbsOK.of _ e2 hb, by simp only [length_add_bytes]; omega⟩
      · exact ptsL_cons ks T A off hk hoff p hp
  theorem ptsL_cons : ∀ (ks : List Tree) (T : List Nat) (A : Nat) (off : Length), ConsL T ks A → off = lenS T 0 A →
      ∀ p ∈ ptsL ks off, AbsOK T p.1 ∧ AbsOK T p.2 ∧ p.1.bytes ≤ p.2.bytes
    | [], _, _, _, _, _, p, hp => by simp [ptsL] at hp
    | c :: rest, T, A, off, hc, hoff, p, hp => by
      simp only [ConsL] at hc
      simp only [ptsL, List.mem_append] at hp
      rcases hp with hp | hp
      · exact pts_cons c T A off hc.1 hoff p hp
      · exact ptsL_cons rest T (A + tb c) (length_add off c.totalSize) hc.2 (hc.1.next hoff (Nat.zero_le _)) p hp
end

/-- kept / shifted for one node with row/column: `p` = (start, end) before, `q` = after. -/
def RelP (T T' : List Nat) (S O N : Nat) (p q : Length × Length) : Prop :=
  ((p.2.bytes < S ∨ (p.2.bytes = S ∧ O ≠ S)) → q = p) ∧
  (O ≤ p.1.bytes →
    q.1.bytes = N + (p.1.bytes - O) ∧ q.2.bytes = N + (p.2.bytes - O) ∧
    q.1.extent = extent (T'.take q.1.bytes) ∧ q.2.extent = extent (T'.take q.2.bytes) ∧
    slice T' q.1.bytes q.2.bytes = slice T p.1.bytes p.2.bytes)

end TsVerif.C10
