import TsVerif.C10.Bytes
/-!
# C10 — trees that are consistent with a text (row/column dimension): definitions and text lemmas

`slice T a b` is the byte range `[a, b)` of the text `T`; `lenS T a b` its `Length` (bytes and the
row/column extent obtained by counting newlines — `lengthOf` of Common/LengthAlgebra.lean).
`Cons T t A`: the subtree `t` whose frame (start of its padding) is at absolute byte `A` of `T`
stores, in every node, exactly the padding/size `Length`s that the text gives.
`Chg T T' S O N`: `T'` is `T` with the bytes `[S, O)` replaced by `N - S` new bytes.
-/
namespace TsVerif.C10
open TsGen TsVerif

def slice (T : List Nat) (a b : Nat) : List Nat := (T.drop a).take (b - a)

def lenS (T : List Nat) (a b : Nat) : Length := lengthOf (slice T a b)

theorem slice_append (T : List Nat) (a b c : Nat) (h1 : a ≤ b) (h2 : b ≤ c) :
    slice T a b ++ slice T b c = slice T a c := by
  unfold slice
  rw [show c - a = (b - a) + (c - b) by omega, List.take_add, List.drop_drop, Nat.add_sub_cancel' h1]

theorem lengthOf_nil : lengthOf [] = length_zero := rfl

theorem lenS_add (T : List Nat) (a b c : Nat) (h1 : a ≤ b) (h2 : b ≤ c) :
    length_add (lenS T a b) (lenS T b c) = lenS T a c := by
  unfold lenS
  rw [← lengthOf_append, slice_append T a b c h1 h2]

theorem lenS_sub (T : List Nat) (a b c : Nat) (h1 : a ≤ b) (h2 : b ≤ c) :
    length_sub (lenS T a c) (lenS T a b) = lenS T b c := by
  unfold lenS
  rw [← slice_append T a b c h1 h2, lengthOf_sub_prefix]

theorem lenS_zero (T : List Nat) (a b : Nat) (h : b ≤ a) : lenS T a b = length_zero := by
  unfold lenS slice
  rw [Nat.sub_eq_zero_of_le h]; rfl

theorem lenS_bytes (T : List Nat) (a b : Nat) (h : b ≤ T.length) : (lenS T a b).bytes = b - a := by
  unfold lenS lengthOf slice
  simp only [List.length_take, List.length_drop]
  omega

theorem lenS_bytes_add {T : List Nat} {x : Length} {a b : Nat} (hx : x = lenS T a b) (hab : a ≤ b)
    (h : b ≤ T.length) : a + x.bytes = b := by
  rw [hx, lenS_bytes T a b h]; omega

theorem length_sub_zero (a : Length) : length_sub a length_zero = a := by
  cases a with
  | mk b e =>
    cases e with
    | mk r c =>
      simp only [length_sub, length_zero, point_sub, point__new]
      by_cases hr : r > 0
      · simp [hr]
      · have : r = 0 := by omega
        subst this
        simp

theorem sat_lenS (T : List Nat) (A x y : Nat) (hy : A ≤ y) (hyT : y ≤ T.length) (hxT : x ≤ T.length) :
    length_saturating_sub (lenS T A x) (lenS T A y) = lenS T y x := by
  unfold length_saturating_sub
  rw [lenS_bytes T A x hxT, lenS_bytes T A y hyT]
  by_cases h : x - A > y - A
  · rw [if_pos h]
    exact lenS_sub T A y x hy (by omega)
  · rw [if_neg h]
    exact (lenS_zero T y x (by omega)).symm

theorem sat_lenS_eq {T : List Nat} {u v : Length} {A x y : Nat} (hu : u = lenS T A x) (hv : v = lenS T A y)
    (hy : A ≤ y) (hyT : y ≤ T.length) (hxT : x ≤ T.length) : length_saturating_sub u v = lenS T y x := by
  rw [hu, hv]; exact sat_lenS T A x y hy hyT hxT

theorem extent_row_zero_col (xs : List Nat) : (extent xs).row = 0 → (extent xs).column = xs.length := by
  induction xs with
  | nil => intro _; rfl
  | cons b bs ih =>
    simp only [extent, List.length_cons]
    by_cases hb : b = 10
    · simp [hb]
    · simp only [hb, if_false]
      by_cases h0 : (extent bs).row = 0
      · simp only [h0, if_true]
        intro _
        rw [ih h0]
      · simp only [h0, if_false]
        intro h; exact h.elim

theorem lengthOf_inline (xs : List Nat) (h : (lengthOf xs).extent.row = 0) :
    ({ bytes := (lengthOf xs).bytes, extent := { row := 0, column := (lengthOf xs).bytes } } : Length) = lengthOf xs := by
  unfold lengthOf at *
  simp only at h ⊢
  have hc := extent_row_zero_col xs h
  cases he : extent xs with
  | mk r c =>
    rw [he] at h hc
    simp only at h hc
    subst h; subst hc; rfl

/-- `store` keeps a text-derived size text-derived (inline leaves drop the extent only when it is
recoverable from the byte count). -/
theorem store_size_lengthOf (d : NodeData) (p : Length) {z : Length} {xs : List Nat} (h : z = lengthOf xs) :
    (store d p z).size = z := by
  subst h
  unfold store
  split
  · split
    · rename_i _ hc
      have hrow : (lengthOf xs).extent.row = 0 := by
        unfold ts_subtree_can_inline at hc
        simp only [decide_eq_true_eq] at hc
        exact hc.1.1.2
      exact lengthOf_inline xs hrow
    · rfl
  · rfl

def NodeCons (T : List Nat) (A : Nat) (p z : Length) : Prop :=
  A + p.bytes + z.bytes ≤ T.length ∧
  p = lenS T A (A + p.bytes) ∧
  z = lenS T (A + p.bytes) (A + p.bytes + z.bytes)

theorem NodeCons.of {T : List Nat} {A : Nat} {p z : Length} (P E : Nat)
    (hp : p = lenS T A P) (hz : z = lenS T P E) (h1 : A ≤ P) (h2 : P ≤ E) (h3 : E ≤ T.length) :
    NodeCons T A p z := by
  unfold NodeCons
  rw [lenS_bytes_add hp h1 (Nat.le_trans h2 h3), lenS_bytes_add hz h2 h3]
  exact ⟨h3, hp, hz⟩

mutual
  def Cons (T : List Nat) : Tree → Nat → Prop
    | .mk d ks, A => NodeCons T A d.padding d.size ∧ ConsL T ks A
  def ConsL (T : List Nat) : List Tree → Nat → Prop
    | [], _ => True
    | c :: rest, A => Cons T c A ∧ ConsL T rest (A + tb c)
end

theorem Cons.total {T : List Nat} {t : Tree} {A : Nat} (h : Cons T t A) :
    t.totalSize = lenS T A (A + tb t) ∧ A + tb t ≤ T.length := by
  obtain ⟨d, ks⟩ := t
  obtain ⟨⟨hb, hp, hz⟩, _⟩ := h
  refine ⟨?_, by rw [tb_mk]; omega⟩
  rw [tb_mk, ← Nat.add_assoc, ← lenS_add T A (A + d.padding.bytes) _ (Nat.le_add_right _ _) (Nat.le_add_right _ _),
    ← hp, ← hz]
  rfl

/-- The running offset of the child loop after a consistent child is again read off the text. -/
theorem Cons.next {T : List Nat} {c : Tree} {A₀ A : Nat} {l : Length} (h : Cons T c A) (hl : l = lenS T A₀ A)
    (hA : A₀ ≤ A) : length_add l c.totalSize = lenS T A₀ (A + tb c) := by
  rw [hl, h.total.1, lenS_add T A₀ A _ hA (Nat.le_add_right _ _)]

structure Chg (T T' : List Nat) (S O N : Nat) : Prop where
  so : S ≤ O
  ot : O ≤ T.length
  sn : S ≤ N
  len : T'.length = N + (T.length - O)
  below : ∀ a b, b ≤ S → lenS T' a b = lenS T a b
  above : ∀ x y, lenS T' (N + x) (N + y) = lenS T (O + x) (O + y)

def splice (T ins : List Nat) (S O : Nat) : List Nat := T.take S ++ ins ++ T.drop O

theorem splice_length (T ins : List Nat) (S O : Nat) (h1 : S ≤ O) (h2 : O ≤ T.length) :
    (splice T ins S O).length = S + ins.length + (T.length - O) := by
  unfold splice
  simp only [List.length_append, List.length_take, List.length_drop]; omega

theorem slice_splice_below (T ins : List Nat) (S O a b : Nat) (h2 : O ≤ T.length) (h1 : S ≤ O) (hb : b ≤ S) :
    slice (splice T ins S O) a b = slice T a b := by
  unfold splice slice
  rw [← List.drop_take, ← List.drop_take, List.append_assoc,
    List.take_append_of_le_length (by rw [List.length_take]; omega), List.take_take, Nat.min_eq_left hb]

theorem slice_splice_above (T ins : List Nat) (S O x y : Nat) (h1 : S ≤ O) (h2 : O ≤ T.length) :
    slice (splice T ins S O) (S + ins.length + x) (S + ins.length + y) = slice T (O + x) (O + y) := by
  have hlenP : (T.take S ++ ins).length = S + ins.length := by
    simp only [List.length_append, List.length_take]; omega
  unfold splice slice
  rw [← hlenP, List.drop_length_add_append, List.drop_drop]
  congr 1
  omega

theorem Chg.of_splice (T ins : List Nat) (S O : Nat) (h1 : S ≤ O) (h2 : O ≤ T.length) :
    Chg T (splice T ins S O) S O (S + ins.length) := by
  refine ⟨h1, h2, by omega, ?_, ?_, ?_⟩
  · rw [splice_length T ins S O h1 h2]
  · intro a b hb
    unfold lenS
    rw [slice_splice_below T ins S O a b h2 h1 hb]
  · intro x y
    unfold lenS
    rw [slice_splice_above T ins S O x y h1 h2]

/-- `len` without the truncated subtraction. -/
theorem Chg.len_add {T T' : List Nat} {S O N : Nat} (hc : Chg T T' S O N) : N + T.length = T'.length + O := by
  have := hc.len; have := hc.ot; omega

theorem Chg.trivial (T : List Nat) (S : Nat) (h : S ≤ T.length) : Chg T T S S S :=
  ⟨Nat.le_refl _, h, Nat.le_refl _, by omega, fun _ _ _ => rfl, fun _ _ => rfl⟩

/-- `above`, in rewriting form with side goals for `omega`. -/
theorem Chg.above_eq {T T' : List Nat} {S O N : Nat} (hc : Chg T T' S O N) (a b a' b' : Nat)
    (ha : O ≤ a) (ha' : a' = N + (a - O)) (hb' : b' = N + (b - O)) :
    lenS T a b = lenS T' a' b' := by
  subst ha'; subst hb'
  by_cases hb : O ≤ b
  · rw [hc.above]
    congr 1 <;> omega
  · rw [lenS_zero T a b (by omega), lenS_zero T' _ _ (by omega)]

theorem Chg.above_frame {T T' : List Nat} {S O N : Nat} (hc : Chg T T' S O N) {A a b : Nat}
    (hO : O ≤ A) (ha : A ≤ a) (hb : a ≤ b) : lenS T a b = lenS T' (N + (A - O) + (a - A)) (N + (A - O) + (b - A)) :=
  hc.above_eq a b _ _ (by omega) (by omega) (by omega)

theorem lenS_zero_eq_take (T : List Nat) (n : Nat) : lenS T 0 n = lengthOf (T.take n) := by
  unfold lenS slice
  simp only [List.drop_zero, Nat.sub_zero]

/-- The root `Edit` describes the text change "replace bytes `[S, O)` of `T` by `ins`": its three
positions are the bytes *and the row/column* of `S`, `O` in the old text and `S + |ins|` in the new. -/
structure EditOK (T ins : List Nat) (S O : Nat) (e : Edit) : Prop where
  so : S ≤ O
  ot : O ≤ T.length
  start : e.start = lenS T 0 S
  old_end : e.old_end = lenS T 0 O
  new_end : e.new_end = lenS (splice T ins S O) 0 (S + ins.length)

theorem EditOK.bytes {T ins : List Nat} {S O : Nat} {e : Edit} (h : EditOK T ins S O e) :
    e.start.bytes = S ∧ e.old_end.bytes = O ∧ e.new_end.bytes = S + ins.length := by
  have := h.so; have := h.ot
  have hl := splice_length T ins S O h.so h.ot
  refine ⟨?_, ?_, ?_⟩
  · rw [h.start, lenS_bytes _ _ _ (by omega)]; omega
  · rw [h.old_end, lenS_bytes _ _ _ (by omega)]; omega
  · rw [h.new_end, lenS_bytes _ _ _ (by omega)]; omega

theorem EditOK.editB {T ins : List Nat} {S O : Nat} {e : Edit} (h : EditOK T ins S O e) : EditB e := by
  obtain ⟨h1, h2, h3⟩ := h.bytes
  have := h.so
  unfold EditB; omega

/-- One step of an edit history: the `Edit` handed to the tree and the text change it stands for. -/
structure TextEdit where
  e : Edit
  ins : List Nat
  S : Nat
  O : Nat

def applyText (T : List Nat) (x : TextEdit) : List Nat := splice T x.ins x.S x.O
def applyEdit (t : Tree) (x : TextEdit) : Tree := editTree t x.e

def HistOK : List Nat → List TextEdit → Prop
  | _, [] => True
  | T, x :: xs => EditOK T x.ins x.S x.O x.e ∧ HistOK (applyText T x) xs

end TsVerif.C10
