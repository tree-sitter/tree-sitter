import TsVerif.C10.Model
/-!
# C10 — the position map of an edit

Under the edit `(s, o, n)` — start, old end, new end, all in the coordinates in which the position is
measured — a content START `x` goes to `startMapN s o n x` and an END `x` (of a node, or of a run of
children) to `endMapN s o n x`; `mvN` does both to a span.  Every byte statement about `editTree` is this
map.

The composition lemmas say how the map looks from a frame `x` further on (the next child's frame, `x` the
total of the child before it): at or before the start of the edit all three positions shrink by `x`;
after a child that took the edit the inserted text is spent, `s − x = 0 = n`, and only the
deletion `o − x` is left.

`padB p e` is `startMapN` at `e`'s bytes (the two unfold to the same `if`), `Takes x e` is the condition
of `endMapN`.
-/
namespace TsVerif.C10
open TsGen TsVerif

def startMapN (s o n x : Nat) : Nat := if o ≤ x then n + (x - o) else if s < x then n else x

def endMapN (s o n x : Nat) : Nat := if s < x ∨ (s = x ∧ o = s) then n + (x - o) else x

def mvN (s o n : Nat) (p : Nat × Nat) : Nat × Nat := (startMapN s o n p.1, endMapN s o n p.2)

theorem startMapN_hi {s o n x : Nat} (h : o ≤ x) : startMapN s o n x = n + (x - o) := if_pos h

theorem startMapN_mid {s o n x : Nat} (h1 : ¬ o ≤ x) (h2 : s < x) : startMapN s o n x = n :=
  (if_neg h1).trans (if_pos h2)

theorem startMapN_lo {s o n x : Nat} (h1 : ¬ o ≤ x) (h2 : ¬ s < x) : startMapN s o n x = x :=
  (if_neg h1).trans (if_neg h2)

theorem endMapN_pos {s o n x : Nat} (h : s < x ∨ (s = x ∧ o = s)) : endMapN s o n x = n + (x - o) := if_pos h

/-- Before the edit the map is the identity — also exactly at its start, unless new text is put there
(`x = s = o` and `n ≠ s`). -/
theorem endMapN_of_le {s o n x : Nat} (h : x ≤ s) (h' : x = s → o = s → n = s) : endMapN s o n x = x := by
  unfold endMapN
  split <;> omega

theorem startMapN_of_le {s o n x : Nat} (hso : s ≤ o) (h : x ≤ s) (h' : x = s → o = s → n = s) :
    startMapN s o n x = x := by
  unfold startMapN
  split
  · omega
  · split <;> omega

theorem startMapN_point (x p : Nat) : startMapN x x x p = p := by
  unfold startMapN
  split
  · omega
  · split <;> omega

theorem endMapN_point (x y : Nat) : endMapN x x x y = y := by
  unfold endMapN
  split <;> omega

theorem endMapN_zero (o r : Nat) : endMapN 0 o 0 r = r - o := by
  unfold endMapN
  split <;> omega

theorem endMapN_before {s o n x r : Nat} (hso : s ≤ o) (hsn : s ≤ n) (h : x ≤ s) :
    x + endMapN (s - x) (o - x) (n - x) r = endMapN s o n (x + r) := by
  by_cases ht : s < x + r ∨ (s = x + r ∧ o = s)
  · rw [endMapN_pos ht, endMapN_pos (by omega)]; omega
  · rw [endMapN, endMapN, if_neg ht, if_neg (by omega)]

/-- `hn`: `x` lies past the start, or the edit is a pure insertion at the start, or nothing is inserted.  The one
case it excludes — a replacement with new text whose child ends exactly at `start` — is the property's boundary
convention: the C code gives that text to the NEXT child. -/
theorem endMapN_taken {s o n x : Nat} (hso : s ≤ o) (h : s ≤ x) (hn : s < x ∨ o = s ∨ n = s) :
    endMapN s o n x = n + (x - o) := by
  by_cases ht : s < x ∨ (s = x ∧ o = s)
  · exact endMapN_pos ht
  · rw [endMapN, if_neg ht]; omega

theorem endMapN_take {s o n x r : Nat} (hso : s ≤ o) (h : s ≤ x) (hn : s < x ∨ o = s ∨ n = s) :
    endMapN s o n x + endMapN (s - x) (o - x) (s - x) r = endMapN s o n (x + r) := by
  rw [Nat.sub_eq_zero_of_le h, endMapN_zero, endMapN_taken hso h hn]
  by_cases hr : s < x + r ∨ (s = x + r ∧ o = s)
  · rw [endMapN_pos hr]; omega
  · rw [endMapN, if_neg hr]; omega

theorem startMapN_before {s o n x : Nat} (hx : x ≤ s) (hso : s ≤ o) (hsn : s ≤ n) (a : Nat) :
    startMapN s o n (a + x) = startMapN (s - x) (o - x) (n - x) a + x := by
  by_cases h1 : o ≤ a + x
  · rw [startMapN_hi h1, startMapN_hi (show o - x ≤ a by omega)]; omega
  · by_cases h2 : s < a + x
    · rw [startMapN_mid h1 h2, startMapN_mid (show ¬ o - x ≤ a by omega) (show s - x < a by omega)]; omega
    · rw [startMapN_lo h1 h2, startMapN_lo (show ¬ o - x ≤ a by omega) (show ¬ s - x < a by omega)]

theorem startMapN_after {s o n x : Nat} (hso : s ≤ o) (hx : s ≤ x) (hn : s < x ∨ o = s ∨ n = s) (a : Nat) :
    startMapN s o n (a + x) = startMapN 0 (o - x) 0 a + endMapN s o n x := by
  rw [endMapN_taken hso hx hn]
  by_cases h1 : o ≤ a + x
  · rw [startMapN_hi h1, startMapN_hi (show o - x ≤ a by omega)]; omega
  · have h0 : startMapN 0 (o - x) 0 a = 0 := by
      by_cases ha : 0 < a
      · exact startMapN_mid (by omega) ha
      · rw [startMapN_lo (by omega) ha]; omega
    rw [h0]
    by_cases h2 : s < a + x
    · rw [startMapN_mid h1 h2]; omega
    · rw [startMapN_lo h1 h2]; omega

def padB (p : Nat) (e : Edit) : Nat :=
  if e.old_end.bytes ≤ p then e.new_end.bytes + (p - e.old_end.bytes)
  else if e.start.bytes < p then e.new_end.bytes else p

/-- The node (or child) "takes" the edit: the edit starts inside it, or is a pure insertion at its end. -/
def Takes (T : Nat) (e : Edit) : Prop :=
  e.start.bytes < T ∨ (e.start.bytes = T ∧ e.old_end.bytes = e.start.bytes)

instance (T : Nat) (e : Edit) : Decidable (Takes T e) := by unfold Takes; infer_instance

theorem endMapN_takes {x : Nat} {e : Edit} (h : Takes x e) :
    endMapN e.start.bytes e.old_end.bytes e.new_end.bytes x = e.new_end.bytes + (x - e.old_end.bytes) := if_pos h

theorem endMapN_not_takes {x : Nat} {e : Edit} (h : ¬ Takes x e) :
    endMapN e.start.bytes e.old_end.bytes e.new_end.bytes x = x := if_neg h

end TsVerif.C10
