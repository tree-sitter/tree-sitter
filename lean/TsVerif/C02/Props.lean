import TsVerif.C02.Lemmas
/-!
# C02 — Every parse terminates with a well-formed tree that tiles the text

Property text (properties.jsonl): *For any byte sequence (in the language or not, valid UTF-8 or
not) parsing terminates and returns a tree in which every node lies inside the text, children are
ordered, disjoint and contained in their parent, every row/column equals the position obtained by
counting newlines in the text, and every byte that is not skipped whitespace/extra lies inside a
leaf.  A literal-string token node covers exactly that string, MISSING nodes are empty, a node
reports has_error exactly when it or a descendant is ERROR or MISSING, and the advertised child,
named-child and descendant counts equal what enumeration finds.*

The model is the port of `ts_subtree_summarize_children` and of the leaf constructors
(`Model.lean`); `Summarized lang t` says every inner node of `t` carries what that port computes
from its children — the correspondence check establishes exactly this for every dumped real tree.

Clause → theorem   (P = proved ∀-theorem over the port, tied by correspondence; P(h) = proved under a decidable hypothesis that is
evaluated with the conclusion on every real tree; J = decided by the Lean judge on the implementation's output for every explored
input, not proved; A = assumed)

* "for any byte sequence … parsing TERMINATES and returns a tree" ............................ J + A, one local P:
  - P (local, NOT tied): `lex_skip_progress`, `lex_skip_enter`, `lexLoop_skipping_terminates`, `lex_terminates` — the retry / error-skip
    `for (;;)` of `ts_parser__lex` (hand port `LexLoop.lean`; the external scanner and the generated `ts_lex` are ONE abstract parameter)
    returns within `len − start + 4` rounds, under A = `LexEnvOK` (a lexing attempt only moves forward and stays inside the text, skipping
    a character before EOF consumes ≥ 1 byte).  `LexEnvOK` is an assumption about lexer.c / the generated lex function / user scanners;
    the port is not compared with the C loop.
  - J: every explored parse (≈4 800 per quick run: all zoo grammars × sentences, mutations, edits + re-parse, included ranges, 32 kinds of
    special documents) returns a non-null tree (`termination:null`) while the REAL operation counter stays under a linear budget
    (`termination:budget`): the runtime calls `ts_parser__check_progress` once per iteration of the main loop of `ts_parser__advance`
    and per (scaled) iteration of `ts_parser__balance_subtree` and invokes the progress callback every 100 counted operations; the
    explorer aborts at `200 + 40·len` callbacks, i.e. the parse used < (200 + 40·len)·100 counted operations (measured maximum
    ≈ 0.05–0.1 callbacks per byte).  Loops that never reach the counter (inside `ts_lex`, a user scanner, `ts_parser__recover`,
    `ts_parser__condense_stack`, reductions) are covered only by a wall-clock watchdog: 60 s (thorough: 300 s) ⇒ `termination:timeout`.
  - NOT proved, not modelled: termination of the GLR driver (`ts_parser__advance` over the version stack, `ts_parser__recover`,
    `ts_parser__condense_stack`, cost pruning) — no progress measure for it is stated; that a tree is always returned.
* "every node lies inside the text" ........................................................... J (`contained`, `api:inside_text`);
  P for the relative part: `spans_nested` (all `Sized` trees, all positions: children inside the parent, recursively; in
  EditProps.lean, read off C10's byte tiling `WFb`)
* "children are ordered, disjoint and contained in their parent" ............................. P: `siblings_ordered`, `spans_nested`,
  `tiles` (children end exactly where the parent ends, bytes/rows/columns); after edits `edit_preserves_summaries`,
  `edited_spans_nested` (C10); after rebalancing `balance_sized`, `balance_root_extent`.  J on the API: `api:child_in_parent`,
  `api:siblings_ordered_disjoint`
* "every row/column equals the position obtained by counting newlines" ....................... P(h): `rowcol_by_newlines` (in EditProps.lean, read off
  C10's consistency with a text `Cons`; + `yields_total`, `extentOf_snoc`) under h = `Yields` (every LEAF's padding and size measure consecutive pieces of the text).  The lexer half of h is P
  (`LexYields.lean`: `lexer_position_is_measure`, `token_measures`, `lexed_leaf_yields` over the lexer.c port of C09/C13: default range, UTF-8, any chunking);
  the ASSEMBLY half of h is P for an abstract shift / reduce / accept stack machine over the `newNode` port (`Assembly.lean`: `newNode_sized`,
  `newNode_yields`, `run_tiles`, `run_rowcol`, `accept_tiles`, `parse_tiles`, `shiftLexed_ok`: every tree such a machine can build tiles the text
  consumed); that every GLR version performs only such operations and lexes from where the consumed text ends is A; the CONCLUSION is judged on
  every raw node of every tree (`rowcol`).  `balance_yields`: rebalancing keeps h
* "every byte that is not skipped whitespace/extra lies inside a leaf" ....................... J only (`padding_skippable`,
  `trailing_skippable`; two known findings of the lexer generator)
* "a literal-string token node covers exactly that string" ................................... J only (`literal`; subject of C14)
* "MISSING nodes are empty" ................................................................... P: `missing_empty` (constructor port); J `missing_empty`
* "has_error exactly when it or a descendant is ERROR or MISSING" ............................ P(h) partial: `has_error_iff_partial`
  / `cost_pos_iff` (what `error_cost > 0` detects, h = `Summarized` + `shapeOK`, both evaluated on every tree); the full clause is
  FALSE on the unchanged code (`has_error_full_false`: ERROR leaf, known finding with fix) and P(h) for the repaired function
  (`has_error_fixed_iff`)
* "advertised child, named-child and descendant counts equal what enumeration finds" ......... P(h): `summarize_counts` (h as above);
  kept by rebalancing: `compress_summarized`, `balance_summarized` (h = `balanceOK`, evaluated); J `count:*` through the API;
  the counts fit their C fields: `counts_fit_32` (WidthProps.lean) + the field widths of the real struct measured on every run (`tie:cached-field-widths…`)
* summaries themselves (support) ............................................................... P: `summarize_padding_size`, `nodeOK_summarize`;
  T-corr recomputes every cached summary of every inner node of every real tree

Boundary conventions: positions are byte offsets of the start of a subtree's padding; the
content of a node is `[pos + padding, pos + padding + size)`; "ERROR" means symbol 65535
(`ts_builtin_sym_error`); the hidden `_ERROR` repeat (65534) is not an ERROR node by itself.
-/
namespace TsVerif.C02
open TsGen TsVerif

theorem kidSpans_lower : ∀ (kids : List Tree) (cur : Nat) (s : Nat × Nat), s ∈ kidSpans kids cur → cur ≤ s.1 ∧ s.1 ≤ s.2
  | [], _, _, h => by simp [kidSpans] at h
  | c :: rest, cur, s, h => by
    simp only [kidSpans, List.mem_cons] at h
    cases h with
    | inl h => subst h; simp [Tree.totalBytes]
    | inr h =>
      have := kidSpans_lower rest _ s h
      omega

/-- The content spans of the children of any node, at any position, are in
order and pairwise disjoint (each ends before the next begins). -/
theorem siblings_ordered : ∀ (kids : List Tree) (cur : Nat), (kidSpans kids cur).Pairwise (fun a b => a.2 ≤ b.1)
  | [], _ => by simp [kidSpans]
  | c :: rest, cur => by
    simp only [kidSpans, List.pairwise_cons]
    refine ⟨?_, siblings_ordered rest _⟩
    intro s hs
    exact (kidSpans_lower rest _ s hs).1

/-- In a node whose padding/size are the summaries of its (non-empty) children, laying
the children out one after the other from the node's position ends exactly at the node's end —
in bytes, rows and columns.  Hence the children's paddings and contents partition the node's
extent, and recursively the leaves' paddings and contents partition `[0, total)`. -/
theorem tiles (d : NodeData) (c : Tree) (rest : List Tree) (pos : Length)
    (hp : d.padding = kidsPadding (c :: rest)) (hs : d.size = kidsSize (c :: rest)) :
    layoutEnd (c :: rest) pos = length_add (length_add pos d.padding) d.size := by
  rw [hp, hs]
  simp only [layoutEnd, kidsPadding, kidsSize, Tree.totalSize]
  rw [← length_add_assoc, layoutEnd_restSize]

mutual
  theorem yields_total : ∀ (t : Tree) (s : List Nat), Sized t → Yields t s → t.totalSize = measure s
    | .mk d [], s, _, hy => by
      obtain ⟨p, q, rfl, hp, hq⟩ := (yields_leaf_iff d s).mp hy
      simp [Tree.totalSize, Tree.data, hp, hq, measure_append]
    | .mk d (c :: rest), s, hs, hy => by
      obtain ⟨hp, hz, hc, hr⟩ := (sized_node d c rest).mp hs
      have ht := tiles d c rest length_zero hp hz
      rw [yieldsL_layout (c :: rest) s length_zero ((sizedL_cons _ _).mpr ⟨hc, hr⟩) ((yields_node_iff ..).mp hy),
        length_zero_add, length_zero_add] at ht
      exact ht.symm
  theorem yieldsL_layout : ∀ (kids : List Tree) (s : List Nat) (pos : Length), SizedL kids → YieldsL kids s →
      layoutEnd kids pos = length_add pos (measure s)
    | [], s, pos, _, hy => by
      cases hy
      rw [layoutEnd, measure_nil, length_add_zero]
    | c :: rest, s, pos, hs, hy => by
      obtain ⟨s1, s2, rfl, h1, h2⟩ := (yieldsL_cons_iff ..).mp hy
      obtain ⟨hc, hr⟩ := (sizedL_cons _ _).mp hs
      rw [layoutEnd, yields_total c s1 hc h1, yieldsL_layout rest s2 _ hr h2, measure_append, length_add_assoc]
end


theorem yields_split : ∀ (t : Tree) (s : List Nat), Sized t → Yields t s →
    ∃ p q, s = p ++ q ∧ t.data.padding = measure p ∧ t.data.size = measure q
  | .mk d [], s, _, hy => (yields_leaf_iff d s).mp hy
  | .mk d (c :: rest), s, hs, hy => by
    have htot := yields_total _ s hs hy
    obtain ⟨hpad, _, hc, _⟩ := (sized_node d c rest).mp hs
    obtain ⟨s1, s2, rfl, h1, h2⟩ := (yieldsL_cons_iff ..).mp ((yields_node_iff ..).mp hy)
    obtain ⟨p, q, rfl, hp, _⟩ := yields_split c s1 hc h1
    have hpad : d.padding = measure p := hpad.trans hp
    refine ⟨p, q ++ s2, List.append_assoc .., hpad, ?_⟩
    have := length_sub_add_cancel d.padding d.size
    rwa [show length_add d.padding d.size = measure (p ++ q ++ s2) from htot, hpad, List.append_assoc, measure_append,
      length_sub_add_cancel, eq_comm] at this

/-- A MISSING leaf built by the port of `ts_subtree_new_missing_leaf` is empty
(zero bytes, rows and columns), is marked missing, and costs 610 — whatever the language, symbol,
state, padding and look-ahead.  610 = `ERROR_COST_PER_MISSING_TREE + ERROR_COST_PER_RECOVERY` (110 + 500, generated constants). -/
theorem missing_empty (lang : Lang) (symbol state : Nat) (padding : Length) (lookahead : Nat) :
    (newMissingLeaf lang symbol state padding lookahead).data.size = length_zero ∧
    (newMissingLeaf lang symbol state padding lookahead).data.isMissing = true ∧
    (newMissingLeaf lang symbol state padding lookahead).kids = [] ∧
    errorCostOf (newMissingLeaf lang symbol state padding lookahead) = 610 := by
  simp [newMissingLeaf, newLeaf, Tree.data, Tree.kids, errorCostOf, ERROR_COST_PER_MISSING_TREE, ERROR_COST_PER_RECOVERY]

/-! ## The inline leaf: inline ⇒ symbol < 256

`SubtreeInlineData.symbol` is a `uint8_t`; `ts_subtree_new_leaf` (lib/src/subtree.c) therefore stores a leaf inline only
when `symbol <= UINT8_MAX` (besides "no external tokens" and `ts_subtree_can_inline`).  The port `newLeaf` has that
condition; what it buys, for EVERY language, symbol, extent and flag combination: an inline leaf's symbol is below 256, it
carries no external-token / column flags and its extents satisfy `ts_subtree_can_inline` (`newLeaf_inline_symbol_lt`), so the
8-bit field holds the symbol exactly and `ts_subtree_leaf_symbol` is the symbol the lexer produced
(`newLeaf_inline_symbol_survives_u8`); a symbol ≥ 256 is never inline (`newLeaf_wide_symbol_on_heap`; the seeded
C02-r11-inline-leaf-symbol-width drops this); the same for `ts_subtree_new_missing_leaf`.
Tie: `corr:inline_limits` of the judge decides `isInline → can_inline ∧ symbol ≤ 255` on every dumped real node; what the
8-bit truncation would do to the PUBLIC kind of a leaf is judged by the `literal` clause on zoo/c02wide (ids up to 360). -/

theorem newLeaf_isInline (lang : Lang) (symbol : Nat) (padding size : Length) (lookahead parseState : Nat) (x y z : Bool) :
    (newLeaf lang symbol padding size lookahead parseState x y z).data.isInline =
      (decide (symbol ≤ 255) && !x && ts_subtree_can_inline padding size lookahead) := rfl

theorem newLeaf_symbol (lang : Lang) (symbol : Nat) (padding size : Length) (lookahead parseState : Nat) (x y z : Bool) :
    (newLeaf lang symbol padding size lookahead parseState x y z).data.symbol = symbol := rfl

theorem newLeaf_inline_symbol_lt (lang : Lang) (symbol : Nat) (padding size : Length) (lookahead parseState : Nat)
    (x y z : Bool)
    (h : (newLeaf lang symbol padding size lookahead parseState x y z).data.isInline = true) :
    symbol < 256 ∧ x = false ∧ ts_subtree_can_inline padding size lookahead = true ∧
    (newLeaf lang symbol padding size lookahead parseState x y z).data.hasExternalTokens = false ∧
    (newLeaf lang symbol padding size lookahead parseState x y z).data.dependsOnColumn = false := by
  have hx : (newLeaf lang symbol padding size lookahead parseState x y z).data.hasExternalTokens =
      (!(decide (symbol ≤ 255) && !x && ts_subtree_can_inline padding size lookahead) && x) := rfl
  have hy : (newLeaf lang symbol padding size lookahead parseState x y z).data.dependsOnColumn =
      (!(decide (symbol ≤ 255) && !x && ts_subtree_can_inline padding size lookahead) && y) := rfl
  rw [newLeaf_isInline] at h
  rw [hx, hy, h]
  simp only [Bool.and_eq_true, decide_eq_true_eq, Bool.not_eq_true'] at h
  obtain ⟨⟨h1, h2⟩, h3⟩ := h
  exact ⟨by omega, h2, h3, rfl, rfl⟩

theorem newLeaf_inline_symbol_survives_u8 (lang : Lang) (symbol : Nat) (padding size : Length) (lookahead parseState : Nat)
    (x y z : Bool)
    (h : (newLeaf lang symbol padding size lookahead parseState x y z).data.isInline = true) :
    symbol % 256 = symbol ∧ leafSymbol (newLeaf lang symbol padding size lookahead parseState x y z) = symbol := by
  have h1 := (newLeaf_inline_symbol_lt lang symbol padding size lookahead parseState x y z h).1
  refine ⟨Nat.mod_eq_of_lt h1, ?_⟩
  unfold leafSymbol
  rw [if_pos h, newLeaf_symbol]

theorem newLeaf_wide_symbol_on_heap (lang : Lang) (symbol : Nat) (padding size : Length) (lookahead parseState : Nat)
    (x y z : Bool) (hw : 256 ≤ symbol) :
    (newLeaf lang symbol padding size lookahead parseState x y z).data.isInline = false ∧
    (newLeaf lang symbol padding size lookahead parseState x y z).data.symbol = symbol := by
  constructor
  · cases hi : (newLeaf lang symbol padding size lookahead parseState x y z).data.isInline with
    | false => rfl
    | true => have := (newLeaf_inline_symbol_lt lang symbol padding size lookahead parseState x y z hi).1; omega
  · rfl

theorem newMissingLeaf_inline_symbol_lt (lang : Lang) (symbol state : Nat) (padding : Length) (lookahead : Nat)
    (h : (newMissingLeaf lang symbol state padding lookahead).data.isInline = true) : symbol < 256 := by
  have : (newMissingLeaf lang symbol state padding lookahead).data.isInline =
      (newLeaf lang symbol padding length_zero lookahead state false false false).data.isInline := by
    rfl
  rw [this] at h
  exact (newLeaf_inline_symbol_lt lang symbol padding length_zero lookahead state false false false h).1

example : (newLeaf default 255 ⟨1, ⟨0, 1⟩⟩ ⟨4, ⟨0, 4⟩⟩ 1 7 false false false).data.isInline = true := by decide +kernel
example : (newLeaf default 256 ⟨1, ⟨0, 1⟩⟩ ⟨4, ⟨0, 4⟩⟩ 1 7 false false false).data.isInline = false := by decide +kernel

mutual
  /-- In every tree whose inner nodes carry the port's summaries (and in which
  the `end` symbol is extra — part of `shapeOK`), the advertised child count, named-child count and
  descendant count of EVERY node equal the lengths of the enumerations that `ts_node_child`
  iteration yields (aliases and hidden children included). -/
  theorem summarize_counts (lang : Lang) : ∀ (t : Tree) (ps : Option Nat), Summarized lang t → shapeOK ps t = true →
      t.data.visibleChildCount = (enumChildren lang t).length ∧
      t.data.namedChildCount = ((enumChildren lang t).filter (entryNamed lang)).length ∧
      t.data.visibleDescendantCount = countDesc lang t
    | .mk d kids, ps, hs, hsh => by
      have hc := summarized_node_counts lang d kids hs
      have hk := sum_counts lang kids d.productionId 0 (some d.symbol) (summarized_kids hs) (shapeOK_kids hsh)
      unfold enumChildren countDesc
      exact ⟨hc.1.trans hk.1, hc.2.1.trans hk.2.1, hc.2.2.trans hk.2.2⟩
  theorem sum_counts (lang : Lang) : ∀ (kids : List Tree) (pid si : Nat) (ps : Option Nat),
      SummarizedL lang kids → shapeOKL ps kids = true →
      sumSI (fun si c => (childCounts lang pid si c).1) kids si = (enumKids lang pid kids si).length ∧
      sumSI (fun si c => (childCounts lang pid si c).2.1) kids si = ((enumKids lang pid kids si).filter (entryNamed lang)).length ∧
      sumSI (fun si c => (childCounts lang pid si c).2.2) kids si = countDescKids lang pid kids si
    | [], _, _, _, _, _ => by simp [sumSI, enumKids, countDescKids]
    | c :: rest, pid, si, ps, hs, hsh => by
      obtain ⟨hsc, hsr⟩ := (summarizedL_cons ..).mp hs
      obtain ⟨hshc, hshr⟩ := shapeOKL_cons hsh
      have ihc := summarize_counts lang c ps hsc hshc
      have ihr := sum_counts lang rest pid (if c.data.extra then si else si + 1) ps hsr hshr
      have hcc := childCounts_spec lang pid si c (shapeOK_end hshc) ihc
      simp only [sumSI, enumKids, countDescKids, List.length_append, List.filter_append]
      rw [hcc.1, hcc.2.1, hcc.2.2, ihr.1, ihr.2.1, ihr.2.2]
      exact ⟨rfl, rfl, rfl⟩
end

mutual
  /-- In a summarized tree with the parser's shape invariant,
  `ts_subtree_error_cost > 0` holds exactly when the subtree contains a MISSING node or an
  ERROR/`_ERROR` node *that has children*. -/
  theorem cost_pos_iff (lang : Lang) : ∀ (t : Tree) (ps : Option Nat), Summarized lang t → shapeOK ps t = true →
      (errorCostOf t > 0 ↔ costlyErr t = true)
    | .mk d kids, ps, hs, hsh => by
      have he := summarized_node_errorCost lang d kids hs
      have hk := sumErr_pos_iff lang kids d.symbol (summarized_kids hs) (shapeOK_kids hsh)
      unfold costlyErr errorCostOf
      simp only [Tree.data]
      by_cases hm : d.isMissing = true
      · simp [hm, ERROR_COST_PER_MISSING_TREE, ERROR_COST_PER_RECOVERY]
      · have hm' : d.isMissing = false := by simpa using hm
        simp only [hm', if_false, Bool.false_eq_true, Bool.false_or]
        rw [he]
        cases kids with
        | nil => simp [costlyErrL]
        | cons c rest =>
          rw [if_neg (List.cons_ne_nil _ _)]
          by_cases hsym : isErrSym d.symbol = true
          · have hpos := extent_cost_pos d.size
            simp only [hsym, if_true, List.isEmpty_cons, Bool.not_false, Bool.and_self, Bool.true_or, iff_true]
            omega
          · have hsym' : isErrSym d.symbol = false := by simpa using hsym
            simp only [hsym', if_false, Bool.false_eq_true, Bool.false_and, Bool.false_or]
            exact hk hsym'
  theorem sumErr_pos_iff (lang : Lang) : ∀ (kids : List Tree) (sym : Nat), SummarizedL lang kids →
      shapeOKL (some sym) kids = true → isErrSym sym = false →
      (sumErr sym kids > 0 ↔ costlyErrL kids = true)
    | [], _, _, _, _ => by simp [sumErr, costlyErrL]
    | c :: rest, sym, hs, hsh, hsym => by
      obtain ⟨hsc, hsr⟩ := (summarizedL_cons ..).mp hs
      obtain ⟨hshc, hshr⟩ := shapeOKL_cons hsh
      have ihc := cost_pos_iff lang c (some sym) hsc hshc
      have ihr := sumErr_pos_iff lang rest sym hsr hshr hsym
      have hrep := (shapeOK_below hshc hsym).1
      have hce : childErrorCost sym c = errorCostOf c := by
        simp [childErrorCost, hrep, hsym]
      simp only [sumErr, costlyErrL, hce, Bool.or_eq_true]
      rw [← ihc, ← ihr]
      omega
end

/-- What the unchanged `ts_node_has_error` reports for ANY node of a
summarized, parser-shaped tree is "a MISSING node, or an ERROR/`_ERROR` node with children, at or
below" — which is the property's right-hand side except for childless ERROR nodes. -/
theorem has_error_iff_partial (lang : Lang) (t : Tree) (ps : Option Nat)
    (hs : Summarized lang t) (hsh : shapeOK ps t = true) : nodeHasError t = costlyErr t := by
  have h := cost_pos_iff lang t ps hs hsh
  unfold nodeHasError
  by_cases hc : costlyErr t = true
  · simp [hc, h.mpr hc]
  · have : ¬ (errorCostOf t > 0) := fun hp => hc (h.mp hp)
    simp [hc, this]

mutual
  /-- What `error_cost > 0` detects and "an ERROR or MISSING node at or below" differ only at the node itself: the
  first misses a childless ERROR node, the second an `_ERROR` node with children.  Below a node that is not an error
  node the shape invariant allows neither, so the two agree on its children. -/
  theorem err_eq : ∀ (t : Tree) (ps : Option Nat), shapeOK ps t = true →
      (containsErr t || (t.data.symbol == symErrorRepeat && !t.kids.isEmpty)) =
        (costlyErr t || (t.data.symbol == symError && t.kids.isEmpty))
    | .mk d kids, ps, hsh => by
      have hsk := shapeOK_kids hsh
      unfold containsErr costlyErr
      simp only [Tree.data, Tree.kids]
      cases he : isErrSym d.symbol
      · have h1 : (d.symbol == symError) = false := by
          simp only [isErrSym, Bool.or_eq_false_iff] at he; exact he.1
        have h2 : (d.symbol == symErrorRepeat) = false := by
          simp only [isErrSym, Bool.or_eq_false_iff] at he; exact he.2
        rw [errL_eq kids d.symbol hsk he, h1, h2]
        simp
      · simp only [isErrSym, Bool.or_eq_true] at he
        cases kids with
        | nil => simp [containsErrL, costlyErrL]
        | cons c rest => rcases he with h | h <;> simp [h]
  theorem errL_eq : ∀ (kids : List Tree) (sym : Nat), shapeOKL (some sym) kids = true → isErrSym sym = false →
      containsErrL kids = costlyErrL kids
    | [], _, _, _ => by rw [containsErrL, costlyErrL]
    | c :: rest, sym, hsh, hsym => by
      obtain ⟨hshc, hshr⟩ := shapeOKL_cons hsh
      have h := err_eq c (some sym) hshc
      obtain ⟨h1, h2⟩ := shapeOK_below hshc hsym
      rw [show (c.data.symbol == symErrorRepeat) = false by simpa using h1, h2, Bool.false_and, Bool.or_false, Bool.or_false] at h
      rw [containsErrL, costlyErrL, h, errL_eq rest sym hshr hsym]
end

theorem containsL_costly : ∀ (kids : List Tree) (sym : Nat), shapeOKL (some sym) kids = true →
    containsErrL kids = true → costlyErrL kids = true ∨ (isErrSym sym = true ∧ True) := by
  intro kids sym hsh h
  cases hs : isErrSym sym
  · exact .inl (errL_eq kids sym hsh hs ▸ h)
  · exact .inr ⟨rfl, trivial⟩

theorem costlyL_contains : ∀ (kids : List Tree) (sym : Nat), shapeOKL (some sym) kids = true →
    costlyErrL kids = true → containsErrL kids = true ∨ isErrSym sym = true := by
  intro kids sym hsh h
  cases hs : isErrSym sym
  · exact .inl (errL_eq kids sym hsh hs ▸ h)
  · exact .inr rfl

/-- With the repair of fixes/C02-has-error-leaf.diff
(`error_cost > 0 || is_error`) the property's clause holds in full for every node that the API can
return (the hidden `_ERROR` repeat is never a `TSNode`): has_error ⇔ an ERROR or MISSING node at or
below — for all languages and all summarized, parser-shaped trees. -/
theorem has_error_fixed_iff (lang : Lang) (t : Tree) (ps : Option Nat)
    (hs : Summarized lang t) (hsh : shapeOK ps t = true) (hrep : t.data.symbol ≠ symErrorRepeat) :
    nodeHasErrorFixed t = containsErr t := by
  have h1 := has_error_iff_partial lang t ps hs hsh
  have h2 := err_eq t ps hsh
  unfold nodeHasError at h1
  unfold nodeHasErrorFixed
  rw [h1]
  obtain ⟨d, kids⟩ := t
  have hr : (d.symbol == symErrorRepeat) = false := by simpa [Tree.data] using hrep
  rw [Tree.data, Tree.kids, hr, Bool.false_and, Bool.or_false] at h2
  rw [h2, Tree.data]
  -- an ERROR node with children is costly already
  cases kids with
  | nil => simp
  | cons c rest =>
    cases he : d.symbol == symError
    · simp
    · have : costlyErr (.mk d (c :: rest)) = true := by unfold costlyErr; simp [isErrSym, he]
      simp [this]

/-- The childless ERROR node of the confirmed defect (`ab ? cd (x` in grammar `lst`, node [3,4]),
exactly as dumped from the real tree. -/
def errorLeafWitness : Tree :=
  .mk { (default : NodeData) with symbol := symError, padding := ⟨1, ⟨0, 1⟩⟩, size := ⟨1, ⟨0, 1⟩⟩, lookahead := 4
                                  parseState := 6, visible := true, named := true
                                  fragileLeft := true, fragileRight := true, errorCost := 0, ext := "c63" } []

/-- The FULL clause ("has_error exactly when it or a descendant is ERROR
or MISSING") is false for the unchanged `ts_node_has_error`: the witness is summarized, has the
parser's shape below an `_ERROR` parent, is an ERROR node, and reports has_error = false.
OPEN (false on the unchanged code, true after the fix, see `has_error_fixed_iff`):
  ∀ lang t ps, Summarized lang t → shapeOK ps t → t.symbol ≠ _ERROR → nodeHasError t = containsErr t -/
theorem has_error_full_false :
    ∃ (lang : Lang) (t : Tree) (ps : Option Nat), Summarized lang t ∧ shapeOK ps t = true ∧
      t.data.symbol ≠ symErrorRepeat ∧ nodeHasError t = false ∧ containsErr t = true := by
  refine ⟨{}, errorLeafWitness, some symErrorRepeat, ?_, ?_, ?_, ?_, ?_⟩
  · rw [errorLeafWitness, summarized_leaf]
    simp [LeafOK]
    decide +kernel
  · decide +kernel
  · decide +kernel
  · decide +kernel
  · decide +kernel

/-! ## Non-vacuity: a two-level tree built by the port satisfies the hypotheses -/

example : Yields (.mk { (default : NodeData) with padding := ⟨1, ⟨1, 0⟩⟩, size := ⟨2, ⟨0, 2⟩⟩ } []) ([10] ++ [97, 98]) :=
  Yields.leaf _ [10] [97, 98] (by decide +kernel) (by decide +kernel)


def demoLang : Lang :=
  { symbolCount := 4, tokenCount := 2
    syms := #[{ name := "end" }, { visible := true, named := true, pub := 1, name := "tok" },
              { visible := true, named := true, pub := 2, name := "rule" }, { pub := 3, name := "_hidden" }] }

def demoLeaf (pad size : Nat) : Tree :=
  newLeaf demoLang 1 ⟨pad, ⟨0, pad⟩⟩ ⟨size, ⟨0, size⟩⟩ 1 1 false false false

def demoTree : Tree :=
  newNode demoLang 2 [demoLeaf 0 2, newNode demoLang 3 [demoLeaf 1 1, newMissingLeaf demoLang 1 0 ⟨1, ⟨0, 1⟩⟩ 0] 0, demoLeaf 2 3] 0

example : shapeOK none demoTree = true := by decide +kernel
example : nodeHasError demoTree = true ∧ costlyErr demoTree = true ∧ containsErr demoTree = true := by decide +kernel
example : (enumChildren demoLang demoTree).length = 4 ∧ demoTree.data.visibleChildCount = 4 ∧
    demoTree.data.visibleDescendantCount = 4 ∧ demoTree.data.size.bytes = 10 := by decide +kernel
example : layoutEnd demoTree.kids length_zero = length_add (length_add length_zero demoTree.data.padding) demoTree.data.size := by decide +kernel

end TsVerif.C02
