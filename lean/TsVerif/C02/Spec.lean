import TsVerif.C02.Judge
import TsVerif.Common.LengthAlgebra
/-!
# C02 — the predicates the theorems are stated with

What a tree must satisfy for the clauses of the property to be provable of it: every proof-side definition of the directory,
with the lemmas that take `Summarized`, `Sized`, `Yields` and `measure` apart (those of `NestedAt` and `AllAt` go through C10:
EditProps.lean).
-/
namespace TsVerif.C02
open TsGen TsVerif

theorem data_mk (d : NodeData) (k : List Tree) : (Tree.mk d k).data = d := rfl
theorem kids_mk (d : NodeData) (k : List Tree) : (Tree.mk d k).kids = k := rfl

/-! ## Sums over the children (what the loop of `summarize` adds up) -/

def sumSI (f : Nat → Tree → Nat) : List Tree → Nat → Nat
  | [], _ => 0
  | c :: rest, si => f si c + sumSI f rest (if c.data.extra then si else si + 1)

def sumErr (selfSym : Nat) : List Tree → Nat
  | [] => 0
  | c :: rest => childErrorCost selfSym c + sumErr selfSym rest

def sumBytes : List Tree → Nat
  | [] => 0
  | c :: rest => c.totalBytes + sumBytes rest

/-- The cached fields of an inner node are what `summarize` computes from its children.  Six of the
fields `summarize` assigns: those the clauses of the property read (extent, error cost, the three counts).  The others
(look-ahead, flags, repeat depth, first leaf, dynamic precedence) are compared with the port by the correspondence check
(`corrNode`) only. -/
def NodeOK (lang : Lang) (d : NodeData) (kids : List Tree) : Prop :=
  d.padding = (summarize lang length_zero d kids).padding ∧
  d.size = (summarize lang length_zero d kids).size ∧
  d.errorCost = (summarize lang length_zero d kids).errorCost ∧
  d.visibleChildCount = (summarize lang length_zero d kids).visibleChildCount ∧
  d.namedChildCount = (summarize lang length_zero d kids).namedChildCount ∧
  d.visibleDescendantCount = (summarize lang length_zero d kids).visibleDescendantCount

theorem NodeOK.padding {lang : Lang} {d : NodeData} {kids : List Tree} (h : NodeOK lang d kids) :
    d.padding = (summarize lang length_zero d kids).padding := h.1
theorem NodeOK.size {lang : Lang} {d : NodeData} {kids : List Tree} (h : NodeOK lang d kids) :
    d.size = (summarize lang length_zero d kids).size := h.2.1
theorem NodeOK.errorCost {lang : Lang} {d : NodeData} {kids : List Tree} (h : NodeOK lang d kids) :
    d.errorCost = (summarize lang length_zero d kids).errorCost := h.2.2.1
theorem NodeOK.visibleChildCount {lang : Lang} {d : NodeData} {kids : List Tree} (h : NodeOK lang d kids) :
    d.visibleChildCount = (summarize lang length_zero d kids).visibleChildCount := h.2.2.2.1
theorem NodeOK.namedChildCount {lang : Lang} {d : NodeData} {kids : List Tree} (h : NodeOK lang d kids) :
    d.namedChildCount = (summarize lang length_zero d kids).namedChildCount := h.2.2.2.2.1
theorem NodeOK.visibleDescendantCount {lang : Lang} {d : NodeData} {kids : List Tree} (h : NodeOK lang d kids) :
    d.visibleDescendantCount = (summarize lang length_zero d kids).visibleDescendantCount := h.2.2.2.2.2

/-- A leaf as the constructors leave it (`error_cost = 0`; the count accessors return 0). -/
def LeafOK (d : NodeData) : Prop :=
  d.errorCost = 0 ∧ d.visibleChildCount = 0 ∧ d.namedChildCount = 0 ∧ d.visibleDescendantCount = 0

mutual
  /-- Every inner node of the tree carries the summaries of its children; this is what the
  correspondence check establishes for every dumped real tree. -/
  def Summarized (lang : Lang) : Tree → Prop
    | .mk d kids => (kids = [] → LeafOK d) ∧ (kids ≠ [] → NodeOK lang d kids) ∧ SummarizedL lang kids
  def SummarizedL (lang : Lang) : List Tree → Prop
    | [] => True
    | c :: rest => Summarized lang c ∧ SummarizedL lang rest
end

mutual
  /-- Only the geometry part: padding/size of inner nodes come from the children. -/
  def Sized : Tree → Prop
    | .mk d kids => (kids ≠ [] → d.padding = kidsPadding kids ∧ d.size = kidsSize kids) ∧ SizedL kids
  def SizedL : List Tree → Prop
    | [] => True
    | c :: rest => Sized c ∧ SizedL rest
end


theorem sized_mk (d : NodeData) (kids : List Tree) :
    Sized (.mk d kids) ↔ ((kids ≠ [] → d.padding = kidsPadding kids ∧ d.size = kidsSize kids) ∧ SizedL kids) := by
  rw [Sized]

theorem sizedL_iff : ∀ l : List Tree, SizedL l ↔ ∀ c ∈ l, Sized c
  | [] => by simp [SizedL]
  | c :: rest => by rw [SizedL, sizedL_iff rest, List.forall_mem_cons]

theorem sizedL_cons (c : Tree) (rest : List Tree) : SizedL (c :: rest) ↔ (Sized c ∧ SizedL rest) := by rw [SizedL]

theorem sizedL_append : ∀ (a b : List Tree), SizedL (a ++ b) ↔ (SizedL a ∧ SizedL b) := by
  intro a b
  simp only [sizedL_iff, List.forall_mem_append]

theorem sized_leaf (d : NodeData) : Sized (.mk d []) :=
  (sized_mk d []).mpr ⟨fun h => absurd rfl h, (sizedL_iff []).mpr nofun⟩

theorem sized_node (d : NodeData) (c : Tree) (rest : List Tree) : Sized (.mk d (c :: rest)) ↔
    (d.padding = c.data.padding ∧ d.size = restSize rest c.data.size ∧ Sized c ∧ SizedL rest) := by
  rw [sized_mk, sizedL_cons]
  exact ⟨fun h => ⟨(h.1 (List.cons_ne_nil _ _)).1, (h.1 (List.cons_ne_nil _ _)).2, h.2⟩, fun h => ⟨fun _ => ⟨h.1, h.2.1⟩, h.2.2⟩⟩

theorem summarized_mk (lang : Lang) (d : NodeData) (kids : List Tree) :
    Summarized lang (.mk d kids) ↔ ((kids = [] → LeafOK d) ∧ (kids ≠ [] → NodeOK lang d kids) ∧ SummarizedL lang kids) := by
  rw [Summarized]

theorem summarized_leaf (lang : Lang) (d : NodeData) : Summarized lang (.mk d []) ↔ LeafOK d := by
  rw [summarized_mk]
  exact ⟨fun h => h.1 rfl, fun h => ⟨fun _ => h, fun h0 => absurd rfl h0, trivial⟩⟩

theorem summarized_node (lang : Lang) (d : NodeData) (c : Tree) (rest : List Tree) :
    Summarized lang (.mk d (c :: rest)) ↔ (NodeOK lang d (c :: rest) ∧ SummarizedL lang (c :: rest)) := by
  rw [summarized_mk]
  exact ⟨fun h => ⟨h.2.1 (List.cons_ne_nil _ _), h.2.2⟩, fun h => ⟨nofun, fun _ => h.1, h.2⟩⟩

theorem summarized_kids {lang : Lang} {d : NodeData} {kids : List Tree} (h : Summarized lang (.mk d kids)) :
    SummarizedL lang kids :=
  ((summarized_mk lang d kids).mp h).2.2

theorem summarizedL_iff (lang : Lang) : ∀ l : List Tree, SummarizedL lang l ↔ ∀ c ∈ l, Summarized lang c
  | [] => by simp [SummarizedL]
  | c :: rest => by rw [SummarizedL, summarizedL_iff lang rest, List.forall_mem_cons]

theorem summarizedL_cons (lang : Lang) (c : Tree) (rest : List Tree) :
    SummarizedL lang (c :: rest) ↔ (Summarized lang c ∧ SummarizedL lang rest) := by rw [SummarizedL]

theorem summarizedL_nil (lang : Lang) : SummarizedL lang [] := (summarizedL_iff lang []).mpr nofun

theorem summarizedL_append (lang : Lang) : ∀ (a b : List Tree), SummarizedL lang (a ++ b) ↔ (SummarizedL lang a ∧ SummarizedL lang b) := by
  intro a b
  simp only [summarizedL_iff, List.forall_mem_append]

theorem summarizedL_dropLast (lang : Lang) : ∀ (l : List Tree), SummarizedL lang l → SummarizedL lang l.dropLast :=
  fun l h => (summarizedL_iff lang _).mpr fun c hc => (summarizedL_iff lang l).mp h c (List.dropLast_subset l hc)

theorem summarizedL_getLast (lang : Lang) : ∀ (l : List Tree) (x : Tree), SummarizedL lang l → l.getLast? = some x → Summarized lang x :=
  fun l x h hx => (summarizedL_iff lang l).mp h x (List.mem_of_getLast? hx)


theorem summarized_of_mem (lang : Lang) : ∀ (kids : List Tree) (c : Tree), SummarizedL lang kids → c ∈ kids → Summarized lang c :=
  fun kids c h => (summarizedL_iff lang kids).mp h c

theorem summarizedL_drop (lang : Lang) : ∀ (kids : List Tree) (n : Nat), SummarizedL lang kids → SummarizedL lang (kids.drop n) :=
  fun kids _ h => (summarizedL_iff lang _).mpr fun c hc => summarized_of_mem lang kids c h (List.mem_of_mem_drop hc)

theorem summarizedL_take (lang : Lang) : ∀ (kids : List Tree) (n : Nat), SummarizedL lang kids → SummarizedL lang (kids.take n) :=
  fun kids _ h => (summarizedL_iff lang _).mpr fun c hc => summarized_of_mem lang kids c h (List.mem_of_mem_take hc)

theorem shapeOK_kids {ps : Option Nat} {d : NodeData} {kids : List Tree} (h : shapeOK ps (.mk d kids) = true) :
    shapeOKL (some d.symbol) kids = true := by
  unfold shapeOK at h; rw [Bool.and_eq_true] at h; exact h.2

theorem shapeOKL_cons {ps : Option Nat} {c : Tree} {rest : List Tree} (h : shapeOKL ps (c :: rest) = true) :
    shapeOK ps c = true ∧ shapeOKL ps rest = true := by
  unfold shapeOKL at h; rw [Bool.and_eq_true] at h; exact h

theorem shapeOK_end {ps : Option Nat} {c : Tree} (h : shapeOK ps c = true) (h0 : c.data.symbol = 0) : c.data.extra = true := by
  obtain ⟨d, k⟩ := c
  simp only [shapeOK, Bool.and_eq_true, Bool.or_eq_true, bne_iff_ne, ne_eq] at h
  exact h.1.2.resolve_left fun h1 => h1 h0

theorem shapeOK_below {sym : Nat} {c : Tree} (h : shapeOK (some sym) c = true) (hs : isErrSym sym = false) :
    c.data.symbol ≠ symErrorRepeat ∧ (c.data.symbol == symError && c.kids.isEmpty) = false := by
  obtain ⟨d, k⟩ := c
  simp only [shapeOK, Bool.and_eq_true, Bool.or_eq_true, hs, Bool.false_eq_true, or_false, bne_iff_ne, ne_eq,
    Bool.not_eq_true'] at h
  exact ⟨h.1.1.1, h.1.1.2⟩

theorem shapeOKL_iff (ps : Option Nat) : ∀ kids : List Tree, shapeOKL ps kids = true ↔ ∀ c ∈ kids, shapeOK ps c = true
  | [] => by simp [shapeOKL]
  | x :: rest => by simp [shapeOKL, shapeOKL_iff ps rest]

theorem shapeOK_of_mem : ∀ (kids : List Tree) (ps : Option Nat) (c : Tree), shapeOKL ps kids = true → c ∈ kids → shapeOK ps c = true :=
  fun kids ps c h => (shapeOKL_iff ps kids).mp h c

theorem shapeOKL_drop : ∀ (kids : List Tree) (ps : Option Nat) (n : Nat), shapeOKL ps kids = true → shapeOKL ps (kids.drop n) = true :=
  fun kids ps _ h => (shapeOKL_iff ps _).mpr fun c hc => shapeOK_of_mem kids ps c h (List.mem_of_mem_drop hc)

theorem shapeOKL_take : ∀ (kids : List Tree) (ps : Option Nat) (n : Nat), shapeOKL ps kids = true → shapeOKL ps (kids.take n) = true :=
  fun kids ps _ h => (shapeOKL_iff ps _).mpr fun c hc => shapeOK_of_mem kids ps c h (List.mem_of_mem_take hc)

mutual
  /-- `pos` is the byte where the subtree's padding starts.  Every child's content lies inside
  the parent's content, recursively. -/
  def NestedAt : Tree → Nat → Prop
    | .mk d kids, pos => KidsWithin kids pos (pos + d.padding.bytes) (pos + d.padding.bytes + d.size.bytes)
  def KidsWithin : List Tree → Nat → Nat → Nat → Prop
    | [], _, _, _ => True
    | c :: rest, cur, lo, hi =>
      lo ≤ cur + c.data.padding.bytes ∧ cur + c.totalBytes ≤ hi ∧ NestedAt c cur ∧
      KidsWithin rest (cur + c.totalBytes) lo hi
end

/-- Content spans `[start, end)` of consecutive siblings laid out from `cur`: the positions the child iterator of
node.c hands out (each child starts where the previous one ended; the iterator is modelled in C06; judged here, `api:siblings_ordered_disjoint`). -/
def kidSpans : List Tree → Nat → List (Nat × Nat)
  | [], _ => []
  | c :: rest, cur => (cur + c.data.padding.bytes, cur + c.totalBytes) :: kidSpans rest (cur + c.totalBytes)

def layoutEnd : List Tree → Length → Length
  | [], cur => cur
  | c :: rest, cur => layoutEnd rest (length_add cur c.totalSize)

theorem layoutEnd_eq_restSize : ∀ (l : List Tree) (s : Length), layoutEnd l s = restSize l s
  | [], _ => rfl
  | c :: rest, s => by rw [layoutEnd, restSize, layoutEnd_eq_restSize rest]

/- The text model of this property: the extent of a byte string is the `point_add` (the generated function) of the extents
of its bytes.  `TsVerif.extent` / `lengthOf` (Common/LengthAlgebra.lean, the model C10 uses) count newlines directly;
`measure_eq_lengthOf` below says the two agree, so the algebra of `measure` is that of `lengthOf`. -/
def charExtent (b : Nat) : TSPoint := if b = 10 then ⟨1, 0⟩ else ⟨0, 1⟩

def extentOf : List Nat → TSPoint
  | [] => ⟨0, 0⟩
  | b :: rest => point_add (charExtent b) (extentOf rest)

/-- A byte string measured the way the lexer measures tokens. -/
def measure (s : List Nat) : Length := ⟨s.length, extentOf s⟩

def posAt (text : List Nat) (i : Nat) : Length := measure (text.take i)

theorem measure_nil : measure [] = length_zero := rfl

theorem measure_bytes (s : List Nat) : (measure s).bytes = s.length := rfl

theorem extentOf_eq_extent : ∀ s : List Nat, extentOf s = extent s
  | [] => rfl
  | b :: rest => by
    have hb : charExtent b = extent [b] := by
      unfold charExtent extent
      split <;> rfl
    rw [extentOf, extentOf_eq_extent rest, hb, ← extent_append]
    rfl

theorem measure_eq_lengthOf (s : List Nat) : measure s = lengthOf s := by
  simp [measure, lengthOf, extentOf_eq_extent]

theorem extentOf_append (a b : List Nat) : extentOf (a ++ b) = point_add (extentOf a) (extentOf b) := by
  rw [extentOf_eq_extent, extentOf_eq_extent, extentOf_eq_extent, extent_append]

theorem extentOf_snoc (a : List Nat) (b : Nat) :
    extentOf (a ++ [b]) = if b = 10 then ⟨(extentOf a).row + 1, 0⟩ else ⟨(extentOf a).row, (extentOf a).column + 1⟩ := by
  rw [extentOf_append]
  simp only [extentOf, charExtent]
  by_cases h : b = 10
  · simp [h, point_add, point__new]
  · simp [h, point_add, point__new]

theorem measure_append (a b : List Nat) : measure (a ++ b) = length_add (measure a) (measure b) := by
  rw [measure_eq_lengthOf, measure_eq_lengthOf, measure_eq_lengthOf, lengthOf_append]

mutual
  /-- `Yields t s`: the tree spells the byte string `s` — every leaf's padding and size are the
  measures of two consecutive pieces of text, inner nodes concatenate their children. -/
  inductive Yields : Tree → List Nat → Prop
    | leaf (d : NodeData) (p s : List Nat) : d.padding = measure p → d.size = measure s → Yields (.mk d []) (p ++ s)
    | node (d : NodeData) (c : Tree) (rest : List Tree) (s : List Nat) : YieldsL (c :: rest) s → Yields (.mk d (c :: rest)) s
  inductive YieldsL : List Tree → List Nat → Prop
    | nil : YieldsL [] []
    | cons (c : Tree) (rest : List Tree) (s1 s2 : List Nat) : Yields c s1 → YieldsL rest s2 → YieldsL (c :: rest) (s1 ++ s2)
end

theorem yields_leaf_iff (d : NodeData) (s : List Nat) :
    Yields (.mk d []) s ↔ ∃ p q, s = p ++ q ∧ d.padding = measure p ∧ d.size = measure q :=
  ⟨fun h => by cases h with | leaf _ p q hp hq => exact ⟨p, q, rfl, hp, hq⟩,
   fun ⟨p, q, hs, hp, hq⟩ => hs ▸ .leaf d p q hp hq⟩

theorem yields_node_iff (d : NodeData) (c : Tree) (rest : List Tree) (s : List Nat) :
    Yields (.mk d (c :: rest)) s ↔ YieldsL (c :: rest) s :=
  ⟨fun h => by cases h with | node _ _ _ _ hl => exact hl, .node d c rest s⟩

theorem yieldsL_cons_iff (c : Tree) (rest : List Tree) (s : List Nat) :
    YieldsL (c :: rest) s ↔ ∃ s1 s2, s = s1 ++ s2 ∧ Yields c s1 ∧ YieldsL rest s2 :=
  ⟨fun h => by cases h with | cons _ _ s1 s2 h1 h2 => exact ⟨s1, s2, rfl, h1, h2⟩,
   fun ⟨s1, s2, hs, h1, h2⟩ => hs ▸ .cons c rest s1 s2 h1 h2⟩

theorem yieldsL_append : ∀ (a b : List Tree) (s : List Nat),
    YieldsL (a ++ b) s ↔ ∃ s1 s2, s = s1 ++ s2 ∧ YieldsL a s1 ∧ YieldsL b s2
  | [], b, s => by
    constructor
    · intro h; exact ⟨[], s, rfl, .nil, h⟩
    · rintro ⟨s1, s2, hs, h1, h2⟩
      cases h1
      simpa [hs] using h2
  | c :: a, b, s => by
    constructor
    · intro h
      cases h with
      | cons _ _ s1 s2 hc hr =>
        obtain ⟨t1, t2, ht, ha, hb⟩ := (yieldsL_append a b s2).mp hr
        exact ⟨s1 ++ t1, t2, by simp [ht], .cons c a s1 t1 hc ha, hb⟩
    · rintro ⟨s1, s2, hs, h1, h2⟩
      cases h1 with
      | cons _ _ u1 u2 hc hr =>
        have := (yieldsL_append a b (u2 ++ s2)).mpr ⟨u2, s2, rfl, hr, h2⟩
        have h3 := YieldsL.cons c (a ++ b) u1 (u2 ++ s2) hc this
        simpa [hs, List.append_assoc] using h3

theorem yieldsL_single (t : Tree) (s : List Nat) : YieldsL [t] s ↔ Yields t s := by
  constructor
  · intro h
    cases h with
    | cons _ _ s1 s2 h1 h2 => cases h2; simpa using h1
  · intro h
    simpa using YieldsL.cons t [] s [] h .nil

mutual
  /-- Every node of the subtree laid out at `pos` has start and end positions (computed the way
  node.c computes them, by `length_add` along the path) equal to the byte offset together with the
  row/column obtained by counting newlines in `text` up to that offset. -/
  def AllAt (text : List Nat) : Tree → Length → Prop
    | .mk d kids, pos =>
      length_add pos d.padding = posAt text (pos.bytes + d.padding.bytes) ∧
      length_add (length_add pos d.padding) d.size = posAt text (pos.bytes + d.padding.bytes + d.size.bytes) ∧
      AllAtL text kids pos
  def AllAtL (text : List Nat) : List Tree → Length → Prop
    | [], _ => True
    | c :: rest, cur => AllAt text c cur ∧ AllAtL text rest (length_add cur c.totalSize)
end

theorem posAt_prefix (a b : List Nat) : posAt (a ++ b) a.length = measure a := by
  simp [posAt]

end TsVerif.C02
