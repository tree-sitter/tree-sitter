import TsVerif.C02.Props
/-!
# C02 — why 32 bits are enough (and needed) for the cached counts

The model computes `visible_child_count`, `named_child_count` and `visible_descendant_count` in `Nat`; the C struct
stores them in fixed-width fields.  `counts_fit`: in a summarized parser-shaped tree the three counts of EVERY node
are bounded by the number of raw nodes of its subtree (named ≤ visible children ≤ visible descendants < nodes), so a
field that holds every value below the number of nodes of the largest tree never wraps — 32 bits under the stated
assumption (`counts_fit_32`).  Nothing smaller is enough: the counts of a node are sums over its hidden children
(`summarize_counts`), a repetition of `n` items gives its top node `n` visible children, so a
16-bit field wraps for documents of 65 536 items (corpus/c02.txt has such documents).  The run-time side: `tsv-cunit_c02 widths` measures the real
fields, `TsVerif.C02.assumedBits` / `widthFails` judge them; corpus documents with ≥ 65 536 children are judged.
-/
namespace TsVerif.C02
open TsGen TsVerif

mutual
  theorem enum_le_desc (lang : Lang) : ∀ (t : Tree), (enumChildren lang t).length ≤ countDesc lang t
    | .mk d kids => by
      unfold enumChildren countDesc
      exact enumKids_le_desc lang d.productionId kids 0
  theorem enumKids_le_desc (lang : Lang) (pid : Nat) : ∀ (kids : List Tree) (si : Nat),
      (enumKids lang pid kids si).length ≤ countDescKids lang pid kids si
    | [], _ => by simp [enumKids, countDescKids]
    | c :: rest, si => by
      have h1 := enum_le_desc lang c
      have h2 := enumKids_le_desc lang pid rest (if c.data.extra then si else si + 1)
      rw [enumKids, countDescKids, List.length_append]
      by_cases hv : (c.data.visible || (if c.data.extra then 0 else lang.aliasAt pid si) != 0) = true
      · simp only [hv, ↓reduceIte, List.length_cons, List.length_nil]; omega
      · simp only [hv, Bool.false_eq_true, ↓reduceIte]; omega
end

mutual
  theorem desc_lt_size (lang : Lang) : ∀ (t : Tree), countDesc lang t < t.size
    | .mk d kids => by
      unfold countDesc Tree.size
      have := descKids_le_size lang d.productionId kids 0
      omega
  theorem descKids_le_size (lang : Lang) (pid : Nat) : ∀ (kids : List Tree) (si : Nat),
      countDescKids lang pid kids si ≤ Tree.sizeList kids
    | [], _ => by simp [countDescKids, Tree.sizeList]
    | c :: rest, si => by
      have h1 := desc_lt_size lang c
      have h2 := descKids_le_size lang pid rest (if c.data.extra then si else si + 1)
      rw [countDescKids, Tree.sizeList]
      by_cases hv : (c.data.visible || (if c.data.extra then 0 else lang.aliasAt pid si) != 0) = true
      · simp only [hv, ↓reduceIte]; omega
      · simp only [hv, Bool.false_eq_true, ↓reduceIte]; omega
end

theorem counts_fit (lang : Lang) (t : Tree) (ps : Option Nat) (hs : Summarized lang t) (hsh : shapeOK ps t = true) :
    t.data.namedChildCount ≤ t.data.visibleChildCount ∧ t.data.visibleChildCount ≤ t.data.visibleDescendantCount ∧
    t.data.visibleDescendantCount < t.size := by
  obtain ⟨h1, h2, h3⟩ := summarize_counts lang t ps hs hsh
  rw [h1, h2, h3]
  exact ⟨List.length_filter_le _ _, enum_le_desc lang t, desc_lt_size lang t⟩

/-- With fewer than 2³² nodes no count reaches 2³²: 32-bit fields hold the model's `Nat` values exactly. -/
theorem counts_fit_32 (lang : Lang) (t : Tree) (ps : Option Nat) (hs : Summarized lang t) (hsh : shapeOK ps t = true)
    (hn : t.size ≤ 2 ^ 32) :
    t.data.namedChildCount < 2 ^ 32 ∧ t.data.visibleChildCount < 2 ^ 32 ∧ t.data.visibleDescendantCount < 2 ^ 32 := by
  obtain ⟨a, b, c⟩ := counts_fit lang t ps hs hsh
  omega

/-- Non-vacuity: `demoTree` (4 visible children, two of them through a hidden child; 6 raw nodes). -/
example : demoTree.data.namedChildCount = 4 ∧ demoTree.data.visibleChildCount = 4 ∧
    demoTree.data.visibleDescendantCount = 4 ∧ demoTree.size = 6 := by decide +kernel

end TsVerif.C02
