import TsVerif.C02.Spec
import TsVerif.C09.Tie
/-!
# C02 — the lexer's positions ARE newline counting (towards `Yields`)

`rowcol_by_newlines` needs the hypothesis `Yields`: every leaf's padding and size are the measures (`measure`: byte
count + row/column by newline counting) of consecutive pieces of the text.  Leaves get their padding and size in
`ts_parser__lex` as differences of lexer positions (`token_start_position − start_position`,
`token_end_position − token_start_position`).  This file derives the lexer half of the hypothesis from the port of
`lexer.c` shared with C09 / C13 (`TsVerif.Lex`, tied to the C code by scripted runs of the real lexer).

The chain: a character the decoder accepts contains a newline byte iff it is the newline (`decode_charOK`), so
`ts_lexer__advance` keeps `current_position` = `measure` of the text before it (`advance_posOK`), so the differences of
two positions the lexer takes are the measures of the text between them (`token_measures`).
-/
namespace TsVerif.C02
open TsGen TsVerif TsVerif.Lex TsVerif.Utf TsVerif.C09


/-- What a decoded character `(cp, bytes consumed)` must satisfy for newline counting by code point to agree with
newline counting by byte. -/
def CharOK (cp : Int) (bs : List Nat) : Prop := (cp = 10 ∧ bs = [10]) ∨ (cp ≠ 10 ∧ ∀ b ∈ bs, b ≠ 10)

theorem lead_or_pos (k t : Nat) (h : k = 0 → 1 ≤ t % 64) : 1 ≤ (k <<< 6) ||| (t &&& 0x3f) := by
  by_cases hk : k = 0
  · rw [hk, Nat.zero_shiftLeft, Nat.zero_or, show (0x3f : Nat) = 2 ^ 6 - 1 from rfl, Nat.and_two_pow_sub_one_eq_mod]
    exact h hk
  · have h1 : k <<< 6 ≤ (k <<< 6) ||| (t &&& 0x3f) := Nat.left_le_or
    have h2 : k <<< 6 = k * 64 := Nat.shiftLeft_eq k 6
    omega

theorem lead2_pos : ∀ c < 224, 194 ≤ c → 1 ≤ c &&& 0x1f := by
  intro c _ _
  rw [show (0x1f : Nat) = 2 ^ 5 - 1 from rfl, Nat.and_two_pow_sub_one_eq_mod]
  omega

/- `U8_LEAD3_T1_BITS` admits after `E0` only `A0..BF` and otherwise only `80..BF` (`lead3_second`), so the second
byte is a trail byte and the code point is not an overlong zero; likewise `U8_LEAD4_T1_BITS` after `F0`. -/
theorem lead3_facts : ∀ c < 240, 224 ≤ c → ∀ t1 < 256,
    (lead3T1Bits.getD (c &&& 0xf) 0) &&& (1 <<< (t1 >>> 5)) ≠ 0 → 1 ≤ (((c &&& 0xf) <<< 6) ||| (t1 &&& 0x3f)) ∧ 128 ≤ t1 := by
  intro c _ _ t1 _ h
  obtain ⟨y, rfl, hy, h0, _⟩ := lead3_second (c &&& 0xf) t1 (Nat.and_lt_two_pow c (n := 4) (by omega)) h
  exact ⟨lead_or_pos _ _ (fun hk => by have := h0 hk; omega), by omega⟩

theorem lead4_facts : ∀ c < 245, 240 ≤ c → ∀ t1 < 256,
    (lead4T1Bits.getD (t1 >>> 4) 0) &&& (1 <<< (c - 0xf0)) ≠ 0 → 1 ≤ (((c - 0xf0) <<< 6) ||| (t1 &&& 0x3f)) ∧ 128 ≤ t1 := by
  intro c _ _ t1 _ h
  obtain ⟨y, rfl, hy, h0, _⟩ := lead4_second (c - 0xf0) t1 (by omega) h
  exact ⟨lead_or_pos _ _ (fun hk => by have := h0 hk; omega), by omega⟩

theorem charOK_byte (b : Nat) : CharOK (b : Int) [b] := by
  by_cases h : b = 10
  · exact .inl ⟨by rw [h]; rfl, by rw [h]⟩
  · exact .inr ⟨fun h0 => h (by exact_mod_cast h0), fun x hx => by rw [List.mem_singleton.mp hx]; exact h⟩

theorem charOK_high (c : Nat) (p : List Nat) (hc : 0x80 ≤ c) (hp : ∀ b ∈ p, 0x80 ≤ b) : CharOK (c : Int) p :=
  .inr ⟨fun h => by have : c = 10 := by exact_mod_cast h
                    omega, fun b hb h => by have := hp b hb; omega⟩

/-- A well-formed UTF-8 sequence of more than one byte has only bytes `≥ 0x80` and encodes a value `≥ 0x80`. -/
theorem wellFormed_charOK {p : List Nat} {c : Nat} (h : WellFormed p c) : CharOK (c : Int) p := by
  cases h with
  | one c _ => exact charOK_byte c
  | two x y h1 _ _ => exact charOK_high _ _ (by omega) (by simp; omega)
  | three x y z _ _ _ h0 _ => exact charOK_high _ _ (by omega) (by simp; omega)
  | four x y z w _ _ _ _ h0 _ => exact charOK_high _ _ (by omega) (by simp; omega)

theorem decode_prefix_charOK (text : List Nat) (pos : Nat) (q : List Nat) (hpre : q <+: text.drop pos)
    (hok : (decodeUtf8 q).1 ≠ DECODE_ERROR) : CharOK (decodeUtf8 q).1 ((text.drop pos).take (decodeUtf8 q).2) := by
  obtain ⟨p, c, hp, t, rfl⟩ := decodeUtf8_ok q hok
  obtain ⟨u, hu⟩ := hpre
  rw [decode_wellFormed hp t, ← hu, List.append_assoc, List.take_left' rfl]
  exact wellFormed_charOK hp

theorem decode_charOK (s : List Nat) (hb : ∀ b ∈ s, b < 256) (hc : (decodeUtf8 s).1 ≠ DECODE_ERROR) :
    CharOK (decodeUtf8 s).1 (s.take (decodeUtf8 s).2) :=
  decode_prefix_charOK s 0 s (List.prefix_refl s) hc

theorem decodeAt_charOK (text : List Nat) (read : Read) (hch : ChunkingOf text read) (hbt : ∀ b ∈ text, b < 256) (pos : Nat) (bytes : List Nat)
    (hne : bytes ≠ []) (hpre : bytes <+: text.drop pos) :
    CharOK (decodeAt read bytes pos).1 ((text.drop pos).take (decodeAt read bytes pos).2.1) := by
  obtain ⟨b0, brest, rfl⟩ := List.exists_cons_of_ne_nil hne
  have hpos : pos < text.length := by
    have := hpre.length_le
    rw [List.length_cons, List.length_drop] at this
    omega
  have htake1 : (text.drop pos).take 1 = [b0] := by
    obtain ⟨x, hx⟩ := hpre
    rw [← hx]; rfl
  -- an ill-formed character is its first byte, which is not ASCII
  have herr1 : ¬ b0 < 0x80 → CharOK DECODE_ERROR ((text.drop pos).take 1) := fun h => by
    rw [htake1]
    exact .inr ⟨by decide, fun b hb => by rw [List.mem_singleton.mp hb]; omega⟩
  rw [decodeAt_eq]
  simp only [List.headD_cons]
  by_cases h80 : b0 < 0x80
  · simp only [h80, if_true]
    rw [htake1]
    exact charOK_byte b0
  · simp only [h80, if_false]
    have key : ∀ q, q <+: text.drop pos →
        CharOK (norm (decodeUtf8 q)).1 ((text.drop pos).take (norm (decodeUtf8 q)).2) := by
      intro q hq
      by_cases he : (decodeUtf8 q).1 = DECODE_ERROR
      · rw [norm_err _ he]; exact herr1 h80
      · rw [norm_ok _ he]; exact decode_prefix_charOK text pos q hq he
    split
    · exact key _ (hch.1 pos hpos).2
    · exact key _ hpre


/-- `current_position` after consuming a character of `n` bytes with look-ahead `la` (`ts_lexer__do_advance`). -/
def stepPos (p : Length) (la : Int) (n : Nat) : Length :=
  ⟨p.bytes + n, if la == 10 then ⟨p.extent.row + 1, 0⟩ else ⟨p.extent.row, p.extent.column + n⟩⟩

theorem extentOf_nonl : ∀ (bs : List Nat), (∀ b ∈ bs, b ≠ 10) → extentOf bs = ⟨0, bs.length⟩
  | [], _ => rfl
  | b :: bs, h => by
    have hb : b ≠ 10 := h b (by simp)
    simp only [extentOf, charExtent, hb, if_false, extentOf_nonl bs (fun x hx => h x (by simp [hx])), point_add, point__new,
      List.length_cons]
    simp; omega

theorem stepPos_measure (pre bs : List Nat) (la : Int) (h : CharOK la bs) :
    stepPos (measure pre) la bs.length = measure (pre ++ bs) := by
  rcases h with ⟨h1, h2⟩ | ⟨h1, h2⟩
  · subst h1 h2
    simp only [stepPos, measure, List.length_append, List.length_singleton, beq_self_eq_true, if_true, extentOf_snoc]
  · have hla : (la == 10) = false := by simpa using h1
    simp only [stepPos, measure, hla, Bool.false_eq_true, if_false, List.length_append, extentOf_append, extentOf_nonl bs h2,
      point_add, point__new, Nat.lt_irrefl, if_false]

theorem doAdvance_refill_pos (read : Read) (l : Lexer) (skip : Bool) (h : Inv l) :
    ∃ l1 : Lexer, l.doAdvance read skip = l1.refill read ∧ l1.pos = stepPos l.pos l.lookahead l.laSize ∧
      l1.ranges = l.ranges ∧ l1.idx = 0 ∧ l1.chunkStart = l.chunkStart ∧ l1.chunk = l.chunk := by
  obtain ⟨l1, e, q1, q⟩ := doAdvance_refill_gen read l skip h
  refine ⟨l1, e, ?_, q⟩
  rw [q1, stepPos, ← (C13.posUpd_facts l h.size).1, ← C13.posUpd_extent l h.size]

theorem coreLook_charOK (text : List Nat) (read : Read) (hch : ChunkingOf text read) (hbt : ∀ b ∈ text, b < 256) (pos : Nat) (c : Cache)
    (hc : CacheOK text c) (hne : (coreLook read pos c).2.2.2 = false) :
    CharOK (coreLook read pos c).1 ((text.drop pos).take (coreLook read pos c).2.1) := by
  have hf := (fetch_facts text read hch pos c hc).2
  unfold coreLook at hne ⊢
  simp only at hne ⊢
  generalize fetch read pos c = c1 at hf hne ⊢
  by_cases he : c1.chunk.isEmpty = true
  · simp [he] at hne
  · have he' : c1.chunk.isEmpty = false := by simpa using he
    have hne1 : c1.chunk ≠ [] := by intro h; simp [h] at he'
    obtain ⟨_, hpre, h1, h2⟩ := hf hne1
    simp only [he', Bool.false_eq_true, if_false]
    obtain ⟨hb1, hb2⟩ := drop_prefix c1.chunk text c1.cs pos hpre h1 h2
    exact decodeAt_charOK text read hch hbt pos _ hb2 hb1

/-- The invariant: default included range; `current_position` is the measure of the text before it; unless the lexer
is at the end of input, the look-ahead is a character of the text at that position that contains a newline byte iff
it is the newline.  At the end of input the look-ahead is 0 and the chunk may be empty, so nothing is asked of them;
`hsmall : text.length < UMAX` in the lemmas below is the assumption "documents < 4 GiB" (it gives `Inv.small`). -/
structure LInv (text : List Nat) (l : Lexer) : Prop where
  ranges : l.ranges = #[DEFAULT_RANGE]
  posOK : l.pos = measure (text.take l.pos.bytes)
  inText : l.pos.bytes ≤ text.length
  live : l.eof = true ∨ (Inv l ∧ CacheOK text ⟨l.chunkStart, l.chunk⟩ ∧ l.pos.bytes + l.laSize ≤ text.length ∧
          CharOK l.lookahead ((text.drop l.pos.bytes).take l.laSize))

theorem refill_LInv (text : List Nat) (read : Read) (hch : ChunkingOf text read) (hbt : ∀ b ∈ text, b < 256) (hsmall : text.length < UMAX)
    (m : Lexer) (hr : m.ranges = #[DEFAULT_RANGE]) (hi : m.idx = 0) (hp : m.pos = measure (text.take m.pos.bytes))
    (hin : m.pos.bytes ≤ text.length) (hc : CacheOK text ⟨m.chunkStart, m.chunk⟩) : LInv text (m.refill read) := by
  have sp := refill_spec read m
  simp only at sp
  have hb : (m.refill read).pos.bytes = m.pos.bytes := by rw [sp.1]
  refine ⟨by rw [sp.2.1]; exact hr, by rw [hb, sp.1]; exact hp, by rw [hb]; exact hin, ?_⟩
  cases hrr : (coreLook read m.pos.bytes ⟨m.chunkStart, m.chunk⟩).2.2.2 with
  | true =>
    left
    have := (sp.2.2.1 hrr).1
    simp [Lexer.eof, this, Lexer.count, sp.2.1]
  | false =>
    right
    have hfacts := coreLook_facts text read hch m.pos.bytes ⟨m.chunkStart, m.chunk⟩ hc hrr
    simp only at hfacts
    obtain ⟨f1, f2, f3, f4, f5, f6⟩ := hfacts
    obtain ⟨g1, g2, g3, g4, g5⟩ := sp.2.2.2 hrr f1
    have hck := coreLook_charOK text read hch hbt m.pos.bytes ⟨m.chunkStart, m.chunk⟩ hc hrr
    simp only [← g2, ← g3, ← g4, ← g5] at f2 f3 f4 f5 f6 hck
    rw [← hb] at f3 f4 f6 hck
    exact ⟨⟨sp.2.1.trans hr, g1.trans hi, f5, f3, f4, by unfold UMAX at hsmall ⊢; omega⟩, .inr f2, f6, hck⟩

theorem advance_posOK (text : List Nat) (read : Read) (hch : ChunkingOf text read) (hbt : ∀ b ∈ text, b < 256)
    (hsmall : text.length < UMAX) (l : Lexer) (skip : Bool) (h : LInv text l) : LInv text (l.advance read skip) := by
  rcases h.live with heof | ⟨hinv, hcache, hin, hchar⟩
  · -- at the end of input `advance` does nothing
    have : l.advance read skip = l := by unfold Lexer.advance; simp [heof]
    rw [this]; exact h
  · have hne : l.chunk.isEmpty = false := by
      cases hq : l.chunk with
      | nil => have h1 := hinv.hi; have h2 := hinv.lo; rw [hq] at h1; simp at h1; omega
      | cons a b => rfl
    have hlen : ((text.drop l.pos.bytes).take l.laSize).length = l.laSize := by
      simp [List.length_take, List.length_drop]; omega
    have hstep : stepPos l.pos l.lookahead l.laSize = measure (text.take (l.pos.bytes + l.laSize)) := by
      have := stepPos_measure (text.take l.pos.bytes) _ l.lookahead hchar
      rw [hlen, ← h.posOK, ← List.take_add] at this
      exact this
    have gen : LInv text (l.doAdvance read skip) := by
      obtain ⟨l1, e, q0, q2, q3, q4, q5⟩ := doAdvance_refill_pos read l skip hinv
      have q1 : l1.pos.bytes = l.pos.bytes + l.laSize := by rw [q0]; rfl
      rw [e]
      exact refill_LInv text read hch hbt hsmall l1 (q2.trans hinv.ranges) q3 (by rw [q1, q0, hstep]) (by rw [q1]; exact hin)
        (by rw [q4, q5]; exact hcache)
    -- the ASCII fast path is `do_advance`, up to the column counter, which the invariant does not read
    obtain ⟨c, e, -⟩ := advance_eq_doAdvance read l skip hne hinv.not_eof hinv.lo
      (by simp [Lexer.range, hinv.ranges, hinv.idx, DEFAULT_RANGE, UMAX])
    rw [e]
    obtain ⟨g1, g2, g3, g4⟩ := gen
    exact ⟨g1, g2, g3, g4.imp id fun ⟨hi, hc, hn, hk⟩ => ⟨hi.congr rfl rfl rfl rfl rfl rfl, hc, hn, hk⟩⟩

theorem LInv_col (text : List Nat) (l : Lexer) (a : Bool) (b : Nat) (h : LInv text l) :
    LInv text { l with colValid := a, colValue := b } := by
  obtain ⟨h1, h2, h3, h4⟩ := h
  refine ⟨h1, h2, h3, ?_⟩
  rcases h4 with h4 | ⟨hi, hc, hn, hk⟩
  · left; simpa [Lexer.eof, Lexer.count] using h4
  · right
    exact ⟨⟨hi.ranges, hi.idx, hi.size, hi.lo, hi.hi, hi.small⟩, hc, hn, hk⟩

/-- `ts_lexer_set_input` + `ts_lexer_start` on a fresh lexer: the invariant holds (a leading byte order mark is
stepped over by `advance`, its three bytes counted as three columns). -/
theorem start_LInv (text : List Nat) (read : Read) (hch : ChunkingOf text read) (hbt : ∀ b ∈ text, b < 256) (hsmall : text.length < UMAX) :
    LInv text (({} : Lexer).setInput.start read) := by
  rw [start_eq]
  obtain ⟨f1, f2, f3, f4, f5, f6⟩ := l00_fields
  have h0 : LInv text (l00.refill read) :=
    refill_LInv text read hch hbt hsmall l00 f3 f2 (by rw [f1]; rfl) (by rw [f1]; simp [length_zero])
      (by left; exact f4)
  apply LInv_col
  split
  · exact advance_posOK text read hch hbt hsmall _ true h0
  · exact h0

theorem markEnd_LInv (text : List Nat) (l : Lexer) (h : LInv text l) : LInv text l.markEnd ∧ l.markEnd.tokEnd = l.pos ∧ l.markEnd.pos = l.pos := by
  have key : l.markEnd = { l with tokEnd := l.pos } := by
    unfold Lexer.markEnd
    by_cases he : l.eof = true
    · simp [he]
    · have he' : l.eof = false := by simpa using he
      have h0 : l.idx = 0 := by
        rcases h.live with h1 | ⟨hi, _⟩
        · rw [h1] at he'; cases he'
        · exact hi.idx
      have hc : (decide (l.idx > 0) && (l.pos.bytes == (l.range l.idx).start_byte)) = false := by simp [h0]
      simp only [he', Bool.not_false, if_true, hc, Bool.false_eq_true, if_false]
  rw [key]
  refine ⟨⟨h.ranges, h.posOK, h.inText, ?_⟩, rfl, rfl⟩
  rcases h.live with h1 | ⟨hi, hc, hn, hk⟩
  · left; simpa [Lexer.eof, Lexer.count] using h1
  · right; exact ⟨⟨hi.ranges, hi.idx, hi.size, hi.lo, hi.hi, hi.small⟩, hc, hn, hk⟩

/-- The states a lexer goes through while tokens are lexed from a fresh input (whole document included): start, then
any sequence of `advance` (either flag) and `mark_end`. -/
inductive Reach (read : Read) : Lexer → Prop
  | start : Reach read (({} : Lexer).setInput.start read)
  | advance (l : Lexer) (skip : Bool) : Reach read l → Reach read (l.advance read skip)
  | markEnd (l : Lexer) : Reach read l → Reach read l.markEnd

/-- In every reachable state `current_position` = (byte offset, row/column obtained
by counting newline bytes in the text before it). -/
theorem lexer_position_is_measure (text : List Nat) (read : Read) (hch : ChunkingOf text read) (hbt : ∀ b ∈ text, b < 256)
    (hsmall : text.length < UMAX) (l : Lexer) (hr : Reach read l) : LInv text l := by
  induction hr with
  | start => exact start_LInv text read hch hbt hsmall
  | advance l skip _ ih => exact advance_posOK text read hch hbt hsmall l skip ih
  | markEnd l _ ih => exact (markEnd_LInv text l ih).1


theorem length_sub_measure (x y : List Nat) : length_sub (measure (x ++ y)) (measure x) = measure y := by
  rw [measure_append, length_sub_add_cancel]

theorem token_measures (text : List Nat) (l1 l2 : Lexer) (h1 : LInv text l1) (h2 : LInv text l2) (hle : l1.pos.bytes ≤ l2.pos.bytes) :
    length_sub l2.pos l1.pos = measure ((text.drop l1.pos.bytes).take (l2.pos.bytes - l1.pos.bytes)) := by
  have p1 := h1.posOK
  have p2 := h2.posOK
  generalize l1.pos.bytes = a at hle p1 ⊢
  generalize l2.pos.bytes = b at hle p2 ⊢
  have e : text.take b = text.take a ++ (text.drop a).take (b - a) := by
    have : b = a + (b - a) := by omega
    conv => lhs; rw [this]
    exact List.take_add
  rw [p2, p1, e]
  exact length_sub_measure _ _

theorem drop_take_split (text : List Nat) (a b c : Nat) (h1 : a ≤ b) (h2 : b ≤ c) :
    (text.drop a).take (c - a) = (text.drop a).take (b - a) ++ (text.drop b).take (c - b) := by
  rw [show c - a = (b - a) + (c - b) by omega, List.take_add, List.drop_drop, show a + (b - a) = b by omega]

/-- A leaf whose padding and size are computed the way `ts_parser__lex` computes them from
three lexer positions — where lexing started, `token_start_position`, `token_end_position` — spells the piece of the
text between the first and the last: it satisfies `Yields`, the leaf hypothesis of `rowcol_by_newlines`. -/
theorem lexed_leaf_yields (text : List Nat) (d : NodeData) (l0 ls le : Lexer) (h0 : LInv text l0) (hs : LInv text ls) (he : LInv text le)
    (h1 : l0.pos.bytes ≤ ls.pos.bytes) (h2 : ls.pos.bytes ≤ le.pos.bytes)
    (hp : d.padding = length_sub ls.pos l0.pos) (hz : d.size = length_sub le.pos ls.pos) :
    Yields (.mk d []) ((text.drop l0.pos.bytes).take (le.pos.bytes - l0.pos.bytes)) := by
  rw [drop_take_split text _ _ _ h1 h2]
  exact Yields.leaf d _ _ (by rw [hp]; exact token_measures text l0 ls h0 hs h1) (by rw [hz]; exact token_measures text ls le hs he h2)

/-! ## Non-vacuity: the text `a\nb`, delivered in chunks of at most two bytes -/

def nvText : List Nat := [97, 10, 98]
def nvRead : Read := fun i => (nvText.drop i).take 2

theorem nvChunking : ChunkingOf nvText nvRead := by
  constructor
  · intro i hi
    have : i = 0 ∨ i = 1 ∨ i = 2 := by simp [nvText] at hi; omega
    rcases this with rfl | rfl | rfl <;> exact ⟨by decide, List.take_prefix _ _⟩
  · intro i hi
    simp only [nvText, List.length_cons, List.length_nil] at hi
    simp only [nvRead, nvText]
    rw [List.drop_eq_nil_of_le (by simp; omega)]
    rfl

example : ((((({} : Lexer).setInput.start nvRead).advance nvRead false).advance nvRead true).pos) = measure (nvText.take 2) := by decide +kernel
example := lexer_position_is_measure nvText nvRead nvChunking (by decide +kernel) (by decide +kernel) _
  (Reach.advance _ true (Reach.advance _ false Reach.start))

end TsVerif.C02
