import TsVerif.C02.LexLoopProps
import TsVerif.C02.BalanceSumm
import TsVerif.C02.WidthProps
import TsVerif.C02.ModelDriver
import TsVerif.C02.Assembly
#print axioms TsVerif.C02.summarize_padding_size
#print axioms TsVerif.C02.spans_nested
#print axioms TsVerif.C02.siblings_ordered
#print axioms TsVerif.C02.tiles
#print axioms TsVerif.C02.missing_empty
#print axioms TsVerif.C02.summarize_counts
#print axioms TsVerif.C02.cost_pos_iff
#print axioms TsVerif.C02.has_error_iff_partial
#print axioms TsVerif.C02.has_error_fixed_iff
#print axioms TsVerif.C02.has_error_full_false
#print axioms TsVerif.C02.extentOf_snoc
#print axioms TsVerif.C02.yields_total
#print axioms TsVerif.C02.rowcol_by_newlines
#print axioms TsVerif.C02.lex_skip_progress
#print axioms TsVerif.C02.lex_terminates
#print axioms TsVerif.C02.measure_eq_lengthOf
#print axioms TsVerif.C02.yields_cons
#print axioms TsVerif.C02.edit_preserves_summaries
#print axioms TsVerif.C02.edited_spans_nested
#print axioms TsVerif.C02.compress_leaves
#print axioms TsVerif.C02.balance_leaves
#print axioms TsVerif.C02.yields_iff_leaves
#print axioms TsVerif.C02.balance_yields
#print axioms TsVerif.C02.compress_yields
#print axioms TsVerif.C02.compressGo_sized
#print axioms TsVerif.C02.sized_same_leaves
#print axioms TsVerif.C02.compress_root_extent
#print axioms TsVerif.C02.balance_sized
#print axioms TsVerif.C02.balance_root_extent
#print axioms TsVerif.C02.nodeOK_summarize
#print axioms TsVerif.C02.compress_summarized
#print axioms TsVerif.C02.summarize_six_congr
#print axioms TsVerif.C02.nodeOK_congr
#print axioms TsVerif.C02.rotation_sums
#print axioms TsVerif.C02.compressGo_face
#print axioms TsVerif.C02.balanceNode_face
#print axioms TsVerif.C02.balance_summarized
#print axioms TsVerif.C02.enum_le_desc
#print axioms TsVerif.C02.desc_lt_size
#print axioms TsVerif.C02.counts_fit
#print axioms TsVerif.C02.counts_fit_32
#print axioms TsVerif.C02.decode_charOK
#print axioms TsVerif.C02.decodeAt_charOK
#print axioms TsVerif.C02.stepPos_measure
#print axioms TsVerif.C02.advance_posOK
#print axioms TsVerif.C02.start_LInv
#print axioms TsVerif.C02.lexer_position_is_measure
#print axioms TsVerif.C02.length_sub_measure
#print axioms TsVerif.C02.token_measures
#print axioms TsVerif.C02.lexed_leaf_yields
#print axioms TsVerif.C02.ModelDriver.pushReduced_leaves
#print axioms TsVerif.C02.ModelDriver.step_leaves
#print axioms TsVerif.C02.ModelDriver.run_leaves
#print axioms TsVerif.C02.ModelDriver.model_tree_tiles
#print axioms TsVerif.C02.ModelDriver.model_halts
#print axioms TsVerif.C02.ModelDriver.model_parse_halted
#print axioms TsVerif.C02.newNode_sized
#print axioms TsVerif.C02.newNode_yields
#print axioms TsVerif.C02.reduce_tiles
#print axioms TsVerif.C02.step_tiles
#print axioms TsVerif.C02.run_tiles
#print axioms TsVerif.C02.run_consumed
#print axioms TsVerif.C02.run_rowcol
#print axioms TsVerif.C02.run_root_rowcol
#print axioms TsVerif.C02.shiftLexed_ok
#print axioms TsVerif.C02.newLeaf_shift_ok
#print axioms TsVerif.C02.newMissingLeaf_shift_ok
#print axioms TsVerif.C02.newErrorLeaf_shift_ok
#print axioms TsVerif.C02.accept_tiles
#print axioms TsVerif.C02.parse_tiles
#print axioms TsVerif.C02.newLeaf_inline_symbol_lt
#print axioms TsVerif.C02.newLeaf_inline_symbol_survives_u8
#print axioms TsVerif.C02.newLeaf_wide_symbol_on_heap
#print axioms TsVerif.C02.newMissingLeaf_inline_symbol_lt
