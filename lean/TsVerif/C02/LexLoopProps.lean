import TsVerif.C02.LexLoop
/-!
# C02 — the local progress argument behind termination: the retry / error-skip loop of `ts_parser__lex`

The theorems of the first clause of the property (Props.lean, "parsing TERMINATES") about the hand port `LexLoop.lean`:
under `LexEnvOK` (a lexing attempt only moves forward and stays inside the text, skipping a character before EOF
consumes at least one byte) the loop returns within `len − start + 4` rounds.
-/
namespace TsVerif.C02

/-- The loop invariant while an error is being skipped. -/
def Skipping (E : LexEnv) (s : LexState) : Prop :=
  s.errorMode = true ∧ s.skippedError = true ∧ s.cur = s.errorEnd ∧ s.cur ≤ E.len

/-- One failed round in error mode, whether or not an error is already being skipped (`hc`: if one is, the lexer stands at
its end): the loop returns or `Skipping` holds afterwards, with the skipped text ending at or after the lexer's old position,
and strictly after its old end if there was one — the decrease `lexLoop_skipping_terminates` counts. -/
theorem lex_error_step (E : LexEnv) (hE : LexEnvOK E) (start : Nat) (s : LexState) (hm : s.errorMode = true)
    (hb : s.cur ≤ E.len) (hc : s.skippedError = true → s.cur = s.errorEnd) :
    match lexStep E start s with
    | .inr _ => True
    | .inl s' => Skipping E s' ∧ s.cur ≤ s'.errorEnd ∧ (s.skippedError = true → s.errorEnd < s'.errorEnd) := by
  have hf := hE.attempt_forward s.cur true
  have hbd := hE.attempt_bounded s.cur true hb
  have hst := hE.start_between s.cur true
  unfold lexStep
  rw [hm]
  by_cases hfound : (E.attempt s.cur true).1 = true
  · simp [hfound]
  · simp only [hfound, Bool.false_eq_true, if_false, Bool.not_true]
    -- `ee`: the end of the skipped text before this round
    generalize hee : (if s.skippedError = true then s.errorEnd else (E.attempt s.cur true).2.2) = ee
    have hee1 : s.cur ≤ ee ∧ ee ≤ (E.attempt s.cur true).2.1 ∧ (s.skippedError = true → ee = s.errorEnd) := by
      rw [← hee]
      split
      · rename_i h; exact ⟨Nat.le_of_eq (hc h), by rw [← hc h]; exact hf, fun _ => rfl⟩
      · rename_i h; exact ⟨hst.1, hst.2, fun h' => absurd h' h⟩
    by_cases heq : ((E.attempt s.cur true).2.1 == ee) = true
    · simp only [heq, if_true]
      by_cases heof : (E.attempt s.cur true).2.1 ≥ E.len
      · simp [heof]
      · simp only [heof, if_false]
        have hp := hE.advance_progress (E.attempt s.cur true).2.1 (by omega)
        refine ⟨⟨rfl, rfl, rfl, hp.2⟩, ?_, fun h => ?_⟩
        · show s.cur ≤ E.advance _; omega
        · show s.errorEnd < E.advance _; have := hee1.2.2 h; omega
    · simp only [heq, Bool.false_eq_true, if_false]
      have hne : (E.attempt s.cur true).2.1 ≠ ee := by simpa using heq
      refine ⟨⟨rfl, rfl, rfl, hbd⟩, hf, fun h => ?_⟩
      show s.errorEnd < (E.attempt s.cur true).2.1
      have := hee1.2.2 h; omega

/-- While an error is being skipped (`Skipping`: error mode, an error started,
the lexer standing at the end of the skipped text, inside the document) every iteration of the
loop of `ts_parser__lex` either returns (token found / ERROR at EOF) or re-establishes the
invariant with the end of the skipped text at least one byte further. -/
theorem lex_skip_progress (E : LexEnv) (hE : LexEnvOK E) (start : Nat) (s : LexState) (h : Skipping E s) :
    match lexStep E start s with
    | .inr _ => True
    | .inl s' => Skipping E s' ∧ s.errorEnd < s'.errorEnd := by
  have h1 := lex_error_step E hE start s h.1 h.2.2.2 fun _ => h.2.2.1
  cases hstep : lexStep E start s with
  | inr r => trivial
  | inl s' => rw [hstep] at h1; exact ⟨h1.1, h1.2.2 h.2.1⟩

theorem lex_skip_enter (E : LexEnv) (hE : LexEnvOK E) (start : Nat) (s : LexState)
    (hm : s.errorMode = true) (hs : s.skippedError = false) (hb : s.cur ≤ E.len) :
    match lexStep E start s with
    | .inr _ => True
    | .inl s' => Skipping E s' := by
  have h := lex_error_step E hE start s hm hb fun h => by rw [hs] at h; cases h
  cases hstep : lexStep E start s with
  | inr r => trivial
  | inl s' => rw [hstep] at h; exact h.1

theorem lexLoop_skipping_terminates (E : LexEnv) (hE : LexEnvOK E) (start : Nat) :
    ∀ (fuel : Nat) (s : LexState), Skipping E s → E.len - s.errorEnd < fuel → (lexLoop E start fuel s).isSome = true
  | 0, s, _, hf => by omega
  | fuel + 1, s, h, hf => by
    have hp := lex_skip_progress E hE start s h
    unfold lexLoop
    cases hstep : lexStep E start s with
    | inr r => rfl
    | inl s' =>
      rw [hstep] at hp
      have hle : s'.errorEnd ≤ E.len := by rw [← hp.1.2.2.1]; exact hp.1.2.2.2
      exact lexLoop_skipping_terminates E hE start fuel s' hp.1 (by omega)

/-- From the initial state (normal mode at `start ≤ len`) the loop of
`ts_parser__lex` returns after at most `len − start + 4` iterations, whatever the two lexers do,
as long as they only move forward within the document and skipping a character consumes ≥ 1 byte. -/
theorem lex_terminates (E : LexEnv) (hE : LexEnvOK E) (start : Nat) (hstart : start ≤ E.len) (errorMode : Bool) :
    (lexLoop E start (E.len - start + 4) { errorMode := errorMode, skippedError := false, cur := start }).isSome = true := by
  -- at most one round in normal mode, one round entering the skip, then `len − errorEnd + 1 ≤ len − start + 1` skipping rounds:
  -- `len − start + 3` in all; the statement allows one more
  have enter : ∀ (fuel : Nat), E.len - start + 2 ≤ fuel →
      (lexLoop E start (fuel + 1) { errorMode := true, skippedError := false, cur := start }).isSome = true := by
    intro fuel hfuel
    have he := lex_error_step E hE start { errorMode := true, skippedError := false, cur := start } rfl hstart nofun
    unfold lexLoop
    cases hstep : lexStep E start { errorMode := true, skippedError := false, cur := start } with
    | inr r => rfl
    | inl s' =>
      rw [hstep] at he
      exact lexLoop_skipping_terminates E hE start fuel s' he.1 (by have : start ≤ s'.errorEnd := he.2.1; omega)
  cases errorMode with
  | true => exact enter (E.len - start + 3) (by omega)
  | false =>
    -- a failed round in normal mode only switches to error mode
    unfold lexLoop lexStep
    by_cases hfound : (E.attempt start false).1 = true
    · simp [hfound]
    · simp only [hfound, Bool.false_eq_true, if_false, Bool.not_false, if_true]
      exact enter (E.len - start + 2) (by omega)

/-- Non-vacuity of `LexEnvOK`: a lexer that never finds a token and skips byte by byte. -/
example : LexEnvOK { len := 5, attempt := fun p _ => (false, p, p), advance := fun p => p + 1 } :=
  ⟨fun _ _ => Nat.le_refl _, fun _ _ h => h, fun _ _ => ⟨Nat.le_refl _, Nat.le_refl _⟩, fun p h => ⟨Nat.lt_succ_self p, h⟩⟩
example : lexLoop { len := 5, attempt := fun p _ => (false, p, p), advance := fun p => p + 1 } 2 (5 - 2 + 4)
    { errorMode := false, skippedError := false, cur := 2 } = some (.errorAtEof 2 5) := by decide +kernel

end TsVerif.C02
