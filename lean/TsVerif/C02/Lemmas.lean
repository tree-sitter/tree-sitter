import TsVerif.C02.Spec
/-!
# C02 — what the port of `ts_subtree_summarize_children` computes, in closed form

The layer between the port (`loop` / `summarize`, Model.lean) and the property theorems: every cached field the theorems
speak of as a plain sum over the children (`restSize`, `sumErr`, `sumSI`).
-/
namespace TsVerif.C02
open TsGen TsVerif

theorem length_add_assoc (a b c : Length) : length_add (length_add a b) c = length_add a (length_add b c) :=
  TsVerif.length_add_assoc a b c

theorem length_add_zero (a : Length) : length_add a length_zero = a := TsVerif.length_add_zero a

theorem loop_padding_size (lang : Lang) (sym pid : Nat) :
    ∀ (kids : List Tree) (i : Nat) (a : Acc), i ≠ 0 →
      (loop lang sym pid kids i a).padding = a.padding ∧
      (loop lang sym pid kids i a).size = restSize kids a.size
  | [], _, _, _ => by simp [loop, restSize]
  | c :: rest, i, a, hi => by
    have ih := loop_padding_size lang sym pid rest (i + 1) (step lang sym pid a i c) (by omega)
    simp only [loop, restSize]
    rw [ih.1, ih.2]
    simp [step, hi]

theorem loop_padding_size_first (lang : Lang) (sym pid : Nat) (c : Tree) (rest : List Tree) (a : Acc) :
    (loop lang sym pid (c :: rest) 0 a).padding = kidsPadding (c :: rest) ∧
    (loop lang sym pid (c :: rest) 0 a).size = kidsSize (c :: rest) := by
  have ih := loop_padding_size lang sym pid rest 1 (step lang sym pid a 0 c) (by omega)
  simp only [loop, kidsPadding, kidsSize]
  rw [ih.1, ih.2]
  simp [step]

theorem loop_sums (lang : Lang) (sym pid : Nat) :
    ∀ (kids : List Tree) (i : Nat) (a : Acc),
      (loop lang sym pid kids i a).errorCost = a.errorCost + sumErr sym kids ∧
      (loop lang sym pid kids i a).visibleChildCount =
        a.visibleChildCount + sumSI (fun si c => (childCounts lang pid si c).1) kids a.structuralIndex ∧
      (loop lang sym pid kids i a).namedChildCount =
        a.namedChildCount + sumSI (fun si c => (childCounts lang pid si c).2.1) kids a.structuralIndex ∧
      (loop lang sym pid kids i a).visibleDescendantCount =
        a.visibleDescendantCount + sumSI (fun si c => (childCounts lang pid si c).2.2) kids a.structuralIndex
  | [], _, _ => by simp [loop, sumErr, sumSI]
  | c :: rest, i, a => by
    have ih := loop_sums lang sym pid rest (i + 1) (step lang sym pid a i c)
    simp only [loop, sumErr, sumSI]
    rw [ih.1, ih.2.1, ih.2.2.1, ih.2.2.2]
    simp [step, Nat.add_assoc]

theorem restSize_bytes : ∀ (kids : List Tree) (s : Length), (restSize kids s).bytes = s.bytes + sumBytes kids
  | [], s => by simp [restSize, sumBytes]
  | c :: rest, s => by
    simp only [restSize, sumBytes]
    rw [restSize_bytes rest]
    simp [length_add_bytes, totalSize_bytes, Nat.add_assoc]

theorem restSize_shift : ∀ (ls : List Tree) (a s : Length), restSize ls (length_add a s) = length_add a (restSize ls s)
  | [], _, _ => rfl
  | c :: ls, a, s => by simp only [restSize]; rw [length_add_assoc, restSize_shift ls]

theorem restSize_append : ∀ (a b : List Tree) (s : Length), restSize (a ++ b) s = restSize b (restSize a s)
  | [], _, _ => rfl
  | c :: a, b, s => by simp only [List.cons_append, restSize]; exact restSize_append a b _

theorem layoutEnd_restSize (rest : List Tree) (x s : Length) :
    layoutEnd rest (length_add x s) = length_add x (restSize rest s) := by
  rw [layoutEnd_eq_restSize, restSize_shift]

theorem summarize_padding_size (lang : Lang) (init : Length) (d : NodeData) (c : Tree) (rest : List Tree) :
    (summarize lang init d (c :: rest)).padding = c.data.padding ∧
    (summarize lang init d (c :: rest)).size = restSize rest c.data.size :=
  loop_padding_size_first lang d.symbol d.productionId c rest { padding := d.padding, size := init }

mutual
  theorem sized_of_summarized (lang : Lang) : ∀ t : Tree, Summarized lang t → Sized t
    | .mk d [], _ => sized_leaf d
    | .mk d (c :: rest), h => by
      obtain ⟨hn, hk⟩ := (summarized_node ..).mp h
      have hs := summarize_padding_size lang length_zero d c rest
      exact (sized_node d c rest).mpr
        ⟨hn.padding.trans hs.1, hn.size.trans hs.2, (sizedL_cons _ _).mp (sizedL_of_summarizedL lang (c :: rest) hk)⟩
  theorem sizedL_of_summarizedL (lang : Lang) : ∀ ts : List Tree, SummarizedL lang ts → SizedL ts
    | [], _ => (sizedL_iff []).mpr nofun
    | c :: rest, h =>
      (sizedL_cons _ _).mpr ⟨sized_of_summarized lang c ((summarizedL_cons ..).mp h).1,
        sizedL_of_summarizedL lang rest ((summarizedL_cons ..).mp h).2⟩
end

theorem summarize_counts_eq (lang : Lang) (init : Length) (d : NodeData) (kids : List Tree) :
    (summarize lang init d kids).visibleChildCount = sumSI (fun si c => (childCounts lang d.productionId si c).1) kids 0 ∧
    (summarize lang init d kids).namedChildCount = sumSI (fun si c => (childCounts lang d.productionId si c).2.1) kids 0 ∧
    (summarize lang init d kids).visibleDescendantCount = sumSI (fun si c => (childCounts lang d.productionId si c).2.2) kids 0 := by
  have h := (loop_sums lang d.symbol d.productionId kids 0 { padding := d.padding, size := init }).2
  simp only [summarize]
  simpa using h

theorem summarize_errorCost_eq (lang : Lang) (init : Length) (d : NodeData) (kids : List Tree) :
    (summarize lang init d kids).errorCost =
      if isErrSym d.symbol then sumErr d.symbol kids + ts_subtree__error_extent_cost (summarize lang init d kids).size
      else sumErr d.symbol kids := by
  have h := (loop_sums lang d.symbol d.productionId kids 0 { padding := d.padding, size := init }).1
  simp only [summarize]
  rw [h]
  simp

theorem summarized_node_counts (lang : Lang) (d : NodeData) (kids : List Tree) (h : Summarized lang (.mk d kids)) :
    d.visibleChildCount = sumSI (fun si c => (childCounts lang d.productionId si c).1) kids 0 ∧
    d.namedChildCount = sumSI (fun si c => (childCounts lang d.productionId si c).2.1) kids 0 ∧
    d.visibleDescendantCount = sumSI (fun si c => (childCounts lang d.productionId si c).2.2) kids 0 := by
  cases kids with
  | nil => exact ((summarized_leaf ..).mp h).2
  | cons c rest =>
    have hn := ((summarized_node ..).mp h).1
    have hc := summarize_counts_eq lang length_zero d (c :: rest)
    exact ⟨hn.visibleChildCount.trans hc.1, hn.namedChildCount.trans hc.2.1, hn.visibleDescendantCount.trans hc.2.2⟩

theorem summarized_node_errorCost (lang : Lang) (d : NodeData) (kids : List Tree) (h : Summarized lang (.mk d kids)) :
    d.errorCost = if kids = [] then 0 else
      if isErrSym d.symbol then sumErr d.symbol kids + ts_subtree__error_extent_cost d.size else sumErr d.symbol kids := by
  cases kids with
  | nil => exact ((summarized_leaf ..).mp h).1
  | cons c rest =>
    have hn := ((summarized_node ..).mp h).1
    rw [if_neg (List.cons_ne_nil _ _), hn.errorCost, summarize_errorCost_eq, ← hn.size]

/-- With the `end` symbol always extra, "counted through the alias sequence" is "the alias entry is not 0". -/
theorem aliasedAt_eq (lang : Lang) (pid si : Nat) (c : Tree) (hend : c.data.symbol = 0 → c.data.extra = true) :
    aliasedAt lang pid si c = ((if c.data.extra then 0 else lang.aliasAt pid si) != 0) := by
  unfold aliasedAt
  cases hx : c.data.extra
  · have : c.data.symbol ≠ 0 := fun h => by rw [hend h] at hx; cases hx
    simp [this]
  · rfl

/-- The three counts one child contributes are the sizes of what enumeration finds for it. -/
theorem childCounts_spec (lang : Lang) (pid si : Nat) (c : Tree)
    (hend : c.data.symbol = 0 → c.data.extra = true)
    (ih : c.data.visibleChildCount = (enumChildren lang c).length ∧
          c.data.namedChildCount = ((enumChildren lang c).filter (entryNamed lang)).length ∧
          c.data.visibleDescendantCount = countDesc lang c) :
    (childCounts lang pid si c).1 =
      (if c.data.visible || (if c.data.extra then 0 else lang.aliasAt pid si) != 0
        then [(c, (if c.data.extra then 0 else lang.aliasAt pid si))] else enumChildren lang c).length ∧
    (childCounts lang pid si c).2.1 =
      ((if c.data.visible || (if c.data.extra then 0 else lang.aliasAt pid si) != 0
        then [(c, (if c.data.extra then 0 else lang.aliasAt pid si))] else enumChildren lang c).filter (entryNamed lang)).length ∧
    (childCounts lang pid si c).2.2 =
      (if c.data.visible || (if c.data.extra then 0 else lang.aliasAt pid si) != 0 then 1 else 0) + countDesc lang c := by
  unfold childCounts
  rw [aliasedAt_eq lang pid si c hend]
  generalize hal : (if c.data.extra then 0 else lang.aliasAt pid si) = al
  have hal' : al ≠ 0 → lang.aliasAt pid si = al := fun h => by
    rw [← hal]; split
    · rename_i hx; rw [if_pos hx] at hal; exact absurd hal.symm h
    · rfl
  by_cases ha : al = 0
  · subst ha
    cases hv : c.data.visible
    · obtain ⟨cd, ck⟩ := c
      cases ck with
      | nil =>
        simp [enumChildren, enumKids, Tree.kids, Tree.data]
        exact ih.2.2
      | cons k ks =>
        simp [Tree.kids, Tree.data]
        exact ih
    · cases hn : c.data.named <;> simp [entryNamed, hn, ih.2.2, Nat.add_comm]
  · have := hal' ha
    cases hn : (lang.symMeta al).named <;> simp [ha, this, entryNamed, hn, ih.2.2, Nat.add_comm]

theorem extent_cost_pos (s : Length) : ts_subtree__error_extent_cost s > 0 := by
  simp [ts_subtree__error_extent_cost, ERROR_COST_PER_RECOVERY]
  omega

end TsVerif.C02
