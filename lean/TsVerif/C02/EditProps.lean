import TsVerif.C02.Props
import TsVerif.C10.Props
/-!
# C02 — the tie to C10: containment and row/column for parsed trees, and "for every tree obtained after any edit history"

Imports C10's edit theorems (`TsVerif.C10`: port of `ts_subtree_edit`, `WFb` byte tiling, `Cons`
consistency with a text, `edits_consistent` for all finite histories) and ties C02's notions to
them, so that one text model and one checker serve both properties.
(The full cached summaries — counts, error cost — are untouched by `ts_subtree_edit`: C10's
`edit_shape`.)
-/
open TsGen TsVerif
namespace TsVerif.C02

theorem slice_mid (a b c : List Nat) : C10.slice (a ++ b ++ c) a.length (a.length + b.length) = b := by
  unfold C10.slice
  simp [List.append_assoc]

theorem sumBytes_eq_sumT : ∀ ks : List Tree, sumBytes ks = C10.sumT ks
  | [] => rfl
  | c :: rest => by simp [sumBytes, C10.tb, Tree.totalBytes, sumBytes_eq_sumT rest]

mutual
  theorem sized_wfb : ∀ t : Tree, Sized t → C10.WFb t
    | .mk d [], _ => C10.WFb.leaf d
    | .mk d (c :: rest), h => by
      obtain ⟨hp, hz, hc, hr⟩ := (sized_node d c rest).mp h
      refine C10.WFb.node d c rest (sized_wfb c hc) (sizedL_wfbL rest hr) (by rw [hp]) ?_
      · rw [hp, hz]
        simp only [restSize_bytes, C10.sumT_cons, C10.tb]
        have : sumBytes rest = C10.sumT rest := sumBytes_eq_sumT rest
        omega
  theorem sizedL_wfbL : ∀ ks : List Tree, SizedL ks → C10.WFbL ks
    | [], _ => C10.WFbL.nil
    | c :: rest, h =>
      C10.WFbL.cons c rest (sized_wfb c ((sizedL_cons _ _).mp h).1) (sizedL_wfbL rest ((sizedL_cons _ _).mp h).2)
end

theorem lenS_mid (a b c : List Nat) : C10.lenS (a ++ b ++ c) a.length (a.length + b.length) = lengthOf b := by
  unfold C10.lenS
  rw [slice_mid]

theorem nodeCons_of_split (pre p q post : List Nat) :
    C10.NodeCons (pre ++ (p ++ q) ++ post) pre.length (measure p) (measure q) := by
  refine C10.NodeCons.of (pre.length + p.length) (pre.length + p.length + q.length) ?_ ?_ (by omega) (by omega) (by simp; omega)
  · rw [measure_eq_lengthOf, show pre ++ (p ++ q) ++ post = pre ++ p ++ (q ++ post) by simp, lenS_mid]
  · rw [measure_eq_lengthOf, show pre ++ (p ++ q) ++ post = (pre ++ p) ++ q ++ post by simp, ← List.length_append, lenS_mid]

mutual
  /-- A `Sized` tree that spells the text (leaf paddings/sizes measure consecutive
  pieces) is consistent with the text in C10's sense: EVERY node stores the extents the text
  gives.  So C10's checker `consCheckAt` and C10's edit theorems apply to parsed trees. -/
  theorem yields_cons : ∀ (t : Tree) (s pre post : List Nat), Sized t → Yields t s →
      C10.Cons (pre ++ s ++ post) t pre.length
    | .mk d [], s, pre, post, hs, hy => by
      obtain ⟨p, q, rfl, hp, hq⟩ := yields_split _ s hs hy
      change d.padding = _ at hp
      change d.size = _ at hq
      simp only [C10.Cons, C10.ConsL, and_true]
      rw [hp, hq]
      exact nodeCons_of_split pre p q post
    | .mk d (c :: rest), s, pre, post, hs, hy => by
      have hk := yieldsL_cons (c :: rest) s pre post ((sized_mk ..).mp hs).2 ((yields_node_iff ..).mp hy)
      obtain ⟨p, q, rfl, hp, hq⟩ := yields_split _ s hs hy
      change d.padding = _ at hp
      change d.size = _ at hq
      simp only [C10.Cons]
      rw [hp, hq]
      exact ⟨nodeCons_of_split pre p q post, hk⟩
  theorem yieldsL_cons : ∀ (ks : List Tree) (s pre post : List Nat), SizedL ks → YieldsL ks s →
      C10.ConsL (pre ++ s ++ post) ks pre.length
    | [], _, _, _, _, _ => by simp [C10.ConsL]
    | c :: rest, s, pre, post, hs, hy => by
      obtain ⟨s1, s2, rfl, h1, h2⟩ := (yieldsL_cons_iff ..).mp hy
      obtain ⟨hsc, hsr⟩ := (sizedL_cons _ _).mp hs
      simp only [C10.ConsL]
      have hc := yields_cons c s1 pre (s2 ++ post) hsc h1
      have hr := yieldsL_cons rest s2 (pre ++ s1) post hsr h2
      have htb : C10.tb c = s1.length := by rw [← C10.totalSize_bytes, yields_total c s1 hsc h1]; rfl
      rw [htb, ← List.length_append, show pre ++ (s1 ++ s2) ++ post = pre ++ s1 ++ (s2 ++ post) by simp only [List.append_assoc]]
      exact ⟨hc, by rw [← List.append_assoc]; exact hr⟩
end

theorem posAt_eq_lenS (text : List Nat) (i : Nat) : posAt text i = C10.lenS text 0 i := by
  rw [posAt, measure_eq_lengthOf, C10.lenS_zero_eq_take]

def AtText (text : List Nat) (x : Length) : Prop := x = posAt text x.bytes

mutual
  theorem allAt_iff_pts (text : List Nat) : ∀ (t : Tree) (pos : Length),
      AllAt text t pos ↔ ∀ p ∈ C10.pts t pos, AtText text p.1 ∧ AtText text p.2
    | .mk d kids, pos => by
      rw [AllAt, C10.pts, List.forall_mem_cons, allAtL_iff_ptsL text kids pos]
      simp only [AtText, length_add_bytes, and_assoc]
  theorem allAtL_iff_ptsL (text : List Nat) : ∀ (kids : List Tree) (pos : Length),
      AllAtL text kids pos ↔ ∀ p ∈ C10.ptsL kids pos, AtText text p.1 ∧ AtText text p.2
    | [], _ => by simp [AllAtL, C10.ptsL]
    | c :: rest, pos => by
      rw [AllAtL, C10.ptsL, List.forall_mem_append, allAt_iff_pts text c pos, allAtL_iff_ptsL text rest _]
end

theorem atText_of_absOK {text : List Nat} {x : Length} (h : C10.AbsOK text x) : AtText text x := by
  rw [AtText, posAt_eq_lenS]; exact h.1

theorem allAt_of_cons (text : List Nat) (t : Tree) (A : Nat) (h : C10.Cons text t A) : AllAt text t (posAt text A) :=
  (allAt_iff_pts text t _).mpr fun p hp =>
    have := C10.pts_cons t text A _ h (posAt_eq_lenS text A) p hp
    ⟨atText_of_absOK this.1, atText_of_absOK this.2.1⟩

theorem allAtL_of_consL (text : List Nat) (ks : List Tree) (A : Nat) (h : C10.ConsL text ks A) :
    AllAtL text ks (posAt text A) :=
  (allAtL_iff_ptsL text ks _).mpr fun p hp =>
    have := C10.ptsL_cons ks text A _ h (posAt_eq_lenS text A) p hp
    ⟨atText_of_absOK this.1, atText_of_absOK this.2.1⟩

theorem posAt_pre (pre s post : List Nat) : posAt (pre ++ s ++ post) pre.length = measure pre := by
  rw [List.append_assoc]; exact posAt_prefix pre _

theorem rowcol_aux : ∀ (t : Tree) (s pre post text : List Nat) (pos : Length), Sized t → Yields t s →
    text = pre ++ s ++ post → pos = measure pre → AllAt text t pos := by
  intro t s pre post text pos hs hy ht hp
  rw [ht, hp, ← posAt_pre pre s post]
  exact allAt_of_cons _ t _ (yields_cons t s pre post hs hy)

theorem rowcolL_aux : ∀ (kids : List Tree) (s pre post text : List Nat) (pos : Length), SizedL kids → YieldsL kids s →
    text = pre ++ s ++ post → pos = measure pre → AllAtL text kids pos := by
  intro kids s pre post text pos hs hy ht hp
  rw [ht, hp, ← posAt_pre pre s post]
  exact allAtL_of_consL _ kids _ (yieldsL_cons kids s pre post hs hy)

/-- If the tree spells the text (`Yields root text`: each leaf's padding and
size are the measures of consecutive pieces of text) and inner nodes carry the summaries, then for
EVERY node — hidden ones included — the start and end positions obtained by adding relative
lengths along the path are exactly (byte offset, row/column counted by newlines in the text). -/
theorem rowcol_by_newlines (root : Tree) (text : List Nat) (hs : Sized root) (hy : Yields root text) :
    AllAt text root length_zero :=
  rowcol_aux root text [] [] text length_zero hs hy (List.append_nil _).symm rfl

/-- The "every tree obtained after any edit history" quantifier for
the structural clauses: start from a parsed tree (inner nodes summarized, leaves measuring the
text `T`); after ANY finite history of text edits that describe their text changes correctly
(`HistOK`, C10) the edited tree still tiles in bytes (`WFb`: every inner node's padding is its
first child's and padding+size is the sum of the children's totals — the byte content of the
summaries) and every node still stores the extents of the bytes it covers in the CURRENT text. -/
theorem edit_preserves_summaries (xs : List C10.TextEdit) (T : List Nat) (t : Tree)
    (hs : Sized t) (hy : Yields t T) (hx : C10.HistOK T xs) :
    C10.WFb (xs.foldl C10.applyEdit t) ∧ C10.Cons (xs.foldl C10.applyText T) (xs.foldl C10.applyEdit t) 0 := by
  have hc := yields_cons t T [] [] hs hy
  simp only [List.nil_append, List.append_nil, List.length_nil] at hc
  exact C10.edits_consistent xs T t (sized_wfb t hs) hc hx


mutual
  /-- The containment clause needs only the byte tiling: every tree with C10's `WFb` is nested. -/
  theorem wfb_nested : ∀ (t : Tree), C10.WFb t → ∀ pos : Nat, NestedAt t pos
    | .mk d [], _, pos => by unfold NestedAt KidsWithin; trivial
    | .mk d (c :: rest), h, pos => by
      cases h with
      | node _ _ _ hc hr hp hsum =>
        unfold NestedAt
        apply kids_within_wfb (c :: rest) pos _ _ (C10.WFbL.cons c rest hc hr)
        · simp only [kidsPadding]; omega
        · rw [sumBytes_eq_sumT]; omega
  theorem kids_within_wfb : ∀ (kids : List Tree) (cur lo hi : Nat), C10.WFbL kids →
      lo ≤ cur + (kidsPadding kids).bytes → cur + sumBytes kids ≤ hi → KidsWithin kids cur lo hi
    | [], _, _, _, _, _, _ => by unfold KidsWithin; trivial
    | c :: rest, cur, lo, hi, hs, hlo, hhi => by
      cases hs with
      | cons _ _ hc hr =>
        unfold KidsWithin
        simp only [sumBytes] at hhi
        simp only [kidsPadding] at hlo
        refine ⟨hlo, by omega, wfb_nested c hc cur, ?_⟩
        apply kids_within_wfb rest _ lo hi hr
        · simp only [Tree.totalBytes]; omega
        · omega
end

/-- For EVERY tree whose inner nodes have padding/size = what summarize computes,
at every position, every node's content lies inside its parent's content (relative sizes make
escaping the parent impossible). -/
theorem spans_nested : ∀ (t : Tree), Sized t → ∀ pos : Nat, NestedAt t pos :=
  fun t h => wfb_nested t (sized_wfb t h)

theorem kids_within : ∀ (kids : List Tree) (cur lo hi : Nat), SizedL kids →
    lo ≤ cur + (kidsPadding kids).bytes → cur + sumBytes kids ≤ hi → KidsWithin kids cur lo hi :=
  fun kids cur lo hi h => kids_within_wfb kids cur lo hi (sizedL_wfbL kids h)

theorem kidsWithin_of_bounds (nested : ∀ c : Tree, Sized c → ∀ pos, NestedAt c pos) :
    ∀ (kids : List Tree) (cur lo hi : Nat), SizedL kids → lo ≤ cur → cur + sumBytes kids ≤ hi →
      KidsWithin kids cur lo hi :=
  fun kids cur lo hi hs hlo hhi => kids_within kids cur lo hi hs (Nat.le_add_right_of_le hlo) hhi

/-- After any correct edit history every node of the edited tree still lies
inside its parent (and siblings stay ordered/disjoint by `siblings_ordered`, which needs nothing). -/
theorem edited_spans_nested (xs : List C10.TextEdit) (T : List Nat) (t : Tree)
    (hs : Sized t) (hy : Yields t T) (hx : C10.HistOK T xs) (pos : Nat) :
    NestedAt (xs.foldl C10.applyEdit t) pos :=
  wfb_nested _ (edit_preserves_summaries xs T t hs hy hx).1 pos

end TsVerif.C02
