import TsVerif.C02.Lemmas
import TsVerif.C02.Balance
/-!
C02: balancing never moves text.  For EVERY tree (no hypothesis): `ts_subtree_compress` and
`ts_parser__balance_subtree` keep the sequence of leaves (`compress_leaves`, `balance_leaves`), hence
the byte strings the tree spells (`balance_yields`, through `yields_iff_leaves`).  For every `Sized`
tree they keep `Sized` and the root's padding and size (`balance_sized`, `balance_root_extent`) —
although the driver loop does not summarize a parent again after rebalancing its children.
`ts_subtree_compress` keeps `Summarized` (`compress_summarized`; summarizing is idempotent,
`nodeOK_summarize`).
-/
open TsGen TsVerif
namespace TsVerif.C02

theorem resummarize_of_ne_nil (lang : Lang) (d : NodeData) {kids : List Tree} (h : kids ≠ []) :
    resummarize lang (.mk d kids) = .mk (summarize lang length_zero d kids) kids := by
  cases kids with
  | nil => exact absurd rfl h
  | cons c rest => rfl

theorem resummarize_kids (lang : Lang) (t : Tree) : (resummarize lang t).kids = t.kids := by
  obtain ⟨d, kids⟩ := t; cases kids <;> rfl

theorem resummarizeLast_ne_nil (lang : Lang) : ∀ (l : List Tree), l ≠ [] → resummarizeLast lang l ≠ []
  | [], h => absurd rfl h
  | [c], _ => by simp [resummarizeLast]
  | c :: c' :: rest, _ => by simp [resummarizeLast]

theorem resummarizeLast_forall (lang : Lang) {Q : Tree → Prop} (hQ : ∀ c, Q c → Q (resummarize lang c)) :
    ∀ l : List Tree, (∀ c ∈ l, Q c) → ∀ c ∈ resummarizeLast lang l, Q c
  | [], h => h
  | [c], h => by
    rw [resummarizeLast, List.forall_mem_cons]
    exact ⟨hQ c (h c List.mem_cons_self), nofun⟩
  | c :: c' :: rest, h => by
    show ∀ x ∈ c :: resummarizeLast lang (c' :: rest), Q x
    rw [List.forall_mem_cons]
    exact ⟨h c List.mem_cons_self, resummarizeLast_forall lang hQ (c' :: rest) fun x hx => h x (List.mem_cons_of_mem _ hx)⟩

theorem map_resummarizeLast (lang : Lang) {β : Type} (f : Tree → β) :
    ∀ l : List Tree, (∀ c ∈ l, f (resummarize lang c) = f c) → (resummarizeLast lang l).map f = l.map f
  | [], _ => rfl
  | [c], h => by rw [resummarizeLast, List.map_singleton, h c List.mem_cons_self, List.map_singleton]
  | c :: c' :: rest, h => by
    show (c :: resummarizeLast lang (c' :: rest)).map f = _
    rw [List.map_cons, List.map_cons, map_resummarizeLast lang f (c' :: rest) fun x hx => h x (List.mem_cons_of_mem _ hx)]

/-- `compressGo` relates a tree to itself, or — one rotation
`[[[front…, gp], cs…], ts…] ↦ [[front…, [gp, cs…]], ts…]` — to what the way back makes of the result `g2` of
continuing at the rotated grandchild: its last child, `g2` itself and the tree are summarized again. -/
theorem compressGo_induct (lang : Lang) (sym : Nat) {P : Tree → Tree → Prop} (stop : ∀ t, P t t)
    (rot : ∀ (d cd gd : NodeData) (front cs ts : List Tree) (gp g2 : Tree), cd.symbol = sym → gd.symbol = sym →
      P (resummarize lang (.mk gd (front ++ [resummarize lang (.mk cd (gp :: cs))]))) g2 →
      P (.mk d (.mk cd (.mk gd (front ++ [gp]) :: cs) :: ts))
        (resummarize lang (.mk d (resummarize lang (.mk g2.data (resummarizeLast lang g2.kids)) :: ts)))) :
    ∀ (i : Nat) (t : Tree), P t (compressGo lang sym i t)
  | 0, t => stop t
  | i + 1, .mk d kids => by
    unfold compressGo
    split
    · exact stop _
    · cases kids with
      | nil => exact stop _
      | cons c ts =>
        obtain ⟨cd, ckids⟩ := c
        simp only
        split
        · exact stop _
        · rename_i hc
          cases ckids with
          | nil => exact stop _
          | cons g cs =>
            obtain ⟨gd, gkids⟩ := g
            simp only
            split
            · exact stop _
            · rename_i hg
              cases hgl : gkids.getLast? with
              | none => exact stop _
              | some gp =>
                obtain ⟨front, rfl⟩ := List.getLast?_eq_some_iff.mp hgl
                simp only [Bool.or_eq_true, bne_iff_ne, ne_eq, not_or, Decidable.not_not] at hc hg
                simp only [List.dropLast_concat]
                exact rot d cd gd front cs ts gp _ hc.2 hg.2 (compressGo_induct lang sym stop rot i _)

/-- `Q` is inherited by the children of a tree, and a node that has `Q` keeps it when it is summarized again over other
children with `Q` (as long as it does not turn from a leaf into an inner node or back).  `ts_subtree_compress` only ever
summarizes a node that was there before, so the node's own data may be assumed to come from a tree with `Q`: that makes
conditions on fields which summarizing does not touch (`allSym`) instances beside `Sized` and `Summarized`.  The side
condition `kids₀ = [] ↔ kids = []` is there because `resummarize` leaves a childless node alone and a leaf and an inner
node owe different things (`LeafOK` / `NodeOK`). -/
structure Resum (lang : Lang) (Q : Tree → Prop) : Prop where
  kids : ∀ {d kids}, Q (.mk d kids) → ∀ c ∈ kids, Q c
  node : ∀ {d kids₀ kids}, Q (.mk d kids₀) → (kids₀ = [] ↔ kids = []) → (∀ c ∈ kids, Q c) → Q (resummarize lang (.mk d kids))

theorem Resum.self {lang : Lang} {Q : Tree → Prop} (hQ : Resum lang Q) {t : Tree} (h : Q t) : Q (resummarize lang t) := by
  obtain ⟨d, k⟩ := t
  exact hQ.node h Iff.rfl (hQ.kids h)

theorem Resum.rotate {lang : Lang} {Q : Tree → Prop} (hQ : Resum lang Q) {cd gd : NodeData} {front cs : List Tree} {gp : Tree}
    (h : Q (.mk cd (.mk gd (front ++ [gp]) :: cs))) :
    Q (resummarize lang (.mk gd (front ++ [resummarize lang (.mk cd (gp :: cs))]))) := by
  obtain ⟨hG, hcs⟩ := List.forall_mem_cons.mp (hQ.kids h)
  obtain ⟨hfront, hgp⟩ := List.forall_mem_append.mp (hQ.kids hG)
  have hC' := hQ.node (kids := gp :: cs) h (by simp) (List.forall_mem_cons.mpr ⟨hgp gp List.mem_cons_self, hcs⟩)
  exact hQ.node hG (by simp) (List.forall_mem_append.mpr ⟨hfront, List.forall_mem_cons.mpr ⟨hC', nofun⟩⟩)

theorem resummarizeLast_eq_nil (lang : Lang) (l : List Tree) : l = [] ↔ resummarizeLast lang l = [] :=
  ⟨fun h => by rw [h]; rfl, fun h => Classical.byContradiction fun hne => resummarizeLast_ne_nil lang l hne h⟩

/-- The way back of `ts_subtree_compress` at the first child: its last child, then the child itself. -/
theorem Resum.pop {lang : Lang} {Q : Tree → Prop} (hQ : Resum lang Q) {g : Tree} (h : Q g) :
    Q (resummarize lang (.mk g.data (resummarizeLast lang g.kids))) := by
  obtain ⟨d, k⟩ := g
  exact hQ.node h (resummarizeLast_eq_nil lang k) (resummarizeLast_forall lang (Q := Q) (fun c => hQ.self) k (hQ.kids h))

theorem Resum.compressGo {lang : Lang} {Q : Tree → Prop} (hQ : Resum lang Q) (sym : Nat) :
    ∀ (i : Nat) (t : Tree), Q t → Q (compressGo lang sym i t) := by
  refine compressGo_induct lang sym (P := fun t t' => Q t → Q t') (fun _ h => h) ?_
  intro d cd gd front cs ts gp g2 _ _ ih hT
  obtain ⟨hC, hts⟩ := List.forall_mem_cons.mp (hQ.kids hT)
  exact hQ.node hT (by simp) (List.forall_mem_cons.mpr ⟨hQ.pop (ih (hQ.rotate hC)), hts⟩)

theorem Resum.and {lang : Lang} {Q Q' : Tree → Prop} (hQ : Resum lang Q) (hQ' : Resum lang Q') :
    Resum lang fun t => Q t ∧ Q' t where
  kids h c hc := ⟨hQ.kids h.1 c hc, hQ'.kids h.2 c hc⟩
  node h e hk := ⟨hQ.node h.1 e fun c hc => (hk c hc).1, hQ'.node h.2 e fun c hc => (hk c hc).2⟩

theorem leaves_node (d : NodeData) (kids : List Tree) (h : kids ≠ []) : leaves (.mk d kids) = leavesL kids := by
  cases kids with
  | nil => exact absurd rfl h
  | cons c rest => rw [leaves]

theorem leavesL_nil : leavesL [] = [] := by rw [leavesL]

theorem leavesL_cons (c : Tree) (rest : List Tree) : leavesL (c :: rest) = leaves c ++ leavesL rest := by rw [leavesL]

theorem leavesL_eq_flatten : ∀ l : List Tree, leavesL l = (l.map leaves).flatten
  | [] => by rw [leavesL]; rfl
  | c :: rest => by rw [leavesL_cons, leavesL_eq_flatten rest]; rfl

theorem leavesL_append : ∀ (a b : List Tree), leavesL (a ++ b) = leavesL a ++ leavesL b := by
  intro a b
  simp only [leavesL_eq_flatten, List.map_append, List.flatten_append]

theorem leaves_data_irrel (d d' : NodeData) (kids : List Tree) (h : kids ≠ []) : leaves (.mk d kids) = leaves (.mk d' kids) := by
  rw [leaves_node d kids h, leaves_node d' kids h]

theorem leaves_resummarize (lang : Lang) (t : Tree) : leaves (resummarize lang t) = leaves t := by
  obtain ⟨d, kids⟩ := t
  cases kids with
  | nil => rfl
  | cons c rest => exact leaves_data_irrel _ _ _ (List.cons_ne_nil _ _)

theorem leaves_ne_nil : ∀ (t : Tree), leaves t ≠ []
  | .mk d [] => by simp [leaves]
  | .mk d (c :: rest) => by
    rw [leaves, leavesL_cons]
    exact fun h0 => leaves_ne_nil c (List.append_eq_nil_iff.mp h0).1

theorem leavesL_map (g : Tree → Tree) (l : List Tree) (hg : ∀ c ∈ l, leaves (g c) = leaves c) : leavesL (l.map g) = leavesL l := by
  rw [leavesL_eq_flatten, List.map_map, leavesL_eq_flatten]
  exact congrArg List.flatten (List.map_congr_left hg)

theorem leaves_map_kids (g : Tree → Tree) (d : NodeData) (kids : List Tree) (hg : ∀ c ∈ kids, leaves (g c) = leaves c) :
    leaves (.mk d (kids.map g)) = leaves (.mk d kids) := by
  cases kids with
  | nil => rfl
  | cons c rest => rw [leaves_node _ _ (List.cons_ne_nil _ _), ← leavesL_map g _ hg, List.map_cons, leaves_node _ _ (List.cons_ne_nil _ _)]

theorem leavesL_resummarizeLast (lang : Lang) (l : List Tree) : leavesL (resummarizeLast lang l) = leavesL l := by
  rw [leavesL_eq_flatten, map_resummarizeLast lang leaves l fun c _ => leaves_resummarize lang c, leavesL_eq_flatten]

theorem leaves_rotate (lang : Lang) (cd gd : NodeData) (front cs : List Tree) (gp : Tree) :
    leaves (resummarize lang (.mk gd (front ++ [resummarize lang (.mk cd (gp :: cs))]))) =
      leaves (.mk cd (.mk gd (front ++ [gp]) :: cs)) := by
  simp only [leaves_resummarize, leaves_node _ _ (List.cons_ne_nil _ _), leaves_node _ _ (List.append_ne_nil_of_right_ne_nil _ (List.cons_ne_nil _ _)),
    leavesL_append, leavesL_cons, leavesL_nil, List.append_assoc, List.append_nil]

/-- For every tree, every count and symbol, the rotations of
`ts_subtree_compress` keep the sequence of leaves (the same leaf nodes in the same order): no text
moves, nothing is lost or duplicated. -/
theorem compressGo_leaves (lang : Lang) (sym : Nat) : ∀ (i : Nat) (t : Tree), leaves (compressGo lang sym i t) = leaves t := by
  refine compressGo_induct lang sym (P := fun t t' => leaves t' = leaves t) (fun _ => rfl) ?_
  intro d cd gd front cs ts gp g2 _ _ ih
  have hpop : leaves (resummarize lang (.mk g2.data (resummarizeLast lang g2.kids))) = leaves g2 := by
    obtain ⟨g2d, g2k⟩ := g2
    rw [leaves_resummarize]
    cases g2k with
    | nil => rfl
    | cons a b =>
      rw [data_mk, kids_mk, leaves_node _ _ (resummarizeLast_ne_nil lang _ (List.cons_ne_nil _ _)), leaves_node _ _ (List.cons_ne_nil _ _)]
      exact leavesL_resummarizeLast lang (a :: b)
  rw [leaves_rotate] at ih
  simp only [leaves_resummarize, leaves_node _ _ (List.cons_ne_nil _ _), leavesL_cons, hpop, ih]

theorem compress_leaves (lang : Lang) (count : Nat) (t : Tree) : leaves (compress lang count t) = leaves t :=
  compressGo_leaves lang _ count t

theorem balanceL_eq_map (lang : Lang) (f : Nat) : ∀ l : List Tree, balanceL lang f l = l.map (balance lang f)
  | [] => by rw [balanceL]; rfl
  | c :: rest => by rw [balanceL, balanceL_eq_map lang f rest]; rfl

theorem balance_succ (lang : Lang) (f : Nat) (t : Tree) : balance lang (f + 1) t =
    if t.kids.isEmpty || t.data.refCount != 1 then t
    else .mk (balanceNode lang t).data ((balanceNode lang t).kids.map (balance lang f)) := by
  rw [balance]
  split
  · rfl
  · cases balanceNode lang t
    simp only [balanceL_eq_map, data_mk, kids_mk]

/-- `balanceNode` is the identity, or — when `compressesAt` — a sequence of `ts_subtree_compress` calls. -/
theorem balanceNode_induct (lang : Lang) (t : Tree) {Q : Tree → Prop} (h0 : Q t)
    (step : compressesAt t = true → ∀ i u, Q u → Q (compress lang i u)) : Q (balanceNode lang t) := by
  have fold : ∀ (l : List Nat) (u : Tree), compressesAt t = true → Q u → Q (l.foldl (fun acc i => compress lang i acc) u) := by
    intro l
    induction l with
    | nil => exact fun _ _ h => h
    | cons i l ih => exact fun u hc h => ih _ hc (step hc i u h)
  unfold balanceNode
  split
  next h1 =>
    split
    next c1 c2 hh hl =>
      split
      next h2 => exact fold _ t (by simp [compressesAt, h1, hh, hl, h2]) h0
      next => exact h0
    next => exact h0
  next => exact h0

theorem balanceNode_leaves (lang : Lang) (t : Tree) : leaves (balanceNode lang t) = leaves t :=
  balanceNode_induct lang t (Q := fun u => leaves u = leaves t) rfl fun _ i u h => by rw [compress_leaves, h]

theorem balance_leaves (lang : Lang) : ∀ (f : Nat) (t : Tree), leaves (balance lang f t) = leaves t
  | 0, t => by rw [balance]
  | f + 1, t => by
    rw [balance_succ]
    split
    · rfl
    · rw [← balanceNode_leaves lang t]
      cases balanceNode lang t with
      | mk d kids => exact leaves_map_kids _ d kids fun c _ => balance_leaves lang f c

theorem balanceL_leaves (lang : Lang) : ∀ (f : Nat) (l : List Tree), leavesL (balanceL lang f l) = leavesL l := by
  intro f l
  rw [balanceL_eq_map]
  exact leavesL_map _ l fun c _ => balance_leaves lang f c


mutual
  theorem yields_iff_leaves : ∀ (t : Tree) (s : List Nat), Yields t s ↔ YieldsL (leaves t) s
    | .mk d [], s => by
      rw [leaves, yieldsL_single]
    | .mk d (c :: rest), s => by
      rw [leaves, ← yieldsL_iff_leaves (c :: rest) s]
      exact ⟨fun h => by cases h with | node _ _ _ _ hl => exact hl, .node d c rest s⟩
  theorem yieldsL_iff_leaves : ∀ (l : List Tree) (s : List Nat), YieldsL l s ↔ YieldsL (leavesL l) s
    | [], s => by rw [leavesL]
    | c :: rest, s => by
      rw [leavesL_cons, yieldsL_append]
      constructor
      · intro h
        cases h with
        | cons _ _ s1 s2 hc hr =>
          exact ⟨s1, s2, rfl, (yields_iff_leaves c s1).mp hc, (yieldsL_iff_leaves rest s2).mp hr⟩
      · rintro ⟨s1, s2, hs, h1, h2⟩
        rw [hs]
        exact .cons c rest s1 s2 ((yields_iff_leaves c s1).mpr h1) ((yieldsL_iff_leaves rest s2).mpr h2)
end

/-- Balancing never moves text: the balanced tree spells exactly the byte
strings the unbalanced one spells (`Yields`: every leaf's padding and size measure its piece). -/
theorem balance_yields (lang : Lang) (f : Nat) (t : Tree) (s : List Nat) : Yields (balance lang f t) s ↔ Yields t s := by
  rw [yields_iff_leaves, yields_iff_leaves, balance_leaves]

theorem compress_yields (lang : Lang) (count : Nat) (t : Tree) (s : List Nat) : Yields (compress lang count t) s ↔ Yields t s := by
  rw [yields_iff_leaves, yields_iff_leaves, compress_leaves]


theorem sized_resummarize (lang : Lang) (d : NodeData) (kids : List Tree) (h : SizedL kids) :
    Sized (resummarize lang (.mk d kids)) := by
  cases kids with
  | nil => exact sized_leaf d
  | cons c rest => exact (sized_mk _ _).mpr ⟨fun _ => summarize_padding_size lang length_zero d c rest, h⟩

theorem sized_resum (lang : Lang) : Resum lang Sized where
  kids h := (sizedL_iff _).mp ((sized_mk _ _).mp h).2
  node _ _ hk := sized_resummarize lang _ _ ((sizedL_iff _).mpr hk)

theorem compressGo_sized (lang : Lang) (sym : Nat) : ∀ (i : Nat) (t : Tree), Sized t → Sized (compressGo lang sym i t) :=
  (sized_resum lang).compressGo sym

mutual
  theorem sized_root_by_leaves : ∀ (t : Tree), Sized t → ∀ (l : Tree) (ls : List Tree), leaves t = l :: ls →
      t.data.padding = l.data.padding ∧ t.data.size = restSize ls l.data.size
    | .mk d [], _, l, ls, hl => by
      simp only [leaves, List.cons.injEq] at hl
      obtain ⟨h1, h2⟩ := hl
      subst h1; subst h2
      exact ⟨rfl, rfl⟩
    | .mk d (c :: rest), h, l, ls, hl => by
      rw [sized_mk] at h
      have hp := h.1 (by simp)
      have hc := ((sizedL_cons _ _).mp h.2)
      simp only [leaves, leavesL] at hl
      cases hlc : leaves c with
      | nil => exact absurd hlc (leaves_ne_nil c)
      | cons l' lsc =>
        rw [hlc] at hl
        simp only [List.cons_append, List.cons.injEq] at hl
        obtain ⟨h1, h2⟩ := hl
        subst h1
        have ihc := sized_root_by_leaves c hc.1 l' lsc hlc
        simp only [kidsPadding, kidsSize] at hp
        show d.padding = l'.data.padding ∧ d.size = restSize ls l'.data.size
        refine ⟨by rw [hp.1]; exact ihc.1, ?_⟩
        rw [hp.2, ← h2, restSize_append, ← ihc.2]
        exact restSizeL_by_leaves rest hc.2 _
  theorem restSizeL_by_leaves : ∀ (l : List Tree), SizedL l → ∀ (s : Length), restSize l s = restSize (leavesL l) s
    | [], _, _ => rfl
    | c :: rest, h, s => by
      have hc := (sizedL_cons _ _).mp h
      simp only [restSize, leavesL]
      rw [restSize_append, ← restSizeL_by_leaves rest hc.2]
      congr 1
      cases hlc : leaves c with
      | nil => exact absurd hlc (leaves_ne_nil c)
      | cons l' lsc =>
        have ihc := sized_root_by_leaves c hc.1 l' lsc hlc
        simp only [restSize, Tree.totalSize]
        rw [ihc.1, ihc.2, ← length_add_assoc s, restSize_shift, length_add_assoc, restSize_shift]
end

theorem sized_same_leaves (t t' : Tree) (h : Sized t) (h' : Sized t') (hl : leaves t' = leaves t) :
    t'.data.padding = t.data.padding ∧ t'.data.size = t.data.size := by
  cases hlt : leaves t with
  | nil => exact absurd hlt (leaves_ne_nil t)
  | cons l ls =>
    have a := sized_root_by_leaves t h l ls hlt
    have b := sized_root_by_leaves t' h' l ls (by rw [hl, hlt])
    exact ⟨by rw [a.1, b.1], by rw [a.2, b.2]⟩

theorem compress_sized (lang : Lang) (count : Nat) (t : Tree) (h : Sized t) : Sized (compress lang count t) :=
  compressGo_sized lang _ count t h

theorem compress_root_extent (lang : Lang) (count : Nat) (t : Tree) (h : Sized t) :
    (compress lang count t).data.padding = t.data.padding ∧ (compress lang count t).data.size = t.data.size :=
  sized_same_leaves t _ h (compress_sized lang count t h) (compress_leaves lang count t)

theorem balanceNode_sized (lang : Lang) (t : Tree) (h : Sized t) : Sized (balanceNode lang t) :=
  balanceNode_induct lang t h fun _ i u hu => compress_sized lang i u hu

theorem kidsExtent_map (g : Tree → Tree) : ∀ (l : List Tree),
    (∀ c ∈ l, (g c).data.padding = c.data.padding ∧ (g c).data.size = c.data.size) →
    (∀ s, restSize (l.map g) s = restSize l s) ∧ kidsPadding (l.map g) = kidsPadding l ∧ kidsSize (l.map g) = kidsSize l
  | [], _ => ⟨fun _ => rfl, rfl, rfl⟩
  | c :: rest, h => by
    obtain ⟨hc, hr⟩ := List.forall_mem_cons.mp h
    have ih := (kidsExtent_map g rest hr).1
    refine ⟨fun s => ?_, hc.1, ?_⟩
    · simp only [List.map_cons, restSize, Tree.totalSize, hc.1, hc.2, ih]
    · simp only [List.map_cons, kidsSize, hc.2, ih]

/-- `ts_parser__balance_subtree` keeps `Sized`, although it does not summarize a
parent again after its children were rebalanced: each child keeps its padding and size. -/
theorem balance_sized (lang : Lang) : ∀ (f : Nat) (t : Tree), Sized t → Sized (balance lang f t)
  | 0, t, h => by rw [balance]; exact h
  | f + 1, t, h => by
    rw [balance_succ]
    split
    · exact h
    · have hb := balanceNode_sized lang t h
      generalize balanceNode lang t = u at hb ⊢
      obtain ⟨d, kids⟩ := u
      rw [sized_mk] at hb
      have hk := (sizedL_iff kids).mp hb.2
      have he := kidsExtent_map (balance lang f) kids fun c hc =>
        sized_same_leaves c _ (hk c hc) (balance_sized lang f c (hk c hc)) (balance_leaves lang f c)
      rw [data_mk, kids_mk, sized_mk, he.2.1, he.2.2, sizedL_iff]
      refine ⟨fun hne => hb.1 fun h0 => hne (by rw [h0]; rfl), ?_⟩
      intro c hc
      obtain ⟨c0, hc0, rfl⟩ := List.mem_map.mp hc
      exact balance_sized lang f c0 (hk c0 hc0)

theorem balance_root_extent (lang : Lang) (f : Nat) (t : Tree) (h : Sized t) :
    (balance lang f t).data.padding = t.data.padding ∧ (balance lang f t).data.size = t.data.size :=
  sized_same_leaves t _ h (balance_sized lang f t h) (balance_leaves lang f t)

theorem balanceL_sized (lang : Lang) : ∀ (f : Nat) (l : List Tree), SizedL l →
    SizedL (balanceL lang f l) ∧ ∀ s, restSize (balanceL lang f l) s = restSize l s := by
  intro f l h
  have hk := (sizedL_iff l).mp h
  rw [balanceL_eq_map, sizedL_iff]
  refine ⟨?_, (kidsExtent_map (balance lang f) l fun c hc => balance_root_extent lang f c (hk c hc)).1⟩
  intro c hc
  obtain ⟨c0, hc0, rfl⟩ := List.mem_map.mp hc
  exact balance_sized lang f c0 (hk c0 hc0)


/-- Summarizing is idempotent: a node that was just summarized satisfies `NodeOK`.  (The second run differs from the
first only in the padding it starts from, which iteration 0 of the loop overwrites: the fields are the same terms.) -/
theorem nodeOK_summarize (lang : Lang) (d : NodeData) (c : Tree) (rest : List Tree) :
    NodeOK lang (summarize lang length_zero d (c :: rest)) (c :: rest) :=
  ⟨rfl, rfl, rfl, rfl, rfl, rfl⟩

theorem summarized_resummarize (lang : Lang) (d : NodeData) (kids : List Tree) (h : SummarizedL lang kids)
    (hleaf : kids = [] → Summarized lang (.mk d [])) : Summarized lang (resummarize lang (.mk d kids)) := by
  cases kids with
  | nil => exact hleaf rfl
  | cons c rest => exact (summarized_node ..).mpr ⟨nodeOK_summarize lang d c rest, h⟩

theorem summarized_resum (lang : Lang) : Resum lang (Summarized lang) where
  kids h := (summarizedL_iff lang _).mp (summarized_kids h)
  node h e hk := summarized_resummarize lang _ _ ((summarizedL_iff lang _).mpr hk) fun h0 => by rwa [e.mpr h0] at h

/-- `ts_subtree_compress` turns a summarized tree (every inner node carries
the summaries of its children: sizes, error cost, visible / named child counts, descendant count) into
a summarized tree: every node whose children changed is summarized again after the last change. -/
theorem compressGo_summarized (lang : Lang) (sym : Nat) : ∀ (i : Nat) (t : Tree), Summarized lang t →
    Summarized lang (compressGo lang sym i t) :=
  (summarized_resum lang).compressGo sym

theorem compress_summarized (lang : Lang) (count : Nat) (t : Tree) (h : Summarized lang t) :
    Summarized lang (compress lang count t) := compressGo_summarized lang _ count t h

end TsVerif.C02
