import TsVerif.C13.Stream
import TsVerif.C13.Lemmas
import TsVerif.C09.Chunk
/-!
# C13 — lemmas for `stream_concat`

The invariant is `remC`, what is left of the concatenation at the lexer's document position: the range-skipping loop
leaves it as it is (`skipL_remC`), and under `FitRun` a character decoded from the unclipped document is the one decoded
from it and takes its own bytes off it (`stream_concat_core`).
-/
namespace TsVerif.C13
open TsGen TsVerif.Lex TsVerif.Utf TsVerif.C09

theorem slice_length (doc : List Nat) (a b : Nat) : (slice doc a b).length = min (b - a) (doc.length - a) := by
  simp [slice]

theorem slice_drop (doc : List Nat) (a b n : Nat) : (slice doc a b).drop n = slice doc (a + n) b := by
  unfold slice
  rw [List.drop_take, List.drop_drop]
  congr 1; omega

theorem slice_nil_of_le (doc : List Nat) (a b : Nat) (h : b ≤ a ∨ doc.length ≤ a) : slice doc a b = [] := by
  apply List.eq_nil_of_length_eq_zero
  rw [slice_length]; omega

theorem concatL_nil_of_beyond (doc : List Nat) : ∀ (rs : List TSRange) (lo : Nat), Ordered lo rs →
    doc.length ≤ lo → concatL doc rs = []
  | [], _, _, _ => rfl
  | r :: rest, lo, ⟨h1, h2, h3⟩, hl => by
    simp only [concatL]
    rw [slice_nil_of_le doc _ _ (Or.inr (by omega)), concatL_nil_of_beyond doc rest r.end_byte h3 (by omega)]
    rfl

theorem skipL_remC (doc : List Nat) : ∀ (rs : List TSRange) (pos : Length) (lo : Nat), Ordered lo rs →
    (∀ r rest, rs = r :: rest → r.start_byte ≤ pos.bytes) →
    remC doc rs pos.bytes = remC doc (rs.drop (skipL rs pos).1) (skipL rs pos).2.1.bytes ∧
    ((skipL rs pos).2.2 = true →
      ∃ r rest, rs.drop (skipL rs pos).1 = r :: rest ∧ r ∈ rs ∧ r.start_byte ≤ (skipL rs pos).2.1.bytes ∧
        (skipL rs pos).2.1.bytes < r.end_byte ∧ Ordered r.start_byte (r :: rest)) ∧
    ((skipL rs pos).2.2 = false → rs.drop (skipL rs pos).1 = [])
  := by
  intro rs pos
  fun_induction skipL rs pos <;> intro lo ho hp
  · exact ⟨rfl, nofun, fun _ => rfl⟩
  next cur pos hc =>
    have := hp cur [] rfl
    exact ⟨by simp only [remC, concatL, List.drop_succ_cons, List.drop_nil, List.append_nil]
              exact slice_nil_of_le doc _ _ (Or.inl (by have := ho.2.1; omega)), nofun, fun _ => rfl⟩
  next cur pos hc nxt rest ih =>
    have := hp cur _ rfl
    obtain ⟨ih1, ih2, ih3⟩ := ih cur.end_byte ho.2.2 (by intro r rest hr; cases hr; exact Nat.le_refl _)
    refine ⟨?_, fun hb => ?_, fun hb => ih3 hb⟩
    · rw [List.drop_succ_cons, ← ih1]
      simp only [remC, concatL, slice_nil_of_le doc _ _ (Or.inl (by have := ho.2.1; omega : cur.end_byte ≤ pos.bytes)),
        List.nil_append]
    · obtain ⟨r, rest2, e1, e2, e3, e4, e5⟩ := ih2 hb
      exact ⟨r, rest2, e1, List.mem_cons_of_mem _ e2, e3, e4, e5⟩
  next cur rest pos hc =>
    exact ⟨rfl, fun _ => ⟨cur, rest, rfl, List.mem_cons_self, hp cur rest rfl, (by omega : pos.bytes < cur.end_byte),
      Nat.le_refl _, ho.2.1, ho.2.2⟩, nofun⟩

theorem stream_concat_core (doc : List Nat) : ∀ (fuel : Nat) (rs : List TSRange) (pos lo : Nat),
    Ordered lo rs → (∀ r rest, rs = r :: rest → r.start_byte ≤ pos) → FitRun doc fuel rs pos →
    (rangedChars doc fuel rs pos).map (fun x => (x.2.1, x.2.2)) = refCharsS fuel (remC doc rs pos) ∧
    ∀ x ∈ rangedChars doc fuel rs pos, ∃ r ∈ rs, r.start_byte ≤ x.1 ∧ x.1 + x.2.2 ≤ r.end_byte ∧ x.1 + x.2.2 ≤ doc.length
  := by
  intro fuel rs pos
  fun_induction rangedChars doc fuel rs pos <;> intro lo ho hp hf
  · exact ⟨rfl, nofun⟩
  next fuel rs pos sk h =>
    obtain ⟨hrem, -, hout⟩ := skipL_remC doc rs ⟨pos, ⟨0, 0⟩⟩ lo ho hp
    rw [hrem, hout (by simpa using h)]
    exact ⟨rfl, nofun⟩
  next fuel rs pos sk h p hlen =>
    have hsk := skipL_remC doc rs ⟨pos, ⟨0, 0⟩⟩ lo ho hp
    rw [show skipL rs ⟨pos, ⟨0, 0⟩⟩ = sk from rfl] at hsk
    obtain ⟨hrem, hin, -⟩ := hsk
    obtain ⟨r, rest, hdrop, -, -, hs2, hord⟩ := hin (by simpa using h)
    rw [hrem, hdrop]
    have : remC doc (r :: rest) p = [] := by
      simp only [remC]
      rw [slice_nil_of_le doc _ _ (Or.inr hlen), concatL_nil_of_beyond doc rest r.end_byte hord.2.2 (by omega)]
      rfl
    rw [this]
    exact ⟨rfl, nofun⟩
  next fuel rs pos sk h p hlen d ih =>
    have hsk := skipL_remC doc rs ⟨pos, ⟨0, 0⟩⟩ lo ho hp
    rw [show skipL rs ⟨pos, ⟨0, 0⟩⟩ = sk from rfl] at hsk
    obtain ⟨hrem, hin, -⟩ := hsk
    have hb : sk.2.2 = true := by simpa using h
    obtain ⟨r, rest, hdrop, hmem, hs1, hs2, hord⟩ := hin hb
    rw [show sk.2.1.bytes = p from rfl] at hrem
    unfold FitRun at hf
    obtain ⟨hfit, hrun⟩ := hf hb (Nat.lt_of_not_le hlen) r (by rw [hdrop]; rfl)
    -- the bytes of the range from the position on; whatever follows them, the decoder's verdict is theirs
    have hpre_len := slice_length doc p r.end_byte
    have hpre_ne : slice doc p r.end_byte ≠ [] := by
      intro he; have := congrArg List.length he; rw [hpre_len] at this; simp at this; omega
    have hp2 : slice doc p r.end_byte <+: remC doc (r :: rest) p := List.prefix_append _ _
    have hd : ∀ t, slice doc p r.end_byte <+: t → decodeUtf8 t = decodeUtf8 (slice doc p r.end_byte) := fun t ht =>
      hfit.elim (decode_prefix_stable _ _ ht _ _ rfl) (decode_ge4 _ _ ht)
    have hsize := norm_le _ hpre_ne
    have hd1 : d = norm (decodeUtf8 (slice doc p r.end_byte)) := congrArg norm (hd _ (List.take_prefix _ _))
    rw [← hd1] at hsize
    have hremne : (remC doc (r :: rest) p).isEmpty = false :=
      List.isEmpty_eq_false_iff.2 fun h => hpre_ne (List.append_eq_nil_iff.1 h).1
    have hdropeq : (remC doc (r :: rest) p).drop d.2 = remC doc (r :: rest) (p + d.2) := by
      simp only [remC]
      rw [List.drop_append_of_le_length hsize, slice_drop]
    obtain ⟨ih1, ih2⟩ := ih r.start_byte (hdrop ▸ hord) (by rw [hdrop]; intro r' rest' hr; cases hr; omega) hrun
    rw [hdrop] at ih1 ih2
    refine ⟨?_, ?_⟩
    · unfold refCharsS
      rw [hrem, hdrop]
      simp only [hremne, Bool.false_eq_true, if_false, hd _ hp2, ← hd1, hdropeq, List.map_cons, ih1]
    · intro x hx
      rcases List.mem_cons.1 hx with rfl | hx
      · exact ⟨r, hmem, hs1, by simp only; rw [hpre_len] at hsize; omega, by simp only; rw [hpre_len] at hsize; omega⟩
      · rw [hdrop] at hx
        obtain ⟨r', hr', h1, h2, h3⟩ := ih2 x hx
        exact ⟨r', List.mem_of_mem_drop (hdrop ▸ hr'), h1, h2, h3⟩

theorem rangedChars_skip (doc : List Nat) (fuel : Nat) (rs : List TSRange) (b : Nat)
    (h : (skipL rs ⟨b, ⟨0, 0⟩⟩).2.2 = true) :
    rangedChars doc fuel rs b =
      rangedChars doc fuel (rs.drop (skipL rs ⟨b, ⟨0, 0⟩⟩).1) (skipL rs ⟨b, ⟨0, 0⟩⟩).2.1.bytes := by
  cases fuel with
  | zero => rfl
  | succ f =>
    obtain ⟨r, h1, h2, h3⟩ := skipL_stop rs _ h
    have hd : rs.drop (skipL rs ⟨b, ⟨0, 0⟩⟩).1 = r :: rs.drop ((skipL rs ⟨b, ⟨0, 0⟩⟩).1 + 1) := by
      obtain ⟨hlt, hr⟩ := List.getElem?_eq_some_iff.1 h1
      rw [List.drop_eq_getElem_cons hlt, hr]
    have hhere := skipL_here r (rs.drop ((skipL rs ⟨b, ⟨0, 0⟩⟩).1 + 1)) ⟨(skipL rs ⟨b, ⟨0, 0⟩⟩).2.1.bytes, ⟨0, 0⟩⟩ h2 h3
    conv => lhs; unfold rangedChars
    conv => rhs; unfold rangedChars
    simp only [h, hd, hhere, Bool.not_true, Bool.false_eq_true, if_false, List.drop_zero]

theorem rangedChars_done (doc : List Nat) (fuel : Nat) (rs : List TSRange) (b : Nat)
    (h : (skipL rs ⟨b, ⟨0, 0⟩⟩).2.2 = false) : rangedChars doc fuel rs b = [] := by
  fun_cases rangedChars doc fuel rs b
  · rfl
  · rfl
  · rfl
  next sk hb _ _ _ => exact absurd (by rw [show sk.2.2 = false from h]; rfl) hb

theorem rangedChars_beyond (doc : List Nat) (fuel : Nat) (rs : List TSRange) (b : Nat)
    (h : doc.length ≤ (skipL rs ⟨b, ⟨0, 0⟩⟩).2.1.bytes) : rangedChars doc fuel rs b = [] := by
  fun_cases rangedChars doc fuel rs b
  · rfl
  · rfl
  · rfl
  next hp _ => exact absurd h hp

theorem refChars_map (text : List Nat) : ∀ (fuel p : Nat),
    (refChars text fuel p).map (fun x => (x.2.1, x.2.2)) = refCharsS fuel (text.drop p)
  | 0, _ => by simp [refChars, refCharsS]
  | fuel + 1, p => by
    unfold refChars refCharsS
    by_cases h : p ≥ text.length
    · have : text.drop p = [] := List.drop_eq_nil_of_le h
      simp [h, this]
    · have hne : (text.drop p).isEmpty = false :=
        List.isEmpty_eq_false_iff.2 fun hq => h (List.drop_eq_nil_iff.1 hq)
      simp only [h, hne, if_false, Bool.false_eq_true, List.map_cons]
      rw [refChars_map text fuel, List.drop_drop]

/-- The Boolean check the driver evaluates implies the hypothesis of `stream_concat`. -/
theorem fitRunB_sound (doc : List Nat) : ∀ (fuel : Nat) (rs : List TSRange) (pos : Nat),
    fitRunB doc fuel rs pos = true → FitRun doc fuel rs pos
  | 0, _, _, _ => trivial
  | fuel + 1, rs, pos, h => by
    unfold fitRunB at h
    unfold FitRun
    simp only at h ⊢
    intro hb hl r hr
    simp only [hb, hl, decide_true, Bool.and_self, if_true, hr, Bool.and_eq_true, Bool.or_eq_true,
      bne_iff_ne, ne_eq, decide_eq_true_eq] at h
    exact ⟨h.1, fitRunB_sound doc fuel _ _ h.2⟩

end TsVerif.C13
