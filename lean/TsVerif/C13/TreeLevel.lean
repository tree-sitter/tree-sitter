import TsVerif.C13.Props
import TsVerif.C01.Skel
/-!
# C13 — from "same characters" to "same tree shape", for deterministic parsing

`stream_concat` (Props.lean) is a statement about the LEXER: over (document, ranges) it sees the
character sequence of the concatenation.  The property's main clause is about TREES.  What connects the
two is the shape of the parser: everything `ts_parser__lex` / `ts_lex` / a table-driven parse learn about the
text they learn through `lookahead`, `advance`, `eof` — i.e. from the observation sequence
`(code point or error, size)*` followed by the end — PROVIDED there is no error recovery (its costs count
skipped BYTES and ROWS, and a gap inside a skipped stretch changes them — the known finding
`C13-error-recovery`), no external scanner and no `get_column` (column-sensitive scanners see the gap's
columns — the `colsens` exclusion of the judge).  Under that reading:

* `driver_concat`: ANY deterministic driver that alternates "lex one token in the lex mode of the current
  parser state" and "advance the parser by that token" (C01's `runDriver`; positions are indices into the
  observation sequence) reaches the same parser state — hence builds the same tree — over (document, ranges)
  and over the concatenation.  This covers mode-dependent lexing interleaved with parsing.
* `tree_shape_concat`: for the deterministic LR machine with extras of C01 (`C01.LR`; `steps_skel`: the machine
  looks only at token symbols): two token lists whose SYMBOLS are the same function of the observation
  sequence — one with paddings/sizes in document coordinates, one in concatenation coordinates — drive the
  machine through the same states and build trees of the same shape (`LR.skel`: same symbols, same nesting,
  same leaf symbols; paddings and sizes forgotten).  With `stream_concat` the premise holds for the token list
  over (document, ranges) and the one over the concatenation.

Both are corollaries by congruence: their content is the modelling claim above (the parser is a function of
the observation sequence), which is NOT proved against the C code; on real runs it is the Lean judge
(`Judge.lean`: `cmpTree`, ψ) that decides "same shape, positions mapped back" per case, GLR and error
recovery included.  Positions: that a token's document span is the ψ-image of its concatenation span is
`seam_offset_preserved` (lexer level) and judged per node (tree level).
-/
namespace TsVerif.C13
open TsGen TsVerif.Lex TsVerif.C01

/-- What a lex function can observe of a text through the `TSLexer` interface. -/
abbrev CharStream := List (Int × Nat)

def obsRanged (doc : List Nat) (fuel : Nat) (rs : List TSRange) : CharStream :=
  match rs with
  | [] => []
  | r0 :: _ => (rangedChars doc fuel rs r0.start_byte).map fun x => (x.2.1, x.2.2)

def obsConcat (doc : List Nat) (fuel : Nat) (rs : List TSRange) : CharStream := refCharsS fuel (concatL doc rs)

theorem obs_eq (doc : List Nat) (r0 : TSRange) (rest : List TSRange) (fuel : Nat)
    (hv : validFrom 0 (r0 :: rest) = true) (hf : FitRun doc fuel (r0 :: rest) r0.start_byte) :
    obsRanged doc fuel (r0 :: rest) = obsConcat doc fuel (r0 :: rest) :=
  stream_concat doc r0 rest fuel hv hf

theorem driver_concat {σ μ : Type} (step : σ → Tok → σ) (mode : σ → μ) (lexOne : μ → CharStream → Tok)
    (doc : List Nat) (r0 : TSRange) (rest : List TSRange) (fuel : Nat)
    (hv : validFrom 0 (r0 :: rest) = true) (hf : FitRun doc fuel (r0 :: rest) r0.start_byte)
    (n : Nat) (s : σ) :
    runDriver step mode (fun m i => lexOne m ((obsRanged doc fuel (r0 :: rest)).drop i)) n s 0 =
    runDriver step mode (fun m i => lexOne m ((obsConcat doc fuel (r0 :: rest)).drop i)) n s 0 := by
  rw [obs_eq doc r0 rest fuel hv hf]

theorem map_skelTok (l : List Tok) : l.map LR.skelTok = (l.map (·.sym)).map fun s => ({ sym := s, pad := 0, size := 0, la := 0 } : Tok) := by
  rw [List.map_map]; rfl

theorem tree_shape_concat (T : LR.Table) (bottom k : Nat) (symbols : CharStream → List Nat)
    (doc : List Nat) (r0 : TSRange) (rest : List TSRange) (fuel : Nat)
    (hv : validFrom 0 (r0 :: rest) = true) (hf : FitRun doc fuel (r0 :: rest) r0.start_byte)
    (tokR tokC : List Tok)
    (hR : tokR.map (·.sym) = symbols (obsRanged doc fuel (r0 :: rest)))
    (hC : tokC.map (·.sym) = symbols (obsConcat doc fuel (r0 :: rest))) :
    (LR.steps T bottom k [] tokR).map LR.skelCfg = (LR.steps T bottom k [] tokC).map LR.skelCfg := by
  exact steps_same_symbols T bottom k [] tokR tokC
    (by rw [map_skelTok, map_skelTok, hR, hC, obs_eq doc r0 rest fuel hv hf])

/-- Non-vacuity: a document `ab⎵⎵cd` with ranges `[0,2) [4,6)`; the observation sequences are those of `abcd`. -/
example : obsRanged [97, 98, 32, 32, 99, 100] 8 [⟨⟨0,0⟩,⟨0,2⟩,0,2⟩, ⟨⟨0,4⟩,⟨0,6⟩,4,6⟩] = [(97,1),(98,1),(99,1),(100,1)] ∧
    obsConcat [97, 98, 32, 32, 99, 100] 8 [⟨⟨0,0⟩,⟨0,2⟩,0,2⟩, ⟨⟨0,4⟩,⟨0,6⟩,4,6⟩] = [(97,1),(98,1),(99,1),(100,1)] := by
  decide

end TsVerif.C13
