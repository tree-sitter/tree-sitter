import TsVerif.C13.Lemmas
import TsVerif.C09.Chunk
/-!
# The steps of the lexer port (`C13/Lexer.lean`) as equations

What C09 (chunking), C13 (included ranges) and C02 (positions) need of `Lexer.refill`, `Lexer.doAdvance` and
`Lexer.advance`: `refill` assigns what the chunk logic `C09.coreLook` computes and nothing else; `do_advance` is the position
update `posUpd` followed by `advTail` (range loop, `skip`, `refill` or EOF), and inside a range that includes text the loop
does nothing; the ASCII fast path of `advance` computes what `do_advance` computes; the `skip` flag only moves
`token_start_position`.
-/
namespace TsVerif.Lex
open TsGen TsVerif.Utf

theorem drop_idx (l : Lexer) (h : l.idx < l.ranges.size) :
    l.ranges.toList.drop l.idx = l.range l.idx :: l.ranges.toList.drop (l.idx + 1) := by
  have hlt : l.idx < l.ranges.toList.length := by simpa using h
  rw [List.drop_eq_getElem_cons hlt]
  congr 1
  unfold Lexer.range
  simp [Array.getD, h]

theorem range_of_drop (l : Lexer) (k : Nat) (r : TSRange) (h : (l.ranges.toList.drop l.idx)[k]? = some r) :
    l.idx + k < l.ranges.size ∧ l.range (l.idx + k) = r := by
  rw [List.getElem?_drop, Array.getElem?_toList] at h
  obtain ⟨hlt, hr⟩ := Array.getElem?_eq_some_iff.1 h
  exact ⟨hlt, by simp [Lexer.range, Array.getD, hlt, hr]⟩

/-- What `refill` writes, given what the chunk logic (`C09.coreLook`) computes from the offset and the cached chunk. -/
def Lexer.withLook (l : Lexer) (r : Int × Nat × C09.Cache × Bool) : Lexer :=
  { l with lookahead := r.1, laSize := r.2.1, chunkStart := r.2.2.1.cs, chunk := r.2.2.1.chunk,
           idx := if r.2.2.1.chunk.isEmpty then l.count else l.idx }

/-- The facts "field X survives `refill`" are `rw [refill_eq]` and `rfl`. -/
theorem refill_eq (read : Read) (l : Lexer) :
    l.refill read = l.withLook (C09.coreLook read l.pos.bytes ⟨l.chunkStart, l.chunk⟩) := by
  obtain ⟨ranges, idx, pos, ts, te, la, sz, cs, chunk, cv, cn, se⟩ := l
  unfold Lexer.refill C09.coreLook C09.fetch Lexer.withLook
  simp only
  -- split on "the position left the cached chunk", then on the shape of the chunk the retry fetched: `getChunk`'s test
  -- `isEmpty` and the `if … isEmpty` of `withLook` have to meet
  by_cases hc : pos.bytes < cs ∨ pos.bytes ≥ cs + chunk.length
  · have hc' : (decide (pos.bytes < cs) || decide (pos.bytes ≥ cs + chunk.length)) = true := by simpa using hc
    simp only [hc, hc', if_true]
    unfold Lexer.getChunk Lexer.getLookahead
    cases hrd : read pos.bytes with
    | nil => simp [Lexer.count]
    | cons a t =>
      simp only [List.isEmpty_cons, Bool.false_eq_true, if_false, Nat.sub_self, Nat.sub_zero, List.drop_zero,
        List.length_cons, Nat.add_one_ne_zero, beq_iff_eq]
      generalize decodeAt read (a :: t) pos.bytes = d
      obtain ⟨cp, n, nc⟩ := d
      rcases nc with _ | ⟨_ | ⟨x, y⟩⟩ <;> simp [Lexer.count]
  · have hc' : (decide (pos.bytes < cs) || decide (pos.bytes ≥ cs + chunk.length)) = false := by simpa using hc
    have hne : chunk.isEmpty = false := by
      cases chunk with
      | nil => simp at hc; omega
      | cons a b => rfl
    have hsz : (chunk.length - (pos.bytes - cs) == 0) = false := by simp; omega
    simp only [hc, hc', Bool.false_eq_true, if_false, hne]
    unfold Lexer.getLookahead
    simp only [hsz, Bool.false_eq_true, if_false]
    generalize decodeAt read (chunk.drop (pos.bytes - cs)) pos.bytes = d
    obtain ⟨cp, n, nc⟩ := d
    rcases nc with _ | ⟨_ | ⟨x, y⟩⟩ <;> simp [Lexer.count, hne]

theorem refill_ascii (read : Read) (m : Lexer) (h1 : m.chunkStart ≤ m.pos.bytes)
    (h2 : m.pos.bytes < m.chunkStart + m.chunk.length)
    (hb : m.chunk.getD (m.pos.bytes - m.chunkStart) 0 < 0x80) :
    m.refill read = { m with lookahead := (m.chunk.getD (m.pos.bytes - m.chunkStart) 0 : Nat), laSize := 1 } := by
  have hne : m.chunk.isEmpty = false := List.isEmpty_eq_false_iff.2 (List.ne_nil_of_length_pos (by omega))
  rw [refill_eq, C09.coreLook_ascii read _ _ _ h1 h2 hb]
  unfold Lexer.withLook
  simp only [hne, Bool.false_eq_true, if_false]

end TsVerif.Lex

namespace TsVerif.C13
open TsGen TsVerif.Lex

/-- The first step of `ts_lexer_goto` (dropping the column cache when the offset changes) touches nothing else.  The state
is handed out as a variable so that `goto_some` / `goto_none` can rewrite with it before unfolding the rest. -/
theorem goto_col (l : Lexer) (c : Prop) [Decidable c] :
    ∃ l1, (if c then ({ l with colValid := false, colValue := 0 } : Lexer) else l) = l1 ∧ l1.ranges = l.ranges ∧
      l1.chunk = l.chunk ∧ l1.chunkStart = l.chunkStart ∧ l1.skipEmpty = l.skipEmpty := by
  refine ⟨_, rfl, ?_⟩
  split <;> exact ⟨rfl, rfl, rfl, rfl⟩

theorem goto_some (l : Lexer) (position : Length) (i : Nat) (r : TSRange)
    (h : findRange l.ranges.toList 0 position.bytes = some (i, r)) :
    (l.goto position).idx = i ∧
    (l.goto position).pos.bytes = (if r.start_byte ≥ position.bytes then r.start_byte else position.bytes) ∧
    (l.goto position).ranges = l.ranges ∧ (l.goto position).laSize = 0 ∧
    (l.goto position).skipEmpty = l.skipEmpty ∧
    (l.chunk = [] → (l.goto position).chunk = [] ∧ (l.goto position).chunkStart = l.chunkStart) := by
  generalize hg : l.goto position = g
  unfold Lexer.goto at hg
  obtain ⟨l1, hl1, e1, e2, e3, e4⟩ := goto_col l ((position.bytes != l.pos.bytes) = true)
  simp only [hl1, e1, h] at hg
  subst hg
  by_cases c2 : r.start_byte ≥ position.bytes <;> simp only [c2, if_true, if_false] <;> split
  -- the cached chunk is dropped only if there is one
  case pos.isTrue c3 | neg.isTrue c3 =>
    exact ⟨rfl, rfl, rfl, trivial, e4, fun hc => absurd c3 (by simp [e2, hc])⟩
  all_goals exact ⟨rfl, rfl, rfl, trivial, e4, fun hc => ⟨e2.trans hc, e3⟩⟩

theorem goto_none (l : Lexer) (position : Length)
    (h : findRange l.ranges.toList 0 position.bytes = none) :
    (l.goto position).idx = l.ranges.size ∧ (l.goto position).ranges = l.ranges := by
  generalize hg : l.goto position = g
  unfold Lexer.goto at hg
  obtain ⟨l1, hl1, e1, -⟩ := goto_col l ((position.bytes != l.pos.bytes) = true)
  simp only [hl1, e1, h] at hg
  subst hg
  exact ⟨rfl, rfl⟩

theorem goto_ranges (l : Lexer) (p : Length) : (l.goto p).ranges = l.ranges := by
  cases h : findRange l.ranges.toList 0 p.bytes with
  | none => exact (goto_none l p h).2
  | some ir => exact (goto_some l p ir.1 ir.2 h).2.2.1

/-- The first part of `ts_lexer__do_advance`: move over the look-ahead character (row / column / column cache). -/
def posUpd (l : Lexer) : Lexer :=
  if l.laSize != 0 then
    let l :=
      if l.lookahead == 10 then
        { l with pos := { l.pos with extent := ⟨l.pos.extent.row + 1, 0⟩ }, colValid := true, colValue := 0 }
      else
        let isBom := l.pos.bytes == 0 && l.lookahead == BYTE_ORDER_MARK
        let l := if !isBom && l.colValid then { l with colValue := l.colValue + 1 } else l
        { l with pos := { l.pos with extent := ⟨l.pos.extent.row, l.pos.extent.column + l.laSize⟩ } }
    { l with pos := { l.pos with bytes := l.pos.bytes + l.laSize } }
  else l

/-- The rest of `ts_lexer__do_advance`: range-skipping loop, `skip`, re-fetch and decode or EOF. -/
def advTail (read : Read) (l : Lexer) (skip : Bool) : Lexer :=
  let (k, pos, inRange) := if l.skipEmpty then skipLF (l.ranges.toList.drop l.idx) l.pos else skipL (l.ranges.toList.drop l.idx) l.pos
  let l := { l with idx := l.idx + k, pos := pos }
  let l := if skip then { l with tokStart := l.pos } else l
  if inRange then l.refill read
  else
    let l := l.clearChunk
    { l with lookahead := 0, laSize := 1 }

theorem doAdvance_eq (read : Read) (l : Lexer) (skip : Bool) :
    l.doAdvance read skip = advTail read (posUpd l) skip := rfl

theorem posUpd_facts (l : Lexer) (hsz : 1 ≤ l.laSize) :
    (posUpd l).pos.bytes = l.pos.bytes + l.laSize ∧ (posUpd l).ranges = l.ranges ∧ (posUpd l).idx = l.idx ∧
    (posUpd l).chunkStart = l.chunkStart ∧ (posUpd l).chunk = l.chunk ∧ (posUpd l).skipEmpty = l.skipEmpty := by
  have h0 : (l.laSize != 0) = true := by simp; omega
  unfold posUpd
  simp only [h0, if_true]
  split
  · simp
  · split <;> simp

theorem posUpd_extent (l : Lexer) (hsz : 1 ≤ l.laSize) :
    (posUpd l).pos.extent =
      if l.lookahead == 10 then ⟨l.pos.extent.row + 1, 0⟩ else ⟨l.pos.extent.row, l.pos.extent.column + l.laSize⟩ := by
  have h0 : (l.laSize != 0) = true := by simp; omega
  unfold posUpd
  simp only [h0, if_true]
  split
  · rfl
  · split <;> rfl

theorem posUpd_one (l : Lexer) (h1 : l.laSize = 1) (h2 : l.lookahead ≠ 10) :
    ∃ c, posUpd l = { l with colValue := c, pos := ⟨l.pos.bytes + 1, ⟨l.pos.extent.row, l.pos.extent.column + 1⟩⟩ } ∧
      (¬(l.pos.bytes = 0 ∧ l.lookahead = BYTE_ORDER_MARK) → c = if l.colValid then l.colValue + 1 else l.colValue) := by
  obtain ⟨ranges, idx, pos, tokStart, tokEnd, lookahead, laSize, chunkStart, chunk, colValid, colValue, skipEmpty⟩ := l
  simp only at h1 h2 ⊢
  subst h1
  have h10 : (lookahead == 10) = false := by simpa using h2
  unfold posUpd
  have h0 : ((1 : Nat) != 0) = true := rfl
  simp only [h0, h10, Bool.false_eq_true, if_false, if_true]
  by_cases hb : (pos.bytes == 0 && lookahead == BYTE_ORDER_MARK) = true
  · refine ⟨colValue, ?_, fun hn => absurd (by simpa using hb) hn⟩
    simp only [hb, Bool.not_true, Bool.false_and, Bool.false_eq_true, if_false]
  · have hb' : (pos.bytes == 0 && lookahead == BYTE_ORDER_MARK) = false := by simpa using hb
    refine ⟨if colValid then colValue + 1 else colValue, ?_, fun _ => rfl⟩
    simp only [hb', Bool.not_false, Bool.true_and]
    cases colValid <;> rfl

attribute [local irreducible] Lexer.refill in
theorem advTail_here (read : Read) (m : Lexer) (skip : Bool) (hi : m.idx < m.ranges.size)
    (h1 : m.pos.bytes < (m.range m.idx).end_byte) (h2 : (m.range m.idx).end_byte ≠ (m.range m.idx).start_byte) :
    advTail read m skip = (if skip then { m with tokStart := m.pos } else m).refill read := by
  have hsk : (if m.skipEmpty = true then skipLF (m.ranges.toList.drop m.idx) m.pos
      else skipL (m.ranges.toList.drop m.idx) m.pos) = (0, m.pos, true) := by
    rw [drop_idx m hi, skipL_here _ _ _ h1 h2, skipLF_here _ _ _ h1 h2, ite_self]
  unfold advTail
  simp only [hsk]
  -- `refill` is kept folded (irreducible here): only its argument is compared
  cases skip <;> rfl

/-- `sk` is a variable with an equation so that the loop's result can be rewritten without unfolding `advTail` again
(`doAdvance_ranged` exchanges the extent of the position, `skipL_ext`). -/
theorem advTail_spec (read : Read) (m : Lexer) (hne : m.skipEmpty = false) (sk : Nat × Length × Bool)
    (hsk : skipL (m.ranges.toList.drop m.idx) m.pos = sk) :
    (sk.2.2 = true → advTail read m false = ({ m with idx := m.idx + sk.1, pos := sk.2.1 } : Lexer).refill read) ∧
    (sk.2.2 = false → (advTail read m false).idx = m.idx + sk.1 ∧ (advTail read m false).ranges = m.ranges) := by
  unfold advTail
  simp only [hne, hsk, Bool.false_eq_true, if_false]
  obtain ⟨k, p, b⟩ := sk
  constructor
  · intro hb
    simp only at hb
    simp [hb]
  · intro hb
    simp only at hb
    simp [hb, Lexer.clearChunk]

/-- The loop is started at extent `⟨0, 0⟩` because `rangedChars` starts it so; the extent does not influence it (`skipL_ext`). -/
theorem doAdvance_ranged (read : Read) (l : Lexer) (hsz : 1 ≤ l.laSize) (hne : l.skipEmpty = false) :
    ((skipL (l.ranges.toList.drop l.idx) ⟨l.pos.bytes + l.laSize, ⟨0, 0⟩⟩).2.2 = true →
      ∃ l1 : Lexer, l.doAdvance read false = l1.refill read ∧
        l1.pos.bytes = (skipL (l.ranges.toList.drop l.idx) ⟨l.pos.bytes + l.laSize, ⟨0, 0⟩⟩).2.1.bytes ∧
        l1.ranges = l.ranges ∧ l1.idx = l.idx + (skipL (l.ranges.toList.drop l.idx) ⟨l.pos.bytes + l.laSize, ⟨0, 0⟩⟩).1 ∧
        l1.chunkStart = l.chunkStart ∧ l1.chunk = l.chunk ∧ l1.skipEmpty = false) ∧
    ((skipL (l.ranges.toList.drop l.idx) ⟨l.pos.bytes + l.laSize, ⟨0, 0⟩⟩).2.2 = false →
      (l.doAdvance read false).idx = l.idx + (skipL (l.ranges.toList.drop l.idx) ⟨l.pos.bytes + l.laSize, ⟨0, 0⟩⟩).1 ∧
      (l.doAdvance read false).ranges = l.ranges) := by
  obtain ⟨p1, p2, p3, p4, p5, p6⟩ := posUpd_facts l hsz
  have sp := advTail_spec read (posUpd l) (p6.trans hne) _ rfl
  have ext := skipL_ext ((posUpd l).ranges.toList.drop (posUpd l).idx) (posUpd l).pos.bytes (posUpd l).pos.extent ⟨0, 0⟩
  rw [show (⟨(posUpd l).pos.bytes, (posUpd l).pos.extent⟩ : Length) = (posUpd l).pos from rfl, p1, p2, p3] at ext
  rw [p2, p3] at sp
  rw [doAdvance_eq, ← ext.1, ← ext.2.1, ← ext.2.2]
  exact ⟨fun hb => ⟨_, sp.1 hb, rfl, rfl, rfl, p4, p5, p6.trans hne⟩, sp.2⟩

theorem refill_skipEmpty (read : Read) (l : Lexer) : (l.refill read).skipEmpty = l.skipEmpty := by
  rw [refill_eq]
  rfl

end TsVerif.C13

namespace TsVerif.Lex
open TsGen TsVerif.Utf

/-- The ASCII fast path of `ts_lexer__advance` computes what `ts_lexer__do_advance` computes.  The one
exception is the column counter in the state "one-byte look-ahead that is the byte-order mark at offset 0" (the fast path
calls `ts_lexer__increment_column_data` unguarded, `do_advance` tests `is_bom`); a byte-order mark has three bytes, so no
run reaches that state, but it is why the statement has `∃ c`. -/
theorem advance_eq_doAdvance (read : Read) (l : Lexer) (skip : Bool)
    (hne : l.chunk.isEmpty = false) (he : l.eof = false) (hlo : l.chunkStart ≤ l.pos.bytes)
    (hr : (l.range l.idx).end_byte ≠ (l.range l.idx).start_byte) :
    ∃ c, l.advance read skip = { l.doAdvance read skip with colValue := c } ∧
      (¬(l.pos.bytes = 0 ∧ l.lookahead = BYTE_ORDER_MARK) → c = (l.doAdvance read skip).colValue) := by
  have hd : ∃ c, l.doAdvance read skip = { l.doAdvance read skip with colValue := c } ∧
      (¬(l.pos.bytes = 0 ∧ l.lookahead = BYTE_ORDER_MARK) → c = (l.doAdvance read skip).colValue) := by
    generalize l.doAdvance read skip = x
    exact ⟨x.colValue, rfl, fun _ => rfl⟩
  by_cases h2 : (l.laSize == 1 && l.lookahead != 10 && decide (l.pos.bytes + 1 < (l.range l.idx).end_byte) &&
      decide (l.pos.bytes + 1 < l.chunkStart + l.chunk.length)) = true
  · by_cases h3 : l.chunk.getD (l.pos.bytes + 1 - l.chunkStart) 0 < 0x80
    · simp only [Lexer.advance, hne, he, h2, h3, Bool.or_self, if_true, if_false, Bool.false_eq_true]
      simp only [Bool.and_eq_true, beq_iff_eq, bne_iff_ne, ne_eq, decide_eq_true_eq] at h2
      obtain ⟨⟨⟨f1, f2⟩, f3⟩, f4⟩ := h2
      -- past the last range `range idx` has `end_byte = 0`, so the fast path is taken inside the list only
      have hi : l.idx < l.ranges.size := by
        apply Decidable.byContradiction
        intro hn
        have h0 : (l.range l.idx).end_byte = 0 := by
          simp [Lexer.range, Array.getD, hn]
          rfl
        omega
      obtain ⟨c', hp, hc'⟩ := C13.posUpd_one l f1 f2
      rw [C13.doAdvance_eq, hp, C13.advTail_here read _ skip (by exact hi) (by exact f3) (by exact hr),
        refill_ascii read _ (by cases skip <;> exact Nat.le_succ_of_le hlo) (by cases skip <;> exact f4)
          (by cases skip <;> exact h3)]
      refine ⟨if l.colValid then l.colValue + 1 else l.colValue, ?_, fun hn => ?_⟩
      · obtain ⟨ranges, idx, pos, tokStart, tokEnd, lookahead, laSize, chunkStart, chunk, colValid, colValue, skipEmpty⟩ := l
        simp only at f1
        subst f1
        cases skip <;> cases colValid <;> rfl
      · rw [hc' hn]
        cases skip <;> rfl
    · have e : l.advance read skip = l.doAdvance read skip := by
        simp only [Lexer.advance, hne, he, h2, h3, Bool.or_self, if_true, if_false, Bool.false_eq_true]
      rw [e]
      exact hd
  · have e : l.advance read skip = l.doAdvance read skip := by
      simp only [Lexer.advance, hne, he, h2, Bool.or_self, if_false, Bool.false_eq_true]
    rw [e]
    exact hd

end TsVerif.Lex

namespace TsVerif.C09
open TsGen TsVerif.Lex

theorem refill_ts (read : Read) (l : Lexer) (t : Length) :
    ({ l with tokStart := t } : Lexer).refill read = { l.refill read with tokStart := t } := by
  rw [refill_eq, refill_eq]
  rfl

theorem clearChunk_ts (l : Lexer) (t : Length) :
    ({ l with tokStart := t } : Lexer).clearChunk = { l.clearChunk with tokStart := t } := rfl

attribute [local irreducible] Lexer.refill in
/-- The part of `do_advance` before the `skip` assignment does not look at `token_start_position`. -/
theorem doAdvance_skip (read : Read) (l : Lexer) :
    ∃ t, l.doAdvance read true = { l.doAdvance read false with tokStart := t } := by
  rw [C13.doAdvance_eq, C13.doAdvance_eq]
  unfold C13.advTail
  generalize C13.posUpd l = m
  generalize (if m.skipEmpty = true then skipLF (m.ranges.toList.drop m.idx) m.pos else skipL (m.ranges.toList.drop m.idx) m.pos) = r
  obtain ⟨k, pos, inr⟩ := r
  simp only [Bool.false_eq_true, if_false, if_true]
  cases inr with
  | true => simp only [if_true]; exact ⟨pos, refill_ts read { m with idx := m.idx + k, pos := pos } pos⟩
  | false => simp only [Bool.false_eq_true, if_false]; exact ⟨pos, rfl⟩

theorem advance_skip (read : Read) (l : Lexer) :
    ∃ t, l.advance read true = { l.advance read false with tokStart := t } := by
  by_cases h1 : (l.chunk.isEmpty || l.eof) = true
  · exact ⟨l.tokStart, by simp only [Lexer.advance, h1, if_true]⟩
  by_cases h2 : (l.laSize == 1 && l.lookahead != 10 && decide (l.pos.bytes + 1 < (l.range l.idx).end_byte) &&
      decide (l.pos.bytes + 1 < l.chunkStart + l.chunk.length)) = true
  · by_cases h3 : l.chunk.getD (l.pos.bytes + 1 - l.chunkStart) 0 < 0x80
    · simp only [Lexer.advance, h1, h2, h3, if_true, if_false, Bool.false_eq_true]
      exact ⟨_, rfl⟩
    · simp only [Lexer.advance, h1, h2, h3, if_true, if_false]
      exact doAdvance_skip read l
  · simp only [Lexer.advance, h1, h2]
    exact doAdvance_skip read l

end TsVerif.C09
