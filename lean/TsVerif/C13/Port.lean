import TsVerif.C13.Props
import TsVerif.C09.Props
/-!
# C13 — the full lexer port over an ARBITRARY range list produces `rangedChars`

`stream_concat` / `token_inside` (Props.lean) are about `rangedChars` (Stream.lean), the character logic of the port
over included ranges.  Here: the FULL port (`ts_lexer__advance` with its ASCII fast path, `ts_lexer__do_advance` with the
row/column/column-cache updates, the range-skipping `while` loop over the list that was set, the chunk re-fetch,
`ts_lexer__get_lookahead` with its retry, EOF by ranges or by the end of the input) produces exactly that sequence —
for EVERY range list (no validity, no character-boundary hypothesis), EVERY chunking of the document that satisfies
C09's `WholeChar` (in particular the one-chunk provider the driver uses), from every state in which the lexer stands
inside a range that includes text with a decoded look-ahead (`RInv`; what `ts_lexer_start` leaves behind).
-/
namespace TsVerif.C13
open TsGen TsVerif.Lex TsVerif.Utf TsVerif.C09

theorem coreLook_val (text : List Nat) (read : Read) (hch : ChunkingOf text read) (hw : WholeChar text read)
    (pos : Nat) (c : Cache) (hc : CacheOK text c) :
    ((coreLook read pos c).2.2.2 = true ↔ text.length ≤ pos) ∧
    ((coreLook read pos c).2.2.2 = false →
      ((coreLook read pos c).1, (coreLook read pos c).2.1) = norm (decodeUtf8 (text.drop pos))) :=
  coreLook_spec text read hch hw pos c hc

/-- The lexer stands inside a range that includes text, not in the repaired-variant mode, with the look-ahead decoded
from the text at its position and a cached chunk (a piece of the text) that covers the position.  C09's `Inv` is the
counterpart for the default range; it says nothing of the text and needs no `WholeChar`, so the two inductions
(`C09.lexChars_core`, `lexChars_eq_rangedChars`) are not instances of one another. -/
structure RInv (text : List Nat) (l : Lexer) : Prop where
  noFix : l.skipEmpty = false
  idx : l.idx < l.ranges.size
  inside : l.pos.bytes < (l.range l.idx).end_byte
  nonempty : (l.range l.idx).end_byte ≠ (l.range l.idx).start_byte
  lo : l.chunkStart ≤ l.pos.bytes
  hi : l.pos.bytes < l.chunkStart + l.chunk.length
  cache : l.chunk <+: text.drop l.chunkStart
  look : (l.lookahead, l.laSize) = norm (decodeUtf8 (text.drop l.pos.bytes))

theorem RInv.not_eof {text : List Nat} {l : Lexer} (h : RInv text l) : l.eof = false := by
  have := h.idx
  simp [Lexer.eof, Lexer.count]; omega

/-- Outcome of the range-skipping loop from the byte after the look-ahead character (extent irrelevant, `skipL_ext`). -/
def nextSk (l : Lexer) : Nat × Length × Bool :=
  skipL (l.ranges.toList.drop l.idx) ⟨l.pos.bytes + l.laSize, ⟨0, 0⟩⟩

/-- The resulting state is handed out as a variable: unifying through `refill` is slow. -/
theorem refill_RInv (text : List Nat) (read : Read) (hch : ChunkingOf text read) (hw : WholeChar text read)
    (x : Lexer) (hc : CacheOK text ⟨x.chunkStart, x.chunk⟩) (hn : x.skipEmpty = false) (hi : x.idx < x.ranges.size)
    (h1 : x.pos.bytes < (x.range x.idx).end_byte) (h2 : (x.range x.idx).end_byte ≠ (x.range x.idx).start_byte) :
    ∃ y, x.refill read = y ∧ (text.length ≤ x.pos.bytes → y.eof = true ∧ y.lookahead = 0) ∧
      (x.pos.bytes < text.length → RInv text y ∧ y.pos = x.pos ∧ y.ranges = x.ranges ∧ y.idx = x.idx) := by
  obtain ⟨p1, p2, p3, p4⟩ := refill_spec read x
  obtain ⟨cv1, cv2⟩ := coreLook_spec text read hch hw x.pos.bytes _ hc
  refine ⟨_, rfl, fun hlen => ?_, fun hlen => ?_⟩
  · exact ⟨by simp only [Lexer.eof, Lexer.count, (p3 (cv1.2 hlen)).1, p2, beq_self_eq_true], (p3 (cv1.2 hlen)).2.1⟩
  · have heof : (coreLook read x.pos.bytes ⟨x.chunkStart, x.chunk⟩).2.2.2 = false := by
      cases hq : (coreLook read x.pos.bytes ⟨x.chunkStart, x.chunk⟩).2.2.2 with
      | false => rfl
      | true => have := cv1.1 hq; omega
    obtain ⟨m1, m2, m3, m4, _, _⟩ := coreLook_facts text read hch _ _ hc heof
    obtain ⟨t1, t2, t3, t4, t5⟩ := p4 heof m1
    have hrange : (x.refill read).range (x.refill read).idx = x.range x.idx := by
      unfold Lexer.range; rw [p2, t1]
    exact ⟨{ noFix := by rw [refill_skipEmpty]; exact hn
             idx := by rw [p2, t1]; exact hi
             inside := by rw [hrange, p1]; exact h1
             nonempty := by rw [hrange]; exact h2
             lo := by rw [t4, p1]; exact m3
             hi := by rw [t4, t5, p1]; exact m4
             cache := by rw [t4, t5]; exact m2
             look := by rw [t2, t3, p1]; exact cv2 heof }, p1, p2, t1⟩

theorem RInv_col (text : List Nat) (x : Lexer) (h : RInv text x) (b : Bool) (v : Nat) :
    RInv text { x with colValid := b, colValue := v } :=
  ⟨h.noFix, h.idx, h.inside, h.nonempty, h.lo, h.hi, h.cache, h.look⟩

/-- The step of clause 1 for the full port: `RInv` again where the range loop stopped, or EOF. -/
theorem advance_step (text : List Nat) (read : Read) (hch : ChunkingOf text read) (hw : WholeChar text read)
    (l : Lexer) (h : RInv text l) :
    ((nextSk l).2.2 = false → (l.advance read false).eof = true) ∧
    ((nextSk l).2.2 = true → text.length ≤ (nextSk l).2.1.bytes → (l.advance read false).eof = true) ∧
    ((nextSk l).2.2 = true → (nextSk l).2.1.bytes < text.length →
      RInv text (l.advance read false) ∧ (l.advance read false).pos.bytes = (nextSk l).2.1.bytes ∧
      (l.advance read false).ranges = l.ranges ∧ (l.advance read false).idx = l.idx + (nextSk l).1) := by
  have hne : l.chunk.isEmpty = false :=
    List.isEmpty_eq_false_iff.2 (List.ne_nil_of_length_pos (by have := h.lo; have := h.hi; omega))
  -- the ASCII fast path is `do_advance` (up to the column counter, which `RInv` does not read)
  obtain ⟨c, e, -⟩ := advance_eq_doAdvance read l false hne h.not_eof h.lo h.nonempty
  have hsz : 1 ≤ l.laSize := by
    have := norm_size (text.drop l.pos.bytes); rw [← h.look] at this; exact this
  obtain ⟨d1, d2⟩ := doAdvance_ranged read l hsz h.noFix
  rw [e]
  unfold nextSk
  refine ⟨fun hb => ?_, imp_and.1 fun hb => ?_⟩
  · obtain ⟨i1, i2⟩ := d2 hb
    have hk := skipL_false _ _ hb
    have hi := h.idx
    simp only [Lexer.eof, Lexer.count, i1, i2, hk, beq_iff_eq, List.length_drop, Array.length_toList]
    omega
  · -- the range-skipping loop, then `refill` where it stopped
    obtain ⟨l1, e, q1, q2, q3, q4, q5, q6⟩ := d1 hb
    obtain ⟨r, g1, g2, g3⟩ := skipL_stop _ _ hb
    obtain ⟨g4, g5⟩ := range_of_drop l _ r g1
    have hrange : l1.range l1.idx = r := by unfold Lexer.range at g5 ⊢; rw [q2, q3]; exact g5
    obtain ⟨y, hy, s1, s2⟩ := refill_RInv text read hch hw l1 (by rw [q4, q5]; exact Or.inr h.cache) q6
      (by rw [q2, q3]; exact g4) (by rw [hrange, q1]; exact g2) (by rw [hrange]; exact g3)
    rw [e, hy, ← q1]
    refine ⟨fun hlen => (s1 hlen).1, fun hlen => ?_⟩
    obtain ⟨inv, r1, r2, r3⟩ := s2 hlen
    exact ⟨RInv_col text y inv y.colValid c, by rw [← r1], r2.trans q2, r3.trans q3⟩

/-- For every text, every chunking of it satisfying `WholeChar`, EVERY range list (valid or
not, boundaries anywhere) and every lexer state standing inside a range that includes text with a decoded look-ahead
(`RInv`), the `(offset, look-ahead, size)` sequence that the FULL port produces by repeated `ts_lexer__advance`
(ASCII fast path, `do_advance` with row/column/column-cache updates, the range-skipping loop, chunk re-fetch,
`get_lookahead` with retry, EOF by ranges or by end of input) is `rangedChars` — the sequence `stream_concat` and
`token_inside` are about — over the ranges from the current one on. -/
theorem lexChars_eq_rangedChars (text : List Nat) (read : Read) (hch : ChunkingOf text read) (hw : WholeChar text read) :
    ∀ (fuel : Nat) (l : Lexer), RInv text l →
      lexChars read fuel l = rangedChars text fuel (l.ranges.toList.drop l.idx) l.pos.bytes := by
  intro fuel
  induction fuel with
  | zero => intro l _; rfl
  | succ f ih =>
    intro l h
    have hlen : l.pos.bytes < text.length := by
      have hpl := prefix_drop_len h.cache
      have := h.hi; have := h.lo; omega
    -- under `RInv` the loop at the current position does nothing, so both sides emit `(pos, look-ahead, size)`; the three
    -- cases of `advance_step` are then `rangedChars_done`, `_beyond`, `_skip`
    have hhere : skipL (l.ranges.toList.drop l.idx) ⟨l.pos.bytes, ⟨0, 0⟩⟩ = (0, ⟨l.pos.bytes, ⟨0, 0⟩⟩, true) := by
      rw [drop_idx l h.idx]; exact skipL_here _ _ _ h.inside h.nonempty
    have hl1 : (norm (decodeUtf8 (text.drop l.pos.bytes))).1 = l.lookahead := by rw [← h.look]
    have hl2 : (norm (decodeUtf8 (text.drop l.pos.bytes))).2 = l.laSize := by rw [← h.look]
    have hnl : ¬ text.length ≤ l.pos.bytes := by omega
    conv => rhs; unfold rangedChars
    unfold lexChars
    simp only [h.not_eof, hhere, Bool.not_true, Bool.false_eq_true, if_false, List.drop_zero, ge_iff_le, hnl, hl1, hl2]
    congr 1
    obtain ⟨a1, a2, a3⟩ := advance_step text read hch hw l h
    unfold nextSk at a1 a2 a3
    cases hb : (skipL (l.ranges.toList.drop l.idx) ⟨l.pos.bytes + l.laSize, ⟨0, 0⟩⟩).2.2 with
    | false =>
      rw [rangedChars_done text f _ _ hb, lexChars_eof read f _ (a1 hb)]
    | true =>
      by_cases hlen2 : (skipL (l.ranges.toList.drop l.idx) ⟨l.pos.bytes + l.laSize, ⟨0, 0⟩⟩).2.1.bytes < text.length
      · obtain ⟨inv', b1, b2, b3⟩ := a3 hb hlen2
        rw [ih _ inv', rangedChars_skip text f _ _ hb, b1, b2, b3, List.drop_drop]
      · rw [rangedChars_beyond text f _ _ (by omega), lexChars_eof read f _ (a2 hb (by omega))]

/-- The one-chunk provider of the driver (`rangedAgrees` in Drivers/C13.lean) is a chunking with `WholeChar`. -/
theorem whole_chunking (text : List Nat) :
    ChunkingOf text (fun p => text.drop p) ∧ WholeChar text (fun p => text.drop p) :=
  ⟨⟨fun _ hi => ⟨fun hnil => absurd (List.drop_eq_nil_iff.1 hnil) (Nat.not_le_of_lt hi), List.prefix_refl _⟩,
    fun _ hi => List.drop_eq_nil_of_le hi⟩, fun _ _ => Or.inr (Or.inr rfl)⟩

/-- The same for the document in one chunk (the driver's configuration), no hypothesis on the provider left. -/
theorem lexChars_eq_rangedChars_whole (doc : List Nat) (fuel : Nat) (l : Lexer) (h : RInv doc l) :
    lexChars (fun p => doc.drop p) fuel l = rangedChars doc fuel (l.ranges.toList.drop l.idx) l.pos.bytes :=
  lexChars_eq_rangedChars doc _ (whole_chunking doc).1 (whole_chunking doc).2 fuel l h

/-- The obligation `model:rangedChars=lexStream` of the driver from the state left by
`ts_lexer_set_included_ranges`, `ts_lexer_set_input`, `ts_lexer_start` on, with `RInv` of that state as a hypothesis
(decidable per case; the non-vacuity example below evaluates it).  `lexStream_eq_rangedChars` discharges the hypothesis
for every accepted non-empty list and every text that does not begin with a byte-order mark; this form is the one for
texts that begin with a BOM.  OPEN: the BOM skip of `start` over a range list whose first
range with text starts at offset 0 (C09's `lexStream_bom` does it for the default range). -/
theorem lexStream_eq_rangedChars_partial (text : List Nat) (read : Read) (hch : ChunkingOf text read)
    (hw : WholeChar text read) (rs : List TSRange) (fuel : Nat)
    (h : RInv text (((({} : Lexer).setIncludedRanges rs).1.setInput).start read)) :
    lexChars read fuel (((({} : Lexer).setIncludedRanges rs).1.setInput).start read) =
      rangedChars text fuel
        ((((({} : Lexer).setIncludedRanges rs).1.setInput).start read).ranges.toList.drop
          (((({} : Lexer).setIncludedRanges rs).1.setInput).start read).idx)
        (((({} : Lexer).setIncludedRanges rs).1.setInput).start read).pos.bytes :=
  lexChars_eq_rangedChars text read hch hw fuel _ h

/-- Non-vacuity: `ab<<>>c€d`, ranges `[0,2) [6,6) [6,11)` (an empty range, a multi-byte character), chunks of three
bytes: the state left by `set_included_ranges`, `set_input`, `start` satisfies `RInv`, and the run is `a b c € d`. -/
example : let doc : List Nat := [0x61, 0x62, 0x3c, 0x3c, 0x3e, 0x3e, 0x63, 0xe2, 0x82, 0xac, 0x64]
    let rs : List TSRange := [⟨⟨0,0⟩,⟨0,2⟩,0,2⟩, ⟨⟨0,6⟩,⟨0,6⟩,6,6⟩, ⟨⟨0,6⟩,⟨0,11⟩,6,11⟩]
    let read : Read := fun p => (doc.drop p).take 3
    let l := ((({} : Lexer).setIncludedRanges rs).1.setInput).start read
    RInv doc l ∧ l.idx = 0 ∧ l.pos.bytes = 0 ∧
    lexChars read 12 l = [(0, 0x61, 1), (1, 0x62, 1), (6, 0x63, 1), (7, 0x20ac, 3), (10, 0x64, 1)] := by
  refine ⟨⟨by decide, by decide, by decide, by decide, by decide, by decide, by decide, by decide⟩,
    by decide, by decide, by decide⟩

/-- The state after `ts_lexer_set_included_ranges rs; ts_lexer_set_input` on a fresh lexer. -/
def m0 (rs : List TSRange) : Lexer := (({} : Lexer).setIncludedRanges rs).1.setInput

/-- On an accepted non-empty list `m0` is `ts_lexer_goto` twice from a fresh lexer holding the list: to offset 0
(`set_included_ranges`), then, the chunk cleared, to where that arrived (`set_input`). -/
theorem m0_eq (rs : List TSRange) (hne : rs ≠ []) (hv : validFrom 0 rs = true) :
    ∃ la : Lexer, la.ranges = rs.toArray ∧ la.chunk = [] ∧ la.chunkStart = 0 ∧ la.skipEmpty = false ∧
      m0 rs = ((la.goto length_zero).clearChunk).goto (la.goto length_zero).pos := by
  refine ⟨{ ({} : Lexer) with ranges := rs.toArray }, rfl, rfl, rfl, rfl, ?_⟩
  unfold m0 Lexer.setInput Lexer.setIncludedRanges
  simp only [List.isEmpty_eq_false_iff.2 hne, hv, Bool.false_eq_true, if_false, if_true]

theorem m0_some (rs : List TSRange) (hne : rs ≠ []) (hv : validFrom 0 rs = true) (i : Nat) (r : TSRange)
    (h : findRange rs 0 0 = some (i, r)) :
    (m0 rs).idx = i ∧ (m0 rs).pos.bytes = r.start_byte ∧ (m0 rs).ranges = rs.toArray ∧ (m0 rs).laSize = 0 ∧
    (m0 rs).skipEmpty = false ∧ (m0 rs).chunk = [] ∧ (m0 rs).chunkStart = 0 := by
  obtain ⟨la, l1, l2, l3, l4, e⟩ := m0_eq rs hne hv
  rw [e]
  have la_r : la.ranges.toList = rs := by rw [l1]
  obtain ⟨a1, a2, a3, a4, a5, a6⟩ := goto_some la length_zero i r (by rw [la_r]; exact h)
  have hz : length_zero.bytes = 0 := rfl
  simp only [hz, ge_iff_le, Nat.zero_le, if_true] at a2
  generalize la.goto length_zero = lb at a1 a2 a3 a4 a5 a6 ⊢
  obtain ⟨c1, c2⟩ := a6 l2
  -- the second `goto` (of `set_input`), from the start of the range found, finds the same range
  obtain ⟨f1, f2⟩ := findRange_again rs 0 i r h
  have hb : findRange (lb.clearChunk).ranges.toList 0 lb.pos.bytes = some (i, r) := by
    show findRange lb.ranges.toList 0 lb.pos.bytes = _
    rw [a3, la_r, a2]; exact f1
  obtain ⟨b1, b2, b3, b4, b5, b6⟩ := goto_some lb.clearChunk lb.pos i r hb
  refine ⟨b1, ?_, ?_, b4, ?_, ?_, ?_⟩
  · rw [b2, a2]; simp
  · rw [b3]; show lb.ranges = _; rw [a3]; exact l1
  · rw [b5]; show lb.skipEmpty = false; rw [a5]; exact l4
  · exact (b6 rfl).1
  · rw [(b6 rfl).2]; rfl

theorem m0_none (rs : List TSRange) (hne : rs ≠ []) (hv : validFrom 0 rs = true)
    (h : findRange rs 0 0 = none) : (m0 rs).eof = true := by
  obtain ⟨la, l1, -, -, -, e⟩ := m0_eq rs hne hv
  rw [e]
  have la_r : la.ranges.toList = rs := by rw [l1]
  obtain ⟨a1, a3⟩ := goto_none la length_zero (by rw [la_r]; exact h)
  generalize la.goto length_zero = lb at a1 a3 ⊢
  have hb : findRange (lb.clearChunk).ranges.toList 0 lb.pos.bytes = none := by
    show findRange lb.ranges.toList 0 lb.pos.bytes = _
    rw [a3, la_r]; exact findRange_none_any rs 0 _ h
  obtain ⟨b1, b3⟩ := goto_none lb.clearChunk lb.pos hb
  simp only [Lexer.eof, Lexer.count, b1, b3, beq_self_eq_true]

/-- The first assignments of `ts_lexer_start`. -/
def withTok (m : Lexer) : Lexer := { m with tokStart := m.pos, tokEnd := LENGTH_UNDEFINED }

theorem start_gen (read : Read) (m : Lexer) (he : m.eof = false) (h4 : m.chunk = []) (h6 : m.laSize = 0)
    (h5 : m.chunkStart = 0)
    (hb : (((withTok m).refill read).pos.bytes == 0) = true → (((withTok m).refill read).lookahead == BYTE_ORDER_MARK) = false) :
    m.start read = (if ((withTok m).refill read).pos.bytes == 0 then
        { (withTok m).refill read with colValid := true, colValue := 0 } else (withTok m).refill read) := by
  refine (start_body read (withTok m) he h4 h6 h5).trans ?_
  split
  · rw [if_neg (by rw [hb ‹_›]; decide)]
  · rfl

/-- `ts_lexer_start` from a state without chunk and look-ahead that stands in a range with text: one `refill` (`start_gen`), so EOF
at or after the end of the text and `RInv` before it (`refill_RInv`).  A byte-order mark matters only at offset 0. -/
theorem start_inv (text : List Nat) (read : Read) (hch : ChunkingOf text read) (hw : WholeChar text read) (m : Lexer)
    (h4 : m.chunk = []) (h6 : m.laSize = 0) (h5 : m.chunkStart = 0) (hn : m.skipEmpty = false) (hi : m.idx < m.ranges.size)
    (h1 : m.pos.bytes < (m.range m.idx).end_byte) (h2 : (m.range m.idx).end_byte ≠ (m.range m.idx).start_byte)
    (hbom : m.pos.bytes = 0 → (norm (decodeUtf8 text)).1 ≠ BYTE_ORDER_MARK) :
    (text.length ≤ m.pos.bytes → (m.start read).eof = true) ∧
    (m.pos.bytes < text.length → RInv text (m.start read) ∧ (m.start read).pos.bytes = m.pos.bytes ∧
      (m.start read).ranges = m.ranges ∧ (m.start read).idx = m.idx) := by
  have he : m.eof = false := by simp [Lexer.eof, Lexer.count]; omega
  have hst := start_gen read m he h4 h6 h5
  -- the refilled state is handed out as a variable: unifying through `refill` is slow
  obtain ⟨Y, hY, hR1, hR2⟩ := refill_RInv text read hch hw (withTok m) (by rw [show (withTok m).chunk = [] from h4]; exact Or.inl rfl)
    hn hi h1 h2
  rw [hY] at hst
  refine ⟨fun hlen => ?_, fun hlen => ?_⟩
  · obtain ⟨q1, q2⟩ := hR1 hlen
    rw [hst (fun _ => by rw [q2]; decide)]
    split <;> exact q1
  · obtain ⟨hinv, e1, e2, e3⟩ := hR2 hlen
    have hpos : Y.pos.bytes = m.pos.bytes := by rw [e1]; rfl
    -- at offset 0 the look-ahead is the first character of the text
    have hbb : (Y.pos.bytes == 0) = true → (Y.lookahead == BYTE_ORDER_MARK) = false := by
      intro h0
      have h0' : m.pos.bytes = 0 := by rw [hpos] at h0; simpa using h0
      have hl : Y.lookahead = (norm (decodeUtf8 (text.drop Y.pos.bytes))).1 := congrArg Prod.fst hinv.look
      rw [hl, hpos, h0', List.drop_zero]
      simpa using hbom h0'
    rw [hst hbb]
    split
    · exact ⟨RInv_col text _ hinv true 0, hpos, e2, e3⟩
    · exact ⟨hinv, hpos, e2, e3⟩

/-- `ts_lexer_start` after `set_included_ranges; set_input` on a fresh lexer, for an accepted non-empty list and a text without
byte-order mark: EOF when no range includes text or the first that does starts at or after the end of the text, otherwise
`RInv` at the start of that range. -/
theorem start_RInv (text : List Nat) (read : Read) (hch : ChunkingOf text read) (hw : WholeChar text read)
    (rs : List TSRange) (hne : rs ≠ []) (hv : validFrom 0 rs = true)
    (hbom : (norm (decodeUtf8 text)).1 ≠ BYTE_ORDER_MARK) :
    match findRange rs 0 0 with
    | none => ((m0 rs).start read).eof = true
    | some (i, r) =>
      (text.length ≤ r.start_byte → ((m0 rs).start read).eof = true) ∧
      (r.start_byte < text.length → RInv text ((m0 rs).start read) ∧ ((m0 rs).start read).pos.bytes = r.start_byte ∧
        ((m0 rs).start read).ranges.toList.drop ((m0 rs).start read).idx = rs.drop i) := by
  cases hfr : findRange rs 0 0 with
  | none =>
    have he := m0_none _ hne hv hfr
    show ((m0 rs).start read).eof = true
    unfold Lexer.start
    have : ({ m0 rs with tokStart := (m0 rs).pos, tokEnd := LENGTH_UNDEFINED } : Lexer).eof = true := he
    simp only [this, Bool.not_true, Bool.false_eq_true, if_false]
  | some jr =>
    obtain ⟨i, r⟩ := jr
    obtain ⟨n1, n2, n3, n4, n5, n6, n7⟩ := m0_some _ hne hv i r hfr
    obtain ⟨_, f2⟩ := findRange_again _ 0 i r hfr
    have hi : rs[i]? = some r := by
      obtain ⟨r0, rest, rfl⟩ := List.exists_cons_of_ne_nil hne
      have hfs := findRange_skipL (r0 :: rest) 0 ⟨r0.start_byte, ⟨0, 0⟩⟩ (by intro r rs h; cases h; rfl)
      rw [hfr] at hfs
      rw [hfs.1]
      simpa using hfs.2.2.2
    obtain ⟨hlt, hget⟩ := List.getElem?_eq_some_iff.1 hi
    show (_ → ((m0 rs).start read).eof = true) ∧ (_ → RInv text ((m0 rs).start read) ∧ _ ∧ _)
    generalize m0 rs = M at *
    have hrange : M.range M.idx = r := by
      simp [Lexer.range, n1, n3, Array.getD, hlt, hget]
    obtain ⟨k1, k2⟩ := start_inv text read hch hw M n6 n4 n7 n5 (by rw [n3, n1]; simpa using hlt)
      (by rw [hrange, n2]; exact f2) (by rw [hrange]; omega) (fun _ => hbom)
    rw [n2] at k1 k2
    refine ⟨k1, fun hlen => ?_⟩
    obtain ⟨hinv, hpos, e2, e3⟩ := k2 hlen
    exact ⟨hinv, hpos, by rw [e2, e3, n3, n1]⟩

/-- The obligation `model:rangedChars=lexStream` as a theorem, for texts that do not begin with a
byte-order mark: for every text, every chunking of it with `WholeChar`, and EVERY non-empty range list accepted by the
setter, the `(offset, look-ahead, size)` sequence of the FULL port — `ts_lexer_set_included_ranges`,
`ts_lexer_set_input` (both through `ts_lexer_goto`), `ts_lexer_start`, then `ts_lexer__advance` until EOF — is
`rangedChars text fuel rs rs.head.start_byte`. -/
theorem lexStream_eq_rangedChars (text : List Nat) (read : Read) (hch : ChunkingOf text read) (hw : WholeChar text read)
    (r0 : TSRange) (rest : List TSRange) (hv : validFrom 0 (r0 :: rest) = true)
    (hbom : (norm (decodeUtf8 text)).1 ≠ BYTE_ORDER_MARK) (fuel : Nat) :
    lexChars read fuel ((m0 (r0 :: rest)).start read) = rangedChars text fuel (r0 :: rest) r0.start_byte := by
  -- the scan of `goto` at offset 0 (where `m0` stands) and `skipL` from `r0.start_byte` (where `rangedChars` starts) stop at
  -- the same range, the first that includes text
  have hfs := findRange_skipL (r0 :: rest) 0 ⟨r0.start_byte, ⟨0, 0⟩⟩ (by intro r rs h; cases h; rfl)
  have hst := start_RInv text read hch hw (r0 :: rest) (by simp) hv hbom
  generalize (m0 (r0 :: rest)).start read = S at hst ⊢
  generalize r0 :: rest = rs at hfs hst ⊢
  cases hfr : findRange rs 0 0 with
  | none =>
    rw [hfr] at hfs hst
    rw [rangedChars_done text fuel _ _ hfs, lexChars_eof read fuel _ hst]
  | some jr =>
    obtain ⟨i, r⟩ := jr
    rw [hfr] at hfs hst
    obtain ⟨s1, s2, s3, -⟩ := hfs
    by_cases hlen : text.length ≤ r.start_byte
    · rw [rangedChars_beyond text fuel _ _ (by rw [s2]; exact hlen), lexChars_eof read fuel _ (hst.1 hlen)]
    · obtain ⟨hinv, hpos, hlist⟩ := hst.2 (Nat.lt_of_not_le hlen)
      rw [lexChars_eq_rangedChars text read hch hw fuel _ hinv, hlist, hpos, rangedChars_skip text fuel rs r0.start_byte s3,
        s2, show (skipL rs ⟨r0.start_byte, ⟨0, 0⟩⟩).1 = i by omega]

/-- Non-vacuity: `ab<<>>c€d`, ranges `[0,2) [6,6) [6,11)`, three-byte chunks: accepted list, no BOM, and the run. -/
example : let doc : List Nat := [0x61, 0x62, 0x3c, 0x3c, 0x3e, 0x3e, 0x63, 0xe2, 0x82, 0xac, 0x64]
    let rs : List TSRange := [⟨⟨0,0⟩,⟨0,2⟩,0,2⟩, ⟨⟨0,6⟩,⟨0,6⟩,6,6⟩, ⟨⟨0,6⟩,⟨0,11⟩,6,11⟩]
    let read : Read := fun p => (doc.drop p).take 3
    validFrom 0 rs = true ∧ (norm (decodeUtf8 doc)).1 ≠ BYTE_ORDER_MARK ∧
    lexChars read 12 ((m0 rs).start read) = [(0, 0x61, 1), (1, 0x62, 1), (6, 0x63, 1), (7, 0x20ac, 3), (10, 0x64, 1)] ∧
    rangedChars doc 12 rs 0 = [(0, 0x61, 1), (1, 0x62, 1), (6, 0x63, 1), (7, 0x20ac, 3), (10, 0x64, 1)] := by
  refine ⟨by decide, by decide, by decide, by decide⟩

/-- Clause 1 of the property at the level of the FULL lexer port on BOTH sides.  For every
document, every accepted non-empty range list with `RangesOnCharBoundaries` (`FitRun`), every chunking of the document
and every chunking of the concatenation (both with `WholeChar`; neither text begins with a byte-order mark; the
concatenation is shorter than `UINT32_MAX`): the sequence of (look-ahead, size) that the port produces over
(document, ranges) — `set_included_ranges`, `set_input`, `start`, `advance`… — is the one it produces over the
concatenation of the ranges as a stand-alone text with the default range. -/
theorem port_stream_concat (doc : List Nat) (read : Read) (hch : ChunkingOf doc read) (hw : WholeChar doc read)
    (r0 : TSRange) (rest : List TSRange) (hv : validFrom 0 (r0 :: rest) = true)
    (hbom : (norm (decodeUtf8 doc)).1 ≠ BYTE_ORDER_MARK) (fuel : Nat)
    (hf : FitRun doc fuel (r0 :: rest) r0.start_byte)
    (read2 : Read) (hch2 : ChunkingOf (concatL doc (r0 :: rest)) read2) (hw2 : WholeChar (concatL doc (r0 :: rest)) read2)
    (hsmall : (concatL doc (r0 :: rest)).length < UMAX)
    (hbom2 : (coreLook read2 0 ⟨0, []⟩).1 ≠ BYTE_ORDER_MARK) :
    (lexChars read fuel ((m0 (r0 :: rest)).start read)).map (fun x => (x.2.1, x.2.2)) =
      (lexStream read2 fuel).map (fun x => (x.2.1, x.2.2)) := by
  rw [lexStream_eq_rangedChars doc read hch hw r0 rest hv hbom fuel, stream_concat_text doc r0 rest fuel hv hf,
    lexStream_eq_coreChars _ read2 hch2 hsmall hbom2, chars_chunk_indep _ read2 hch2 hw2 fuel 0 _ (Or.inl rfl)]

end TsVerif.C13
