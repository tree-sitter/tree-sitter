import TsVerif.C13.TreeLevel
import TsVerif.C13.Port
#print axioms TsVerif.C13.ranges_valid_iff
#print axioms TsVerif.C13.set_ranges_accepts_iff
#print axioms TsVerif.C13.set_ranges_reject_keeps
#print axioms TsVerif.C13.set_ranges_assigns
#print axioms TsVerif.C13.first_bad_index_spec
#print axioms TsVerif.C13.first_bad_exists
#print axioms TsVerif.C13.seam_offset_preserved
#print axioms TsVerif.C13.mark_end_on_range
#print axioms TsVerif.C13.char_split_witness
#print axioms TsVerif.C13.stream_concat
#print axioms TsVerif.C13.stream_concat_text
#print axioms TsVerif.C13.token_inside
#print axioms TsVerif.C13.obs_eq
#print axioms TsVerif.C13.driver_concat
#print axioms TsVerif.C13.tree_shape_concat
#print axioms TsVerif.C13.lexChars_eq_rangedChars
#print axioms TsVerif.C13.lexChars_eq_rangedChars_whole
#print axioms TsVerif.C13.lexStream_eq_rangedChars_partial
#print axioms TsVerif.C13.advance_step
#print axioms TsVerif.C13.findRange_skipL
#print axioms TsVerif.C13.lexStream_eq_rangedChars
#print axioms TsVerif.C13.port_stream_concat
