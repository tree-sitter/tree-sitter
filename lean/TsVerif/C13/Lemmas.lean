import TsVerif.C13.Lexer
/-!
# C13 — the loops of the lexer port one by one

The validation loop of the range setter (`validFrom`, `firstBadFrom`), the scan of `ts_lexer_goto` (`findRange`), the
range-skipping loop of `ts_lexer__do_advance` (`skipL`, its repaired variant `skipLF`) with the offsets it keeps in the
concatenation of the ranges.
-/
namespace TsVerif.C13
open TsGen TsVerif.Lex

def RangesValid (rs : List TSRange) : Prop :=
  (∀ r ∈ rs, r.start_byte ≤ r.end_byte) ∧ rs.Pairwise (fun a b => a.end_byte ≤ b.start_byte)

theorem validFrom_iff : ∀ (rs : List TSRange) (prev : Nat),
    validFrom prev rs = true ↔
      ((∀ r ∈ rs, prev ≤ r.start_byte ∧ r.start_byte ≤ r.end_byte) ∧
        rs.Pairwise (fun a b => a.end_byte ≤ b.start_byte))
  | [], _ => by simp [validFrom]
  | r :: rest, prev => by
    rw [validFrom, List.forall_mem_cons, List.pairwise_cons]
    split
    · exact ⟨nofun, fun ⟨⟨_, _⟩, _⟩ => by omega⟩
    · rw [validFrom_iff rest r.end_byte]
      constructor
      · rintro ⟨h1, h2⟩
        exact ⟨⟨by omega, fun q hq => ⟨by have := h1 q hq; omega, (h1 q hq).2⟩⟩, fun q hq => (h1 q hq).1, h2⟩
      · rintro ⟨⟨_, h1⟩, h3, h2⟩
        exact ⟨fun q hq => ⟨h3 q hq, (h1 q hq).2⟩, h2⟩

theorem firstBadFrom_ge : ∀ (rs : List TSRange) (prev k m : Nat), firstBadFrom prev k rs = some m → k ≤ m
  | [], _, _, _, h => by simp [firstBadFrom] at h
  | r :: rest, prev, k, m, h => by
    unfold firstBadFrom at h
    split at h
    · simp at h; omega
    · have := firstBadFrom_ge rest _ _ _ h; omega

theorem firstBadFrom_spec : ∀ (rs : List TSRange) (prev k i : Nat),
    firstBadFrom prev k rs = some (k + i) ↔
      (i < rs.length ∧ validFrom prev (rs.take i) = true ∧ validFrom prev (rs.take (i + 1)) = false)
  | [], prev, k, i => by simp [firstBadFrom]
  | r :: rest, prev, k, i => by
    unfold firstBadFrom
    by_cases hbad : r.start_byte < prev ∨ r.end_byte < r.start_byte
    · simp only [hbad, if_true]
      cases i with
      | zero => simp [validFrom, hbad]
      | succ j =>
        simp only [List.take_succ_cons, validFrom, hbad, if_true]
        constructor
        · intro h; simp at h <;> omega
        · rintro ⟨_, h, _⟩; cases h
    · simp only [hbad, if_false]
      cases i with
      | zero =>
        simp only [List.take_zero, List.take_succ_cons, validFrom, hbad, if_false, Nat.add_zero]
        constructor
        · intro h; have := firstBadFrom_ge _ _ _ _ h; omega
        · rintro ⟨_, _, h⟩; simp at h
      | succ j =>
        have ih := firstBadFrom_spec rest r.end_byte (k + 1) j
        have e : k + (j + 1) = k + 1 + j := by omega
        simp only [List.take_succ_cons, validFrom, hbad, if_false, List.length_cons, e]
        rw [ih]
        constructor
        · rintro ⟨a, b, c⟩; exact ⟨by omega, b, c⟩
        · rintro ⟨a, b, c⟩; exact ⟨by omega, b, c⟩

def rangeLen (r : TSRange) : Nat := r.end_byte - r.start_byte

/-- Offset, in the concatenation of `rs`, of document position `p` lying in range number `k` of `rs`. -/
def offsetL : List TSRange → Nat → Nat → Nat
  | [], _, _ => 0
  | r :: _, 0, p => p - r.start_byte
  | r :: rest, k + 1, p => rangeLen r + offsetL rest k p

def totalLen : List TSRange → Nat
  | [] => 0
  | r :: rest => rangeLen r + totalLen rest

/-- Ordered list from `lo` on (what `validFrom lo` accepts): the form the inductions use; `RangesValid` is the form the
setter theorems state. -/
def Ordered : Nat → List TSRange → Prop
  | _, [] => True
  | lo, r :: rest => lo ≤ r.start_byte ∧ r.start_byte ≤ r.end_byte ∧ Ordered r.end_byte rest

theorem ordered_of_validFrom : ∀ (rs : List TSRange) (lo : Nat), validFrom lo rs = true → Ordered lo rs
  | [], _, _ => trivial
  | r :: rest, lo, h => by
    unfold validFrom at h
    split at h
    · cases h
    · exact ⟨by omega, by omega, ordered_of_validFrom rest _ h⟩

/-- The range-skipping loop moves along the concatenation without losing or gaining bytes:
started at a position `p` of the first range (`start ≤ p ≤ end`, e.g. just after a character that
ended inside or exactly at the end of the range) it stops either inside a non-empty range at the
same concatenation offset, or after the last range with the offset equal to the total length. -/
theorem skipL_offset : ∀ (rs : List TSRange) (pos : Length) (lo : Nat), Ordered lo rs →
    (∀ r rest, rs = r :: rest → r.start_byte ≤ pos.bytes ∧ pos.bytes ≤ r.end_byte) →
    let res := skipL rs pos
    (res.2.2 = true →
      ∃ r, rs[res.1]? = some r ∧ r.start_byte ≤ res.2.1.bytes ∧ res.2.1.bytes < r.end_byte ∧
        offsetL rs res.1 res.2.1.bytes = offsetL rs 0 pos.bytes) ∧
    (res.2.2 = false → res.1 = rs.length ∧ totalLen rs = offsetL rs 0 pos.bytes)
  := by
  intro rs pos
  fun_induction skipL rs pos <;> intro lo ho hp
  · exact ⟨nofun, fun _ => ⟨rfl, rfl⟩⟩
  next cur pos hc =>
    have := hp cur [] rfl
    exact ⟨nofun, fun _ => ⟨rfl, by simp only [totalLen, offsetL, rangeLen]; omega⟩⟩
  next cur pos hc nxt rest ih =>
    have := hp cur _ rfl
    obtain ⟨ih1, ih2⟩ := ih cur.end_byte ho.2.2 (by intro r rest hr; cases hr; exact ⟨Nat.le_refl _, ho.2.2.2.1⟩)
    refine ⟨fun hb => ?_, fun hb => ?_⟩
    · obtain ⟨r, hr1, hr2, hr3, hr4⟩ := ih1 hb
      exact ⟨r, hr1, hr2, hr3, by simp only [offsetL, rangeLen] at hr4 ⊢; omega⟩
    · obtain ⟨e1, e2⟩ := ih2 hb
      exact ⟨congrArg (· + 1) e1, by simp only [totalLen, offsetL, rangeLen] at e2 ⊢; omega⟩
  next cur rest pos hc =>
    have := hp cur rest rfl
    exact ⟨fun _ => ⟨cur, rfl, this.1, (by omega : pos.bytes < cur.end_byte), rfl⟩, nofun⟩

/-- The repaired range-skipping loop (`skipLF`, fixes/C13-empty-range-boundary.diff) and the original one
agree on the number of ranges stepped over and on whether a range was reached, and — when one was — on
the position (the start of a range that includes text is assigned by both); they differ only in the
position left behind at the end of the ranges. -/
theorem skipLF_agrees : ∀ (rs : List TSRange) (p1 p2 : Length),
    (∀ r ∈ rs, r.start_byte ≤ r.end_byte) →
    (∀ r rest, rs = r :: rest → r.end_byte ≠ r.start_byte → p1 = p2) →
    (skipLF rs p1).1 = (skipL rs p2).1 ∧ (skipLF rs p1).2.2 = (skipL rs p2).2.2 ∧
    ((skipL rs p2).2.2 = true → (skipLF rs p1).2.1 = (skipL rs p2).2.1)
  := by
  -- a range that `skipL` steps over from `p2` is stepped over by `skipLF` from `p1`: it is empty, or `p1 = p2`
  have step : ∀ (cur : TSRange) (p1 p2 : Length), (cur.end_byte ≠ cur.start_byte → p1 = p2) →
      p2.bytes ≥ cur.end_byte ∨ cur.end_byte = cur.start_byte → p1.bytes ≥ cur.end_byte ∨ cur.end_byte = cur.start_byte := by
    intro cur p1 p2 h hc
    by_cases he : cur.end_byte = cur.start_byte
    · exact .inr he
    · rw [h he]; exact hc
  intro rs p1 p2
  fun_induction skipL rs p2 generalizing p1 <;> intro hw h
  · exact ⟨rfl, rfl, nofun⟩
  next cur p2 hc =>
    rw [skipLF, if_pos (step cur p1 p2 (h cur [] rfl) hc)]
    exact ⟨rfl, rfl, nofun⟩
  next cur p2 hc nxt rest ih =>
    rw [skipLF, if_pos (step cur p1 p2 (h cur _ rfl) hc)]
    obtain ⟨i1, i2, i3⟩ := ih (if nxt.end_byte > nxt.start_byte then ⟨nxt.start_byte, nxt.start_point⟩ else p1)
      (fun r hr => hw r (List.mem_cons_of_mem _ hr))
      (by intro r rs hrr hne
          cases hrr
          have := hw nxt (List.mem_cons_of_mem _ List.mem_cons_self)
          rw [if_pos (by omega)])
    exact ⟨congrArg (· + 1) i1, i2, i3⟩
  next cur rest p2 hc =>
    cases h cur rest rfl (by omega)
    unfold skipLF
    rw [if_neg hc]
    exact ⟨rfl, rfl, fun _ => rfl⟩

theorem skipL_ext (rs : List TSRange) (b : Nat) (e1 e2 : TSPoint) :
    (skipL rs ⟨b, e1⟩).1 = (skipL rs ⟨b, e2⟩).1 ∧ (skipL rs ⟨b, e1⟩).2.1.bytes = (skipL rs ⟨b, e2⟩).2.1.bytes ∧
    (skipL rs ⟨b, e1⟩).2.2 = (skipL rs ⟨b, e2⟩).2.2 := by
  cases rs with
  | nil => exact ⟨rfl, rfl, rfl⟩
  | cons cur rest =>
    unfold skipL
    split
    · cases rest <;> exact ⟨rfl, rfl, rfl⟩
    · exact ⟨rfl, rfl, rfl⟩

/-- Needs no `Ordered`, unlike the first half of `skipL_offset`. -/
theorem skipL_stop : ∀ (rs : List TSRange) (p : Length), (skipL rs p).2.2 = true →
    ∃ r, rs[(skipL rs p).1]? = some r ∧ (skipL rs p).2.1.bytes < r.end_byte ∧ r.end_byte ≠ r.start_byte := by
  intro rs p
  fun_induction skipL rs p
  · nofun
  · nofun
  · exact ‹_›
  next cur _ p h => exact fun _ => ⟨cur, rfl, (by omega : p.bytes < cur.end_byte), by omega⟩

theorem skipL_false : ∀ (rs : List TSRange) (p : Length), (skipL rs p).2.2 = false → (skipL rs p).1 = rs.length := by
  intro rs p
  fun_induction skipL rs p
  · exact fun _ => rfl
  · exact fun _ => rfl
  next ih => exact fun h => congrArg (· + 1) (ih h)
  · nofun

theorem skipL_here (r : TSRange) (rest : List TSRange) (p : Length)
    (h1 : p.bytes < r.end_byte) (h2 : r.end_byte ≠ r.start_byte) : skipL (r :: rest) p = (0, p, true) := by
  unfold skipL
  have hc : ¬ (p.bytes ≥ r.end_byte ∨ r.end_byte = r.start_byte) := by omega
  simp only [hc, if_false]

theorem skipLF_here (r : TSRange) (rest : List TSRange) (p : Length)
    (h1 : p.bytes < r.end_byte) (h2 : r.end_byte ≠ r.start_byte) : skipLF (r :: rest) p = (0, p, true) := by
  unfold skipLF
  have hc : ¬ (p.bytes ≥ r.end_byte ∨ r.end_byte = r.start_byte) := by omega
  simp only [hc, if_false]

theorem findRange_again : ∀ (rs : List TSRange) (i j : Nat) (r : TSRange),
    findRange rs i 0 = some (j, r) → findRange rs i r.start_byte = some (j, r) ∧ r.end_byte > r.start_byte
  | [], _, _, _, h => by simp [findRange] at h
  | cur :: rest, i, j, r, h => by
    unfold findRange at h ⊢
    by_cases hc : cur.end_byte > 0 ∧ cur.end_byte > cur.start_byte
    · simp only [hc, and_self, if_true] at h
      cases h
      simp [hc.2]
    · simp only [hc, if_false] at h
      have ih := findRange_again rest (i+1) j r h
      have hc' : ¬ (cur.end_byte > r.start_byte ∧ cur.end_byte > cur.start_byte) := by omega
      simp only [hc', if_false]; exact ih

theorem findRange_none_any : ∀ (rs : List TSRange) (i p : Nat), findRange rs i 0 = none → findRange rs i p = none
  | [], _, _, _ => by simp [findRange]
  | cur :: rest, i, p, h => by
    unfold findRange at h ⊢
    by_cases hc : cur.end_byte > 0 ∧ cur.end_byte > cur.start_byte
    · simp only [hc, and_self, if_true] at h; cases h
    · simp only [hc, if_false] at h
      have hc' : ¬ (cur.end_byte > p ∧ cur.end_byte > cur.start_byte) := by omega
      simp only [hc', if_false]
      exact findRange_none_any rest (i + 1) p h

/-- The scan of `ts_lexer_goto` at offset 0 (what `set_included_ranges` / `set_input` run on a fresh lexer) and the
range-skipping loop of `do_advance` started at the first range's start (what `rangedChars` starts with) find the same
range — the first one that includes text — at its start, or both find none.  No validity hypothesis. -/
theorem findRange_skipL : ∀ (rs : List TSRange) (i : Nat) (pos : Length),
    (∀ r rest, rs = r :: rest → pos.bytes = r.start_byte) →
    match findRange rs i 0 with
    | none => (skipL rs pos).2.2 = false
    | some (j, r) => j = i + (skipL rs pos).1 ∧ (skipL rs pos).2.1.bytes = r.start_byte ∧ (skipL rs pos).2.2 = true ∧
        rs[(skipL rs pos).1]? = some r
  := by
  intro rs i pos
  fun_induction skipL rs pos generalizing i <;> intro hp
  · rfl
  next cur pos hc =>
    have := hp cur [] rfl
    rw [findRange, if_neg (by omega)]
    rfl
  next cur pos hc nxt rest ih =>
    have := hp cur _ rfl
    have ih := ih (i + 1) (by intro r rest hr; cases hr; rfl)
    rw [findRange, if_neg (by omega)]
    cases hfr : findRange (nxt :: rest) (i + 1) 0 with
    | none => rw [hfr] at ih; exact ih
    | some jr =>
      rw [hfr] at ih
      exact ⟨(by have := ih.1; omega : jr.1 = i + ((skipL (nxt :: rest) ⟨nxt.start_byte, nxt.start_point⟩).1 + 1)),
        ih.2.1, ih.2.2.1, ih.2.2.2⟩
  next cur rest pos hc =>
    have := hp cur rest rfl
    rw [findRange, if_pos (by omega)]
    exact ⟨rfl, this, rfl, rfl⟩

/-- Non-vacuity of `findRange_skipL`: two leading empty ranges. -/
example : let rs : List TSRange := [⟨⟨0,0⟩,⟨0,0⟩,0,0⟩, ⟨⟨0,3⟩,⟨0,3⟩,3,3⟩, ⟨⟨0,6⟩,⟨0,11⟩,6,11⟩]
    findRange rs 0 0 = some (2, ⟨⟨0,6⟩,⟨0,11⟩,6,11⟩) ∧ skipL rs ⟨0, ⟨0,0⟩⟩ = (2, ⟨6, ⟨0,6⟩⟩, true) := by decide

end TsVerif.C13
