import TsVerif.C13.StreamLemmas
import TsVerif.C13.LexerLemmas
/-!
# C13 — Parsing included ranges equals parsing their concatenation

Property text: "Parsing a document restricted to a list of included ranges yields the same tree
shape as parsing the concatenation of those ranges as a stand-alone text, with every node position
mapped back to document coordinates, and no leaf covers excluded text. The range setter accepts
exactly the ordered, non-overlapping lists, and the tree reports the ranges it was parsed with."

Clause-by-clause map (property sentence → theorem; PROVED = kernel-checked ∀-theorem about the ports in
`Lexer.lean` / `Stream.lean`, which are tied to `lib/src/lexer.c` by scripted runs of the real lexer,
`checks/c13.py`; JUDGED = decided on every real output by the Lean judge `Judge.lean`):

1. "Parsing a document restricted to a list of included ranges yields the same tree shape as parsing the
   concatenation of those ranges as a stand-alone text"
   * PROVED, lexer level — `stream_concat` (+ `stream_concat_text`): under `RangesOnCharBoundaries` (= `FitRun`:
     along the run no character straddles a range end and an ill-formed byte is at least four bytes before one;
     decidable, evaluated per real case) the sequence of (code point or error, size) and the EOF seen over
     (document, ranges) is the one seen over the concatenation.  `char_split_witness`: without the hypothesis the
     streams differ (finding C13-char-splitting-range-boundary).  The theorem is about `rangedChars`, the character
     logic of the port over ranges (skip loop, EOF, decode from the unclipped document, advance); that the full
     port (`set_included_ranges`, `set_input`/`goto`, `start`, `advance`/`do_advance`: chunks, columns, fast path, range
     loop, EOF) produces that sequence is PROVED for every accepted non-empty range list, every `WholeChar` chunking
     and every text that does not begin with a byte-order mark — `Port.lean`:
     `lexChars_eq_rangedChars`, `advance_step`, `lexStream_eq_rangedChars`; `port_stream_concat` states clause 1 with
     the full port on both sides (ranged run = run over the concatenation with the default range).  Texts beginning
     with a BOM: `lexStream_eq_rangedChars_partial` + the driver's per-case check (`model:rangedChars=lexStream`).
   * PROVED, tree level, for DETERMINISTIC parsing only — `TreeLevel.lean`: `driver_concat` (any lex-mode-driven
     lex/parse loop that reads the text only through the observation sequence ends in the same parser state) and
     `tree_shape_concat` (the LR machine with extras of `C01.LR`, `steps_skel`: token lists with the same
     symbols — sizes in document resp. concatenation coordinates — go through the same states and build trees of
     the same shape).  Corollaries of `stream_concat` by congruence; the modelling claim behind them (the parser
     is a function of the observation sequence: no GLR, no error recovery, no external scanner, no `get_column`)
     is not proved against the C code.
   * JUDGED, tree level, all parses (GLR, error recovery, external scanners included) — `cmpTree` on the dumps of
     both real trees; where the claim is genuinely false the judge says so (findings C13-error-recovery,
     C13-char-splitting-range-boundary, C13-range-beyond-eof-boundary; column-sensitive scanners are compared only
     when no gap contains a newline).
2. "with every node position mapped back to document coordinates"
   * PROVED, lexer level — `seam_offset_preserved`: crossing a seam neither loses nor gains bytes of the
     concatenation (empty and adjacent ranges included); `skipL_remC` (the invariant of `stream_concat`: what is
     left of the concatenation at the lexer's document position); `mark_end_on_range`: token ends lie on an
     included range (closed).
   * JUDGED, tree level — every node's start/end (bytes and points) is the ψ-image of the concatenation node's
     (`psiRight` for starts, `psiLeft` for ends; zero-width leaves by the convention below).
3. "and no leaf covers excluded text"
   * PROVED, lexer level — `token_inside`: every character the lexer consumes lies inside one of the ranges and
     inside the document.
   * JUDGED, tree level — a leaf *boundary* may not lie strictly inside excluded text (the literal reading — no
     byte of a leaf is excluded — is false by construction: a token continuing across a gap contains the gap,
     finding C13-literal-leaf-spans-gap).
4. "The range setter accepts exactly the ordered, non-overlapping lists"
   * PROVED — `ranges_valid_iff`, `set_ranges_accepts_iff`; nothing is assigned on failure / the list is stored
     on success: `set_ranges_reject_keeps`, `set_ranges_assigns`; the Rust wrapper's error index is the first
     offending index: `first_bad_index_spec`, `first_bad_exists`.  Tied to the real setter per generated list.
5. "and the tree reports the ranges it was parsed with"
   * JUDGED — `Tree::included_ranges` of the real tree equals the list handed to the setter (empty list → the
     whole-document range); no theorem (the value is copied by `ts_tree_new`, outside the lexer port).

Boundary conventions: ranges are half-open in bytes; `ψ` is right-biased for starts and
left-biased for ends; empty ranges include nothing.
-/
namespace TsVerif.C13
open TsGen TsVerif.Lex

/-- The validation loop accepts exactly the lists whose ranges are well formed
and pairwise ordered without overlap. -/
theorem ranges_valid_iff (rs : List TSRange) : validFrom 0 rs = true ↔ RangesValid rs := by
  rw [validFrom_iff]
  unfold RangesValid
  constructor
  · rintro ⟨h1, h2⟩; exact ⟨fun r hr => (h1 r hr).2, h2⟩
  · rintro ⟨h1, h2⟩; exact ⟨fun r hr => ⟨Nat.zero_le _, h1 r hr⟩, h2⟩

example : RangesValid [⟨⟨0,0⟩,⟨0,2⟩,0,2⟩, ⟨⟨0,2⟩,⟨0,2⟩,2,2⟩, ⟨⟨0,6⟩,⟨0,11⟩,6,11⟩] := by
  simp [RangesValid]

/-- The setter's verdict: accepted iff the list is empty (→ whole document) or valid. -/
theorem set_ranges_accepts_iff (l : Lexer) (rs : List TSRange) :
    (l.setIncludedRanges rs).2 = true ↔ (rs = [] ∨ RangesValid rs) := by
  unfold Lexer.setIncludedRanges
  by_cases he : rs = []
  · simp [he]
  · have : rs.isEmpty = false := by cases rs <;> simp_all
    rw [← ranges_valid_iff]
    by_cases hv : validFrom 0 rs = true <;> simp [this, hv, he]

/-- On failure nothing is assigned: the lexer is returned unchanged. -/
theorem set_ranges_reject_keeps (l : Lexer) (rs : List TSRange)
    (h : (l.setIncludedRanges rs).2 = false) : (l.setIncludedRanges rs).1 = l := by
  unfold Lexer.setIncludedRanges at h ⊢
  split
  · simp_all
  · split
    · simp_all
    · rfl

/-- On success the lexer holds exactly the given list (the whole-document range for the empty list). -/
theorem set_ranges_assigns (l : Lexer) (rs : List TSRange)
    (h : (l.setIncludedRanges rs).2 = true) :
    (l.setIncludedRanges rs).1.ranges = (if rs.isEmpty then #[DEFAULT_RANGE] else rs.toArray) := by
  unfold Lexer.setIncludedRanges at h ⊢
  split
  · simp [goto_ranges]
  · split
    · simp [goto_ranges]
    · simp_all

/-- The index reported by `Parser::set_included_ranges` is `i` iff the
first `i` ranges form a valid list and the first `i+1` do not. -/
theorem first_bad_index_spec (rs : List TSRange) (i : Nat) :
    firstBad rs = some i ↔
      (i < rs.length ∧ validFrom 0 (rs.take i) = true ∧ validFrom 0 (rs.take (i + 1)) = false) := by
  have := firstBadFrom_spec rs 0 0 i
  simpa [firstBad] using this

/-- A rejected list always has a first offending index (the wrapper's fall-through
`IncludedRangesError(0)` is dead code), an accepted one has none. -/
theorem first_bad_exists (rs : List TSRange) : (firstBad rs).isSome = !validFrom 0 rs := by
  have key : ∀ (rs : List TSRange) (prev k : Nat), (firstBadFrom prev k rs).isSome = !validFrom prev rs := by
    intro rs
    induction rs with
    | nil => intro prev k; simp [firstBadFrom, validFrom]
    | cons r rest ih =>
      intro prev k
      unfold firstBadFrom validFrom
      split <;> simp [ih]
  exact key rs 0 0

/-- `skipL_offset` for an accepted list: if the
lexer stands at `p` in the first of the remaining ranges (`start ≤ p ≤ end`: just after a
character that did not straddle the range end), the range-skipping loop of `ts_lexer__do_advance`
ends either inside a non-empty range at the SAME offset of the concatenation, or past the last
range with that offset equal to the concatenation's length.  Empty and adjacent ranges included. -/
theorem seam_offset_preserved (rs : List TSRange) (pos : Length) (lo : Nat)
    (hv : validFrom lo rs = true)
    (hp : ∀ r rest, rs = r :: rest → r.start_byte ≤ pos.bytes ∧ pos.bytes ≤ r.end_byte) :
    ((skipL rs pos).2.2 = true →
      ∃ r, rs[(skipL rs pos).1]? = some r ∧ r.start_byte ≤ (skipL rs pos).2.1.bytes ∧
        (skipL rs pos).2.1.bytes < r.end_byte ∧
        offsetL rs (skipL rs pos).1 (skipL rs pos).2.1.bytes = offsetL rs 0 pos.bytes) ∧
    ((skipL rs pos).2.2 = false →
      (skipL rs pos).1 = rs.length ∧ totalLen rs = offsetL rs 0 pos.bytes) :=
  skipL_offset rs pos lo (ordered_of_validFrom rs lo hv) hp

example : let rs : List TSRange := [⟨⟨0,0⟩,⟨0,2⟩,0,2⟩, ⟨⟨0,3⟩,⟨0,3⟩,3,3⟩, ⟨⟨0,6⟩,⟨0,11⟩,6,11⟩]
    validFrom 0 rs = true ∧ skipL rs ⟨2, ⟨0,2⟩⟩ = (2, ⟨6, ⟨0,6⟩⟩, true) ∧ offsetL rs 2 6 = 2 := by decide

/-- When the lexer is not at EOF and stands inside range `idx`
(`start ≤ pos ≤ end`), the token end recorded by `ts_lexer__mark_end` lies on a given range
(closed interval): on range `idx` itself, or — at its very start — on the end of range `idx-1`
(stated for `skipEmpty = false`; with `skipEmpty = true` it is the end of the nearest previous range that includes
text).  In the conclusion `∧` binds tighter than `∨`: `j < l.count` belongs to the first alternative only. -/
theorem mark_end_on_range (l : Lexer) (hv : l.skipEmpty = false) (h1 : l.idx < l.count)
    (h2 : (l.range l.idx).start_byte ≤ l.pos.bytes ∧ l.pos.bytes ≤ (l.range l.idx).end_byte) :
    ∃ j, j < l.count ∧ (l.range j).start_byte ≤ l.markEnd.tokEnd.bytes ∧ l.markEnd.tokEnd.bytes ≤ (l.range j).end_byte ∨
      (l.markEnd.tokEnd.bytes = (l.range j).end_byte ∧ j + 1 = l.idx) := by
  unfold Lexer.markEnd
  have hne : l.eof = false := by simp [Lexer.eof]; omega
  simp only [hne]
  by_cases hc : (l.idx > 0 && l.pos.bytes == (l.range l.idx).start_byte) = true
  · refine ⟨l.idx - 1, Or.inr ?_⟩
    simp only [Bool.and_eq_true, decide_eq_true_eq] at hc
    simp [hc, hv]; omega
  · refine ⟨l.idx, Or.inl ⟨h1, ?_⟩⟩
    simp [hc]; exact h2

/-- For every document and every valid range list, if along the run every
character fits its range (`FitRun`, the decidable form of RangesOnCharBoundaries evaluated by the
driver on each real case), then the lexer over (document, ranges) sees exactly the sequence of
(code point or error, size) — and the same end — that a lexer sees over the concatenation of the
ranges' bytes as a stand-alone text. -/
theorem stream_concat (doc : List Nat) (r0 : TSRange) (rest : List TSRange) (fuel : Nat)
    (hv : validFrom 0 (r0 :: rest) = true) (hf : FitRun doc fuel (r0 :: rest) r0.start_byte) :
    (rangedChars doc fuel (r0 :: rest) r0.start_byte).map (fun x => (x.2.1, x.2.2)) =
      refCharsS fuel (concatL doc (r0 :: rest)) :=
  (stream_concat_core doc fuel (r0 :: rest) r0.start_byte 0 (ordered_of_validFrom _ 0 hv)
    (by intro r rs h; cases h; exact Nat.le_refl _) hf).1

/-- The same, phrased with C09's reference sequence of the concatenation as a text. -/
theorem stream_concat_text (doc : List Nat) (r0 : TSRange) (rest : List TSRange) (fuel : Nat)
    (hv : validFrom 0 (r0 :: rest) = true) (hf : FitRun doc fuel (r0 :: rest) r0.start_byte) :
    (rangedChars doc fuel (r0 :: rest) r0.start_byte).map (fun x => (x.2.1, x.2.2)) =
      (C09.refChars (concatL doc (r0 :: rest)) fuel 0).map (fun x => (x.2.1, x.2.2)) := by
  rw [stream_concat doc r0 rest fuel hv hf, refChars_map]; rfl

/-- Under the hypotheses of `stream_concat` every character the lexer consumes over
(document, ranges) lies entirely inside one of the given ranges and inside the document. -/
theorem token_inside (doc : List Nat) (r0 : TSRange) (rest : List TSRange) (fuel : Nat)
    (hv : validFrom 0 (r0 :: rest) = true) (hf : FitRun doc fuel (r0 :: rest) r0.start_byte) :
    ∀ x ∈ rangedChars doc fuel (r0 :: rest) r0.start_byte,
      ∃ r ∈ r0 :: rest, r.start_byte ≤ x.1 ∧ x.1 + x.2.2 ≤ r.end_byte ∧ x.1 + x.2.2 ≤ doc.length :=
  (stream_concat_core doc fuel (r0 :: rest) r0.start_byte 0 (ordered_of_validFrom _ 0 hv)
    (by intro r rs h; cases h; exact Nat.le_refl _) hf).2

/-- Non-vacuity: `ab<<>>c€d`, ranges `[0,2) [6,6) [6,11)`: the hypotheses hold and the run is `a b c € d`. -/
example : let doc : List Nat := [0x61, 0x62, 0x3c, 0x3c, 0x3e, 0x3e, 0x63, 0xe2, 0x82, 0xac, 0x64]
    let rs : List TSRange := [⟨⟨0,0⟩,⟨0,2⟩,0,2⟩, ⟨⟨0,6⟩,⟨0,6⟩,6,6⟩, ⟨⟨0,6⟩,⟨0,11⟩,6,11⟩]
    validFrom 0 rs = true ∧ fitRunB doc 12 rs 0 = true ∧
    rangedChars doc 12 rs 0 = [(0, 0x61, 1), (1, 0x62, 1), (6, 0x63, 1), (7, 0x20ac, 3), (10, 0x64, 1)] := by decide


-- `n + 1` look-aheads: the one at the start and those after each of `n` advances
def lookaheads (read : Read) (l : Lexer) : Nat → List Int
  | 0 => [(l.start read).lookahead]
  | n + 1 =>
    let rec go (l : Lexer) : Nat → List Int
      | 0 => []
      | k + 1 => let l' := l.advance read false; l'.lookahead :: go l' k
    let l0 := l.start read
    l0.lookahead :: go l0 (n + 1)

def wDoc : List Nat := [0x61, 0xc3, 0xa9, 0x20, 0x58, 0x58, 0x20, 0x62]      -- "aé XX b"
def wRanges : List TSRange := [⟨⟨0,0⟩,⟨0,2⟩,0,2⟩, ⟨⟨0,6⟩,⟨0,8⟩,6,8⟩]           -- first range ends inside `é`
def wConcat : List Nat := [0x61, 0xc3, 0x20, 0x62]
def wholeRead (doc : List Nat) : Read := fun p => doc.drop p

/-- Over `(doc, ranges)` the lexer sees `a é ␠ b`; over the concatenation `61 C3 20 62` it sees
`a ERROR ␠ b`: without `RangesOnCharBoundaries` the two character streams differ. -/
theorem char_split_witness :
    lookaheads (wholeRead wDoc) ((({} : Lexer).setIncludedRanges wRanges).1.setInput) 3 = [0x61, 0xe9, 0x20, 0x62] ∧
    lookaheads (wholeRead wConcat) (({} : Lexer).setInput) 3 = [0x61, -1, 0x20, 0x62] :=
  ⟨rfl, rfl⟩

end TsVerif.C13
