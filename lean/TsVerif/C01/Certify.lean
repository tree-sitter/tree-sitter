import TsVerif.C01.Model
import TsVerif.C01.LR
import TsVerif.C01.GateLoop
/-!
# C01 — the LR machine on the REAL tables: whole-document validation and reuse certificates

`LRData` is the machine's table built from the dump of the real `TSLanguage` (`cunit_c01`: the
action list of every (state, token) through `ts_language_table_entry`, the gotos through
`ts_language_next_state`).  Repetition shifts are dropped (the parser skips them); a (state, token)
pair with more than one remaining action is *ambiguous* (GLR) and ends a certification attempt.

* `validateDocument`: the machine, fed with the leaves of a real error-free from-scratch tree, must
  halt on `end` with exactly that tree (compared on the visible structure) — ties `LR.step` to
  `ts_parser__advance` / `ts_parser__reduce` / `ts_parser__accept` (T-corr (b) of the design).
* `certifyReuse`: for a subtree `t` that the real incremental parse reused (same heap node in the
  old and in the new tree), run the machine from `t`'s parse state on an empty frame over `t`'s
  tokens and the tokens that follow it in the new tree; it must build `t` (visible structure, token
  count) in front of the follower.  That run is the certificate `LR.ReuseOK` of `LR.IncrRun.reuse`
  (with `j` = the shifts of the following extras), so `incr_eq_scratch` applies to the real event.
-/
namespace TsVerif.C01
open TsGen TsVerif

structure LRData where
  table : LR.Table
  /-- all (non-repetition) actions of an entry — more than one at GLR entries -/
  actions : Nat → Nat → List LR.Action := fun _ _ => []
  ambiguous : Nat → Nat → Bool
  visible : Nat → Bool
  tokenCount : Nat

def tokOf (d : NodeData) : Tok :=
  { sym := d.symbol, pad := d.padding.bytes, size := d.size.bytes, la := d.lookahead }

mutual
  /-- Token leaves of a dump (childless NON-TERMINALS, produced by empty reductions, are not tokens). -/
  def leavesOf (tc : Nat) (t : Tree) (acc : Array (Tok × Bool)) : Array (Tok × Bool) :=
    match t with
    | .mk d [] => if d.symbol < tc then acc.push (tokOf d, d.extra) else acc
    | .mk _ (k :: ks) => leavesOfL tc (k :: ks) acc
  def leavesOfL (tc : Nat) (ks : List Tree) (acc : Array (Tok × Bool)) : Array (Tok × Bool) :=
    match ks with
    | [] => acc
    | k :: rest => leavesOfL tc rest (leavesOf tc k acc)
end

mutual
  /-- (depth, symbol) of the visible nodes of a dump subtree (`force`: the root is always listed). -/
  def shapeT (t : Tree) (depth : Nat) (force : Bool) (acc : Array (Nat × Nat)) : Array (Nat × Nat) :=
    match t with
    | .mk d ks =>
      if d.visible || force then shapeTL ks (depth + 1) (acc.push (depth, d.symbol))
      else shapeTL ks depth acc
  def shapeTL (ks : List Tree) (depth : Nat) (acc : Array (Nat × Nat)) : Array (Nat × Nat) :=
    match ks with
    | [] => acc
    | k :: rest => shapeTL rest depth (shapeT k depth false acc)
end

mutual
  def shapeP (vis : Nat → Bool) (t : LR.PTree) (depth : Nat) (force : Bool) (acc : Array (Nat × Nat)) : Array (Nat × Nat) :=
    match t with
    | .leaf k => if vis k.sym || force then acc.push (depth, k.sym) else acc
    | .node s ks =>
      if vis s || force then shapePL vis ks (depth + 1) (acc.push (depth, s))
      else shapePL vis ks depth acc
  def shapePL (vis : Nat → Bool) (ks : List LR.PTree) (depth : Nat) (acc : Array (Nat × Nat)) : Array (Nat × Nat) :=
    match ks with
    | [] => acc
    | k :: rest => shapePL vis rest depth (shapeP vis k depth false acc)
end

inductive Cert where
  | ok (steps : Nat)
  | stuck (msg : String)
  | ambiguous
  | mismatch (msg : String)

/-- Is the relative stack "extras above exactly one non-extra node for `A` with `n` tokens"? -/
def targetEntry (st : LR.Stack) (A n : Nat) (wantExtra : Bool := false) : Option LR.Entry :=
  -- a reused NON-TERMINAL EXTRA (e.g. a comment node) is itself pushed as an extra entry
  match (if wantExtra then st else st.filter (fun e => !e.extra)) with
  | [e] =>
    match e.tree with
    | .node s _ => if s == A && LR.PTree.tokens e.tree == n then some e else none
    | .leaf _ => none
  | _ => none

/-- Run the machine from state `s` on an empty frame over `w ++ u` until `t` (symbol `A`, `|w|`
tokens, visible structure `shape`) stands in front of the last token of `u`. -/
def certifyReuse (L : LRData) (s A : Nat) (w u : List Tok) (shape : Array (Nat × Nat)) (isExtra : Bool := false) : Cert := Id.run do
  let mut st : LR.Stack := []
  let mut inp := w ++ u
  let fuel := 4 * (w.length + u.length) + 16
  for i in [0:fuel] do
    if inp.length == 1 then
      if let some e := targetEntry st A w.length isExtra then
        if e.state != L.table.goto s A then return .mismatch s!"state {e.state} ≠ goto({s},{A})"
        let got := shapeP L.visible e.tree 0 true #[]
        if got == shape then return .ok i
        else return .mismatch s!"machine built a different subtree for symbol {A} from state {s}"
    if L.table.noLookahead (LR.top s st) then
      match LR.step L.table s st inp with
      | some (st', inp') => st := st'; inp := inp'
      | none => return .stuck s!"no reduction at the end of a non-terminal extra in state {LR.top s st}"
    else
    match inp with
    | [] => return .stuck "input exhausted"
    | x :: _ =>
      if L.ambiguous (LR.top s st) x.sym then return .ambiguous
      match LR.step L.table s st inp with
      | some (st', inp') => st := st'; inp := inp'
      | none => return .stuck s!"no step in state {LR.top s st} on token {x.sym}"
  return .stuck "fuel"

/-- The machine on a whole error-free document (leaves of the real scratch tree, `end` last). -/
def validateDocument (L : LRData) (start : Nat) (root : Tree) : Cert := Id.run do
  let toks := ((leavesOf L.tokenCount root #[]).map (·.1)).toList
  let mut st : LR.Stack := []
  let mut inp := toks
  let fuel := 6 * toks.length + 32
  for i in [0:fuel] do
    if L.table.noLookahead (LR.top start st) then
      match LR.step L.table start st inp with
      | some (st', inp') => st := st'; inp := inp'
      | none => return .stuck s!"no reduction at the end of a non-terminal extra in state {LR.top start st}"
    else
    match inp with
    | [] => return .stuck "input exhausted before accept"
    | x :: _ =>
      if L.ambiguous (LR.top start st) x.sym then return .ambiguous
      if L.table.action (LR.top start st) x.sym == .accept then
        -- ts_parser__accept: everything on the stack becomes the root's children
        match (st.filter (fun e => !e.extra)) with
        | [r] =>
          match r.tree with
          | .node rs rk =>
            let mut got : Array (Nat × Nat) := #[(0, rs)]
            for e in st.reverse do
              if e.extra then got := shapeP L.visible e.tree 1 false got
              else got := shapePL L.visible rk 1 got
            let want := shapeT root 0 true #[]
            if got == want then return .ok i
            else return .mismatch s!"machine tree differs from the real scratch tree ({got.size} vs {want.size} visible nodes)"
          | .leaf _ => return .mismatch "root is a leaf"
        | _ => return .stuck "accept with more than one non-extra entry"
      match LR.step L.table start st inp with
      | some (st', inp') => st := st'; inp := inp'
      | none => return .stuck s!"no step in state {LR.top start st} on token {x.sym}"
  return .stuck "fuel"

/-! ### GLR entries: a bounded version list (validation only — the theorems are about the
deterministic machine)

At an entry with several actions every action is tried on a copy of the stack (what
`ts_parser__advance` does with stack versions); versions that cannot move are dropped; at most
`maxVersions` are kept.  A document / certificate is accepted when SOME version produces the real
tree (the real parser picks among the finished versions by dynamic precedence and error cost,
which is not modelled). -/

def maxVersions : Nat := 24

/-- One step of one version with a specific action. -/
def stepWith (T : LR.Table) (bottom : Nat) (a : LR.Action) (st : LR.Stack) (inp : List Tok) : Option (LR.Stack × List Tok) :=
  LR.step { T with action := fun _ _ => a } bottom st inp

/-- All successors of a version (empty when it is stuck or accepts). -/
def successors (L : LRData) (bottom : Nat) (st : LR.Stack) (inp : List Tok) : List (LR.Stack × List Tok) :=
  if L.table.noLookahead (LR.top bottom st) then (LR.step L.table bottom st inp).toList else
  match inp with
  | [] => []
  | x :: _ => (L.actions (LR.top bottom st) x.sym).filterMap (fun a => stepWith L.table bottom a st inp)

/-- GLR variant of `certifyReuse`. -/
def certifyReuseGLR (L : LRData) (s A : Nat) (w u : List Tok) (shape : Array (Nat × Nat)) (isExtra : Bool := false) : Cert := Id.run do
  let mut versions : List (LR.Stack × List Tok) := [([], w ++ u)]
  let fuel := 4 * (w.length + u.length) + 16
  for i in [0:fuel] do
    let mut next : List (LR.Stack × List Tok) := []
    for (st, inp) in versions do
      if inp.length == 1 then
        if let some e := targetEntry st A w.length isExtra then
          if e.state == L.table.goto s A && shapeP L.visible e.tree 0 true #[] == shape then return .ok i
      next := next ++ successors L s st inp
    if next.isEmpty then return .stuck "all versions stuck"
    versions := next.take maxVersions
  return .stuck "fuel"

/-- GLR variant of `validateDocument`: some version must accept with the real tree. -/
def validateDocumentGLR (L : LRData) (start : Nat) (root : Tree) : Cert := Id.run do
  let toks := ((leavesOf L.tokenCount root #[]).map (·.1)).toList
  let want := shapeT root 0 true #[]
  let mut versions : List (LR.Stack × List Tok) := [([], toks)]
  let mut capped := false   -- versions were dropped by the cap: a failure then proves nothing
  let fuel := 6 * toks.length + 32
  for i in [0:fuel] do
    let mut next : List (LR.Stack × List Tok) := []
    for (st, inp) in versions do
      match inp with
      | [] => pure ()
      | x :: _ =>
        if !L.table.noLookahead (LR.top start st) && (L.actions (LR.top start st) x.sym).contains .accept then
          match (st.filter (fun e => !e.extra)) with
          | [r] =>
            match r.tree with
            | .node rs rk =>
              let mut got : Array (Nat × Nat) := #[(0, rs)]
              for e in st.reverse do
                if e.extra then got := shapeP L.visible e.tree 1 false got
                else got := shapePL L.visible rk 1 got
              if got == want then return .ok i
            | .leaf _ => pure ()
          | _ => pure ()
        next := next ++ successors L start st inp
    if next.isEmpty then
      return if capped then .stuck "version cap" else .mismatch "no version of the GLR machine accepts with the real scratch tree"
    if next.length > maxVersions then capped := true
    versions := next.take maxVersions
  return .stuck "fuel"

/-! ### `LexLocal` / `relex_same` evaluated on the real lexer

Hypothesis of `relex_before`/`relex_after`/`incr_eq_scratch_tokens`: a token the edit did not reach
re-lexes to itself.  On real data: every leaf of the EDITED old tree (offsets are already in new
coordinates) that is not marked `has_changes` is compared with the leaf of the from-scratch tree at
the same offset with the same symbol that was lexed in the same parse state (same lex mode):
padding, size and `lookahead_bytes` must be equal.  Tokens whose window meets an included-range
difference are exempt (the hypothesis of `relex_same_ranges`). -/

mutual
  def leavesAt (t : Tree) (off : Nat) (acc : Array (Nat × NodeData)) : Array (Nat × NodeData) :=
    match t with
    | .mk d [] => acc.push (off, d)
    | .mk _ (k :: ks) => leavesAtL (k :: ks) off acc
  def leavesAtL (ks : List Tree) (off : Nat) (acc : Array (Nat × NodeData)) : Array (Nat × NodeData) :=
    match ks with
    | [] => acc
    | k :: rest => leavesAtL rest (off + k.totalBytes) (leavesAt k off acc)
end

structure RelexStats where
  checked : Nat := 0
  equal : Nat := 0
  bad : Option String := none

def relexCheck (oldEdited scratch : Tree) (diffs : List (Nat × Nat)) (oldEnd : Option Nat) : RelexStats := Id.run do
  let sl := leavesAt scratch 0 #[]
  let mut st : RelexStats := {}
  let mut j := 0
  for (o, d) in leavesAt oldEdited 0 #[] do
    -- the EOF token is not a token in the sense of LexLocal (its padding is everything the lexer skipped to the end)
    if d.hasChanges || d.isMissing || d.symbol == symError || d.symbol == symEnd then continue
    -- tokens whose examined window meets an included-range difference are not claimed (relex_same_ranges)
    if rangeIntersects diffs o (diffSpanEnd (.mk d []) o oldEnd) then continue
    while j < sl.size && sl[j]!.1 < o do j := j + 1
    -- candidates: scratch leaves at the same offset, same symbol, same parse state
    let mut k := j
    let mut found := false
    let mut same := false
    while k < sl.size && sl[k]!.1 == o do
      let e := sl[k]!.2
      if e.symbol == d.symbol && e.parseState == d.parseState && e.isKeyword == d.isKeyword then
        found := true
        if decide (e.padding = d.padding) && decide (e.size = d.size) && e.lookahead == d.lookahead then same := true
      k := k + 1
    if found then
      st := { st with checked := st.checked + 1 }
      if same then st := { st with equal := st.equal + 1 }
      else st := { st with bad := st.bad <|> some s!"unmarked old token of symbol {d.symbol} at offset {o} (size {d.size.bytes}, lookahead {d.lookahead}) is lexed differently from scratch in the same parse state" }
  return st

/-! ### The gate-driven loop (`LR.gloop`) on real trees

For token-preserving re-parses (the old and the new tree have the same number of token leaves with
the same symbols — same-kind replacements, whitespace edits) the edited old dump is turned into an
`LR.OTree` (marks = `has_changes`, states = `parse_state`, leaf tokens = the NEW tree's tokens by
index) and `LR.gloop` is run on the real table: it must accept with the real from-scratch tree.
Reported: how many inner nodes the model loop pushed whole. -/

mutual
  def toOTree (tc : Nat) (toks : Array Tok) (t : Tree) (idx : Nat) : LR.OTree × Nat :=
    match t with
    | .mk d [] =>
      if d.symbol < tc then (.leaf d.hasChanges (toks[idx]?.getD (tokOf d)), idx + 1)
      else (.node d.hasChanges d.parseState d.symbol [], idx)
    | .mk d (k :: ks) =>
      let (kids, idx') := toOTreeL tc toks (k :: ks) idx
      -- a NON-TERMINAL EXTRA (comment node) would have to be pushed as an extra entry, which `reuseStep`
      -- does not model: the loop model descends into it (re-shifts its tokens) instead
      (.node (d.hasChanges || d.extra) d.parseState d.symbol kids, idx')
  def toOTreeL (tc : Nat) (toks : Array Tok) (ks : List Tree) (idx : Nat) : List LR.OTree × Nat :=
    match ks with
    | [] => ([], idx)
    | k :: rest =>
      let (o, i1) := toOTree tc toks k idx
      let (os, i2) := toOTreeL tc toks rest i1
      (o :: os, i2)
end

/-- Run the gate loop; count reuse moves (stack grows by a node entry while the frontier shrinks). -/
def gloopRun (L : LRData) (start : Nat) (front : List LR.OTree) (fuel : Nat) : LR.Stack × List LR.OTree × Nat := Id.run do
  let mut st : LR.Stack := []
  let mut fr := front
  let mut reused := 0
  for _ in [0:fuel] do
    match fr with
    | .node false s _ (_ :: _) :: _ =>
      -- will this iteration push the candidate whole?
      match LR.gstep L.table start st fr with
      | some (st', fr') =>
        if fr'.length + 1 == fr.length && st'.length == st.length + 1 && s == LR.top start st then reused := reused + 1
        st := st'; fr := fr'
      | none => return (st, fr, reused)
    | _ =>
      match LR.gstep L.table start st fr with
      | some (st', fr') => st := st'; fr := fr'
      | none => return (st, fr, reused)
  return (st, fr, reused)

inductive LoopResult where
  | ok (reusedInner : Nat)
  | skipped
  | mismatch (msg : String)

/-- Is the table deterministic on everything this document touches?  (checked lazily: a GLR entry
makes `LR.step` see `.error`, the loop then stops early and the case is skipped) -/
def gloopValidate (L : LRData) (start : Nat) (oldEdited new scratch : Tree) : LoopResult :=
  let newToks := (leavesOf L.tokenCount new #[]).map (·.1)
  let oldToks := (leavesOf L.tokenCount oldEdited #[]).map (·.1)
  if newToks.size != oldToks.size || (newToks.zip oldToks).any (fun p => p.1.sym != p.2.sym) then .skipped
  else
    match oldEdited with
    | .mk _ rootKids =>
      let (front, _) := toOTreeL L.tokenCount newToks rootKids 0
      let (st, fr, reused) := gloopRun L start front (16 * (oldEdited.size + 8))
      -- the loop must stop in front of the EOF token with the machine accepting
      match LR.yieldL fr with
      | [x] =>
        if L.table.action (LR.top start st) x.sym != .accept then
          if L.ambiguous (LR.top start st) x.sym then .skipped else .mismatch s!"gate loop stopped in state {LR.top start st} without accepting"
        else
          match (st.filter (fun e => !e.extra)) with
          | [r] =>
            match r.tree with
            | .node rs rk => Id.run do
              let mut got : Array (Nat × Nat) := #[(0, rs)]
              for e in st.reverse do
                if e.extra then got := shapeP L.visible e.tree 1 false got
                else got := shapePL L.visible rk 1 got
              if got == shapeT scratch 0 true #[] then return .ok reused
              else return .mismatch "gate loop accepts with a tree different from the real from-scratch tree"
            | .leaf _ => .mismatch "root is a leaf"
          | _ => .skipped
      | _ => .skipped

/-- A reused subtree of the new tree together with its position in the new tree's token sequence. -/
structure Reused where
  tree : Tree
  first : Nat      -- index of its first token leaf
  count : Nat      -- number of token leaves

mutual
  /-- Maximal heap inner nodes of the new tree that are nodes of the old tree. `idx` = number of
  token leaves before the node. Returns (reused, idx after). -/
  def reusedOf (tc : Nat) (old : Nat → Bool) (t : Tree) (idx : Nat) (acc : Array Reused) : Array Reused × Nat :=
    match t with
    | .mk d [] => (acc, if d.symbol < tc then idx + 1 else idx)
    | .mk d (k :: ks) =>
      if d.addr != 0 && old d.addr then
        let n := (leavesOf tc (.mk d (k :: ks)) #[]).size
        (acc.push { tree := .mk d (k :: ks), first := idx, count := n }, idx + n)
      else reusedOfL tc old (k :: ks) idx acc
  def reusedOfL (tc : Nat) (old : Nat → Bool) (ks : List Tree) (idx : Nat) (acc : Array Reused) : Array Reused × Nat :=
    match ks with
    | [] => (acc, idx)
    | k :: rest =>
      let (acc', idx') := reusedOf tc old k idx acc
      reusedOfL tc old rest idx' acc'
end

end TsVerif.C01
