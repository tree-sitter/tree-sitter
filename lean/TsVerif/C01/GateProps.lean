import TsVerif.C01.Model
/-!
# C01 — the reuse gate reads as its chain of tests

`reuseGate`, `canReuseFirstLeaf` and `rangeIntersects` are nested `if`s; `ite_eq_iff` unrolls them, so that a
verdict is given exactly when the tests before it pass and its own fails.
-/
namespace TsVerif.C01
open TsGen TsVerif

theorem ite_eq_iff {α : Sort _} {c : Prop} [Decidable c] {a b v : α} :
    (if c then a else b) = v ↔ c ∧ a = v ∨ ¬c ∧ b = v := by
  split <;> simp [*]

/-- Whatever the gate accepts satisfies every test of `ts_parser__reuse_node`. -/
theorem gate_refuses (L : Lang) (diffs : List (Nat × Nat)) (t : Tree) (off pos state : Nat) (extEq lineDiff : Bool) (oldEnd : Option Nat)
    (h : reuseGate L diffs t off pos state extEq lineDiff oldEnd = .reuse) :
    off = pos ∧ extEq = true ∧ t.data.hasChanges = false ∧ t.data.symbol ≠ symError ∧
    t.data.isMissing = false ∧ t.data.fragileLeft = false ∧ t.data.fragileRight = false ∧
    rangeIntersects diffs off (diffSpanEnd t off oldEnd) = false ∧ lineDiff = false ∧
    canReuseFirstLeaf L state t (L.tableEntry state (leafSymbol t)) = true := by
  -- the last branch is reached only when no test fails
  simp only [reuseGate, ite_eq_iff, reduceCtorEq, and_false, and_true, false_or] at h
  simp [and_assoc] at h
  exact ⟨by omega, h.2.2⟩

theorem gate_accepts (L : Lang) (diffs : List (Nat × Nat)) (t : Tree) (off pos state : Nat) (extEq lineDiff : Bool) (oldEnd : Option Nat)
    (h1 : off = pos) (h2 : extEq = true) (h3 : t.data.hasChanges = false) (h4 : t.data.symbol ≠ symError)
    (h5 : t.data.isMissing = false) (h6 : t.data.fragileLeft = false) (h7 : t.data.fragileRight = false)
    (h8 : rangeIntersects diffs off (diffSpanEnd t off oldEnd) = false) (h8' : lineDiff = false)
    (h9 : canReuseFirstLeaf L state t (L.tableEntry state (leafSymbol t)) = true) :
    reuseGate L diffs t off pos state extEq lineDiff oldEnd = .reuse := by
  subst h1
  unfold reuseGate
  simp [h2, h3, h4, h5, h6, h7, h8, h8', h9]

/-- For the first six verdicts, in the order of the C code: each is given exactly when the tests before it pass
and its own test fails.  (The later refusals are read off `refusalReasons` at the parser position:
`reuseGate_at_pos`, `refusal_reasons_sound`.) -/
theorem gate_verdict_complete (L : Lang) (diffs : List (Nat × Nat)) (t : Tree) (off pos state : Nat) (extEq lineDiff : Bool) (oldEnd : Option Nat) :
    (reuseGate L diffs t off pos state extEq lineDiff oldEnd = .before ↔ off > pos) ∧
    (reuseGate L diffs t off pos state extEq lineDiff oldEnd = .past ↔ off < pos) ∧
    (reuseGate L diffs t off pos state extEq lineDiff oldEnd = .extState ↔ off = pos ∧ extEq = false) ∧
    (reuseGate L diffs t off pos state extEq lineDiff oldEnd = .hasChanges ↔ off = pos ∧ extEq = true ∧ t.data.hasChanges = true) ∧
    (reuseGate L diffs t off pos state extEq lineDiff oldEnd = .isError ↔
      off = pos ∧ extEq = true ∧ t.data.hasChanges = false ∧ t.data.symbol = symError) ∧
    (reuseGate L diffs t off pos state extEq lineDiff oldEnd = .isMissing ↔
      off = pos ∧ extEq = true ∧ t.data.hasChanges = false ∧ t.data.symbol ≠ symError ∧ t.data.isMissing = true) := by
  simp only [reuseGate, ite_eq_iff, reduceCtorEq, and_false, and_true, false_or, or_false]
  simp [Nat.le_antisymm_iff, and_assoc]
  omega

/-- At the parser position and behind an equal scanner state the verdict is the first reason of the
refusal block; when no test of the block fails, the first-leaf test decides. -/
theorem reuseGate_at_pos (L : Lang) (diffs : List (Nat × Nat)) (t : Tree) (off state : Nat) (lineDiff : Bool)
    (oldEnd : Option Nat) :
    reuseGate L diffs t off off state true lineDiff oldEnd =
      (refusalReasons diffs t off lineDiff oldEnd).headD
        (if !canReuseFirstLeaf L state t (L.tableEntry state (leafSymbol t)) then .firstLeaf else .reuse) := by
  have hd (c : Prop) [Decidable c] (v d : Verdict) (l : List Verdict) :
      ((if c then [v] else []) ++ l).headD d = if c then v else l.headD d := by
    split <;> rfl
  rw [refusalReasons, ← List.append_nil (if (_ || lineDiff) = true then _ else _)]
  simp only [List.append_assoc, hd]
  -- the C code tests the range differences and the line difference one after the other
  cases lineDiff <;> simp [reuseGate]

/-- Every member of `refusalReasons` is a test that really fails for the
candidate; when the list is empty the verdict is `reuse` or `firstLeaf` (the first-leaf test decides), and
when it is non-empty the verdict is its FIRST member.  (The replay accepts a logged reason that is any member:
a harmless reordering of the independent tests changes the logged reason, never the decision.) -/
theorem refusal_reasons_sound (L : Lang) (diffs : List (Nat × Nat)) (t : Tree) (off state : Nat) (lineDiff : Bool) (oldEnd : Option Nat) :
    (Verdict.hasChanges ∈ refusalReasons diffs t off lineDiff oldEnd ↔ t.data.hasChanges = true) ∧
    (Verdict.isError ∈ refusalReasons diffs t off lineDiff oldEnd ↔ t.data.symbol = symError) ∧
    (Verdict.isMissing ∈ refusalReasons diffs t off lineDiff oldEnd ↔ t.data.isMissing = true) ∧
    (Verdict.isFragile ∈ refusalReasons diffs t off lineDiff oldEnd ↔ (t.data.fragileLeft || t.data.fragileRight) = true) ∧
    (Verdict.rangeDiff ∈ refusalReasons diffs t off lineDiff oldEnd ↔
      (rangeIntersects diffs off (diffSpanEnd t off oldEnd) || lineDiff) = true) ∧
    (refusalReasons diffs t off lineDiff oldEnd = [] →
      reuseGate L diffs t off off state true lineDiff oldEnd = .reuse ∨
      reuseGate L diffs t off off state true lineDiff oldEnd = .firstLeaf) ∧
    (∀ r rest, refusalReasons diffs t off lineDiff oldEnd = r :: rest →
      reuseGate L diffs t off off state true lineDiff oldEnd = r) := by
  rw [reuseGate_at_pos]
  simp only [refusalReasons, List.mem_append, List.mem_ite_nil_right, List.mem_singleton, reduceCtorEq,
    and_false, or_false, false_or, and_true, true_and]
  refine ⟨fun h => ?_, fun r rest h => ?_⟩
  · rw [h]
    cases canReuseFirstLeaf L state t (L.tableEntry state (leafSymbol t)) <;> simp
  · rw [h]
    rfl

theorem descend_eq_some {it it' : Iter} (h : it.descend = some it') :
    ∃ t c cs, it.tree? = some t ∧ t.kids = c :: cs ∧ it'.tree? = some c ∧ it'.byteOffset = it.byteOffset := by
  unfold Iter.descend at h
  split at h <;> try contradiction
  rename_i hst
  split at h <;> try contradiction
  rename_i hk
  cases h
  exact ⟨_, _, _, by simp [Iter.tree?, hst], hk, rfl, by simp [Iter.byteOffset, hst]⟩

theorem descend_eq_none {it : Iter} {t : Tree} (h : it.descend = none) (ht : it.tree? = some t) : t.kids = [] := by
  unfold Iter.descend at h
  split at h
  · rename_i hst; simp [Iter.tree?, hst] at ht
  · rename_i hst
    split at h <;> try contradiction
    rename_i hk
    simp only [Iter.tree?, hst, List.head?_cons, Option.map_some, Option.some.injEq] at ht
    rw [← ht]; exact hk

/-- Breaking a reused look-ahead down to its first children never moves it —
the node finally shifted starts at the same byte as the node the gate accepted. -/
theorem breakdown_offset : ∀ (fuel : Nat) (it : Iter) (state : Nat),
    (Iter.breakdown fuel it state).byteOffset = it.byteOffset
  | 0, it, _ => rfl
  | fuel + 1, it, state => by
    unfold Iter.breakdown
    split <;> try rfl
    split <;> try rfl
    split <;> try rfl
    rename_i it' hd
    obtain ⟨_, _, _, _, _, _, ho⟩ := descend_eq_some hd
    rw [breakdown_offset fuel it' state, ho]

/-- With enough fuel the node it ends on is a leaf or was built in the current
parse state (what the shift that follows relies on). -/
theorem breakdown_stops : ∀ (fuel : Nat) (it : Iter) (state : Nat) (t : Tree),
    (Iter.breakdown fuel it state).tree? = some t → (∀ t0, it.tree? = some t0 → t0.size ≤ fuel) →
    needsBreakdown t state = false
  | 0, it, state, t, h, hf => by
    have := hf t h
    cases t with
    | mk d ks => simp [Tree.size] at this
  | fuel + 1, it, state, t, h, hf => by
    unfold Iter.breakdown at h
    split at h
    · rename_i hn; rw [hn] at h; contradiction
    · rename_i t0 ht0
      split at h
      · rename_i hnb
        split at h
        · rename_i it' hd
          obtain ⟨t1, c, cs, ht1, hk, hc, _⟩ := descend_eq_some hd
          cases Option.some.inj (ht0.symm.trans ht1)
          refine breakdown_stops fuel it' state t h fun t2 ht2 => ?_
          cases Option.some.inj (hc.symm.trans ht2)
          -- the first child is strictly smaller than its parent
          have := hf t0 ht0
          cases t0 with
          | mk d ks =>
            cases hk
            simp only [Tree.size, Tree.sizeList] at this
            omega
        · -- descend impossible although the node has children: contradiction with needsBreakdown
          rename_i hd
          simp [needsBreakdown, descend_eq_none hd ht0] at hnb
      · rename_i hnb
        cases Option.some.inj (ht0.symm.trans h)
        simpa using hnb

theorem canReuseFirstLeaf_iff (L : Lang) (state : Nat) (t : Tree) (te : TableEntry) :
    canReuseFirstLeaf L state t te = true ↔
    (L.lexMode state).lexState ≠ noLexState ∧
    ((te.actionCount > 0 ∧ L.lexMode (leafState t) = L.lexMode state ∧
        (leafSymbol t ≠ L.keywordCaptureToken ∨ (t.data.isKeyword = false ∧ t.data.parseState = state))) ∨
      ((t.data.size.bytes ≠ 0 ∨ leafSymbol t = symEnd) ∧
        (L.lexMode state).extLexState = 0 ∧ te.reusable = true)) := by
  -- on the way to `true` each test of the C function contributes its condition or its negation
  simp only [canReuseFirstLeaf, ite_eq_iff, reduceCtorEq, and_false, and_true, false_or, Bool.and_eq_true,
    decide_eq_true_eq]
  -- the second way need not repeat that the shortcut failed
  have hor (A X : Prop) [Decidable A] : (A ∨ ¬A ∧ X) ↔ (A ∨ X) := by
    by_cases A <;> simp [*]
  simp only [hor]
  simp only [Decidable.not_and_iff_not_or_not, Decidable.not_not, ne_eq]

/-- A leaf (first leaf of a subtree) is reused in a state with a DIFFERENT lex mode only if the
node is non-empty (or is the EOF token), the table entry is marked reusable and no external
tokens are valid in the current state. -/
theorem first_leaf_other_mode (L : Lang) (state : Nat) (t : Tree) (te : TableEntry)
    (h : canReuseFirstLeaf L state t te = true)
    (hm : L.lexMode (leafState t) ≠ L.lexMode state) :
    (L.lexMode state).lexState ≠ noLexState ∧ (t.data.size.bytes ≠ 0 ∨ leafSymbol t = symEnd) ∧
    (L.lexMode state).extLexState = 0 ∧ te.reusable = true := by
  obtain ⟨h0, hA | hB⟩ := (canReuseFirstLeaf_iff L state t te).1 h
  · exact absurd hA.2.1 hm
  · exact ⟨h0, hB⟩

/-- In the SAME lex mode a leaf with at least one action is reusable unless it is the keyword
capture token lexed as a keyword or in another parse state. -/
theorem first_leaf_same_mode (L : Lang) (state : Nat) (t : Tree) (te : TableEntry)
    (h0 : (L.lexMode state).lexState ≠ noLexState) (h1 : te.actionCount > 0)
    (h2 : L.lexMode (leafState t) = L.lexMode state)
    (h3 : leafSymbol t ≠ L.keywordCaptureToken ∨ (t.data.isKeyword = false ∧ t.data.parseState = state)) :
    canReuseFirstLeaf L state t te = true :=
  (canReuseFirstLeaf_iff L state t te).2 ⟨h0, Or.inl ⟨h1, h2, h3⟩⟩

/-- At the end of a non-terminal extra (lex state −1) nothing is reused. -/
theorem first_leaf_after_nonterminal_extra (L : Lang) (state : Nat) (t : Tree) (te : TableEntry)
    (h : (L.lexMode state).lexState = noLexState) : canReuseFirstLeaf L state t te = false :=
  Bool.eq_false_iff.2 fun hc => ((canReuseFirstLeaf_iff L state t te).1 hc).1 h

/-- The keyword capture token (an identifier that might be a keyword elsewhere) that was lexed as a
keyword, or in another parse state, is reused only through the `reusable` entry of a state
without external tokens — never through the "same lex mode" shortcut. -/
theorem first_leaf_keyword (L : Lang) (state : Nat) (t : Tree) (te : TableEntry)
    (h : canReuseFirstLeaf L state t te = true)
    (hk : leafSymbol t = L.keywordCaptureToken)
    (hs : t.data.isKeyword = true ∨ t.data.parseState ≠ state) :
    (L.lexMode state).extLexState = 0 ∧ te.reusable = true := by
  obtain ⟨_, ⟨_, _, hne | ⟨h1, h2⟩⟩ | hB⟩ := (canReuseFirstLeaf_iff L state t te).1 h
  · exact absurd hk hne
  · rcases hs with hs | hs
    · rw [h1] at hs; contradiction
    · exact absurd h2 hs
  · exact hB.2

/-- Without actions and without the reusable flag nothing is reused (an invalid token). -/
theorem first_leaf_needs_entry (L : Lang) (state : Nat) (t : Tree) (te : TableEntry)
    (h1 : te.actionCount = 0) (h2 : te.reusable = false) : canReuseFirstLeaf L state t te = false :=
  Bool.eq_false_iff.2 fun hc => by
    obtain ⟨_, hA | hB⟩ := (canReuseFirstLeaf_iff L state t te).1 hc
    · omega
    · rw [h2] at hB; exact absurd hB.2.2 (by decide)

/-- Differences are stored sorted and disjoint (what `ts_range_array_get_changed_ranges` builds). -/
def RangesSorted : List (Nat × Nat) → Prop
  | [] => True
  | (a, b) :: rest => a ≤ b ∧ (∀ r ∈ rest, b ≤ r.1) ∧ RangesSorted rest

theorem rangeIntersects_complete (rs : List (Nat × Nat)) (s e : Nat)
    (h : rangeIntersects rs s e = true) : ∃ r ∈ rs, r.1 < e ∧ s < r.2 := by
  induction rs with
  | nil => simp [rangeIntersects] at h
  | cons r rest ih =>
    obtain ⟨a, b⟩ := r
    simp only [rangeIntersects, ite_eq_iff, reduceCtorEq, and_false, and_true, false_or] at h
    rcases h with ⟨h1, h2⟩ | ⟨_, h⟩
    · exact ⟨(a, b), List.mem_cons_self, by dsimp only; omega⟩
    · obtain ⟨r, hr, h1⟩ := ih h
      exact ⟨r, List.mem_cons_of_mem _ hr, h1⟩

/-- the direction reuse rests on (`false` ⇒ no difference overlaps); sortedness is needed because the C loop stops
at the first range that ends behind `s` (`rangeIntersects_complete`, `true` ⇒ some difference overlaps, needs none) -/
theorem rangeIntersects_sound (rs : List (Nat × Nat)) (s e : Nat) (hs : RangesSorted rs)
    (h : rangeIntersects rs s e = false) : ∀ r ∈ rs, ¬ (r.1 < e ∧ s < r.2) := by
  induction rs with
  | nil => simp
  | cons r rest ih =>
    obtain ⟨a, b⟩ := r
    obtain ⟨hab, hrest, hsorted⟩ := hs
    simp only [rangeIntersects, ite_eq_iff, reduceCtorEq, and_false, and_true, or_false] at h
    intro r hr
    rcases List.mem_cons.1 hr with rfl | hr
    · dsimp only; omega
    · rcases h with ⟨_, _⟩ | ⟨_, h⟩
      · have := hrest r hr
        omega
      · exact ih hsorted h r hr

/-- Differences ending at or before the start of the span never matter, so
the parser's `included_range_difference_index` (which skips exactly those) is only an optimisation. -/
theorem rangeIntersects_skip (pre rs : List (Nat × Nat)) (s e : Nat) (h : ∀ r ∈ pre, r.2 ≤ s) :
    rangeIntersects (pre ++ rs) s e = rangeIntersects rs s e := by
  induction pre with
  | nil => rfl
  | cons r rest ih =>
    obtain ⟨a, b⟩ := r
    have hb : ¬ (b > s) := by
      have := h (a, b) List.mem_cons_self
      dsimp only at this; omega
    simp only [List.cons_append, rangeIntersects, hb, if_false]
    exact ih (fun r hr => h r (List.mem_cons_of_mem _ hr))

end TsVerif.C01
