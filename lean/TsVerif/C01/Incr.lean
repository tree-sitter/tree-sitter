import TsVerif.C01.Lemmas
import TsVerif.C01.Skel
/-!
# C01 — an incremental run of the machine ends where the from-scratch run ends

`incr_reaches`: by induction over the reuse events; at a reuse the certificate gives two runs that meet
(`subtree_reuse_sound` lifts them above the stack and in front of the rest of the input), and the halted run
passes through their meeting point (`steps_to_halted`).
-/
namespace TsVerif.C01
open TsVerif

/-- Let the machine, started in state `s` on an EMPTY frame, turn the
tokens `w` followed by `u` into the configuration `c` in `k` steps (for the reuse of a subtree `t`:
`c` = `t` with its goto state, below the extras that follow it, in front of the next real token).
Then in ANY stack whose top state is `s`, on any input that starts with `w ++ u`, the same `k`
steps of the from-scratch machine produce `c` on top of that stack — the stack below and the
input behind `u` are irrelevant. -/
theorem subtree_reuse_sound (T : LR.Table) (s k : Nat) (w u : List Tok) (c : LR.Stack × List Tok)
    (hbuilt : LR.steps T s k [] (w ++ u) = some c)
    (bottom : Nat) (base : LR.Stack) (hs : LR.top bottom base = s) (rest : List Tok) :
    LR.steps T bottom k base (w ++ u ++ rest) = some (c.1 ++ base, c.2 ++ rest) := by
  have h1 := LR.steps_append T s rest k [] (w ++ u) _ _ hbuilt
  rw [← hs] at h1
  have h2 := LR.steps_frame T bottom base k [] _ _ _ h1
  simpa using h2

/-- Every incremental run (machine steps interleaved with certified subtree
reuse) that ends in a configuration where the machine halts (accept, error, end of input) is
matched by a from-scratch run of the same machine ending in the same configuration. -/
theorem incr_reaches (T : LR.Table) (bottom : Nat) (l r : Nat) (c d : LR.Stack × List Tok)
    (h : LR.IncrRun T bottom l r c d) (hf : LR.step T bottom d.1 d.2 = none) :
    ∃ n, LR.steps T bottom n c.1 c.2 = some d := by
  induction h with
  | done c => exact ⟨0, rfl⟩
  | lexStep hs _ ih =>
    obtain ⟨n, hn⟩ := ih hf
    exact ⟨n + 1, by simp [LR.steps, hs, hn]⟩
  | @reuse st A t w u rest l r d hok _ ih =>
    obtain ⟨n, hn⟩ := ih hf
    obtain ⟨k, j, c0, hk, hj⟩ := hok
    -- both the scratch run over `w ++ u` and the reuse shortcut followed by `u` reach `c0`
    have hK := subtree_reuse_sound T _ k w u c0 hk bottom st rfl rest
    have hJ0 := LR.steps_append T (LR.top bottom st) rest j _ u _ _ hj
    have hJ := LR.steps_frame T bottom st j _ _ _ _ hJ0
    simp only [List.singleton_append] at hJ
    change LR.steps T bottom j (LR.reuseStep T bottom st A t) (u ++ rest) = _ at hJ
    refine ⟨k + (n - j), ?_⟩
    rw [LR.steps_add T bottom (n - j) k _ _ _ _ hK]
    exact LR.steps_to_halted T bottom n j _ _ _ d hn hf hJ

/-- On the machine (error-free, GLR-free; token and non-terminal extras): an
incremental parse — any interleaving of machine steps and gate-approved, certified subtree reuse —
that halts in configuration `d` ends exactly where the from-scratch parse of the same tokens ends:
with enough fuel `run` returns `d`, i.e. the same stack and hence the same tree. -/
theorem incr_eq_scratch (T : LR.Table) (bottom : Nat) (l r : Nat) (c d : LR.Stack × List Tok)
    (h : LR.IncrRun T bottom l r c d) (hf : LR.step T bottom d.1 d.2 = none) :
    ∃ n, ∀ m, LR.run T bottom (n + m) c.1 c.2 = d := by
  obtain ⟨n, hn⟩ := incr_reaches T bottom l r c d h hf
  refine ⟨n, fun m => ?_⟩
  rw [LR.run_steps T bottom m n _ _ _ _ hn]
  exact LR.run_final T bottom d hf m

/-- `LR.step` is `none` on `accept` as on an error: the machine halts in both; this tells them apart -/
def accepting (T : LR.Table) (bottom : Nat) (d : LR.Stack × List Tok) : Prop :=
  ∃ x rest, d.2 = x :: rest ∧ T.action (LR.top bottom d.1) x.sym = .accept

/-- The machine reports a syntax error in `d`: it cannot move and does not accept (in the real
parser this is where `ts_parser__handle_error` takes over — not modelled). -/
def erroring (T : LR.Table) (bottom : Nat) (d : LR.Stack × List Tok) : Prop :=
  LR.step T bottom d.1 d.2 = none ∧ ¬ accepting T bottom d

/-- On the machine, where an error is the machine being stuck: an incremental run that has
come to a halt reports an error iff the from-scratch run of the same tokens does, and accepts iff
it does — both are the same configuration by `incr_eq_scratch`. -/
theorem incr_error_iff (T : LR.Table) (bottom : Nat) (l r : Nat) (c d : LR.Stack × List Tok)
    (h : LR.IncrRun T bottom l r c d) (hf : LR.step T bottom d.1 d.2 = none) :
    ∃ n, ∀ m, (erroring T bottom (LR.run T bottom (n + m) c.1 c.2) ↔ erroring T bottom d) ∧
              (accepting T bottom (LR.run T bottom (n + m) c.1 c.2) ↔ accepting T bottom d) := by
  obtain ⟨n, hn⟩ := incr_eq_scratch T bottom l r c d h hf
  exact ⟨n, fun m => by rw [hn m]; exact ⟨Iff.rfl, Iff.rfl⟩⟩

/-- A step towards "stray = 0" of C12's `reparse_work_bound_partial`, for deterministic tables and an edit
that replaces ONE token by a token of the same symbol (the C12 measurement edits): the from-scratch run
on the new tokens passes, step for step, through stacks with exactly the parse states and extra flags
of the run on the old tokens.  This is what the reuse gate's `ts_subtree_parse_state(tree) == state`
test (and `breakdown_lookahead`'s) asks about a subtree that does not contain the replaced token; the
statement itself speaks of the two from-scratch runs only, not of the gate or of the old tree.

FULL STATEMENT (OPEN): an `LR.IncrRun` that reuses every maximal subtree not containing the
replaced token exists and is the run the gate-driven parser performs when no node is fragile
(`stray = 0`); needs the old-tree iterator and `breakdown_top_of_stack` inside the machine. -/
theorem gate_state_test_partial (T : LR.Table) (bottom k : Nat) (pre post : List Tok) (x x' : Tok)
    (hx : x'.sym = x.sym) (c : LR.Stack × List Tok)
    (hold : LR.steps T bottom k [] (pre ++ x :: post) = some c) :
    ∃ c', LR.steps T bottom k [] (pre ++ x' :: post) = some c' ∧
      c'.1.map (·.state) = c.1.map (·.state) ∧ c'.1.map (·.extra) = c.1.map (·.extra) ∧
      LR.top bottom c'.1 = LR.top bottom c.1 ∧ c'.2.length = c.2.length := by
  have hin : (pre ++ x :: post).map LR.skelTok = (pre ++ x' :: post).map LR.skelTok := by
    simp [LR.skelTok, hx]
  have h := steps_same_symbols T bottom k [] _ _ hin
  rw [hold] at h
  obtain ⟨c', hn, h⟩ := Option.map_eq_some_iff.1 h.symm
  obtain ⟨h1, h2⟩ := Prod.mk.inj h
  refine ⟨c', hn, ?_, ?_, ?_, ?_⟩
  · simpa [LR.skelE, List.map_map, Function.comp_def] using congrArg (List.map (·.state)) h1
  · simpa [LR.skelE, List.map_map, Function.comp_def] using congrArg (List.map (·.extra)) h1
  · rw [← LR.top_skel bottom c'.1, ← LR.top_skel bottom c.1, h1]
  · simpa using congrArg List.length h2

/-! ### "both … report an error": what is proved and what is judged only

PROVED (machine): `incr_error_iff` — a halted incremental run is stuck iff the from-scratch run of
the same tokens is stuck, in the SAME configuration (same stack, same remaining input, hence the
same first offending token); `stuck_same_symbols` — being stuck depends on states and token symbols
only.  So "the incremental parse detects an error iff the from-scratch parse does, at the same
token" holds for deterministic tables up to the FIRST error.

JUDGED ONLY (`judge`: both roots `has_error()` and `error_cost > 0` whenever the scratch dump
contains ERROR/MISSING; recovery SHAPES may differ and are not compared), i.e. everything
`ts_parser__handle_error` / `ts_parser__recover` / `ts_parser__condense_stack` do after the machine
is stuck:
* the choice between skipping tokens (`skip_token`), popping to a previous state
  (`recover_to_previous`), inserting MISSING tokens (`recover_with_missing`) and wrapping in ERROR,
  made by comparing error costs across stack VERSIONS (`ts_parser__compare_versions`,
  `MAX_COST_DIFFERENCE`, `ERROR_COST_PER_*`);
* lexing in the error state (lex mode of `ERROR_STATE`, `skip_unrecognized_character`), the
  `ERROR`-leaf for unrecognised characters, `ts_parser__better_version_exists`, pausing/resuming of
  versions, `MAX_VERSION_COUNT`;
* REUSE while recovering: old nodes reused in state 0 through the Recover action, old ERROR /
  MISSING / fragile nodes refused by the gate (`cant_reuse_node_is_error` … — the gate decision
  itself is proved and replayed, what recovery then builds from the pieces is not);
* that an erroneous intermediate tree, edited and re-parsed, yields a tree equal to scratch once
  the text is in the language again (histories "through erroneous states" — judged on every such
  step);
* `has_error` propagation (`error_cost` summation in `ts_subtree_summarize_children`), the
  `ts_node_has_error` API (C02's domain). -/

/-- Behind C12's `lex_calls_bound`: in an incremental run the tokens taken from the
lexer and the tokens skipped below reused subtrees add up to the tokens consumed; the tokens of a
reused subtree are never requested, and `lexed ≤ consumed − reused`. -/
theorem reused_not_lexed (T : LR.Table) (bottom : Nat) (l r : Nat) (c d : LR.Stack × List Tok)
    (h : LR.IncrRun T bottom l r c d) : l + r + d.2.length = c.2.length := by
  induction h with
  | done c => simp
  | lexStep hs _ ih =>
    have := LR.step_input T bottom _ _ _ _ hs
    simp only at ih ⊢
    omega
  | reuse _ _ ih =>
    simp only [List.length_append] at ih ⊢
    omega

end TsVerif.C01
