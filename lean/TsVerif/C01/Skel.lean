import TsVerif.C01.LR
/-!
# C01 — the machine looks only at token SYMBOLS

`skel` forgets everything about a token except its symbol.  `step` commutes with it
(`step_skel`): the states, actions and tree shapes of a run are determined by the sequence of token
symbols.  Consequence (`steps_same_symbols`): replacing tokens by tokens of the same symbols (the
C12 edits: a number by another number) leaves every parse state of the from-scratch run unchanged — the
states that the `ts_subtree_parse_state(tree) == state` test of the reuse gate /
`ts_parser__breakdown_lookahead` compares.
-/
namespace TsVerif.C01.LR
open TsVerif.C01

def skelTok (k : Tok) : Tok := { sym := k.sym, pad := 0, size := 0, la := 0 }

mutual
  def skel : PTree → PTree
    | .leaf k => .leaf (skelTok k)
    | .node s ks => .node s (skelL ks)
  def skelL : List PTree → List PTree
    | [] => []
    | k :: rest => skel k :: skelL rest
end

theorem skelL_map : ∀ ks : List PTree, skelL ks = ks.map skel
  | [] => rfl
  | k :: rest => by simp [skelL, skelL_map rest]

def skelE (e : Entry) : Entry := { e with tree := skel e.tree }

def skelCfg (c : Stack × List Tok) : Stack × List Tok := (c.1.map skelE, c.2.map skelTok)

theorem top_skel (bottom : Nat) (st : Stack) : top bottom (st.map skelE) = top bottom st := by
  cases st <;> rfl

theorem popN_skel : ∀ (st : Stack) (n : Nat),
    popN (st.map skelE) n = (popN st n).map (fun pr => (pr.1.map skelE, pr.2.map skelE))
  | st, 0 => by cases st <;> simp [popN]
  | [], n + 1 => by simp [popN]
  | e :: st, n + 1 => by
    simp only [List.map_cons, popN]
    have : (skelE e).extra = e.extra := rfl
    rw [this, popN_skel st]
    cases popN st (if e.extra = true then n + 1 else n) <;> simp

theorem pushReduced_skel (T : Table) (bottom A : Nat) (p : List Entry) (r : Stack) (x : Bool) :
    pushReduced T bottom A (p.map skelE) (r.map skelE) x = (pushReduced T bottom A p r x).map skelE := by
  simp only [pushReduced, top_skel, List.takeWhile_map, List.dropWhile_map, List.map_append, List.map_cons, List.map_map]
  congr 1
  simp only [skelE, skel, skelL_map, List.map_reverse, List.map_map]
  rfl

theorem step_skel (T : Table) (bottom : Nat) (st : Stack) (inp : List Tok) :
    step T bottom (st.map skelE) (inp.map skelTok) = (step T bottom st inp).map skelCfg := by
  unfold step
  rw [top_skel]
  have hred : ∀ (A n : Nat) (b : Bool) (inp : List Tok),
      (match popN (st.map skelE) n with
        | some (p, r) => some (pushReduced T bottom A p r b, inp.map skelTok)
        | none => none) =
      (match popN st n with
        | some (p, r) => some (pushReduced T bottom A p r b, inp)
        | none => none).map skelCfg := by
    intro A n b inp
    rw [popN_skel]
    cases popN st n <;> simp [skelCfg, pushReduced_skel]
  split
  · split
    · exact hred _ _ true inp
    · rfl
  · cases inp with
    | nil => rfl
    | cons x rest =>
      simp only [List.map_cons, show (skelTok x).sym = x.sym from rfl]
      split
      · rfl
      · rfl
      · exact hred _ _ false (x :: rest)
      · rfl
      · rfl

theorem steps_skel (T : Table) (bottom : Nat) : ∀ (k : Nat) (st : Stack) (inp : List Tok),
    steps T bottom k (st.map skelE) (inp.map skelTok) = (steps T bottom k st inp).map skelCfg
  | 0, st, inp => by simp [steps, skelCfg]
  | k + 1, st, inp => by
    unfold steps
    rw [step_skel]
    cases h : step T bottom st inp with
    | none => simp
    | some c =>
      obtain ⟨st', inp'⟩ := c
      simp only [Option.map_some, skelCfg]
      exact steps_skel T bottom k st' inp'

end TsVerif.C01.LR

namespace TsVerif.C01

/-- Two inputs with the same token symbols drive the machine through the same
states, actions and tree shapes. -/
theorem steps_same_symbols (T : LR.Table) (bottom k : Nat) (st : LR.Stack) (inp inp' : List Tok)
    (h : inp.map LR.skelTok = inp'.map LR.skelTok) :
    (LR.steps T bottom k st inp).map LR.skelCfg = (LR.steps T bottom k st inp').map LR.skelCfg := by
  rw [← LR.steps_skel, ← LR.steps_skel, h]

/-- Whether the machine is stuck (reports a syntax error) in a configuration
depends only on the parse states and the SYMBOL of the look-ahead token — error DETECTION is a
function of the token-symbol sequence, independent of positions, sizes and of how the tokens were
obtained (lexed or reused). -/
theorem stuck_same_symbols (T : LR.Table) (bottom : Nat) (st : LR.Stack) (inp : List Tok) :
    LR.step T bottom st inp = none ↔ LR.step T bottom (st.map LR.skelE) (inp.map LR.skelTok) = none := by
  rw [LR.step_skel]
  cases LR.step T bottom st inp <;> simp

end TsVerif.C01
