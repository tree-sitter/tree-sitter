import TsVerif.C01.LR
/-!
# C01 — lemmas about the LR machine

A run above a frame does not look below it nor at unread input; step counts add up; a step either keeps the
input (a reduce) or consumes its first token; incremental runs compose.
-/
namespace TsVerif.C01.LR
open TsVerif.C01

theorem top_append (bottom : Nat) (rel base : Stack) :
    top bottom (rel ++ base) = top (top bottom base) rel := by
  cases rel with
  | nil => rfl
  | cons p r => rfl

theorem popN_append : ∀ (rel : Stack) (n : Nat) (base : Stack) (p : List Entry) (r : Stack),
    popN rel n = some (p, r) → popN (rel ++ base) n = some (p, r ++ base)
  | rel, 0, base, p, r, h => by
    rw [popN] at h ⊢
    cases h; rfl
  | [], n + 1, base, p, r, h => by simp [popN] at h
  | e :: rel, n + 1, base, p, r, h => by
    simp only [popN, List.cons_append] at h ⊢
    split at h <;> try contradiction
    rename_i p1 _ h1
    cases h
    rw [popN_append rel _ base p1 r h1]

theorem pushReduced_append (T : Table) (bottom : Nat) (A : Nat) (p : List Entry) (r base : Stack) (x : Bool) :
    pushReduced T bottom A p (r ++ base) x = pushReduced T (top bottom base) A p r x ++ base := by
  simp [pushReduced, top_append]

/-- the common tail of the two reduce branches of `step` (at the end of a non-terminal extra; on a look-ahead) -/
theorem reduce_frame (T : Table) (bottom A n : Nat) (rel base : Stack) (b : Bool) (inp : List Tok) (c : Stack × List Tok)
    (h : (match popN rel n with
      | some (p, r) => some (pushReduced T (top bottom base) A p r b, inp)
      | none => none) = some c) :
    (match popN (rel ++ base) n with
      | some (p, r) => some (pushReduced T bottom A p r b, inp)
      | none => none) = some (c.1 ++ base, c.2) := by
  split at h
  · rename_i p r hp
    cases h
    simp only [popN_append rel n base p r hp, pushReduced_append]
  · contradiction

theorem step_frame (T : Table) (bottom : Nat) (rel base : Stack) (inp : List Tok) (rel' : Stack) (inp' : List Tok)
    (h : step T (top bottom base) rel inp = some (rel', inp')) :
    step T bottom (rel ++ base) inp = some (rel' ++ base, inp') := by
  unfold step at h ⊢
  rw [top_append]
  split
  · rw [if_pos ‹_›] at h
    split at h <;> try contradiction
    exact reduce_frame T bottom _ _ rel base true inp _ h
  · rw [if_neg ‹_›] at h
    split at h <;> try contradiction
    split at h <;> try contradiction
    · cases h; rfl
    · cases h; rfl
    · exact reduce_frame T bottom _ _ rel base false _ _ h

theorem steps_succ_eq_some {T : Table} {bottom k : Nat} {st : Stack} {inp : List Tok} {d : Stack × List Tok} :
    steps T bottom (k + 1) st inp = some d ↔
      ∃ st1 inp1, step T bottom st inp = some (st1, inp1) ∧ steps T bottom k st1 inp1 = some d := by
  rw [steps]
  rcases step T bottom st inp with _ | ⟨st1, inp1⟩
  · simp
  · exact ⟨fun h => ⟨_, _, rfl, h⟩, fun ⟨_, _, h1, h⟩ => by cases h1; exact h⟩

theorem steps_frame (T : Table) (bottom : Nat) (base : Stack) :
    ∀ (k : Nat) (rel : Stack) (inp : List Tok) (rel' : Stack) (inp' : List Tok),
    steps T (top bottom base) k rel inp = some (rel', inp') →
    steps T bottom k (rel ++ base) inp = some (rel' ++ base, inp')
  | 0, rel, inp, rel', inp', h => by
    cases h; rfl
  | k + 1, rel, inp, rel', inp', h => by
    obtain ⟨st1, inp1, hs, hk⟩ := steps_succ_eq_some.1 h
    exact steps_succ_eq_some.2 ⟨_, _, step_frame T bottom rel base inp st1 inp1 hs, steps_frame T bottom base k st1 inp1 rel' inp' hk⟩

theorem step_append (T : Table) (bottom : Nat) (st : Stack) (inp r : List Tok) (st' : Stack) (inp' : List Tok)
    (h : step T bottom st inp = some (st', inp')) :
    step T bottom st (inp ++ r) = some (st', inp' ++ r) := by
  unfold step at h ⊢
  split
  · rw [if_pos ‹_›] at h
    split at h <;> try contradiction
    split at h <;> try contradiction
    cases h; rfl
  · rw [if_neg ‹_›] at h
    split at h <;> try contradiction
    split at h <;> try contradiction
    · rename_i ha; cases h; simp only [List.cons_append, ha]
    · rename_i ha; cases h; simp only [List.cons_append, ha]
    · rename_i ha
      split at h <;> try contradiction
      rename_i hp; cases h; simp only [List.cons_append, ha, hp]

theorem steps_append (T : Table) (bottom : Nat) (r : List Tok) :
    ∀ (k : Nat) (st : Stack) (inp : List Tok) (st' : Stack) (inp' : List Tok),
    steps T bottom k st inp = some (st', inp') → steps T bottom k st (inp ++ r) = some (st', inp' ++ r)
  | 0, st, inp, st', inp', h => by
    cases h; rfl
  | k + 1, st, inp, st', inp', h => by
    obtain ⟨st1, inp1, hs, hk⟩ := steps_succ_eq_some.1 h
    exact steps_succ_eq_some.2 ⟨_, _, step_append T bottom st inp r st1 inp1 hs, steps_append T bottom r k st1 inp1 st' inp' hk⟩

theorem steps_add (T : Table) (bottom : Nat) (b : Nat) :
    ∀ (a : Nat) (st : Stack) (inp : List Tok) (st' : Stack) (inp' : List Tok),
    steps T bottom a st inp = some (st', inp') →
    steps T bottom (a + b) st inp = steps T bottom b st' inp'
  | 0, st, inp, st', inp', h => by
    cases h; rw [Nat.zero_add]
  | a + 1, st, inp, st', inp', h => by
    obtain ⟨st1, inp1, hs, hk⟩ := steps_succ_eq_some.1 h
    rw [Nat.add_right_comm, steps, hs]
    exact steps_add T bottom b a st1 inp1 st' inp' hk

theorem steps_prefix (T : Table) (bottom : Nat) (b : Nat) :
    ∀ (a : Nat) (st : Stack) (inp : List Tok) (d : Stack × List Tok),
    steps T bottom (a + b) st inp = some d → ∃ c, steps T bottom a st inp = some c
  | 0, st, inp, d, _ => ⟨(st, inp), rfl⟩
  | a + 1, st, inp, d, h => by
    rw [Nat.add_right_comm] at h
    obtain ⟨st1, inp1, hs, hk⟩ := steps_succ_eq_some.1 h
    obtain ⟨c, hc⟩ := steps_prefix T bottom b a st1 inp1 d hk
    exact ⟨c, steps_succ_eq_some.2 ⟨_, _, hs, hc⟩⟩

theorem steps_to_halted (T : Table) (bottom n j : Nat) (st : Stack) (inp : List Tok) (b d : Stack × List Tok)
    (hn : steps T bottom n st inp = some d) (hf : step T bottom d.1 d.2 = none)
    (hj : steps T bottom j st inp = some b) : steps T bottom (n - j) b.1 b.2 = some d := by
  have hjn : j ≤ n := Nat.le_of_not_lt fun hlt => by
    rw [show j = n + ((j - n - 1) + 1) by omega, steps_add T bottom _ n _ _ _ _ hn, steps, hf] at hj
    contradiction
  have := steps_add T bottom (n - j) j _ _ _ _ hj
  rw [show j + (n - j) = n by omega, hn] at this
  exact this.symm

theorem run_steps (T : Table) (bottom : Nat) (m : Nat) :
    ∀ (k : Nat) (st : Stack) (inp : List Tok) (st' : Stack) (inp' : List Tok),
    steps T bottom k st inp = some (st', inp') → run T bottom (k + m) st inp = run T bottom m st' inp'
  | 0, st, inp, st', inp', h => by
    cases h; rw [Nat.zero_add]
  | k + 1, st, inp, st', inp', h => by
    obtain ⟨st1, inp1, hs, hk⟩ := steps_succ_eq_some.1 h
    rw [Nat.add_right_comm, run, hs]
    exact run_steps T bottom m k st1 inp1 st' inp' hk

theorem run_final (T : Table) (bottom : Nat) (d : Stack × List Tok)
    (hf : step T bottom d.1 d.2 = none) : ∀ m, run T bottom m d.1 d.2 = d
  | 0 => rfl
  | m + 1 => by unfold run; rw [hf]

theorem IncrRun.trans {T : Table} {bottom : Nat} {l1 r1 l2 r2 : Nat} {a b c : Stack × List Tok}
    (h1 : IncrRun T bottom l1 r1 a b) (h2 : IncrRun T bottom l2 r2 b c) :
    IncrRun T bottom (l1 + l2) (r1 + r2) a c := by
  induction h1 with
  | done _ => simpa using h2
  | lexStep hs _ ih => exact Nat.add_right_comm .. ▸ IncrRun.lexStep hs (ih h2)
  | reuse hok _ ih => exact Nat.add_right_comm .. ▸ IncrRun.reuse hok (ih h2)

/-- the second case carries what `gstep_incr` needs to tell which branch of `gstep` ran: a token is consumed only
where a look-ahead is read and the action on it is no reduce -/
theorem step_input_cases (T : Table) (bottom : Nat) (st st' : Stack) (inp inp' : List Tok)
    (h : step T bottom st inp = some (st', inp')) :
    inp' = inp ∨ ∃ x, inp = x :: inp' ∧ T.noLookahead (top bottom st) = false ∧
      ∀ A n, T.action (top bottom st) x.sym ≠ .reduce A n := by
  unfold step at h
  split at h
  · split at h <;> try contradiction
    split at h <;> try contradiction
    cases h; exact Or.inl rfl
  · rename_i hnl
    split at h <;> try contradiction
    split at h <;> try contradiction
    · rename_i ha; cases h; exact Or.inr ⟨_, rfl, by simpa using hnl, by simp [ha]⟩
    · rename_i ha; cases h; exact Or.inr ⟨_, rfl, by simpa using hnl, by simp [ha]⟩
    · split at h <;> try contradiction
      cases h; exact Or.inl rfl

theorem IncrRun.ofStep {T : Table} {bottom : Nat} {st st' : Stack} {inp inp' : List Tok}
    (hs : step T bottom st inp = some (st', inp')) : ∃ l r, IncrRun T bottom l r (st, inp) (st', inp') :=
  ⟨_, _, .lexStep hs (.done _)⟩

theorem step_input (T : Table) (bottom : Nat) (st st' : Stack) (inp inp' : List Tok)
    (h : step T bottom st inp = some (st', inp')) : inp'.length ≤ inp.length := by
  rcases step_input_cases T bottom st st' inp inp' h with rfl | ⟨x, rfl, _⟩
  · exact Nat.le_refl _
  · exact Nat.le_succ _

end TsVerif.C01.LR
