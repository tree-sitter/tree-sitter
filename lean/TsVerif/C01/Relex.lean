import TsVerif.C01.GateProps
import TsVerif.C01.Stream
import TsVerif.C10.Model
/-!
# C01 — a token the change does not reach is lexed again as it was

For a lexer that looks only at the window it reports (`LexLocal`; `LexLocalV` through the included ranges): before
and behind a text edit (`relex_before`, `relex_after`, the tie to C10's marks `relex_same_unmarked_leaf`), and
where the included ranges do not differ (`relex_same_ranges`).  Stage 1 follows: a token source that prefers such
old leaves is the lexer on the new text (`incr_eq_scratch_tokens`).
-/
namespace TsVerif.C01
open TsGen TsVerif

/-- `LexLocal lex`: in every lex mode `m`, the token lexed at `p` depends only on the bytes in
`[p, p + pad + size + lookahead)` (the end of input being visible as "no byte").  This is the
contract that `lookahead_bytes` is meant to record (`ts_lexer_finish`: `lookahead_end_byte`). -/
def LexLocal {μ : Type} (lex : μ → List Nat → Nat → Tok) : Prop :=
  ∀ m t t' p p', (∀ i, i < (lex m t p).window → t[p + i]? = t'[p' + i]?) → lex m t' p' = lex m t p

def applyEdit (text : List Nat) (start oldEnd : Nat) (ins : List Nat) : List Nat :=
  text.take start ++ ins ++ text.drop oldEnd

theorem applyEdit_before (text ins : List Nat) (start oldEnd j : Nat)
    (h1 : start ≤ text.length) (hj : j < start) :
    (applyEdit text start oldEnd ins)[j]? = text[j]? := by
  have hl : (text.take start).length = start := by rw [List.length_take, Nat.min_eq_left h1]
  rw [applyEdit, List.append_assoc, List.getElem?_append_left (by omega), List.getElem?_take_of_lt hj]

theorem applyEdit_after (text ins : List Nat) (start oldEnd j : Nat)
    (h1 : start ≤ oldEnd) (h2 : oldEnd ≤ text.length) (hj : oldEnd ≤ j) :
    (applyEdit text start oldEnd ins)[j - oldEnd + (start + ins.length)]? = text[j]? := by
  have hl : (text.take start ++ ins).length = start + ins.length := by
    rw [List.length_append, List.length_take, Nat.min_eq_left (by omega)]
  rw [applyEdit, List.getElem?_append_right (by omega), hl, List.getElem?_drop]
  congr 1
  omega

/-- A token whose examined window ends at or before the start of the change is
lexed identically in the new text. -/
theorem relex_before {μ : Type} (lex : μ → List Nat → Nat → Tok) (hl : LexLocal lex)
    (m : μ) (text ins : List Nat) (start oldEnd p : Nat)
    (h1 : start ≤ oldEnd) (h2 : oldEnd ≤ text.length)
    (hw : p + (lex m text p).window ≤ start) :
    lex m (applyEdit text start oldEnd ins) p = lex m text p := by
  apply hl
  intro i hi
  exact (applyEdit_before text ins start oldEnd (p + i) (by omega) (by omega)).symm

/-- A token that starts (padding included) at or after the old end of the change is
lexed identically at its shifted position `φ p = p − old_end + new_end`. -/
theorem relex_after {μ : Type} (lex : μ → List Nat → Nat → Tok) (hl : LexLocal lex)
    (m : μ) (text ins : List Nat) (start oldEnd p : Nat)
    (h1 : start ≤ oldEnd) (h2 : oldEnd ≤ text.length) (hp : oldEnd ≤ p) :
    lex m (applyEdit text start oldEnd ins) (p - oldEnd + (start + ins.length)) = lex m text p := by
  apply hl
  intro i _
  have := applyEdit_after text ins start oldEnd (p + i) h1 h2 (by omega)
  rw [← this]
  congr 1
  omega

/-- A subtree the edit reaches is marked (the statement of C10's `edit_marks_root`, from the port
`TsVerif.C10.Model` alone). -/
theorem editTree_marks_root (d : NodeData) (ks : List Tree) (e : C10.Edit)
    (h : ¬ (e.start.bytes > (length_add d.padding d.size).bytes + d.lookahead ∨
        ((e.old_end.bytes = e.start.bytes ∧ e.new_end.bytes = e.start.bytes) ∧
          e.start.bytes = (length_add d.padding d.size).bytes + d.lookahead))) :
    (C10.editTree (.mk d ks) e).data.hasChanges = true := by
  unfold C10.editTree
  simp only [h, if_false, Tree.data]
  unfold C10.store
  split
  · split <;> rfl
  · rfl

/-- The tie to C10.  Let a leaf `d` sit at absolute offset `p` of `text`
and be what the lexer produced there.  If `ts_subtree_edit` (C10's `editTree`), given the change
in the leaf's local coordinates, leaves the leaf UNMARKED (`has_changes` false afterwards), then lexing the NEW text at `p` gives
the same token: reusing the leaf is what a re-lex would produce.  (Byte dimension; leaves that
the child loop of `editKids` never passes to `editTree` are covered by `relex_before` /
`relex_after` directly.) -/
theorem relex_same_unmarked_leaf {μ : Type} (lex : μ → List Nat → Nat → Tok) (hl : LexLocal lex)
    (m : μ) (text ins : List Nat) (p : Nat) (d : NodeData) (e : C10.Edit)
    (htok : (lex m text p).window = d.padding.bytes + d.size.bytes + d.lookahead)
    (h1 : e.start.bytes ≤ e.old_end.bytes) (h2 : p + e.old_end.bytes ≤ text.length)
    (hne : e.new_end.bytes = e.start.bytes + ins.length)
    (hreal : ¬ (e.old_end.bytes = e.start.bytes ∧ e.new_end.bytes = e.start.bytes))
    (hun : (C10.editTree (.mk d []) e).data.hasChanges = false) :
    lex m (applyEdit text (p + e.start.bytes) (p + e.old_end.bytes) ins) p = lex m text p := by
  have hstart : e.start.bytes > (length_add d.padding d.size).bytes + d.lookahead :=
    Decidable.byContradiction fun hc => by
      rw [editTree_marks_root d [] e fun h => h.elim hc fun h => hreal h.1] at hun
      contradiction
  have hb : (length_add d.padding d.size).bytes = d.padding.bytes + d.size.bytes := by
    simp [length_add]
  apply relex_before lex hl m text ins (p + e.start.bytes) (p + e.old_end.bytes) p (by omega) h2
  rw [htok]
  omega

/-- Every leaf the oracle offers is what the lexer returns on the NEW text at
the requested position, provided the old leaves are what the lexer returned on the OLD text. -/
theorem reuseOracle_sound {μ : Type} [DecidableEq μ] (lex : μ → List Nat → Nat → Tok) (hl : LexLocal lex)
    (text ins : List Nat) (start oldEnd : Nat) (h1 : start ≤ oldEnd) (h2 : oldEnd ≤ text.length)
    (old : List (Nat × μ × Tok)) (hold : ∀ x ∈ old, x.2.2 = lex x.2.1 text x.1)
    (m : μ) (p' : Nat) (k : Tok)
    (h : reuseOracle old start oldEnd (start + ins.length) m p' = some k) :
    k = lex m (applyEdit text start oldEnd ins) p' := by
  obtain ⟨x, hx, rfl⟩ := Option.map_eq_some_iff.1 h
  have hxo := hold x (List.mem_of_find?_eq_some hx)
  have hp := List.find?_some hx
  simp only [Bool.and_eq_true, decide_eq_true_eq] at hp
  obtain ⟨rfl, hs⟩ := hp
  rw [hxo] at hs ⊢
  simp only [shiftPos, ite_eq_iff, Option.some.injEq, reduceCtorEq, and_false, or_false] at hs
  rcases hs with ⟨hb, rfl⟩ | ⟨_, ha, rfl⟩
  · exact (relex_before lex hl _ text ins start oldEnd x.1 h1 h2 hb).symm
  · exact (relex_after lex hl _ text ins start oldEnd x.1 h1 h2 ha).symm

/-- A source that prefers sound oracle answers IS the lexer on the new text. -/
theorem lexReuse_eq_lexAll {μ : Type} (oracle : μ → Nat → Option Tok) (lexNew : μ → Nat → Tok)
    (hs : ∀ m p k, oracle m p = some k → k = lexNew m p) :
    incrSource oracle lexNew = lexNew := by
  funext m p
  unfold incrSource
  split
  · rename_i k hk
    exact hs m p k hk
  · rfl

/-- Stage 1: with reuse restricted to leaves that the
edit did not reach and that were lexed in the same lex mode, EVERY deterministic driver — in
particular every LR driver over a parse table — ends in the same state (builds the same tree)
incrementally and from scratch, for every `LexLocal` lexer, every text and every well-formed edit. -/
theorem incr_eq_scratch_tokens {σ μ : Type} [DecidableEq μ]
    (step : σ → Tok → σ) (mode : σ → μ) (lex : μ → List Nat → Nat → Tok) (hl : LexLocal lex)
    (text ins : List Nat) (start oldEnd : Nat) (h1 : start ≤ oldEnd) (h2 : oldEnd ≤ text.length)
    (old : List (Nat × μ × Tok)) (hold : ∀ x ∈ old, x.2.2 = lex x.2.1 text x.1)
    (fuel : Nat) (s0 : σ) (p0 : Nat) :
    runDriver step mode
      (incrSource (reuseOracle old start oldEnd (start + ins.length)) (fun m p => lex m (applyEdit text start oldEnd ins) p))
      fuel s0 p0 =
    runDriver step mode (fun m p => lex m (applyEdit text start oldEnd ins) p) fuel s0 p0 := by
  rw [lexReuse_eq_lexAll]
  intro m p k hk
  exact reuseOracle_sound lex hl text ins start oldEnd h1 h2 old hold m p k hk

/-! ## Re-lexing when the INCLUDED RANGES change

`incr_eq_scratch` speaks about token sequences: it covers every history — text edits and changes
of the included ranges alike — in which the tokens below each reused subtree and its followers are
the tokens the lexer delivers on the new input (the certificates `LR.ReuseOK`).  For text edits
`relex_before`/`relex_after` provide that; for range changes the following does, for lexers that
are local with respect to the INCLUDED VIEW of the document. -/

def inR (rs : List (Nat × Nat)) (i : Nat) : Bool := rs.any (fun r => decide (r.1 ≤ i) && decide (i < r.2))

def viewOf (text : List Nat) (rs : List (Nat × Nat)) (i : Nat) : Option Nat :=
  if inR rs i then text[i]? else none

/-- `diffs` covers the symmetric difference of the two range sets
(`ts_range_array_get_changed_ranges`). -/
def DiffSpec (old new diffs : List (Nat × Nat)) : Prop :=
  ∀ i, inR old i ≠ inR new i → ∃ d ∈ diffs, d.1 ≤ i ∧ i < d.2

/-- Where the gate's range test finds no difference, both parses see the same bytes. -/
theorem view_agree (text : List Nat) (old new diffs : List (Nat × Nat)) (s e : Nat)
    (hspec : DiffSpec old new diffs) (hsorted : RangesSorted diffs)
    (h : rangeIntersects diffs s e = false) :
    ∀ i, s ≤ i → i < e → viewOf text old i = viewOf text new i := by
  intro i hs he
  by_cases hd : inR old i = inR new i
  · simp [viewOf, hd]
  · obtain ⟨d, hmem, h1, h2⟩ := hspec i hd
    have := rangeIntersects_sound diffs s e hsorted h d hmem
    exact absurd ⟨by omega, by omega⟩ this

/-- A lexer over the included view that is local: the token at `p` depends only on what is visible
in `[p, p + padding + size + lookahead)`.  NOTE: the pinned lexer satisfies this only if the window
of a token that peeked the END OF THE INCLUDED INPUT is taken to extend to the end of the address
space — finding `C01-eof-lookahead-range-added`, repaired by /repo 2da2be2
(`diffSpanEnd … (oldEnd := some …)`); and it is false across a range boundary that splits a
character (finding `C01-range-boundary-splits-character`, C13). -/
def LexLocalV {μ : Type} (lexV : μ → (Nat → Option Nat) → Nat → Tok) : Prop :=
  ∀ m v v' p, (∀ i, i < (lexV m v p).window → v (p + i) = v' (p + i)) → lexV m v' p = lexV m v p

/-- A token whose examined window meets no included-range difference (the
gate's `rangeIntersects … = false` on the sorted differences) is lexed identically under the new
ranges — the range-change counterpart of `relex_before`/`relex_after`, which makes
`incr_eq_scratch` applicable to histories that change the included ranges. -/
theorem relex_same_ranges {μ : Type} (lexV : μ → (Nat → Option Nat) → Nat → Tok) (hl : LexLocalV lexV)
    (m : μ) (text : List Nat) (old new diffs : List (Nat × Nat)) (p : Nat)
    (hspec : DiffSpec old new diffs) (hsorted : RangesSorted diffs)
    (h : rangeIntersects diffs p (p + (lexV m (viewOf text old) p).window) = false) :
    lexV m (viewOf text new) p = lexV m (viewOf text old) p := by
  apply hl
  intro i hi
  exact view_agree text old new diffs p _ hspec hsorted h (p + i) (by omega) (by omega)

end TsVerif.C01
