import TsVerif.C01.GateLoop
import TsVerif.C01.Lemmas
/-!
# C01 — one iteration of the gate loop is an incremental run

`gstep` either lets the machine step on the yield of the frontier, or descends into the head of the frontier
(the yield stays, the machine does not move), or pushes an unmarked candidate whose certificate is at hand:
in every case an `IncrRun` between the yields, and the certificates of what remains are kept (`certL_append`
for a descent).
-/
namespace TsVerif.C01.LR
open TsVerif.C01

theorem yieldL_append : ∀ (xs ys : List OTree), yieldL (xs ++ ys) = yieldL xs ++ yieldL ys
  | [], ys => by simp [yieldL]
  | c :: rest, ys => by simp [yieldL, yieldL_append rest ys, List.append_assoc]

theorem certL_append (T : Table) : ∀ (xs ys : List OTree) (a : List Tok),
    CertL T xs (yieldL ys ++ a) → CertL T ys a → CertL T (xs ++ ys) a
  | [], ys, a, _, h2 => by simpa using h2
  | c :: rest, ys, a, h1, h2 => by
    cases h1 with
    | cons _ _ _ hc hr =>
      refine CertL.cons c (rest ++ ys) a ?_ (certL_append T rest ys a hr h2)
      rw [yieldL_append, List.append_assoc]
      exact hc

/-- One iteration of the gate-driven loop is an incremental run of the machine (a machine step, a
certified reuse, or no machine move at all), and the certificates are kept. -/
theorem gstep_incr (T : Table) (bottom : Nat) (st st' : Stack) (front front' : List OTree)
    (h : gstep T bottom st front = some (st', front')) (hc : CertL T front []) :
    (∃ l r, IncrRun T bottom l r (st, yieldL front) (st', yieldL front')) ∧ CertL T front' [] := by
  unfold gstep at h
  split at h
  · -- end of a non-terminal extra: a reduction, the input is kept
    rename_i hnl
    obtain ⟨⟨s1, i1⟩, hs, hc1⟩ := Option.map_eq_some_iff.1 h
    cases hc1
    have hi : i1 = yieldL front := (step_input_cases T bottom st s1 _ i1 hs).elim id
      fun ⟨_, _, h0, _⟩ => by rw [hnl] at h0; contradiction
    subst hi
    exact ⟨IncrRun.ofStep hs, hc⟩
  · split at h
    · contradiction
    · -- a leaf: a machine step on its token; the frontier advances iff the token is consumed
      rename_i m k rest
      cases hc with
      | cons _ _ _ hct hcr =>
      split at h <;> try contradiction
      rename_i s1 i1 hs
      have hin : yieldL (.leaf m k :: rest) = k :: yieldL rest := rfl
      rcases step_input_cases T bottom st s1 _ i1 hs with rfl | ⟨x, hx, _⟩
      · rw [if_neg (Nat.lt_irrefl _)] at h
        cases h
        exact ⟨IncrRun.ofStep hs, CertL.cons _ _ _ hct hcr⟩
      · cases (List.cons.inj (hin.symm.trans hx)).2
        rw [if_pos (by rw [hin]; exact Nat.lt_succ_self _)] at h
        cases h
        exact ⟨IncrRun.ofStep hs, hcr⟩
    · rename_i marked s A kids rest
      cases hc with
      | cons _ _ _ hct hcr =>
      cases hct with
      | node _ _ _ _ _ hre hk =>
      have hy : yieldL (.node marked s A kids :: rest) = yieldL (kids ++ rest) := by
        rw [yieldL_append]; rfl
      -- descending never moves the machine
      have hdesc : (∃ l r, IncrRun T bottom l r (st, yieldL (.node marked s A kids :: rest))
          (st, yieldL (kids ++ rest))) ∧ CertL T (kids ++ rest) [] :=
        ⟨⟨0, 0, hy ▸ IncrRun.done _⟩, certL_append T kids rest [] hk hcr⟩
      split at h
      · cases h; exact hdesc
      · rename_i hm
        split at h
        · cases h; exact hdesc
        · rename_i x tail hyk
          split at h <;> try contradiction
          · -- shift: reuse on a state match, descend otherwise
            split at h
            · rename_i hst
              subst hst
              cases h
              have hrun := IncrRun.reuse (bottom := bottom) (st := st) (rest := []) (hre (by simpa using hm))
                (IncrRun.done _)
              simp only [List.append_nil] at hrun
              exact ⟨⟨_, _, hrun⟩, hcr⟩
            · cases h; exact hdesc
          · -- reduce with the candidate as look-ahead: the input is kept
            rename_i A' n' hact
            obtain ⟨⟨s1, i1⟩, hs, hc1⟩ := Option.map_eq_some_iff.1 h
            cases hc1
            have hi : i1 = yieldL (.node marked s A kids :: rest) :=
              (step_input_cases T bottom st s1 _ i1 hs).elim id fun ⟨y, hy', _, hred⟩ => by
                rw [hy, yieldL_append, hyk] at hy'
                cases (List.cons.inj hy').1
                exact absurd hact (hred A' n')
            subst hi
            exact ⟨IncrRun.ofStep hs, CertL.cons _ _ _ (CertT.node _ _ _ _ _ hre hk) hcr⟩

end TsVerif.C01.LR
