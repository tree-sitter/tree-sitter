import TsVerif.C01.LR
/-!
# C01/C12 — the gate-driven re-parse loop inside the LR machine

The old tree is an `OTree`: leaves carry the token the lexer delivers THERE in the new text (for a
marked leaf: the re-lexed token), inner nodes carry `has_changes` (`marked`), the parse state they
were built in (`ts_subtree_parse_state`) and their symbol.  The old-tree iterator of
`reusable_node.h` is the *frontier*: the list of old subtrees, in document order, that have not
been consumed yet (current candidate = head; `reusable_node_descend` = replace the head by its
children; `reusable_node_advance` = drop the head).

`gstep` is one iteration of `ts_parser__advance` with `ts_parser__reuse_node` for deterministic
tables without external scanner and without fragile nodes:
* candidate with `has_changes` (`cant_reuse_node_has_changes`): an inner node is descended into, a
  leaf is lexed again (a machine step on its new token);
* unmarked inner candidate: the table entry of its FIRST LEAF symbol is consulted
  (`ts_language_table_entry(state, leaf_symbol)`); a reduce action is performed with the candidate
  still as look-ahead; on a shift action the candidate is pushed as a whole (`reuseStep`, the goto
  state) if its parse state is the current state, otherwise it is descended into
  (`ts_parser__breakdown_lookahead`: `state_mismatch`);
* unmarked leaf: an ordinary machine step (a reused token and a re-lexed token are the same `Tok`).
Not modelled: `ts_parser__breakdown_top_of_stack` (it only UNDOES earlier reuse), the first-leaf
test (always true in one lex mode), fragile nodes.
-/
namespace TsVerif.C01.LR
open TsVerif.C01

inductive OTree where
  | leaf (marked : Bool) (tok : Tok)
  | node (marked : Bool) (state sym : Nat) (kids : List OTree)

mutual
  def OTree.yield : OTree → List Tok
    | .leaf _ k => [k]
    | .node _ _ _ ks => yieldL ks
  def yieldL : List OTree → List Tok
    | [] => []
    | c :: rest => OTree.yield c ++ yieldL rest
end

mutual
  def OTree.toP : OTree → PTree
    | .leaf _ k => .leaf k
    | .node _ _ A ks => .node A (toPL ks)
  def toPL : List OTree → List PTree
    | [] => []
    | c :: rest => OTree.toP c :: toPL rest
end

def gstep (T : Table) (bottom : Nat) (st : Stack) (front : List OTree) : Option (Stack × List OTree) :=
  if T.noLookahead (top bottom st) then
    (step T bottom st (yieldL front)).map (fun c => (c.1, front))
  else
  match front with
  | [] => none
  | .leaf m k :: rest =>
    match step T bottom st (yieldL (.leaf m k :: rest)) with
    | some (st', inp') => if inp'.length < (yieldL (.leaf m k :: rest)).length then some (st', rest) else some (st', .leaf m k :: rest)
    | none => none
  | .node marked s A kids :: rest =>
    if marked then some (st, kids ++ rest)
    else
      match yieldL kids with
      | [] => some (st, kids ++ rest)
      | x :: _ =>
        match T.action (top bottom st) x.sym with
        | .shift _ => if s = top bottom st then some (reuseStep T bottom st A (OTree.toP (.node marked s A kids)), rest)
                      else some (st, kids ++ rest)
        | .reduce _ _ => (step T bottom st (yieldL (.node marked s A kids :: rest))).map (fun c => (c.1, .node marked s A kids :: rest))
        | _ => none

def gloop (T : Table) (bottom : Nat) : Nat → Stack → List OTree → Stack × List OTree
  | 0, st, front => (st, front)
  | fuel + 1, st, front =>
    match gstep T bottom st front with
    | some (st', front') => gloop T bottom fuel st' front'
    | none => (st, front)

mutual
  /-- Certificates for an old subtree in front of the tokens `after`: every unmarked inner node is
  what the machine builds from its tokens in its recorded state (`ReuseOK`). -/
  inductive CertT (T : Table) : OTree → List Tok → Prop
    | leaf (m : Bool) (k : Tok) (after : List Tok) : CertT T (.leaf m k) after
    | node (m : Bool) (s A : Nat) (kids : List OTree) (after : List Tok) :
        (m = false → ReuseOK T s A (OTree.toP (.node m s A kids)) (yieldL kids) after) →
        CertL T kids after → CertT T (.node m s A kids) after
  inductive CertL (T : Table) : List OTree → List Tok → Prop
    | nil (after : List Tok) : CertL T [] after
    | cons (c : OTree) (rest : List OTree) (after : List Tok) :
        CertT T c (yieldL rest ++ after) → CertL T rest after → CertL T (c :: rest) after
end

end TsVerif.C01.LR
