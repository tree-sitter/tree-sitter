import TsVerif.C01.GateProps
import TsVerif.C01.Relex
import TsVerif.C01.Incr
import TsVerif.C01.GateLoopLemmas
/-!
# C01 — Incremental re-parse equals parsing the new text from scratch

Property text: "After any sequence of text edits, each mirrored on the old tree with the tree-edit
call, re-parsing with that old tree returns a tree identical to a from-scratch parse of the new
text (node types, nesting, field names, byte and row/column ranges, named/extra/missing flags)
whenever the from-scratch tree has no ERROR or MISSING node.  When the new text is not in the
language, both the incremental and the from-scratch tree report an error."

CLAUSE-BY-CLAUSE MAP (property text of properties.jsonl → theorems; status = PROVED on the model /
PARTIAL (hypothesis, and how often it holds on real data in the quick tier) / JUDGED ONLY on the
real runtime by `judge`, Judge.lean)

| phrase of the property | theorems / judge clause | status |
|---|---|---|
| "After any sequence of text edits, each mirrored on the old tree with the tree-edit call" | one edit: `relex_before`, `relex_after`, `relex_same_unmarked_leaf` (+ C10 `edits_preserve_tiling` for histories of edits on the tree); the re-parse theorems below hold for ANY old tree with certificates, so they compose over histories; histories of 1–8 edits through erroneous states are JUDGED | PARTIAL: hypothesis `LexLocal` — evaluated as obligation `hyp:LexLocal` on ≈10^5 tokens per run: holds except for finding `C01-multibyte-lookahead-char` (1–4 tokens) |
| "re-parsing with that old tree returns a tree identical to a from-scratch parse of the new text" | `incr_eq_scratch` (+ `incr_reaches`, `subtree_reuse_sound`, `incr_eq_scratch_tokens`, `reuseOracle_sound`): every halting incremental run of the LR machine ends in the configuration of the from-scratch run | PARTIAL: deterministic entries, token + non-terminal extras, no error recovery; hypothesis = certificates `LR.ReuseOK` — checked for EVERY real reuse event: 25 233 certified + 57 via a GLR version, 0 mismatch, 97 skipped (error-recovered subtrees); machine validated on 11 778 + 560 (GLR) real documents.  Whole statement JUDGED on every case |
| "(node types, nesting, …" | machine trees (`PTree`): symbols and nesting are part of `incr_eq_scratch`'s equal stacks | PROVED on the machine (same partiality) |
| "… field names, byte and row/column ranges, named/extra/missing flags)" | `flatten` equality (symbols, nesting, byte + point ranges, named/extra/missing) and cursor-walk equality (kind, field name, flags) | JUDGED ONLY (ranges follow from equal token sequences; fields/aliases are table data not modelled) |
| "whenever the from-scratch tree has no ERROR or MISSING node" | the machine theorems are about error-free runs; `dirtyTree` in the judge | as above |
| "When the new text is not in the language, both … report an error" | `incr_error_iff` (error = machine stuck) | PARTIAL: error RECOVERY not modelled; JUDGED (`has_error` of both roots) |
| quantifier "LR" | all machine theorems | PROVED (partial as above) |
| "GLR with declared conflicts" | gate: reuse only with one version (not modelled); validator `validateDocumentGLR`/`certifyReuseGLR` | JUDGED + validated (560 documents), not in theorems |
| "keyword extraction" | `first_leaf_keyword`, `first_leaf_same_mode` (gate decision) | gate PROVED + replayed; rest JUDGED |
| "external scanners with serialized state" | gate input `extEq`; `Iter.lastExt`/`lastExternalExt` recomputed and compared with the log (≈1.1·10^5 comparisons) | gate PROVED + corr; JUDGED |
| "column-sensitive scanners" | `lineDiffOf` (repair 835fde5 as gate variant); not `LexLocal` | JUDGED; findings 1 (fixed) and 5 (known) |
| "insert/delete/replace at any byte, inside tokens, inside a token's look-ahead, in whitespace, at BOF/EOF" | `relex_*` + C10 marking; exhaustive single-character edits at every byte | PARTIAL (`LexLocal`) + JUDGED |
| "multi-byte characters" | — | JUDGED; finding 6 `C01-multibyte-lookahead-char` (fixed, 57e0c8c) |
| "through intermediate erroneous states" | — | JUDGED ONLY |
| "all included-range sets" | `rangeIntersects_sound/_complete/_skip`, `view_agree`, `relex_same_ranges`, gate variants `lineDiffOf`, `diffSpanEnd … oldEnd` | PARTIAL: hypothesis `LexLocalV` (false at a character-splitting boundary and, before 2da2be2, at the end of the included input), `RangesSorted` evaluated (`hyp:RangesSorted`: always holds); findings 2, 3 (known), 4 (fixed) |
| "all input chunkings" | — | JUDGED ONLY (chunk sizes 1,2,3,5,7) |
| the gate itself (mechanism anchor) | `gate_refuses`, `gate_accepts`, `gate_verdict_complete`, `refusal_reasons_sound`, `first_leaf_*`, `breakdown_offset/_stops`, `gate_state_test_partial` | PROVED on the port; port = code by log replay (≈3·10^5 events, 100 %) |

Details per group of theorems
* "the old tree is only reused where that is sound" — decision logic of the reuse gate (a chain of
  tests whose first failure gives the verdict; at the parser position it is the head of
  `refusalReasons`, `reuseGate_at_pos`):
  `gate_refuses` (a node that has_changes / is ERROR / MISSING / fragile / overlaps an included-range
  difference with its look-ahead / starts elsewhere than the parser position / follows a different
  external-scanner state is never accepted), `gate_accepts` (converse: the gate is exactly this
  conjunction), `gate_verdict_complete` (every candidate gets the FIRST failing test as its reason),
  `first_leaf_other_mode`, `first_leaf_same_mode`, `first_leaf_after_nonterminal_extra`,
  `first_leaf_keyword` (the four branches of `ts_parser__can_reuse_first_leaf`),
  `rangeIntersects_sound` / `rangeIntersects_complete` / `rangeIntersects_skip` (the included-range
  test finds exactly the overlapping differences; skipping differences that end at or before the
  position — the parser's `included_range_difference_index` — does not change the answer).
* "a reused subtree built in another parse state is taken apart" — `breakdown_offset` (breaking a
  reused look-ahead down to first children never moves it), `breakdown_stops` (it ends on a leaf
  or on a node built in the current state) for the port `Iter.breakdown` of
  `ts_parser__breakdown_lookahead`.
* "a reused token is what the lexer would produce again" — `relex_before`, `relex_after`
  (text level, any `LexLocal` lexer), `relex_same_unmarked_leaf` (tie to C10's `editTree`: a leaf
  that `ts_subtree_edit` leaves unmarked re-lexes to itself), byte dimension.
* stage 1 — `reuseOracle_sound`, `lexReuse_eq_lexAll`, `incr_eq_scratch_tokens`: with reuse
  restricted to unreached leaves lexed in the same mode, every deterministic driver (any function
  of the token stream, in particular any LR driver) ends in the same state incrementally and from
  scratch, for every `LexLocal` lexer.
* stage 2 — the machine (deterministic table, token extras, reduce = pop `n` non-extra entries
  and re-push trailing extras; its frame / unread-input independence / composition lemmas):
  `subtree_reuse_sound` (a run over `w ++ u` from state `s` on an empty frame is the same run on
  top of any stack with top state `s`, whatever input follows), `incr_reaches`, `incr_eq_scratch`
  (every incremental run = machine steps interleaved with certified subtree reuse, `LR.IncrRun`,
  that halts ends in the configuration in which the from-scratch run of the same tokens halts:
  same stack, same tree — by induction over the reuse events), `reused_not_lexed` (lexed + reused
  = consumed tokens).  The certificates `LR.ReuseOK` are CHECKED on the real runtime's reuse events
  by running this machine on the dumped tables (Certify.lean `certifyReuse`, Drivers/C01.lean).
* `incr_error_iff` on the machine (error = stuck): a halted incremental run errs/accepts iff the
  scratch run does.
* `steps_same_symbols`, `gate_state_test_partial` (Skel.lean `step_skel`: the machine looks only at
  token symbols): after replacing one token by a token of the same symbol every configuration of
  the re-parse has the parse states of the old parse, so the gate's state test succeeds for every
  old subtree that does not contain the token.
* range changes: `view_agree`, `relex_same_ranges` (for `LexLocalV` lexers a token whose window
  meets no range difference is lexed identically under the new ranges) — `incr_eq_scratch` covers
  exactly the histories (edits AND range changes) for which the certificates hold on the new token
  sequence; the two lexer-side exceptions are the findings named in `LexLocalV`'s comment.
* the loop (`OTree`, frontier iterator, `gstep`, `gloop`, `CertT/CertL`): `gstep_incr`, `gloop_incr`,
  `gate_loop_eq_scratch_partial`: the gate-driven re-parse loop is an
  incremental run, hence ends where the from-scratch parse ends.
* OPEN: GLR versions in the theorems, error recovery (what happens AFTER the first error), keyword
  re-labelling inside the machine; `breakdown_top_of_stack` in the loop; that the loop reuses every
  maximal unmarked subtree (`stray = 0`).  On the implementation whole-tree equality is DECIDED per case by
  `judge` (Judge.lean).
* Genuine defect found by the judge (section "Finding `column-token-range-change`" below): a
  column-dependent token is reused although an included-range difference lies earlier on its line.
  `reuseGate` therefore carries the input `lineDiff` = outcome of the extra test of the repair
  835fde5 (`lineDiffOf`), `false` for the pinned tree; the theorems hold for both variants.

The theorems are about `reuseGate` etc. (Model.lean), hand ports tied to parser.c by replaying
the real parser's log against them on every run (Judge.lean `RS.gateEvent`).
-/
namespace TsVerif.C01
open TsGen TsVerif

/-- Any number of iterations of the gate-driven loop (`LR.gstep`: descend into marked
or state-mismatched candidates, reuse unmarked candidates whose parse state is the current state,
reduce with the candidate as look-ahead, lex marked leaves) is an `LR.IncrRun`, and the certificates
of the remaining frontier are kept. -/
theorem gloop_incr (T : LR.Table) (bottom : Nat) : ∀ (fuel : Nat) (st : LR.Stack) (front : List LR.OTree),
    LR.CertL T front [] →
    (∃ l r, LR.IncrRun T bottom l r (st, LR.yieldL front)
      ((LR.gloop T bottom fuel st front).1, LR.yieldL (LR.gloop T bottom fuel st front).2)) ∧
    LR.CertL T (LR.gloop T bottom fuel st front).2 []
  | 0, st, front, hc => ⟨⟨0, 0, LR.IncrRun.done _⟩, hc⟩
  | fuel + 1, st, front, hc => by
    unfold LR.gloop
    cases hg : LR.gstep T bottom st front with
    | none => exact ⟨⟨0, 0, LR.IncrRun.done _⟩, hc⟩
    | some c =>
      obtain ⟨st', front'⟩ := c
      obtain ⟨⟨l1, r1, h1⟩, hc'⟩ := LR.gstep_incr T bottom st st' front front' hg hc
      obtain ⟨⟨l2, r2, h2⟩, hc''⟩ := gloop_incr T bottom fuel st' front' hc'
      exact ⟨⟨_, _, h1.trans h2⟩, hc''⟩

/-- The full re-parse LOOP (old-tree frontier + reuse gate +
`breakdown_lookahead` + reduce-with-reused-look-ahead + re-lexing of marked leaves) for
deterministic tables without external scanner and without fragile nodes: if the loop comes to a
configuration where the machine halts, the from-scratch parse of the new token sequence halts in
exactly that configuration (same stack = same tree), and the consumed tokens split into lexed ones and
ones below reused subtrees (the statement says that such a split exists; it does not name the two numbers).
Hypothesis: the certificates `CertL` (every
unmarked node of the old tree is what the machine builds from its tokens in its recorded state —
the property of an old tree that was itself produced by the machine; checked on the real reuse
events by `certifyReuse`).

NOT in the loop (so `_partial`): `ts_parser__breakdown_top_of_stack` (it only undoes earlier
reuse when the follower of a reused node changed), the first-leaf test across lex modes, fragile
nodes, external-scanner state, GLR, error recovery.
OPEN (C12 `stray = 0`): that the loop REUSES every maximal unmarked subtree, i.e. never descends into
an unmarked node because of a state mismatch — `gate_state_test_partial` shows the states agree with
the old parse after a same-symbol replacement; what is missing is the alignment of the loop's
position in the old run with the frontier. -/
theorem gate_loop_eq_scratch_partial (T : LR.Table) (bottom fuel : Nat) (front : List LR.OTree)
    (hc : LR.CertL T front [])
    (hhalt : LR.step T bottom (LR.gloop T bottom fuel [] front).1 (LR.yieldL (LR.gloop T bottom fuel [] front).2) = none) :
    (∃ n, ∀ m, LR.run T bottom (n + m) [] (LR.yieldL front) =
      ((LR.gloop T bottom fuel [] front).1, LR.yieldL (LR.gloop T bottom fuel [] front).2)) ∧
    (∃ l r, l + r + (LR.yieldL (LR.gloop T bottom fuel [] front).2).length = (LR.yieldL front).length) := by
  obtain ⟨⟨l, r, h⟩, _⟩ := gloop_incr T bottom fuel [] front hc
  exact ⟨incr_eq_scratch T bottom l r _ _ h hhalt, ⟨l, r, reused_not_lexed T bottom l r _ _ h⟩⟩

/-- A table for `S → A c`, `A → a b` (tokens a=1, b=2, c=3; non-terminal A=10): the hypothesis of
`subtree_reuse_sound` holds for `w = [a, b]`, `u = [c]`, `s = 0`, `k = 3`. -/
def toyTable : LR.Table :=
  { action := fun st tok =>
      match st, tok with
      | 0, 1 => .shift 1
      | 1, 2 => .shift 2
      | 2, _ => .reduce 10 2
      | 3, 3 => .shift 4
      | 5, 1 => .shift 1        -- another context with the same top state behaviour
      | _, _ => .error
    goto := fun st nt => if nt = 10 then (if st = 0 then 3 else 6) else 0 }

def tk (sym : Nat) : Tok := { sym := sym, pad := 0, size := 1, la := 1 }

/-! The certificate of `IncrRun.reuse` holds for the subtree `A(a b)` (`toyA`) with follower `c` (`toy_cert`), and
an incremental run that reuses it exists (the `example`; so `incr_eq_scratch` / `reused_not_lexed` are not
vacuous): 2 tokens are skipped, 1 is lexed. -/

def toyA : LR.PTree := .node 10 [.leaf (tk 1), .leaf (tk 2)]

theorem toy_cert : LR.ReuseOK toyTable 0 10 toyA [tk 1, tk 2] [tk 3] :=
  ⟨3, 0, ([{ state := 3, tree := toyA, extra := false }], [tk 3]), by rfl, by rfl⟩

example : LR.IncrRun toyTable 0 (0 + 1) (0 + 2) ([], [tk 1, tk 2] ++ [tk 3] ++ [])
    ([{ state := 4, tree := .leaf (tk 3), extra := false }, { state := 3, tree := toyA, extra := false }], []) :=
  LR.IncrRun.reuse (st := []) toy_cert
    (LR.IncrRun.lexStep (inp := [tk 3]) (inp' := []) (by rfl) (LR.IncrRun.done _))

/-- A lexer that is `LexLocal`: one-byte tokens whose symbol depends on the next byte as well
(so the look-ahead matters). -/
def toyLex (_ : Unit) (t : List Nat) (p : Nat) : Tok :=
  { sym := (t[p]?).getD 0 + (t[p + 1]?).getD 0, pad := 0, size := 1, la := 1 }

theorem toyLex_local : LexLocal toyLex := by
  intro m t t' p p' h
  have h0 : t[p]? = t'[p']? := h 0 (Nat.zero_lt_succ 1)
  have h1 := h 1 (Nat.lt_succ_self 1)
  unfold toyLex
  rw [h0, h1]

/-- `relex_before` / `relex_after` apply to it on a concrete edit (hypotheses satisfiable,
conclusion non-trivial: the text really changes). -/
example : toyLex () (applyEdit [1, 2, 3, 4, 5, 6] 3 4 [9, 9]) 0 = toyLex () [1, 2, 3, 4, 5, 6] 0 ∧
    toyLex () (applyEdit [1, 2, 3, 4, 5, 6] 3 4 [9, 9]) (4 - 4 + (3 + 2)) = toyLex () [1, 2, 3, 4, 5, 6] 4 ∧
    applyEdit [1, 2, 3, 4, 5, 6] 3 4 [9, 9] = [1, 2, 3, 9, 9, 5, 6] :=
  ⟨relex_before toyLex toyLex_local () _ _ 3 4 0 (by decide) (by decide) (by decide),
   relex_after toyLex toyLex_local () _ _ 3 4 4 (by decide) (by decide) (by decide), by decide⟩

/-! `gate_refuses` is not vacuous: the gate does accept (the `reuseGate toyLang …` examples below: a clean leaf
at the position, in a language whose every state has the same lex mode and an action for the leaf). -/

def toyLang : Lang :=
  { lexMode := fun _ => { lexState := 0, extLexState := 0, reservedSet := 0 }
    entry := fun _ _ => { actionCount := 1, reusable := true }
    keywordCaptureToken := 0 }

def toyLeaf : Tree :=
  .mk { (default : NodeData) with symbol := 3, size := { bytes := 2, extent := { row := 0, column := 2 } } } []

/-- The oracle does offer old leaves (so `incr_eq_scratch_tokens` is about real reuse): the old
leaf at 4 is offered at its shifted position 5, the leaf at 2 (window reaches the edit) is not. -/
example :
    let old := [(0, (), toyLex () [1, 2, 3, 4, 5, 6] 0), (2, (), toyLex () [1, 2, 3, 4, 5, 6] 2), (4, (), toyLex () [1, 2, 3, 4, 5, 6] 4)]
    reuseOracle old 3 4 5 () 5 = some (toyLex () [1, 2, 3, 4, 5, 6] 4) ∧ reuseOracle old 3 4 5 () 0 = some (toyLex () [1, 2, 3, 4, 5, 6] 0) ∧
    reuseOracle old 3 4 5 () 2 = none ∧ (∀ x ∈ old, x.2.2 = toyLex x.2.1 [1, 2, 3, 4, 5, 6] x.1) := by
  decide

example : reuseGate toyLang [] toyLeaf 5 5 1 true = .reuse := by decide

example : reuseGate toyLang [(6, 7)] toyLeaf 5 5 1 true = .rangeDiff := by decide

example : reuseGate toyLang [] (.mk { toyLeaf.data with hasChanges := true } []) 5 5 1 true = .hasChanges := by decide

example : RangesSorted [(1, 2), (2, 5), (9, 9)] := by simp [RangesSorted]

/-! ## Finding `column-token-range-change`, at the level of the gate

Document `" x"` of `fx_depends_on_column`; the old tree was parsed with the whole document
included, the new parse includes only `[1,2)`: the differences are `[0,1)` and `[2, 2³²−1)`.  The
zero-width, column-dependent `odd_column` token sits at offset 1 with look-ahead 1.  The gate of
the pinned tree (`lineDiffOf false …`) ACCEPTS it — its span `[1,2)` meets no difference — although
the scanner would now see column 0 and return `even_column` (the real runtime does exactly this:
`harness/src/bin/c01_repro.rs`).  With the repair `fixes/C01-column-token-range-change.diff`
(`lineDiffOf true …`) the gate refuses it.  A column-dependent scanner is not `LexLocal`, so the
witness lies outside the hypotheses of `relex_*` / `incr_eq_scratch_tokens`. -/

example :
    let t : Tree := .mk { (default : NodeData) with symbol := 3, lookahead := 1, dependsOnColumn := true } []
    let all := [(0, 1), (2, 4294967295)]
    reuseGate toyLang all t 1 1 2 true (lineDiffOf false all t 1 1) = .reuse ∧
    reuseGate toyLang all t 1 1 2 true (lineDiffOf true all t 1 1) = .rangeDiff := by decide

/-- `gate_state_test_partial` applies: replacing the token `b` by another token of the same symbol
(different size) in `a b c`. -/
example : ∃ c', LR.steps toyTable 0 3 [] ([tk 1] ++ ({ tk 2 with size := 7 } : Tok) :: [tk 3]) = some c' ∧
    c'.1.map (·.state) = [3] :=
  let ⟨c', h1, h2, _⟩ := gate_state_test_partial toyTable 0 3 [tk 1] [tk 3] (tk 2) { tk 2 with size := 7 } rfl
    ([{ state := 3, tree := toyA, extra := false }], [tk 3]) (by rfl)
  ⟨c', h1, by simpa using h2⟩

/-- A view-local lexer and a range change to which `relex_same_ranges` applies: old ranges `[0,2)`,
new `[0,2);[5,6)`, difference `[5,6)`; the token at 0 (window 1) is unaffected. -/
def toyLexV (_ : Unit) (v : Nat → Option Nat) (p : Nat) : Tok :=
  { sym := (v p).getD 0, pad := 0, size := 1, la := 0 }

theorem toyLexV_local : LexLocalV toyLexV := by
  intro m v v' p h
  have h0 := h 0 (by simp [toyLexV, Tok.window])
  simp at h0
  simp [toyLexV, h0]

theorem toy_diffspec : DiffSpec [(0, 2)] [(0, 2), (5, 6)] [(5, 6)] := by
  intro i h
  refine ⟨(5, 6), by simp, ?_⟩
  simp only [inR, List.any_cons, List.any_nil, Bool.or_false, ne_eq] at h
  by_cases h5 : 5 ≤ i ∧ i < 6
  · exact h5
  · exfalso
    apply h
    have : (decide (5 ≤ i) && decide (i < 6)) = false := by
      simp only [Bool.and_eq_false_iff, decide_eq_false_iff_not]
      omega
    simp [this]

example : toyLexV () (viewOf [7, 8, 9, 9, 9, 4] [(0, 2), (5, 6)]) 0 = toyLexV () (viewOf [7, 8, 9, 9, 9, 4] [(0, 2)]) 0 :=
  relex_same_ranges toyLexV toyLexV_local () _ _ _ [(5, 6)] 0 toy_diffspec (by simp [RangesSorted]) (by decide)

/-- The gate loop on the toy table: frontier = old subtree `A(a b)` (unmarked, built in state 0) and
the leaf `c`; the loop reuses `A` and shifts `c`; the certificates hold. -/
def toyFront : List LR.OTree := [.node false 0 10 [.leaf false (tk 1), .leaf false (tk 2)], .leaf false (tk 3)]

theorem toyFront_cert : LR.CertL toyTable toyFront [] := by
  refine LR.CertL.cons _ _ _ (LR.CertT.node _ _ _ _ _ (fun _ => ?_) ?_) (LR.CertL.cons _ _ _ (LR.CertT.leaf _ _ _) (LR.CertL.nil _))
  · exact toy_cert
  · exact LR.CertL.cons _ _ _ (LR.CertT.leaf _ _ _) (LR.CertL.cons _ _ _ (LR.CertT.leaf _ _ _) (LR.CertL.nil _))

example : (LR.gloop toyTable 0 5 [] toyFront).1.map (·.state) = [4, 3] ∧ (LR.gloop toyTable 0 5 [] toyFront).2.length = 0 := by
  constructor <;> rfl

/-! ## Finding `eof-lookahead-range-added`, at the level of the gate

`lst`, text `"ab cd"`, old ranges `[0,2)`: the word `ab` (2 bytes, look-ahead 1) peeked the end of
the old input (old tree: 2 bytes).  New ranges `[0,2);[3,5)`: difference `[3,5)`.  The pinned gate
(`oldEnd = none`) accepts the word — `[0,3)` meets no difference — although from scratch the lexer
runs on into the added range; with the repair `fixes/C01-eof-lookahead-range-added.diff`
(`oldEnd = some 2`) the span is extended to the end of the address space and the gate refuses. -/

example :
    let t : Tree := .mk { (default : NodeData) with symbol := 3, size := { bytes := 2, extent := { row := 0, column := 2 } }, lookahead := 1 } []
    reuseGate toyLang [(3, 5)] t 0 0 1 true false none = .reuse ∧
    reuseGate toyLang [(3, 5)] t 0 0 1 true false (some 2) = .rangeDiff := by decide

end TsVerif.C01
