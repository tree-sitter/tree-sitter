import TsVerif.C15.Model
import TsVerif.C03.DriverSteps
/-!
# C15 — a state map that passes `simCheck` is a lock-step simulation (`runLoop_sim`)

While `A` runs, `B` runs on the same trees with every state mapped by `f` (`mapStack`), and every state on
`A`'s stack is in the domain of `f` (`AllDom`).  The one case with content is the reduce, `reduce_sim`: the goto
commutes with `f`, and the `extra` flag of a node reduced at the end of a non-terminal extra compares the goto
state with the state below, which `f` must not identify or separate — `eoeSym`.
-/
namespace TsVerif.C15
open TsVerif.C03

def mapStack (f : SMap) (st : Stack) : Stack := st.map fun e => (ap f e.1, e.2)

def AllDom (f : SMap) (st : Stack) : Prop := ∀ e, e ∈ st → inDom f e.1 = true

structure Sim (A B : Table) (f : SMap) : Prop where
  dom1 : inDom f 1 = true
  start : ap f 1 = 1
  st : ∀ s, inDom f s = true → stateOK A B f s = true

variable {A B : Table} {f : SMap}

theorem inDom_mem {s : Nat} (h : inDom f s = true) : ∃ t, (s, t) ∈ f := by
  unfold inDom at h
  cases hl : f.lookup s with
  | none => simp [hl] at h
  | some t => exact ⟨t, lookup_mem hl⟩

theorem sim_of_check (h : simCheck A B f = true) : Sim A B f := by
  simp only [simCheck, Bool.and_eq_true, beq_iff_eq, List.all_eq_true] at h
  refine ⟨h.1.1, h.1.2, ?_⟩
  intro s hs
  obtain ⟨t, ht⟩ := inDom_mem hs
  exact h.2 (s, t) ht

theorem topState_map (hstart : ap f 1 = 1) (st : Stack) : topState (mapStack f st) = ap f (topState st) := by
  cases st with
  | nil => simp [mapStack, topState, hstart]
  | cons e tl => simp [mapStack, topState]

theorem topState_dom (h1 : inDom f 1 = true) {st : Stack} (h : AllDom f st) : inDom f (topState st) = true := by
  cases st with
  | nil => simpa [topState] using h1
  | cons e tl => exact h e List.mem_cons_self

theorem popN_map (f : SMap) : ∀ (st : Stack) (n : Nat),
    popN n (mapStack f st) = (popN n st).map fun r => (r.1, mapStack f r.2) := by
  intro st
  induction st with
  | nil => intro n; cases n <;> simp [popN, mapStack]
  | cons e tl ih =>
    intro n
    obtain ⟨s, t⟩ := e
    cases n with
    | zero => simp [popN, mapStack]
    | succ n =>
      have := ih (if t.isExtra = true then n + 1 else n)
      simp only [mapStack, List.map_cons, popN] at this ⊢
      rw [this]
      cases popN (if t.isExtra = true then n + 1 else n) tl <;> simp

theorem pops_sub {n : Nat} {st : Stack} {ks : List PTree} {rest : Stack} (h : Pops n st ks rest) :
    ∀ e, e ∈ rest → e ∈ st := by
  induction h with
  | zero => exact fun _ he => he
  | extra _ _ ih => exact fun e he => List.mem_cons_of_mem _ (ih e he)
  | keep _ _ ih => exact fun e he => List.mem_cons_of_mem _ (ih e he)

theorem acceptTree_map (f : SMap) (st : Stack) : acceptTree (mapStack f st) = acceptTree st := by
  have : (mapStack f st).map (·.2) = st.map (·.2) := by simp [mapStack, List.map_map, Function.comp_def]
  unfold acceptTree
  rw [this]

theorem cell_of_sim (hs : Sim A B f) {s a : Nat} (hd : inDom f s = true)
    {x : Action} (hx : effective (A.actions s a) = [x]) :
    effective (B.actions (ap f s) a) = [mapAct f x] ∧ shiftDomOK f x = true := by
  have hst := hs.st s hd
  simp only [stateOK, Bool.and_eq_true, List.all_eq_true] at hst
  simpa [cellOK, hx] using hst.1.2 (a, A.actions s a) (actions_mem (effective_single hx))

theorem goto_of_sim (hs : Sim A B f) {s X : Nat} (hd : inDom f s = true)
    (hq : A.goto s X ≠ 0) :
    inDom f (A.goto s X) = true ∧ B.goto (ap f s) X = ap f (A.goto s X) ∧
    (eoeSym A f X = true → ((A.goto s X == s) = (ap f (A.goto s X) == ap f s))) := by
  have hst := hs.st s hd
  simp only [stateOK, Bool.and_eq_true, List.all_eq_true] at hst
  have := hst.2 (X, A.goto s X) (goto_mem hq)
  simp only [gotoOK, Bool.or_eq_true, beq_iff_eq, Bool.and_eq_true, Bool.not_eq_true'] at this
  rcases this with h0 | ⟨⟨h1, h2⟩, h3⟩
  · exact absurd h0 hq
  · exact ⟨h1, h2, fun he => h3.resolve_left (by simp [he])⟩

theorem state_of_sim (hs : Sim A B f) {s : Nat} (hd : inDom f s = true) :
    ap f s ≠ 0 ∧ ap f s < B.stateCount ∧ A.lexEnd s = B.lexEnd (ap f s) := by
  have hst := hs.st s hd
  simp only [stateOK, Bool.and_eq_true, bne_iff_ne, ne_eq, decide_eq_true_eq, beq_iff_eq] at hst
  exact ⟨hst.1.1.1.1, hst.1.1.1.2, hst.1.1.2⟩

theorem eoeSym_of {A : Table} {s X n : Nat} {dp : Int} {pid : Nat} (hd : inDom f s = true)
    (hl : A.lexEnd s = true) (hx : effective (A.actions s 0) = [Action.reduce X n dp pid]) : eoeSym A f X = true := by
  obtain ⟨t, ht⟩ := inDom_mem hd
  unfold eoeSym
  simp only [List.any_eq_true, Bool.and_eq_true]
  refine ⟨(s, t), ht, hl, ?_⟩
  unfold hasReduceOf
  simp only [List.any_eq_true]
  exact ⟨_, effective_single hx, by simp⟩

theorem reduce_sim (A B : Table) (f : SMap) (hs : Sim A B f) (st st' : Stack) (hdom : AllDom f st)
    (X n : Nat) (dp : Int) (pid : Nat) (eoe : Bool) (heoe : eoe = true → eoeSym A f X = true)
    (h : reduce A st X n dp pid eoe = .ok st') :
    reduce B (mapStack f st) X n dp pid eoe = .ok (mapStack f st') ∧ AllDom f st' := by
  obtain ⟨kids, rest, hp, hq0, _, rfl⟩ := reduce_eq_ok.mp h
  have hrest : AllDom f rest := fun e he => hdom e (pops_sub (pops_of_popN hp) e he)
  obtain ⟨hqd, hqB, hself⟩ := goto_of_sim hs (topState_dom hs.dom1 hrest) hq0
  obtain ⟨hb0, hbS, _⟩ := state_of_sim hs hqd
  have hflag : (eoe && ap f (A.goto (topState rest) X) == ap f (topState rest)) =
      (eoe && A.goto (topState rest) X == topState rest) := by
    cases eoe with
    | false => rfl
    | true => simpa using (hself (heoe rfl)).symm
  refine ⟨reduce_eq_ok.mpr ⟨kids, mapStack f rest, by simp [popN_map, hp], ?_, ?_, ?_⟩, ?_⟩
  · rwa [topState_map hs.start, hqB]
  · rwa [topState_map hs.start, hqB]
  · rw [topState_map hs.start, hqB, hflag]
    simp [mapStack, List.map_map, Function.comp_def]
  · refine List.forall_mem_append.mpr ⟨fun e he => ?_, List.forall_mem_cons.mpr ⟨hqd, hrest⟩⟩
    obtain ⟨t, _, rfl⟩ := List.mem_map.mp he
    exact hqd

theorem stepAct_sim (hs : Sim A B f) {c : Conf} (hdom : AllDom f c.stack) {eoe : Bool}
    {a : Action} (hsh : shiftDomOK f a = true)
    (heoe : ∀ X n dp pid, a = .reduce X n dp pid → eoe = true → eoeSym A f X = true) :
    (∀ c', stepAct acceptTree A c eoe a = some (.inl c') →
        stepAct acceptTree B { stack := mapStack f c.stack, toks := c.toks } eoe (mapAct f a) =
          some (.inl { stack := mapStack f c'.stack, toks := c'.toks }) ∧ AllDom f c'.stack) ∧
    (∀ t, stepAct acceptTree A c eoe a = some (.inr t) →
        stepAct acceptTree B { stack := mapStack f c.stack, toks := c.toks } eoe (mapAct f a) = some (.inr t)) := by
  refine ⟨fun c' h => ?_, fun t h => ?_⟩
  · rcases stepAct_inl_elim h with ⟨s', e, rep, x, rfl, ht, hst, _, _⟩ | ⟨X, n, dp, pid, rfl, hr, ht⟩
    · have hd' : inDom f (if e = true then topState c.stack else s') = true := by
        cases e with
        | true => exact topState_dom hs.dom1 hdom
        | false => simpa [shiftDomOK] using hsh
      obtain ⟨hb0, hbS, _⟩ := state_of_sim hs hd'
      have hno : ¬ (ap f (if e = true then topState c.stack else s') = 0 ∨
          B.stateCount ≤ ap f (if e = true then topState c.stack else s')) := by omega
      refine ⟨?_, hst ▸ List.forall_mem_cons.mpr ⟨hd', hdom⟩⟩
      simp only [stepAct, mapAct, ht, topState_map hs.start]
      cases e <;> simp_all [mapStack]
    · obtain ⟨hrB, hd'⟩ := reduce_sim A B f hs c.stack c'.stack hdom X n dp pid eoe (heoe X n dp pid rfl) hr
      exact ⟨by simp [stepAct, mapAct, hrB, ht], hd'⟩
  · obtain ⟨rfl, ht, hacc⟩ := stepAct_inr_iff.mp h
    exact stepAct_inr_iff.mpr ⟨rfl, ht, by rwa [acceptTree_map]⟩

theorem applies_sim (hs : Sim A B f) {c : Conf} (hdom : AllDom f c.stack) {a : Action}
    (ha : Applies A c a) :
    Applies B { stack := mapStack f c.stack, toks := c.toks } (mapAct f a) ∧ shiftDomOK f a = true ∧
    B.lexEnd (ap f (topState c.stack)) = A.lexEnd (topState c.stack) ∧
    ∀ X n dp pid, a = .reduce X n dp pid → A.lexEnd (topState c.stack) = true → eoeSym A f X = true := by
  have hsd := topState_dom hs.dom1 hdom
  obtain ⟨_, _, hlex⟩ := state_of_sim hs hsd
  obtain ⟨hcell, hred⟩ := ha
  unfold Applies cellActions at *
  simp only [topState_map hs.start, ← hlex]
  cases hle : A.lexEnd (topState c.stack) with
  | true =>
    simp only [hle, if_true] at hcell ⊢
    obtain ⟨hB, hsh⟩ := cell_of_sim hs hsd hcell
    obtain ⟨X, n, dp, pid, rfl⟩ := hred hle
    exact ⟨⟨hB, fun _ => ⟨X, n, dp, pid, rfl⟩⟩, hsh, trivial,
      fun X' n' dp' pid' he _ => by cases he; exact eoeSym_of hsd hle hcell⟩
  | false =>
    simp only [hle, Bool.false_eq_true, if_false] at hcell ⊢
    obtain ⟨hB, hsh⟩ := cell_of_sim hs hsd hcell
    exact ⟨⟨hB, nofun⟩, hsh, trivial, fun _ _ _ _ _ h => nomatch h⟩

theorem step_sim (A B : Table) (f : SMap) (hs : Sim A B f) (c : Conf) (hdom : AllDom f c.stack) :
    (∀ c', step A c = .inl c' →
        step B { stack := mapStack f c.stack, toks := c.toks } = .inl { stack := mapStack f c'.stack, toks := c'.toks } ∧
        AllDom f c'.stack) ∧
    (∀ t, step A c = .inr (.accepted t) →
        step B { stack := mapStack f c.stack, toks := c.toks } = .inr (.accepted t)) := by
  refine ⟨fun c' h => ?_, fun t h => ?_⟩
  · obtain ⟨a, ha, hact⟩ := step_inl_elim h
    obtain ⟨haB, hsh, hlex, heoe⟩ := applies_sim hs hdom ha
    obtain ⟨hB, hd'⟩ := (stepAct_sim hs hdom hsh heoe).1 c' hact
    exact ⟨haB.step_inl (by rw [topState_map hs.start, hlex]; exact hB), hd'⟩
  · obtain ⟨a, ha, hact⟩ := step_accepted_elim h
    obtain ⟨haB, hsh, hlex, heoe⟩ := applies_sim hs hdom ha
    exact haB.step_accepted (by rw [topState_map hs.start, hlex]; exact (stepAct_sim hs hdom hsh heoe).2 t hact)

theorem runLoop_sim (A B : Table) (f : SMap) (hs : Sim A B f) :
    ∀ (fuel : Nat) (c : Conf) (t : PTree), AllDom f c.stack → runLoop A fuel c = .accepted t →
      runLoop B fuel { stack := mapStack f c.stack, toks := c.toks } = .accepted t := by
  intro fuel
  induction fuel with
  | zero => intro c t _ h; simp [runLoop] at h
  | succ k ih =>
    intro c t hdom h
    have hst := step_sim A B f hs c hdom
    unfold runLoop at h ⊢
    cases hstep : step A c with
    | inl c' =>
      rw [hstep] at h
      obtain ⟨hB, hd'⟩ := hst.1 c' hstep
      rw [hB]
      exact ih c' t hd' h
    | inr o =>
      rw [hstep] at h
      simp only at h
      subst h
      rw [hst.2 t hstep]

end TsVerif.C15
