import TsVerif.C03.Relate
/-!
# C15 — the two tables of a pair name their terminals alike

The decidable premise under which a statement about token NAMES (the source grammar's derivations) read through
one table of a pair is the same statement read through the other.
-/
namespace TsVerif.C15
open TsVerif.C03

def sameTerminals (A B : Table) : Bool :=
  A.tokenCount == B.tokenCount && (List.range A.tokenCount).all fun a => tokOf A a == tokOf B a

end TsVerif.C15
