import TsVerif.C15.Lemmas
import TsVerif.C15.SameTerminals
import TsVerif.C03.RenameLemmas
/-!
# C15 — the converse direction for merged pairs, through the source grammar

Merging states adds look-aheads to reduce actions, so the optimised table `B` does not simulate back
into the unoptimised table `A` state by state.  Instead of the classical argument (a merged table
performs at most some extra reductions before it reports the same error) the converse goes through the
two C03 theorems, both of which hold for ALL token strings and are validated per pair by decidable
checks on the two dumped tables, and the forward simulation:

* `B` accepts `toks`  ⇒ the grammar derives `toks`          (`parser_sound`, premises `tableSafe B`, `relOK g B`)
* the grammar derives `toks` ⇒ `A` accepts `toks`           (`parser_complete`, premises `coverOK g A P`, `completeOK A P`)
* `A` accepts with tree `t'` ⇒ `B` accepts with tree `t'`    (`runLoop_sim`, premise `simCheck A B f`)

and the driver is a function, so `t' = t`: the unoptimised table
accepts exactly the same strings with exactly the same trees (`merged_pair_equivalent`,
`optimised_accepted_is_accepted_unoptimised` in Props.lean).
-/
namespace TsVerif.C15
open TsVerif.C03

theorem same_trees_of_sim {A B : Table} {f : SMap} (hs : Sim A B f) {toks : List Nat}
    (hback : ∀ fb tb, runLoop B fb { stack := [], toks := toks } = .accepted tb →
      ∃ fa ta, runLoop A fa { stack := [], toks := toks } = .accepted ta) (t : PTree) :
    (∃ fuel, runLoop A fuel { stack := [], toks := toks } = .accepted t) ↔
    (∃ fuel, runLoop B fuel { stack := [], toks := toks } = .accepted t) := by
  have fwd : ∀ fa ta, runLoop A fa { stack := [], toks := toks } = .accepted ta →
      runLoop B fa { stack := [], toks := toks } = .accepted ta := fun fa ta hA => by
    simpa [mapStack] using runLoop_sim A B f hs fa { stack := [], toks := toks } ta nofun hA
  refine ⟨fun ⟨fa, hA⟩ => ⟨fa, fwd fa t hA⟩, fun ⟨fb, hB⟩ => ?_⟩
  obtain ⟨fa, ta, hA⟩ := hback fb t hB
  cases runLoop_det B fb fa _ t ta hB (fwd fa ta hA)
  exact ⟨fa, hA⟩

theorem map_tokOf_eq {A B : Table} (h : sameTerminals A B = true) {toks : List Nat}
    (ht : ∀ a, a ∈ toks → a < A.tokenCount) : toks.map (tokOf A) = toks.map (tokOf B) := by
  simp only [sameTerminals, Bool.and_eq_true, List.all_eq_true, List.mem_range, beq_iff_eq] at h
  exact List.map_congr_left fun a ha => h.2 a (ht a ha)

end TsVerif.C15
