/-!
# C15 — `ActionListPool::canonicalize` (crates/generate/src/tables.rs): independence of the old numbering

Before rendering, the generator re-interns every action list in the order in which the parse
states' cells mention them: a fresh pool that starts with the empty list, a cache `old_to_new`
indexed by the OLD list id, and `intern` (look the content up, append if absent).  The OLD ids are
whatever the table construction happened to assign (interning history).  `canonicalize_perm` says
the result depends only on the sequence of list CONTENTS met in table order — any renumbering
(permutation, even a non-injective one) of the old ids gives the same new ids.  Hand port; the
determinism runs of the check are its tie to the code.
-/
namespace TsVerif.C15

variable {C : Type} [DecidableEq C]

def findIdx' (x : C) : List C → Option Nat
  | [] => none
  | y :: ys => if y = x then some 0 else (findIdx' x ys).map (· + 1)

def intern (pool : List C) (x : C) : List C × Nat :=
  match findIdx' x pool with
  | some i => (pool, i)
  | none => (pool ++ [x], pool.length)

/-- the loop of `canonicalize` over the old ids in table order -/
def canonLoop (content : Nat → C) : List Nat → List (Nat × Nat) → List C → List Nat
  | [], _, _ => []
  | o :: rest, cache, pool =>
    match cache.lookup o with
    | some n => n :: canonLoop content rest cache pool
    | none =>
      (intern pool (content o)).2 ::
        canonLoop content rest ((o, (intern pool (content o)).2) :: cache) (intern pool (content o)).1

/-- the same without the cache: intern every content as it comes -/
def byContent : List C → List C → List Nat
  | [], _ => []
  | x :: rest, pool => (intern pool x).2 :: byContent rest (intern pool x).1

def canonicalize (empty : C) (content : Nat → C) (ids : List Nat) : List Nat :=
  canonLoop content ids [] [empty]

theorem findIdx'_snoc (x y : C) : ∀ pool : List C,
    findIdx' x (pool ++ [y]) = (findIdx' x pool).or (if y = x then some pool.length else none)
  | [] => by simp [findIdx']
  | z :: zs => by
    simp only [List.cons_append, findIdx', findIdx'_snoc x y zs, List.length_cons]
    split
    · rfl
    · cases findIdx' x zs <;> simp <;> split <;> simp

def Known (pool : List C) (x : C) (n : Nat) : Prop := findIdx' x pool = some n

theorem known_intern (pool : List C) (x : C) (n : Nat) (h : Known pool x n) : intern pool x = (pool, n) := by
  unfold intern; rw [h]

theorem known_after (pool : List C) (x y : C) (n : Nat) (h : Known pool x n) : Known (intern pool y).1 x n := by
  unfold intern
  cases hy : findIdx' y pool with
  | some j => exact h
  | none => simp [Known, findIdx'_snoc, show findIdx' x pool = some n from h]

theorem intern_known (pool : List C) (x : C) : Known (intern pool x).1 x (intern pool x).2 := by
  unfold intern
  cases hx : findIdx' x pool with
  | some j => exact hx
  | none => simp [Known, findIdx'_snoc, hx]

theorem canonLoop_eq (content : Nat → C) : ∀ (ids : List Nat) (cache : List (Nat × Nat)) (pool : List C),
    (∀ o n, cache.lookup o = some n → Known pool (content o) n) →
    canonLoop content ids cache pool = byContent (ids.map content) pool := by
  intro ids
  induction ids with
  | nil => intro cache pool _; rfl
  | cons o rest ih =>
    intro cache pool hinv
    simp only [canonLoop, List.map_cons, byContent]
    cases hl : cache.lookup o with
    | some n =>
      simp only [known_intern pool (content o) n (hinv o n hl), ih cache pool hinv]
    | none =>
      simp only
      congr 1
      apply ih
      intro o' n' h'
      simp only [List.lookup] at h'
      split at h'
      · next heq =>
        have : o' = o := by simpa using heq
        subst this
        cases h'
        exact intern_known pool (content o')
      · exact known_after pool _ _ n' (hinv o' n' h')

/-- Two poolings whose cells carry the same contents in table order get the
same new ids, whatever their old ids were. -/
theorem canonicalize_perm (empty : C) (content content' : Nat → C) (ids ids' : List Nat)
    (h : ids.map content = ids'.map content') :
    canonicalize empty content ids = canonicalize empty content' ids' := by
  unfold canonicalize
  rw [canonLoop_eq content ids [] [empty] (by intro o n h; simp at h),
      canonLoop_eq content' ids' [] [empty] (by intro o n h; simp at h), h]

-- non-vacuity: old ids 7,3,7,9 vs 1,2,1,5 with the same contents
example : canonicalize "" (fun o => if o = 7 then "S5" else if o = 3 then "R2" else "S5") [7, 3, 7, 9]
        = canonicalize "" (fun o => if o = 1 then "S5" else if o = 2 then "R2" else "S5") [1, 2, 1, 5] := by decide +kernel
example : canonicalize "" (fun o => if o = 7 then "S5" else if o = 3 then "R2" else "S5") [7, 3, 7, 9] = [1, 2, 1, 1] := by decide +kernel

end TsVerif.C15
