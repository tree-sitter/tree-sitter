import TsVerif.C15.Canon
import TsVerif.C15.Converse
/-!
# C15 — Generation is deterministic and table optimisation never changes results

Property text: generating a parser twice from the same grammar, in separate processes, yields
byte-identical parser source and node-types output.  Turning the optional state-merging
optimisation off changes no observable result: the two parsers accept the same strings and produce
identical trees on every accepted string.

## Clause-by-clause map

`A` is the table of the `OptLevel::empty()` parser, `B` the table of the `OptLevel::MergeStates`
parser, both dumped from the loaded `TSLanguage` by the runtime's own lookup functions.  The driver
is the shared `TsVerif.C03.run` (single-version LR driver, port of ts_parser__advance/reduce/accept),
tied to both REAL parsers per explored string (accept/reject and tree).
Status: **proved** = ∀-theorem; **partial** = proved under decidable hypotheses evaluated per
generated pair (fractions: thorough tier, seed 1, 1601 pairs, 963 of them with merged states);
**judged** = implementation against implementation on explored inputs.

| phrase of the property text | theorems | status |
|---|---|---|
| "generating a parser twice from the same grammar, in separate processes, yields byte-identical parser source and node-types output" | — | judged: ≥ 4 (quick 6) fresh processes per optimisation level per grammar, bytes of parser.c / node-types.json compared (`allEqual`); 1601/1601 |
| … the re-interning of action lists before rendering does not depend on the interning history | `canonicalize_perm` (Canon.lean: hand port of `ActionListPool::canonicalize`) | proved about the port |
| "turning the optimisation off changes no observable result": unoptimised accepts with tree `t` ⇒ optimised accepts with the same `t`, ALL token strings | `sim_preserves`, `findSim_sound`, `optimised_preserves_accepted` | partial: `findSim A B` succeeds — 1601/1601 (failing is a violation) |
| optimised accepts with tree `t` ⇒ unoptimised accepts with the same `t`, pairs where nothing was merged state-wise | `tables_equivalent` | partial: `findSim B A` succeeds — 639/1601 (`rsim`) |
| optimised accepts with tree `t` ⇒ unoptimised accepts with the same `t`, pairs with merged states | `optimised_accepted_is_accepted_unoptimised`, `merged_pair_equivalent`, `merged_pair_equivalent_up_to_names` (through the source grammar: C03 `parser_sound` on `B`, `parser_complete` on `A`, determinism of the driver; strings of non-extra terminals, existential fuel) | partial: `simCheck ∧ tableSafe B ∧ relOK g B ∧ coverOK g A P ∧ completeOK A P ∧ sameTerminals` — 1105/1601, of which 505 of the 963 merged pairs (for LR(1)-by-construction pairs failing is a violation); either converse: 1143/1601 |
| "the two parsers accept the same strings and produce identical trees on every accepted string" — the rest | — | judged: both REAL parsers on every explored string (`agree`; 6.2 M strings incl. sentences written without separators for lexically conflicting look-aheads, 113702 accepted by both, 0 differing) |

OPEN: the converse for merged pairs outside the grammar route (precedence-resolved conflicts,
aliases, hidden terminal rules, > 100 states) is only sampled; process-level determinism is sampled.
-/
namespace TsVerif.C15
open TsVerif.C03

/-- If `f` passes the decidable simulation check from table `A` to table `B`,
then every accepting run of the driver on `A` is an accepting run on `B` with the SAME tree —
for all token strings. -/
theorem sim_preserves (A B : Table) (f : SMap) (h : simCheck A B f = true)
    (toks : List Nat) (t : PTree) (hA : run A toks = .accepted t) : run B toks = .accepted t := by
  simpa [run, mapStack] using runLoop_sim A B f (sim_of_check h) _ { stack := [], toks := toks } t nofun hA

/-- The map computed by lock-step exploration satisfies the premise of `sim_preserves`. -/
theorem findSim_sound (A B : Table) (f : SMap) (h : findSim A B = some f) : simCheck A B f = true := by
  unfold findSim at h
  split at h
  · next f' _ =>
    split at h
    · next hc => cases h; exact hc
    · cases h
  · cases h

/-- The per-pair statement the check evaluates: `findSim` succeeded ⇒ everything `A` accepts, `B`
accepts with the same tree. -/
theorem optimised_preserves_accepted (A B : Table) (f : SMap) (h : findSim A B = some f)
    (toks : List Nat) (t : PTree) (hA : run A toks = .accepted t) : run B toks = .accepted t :=
  sim_preserves A B f (findSim_sound A B f h) toks t hA

/-- The converse direction for the pairs on which a state-wise simulation from the optimised to the
unoptimised table exists (`findSim B A` succeeds — reported per pair as `rsim`): together with
`optimised_preserves_accepted` the two tables then accept exactly the same token strings with the
same trees. -/
theorem tables_equivalent (A B : Table) (f f' : SMap) (h : findSim A B = some f) (h' : findSim B A = some f')
    (toks : List Nat) (t : PTree) : run A toks = .accepted t ↔ run B toks = .accepted t :=
  ⟨optimised_preserves_accepted A B f h toks t, optimised_preserves_accepted B A f' h' toks t⟩

/-- Both directions for a validated pair, merged states or not: the two
tables accept exactly the same strings of non-extra terminals with exactly the same trees. -/
theorem merged_pair_equivalent (g : Grammar) (A B : Table) (f : SMap) (auxA auxB : AuxMap)
    (P : List Prod) (ann : Ann) (start : Nat)
    (hsim : simCheck A B f = true)
    (hsafeB : tableSafe B = true) (hrelB : relOK g B auxB = true)
    (hcovA : coverOK g A auxA P start = true) (hokA : completeOK A P (auxAllow auxA) ann start = true)
    (hnames : sameTerminals A B = true)
    (toks : List Nat) (htoks : ∀ a, a ∈ toks → a < A.tokenCount ∧ a ≠ 0 ∧ isExtraSym B a = false) (t : PTree) :
    (∃ fuel, runLoop A fuel { stack := [], toks := toks } = .accepted t) ↔
    (∃ fuel, runLoop B fuel { stack := [], toks := toks } = .accepted t) := by
  -- what `B` accepts the grammar derives, and what the grammar derives `A` accepts
  refine same_trees_of_sim (sim_of_check hsim) (fun fb tb hB => ?_) t
  have hd := parser_sound_fuel hsafeB hrelB (fun a ha => (htoks a ha).2.1) hB
  rw [filter_not_extra fun a ha => (htoks a ha).2.2, ← map_tokOf_eq hnames (fun a ha => (htoks a ha).1)] at hd
  exact parser_complete g A auxA P ann start hcovA hokA toks (fun a ha => ⟨(htoks a ha).1, (htoks a ha).2.1⟩) hd

/-- The converse direction for pairs in which states WERE
merged, validated through the source grammar `g` (Converse.lean): `B` accepts ⇒ `g` derives
(`C03.parser_sound`, premises `tableSafe B`, `relOK g B auxB`) ⇒ `A` accepts (`C03.parser_complete`,
premises `coverOK g A auxA P start`, `completeOK A P … ann start`) and then with the SAME tree
(`simCheck A B f` and the driver being a function).  For ALL strings of non-extra terminals; the
five premises are decidable and evaluated per generated pair (`conv=true` on the `P` line). -/
theorem optimised_accepted_is_accepted_unoptimised (g : Grammar) (A B : Table) (f : SMap) (auxA auxB : AuxMap)
    (P : List Prod) (ann : Ann) (start : Nat)
    (hsim : simCheck A B f = true)
    (hsafeB : tableSafe B = true) (hrelB : relOK g B auxB = true)
    (hcovA : coverOK g A auxA P start = true) (hokA : completeOK A P (auxAllow auxA) ann start = true)
    (hnames : sameTerminals A B = true)
    (toks : List Nat) (htoks : ∀ a, a ∈ toks → a < A.tokenCount ∧ a ≠ 0 ∧ isExtraSym B a = false)
    (fuel : Nat) (t : PTree) (hB : runLoop B fuel { stack := [], toks := toks } = .accepted t) :
    ∃ fuel', runLoop A fuel' { stack := [], toks := toks } = .accepted t :=
  (merged_pair_equivalent g A B f auxA auxB P ann start hsim hsafeB hrelB hcovA hokA hnames toks htoks t).2 ⟨fuel, hB⟩

/-- The form the check evaluates — the validations run on the two
tables with their non-terminals renamed by untrusted maps (a rule aliased at every use carries the
alias as its symbol name; names of non-terminals are immaterial), the grammar is read through
`C03.tokenView`; the equivalence is about the two dumped tables themselves. -/
theorem merged_pair_equivalent_up_to_names (g : Grammar) (A B : Table) (renA renB : List (Nat × String))
    (f : SMap) (auxA auxB : AuxMap) (P : List Prod) (ann : Ann) (start : Nat)
    (hsim : simCheck (renameNT A renA) (renameNT B renB) f = true)
    (hsafeB : tableSafe (renameNT B renB) = true) (hrelB : relOK g (renameNT B renB) auxB = true)
    (hcovA : coverOK g (renameNT A renA) auxA P start = true)
    (hokA : completeOK (renameNT A renA) P (auxAllow auxA) ann start = true)
    (hnames : sameTerminals (renameNT A renA) (renameNT B renB) = true)
    (toks : List Nat) (htoks : ∀ a, a ∈ toks → a < A.tokenCount ∧ a ≠ 0 ∧ isExtraSym B a = false) (t : PTree) :
    (∃ fuel, runLoop A fuel { stack := [], toks := toks } = .accepted t) ↔
    (∃ fuel, runLoop B fuel { stack := [], toks := toks } = .accepted t) := by
  simpa only [runLoop_rename] using merged_pair_equivalent g (renameNT A renA) (renameNT B renB) f auxA auxB P ann start
    hsim hsafeB hrelB hcovA hokA hnames toks htoks t

/-! ## non-vacuity: a table with a duplicated state and its merged version -/

/-- `S → a | b`, with two copies (2 and 4) of the state after the token -/
def tA : Table :=
  { symbolCount := 4, tokenCount := 3, stateCount := 5
    acts := #[[], [(1, [.shift 2 false false]), (2, [.shift 4 false false])],
              [(0, [.reduce 3 1 0 0])], [(0, [.accept])], [(0, [.reduce 3 1 0 0])]]
    gotos := #[[], [(3, 3)], [], [], []]
    lexState := #[0, 0, 0, 0, 0] }
def tB : Table :=
  { symbolCount := 4, tokenCount := 3, stateCount := 4
    acts := #[[], [(1, [.shift 2 false false]), (2, [.shift 2 false false])],
              [(0, [.reduce 3 1 0 0])], [(0, [.accept])]]
    gotos := #[[], [(3, 3)], [], []]
    lexState := #[0, 0, 0, 0] }

example : (findSim tA tB).isSome = true := by decide +kernel
-- the converse map exists only where nothing was merged (here: tB against itself)
example : (findSim tB tB).isSome = true := by decide +kernel
-- state 2 of tB stands for states 2 and 4 of tA
example : (findSim tB tA).isSome = false := by decide +kernel
example : simCheck tA tB [(4, 2), (2, 2), (3, 3), (1, 1)] = true := by decide +kernel
example : (match run tA [2], run tB [2] with | .accepted a, .accepted b => a.leaves == b.leaves | _, _ => false) = true := by decide +kernel
/-- the premises of `merged_pair_equivalent` on this merged pair, with the grammar `s: choice('a', 'b')` -/
def tSyms : Array SymInfo :=
  #[⟨false, true, false, 0, "end"⟩, ⟨true, false, false, 1, "a"⟩, ⟨true, false, false, 2, "b"⟩, ⟨true, true, false, 3, "s"⟩]
def tAn : Table := { tA with syms := tSyms }
def tBn : Table := { tB with syms := tSyms }
def tG : Grammar := { name := "t", rules := [("s", .choice (.str "a") (.str "b"))] }
def tAnn : Ann :=
  { items := #[[], [⟨3, [1], 0, 0, 0, none⟩, ⟨3, [2], 0, 0, 0, none⟩], [⟨3, [1], 0, 1, 0, none⟩], [], [⟨3, [2], 0, 1, 0, none⟩]],
    nullable := [], first := [(3, [1, 2])] }
example : simCheck tAn tBn [(4, 2), (2, 2), (3, 3), (1, 1)] = true := by decide +kernel
example : tableSafe tBn = true := by decide +kernel
example : relOK tG tBn [] = true := by decide +kernel
example : coverOK tG tAn [] [(3, [1], 0), (3, [2], 0)] 3 = true := by decide +kernel
example : completeOK tAn [(3, [1], 0), (3, [2], 0)] (auxAllow []) tAnn 3 = true := by decide +kernel
example : sameTerminals tAn tBn = true := by decide +kernel
/-- a wrong merge (state 4 of `A` reduces 2 children, the merged state 1) is refused -/
def tA' : Table := { tA with acts := #[[], [(1, [.shift 2 false false]), (2, [.shift 4 false false])],
              [(0, [.reduce 3 1 0 0])], [(0, [.accept])], [(0, [.reduce 3 2 0 0])]] }
example : (findSim tA' tB).isSome = false := by decide +kernel

end TsVerif.C15
