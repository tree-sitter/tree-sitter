import TsVerif.C04.AddCalls
/-!
# C04 — the row/column dimension of the reported ranges

The theorems of `Props.lean` are about BYTES.  A `TSRange` also carries a start and an end POINT.  In
`get_changed_ranges.c` bytes and points never travel separately: every position the walk handles is a `Length`
(`bytes` + `extent`), `ts_range_array_add(start, end)` stores `start.bytes`/`start.extent` and `end.bytes`/`end.extent`
side by side, and the merge case overwrites `end_byte` and `end_point` together.  Hence (`ranges_points_from_calls`):

  every reported range's (start_byte, start_point) is (ℓ.bytes, ℓ.extent) for ONE `Length` ℓ handed to `add` as a start,
  and its (end_byte, end_point) is (ℓ'.bytes, ℓ'.extent) for ONE `Length` ℓ' handed to `add` as an end.

So whatever relation holds between the bytes and the extent of the walk's positions holds for the reported ranges.
The walk's positions are `iterator_start_position` / `iterator_end_position` values — sums (`length_add`) of the
paddings and sizes stored in the two trees (`walk_positions`).  That THOSE extents are the row/column of their byte
offset in the document is exactly the tree-consistency property of C10 (`Cons`: every stored padding/size is the
`Length` of the text it spans), which is a statement about trees and texts, not about this function: given it, each
reported point is the row/column of the reported byte, and "sorted / disjoint / inside the document / covers" in points
follow from the byte theorems because `pointAt` is monotone in the byte offset.  Without a text in the model the points
dimension is therefore: PROVED up to the trees' consistency (this file), and JUDGED on real outputs (`rangesOrdered`
compares points as well as bytes; the correspondence compares the port's points with the implementation's).
-/
namespace TsVerif.C04
open TsGen

def StartFrom (L : List Length) (r : TSRange) : Prop := ∃ x ∈ L, r.start_byte = x.bytes ∧ r.start_point = x.extent
def EndFrom (L : List Length) (r : TSRange) : Prop := ∃ x ∈ L, r.end_byte = x.bytes ∧ r.end_point = x.extent

theorem addRev_points (Ls Le : List Length) (racc : List TSRange) (s e : Length)
    (h : ∀ r ∈ racc, StartFrom Ls r ∧ EndFrom Le r) (hs : s ∈ Ls) (he : e ∈ Le) :
    ∀ r ∈ addRev racc s e, StartFrom Ls r ∧ EndFrom Le r := by
  have hnew : StartFrom Ls (mkRange s e) ∧ EndFrom Le (mkRange s e) := ⟨⟨s, hs, rfl, rfl⟩, ⟨e, he, rfl, rfl⟩⟩
  cases racc with
  | nil =>
    simp only [addRev]
    split
    · exact List.forall_mem_cons.2 ⟨hnew, h⟩
    · exact h
  | cons last rest =>
    obtain ⟨hl, hr⟩ := List.forall_mem_cons.1 h
    simp only [addRev]
    split
    · exact List.forall_mem_cons.2 ⟨⟨hl.1, ⟨e, he, rfl, rfl⟩⟩, hr⟩
    · split
      · exact List.forall_mem_cons.2 ⟨hnew, h⟩
      · exact h

theorem foldAdd_points (Ls Le : List Length) : ∀ (tr : List (Length × Length)) (racc : List TSRange),
    (∀ r ∈ racc, StartFrom Ls r ∧ EndFrom Le r) → (∀ c ∈ tr, c.1 ∈ Ls ∧ c.2 ∈ Le) →
    ∀ r ∈ foldAdd racc tr, StartFrom Ls r ∧ EndFrom Le r
  | [], _, h, _ => h
  | (s, e) :: rest, racc, h, hc =>
    have ⟨h1, h2⟩ := List.forall_mem_cons.1 hc
    foldAdd_points Ls Le rest (addRev racc s e) (addRev_points Ls Le racc s e h h1.1 h1.2) h2

/-- For ALL tree pairs, every reported range starts at (bytes, extent) of a `Length` that
was handed to `ts_range_array_add` as a start and ends at (bytes, extent) of one handed over as an end. -/
theorem ranges_points_from_calls (al : AliasTable) (fixed : Bool) (old new : Tree) (diffs : List TSRange) :
    let ch := changedRanges al fixed old new diffs
    ∀ r ∈ ch.ranges, StartFrom ((ch.main ++ ch.post).map (·.1)) r ∧ EndFrom ((ch.main ++ ch.post).map (·.2)) r := by
  intro ch r hr
  rw [show ch.ranges = _ from changedRanges_eq_fold al fixed old new diffs] at hr
  refine foldAdd_points _ _ (ch.main ++ ch.post) [] (by intro r h; cases h) ?_ r (List.mem_reverse.1 hr)
  intro c hc
  exact ⟨List.mem_map.2 ⟨c, hc, rfl⟩, List.mem_map.2 ⟨c, hc, rfl⟩⟩

/-- Every span of the walk runs from the loop position to the next position, and every call inside the loop is
such a span: the `Length`s handed to `add` are the walk's positions. -/
theorem walk_positions (al : AliasTable) (fixed : Bool) (old new : Tree) (diffs : List TSRange) :
    let ch := changedRanges al fixed old new diffs
    ch.main = ch.pre ++ callsOf ch.spans ∧ ∀ c ∈ callsOf ch.spans, ∃ sp ∈ ch.spans, c = (sp.1, sp.2.1) := by
  intro ch
  refine ⟨changedRanges_main al fixed old new diffs, fun c hc => ?_⟩
  unfold callsOf at hc
  obtain ⟨sp, hsp, h⟩ := List.mem_filterMap.1 hc
  refine ⟨sp, hsp, ?_⟩
  split at h
  · simp at h; exact h.symm
  · cases h

example : addRev [] ⟨3, ⟨1, 0⟩⟩ ⟨7, ⟨2, 2⟩⟩ = [⟨⟨1, 0⟩, ⟨2, 2⟩, 3, 7⟩] := by decide

end TsVerif.C04
