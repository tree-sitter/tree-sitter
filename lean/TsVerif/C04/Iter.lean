import TsVerif.Gen.Consts
import TsVerif.Common.Tree
import TsVerif.C04.Ranges
/-!
# C04 — port of the lock-step `Iterator` and of `ts_subtree_get_changed_ranges`
(lib/src/get_changed_ranges.c), over dumps of real subtrees (`TsVerif.Common.Tree`).

The cursor stack is a list whose head is `array_back`.  Loops of the C code that have no
structural measure are fuelled (fuel is computed from the sizes of the two trees; running out is
reported as `fuelOut` and makes the correspondence fail, it never silently truncates).
`visible_depth` is `unsigned`: decrement wraps like in C.

`fixed : Bool` selects the variant of the included-range override test: `false` = the code as it
is (`iterator_end_position(&old_iter)`), `true` = with fixes/C04-range-override-in-padding.diff
(`iterator_compared_span`).  `checks/c04.py` looks at the source to tell the driver which one
/repo currently has; every theorem is stated for both.

The function also returns the *trace* of `(start, end)` pairs it handed to `ts_range_array_add`;
the result is by construction the fold of `addRev` over that trace (`changedRanges_eq_fold`).
-/
namespace TsVerif.C04
open TsGen TsVerif

/-- `TSLanguage.alias_sequences` (flat) and `max_alias_sequence_length`. -/
structure AliasTable where
  maxLen : Nat := 0
  seqs : Array Nat := #[]
  deriving Inhabited

/-- `ts_language_alias_at`. -/
def aliasAt (al : AliasTable) (productionId childIndex : Nat) : Nat :=
  if productionId ≠ 0 then al.seqs.getD (productionId * al.maxLen + childIndex) 0 else 0

structure Entry where
  subtree : Tree
  position : Length
  childIndex : Nat
  structuralChildIndex : Nat
  deriving Inhabited

structure Iter where
  stack : List Entry
  visibleDepth : Nat
  inPadding : Bool
  prevExternalToken : Option Tree
  deriving Inhabited

def decU32 (n : Nat) : Nat := (n + 4294967295) % 4294967296

def iterNew (t : Tree) : Iter :=
  { stack := [{ subtree := t, position := length_zero, childIndex := 0, structuralChildIndex := 0 }]
    visibleDepth := 1, inPadding := false, prevExternalToken := none }

def Iter.done (it : Iter) : Bool := it.stack.isEmpty

def Iter.startPosition (it : Iter) : Length :=
  match it.stack with
  | e :: _ => if it.inPadding then e.position else length_add e.position e.subtree.data.padding
  | [] => length_zero

def Iter.endPosition (it : Iter) : Length :=
  match it.stack with
  | e :: _ =>
    let r := length_add e.position e.subtree.data.padding
    if it.inPadding then r else length_add r e.subtree.data.size
  | [] => length_zero

/-- `iterator_tree_is_visible` on a raw stack. -/
def stackTopVisible (al : AliasTable) : List Entry → Bool
  | e :: p :: _ => e.subtree.data.visible || aliasAt al p.subtree.data.productionId e.structuralChildIndex != 0
  | [e] => e.subtree.data.visible
  | [] => false

def Iter.treeIsVisible (al : AliasTable) (it : Iter) : Bool := stackTopVisible al it.stack

/-- The loop of `iterator_get_visible_state`; `alias` is the out-parameter carried along. -/
def visibleStateLoop (al : AliasTable) : List Entry → Nat → Option Tree × Nat × Nat
  | [], alias => (none, alias, 0)
  | e :: rest, alias =>
    let alias := match rest with
      | p :: _ => aliasAt al p.subtree.data.productionId e.structuralChildIndex
      | [] => alias
    if e.subtree.data.visible || alias != 0 then (some e.subtree, alias, e.position.bytes)
    else visibleStateLoop al rest alias

def Iter.visibleState (al : AliasTable) (it : Iter) : Option Tree × Nat × Nat :=
  if it.inPadding then
    match it.stack with
    | _ :: rest@(_ :: _) => visibleStateLoop al rest 0
    | _ => (none, 0, 0)
  else visibleStateLoop al it.stack 0

def Iter.ascend (al : AliasTable) (it : Iter) : Iter :=
  match it.stack with
  | [] => it
  | e :: rest =>
    let vd := if it.treeIsVisible al && !it.inPadding then decU32 it.visibleDepth else it.visibleDepth
    let ip := if e.childIndex > 0 then false else it.inPadding
    { it with stack := rest, visibleDepth := vd, inPadding := ip }

/- `ts_subtree_last_external_token`: follow, at every level, the LAST child that has external
tokens (no backtracking, like the C loop; where C would spin forever because no child carries
the flag, the model answers `none`). -/
mutual
  def lastExt : Tree → Option Tree
    | .mk d kids => if kids.isEmpty then some (.mk d kids) else lastExtKids kids
  def lastExtKids : List Tree → Option Tree
    | [] => none
    | t :: ts =>
      if ts.any (fun c => c.data.hasExternalTokens) then lastExtKids ts
      else if t.data.hasExternalTokens then lastExt t else none
end

def lastExternalToken (t : Tree) : Option Tree :=
  if t.data.hasExternalTokens then lastExt t else none

/-- The child scan inside `iterator_descend`: first child whose right end is beyond `goal`. -/
def scanKids : List Tree → Length → Nat → Nat → Nat → Option Tree → Option Entry × Option Tree
  | [], _, _, _, _, prev => (none, prev)
  | c :: rest, position, i, sci, goal, prev =>
    let childLeft := length_add position c.data.padding
    let childRight := length_add childLeft c.data.size
    if childRight.bytes > goal then
      (some { subtree := c, position := position, childIndex := i, structuralChildIndex := sci }, prev)
    else
      let sci := if !c.data.extra then sci + 1 else sci
      let prev := match lastExternalToken c with
        | some t => some t
        | none => prev
      scanKids rest childRight (i + 1) sci goal prev

/-- `iterator_descend` (the `do … while (did_descend)` loop, fuelled by the depth still available). -/
def descendLoop (al : AliasTable) : Nat → Iter → Nat → Iter × Bool
  | 0, it, _ => (it, false)
  | fuel + 1, it, goal =>
    match it.stack with
    | [] => (it, false)
    | e :: rest =>
      match scanKids e.subtree.kids e.position 0 0 goal it.prevExternalToken with
      | (none, prev) => ({ it with prevExternalToken := prev }, false)
      | (some ce, prev) =>
        let it := { it with stack := ce :: e :: rest, prevExternalToken := prev }
        if it.treeIsVisible al then
          let childLeft := length_add ce.position ce.subtree.data.padding
          if childLeft.bytes > goal then ({ it with inPadding := true }, true)
          else ({ it with visibleDepth := it.visibleDepth + 1 }, true)
        else descendLoop al fuel it goal

def Iter.descend (al : AliasTable) (fuel : Nat) (it : Iter) (goal : Nat) : Iter × Bool :=
  if it.inPadding then (it, false) else descendLoop al fuel it goal

/-- The `for (;;)` loop of `iterator_advance` (structural on the stack). -/
def advanceLoop (al : AliasTable) (fuel : Nat) : List Entry → Nat → Option Tree → Iter
  | [], vd, prev => { stack := [], visibleDepth := vd, inPadding := false, prevExternalToken := prev }
  | e :: rest, vd, prev =>
    let vd := if stackTopVisible al (e :: rest) then decU32 vd else vd
    match rest with
    | [] => { stack := [], visibleDepth := vd, inPadding := false, prevExternalToken := prev }
    | p :: _ =>
      let childIndex := e.childIndex + 1
      let prev := match lastExternalToken e.subtree with
        | some t => some t
        | none => prev
      match p.subtree.kids[childIndex]? with
      | some next =>
        let position := length_add e.position e.subtree.totalSize
        let sci := if !e.subtree.data.extra then e.structuralChildIndex + 1 else e.structuralChildIndex
        let ne : Entry := { subtree := next, position := position, childIndex := childIndex, structuralChildIndex := sci }
        let it : Iter := { stack := ne :: rest, visibleDepth := vd, inPadding := false, prevExternalToken := prev }
        if it.treeIsVisible al then
          if next.data.padding.bytes > 0 then { it with inPadding := true }
          else { it with visibleDepth := it.visibleDepth + 1 }
        else (it.descend al fuel 0).1
      | none => advanceLoop al fuel rest vd prev

def Iter.advance (al : AliasTable) (fuel : Nat) (it : Iter) : Iter :=
  if it.inPadding then
    let it := { it with inPadding := false }
    if it.treeIsVisible al then { it with visibleDepth := it.visibleDepth + 1 }
    else (it.descend al fuel 0).1
  else advanceLoop al fuel it.stack it.visibleDepth it.prevExternalToken

inductive Cmp where
  | differs | mayDiffer | matches
  deriving DecidableEq, Repr

def errorCostOf (d : NodeData) : Nat :=
  if d.isMissing then ERROR_COST_PER_MISSING_TREE + ERROR_COST_PER_RECOVERY else d.errorCost

/-- `ts_subtree_external_scanner_state`: the serialized bytes, empty unless a heap leaf with external tokens. -/
def extStateOf : Option Tree → String
  | some (.mk d kids) => if !d.isInline && d.hasExternalTokens && kids.isEmpty then d.ext else "x"
  | none => "x"

def TS_TREE_STATE_NONE : Nat := 65535

/-- `iterator_compare`. -/
def iterCompare (al : AliasTable) (o n : Iter) : Cmp :=
  let (ot, oa, os) := o.visibleState al
  let (nt, na, ns) := n.visibleState al
  match ot, nt with
  | none, none => .matches
  | none, some _ => .differs
  | some _, none => .differs
  | some ot, some nt =>
    let od := ot.data
    let nd := nt.data
    if oa != na || od.symbol != nd.symbol then .differs
    else if os != ns || od.symbol == 65535 || od.size.bytes != nd.size.bytes ||
        od.parseState == TS_TREE_STATE_NONE || nd.parseState == TS_TREE_STATE_NONE ||
        ((od.parseState == 0) != (nd.parseState == 0)) ||
        errorCostOf od != errorCostOf nd ||
        od.hasExternalTokens != nd.hasExternalTokens ||
        od.hasChanges ||
        (od.hasExternalTokens && extStateOf o.prevExternalToken != extStateOf n.prevExternalToken)
    then .mayDiffer
    else .matches

/-- Byte span of the subtree that `iterator_compare` looks at (`iterator_compared_span` of
fixes/C04-range-override-in-padding.diff), merged into a given span. -/
def Iter.comparedSpan (al : AliasTable) (it : Iter) (s e : Nat) : Nat × Nat :=
  match it.visibleState al with
  | (some t, _, start) => (min s start, max e (start + t.totalBytes))
  | (none, _, _) => (s, e)

def catchUp (al : AliasTable) (treeFuel : Nat) : Nat → Iter → Nat → Iter × Bool
  | 0, it, _ => (it, true)
  | fuel + 1, it, nextPos =>
    if !it.done && it.endPosition.bytes ≤ nextPos then catchUp al treeFuel fuel (it.advance al treeFuel) nextPos
    else (it, false)

def ascendTo (al : AliasTable) : Nat → Iter → Nat → Iter
  | 0, it, _ => it
  | fuel + 1, it, depth =>
    if it.visibleDepth > depth && !it.done then ascendTo al fuel (it.ascend al) depth else it

def skipDiffs (diffs : Array TSRange) (idx : Nat) (pos : Nat) : Nat → Nat
  | 0 => idx
  | fuel + 1 =>
    match diffs[idx]? with
    | some r => if r.end_byte ≤ pos then skipDiffs diffs (idx + 1) pos fuel else idx
    | none => idx

structure LoopSt where
  o : Iter
  n : Iter
  position : Length
  nextPosition : Length
  diffIdx : Nat
  spans : List (Length × Length × Nat)   -- reversed list of the iterations' spans `(position, next_position, label)`:
                                         -- label 0 = handed to `ts_range_array_add` (changed), 1 = `compare` answered
                                         -- Matches (skipped), 2 = passed over without either (may differ, no descent possible / both descended)
  fuelOut : Bool := false

/-- First half of the `do … while` body: compare, apply the included-range override, and move/descend:
`(old iterator, new iterator, is_changed, next_position, comparison)`. -/
def midStep (al : AliasTable) (fixed : Bool) (diffs : List TSRange) (treeFuel : Nat) (s : LoopSt) :
    Iter × Iter × Bool × Length × Cmp :=
  let cmp0 := iterCompare al s.o s.n
  let span := if fixed then s.o.comparedSpan al s.position.bytes s.o.endPosition.bytes
              else (s.position.bytes, s.o.endPosition.bytes)
  let startIdx := if fixed && span.1 < s.position.bytes then 0 else s.diffIdx
  let cmp := if cmp0 == .matches && intersects diffs startIdx span.1 span.2
             then Cmp.mayDiffer else cmp0
  match cmp with
  | .matches => (s.o, s.n, false, s.o.endPosition, cmp)
  | .mayDiffer =>
    let od := s.o.descend al treeFuel s.position.bytes
    if od.2 then
      let nd := s.n.descend al treeFuel s.position.bytes
      if !nd.2 then (od.1, nd.1, true, od.1.endPosition, cmp) else (od.1, nd.1, false, s.nextPosition, cmp)
    else
      let nd := s.n.descend al treeFuel s.position.bytes
      if nd.2 then (od.1, nd.1, true, nd.1.endPosition, cmp)
      else (od.1, nd.1, false, length_min od.1.endPosition nd.1.endPosition, cmp)
  | .differs => (s.o, s.n, true, length_min s.o.endPosition s.n.endPosition, cmp)

/-- One iteration of the `do … while` body. -/
def loopBody (al : AliasTable) (fixed : Bool) (diffs : List TSRange) (treeFuel : Nat) (s : LoopSt) : LoopSt :=
  let m := midStep al fixed diffs treeFuel s
  let nextPosition := m.2.2.2.1
  let cu1 := catchUp al treeFuel (2 * treeFuel + 2) m.1 nextPosition.bytes
  let cu2 := catchUp al treeFuel (2 * treeFuel + 2) m.2.1 nextPosition.bytes
  let o := ascendTo al (cu1.1.stack.length + 1) cu1.1 cu2.1.visibleDepth
  let n := ascendTo al (cu2.1.stack.length + 1) cu2.1 o.visibleDepth
  let label := if m.2.2.1 then 0 else if m.2.2.2.2 == .matches then 1 else 2
  let spans := (s.position, nextPosition, label) :: s.spans
  let diffIdx := skipDiffs diffs.toArray s.diffIdx nextPosition.bytes (diffs.length + 1)
  { o := o, n := n, position := nextPosition, nextPosition := nextPosition, diffIdx := diffIdx, spans := spans,
    fuelOut := s.fuelOut || cu1.2 || cu2.2 }

def mainLoop (al : AliasTable) (fixed : Bool) (diffs : List TSRange) (treeFuel : Nat) : Nat → LoopSt → LoopSt
  | 0, s => { s with fuelOut := true }
  | fuel + 1, s =>
    let s := loopBody al fixed diffs treeFuel s
    if !s.o.done && !s.n.done then mainLoop al fixed diffs treeFuel fuel s else s

structure Changed where
  ranges : List TSRange
  main : List (Length × Length)      -- add calls before and inside the loop, in call order
  post : List (Length × Length)      -- the final size-difference call (0 or 1 element)
  matched : List (Nat × Nat)
  spans : List (Length × Length × Nat)   -- the iterations' spans in order (see `LoopSt.spans`)
  pre : List (Length × Length)           -- the call made before the loop (0 or 1 element); `main = pre ++ calls spans`
  fuelOut : Bool

/-- The add calls of `ts_subtree_get_changed_ranges` in order: (before and inside the loop, after the loop). -/
def changedTrace (al : AliasTable) (fixed : Bool) (old new : Tree) (diffs : List TSRange) :
    List (Length × Length) × List (Length × Length × Nat) × List (Length × Length) × Bool :=
  let o := iterNew old
  let n := iterNew new
  let p := o.startPosition
  let np := n.startPosition
  let (pre, position, nextPosition) :=
    if p.bytes < np.bytes then ([(p, np)], np, np)
    else if p.bytes > np.bytes then ([(np, p)], p, p)
    else ([], p, np)
  let treeFuel := old.size + new.size + 2
  let s := mainLoop al fixed diffs treeFuel (4 * treeFuel + 8)
    { o := o, n := n, position := position, nextPosition := nextPosition, diffIdx := 0, spans := [] }
  let os := old.totalSize
  let ns := new.totalSize
  let post := if os.bytes < ns.bytes then [(os, ns)] else if ns.bytes < os.bytes then [(ns, os)] else []
  (pre, s.spans.reverse, post, s.fuelOut)

/-- The array built by a sequence of `ts_range_array_add` calls (reversed). -/
def foldAdd (racc : List TSRange) (tr : List (Length × Length)) : List TSRange :=
  tr.foldl (fun acc p => addRev acc p.1 p.2) racc

/-- The spans that were handed to `ts_range_array_add`. -/
def callsOf (spans : List (Length × Length × Nat)) : List (Length × Length) :=
  spans.filterMap fun x => if x.2.2 == 0 then some (x.1, x.2.1) else none

/-- `ts_subtree_get_changed_ranges`. -/
def changedRanges (al : AliasTable) (fixed : Bool) (old new : Tree) (diffs : List TSRange) : Changed :=
  let (pre, spans, post, f) := changedTrace al fixed old new diffs
  let main := pre ++ callsOf spans
  { ranges := (foldAdd (foldAdd [] main) post).reverse, main := main, post := post,
    matched := spans.filterMap (fun x => if x.2.2 == 1 then some (x.1.bytes, x.2.1.bytes) else none),
    spans := spans, pre := pre, fuelOut := f }

/-- A call to `ts_range_array_add` is *admissible* for the current (reversed) array when it either
starts after the last range (a new range is pushed, or nothing happens) or — the case in which the
C code overwrites the last range's end — does not end before that range's start. -/
def admissible (racc : List TSRange) (s e : Length) : Bool :=
  match racc with
  | [] => true
  | last :: _ => decide (last.end_byte < s.bytes) || decide (last.start_byte ≤ e.bytes)

/-- Every call of a sequence is admissible for the array built so far (the hypothesis of
`changed_sorted_bounded_partial`, evaluated by the driver on every real case). -/
def traceAdmissible : List TSRange → List (Length × Length) → Bool
  | _, [] => true
  | racc, (s, e) :: rest => admissible racc s e && traceAdmissible (addRev racc s e) rest

/-- A call *grows* the array: it starts after the last range, or it starts inside/at the last range
and ends at or after its end.  Then nothing that was covered gets uncovered and the call's own
span is covered (`addRev_grow`). -/
def growOK (racc : List TSRange) (s e : Length) : Bool :=
  match racc with
  | [] => true
  | last :: _ => decide (last.end_byte < s.bytes) ||
      (decide (last.start_byte ≤ s.bytes) && decide (last.end_byte ≤ e.bytes))

def traceGrow : List TSRange → List (Length × Length) → Bool
  | _, [] => true
  | racc, (s, e) :: rest => growOK racc s e && traceGrow (addRev racc s e) rest

/-- The iterations' spans tile the byte line from `lo` on: each starts where the previous one ended
and does not go backwards. -/
def spansTile : Nat → List (Length × Length × Nat) → Bool
  | _, [] => true
  | lo, (s, e, _) :: rest => decide (s.bytes = lo) && decide (s.bytes ≤ e.bytes) && spansTile e.bytes rest

/-- Contiguity alone: each span starts where the previous one ended. -/
def spansChain : Nat → List (Length × Length × Nat) → Bool
  | _, [] => true
  | lo, (s, e, _) :: rest => decide (s.bytes = lo) && spansChain e.bytes rest

/-- No span goes backwards. -/
def spansMono (spans : List (Length × Length × Nat)) : Bool := spans.all fun x => decide (x.1.bytes ≤ x.2.1.bytes)

def spansEnd : Nat → List (Length × Length × Nat) → Nat
  | lo, [] => lo
  | _, (_, e, _) :: rest => spansEnd e.bytes rest

/-- Largest end handed over. -/
def traceBound : List (Length × Length) → Nat
  | [] => 0
  | (_, e) :: rest => max e.bytes (traceBound rest)

/-- Where the loop of `ts_subtree_get_changed_ranges` starts: the later of the two roots' start offsets. -/
def loopStart (old new : Tree) : Nat :=
  max (iterNew old).startPosition.bytes (iterNew new).startPosition.bytes

/-- `ts_tree_get_changed_ranges`. -/
def treeChangedRanges (al : AliasTable) (fixed : Bool) (old new : TreeDump) : Changed :=
  changedRanges al fixed old.root new.root (symDiff old.ranges new.ranges)

end TsVerif.C04
