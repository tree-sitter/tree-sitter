import TsVerif.C04.Iter
import TsVerif.Common.LengthAlgebra
/-!
# C04 — geometry of the lock-step cursors

`StackOK`: every cursor entry is the child of the entry below it at the recorded child index,
and its position is the parent's position plus the total sizes of the earlier siblings.  Preserved by
`descend`, `advance`, `ascend` (and hence by the whole walk) — as is every stack predicate that survives the three
elementary moves of a cursor (`PushClosed`; the `_q` lemmas carry such a predicate through each operation once).

The loops of the walk are seen by every later proof through the lemmas at the end of this file only (`catchUp_induct`,
`ascendTo_induct`, `midStep_shape`, `loopBody_eq`, `mainLoop_always`, `mainLoop_induct`).
-/
namespace TsVerif.C04
open TsGen

def prefixBytes : List Tree → Nat → Nat
  | _, 0 => 0
  | [], _ + 1 => 0
  | c :: rest, i + 1 => c.totalBytes + prefixBytes rest i

theorem prefixBytes_succ : ∀ (kids : List Tree) (i : Nat) (c : Tree), kids[i]? = some c →
    prefixBytes kids (i + 1) = prefixBytes kids i + c.totalBytes
  | [], _, _, h => nomatch h
  | k :: rest, 0, c, h => by
    cases h
    simp only [prefixBytes, Nat.add_zero, Nat.zero_add]
  | k :: rest, i + 1, c, h => by
    have := prefixBytes_succ rest i c h
    simp only [prefixBytes] at this ⊢
    omega

def StackOK : List Entry → Prop
  | [] => True
  | [_] => True
  | e :: p :: rest =>
    p.subtree.kids[e.childIndex]? = some e.subtree ∧
    e.position.bytes = p.position.bytes + prefixBytes p.subtree.kids e.childIndex ∧
    StackOK (p :: rest)

theorem StackOK.tail : ∀ {e : Entry} {rest : List Entry}, StackOK (e :: rest) → StackOK rest
  | _, [], _ => trivial
  | _, _ :: _, h => h.2.2

def Entry.left (e : Entry) : Nat := e.position.bytes + e.subtree.data.padding.bytes

theorem Iter.done_iff {it : Iter} : it.done = true ↔ it.stack = [] := List.isEmpty_iff

theorem Iter.not_done_iff {it : Iter} : it.done = false ↔ it.stack ≠ [] := by simp [Iter.done]

theorem Entry.left_le_end (e : Entry) : e.left ≤ e.position.bytes + e.subtree.totalBytes := by
  unfold Entry.left Tree.totalBytes; omega

theorem endPosition_cons (e : Entry) (s : List Entry) (vd : Nat) (ip : Bool) (prev : Option Tree) :
    (Iter.endPosition ⟨e :: s, vd, ip, prev⟩).bytes = if ip then e.left else e.position.bytes + e.subtree.totalBytes := by
  cases ip <;> simp [Iter.endPosition, length_add_bytes, Entry.left, Tree.totalBytes, Nat.add_assoc]

theorem scanKids_ok : ∀ (kids : List Tree) (pos : Length) (i sci goal : Nat) (prev : Option Tree) (ce : Entry) (prev' : Option Tree),
    scanKids kids pos i sci goal prev = (some ce, prev') →
    ∃ k, ce.childIndex = i + k ∧ kids[k]? = some ce.subtree ∧ ce.position.bytes = pos.bytes + prefixBytes kids k ∧
      (length_add (length_add ce.position ce.subtree.data.padding) ce.subtree.data.size).bytes > goal
  | [], _, _, _, _, _, _, _, h => by simp [scanKids] at h
  | c :: rest, pos, i, sci, goal, prev, ce, prev', h => by
    unfold scanKids at h
    simp only at h
    split at h
    · rename_i hgt
      simp only [Prod.mk.injEq, Option.some.injEq] at h
      obtain ⟨rfl, _⟩ := h
      exact ⟨0, by simp, by simp, by simp [prefixBytes], hgt⟩
    · obtain ⟨k, h1, h2, h3, h4⟩ := scanKids_ok rest _ _ _ _ _ ce prev' h
      refine ⟨k + 1, by omega, by simpa using h2, ?_, h4⟩
      rw [h3, length_add_bytes, length_add_bytes]
      simp [prefixBytes, Tree.totalBytes]; omega

def ChildClosed (Q : List Entry → Prop) : Prop :=
  ∀ (c e : Entry) (rest : List Entry), Q (e :: rest) → e.subtree.kids[c.childIndex]? = some c.subtree →
    c.position.bytes = e.position.bytes + prefixBytes e.subtree.kids c.childIndex → Q (c :: e :: rest)

structure PushClosed (Q : List Entry → Prop) : Prop where
  nil : Q []
  tail : ∀ (e : Entry) (rest : List Entry), Q (e :: rest) → Q rest
  push : ChildClosed Q
  next : ∀ (c e p : Entry) (rest : List Entry), Q (e :: p :: rest) → p.subtree.kids[c.childIndex]? = some c.subtree →
    c.childIndex = e.childIndex + 1 → c.position.bytes = e.position.bytes + e.subtree.totalBytes → Q (c :: p :: rest)

theorem PushClosed.of_index {Q : List Entry → Prop} (nil : Q []) (tail : ∀ (e : Entry) (rest : List Entry), Q (e :: rest) → Q rest)
    (push : ∀ (c e : Entry) (rest : List Entry), Q (e :: rest) → e.subtree.kids[c.childIndex]? = some c.subtree →
      Q (c :: e :: rest)) : PushClosed Q :=
  ⟨nil, tail, fun c e rest h hk _ => push c e rest h hk, fun c _ p rest h hk _ _ => push c p rest (tail _ _ h) hk⟩

theorem stackOK_closed : PushClosed StackOK where
  nil := trivial
  tail := fun _ _ h => h.tail
  push := fun _ _ _ h hk hp => ⟨hk, hp, h⟩
  next := fun c e p rest h hk hc hp =>
    ⟨hk, by rw [hp, hc, h.2.1, prefixBytes_succ _ _ _ h.1, Nat.add_assoc], h.2.2⟩

variable {Q : List Entry → Prop}

theorem descendLoop_q (push : ChildClosed Q) (al : AliasTable) :
    ∀ (fuel : Nat) (it : Iter) (goal : Nat), Q it.stack → Q (descendLoop al fuel it goal).1.stack
  | 0, it, goal, h => h
  | fuel + 1, it, goal, h => by
    unfold descendLoop
    split
    · exact h
    · rename_i e rest hs
      rw [hs] at h
      split
      · exact hs ▸ h
      · rename_i ce prev hk
        obtain ⟨k, k1, k2, k3, _⟩ := scanKids_ok _ _ _ _ _ _ ce prev hk
        rw [Nat.zero_add] at k1
        subst k1
        have hq : Q (ce :: e :: rest) := push ce e rest h k2 k3
        simp only
        split
        · split <;> exact hq
        · exact descendLoop_q push al fuel _ goal hq

theorem descend_q (push : ChildClosed Q) {al : AliasTable} {fuel : Nat} {it : Iter} {goal : Nat}
    (h : Q it.stack) : Q (it.descend al fuel goal).1.stack := by
  unfold Iter.descend
  split
  · exact h
  · exact descendLoop_q push al fuel it goal h

theorem descendLoop_end (al : AliasTable) : ∀ (fuel : Nat) (it : Iter) (goal : Nat), it.inPadding = false →
    (descendLoop al fuel it goal).1.endPosition.bytes > goal ∨
    ((descendLoop al fuel it goal).2 = false ∧ (descendLoop al fuel it goal).1.endPosition = it.endPosition)
  | 0, it, goal, _ => Or.inr ⟨rfl, rfl⟩
  | fuel + 1, it, goal, hp => by
    unfold descendLoop
    split
    · exact Or.inr ⟨rfl, rfl⟩
    · rename_i e rest hs
      split
      · exact Or.inr ⟨rfl, by simp only [Iter.endPosition, hs]⟩
      · rename_i ce prev hk
        obtain ⟨k, _, _, _, k4⟩ := scanKids_ok _ _ _ _ _ _ ce prev hk
        refine Or.inl ?_
        simp only
        split
        · split
          · rename_i hgt; exact hgt
          · simp only [Iter.endPosition, hp, Bool.false_eq_true, if_false]; exact k4
        · have hend : (Iter.endPosition { it with stack := ce :: e :: rest, prevExternalToken := prev }).bytes > goal := by
            simp only [Iter.endPosition, hp, Bool.false_eq_true, if_false]; exact k4
          rcases descendLoop_end al fuel { it with stack := ce :: e :: rest, prevExternalToken := prev } goal hp with h | h
          · exact h
          · rw [h.2]; exact hend

theorem descend_end_cases (al : AliasTable) (fuel : Nat) (it : Iter) (goal : Nat) :
    (it.descend al fuel goal).1.endPosition.bytes > goal ∨
    ((it.descend al fuel goal).2 = false ∧ (it.descend al fuel goal).1.endPosition = it.endPosition) := by
  unfold Iter.descend
  split
  · exact Or.inr ⟨rfl, rfl⟩
  · rename_i hp
    exact descendLoop_end al fuel it goal (by simpa using hp)

theorem descend_ok (al : AliasTable) (fuel : Nat) (it : Iter) (goal : Nat) (h : StackOK it.stack) :
    StackOK (it.descend al fuel goal).1.stack ∧
    ((it.descend al fuel goal).2 = true → (it.descend al fuel goal).1.endPosition.bytes > goal) := by
  refine ⟨descend_q stackOK_closed.push h, fun hd => ?_⟩
  rcases descend_end_cases al fuel it goal with h | h
  · exact h
  · rw [h.1] at hd; cases hd

theorem ascend_q (hq : PushClosed Q) {al : AliasTable} {it : Iter} (h : Q it.stack) :
    Q (it.ascend al).stack := by
  unfold Iter.ascend
  split
  · exact h
  · rename_i e rest hs
    exact hq.tail e rest (hs ▸ h)

theorem ascend_ok (al : AliasTable) (it : Iter) (h : StackOK it.stack) : StackOK (it.ascend al).stack :=
  ascend_q stackOK_closed h

/-- What `iterator_advance` does with the next sibling once it is on the stack: stop in its padding, or on it, when it
is visible; go down to its first visible descendant otherwise. -/
def Iter.enterNext (al : AliasTable) (fuel : Nat) (it : Iter) (next : Tree) : Iter :=
  if it.treeIsVisible al then
    if next.data.padding.bytes > 0 then { it with inPadding := true }
    else { it with visibleDepth := it.visibleDepth + 1 }
  else (it.descend al fuel 0).1

/-- One turn of the `for (;;)` of `iterator_advance` on a stack with a parent.  (The new structural child index and the new
previous external token play no part in the proofs.) -/
theorem advanceLoop_cons_cons (al : AliasTable) (fuel : Nat) (e p : Entry) (rest : List Entry) (vd : Nat) (prev : Option Tree) :
    ∃ (sci : Nat) (prev' : Option Tree),
      advanceLoop al fuel (e :: p :: rest) vd prev =
        match p.subtree.kids[e.childIndex + 1]? with
        | some next =>
          Iter.enterNext al fuel ⟨⟨next, length_add e.position e.subtree.totalSize, e.childIndex + 1, sci⟩ :: p :: rest,
            if stackTopVisible al (e :: p :: rest) then decU32 vd else vd, false, prev'⟩ next
        | none => advanceLoop al fuel (p :: rest) (if stackTopVisible al (e :: p :: rest) then decU32 vd else vd) prev' := by
  apply Exists.intro
  apply Exists.intro
  rw [advanceLoop]
  cases p.subtree.kids[e.childIndex + 1]? <;> rfl

theorem enterNext_q (hq : PushClosed Q) {al : AliasTable} {fuel : Nat} {it : Iter} {next : Tree}
    (h : Q it.stack) : Q (it.enterNext al fuel next).stack := by
  unfold Iter.enterNext
  split
  · split <;> exact h
  · exact descend_q hq.push h

theorem advanceLoop_q (hq : PushClosed Q) (al : AliasTable) (fuel : Nat) :
    ∀ (stack : List Entry) (vd : Nat) (prev : Option Tree), Q stack → Q (advanceLoop al fuel stack vd prev).stack
  | [], _, _, _ => hq.nil
  | [_], _, _, _ => hq.nil
  | e :: p :: rest, vd, prev, h => by
    obtain ⟨sci, prev', heq⟩ := advanceLoop_cons_cons al fuel e p rest vd prev
    rw [heq]
    split
    · rename_i next hn
      exact enterNext_q hq
        (hq.next _ e p rest h hn rfl (by rw [length_add_bytes, totalSize_bytes]))
    · exact advanceLoop_q hq al fuel (p :: rest) _ _ (hq.tail _ _ h)

theorem advanceLoop_ok (al : AliasTable) (fuel : Nat) : ∀ (stack : List Entry) (vd : Nat) (prev : Option Tree),
    StackOK stack → StackOK (advanceLoop al fuel stack vd prev).stack :=
  advanceLoop_q stackOK_closed al fuel

theorem advance_q (hq : PushClosed Q) {al : AliasTable} {fuel : Nat} {it : Iter}
    (h : Q it.stack) : Q (it.advance al fuel).stack := by
  unfold Iter.advance
  split
  · simp only
    split
    · exact h
    · exact descend_q hq.push h
  · exact advanceLoop_q hq al fuel _ _ _ h

theorem advance_ok (al : AliasTable) (fuel : Nat) (it : Iter) (h : StackOK it.stack) :
    StackOK (it.advance al fuel).stack :=
  advance_q stackOK_closed h

theorem catchUp_induct {C : Iter → Prop} {al : AliasTable} {tf np : Nat}
    (step : ∀ it, C it → it.done = false → it.endPosition.bytes ≤ np → C (it.advance al tf)) :
    ∀ (fuel : Nat) (it : Iter), C it → C (catchUp al tf fuel it np).1
  | 0, _, h => h
  | fuel + 1, it, h => by
    unfold catchUp
    split
    · rename_i hc
      simp only [Bool.and_eq_true, Bool.not_eq_true', decide_eq_true_eq] at hc
      exact catchUp_induct step fuel _ (step it h hc.1 hc.2)
    · exact h

theorem catchUp_q (hq : PushClosed Q) {al : AliasTable} {tf fuel : Nat} {it : Iter} {np : Nat}
    (h : Q it.stack) : Q (catchUp al tf fuel it np).1.stack :=
  catchUp_induct (C := fun it => Q it.stack) (fun _ h _ _ => advance_q hq h) fuel it h

theorem catchUp_ok (al : AliasTable) (tf : Nat) : ∀ (fuel : Nat) (it : Iter) (np : Nat),
    StackOK it.stack → StackOK (catchUp al tf fuel it np).1.stack :=
  fun _ _ _ => catchUp_q stackOK_closed

theorem ascendTo_induct {C : Iter → Prop} {al : AliasTable} {d : Nat}
    (step : ∀ it, C it → it.visibleDepth > d → it.done = false → C (it.ascend al)) :
    ∀ (fuel : Nat) (it : Iter), C it → C (ascendTo al fuel it d)
  | 0, _, h => h
  | fuel + 1, it, h => by
    unfold ascendTo
    split
    · rename_i hc
      simp only [Bool.and_eq_true, decide_eq_true_eq, Bool.not_eq_true'] at hc
      exact ascendTo_induct step fuel _ (step it h hc.1 hc.2)
    · exact h

theorem ascendTo_q (hq : PushClosed Q) {al : AliasTable} {fuel : Nat} {it : Iter} {d : Nat}
    (h : Q it.stack) : Q (ascendTo al fuel it d).stack :=
  ascendTo_induct (C := fun it => Q it.stack) (fun _ h _ _ => ascend_q hq h) fuel it h

theorem ascendTo_ok (al : AliasTable) : ∀ (fuel : Nat) (it : Iter) (d : Nat),
    StackOK it.stack → StackOK (ascendTo al fuel it d).stack :=
  fun _ _ _ => ascendTo_q stackOK_closed

theorem midStep_shape {al : AliasTable} {fixed : Bool} {diffs : List TSRange} {tf : Nat} {s : LoopSt}
    {o n : Iter} {b : Bool} {np : Length} {c : Cmp} (h : midStep al fixed diffs tf s = (o, n, b, np, c)) :
    ((o = s.o ∧ n = s.n) ∨
      (o = (s.o.descend al tf s.position.bytes).1 ∧ n = (s.n.descend al tf s.position.bytes).1)) ∧
    (np = o.endPosition ∨ np = n.endPosition ∨ np = length_min o.endPosition n.endPosition ∨ np = s.nextPosition) := by
  unfold midStep at h
  simp only at h
  split at h
  · cases h; exact ⟨Or.inl ⟨rfl, rfl⟩, Or.inl rfl⟩
  · cases hod : (s.o.descend al tf s.position.bytes).2 <;> cases hnd : (s.n.descend al tf s.position.bytes).2 <;>
      simp only [hod, hnd, if_true, if_false, Bool.not_true, Bool.not_false, Bool.false_eq_true] at h <;> cases h
    · exact ⟨Or.inr ⟨rfl, rfl⟩, Or.inr (Or.inr (Or.inl rfl))⟩
    · exact ⟨Or.inr ⟨rfl, rfl⟩, Or.inr (Or.inl rfl)⟩
    · exact ⟨Or.inr ⟨rfl, rfl⟩, Or.inl rfl⟩
    · exact ⟨Or.inr ⟨rfl, rfl⟩, Or.inr (Or.inr (Or.inr rfl))⟩
  · cases h; exact ⟨Or.inl ⟨rfl, rfl⟩, Or.inr (Or.inr (Or.inl rfl))⟩

/-- The second half of the body (the "tail" of `tail_end`, `tail_facts`): catch up with `np`, then align the depths.  The label
and the difference index are left open: no proof needs them. -/
theorem loopBody_eq {al : AliasTable} {fixed : Bool} {diffs : List TSRange} {tf : Nat} {s : LoopSt}
    {mo mn : Iter} {b : Bool} {np : Length} {c : Cmp} (hm : midStep al fixed diffs tf s = (mo, mn, b, np, c)) :
    ∃ l di : Nat, loopBody al fixed diffs tf s =
      (let cu1 := catchUp al tf (2 * tf + 2) mo np.bytes
       let cu2 := catchUp al tf (2 * tf + 2) mn np.bytes
       let o := ascendTo al (cu1.1.stack.length + 1) cu1.1 cu2.1.visibleDepth
       { o := o, n := ascendTo al (cu2.1.stack.length + 1) cu2.1 o.visibleDepth, position := np, nextPosition := np,
         diffIdx := di, spans := (s.position, np, l) :: s.spans, fuelOut := s.fuelOut || cu1.2 || cu2.2 }) := by
  unfold loopBody
  rw [hm]
  exact ⟨_, _, rfl⟩

theorem mainLoop_zero (al : AliasTable) (fixed : Bool) (diffs : List TSRange) (tf : Nat) (s : LoopSt) :
    mainLoop al fixed diffs tf 0 s = { s with fuelOut := true } := rfl

theorem mainLoop_succ (al : AliasTable) (fixed : Bool) (diffs : List TSRange) (tf fuel : Nat) (s : LoopSt) :
    mainLoop al fixed diffs tf (fuel + 1) s =
      if !(loopBody al fixed diffs tf s).o.done && !(loopBody al fixed diffs tf s).n.done
      then mainLoop al fixed diffs tf fuel (loopBody al fixed diffs tf s) else loopBody al fixed diffs tf s := rfl

section
variable {al : AliasTable} {fixed : Bool} {diffs : List TSRange} {tf : Nat}

theorem mainLoop_always {I : LoopSt → Prop} (body : ∀ s, I s → I (loopBody al fixed diffs tf s))
    (flag : ∀ s, I s → I { s with fuelOut := true }) : ∀ (fuel : Nat) (s : LoopSt), I s → I (mainLoop al fixed diffs tf fuel s)
  | 0, s, h => flag s h
  | fuel + 1, s, h => by
    rw [mainLoop_succ]
    split
    · exact mainLoop_always body flag fuel _ (body s h)
    · exact body s h

theorem loopBody_q (hq : PushClosed Q) (s : LoopSt) (h : Q s.o.stack ∧ Q s.n.stack) :
    Q (loopBody al fixed diffs tf s).o.stack ∧ Q (loopBody al fixed diffs tf s).n.stack := by
  rcases hm : midStep al fixed diffs tf s with ⟨mo, mn, b, np, c⟩
  obtain ⟨hc, -⟩ := midStep_shape hm
  obtain ⟨l, di, hb⟩ := loopBody_eq hm
  have hmo : Q mo.stack ∧ Q mn.stack := by
    rcases hc with ⟨rfl, rfl⟩ | ⟨rfl, rfl⟩
    · exact h
    · exact ⟨descend_q hq.push h.1, descend_q hq.push h.2⟩
  rw [hb]
  exact ⟨ascendTo_q hq (catchUp_q hq hmo.1), ascendTo_q hq (catchUp_q hq hmo.2)⟩

theorem mainLoop_q (hq : PushClosed Q) (fuel : Nat) (s : LoopSt) (h : Q s.o.stack ∧ Q s.n.stack) :
    Q (mainLoop al fixed diffs tf fuel s).o.stack ∧ Q (mainLoop al fixed diffs tf fuel s).n.stack :=
  mainLoop_always (I := fun s => Q s.o.stack ∧ Q s.n.stack) (loopBody_q hq) (fun _ h => h) fuel s h

end

theorem loopBody_fuel {al : AliasTable} {fixed : Bool} {diffs : List TSRange} {tf : Nat} {s : LoopSt}
    (h : (loopBody al fixed diffs tf s).fuelOut = false) : s.fuelOut = false := by
  unfold loopBody at h
  simp only [Bool.or_eq_false_iff] at h
  exact h.1.1

theorem mainLoop_fuel (al : AliasTable) (fixed : Bool) (diffs : List TSRange) (tf : Nat) (fuel : Nat) (s : LoopSt) :
    (mainLoop al fixed diffs tf fuel s).fuelOut = false → s.fuelOut = false :=
  mainLoop_always (I := fun r => r.fuelOut = false → s.fuelOut = false) (fun _ hr hb => hr (loopBody_fuel hb))
    (fun _ _ h => nomatch h) fuel s id

/-- Induction over a walk that did not run out of fuel: `I` holds at the head of every iteration as long as the loop
goes on; `C` is what the iteration at which it stops (a cursor is done) establishes. -/
theorem mainLoop_induct {I C : LoopSt → Prop} {al : AliasTable} {fixed : Bool} {diffs : List TSRange} {tf : Nat}
    (step : ∀ s s', s' = loopBody al fixed diffs tf s → I s → s'.fuelOut = false →
      (s'.o.done = true ∨ s'.n.done = true → C s') ∧ (s'.o.done = false → s'.n.done = false → I s')) :
    ∀ (fuel : Nat) (s : LoopSt), I s → (mainLoop al fixed diffs tf fuel s).fuelOut = false →
      C (mainLoop al fixed diffs tf fuel s)
  | 0, s => fun _ hf => by rw [mainLoop_zero] at hf; cases hf
  | fuel + 1, s => fun hi hf => by
    have hs := step s _ rfl hi
    rw [mainLoop_succ] at hf ⊢
    generalize loopBody al fixed diffs tf s = s' at hs hf ⊢
    cases ho : s'.o.done
    · cases hn : s'.n.done
      · rw [ho, hn] at hf
        exact mainLoop_induct step fuel s' ((hs (mainLoop_fuel al fixed diffs tf fuel s' hf)).2 ho hn) hf
      · rw [ho, hn] at hf
        exact (hs hf).1 (Or.inr hn)
    · rw [ho] at hf
      exact (hs hf).1 (Or.inl ho)

theorem loopBody_ok (al : AliasTable) (fixed : Bool) (diffs : List TSRange) (tf : Nat) (s : LoopSt)
    (ho : StackOK s.o.stack) (hn : StackOK s.n.stack) :
    StackOK (loopBody al fixed diffs tf s).o.stack ∧ StackOK (loopBody al fixed diffs tf s).n.stack :=
  loopBody_q stackOK_closed s ⟨ho, hn⟩

theorem mainLoop_ok (al : AliasTable) (fixed : Bool) (diffs : List TSRange) (tf : Nat) :
    ∀ (fuel : Nat) (s : LoopSt), StackOK s.o.stack → StackOK s.n.stack →
      StackOK (mainLoop al fixed diffs tf fuel s).o.stack ∧ StackOK (mainLoop al fixed diffs tf fuel s).n.stack :=
  fun fuel s ho hn => mainLoop_q stackOK_closed fuel s ⟨ho, hn⟩

end TsVerif.C04
