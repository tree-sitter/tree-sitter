import TsVerif.Gen.Basic
/-!
# C04 — range arrays of `lib/src/get_changed_ranges.c`

Hand ports (loops are not translated by c2lean) of
* `ts_range_array_add`            → `addRev` / `add`
* `ts_range_array_intersects`     → `intersects`
* `ts_range_array_get_changed_ranges` → `symDiffLoop` / `symDiff`

tied to the C functions by the function-level correspondence (`harness/csrc/cunit_c04.c`, a unity
build that calls the real `static` functions).  `TsVerif.C07.changedRanges` (`C07/Ranges.lean`) is a second port of
`ts_range_array_get_changed_ranges`, recording which array elements the loop reads; a change to the function has to be
followed in both.

The growing output array is kept **back to front** (`head` = `array_back`), so that the C code's
"look at the last range" is a pattern match; `add`/`symDiff` give the array in C order.
-/
namespace TsVerif.C04
open TsGen

def UMAX : Nat := 4294967295

def mkRange (s e : Length) : TSRange :=
  { start_point := s.extent, end_point := e.extent, start_byte := s.bytes, end_byte := e.bytes }

/-- `ts_range_array_add` on the reversed array. -/
def addRev (racc : List TSRange) (s e : Length) : List TSRange :=
  match racc with
  | last :: rest =>
    if s.bytes ≤ last.end_byte then
      { last with end_byte := e.bytes, end_point := e.extent } :: rest
    else if s.bytes < e.bytes then mkRange s e :: last :: rest
    else last :: rest
  | [] => if s.bytes < e.bytes then [mkRange s e] else []

/-- `ts_range_array_add` in C order. -/
def add (arr : List TSRange) (s e : Length) : List TSRange := (addRev arr.reverse s e).reverse

/-- `ts_range_array_intersects`. -/
def intersectsFrom : List TSRange → Nat → Nat → Bool
  | [], _, _ => false
  | r :: rest, startByte, endByte =>
    if r.end_byte > startByte then
      if r.start_byte ≥ endByte then false else true
    else intersectsFrom rest startByte endByte

def intersects (arr : List TSRange) (startIndex startByte endByte : Nat) : Bool :=
  intersectsFrom (arr.drop startIndex) startByte endByte

/-- `next_old_position` / `next_new_position`: the next boundary of a range list whose first
`index` ranges were dropped.  (C reads `ranges[index]` when `in_range` is set even if the list is
exhausted; the loop below never asks in that state.) -/
def nextPos (rs : List TSRange) (inR : Bool) : Length :=
  match rs with
  | [] => LENGTH_MAX
  | r :: _ => if inR then { bytes := r.end_byte, extent := r.end_point }
              else { bytes := r.start_byte, extent := r.start_point }

/-- `if (in_range) index++; in_range = !in_range;` -/
def adv (rs : List TSRange) (inR : Bool) : List TSRange × Bool :=
  if inR then (rs.tail, false) else (rs, true)

/-- The step of the EQUAL-boundaries branch (since /repo 958e7c7): a list that is exhausted and not inside a
range "sits at LENGTH_MAX" and is not toggled; otherwise like `adv`. -/
def advE (rs : List TSRange) (inR : Bool) : List TSRange × Bool :=
  if rs = [] ∧ inR = false then (rs, inR) else adv rs inR

def mu (rs : List TSRange) (inR : Bool) : Nat := 2 * rs.length + (if inR then 0 else 1)

theorem mu_adv (rs : List TSRange) (inR : Bool) (h : ¬ (rs = [] ∧ inR = true)) :
    mu (adv rs inR).1 (adv rs inR).2 < mu rs inR := by
  cases rs <;> cases inR <;> simp_all [mu, adv] <;> omega

/-- The loop of `ts_range_array_get_changed_ranges`.  `old`/`new` are the not yet consumed
suffixes (`&old_ranges[old_index]`), `racc` the reversed `differences`.
The second guard is the state in which the C code would read `ranges[count]` (outside the array):
it is unreachable for lists in which no range starts at `UINT32_MAX` (`symDiffLoop_spec` covers it);
the model stops there.  Since /repo 958e7c7 the equal-boundaries branch no longer toggles an exhausted list
(`advE`), which removes the only way into that state; the guard is kept (dead). -/
def symDiffLoop (old new : List TSRange) (cur : Length) (inOld inNew : Bool) (racc : List TSRange) :
    List TSRange :=
  if old = [] ∧ new = [] then racc
  else if h : (old = [] ∧ inOld = true) ∨ (new = [] ∧ inNew = true) then racc
  else
    let no := nextPos old inOld
    let nn := nextPos new inNew
    if no.bytes < nn.bytes then
      let racc := if inOld != inNew then addRev racc cur no else racc
      symDiffLoop (adv old inOld).1 new no (adv old inOld).2 inNew racc
    else if nn.bytes < no.bytes then
      let racc := if inOld != inNew then addRev racc cur nn else racc
      symDiffLoop old (adv new inNew).1 nn inOld (adv new inNew).2 racc
    else
      let racc := if inOld != inNew then addRev racc cur nn else racc
      symDiffLoop (advE old inOld).1 (advE new inNew).1 nn (advE old inOld).2 (advE new inNew).2 racc
termination_by mu old inOld + mu new inNew
decreasing_by
  · have := mu_adv old inOld (by intro c; exact h (Or.inl c)); omega
  · have := mu_adv new inNew (by intro c; exact h (Or.inr c)); omega
  · -- at least one list is not exhausted-and-idle (first guard), that one strictly decreases, the other does not grow
    rename_i hfirst _ _
    have ho : mu (advE old inOld).1 (advE old inOld).2 ≤ mu old inOld := by
      unfold advE; split
      · exact Nat.le_refl _
      · exact Nat.le_of_lt (mu_adv old inOld (by intro c; exact h (Or.inl c)))
    have hn : mu (advE new inNew).1 (advE new inNew).2 ≤ mu new inNew := by
      unfold advE; split
      · exact Nat.le_refl _
      · exact Nat.le_of_lt (mu_adv new inNew (by intro c; exact h (Or.inr c)))
    by_cases hoe : old = [] ∧ inOld = false
    · have hne : ¬ (new = [] ∧ inNew = false) := by
        intro c; exact hfirst ⟨hoe.1, c.1⟩
      have : mu (advE new inNew).1 (advE new inNew).2 < mu new inNew := by
        unfold advE; simp only [hne, if_false]
        exact mu_adv new inNew (by intro c; exact h (Or.inr c))
      omega
    · have : mu (advE old inOld).1 (advE old inOld).2 < mu old inOld := by
        unfold advE; simp only [hoe, if_false]
        exact mu_adv old inOld (by intro c; exact h (Or.inl c))
      omega

/-- `ts_range_array_get_changed_ranges` (output in C order). -/
def symDiff (old new : List TSRange) : List TSRange :=
  (symDiffLoop old new length_zero false false []).reverse

end TsVerif.C04
