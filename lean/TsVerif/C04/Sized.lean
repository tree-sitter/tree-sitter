import TsVerif.C04.Geometry
/-!
# C04 — sized trees

`AllSized`: every inner node has the padding and size that `ts_subtree_summarize_children` computes from its children;
`allSizedB` is what the driver evaluates on every real tree.  `SS`: every entry of a cursor stack holds such a subtree.
-/
namespace TsVerif.C04

def firstPad : List Tree → Nat
  | [] => 0
  | c :: _ => c.data.padding.bytes

mutual
  /-- Every node with children has the size the runtime computes in `ts_subtree_summarize_children`: its
  total is the sum of its children's totals and its padding is its first child's padding. -/
  def AllSized : Tree → Prop
    | .mk d kids =>
      (kids ≠ [] → d.padding.bytes + d.size.bytes = prefixBytes kids kids.length ∧ d.padding.bytes = firstPad kids) ∧
      AllSizedL kids
  def AllSizedL : List Tree → Prop
    | [] => True
    | t :: ts => AllSized t ∧ AllSizedL ts
end

mutual
  def allSizedB : Tree → Bool
    | .mk d kids =>
      (kids.isEmpty || (decide (d.padding.bytes + d.size.bytes = prefixBytes kids kids.length) && decide (d.padding.bytes = firstPad kids))) &&
      allSizedLB kids
  def allSizedLB : List Tree → Bool
    | [] => true
    | t :: ts => allSizedB t && allSizedLB ts
end

/- The decidable version implies the property (so the driver's evaluation discharges the premise). -/
mutual
  theorem allSizedB_sound : ∀ (t : Tree), allSizedB t = true → AllSized t
    | .mk d kids, h => by
      unfold allSizedB at h
      unfold AllSized
      simp only [Bool.and_eq_true, Bool.or_eq_true, decide_eq_true_eq, List.isEmpty_iff] at h
      refine ⟨fun hne => ?_, allSizedLB_sound kids h.2⟩
      rcases h.1 with h0 | h1
      · exact absurd h0 hne
      · exact h1
  theorem allSizedLB_sound : ∀ (ts : List Tree), allSizedLB ts = true → AllSizedL ts
    | [], _ => by unfold AllSizedL; trivial
    | t :: ts, h => by
      unfold allSizedLB at h
      unfold AllSizedL
      simp only [Bool.and_eq_true] at h
      exact ⟨allSizedB_sound t h.1, allSizedLB_sound ts h.2⟩
end

theorem AllSizedL.get : ∀ {kids : List Tree} {k : Nat} {c : Tree}, AllSizedL kids → kids[k]? = some c → AllSized c
  | [], _, _, _, h => nomatch h
  | t :: ts, 0, c, hs, h => by cases h; exact hs.1
  | t :: ts, k + 1, c, hs, h => AllSizedL.get hs.2 h

theorem AllSized.kidsL {t : Tree} (h : AllSized t) : AllSizedL t.kids := by
  cases t with
  | mk d kids => unfold AllSized at h; exact h.2

theorem AllSized.kid {t : Tree} {k : Nat} {c : Tree} (h : AllSized t) (hk : t.kids[k]? = some c) : AllSized c :=
  AllSizedL.get h.kidsL hk

theorem prefixBytes_le_full : ∀ (kids : List Tree) (i : Nat), prefixBytes kids i ≤ prefixBytes kids kids.length
  | [], i => by cases i <;> simp [prefixBytes]
  | c :: rest, 0 => by simp [prefixBytes]
  | c :: rest, i + 1 => by
    have := prefixBytes_le_full rest i
    simp only [prefixBytes, List.length_cons]; omega

theorem AllSized.total {t : Tree} {k : Nat} {c : Tree} (h : AllSized t) (hk : t.kids[k]? = some c) :
    t.totalBytes = prefixBytes t.kids t.kids.length ∧ t.data.padding.bytes = firstPad t.kids := by
  cases t with
  | mk d kids =>
    unfold AllSized at h
    have := h.1 (by rintro rfl; cases hk)
    exact ⟨by simpa [Tree.totalBytes, Tree.data, Tree.kids] using this.1, by simpa [Tree.data, Tree.kids] using this.2⟩

def SS (stack : List Entry) : Prop := ∀ e ∈ stack, AllSized e.subtree

theorem SS.tail {e : Entry} {rest : List Entry} (h : SS (e :: rest)) : SS rest :=
  (List.forall_mem_cons.1 h).2

theorem ss_closed : PushClosed SS :=
  .of_index (fun _ h => nomatch h) (fun _ _ h => h.tail)
    (fun _ e _ h hk => List.forall_mem_cons.2 ⟨(h e (List.mem_cons_self ..)).kid hk, h⟩)

theorem catchUp_ss (al : AliasTable) (tf : Nat) : ∀ (fuel : Nat) (it : Iter) (np : Nat),
    SS it.stack → SS (catchUp al tf fuel it np).1.stack :=
  fun _ _ _ => catchUp_q ss_closed

theorem ascendTo_ss (al : AliasTable) : ∀ (fuel : Nat) (it : Iter) (d : Nat),
    SS it.stack → SS (ascendTo al fuel it d).stack :=
  fun _ _ _ => ascendTo_q ss_closed

end TsVerif.C04
