import TsVerif.C04.Props
#print axioms TsVerif.C04.add_sorted
#print axioms TsVerif.C04.symDiff_spec
#print axioms TsVerif.C04.symDiff_inside
#print axioms TsVerif.C04.intersects_spec
#print axioms TsVerif.C04.changed_sorted_bounded_partial
#print axioms TsVerif.C04.override_span_witness
#print axioms TsVerif.C04.changed_covers_partial
#print axioms TsVerif.C04.spans_contiguous
#print axioms TsVerif.C04.walk_stackOK
#print axioms TsVerif.C04.descend_end
#print axioms TsVerif.C04.spans_forward
#print axioms TsVerif.C04.trace_grows
#print axioms TsVerif.C04.changed_sorted_bounded
#print axioms TsVerif.C04.changed_covers
#print axioms TsVerif.C04.entry_of_same_start
#print axioms TsVerif.C04.ascend_never_back
#print axioms TsVerif.C04.entry_needed_witness
#print axioms TsVerif.C04.allSizedB_sound
#print axioms TsVerif.C04.changed_nonempty
#print axioms TsVerif.C04.walk_reaches_end
#print axioms TsVerif.C04.changed_covers_all
#print axioms TsVerif.C04.ranges_points_from_calls
#print axioms TsVerif.C04.walk_positions
#print axioms TsVerif.C04.add_step_exact
#print axioms TsVerif.C04.add_calls_strict_iff
#print axioms TsVerif.C04.add_calls_sorted
#print axioms TsVerif.C04.add_calls_wellformed
#print axioms TsVerif.C04.add_calls_sound
#print axioms TsVerif.C04.add_calls_exact
#print axioms TsVerif.C04.changed_ranges_sound
#print axioms TsVerif.C04.changed_ranges_exact
#print axioms TsVerif.C04.shrink_witness
#print axioms TsVerif.C04.empty_range_witness
#print axioms TsVerif.C04.decreasing_start_witness
