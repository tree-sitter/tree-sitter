import TsVerif.C04.Iter
/-!
# C04 — calls to `ts_range_array_add`: one call, sequences of calls, the sequence the walk makes

No cursor occurs in this file, and a tree only as an argument of `changedRanges` in the three facts that its record is a fold
of such calls (`changedRanges_eq_fold`, `changedRanges_main`, `changed_ranges_sound`).  The growing array is kept back to front (`Ranges.lean`), so "the last range" is the head.
-/
namespace TsVerif.C04
open TsGen

def mem (rs : List TSRange) (x : Nat) : Prop := ∃ r ∈ rs, r.start_byte ≤ x ∧ x < r.end_byte

@[simp] theorem mem_nil (x : Nat) : mem [] x ↔ False := by simp [mem]

@[simp] theorem mem_cons (r : TSRange) (t : List TSRange) (x : Nat) :
    mem (r :: t) x ↔ ((r.start_byte ≤ x ∧ x < r.end_byte) ∨ mem t x) := by simp [mem]

theorem mem_reverse (rs : List TSRange) (x : Nat) : mem rs.reverse x ↔ mem rs x := by simp [mem]

/-- A *reversed* output array (head = last range); touching ranges are merged, so separation is strict. -/
def Chain : Nat → List TSRange → Prop
  | _, [] => True
  | hi, r :: t => r.start_byte < r.end_byte ∧ r.end_byte < hi ∧ Chain r.start_byte t

def StrictSorted (l : List TSRange) : Prop :=
  l.Pairwise (fun a b => a.end_byte < b.start_byte) ∧ ∀ r ∈ l, r.start_byte < r.end_byte

/-- What a sequence of calls with non-decreasing starts keeps (`monoStarts_inv`). -/
def TopLe (p : Nat) : List TSRange → Prop
  | [] => True
  | last :: _ => last.start_byte ≤ p

def ChainP (ok : Nat → Nat → Prop) : Nat → List TSRange → Prop
  | _, [] => True
  | hi, r :: t => ok r.start_byte r.end_byte ∧ r.end_byte < hi ∧ ChainP ok r.start_byte t

theorem chain_eq {hi : Nat} : ∀ {l : List TSRange}, Chain hi l ↔ ChainP (· < ·) hi l
  | [] => Iff.rfl
  | _ :: _ => and_congr_right fun _ => and_congr_right fun _ => chain_eq

section
variable {ok : Nat → Nat → Prop}

theorem ChainP.mono {hi hi' : Nat} (h : hi ≤ hi') : ∀ {l}, ChainP ok hi l → ChainP ok hi' l
  | [], _ => trivial
  | _ :: _, ⟨a, b, c⟩ => ⟨a, by omega, c⟩

theorem Chain.mono {hi hi' : Nat} (h : hi ≤ hi') {l : List TSRange} (c : Chain hi l) : Chain hi' l :=
  chain_eq.2 (ChainP.mono h (chain_eq.1 c))

theorem chainP_iff (hok : ∀ a b, ok a b → a ≤ b) {hi : Nat} : ∀ {l : List TSRange}, ChainP ok hi l ↔
    (l.reverse.Pairwise (fun a b => a.end_byte < b.start_byte) ∧ ∀ r ∈ l.reverse, ok r.start_byte r.end_byte) ∧
      ∀ r ∈ l, r.end_byte < hi
  | [] => by simp [ChainP]
  | q :: t => by
    simp only [ChainP, chainP_iff hok (l := t), List.pairwise_reverse, List.pairwise_cons, List.mem_reverse,
      List.forall_mem_cons]
    constructor
    · rintro ⟨a, b, ⟨p, n⟩, h⟩
      exact ⟨⟨⟨h, p⟩, a, n⟩, b, fun r hr => by have := h r hr; have := hok _ _ a; omega⟩
    · rintro ⟨⟨⟨h, p⟩, a, n⟩, b, _⟩
      exact ⟨a, b, ⟨p, n⟩, h⟩

/-- The one condition on a call to `ts_range_array_add`: if it touches the last range (whose end it then overwrites), the
merged range `[last.start, e)` is `ok`. -/
def keepsP (ok : Nat → Nat → Prop) (racc : List TSRange) (s e : Length) : Prop :=
  match racc with
  | [] => True
  | last :: _ => s.bytes ≤ last.end_byte → ok last.start_byte e.bytes

theorem addRev_chainP (hne : ∀ a b, a < b → ok a b) {racc : List TSRange} {s e : Length} {hi : Nat}
    (h : ChainP ok hi racc) :
    (keepsP ok racc s e → ChainP ok (max hi (e.bytes + 1)) (addRev racc s e)) ∧
    ((∃ hi', ChainP ok hi' (addRev racc s e)) → keepsP ok racc s e) := by
  cases racc with
  | nil =>
    refine ⟨fun _ => ?_, fun _ => trivial⟩
    simp only [addRev]
    split
    · rename_i hlt; exact ⟨hne _ _ hlt, by simp [mkRange]; omega, trivial⟩
    · trivial
  | cons last rest =>
    obtain ⟨a, b, c⟩ := h
    simp only [keepsP, addRev]
    by_cases h1 : s.bytes ≤ last.end_byte
    · simp only [h1, if_true, forall_const]
      exact ⟨fun h2 => ⟨h2, by simp; omega, c⟩, fun ⟨_, a', _⟩ => a'⟩
    · simp only [h1, if_false, false_imp_iff, implies_true, and_true]
      intro _
      split
      · rename_i hlt
        exact ⟨hne _ _ hlt, by simp [mkRange]; omega, a, by simp [mkRange]; omega, c⟩
      · exact ⟨a, by omega, c⟩

end

theorem chain_iff {hi : Nat} {l : List TSRange} : Chain hi l ↔ StrictSorted l.reverse ∧ ∀ r ∈ l, r.end_byte < hi :=
  chain_eq.trans (chainP_iff fun _ _ => Nat.le_of_lt)

theorem Chain.strictSorted {hi : Nat} {l : List TSRange} (h : Chain hi l) : StrictSorted l.reverse := (chain_iff.1 h).1

theorem mem_addRev (racc : List TSRange) (s e : Length) (x : Nat) :
    mem (addRev racc s e) x ↔
      match racc with
      | last :: rest =>
        if s.bytes ≤ last.end_byte then (last.start_byte ≤ x ∧ x < e.bytes) ∨ mem rest x
        else mem (last :: rest) x ∨ (s.bytes ≤ x ∧ x < e.bytes)
      | [] => s.bytes ≤ x ∧ x < e.bytes := by
  cases racc with
  | nil =>
    simp only [addRev]
    split
    · simp [mkRange]
    · simp; omega
  | cons last rest =>
    simp only [addRev]
    split
    · simp
    · split
      · simp [mkRange, or_comm]
      · simp only [iff_self_or]; omega

theorem addRev_spec (racc : List TSRange) (s e : Length)
    (h : Chain (s.bytes + 1) racc) (hse : s.bytes ≤ e.bytes) :
    Chain (e.bytes + 1) (addRev racc s e) ∧
    ∀ x, mem (addRev racc s e) x ↔ (mem racc x ∨ (s.bytes ≤ x ∧ x < e.bytes)) := by
  have hk : keepsP (· < ·) racc s e := by
    cases racc with
    | nil => trivial
    | cons last rest => intro _; have := h.1; have := h.2.1; omega
  refine ⟨chain_eq.2 (ChainP.mono (by omega) ((addRev_chainP (fun _ _ => id) (chain_eq.1 h)).1 hk)), fun x => ?_⟩
  rw [mem_addRev]
  cases racc with
  | nil => simp
  | cons last rest =>
    have := h.1; have := h.2.1
    dsimp only
    split <;> by_cases hm : mem rest x <;> simp [hm] <;> omega

def WeakSorted (l : List TSRange) : Prop :=
  l.Pairwise (fun a b => a.end_byte < b.start_byte) ∧ ∀ r ∈ l, r.start_byte ≤ r.end_byte

theorem admissible_iff {racc : List TSRange} {s e : Length} : admissible racc s e = true ↔ keepsP (· ≤ ·) racc s e := by
  cases racc with
  | nil => simp [admissible, keepsP]
  | cons last rest => simp only [admissible, keepsP, Bool.or_eq_true, decide_eq_true_eq]; omega

/-- The exact condition under which one call keeps a strictly sorted array strictly sorted. -/
def keepsStrict (racc : List TSRange) (s e : Length) : Prop :=
  match racc with
  | [] => True
  | last :: _ => s.bytes ≤ last.end_byte → last.start_byte < e.bytes

theorem keepsStrict_iff {racc : List TSRange} {s e : Length} : keepsStrict racc s e ↔ keepsP (· < ·) racc s e := Iff.rfl

theorem addRev_strict_iff (racc : List TSRange) (s e : Length) (hi : Nat) (h : Chain hi racc) :
    (∃ hi', Chain hi' (addRev racc s e)) ↔ keepsStrict racc s e :=
  have k := addRev_chainP (ok := (· < ·)) (s := s) (e := e) (fun _ _ => id) (chain_eq.1 h)
  ⟨fun ⟨hi', c⟩ => keepsStrict_iff.2 (k.2 ⟨hi', chain_eq.1 c⟩), fun hk => ⟨_, chain_eq.2 (k.1 (keepsStrict_iff.1 hk))⟩⟩

theorem addRev_sound (racc : List TSRange) (s e : Length) (x : Nat) (hx : mem (addRev racc s e) x) :
    mem racc x ∨ (s.bytes ≤ x ∧ x < e.bytes) := by
  rw [mem_addRev] at hx
  cases racc with
  | nil => exact Or.inr hx
  | cons last rest =>
    simp only [mem_cons] at hx ⊢
    split at hx
    · rcases hx with h | h
      · by_cases hl : x < last.end_byte
        · exact Or.inl (Or.inl ⟨h.1, hl⟩)
        · exact Or.inr ⟨by omega, h.2⟩
      · exact Or.inl (Or.inr h)
    · exact hx

theorem addRev_grow (racc : List TSRange) (s e : Length) (h : growOK racc s e = true) (x : Nat) :
    (mem racc x → mem (addRev racc s e) x) ∧ (s.bytes ≤ x → x < e.bytes → mem (addRev racc s e) x) := by
  rw [mem_addRev]
  cases racc with
  | nil => exact ⟨fun h => ((mem_nil x).1 h).elim, fun a b => ⟨a, b⟩⟩
  | cons last rest =>
    simp only [growOK, Bool.or_eq_true, Bool.and_eq_true, decide_eq_true_eq] at h
    simp only [mem_cons]
    split
    · exact ⟨fun hm => hm.imp (fun h1 => ⟨h1.1, by omega⟩) id, fun a b => Or.inl ⟨by omega, b⟩⟩
    · exact ⟨Or.inl, fun a b => Or.inr ⟨a, b⟩⟩

theorem foldAdd_append (racc : List TSRange) (a b : List (Length × Length)) :
    foldAdd (foldAdd racc a) b = foldAdd racc (a ++ b) := by
  simp [foldAdd, List.foldl_append]

theorem traceGrow_append : ∀ (a b : List (Length × Length)) (racc : List TSRange),
    traceGrow racc (a ++ b) = (traceGrow racc a && traceGrow (foldAdd racc a) b)
  | [], b, racc => by simp [traceGrow, foldAdd]
  | (s, e) :: a, b, racc => by
    simp [traceGrow, foldAdd, Bool.and_assoc]
    rw [traceGrow_append a b]; rfl

theorem traceAdmissible_append : ∀ (a b : List (Length × Length)) (racc : List TSRange),
    traceAdmissible racc (a ++ b) = (traceAdmissible racc a && traceAdmissible (foldAdd racc a) b)
  | [], b, racc => by simp [traceAdmissible, foldAdd]
  | (s, e) :: a, b, racc => by
    simp [traceAdmissible, foldAdd, Bool.and_assoc]
    rw [traceAdmissible_append a b]; rfl

theorem traceBound_le (H : Nat) : ∀ (tr : List (Length × Length)), (∀ c ∈ tr, c.2.bytes ≤ H) → traceBound tr ≤ H
  | [], _ => by simp [traceBound]
  | (s, e) :: rest, h => by
    obtain ⟨h1, h2⟩ := List.forall_mem_cons.1 h
    have := traceBound_le H rest h2
    simp only [traceBound]; simp only at h1; omega

theorem callsOf_cons (x : Length × Length × Nat) (rest : List (Length × Length × Nat)) :
    callsOf (x :: rest) = if x.2.2 == 0 then (x.1, x.2.1) :: callsOf rest else callsOf rest := by
  unfold callsOf
  rw [List.filterMap_cons]
  cases x.2.2 == 0 <;> rfl

def addCalls (tr : List (Length × Length)) : List TSRange := (foldAdd [] tr).reverse

def KeepsAll : List TSRange → List (Length × Length) → Prop
  | _, [] => True
  | racc, (s, e) :: rest => keepsStrict racc s e ∧ KeepsAll (addRev racc s e) rest

def MonoStarts : Nat → List (Length × Length) → Prop
  | _, [] => True
  | p, (s, e) :: rest => p ≤ s.bytes ∧ s.bytes < e.bytes ∧ MonoStarts s.bytes rest

def MonoStartsW : Nat → List (Length × Length) → Prop
  | _, [] => True
  | p, (s, e) :: rest => p ≤ s.bytes ∧ s.bytes ≤ e.bytes ∧ MonoStartsW s.bytes rest

def MonoCalls : Nat → List (Length × Length) → Prop
  | _, [] => True
  | p, (s, e) :: rest => p ≤ s.bytes ∧ s.bytes ≤ e.bytes ∧ MonoCalls e.bytes rest

theorem ends_bounded : ∀ l : List TSRange, ∃ hi, ∀ r ∈ l, r.end_byte < hi
  | [] => ⟨0, fun _ h => nomatch h⟩
  | a :: t =>
    let ⟨hi, h⟩ := ends_bounded t
    ⟨max hi (a.end_byte + 1), List.forall_mem_cons.2 ⟨by omega, fun r hr => by have := h r hr; omega⟩⟩

theorem chain_iff_strictSorted (l : List TSRange) : (∃ hi, Chain hi l) ↔ StrictSorted l.reverse :=
  ⟨fun ⟨_, h⟩ => h.strictSorted, fun h => let ⟨hi, hb⟩ := ends_bounded l; ⟨hi, chain_iff.2 ⟨h, hb⟩⟩⟩

theorem foldAdd_prefixes_iff : ∀ (tr : List (Length × Length)) (racc : List TSRange),
    (∀ n, ∃ hi, Chain hi (foldAdd racc (tr.take n))) ↔ ((∃ hi, Chain hi racc) ∧ KeepsAll racc tr)
  | [], racc => by simp [foldAdd, KeepsAll]
  | (s, e) :: rest, racc => by
    have ih := foldAdd_prefixes_iff rest (addRev racc s e)
    constructor
    · intro h
      obtain ⟨hi, hc⟩ := h 0
      obtain ⟨h1, h2⟩ := ih.1 fun n => h (n + 1)
      exact ⟨⟨hi, hc⟩, (addRev_strict_iff racc s e hi hc).1 h1, h2⟩
    · rintro ⟨⟨hi, hc⟩, hk, hr⟩ n
      cases n with
      | zero => exact ⟨hi, hc⟩
      | succ n => exact ih.2 ⟨(addRev_strict_iff racc s e hi hc).2 hk, hr⟩ n

/-- The EXACT premise: after every prefix of the call sequence the array is sorted, strictly
separated and free of empty ranges IFF every call satisfies `keepsStrict` for the array built so far (a call that
touches the last range must end after that range's start).  Monotone starts + non-empty calls (`add_calls_sorted`)
is a sufficient, position-only condition; it is not necessary (`(2,11) (11,6) (6,11)`-like real traces). -/
theorem add_calls_strict_iff (tr : List (Length × Length)) :
    (∀ n, StrictSorted (addCalls (tr.take n))) ↔ KeepsAll [] tr := by
  have := foldAdd_prefixes_iff tr []
  simp only [chain_iff_strictSorted] at this
  exact this.trans (and_iff_right (by simp [StrictSorted]))

/-- Non-vacuity: a call sequence with a DECREASING start that still satisfies the exact premise. -/
example : KeepsAll [] [(⟨2,⟨0,2⟩⟩, ⟨11,⟨0,11⟩⟩), (⟨1,⟨0,1⟩⟩, ⟨6,⟨0,6⟩⟩)] ∧
    ¬ MonoStartsW 0 [(⟨2,⟨0,2⟩⟩, ⟨11,⟨0,11⟩⟩), ((⟨1,⟨0,1⟩⟩ : Length), (⟨6,⟨0,6⟩⟩ : Length))] := by
  simp [KeepsAll, keepsStrict, addRev, MonoStartsW, mkRange]

theorem MonoStarts.weak : ∀ {p : Nat} {tr : List (Length × Length)}, MonoStarts p tr → MonoStartsW p tr
  | _, [], _ => trivial
  | _, (_, _) :: _, ⟨h1, h2, h3⟩ => ⟨h1, Nat.le_of_lt h2, h3.weak⟩

theorem monoStarts_inv : ∀ (tr : List (Length × Length)) (racc : List TSRange) (p : Nat), TopLe p racc →
    MonoStartsW p tr → traceAdmissible racc tr = true ∧ (MonoStarts p tr → KeepsAll racc tr)
  | [], _, _, _, _ => ⟨rfl, fun _ => trivial⟩
  | (s, e) :: rest, racc, p, ht, ⟨h1, h2, h3⟩ => by
    have key : TopLe s.bytes (addRev racc s e) ∧ admissible racc s e = true ∧ (s.bytes < e.bytes → keepsStrict racc s e) := by
      cases racc with
      | nil => exact ⟨by simp only [addRev]; split <;> simp [TopLe, mkRange], rfl, fun _ => trivial⟩
      | cons last t =>
        simp only [TopLe] at ht
        refine ⟨?_, by simp only [admissible, Bool.or_eq_true, decide_eq_true_eq]; omega, fun hlt _ => by omega⟩
        simp only [addRev]
        split
        · simp only [TopLe]; omega
        · split
          · simp [TopLe, mkRange]
          · simp only [TopLe]; omega
    obtain ⟨ia, ik⟩ := monoStarts_inv rest (addRev racc s e) s.bytes key.1 h3
    exact ⟨by simp only [traceAdmissible, key.2.1, ia, Bool.and_self], fun hm => ⟨key.2.2 hm.2.1, ik hm.2.2⟩⟩

theorem foldAdd_admissible : ∀ (tr : List (Length × Length)) (racc : List TSRange) (hi : Nat),
    ChainP (· ≤ ·) hi racc → traceAdmissible racc tr = true → ChainP (· ≤ ·) (max hi (traceBound tr + 1)) (foldAdd racc tr)
  | [], racc, hi, hc, _ => by
    simpa [foldAdd, traceBound] using ChainP.mono (Nat.le_max_left hi 1) hc
  | (s, e) :: rest, racc, hi, hc, ht => by
    simp only [traceAdmissible, Bool.and_eq_true] at ht
    have ih := foldAdd_admissible rest (addRev racc s e) _
      ((addRev_chainP (fun _ _ => Nat.le_of_lt) hc).1 (admissible_iff.1 ht.1)) ht.2
    simp only [foldAdd, List.foldl_cons, traceBound]
    exact ChainP.mono (by omega) ih

theorem admissible_wellformed (tr : List (Length × Length)) (h : traceAdmissible [] tr = true) :
    WeakSorted (foldAdd [] tr).reverse ∧ ∀ r ∈ (foldAdd [] tr).reverse, r.end_byte ≤ traceBound tr := by
  obtain ⟨hw, hb⟩ := (chainP_iff fun _ _ => id).1 (foldAdd_admissible tr [] 0 trivial h)
  exact ⟨hw, fun r hr => by have := hb r (List.mem_reverse.1 hr); omega⟩

theorem foldAdd_sound : ∀ (tr : List (Length × Length)) (racc : List TSRange) (x : Nat),
    mem (foldAdd racc tr) x → mem racc x ∨ ∃ c ∈ tr, c.1.bytes ≤ x ∧ x < c.2.bytes
  | [], racc, x, h => Or.inl (by simpa [foldAdd] using h)
  | (s, e) :: rest, racc, x, h => by
    simp only [foldAdd, List.foldl_cons] at h
    simp only [List.mem_cons, exists_eq_or_imp, ← or_assoc]
    exact (foldAdd_sound rest (addRev racc s e) x h).imp_left (addRev_sound racc s e x)

theorem foldAdd_grow : ∀ (tr : List (Length × Length)) (racc : List TSRange), traceGrow racc tr = true →
    ∀ x, (mem racc x → mem (foldAdd racc tr) x) ∧
      (∀ c ∈ tr, c.1.bytes ≤ x → x < c.2.bytes → mem (foldAdd racc tr) x)
  | [], racc, _, x => ⟨by simp [foldAdd], by intro c hc; cases hc⟩
  | (s, e) :: rest, racc, h, x => by
    simp only [traceGrow, Bool.and_eq_true] at h
    have h1 := addRev_grow racc s e h.1 x
    have ih := foldAdd_grow rest (addRev racc s e) h.2 x
    simp only [foldAdd, List.foldl_cons]
    exact ⟨fun hm => ih.1 (h1.1 hm), List.forall_mem_cons.2 ⟨fun hx1 hx2 => ih.1 (h1.2 hx1 hx2), ih.2⟩⟩

theorem foldAdd_monoCalls : ∀ (tr : List (Length × Length)) (racc : List TSRange) (p : Nat),
    Chain (p + 1) racc → MonoCalls p tr →
    (∃ hi, Chain hi (foldAdd racc tr)) ∧
    ∀ x, mem (foldAdd racc tr) x ↔ (mem racc x ∨ ∃ c ∈ tr, c.1.bytes ≤ x ∧ x < c.2.bytes)
  | [], racc, p, hc, _ => ⟨⟨p + 1, by simpa [foldAdd] using hc⟩, fun x => by simp [foldAdd]⟩
  | (s, e) :: rest, racc, p, hc, hm => by
    obtain ⟨h1, h2, h3⟩ := hm
    have st := addRev_spec racc s e (Chain.mono (by omega) hc) h2
    have ih := foldAdd_monoCalls rest (addRev racc s e) e.bytes st.1 h3
    simp only [foldAdd, List.foldl_cons]
    refine ⟨ih.1, fun x => ?_⟩
    have ihx := ih.2 x
    simp only [foldAdd] at ihx
    rw [ihx, st.2 x]
    simp only [List.mem_cons, exists_eq_or_imp, or_assoc]

/-- For ANY sequence of `ts_range_array_add` calls on an empty array whose start positions never
decrease and whose calls are non-empty, the array is sorted, pairwise strictly separated, free of empty ranges, and
every range ends at or before the largest end handed over. -/
theorem add_calls_sorted (tr : List (Length × Length)) (h : MonoStarts 0 tr) :
    StrictSorted (addCalls tr) ∧ ∀ r ∈ addCalls tr, r.end_byte ≤ traceBound tr := by
  refine ⟨?_, (admissible_wellformed tr (monoStarts_inv tr [] 0 trivial h.weak).1).2⟩
  have := (add_calls_strict_iff tr).2 ((monoStarts_inv tr [] 0 trivial h.weak).2 h) tr.length
  rwa [List.take_length] at this

/-- The same as `add_calls_sorted` with calls that may be empty (`s ≤ e`): sorted, strictly separated,
`start ≤ end` (an empty range can appear: `empty_range_witness`). -/
theorem add_calls_wellformed (tr : List (Length × Length)) (h : MonoStartsW 0 tr) :
    WeakSorted (addCalls tr) ∧ ∀ r ∈ addCalls tr, r.end_byte ≤ traceBound tr :=
  admissible_wellformed tr (monoStarts_inv tr [] 0 trivial h).1

/-- For EVERY call sequence (no premise) each reported byte lies in the span of one of the calls. -/
theorem add_calls_sound (tr : List (Length × Length)) (x : Nat) (hx : mem (addCalls tr) x) :
    ∃ c ∈ tr, c.1.bytes ≤ x ∧ x < c.2.bytes := by
  rcases foldAdd_sound tr [] x ((mem_reverse _ x).1 hx) with h | h
  · simp at h
  · exact h

/-- If positions never go backwards (each call has `s ≤ e`, the next starts at or after this end)
the array is sorted, strictly separated, without empty ranges, and covers EXACTLY the union of the calls' spans. -/
theorem add_calls_exact (tr : List (Length × Length)) (h : MonoCalls 0 tr) :
    StrictSorted (addCalls tr) ∧
    ∀ x, mem (addCalls tr) x ↔ ∃ c ∈ tr, c.1.bytes ≤ x ∧ x < c.2.bytes := by
  have hk := foldAdd_monoCalls tr [] 0 (by simp [Chain]) h
  obtain ⟨⟨hi, hc⟩, hm⟩ := hk
  refine ⟨hc.strictSorted, fun x => ?_⟩
  unfold addCalls
  rw [mem_reverse, hm x]
  simp

/-- On a sorted/strictly separated/non-empty array one call leaves such an array IFF it satisfies
`keepsStrict` (when it touches the last range it ends after that range's start). -/
theorem add_step_exact (arr : List TSRange) (s e : Length) (hs : StrictSorted arr) :
    StrictSorted (add arr s e) ↔ keepsStrict arr.reverse s e := by
  obtain ⟨hi, hc⟩ := (chain_iff_strictSorted arr.reverse).2 (by simpa using hs)
  rw [← addRev_strict_iff arr.reverse s e hi hc, chain_iff_strictSorted]
  exact Iff.rfl

/-- Non-vacuity of `add_calls_sorted`: non-decreasing starts, ends going backwards; the array shrinks from `[0,10)`
to `[0,7)` (so coverage of the calls' spans is NOT a consequence of monotone starts) and then grows again. -/
example : let tr : List (Length × Length) := [(⟨0,⟨0,0⟩⟩, ⟨10,⟨0,10⟩⟩), (⟨5,⟨0,5⟩⟩, ⟨7,⟨0,7⟩⟩), (⟨9,⟨0,9⟩⟩, ⟨12,⟨0,12⟩⟩)]
    MonoStarts 0 tr ∧ addCalls tr = [⟨⟨0,0⟩,⟨0,7⟩,0,7⟩, ⟨⟨0,9⟩,⟨0,12⟩,9,12⟩] := by
  refine ⟨by simp [MonoStarts], by decide⟩

theorem shrink_witness : let tr : List (Length × Length) := [(⟨0,⟨0,0⟩⟩, ⟨10,⟨0,10⟩⟩), (⟨5,⟨0,5⟩⟩, ⟨7,⟨0,7⟩⟩)]
    MonoStarts 0 tr ∧ ¬ MonoCalls 0 tr ∧ addCalls tr = [⟨⟨0,0⟩,⟨0,7⟩,0,7⟩] ∧ ¬ mem (addCalls tr) 8 := by
  intro tr
  have h : addCalls tr = [⟨⟨0,0⟩,⟨0,7⟩,0,7⟩] := by decide
  refine ⟨by simp [tr, MonoStarts], by simp [tr, MonoCalls], h, ?_⟩
  rw [h]
  simp [mem]

/-- Non-vacuity of `add_calls_exact`: touching calls are merged, a gap starts a new range, an empty call is ignored. -/
example : let tr : List (Length × Length) := [(⟨1,⟨0,1⟩⟩, ⟨5,⟨0,5⟩⟩), (⟨5,⟨0,5⟩⟩, ⟨7,⟨0,7⟩⟩), (⟨8,⟨0,8⟩⟩, ⟨8,⟨0,8⟩⟩), (⟨9,⟨0,9⟩⟩, ⟨11,⟨0,11⟩⟩)]
    MonoCalls 0 tr ∧ addCalls tr = [⟨⟨0,1⟩,⟨0,7⟩,1,7⟩, ⟨⟨0,9⟩,⟨0,11⟩,9,11⟩] := by
  refine ⟨by simp [MonoCalls], by decide⟩

/-- With empty calls allowed (`s ≤ e`) and non-decreasing starts an EMPTY range can be left in the array:
`(0,10) (0,0)` gives `[0,0)`.  So `s < e` in `add_calls_sorted` cannot be weakened to `s ≤ e`. -/
theorem empty_range_witness : let tr : List (Length × Length) := [(⟨0,⟨0,0⟩⟩, ⟨10,⟨0,10⟩⟩), (⟨0,⟨0,0⟩⟩, ⟨0,⟨0,0⟩⟩)]
    MonoStartsW 0 tr ∧ addCalls tr = [⟨⟨0,0⟩,⟨0,0⟩,0,0⟩] ∧ ¬ StrictSorted (addCalls tr) := by
  intro tr
  have h : addCalls tr = [⟨⟨0,0⟩,⟨0,0⟩,0,0⟩] := by decide
  refine ⟨by simp [tr, MonoStartsW], h, ?_⟩
  rw [h]
  simp [StrictSorted]

/-- The premise on the starts cannot be dropped: two non-empty forward calls whose starts DECREASE, `(5,6) (0,1)`,
leave the ill-formed range `[5,1)` (start > end) — not even `WeakSorted`. -/
theorem decreasing_start_witness : let tr : List (Length × Length) := [(⟨5,⟨0,5⟩⟩, ⟨6,⟨0,6⟩⟩), (⟨0,⟨0,0⟩⟩, ⟨1,⟨0,1⟩⟩)]
    (∀ c ∈ tr, c.1.bytes < c.2.bytes) ∧ addCalls tr = [⟨⟨0,5⟩,⟨0,1⟩,5,1⟩] ∧ ¬ WeakSorted (addCalls tr) := by
  intro tr
  have h : addCalls tr = [⟨⟨0,5⟩,⟨0,1⟩,5,1⟩] := by decide
  refine ⟨by simp [tr], h, ?_⟩
  rw [h]
  simp [WeakSorted]

theorem changedRanges_eq_fold (al : AliasTable) (fixed : Bool) (old new : TsVerif.Tree) (diffs : List TSRange) :
    (changedRanges al fixed old new diffs).ranges =
      (foldAdd [] ((changedRanges al fixed old new diffs).main ++ (changedRanges al fixed old new diffs).post)).reverse := by
  unfold changedRanges
  -- with the loop still in them the two sides are slow to compare
  generalize changedTrace al fixed old new diffs = t
  rw [← foldAdd_append]

theorem changedRanges_main (al : AliasTable) (fixed : Bool) (old new : TsVerif.Tree) (diffs : List TSRange) :
    (changedRanges al fixed old new diffs).main =
      (changedRanges al fixed old new diffs).pre ++ callsOf (changedRanges al fixed old new diffs).spans := by
  unfold changedRanges
  generalize changedTrace al fixed old new diffs = t
  rfl

/-- For ALL tree pairs, alias tables and difference lists, with NO premise (not even sized
trees or `entryOK`): every byte reported by `ts_subtree_get_changed_ranges` lies in a span that the walk handed to
`ts_range_array_add` (the pre-call, an iteration that compared *Differs*, or the post-call).  The merging in
`ts_range_array_add` never makes the function report a byte the walk did not flag. -/
theorem changed_ranges_sound (al : AliasTable) (fixed : Bool) (old new : Tree) (diffs : List TSRange) (x : Nat)
    (hx : mem (changedRanges al fixed old new diffs).ranges x) :
    ∃ c ∈ (changedRanges al fixed old new diffs).main ++ (changedRanges al fixed old new diffs).post,
      c.1.bytes ≤ x ∧ x < c.2.bytes := by
  rw [changedRanges_eq_fold] at hx
  exact add_calls_sound _ x hx

theorem tile_find : ∀ (spans : List (Length × Length × Nat)) (lo p : Nat), spansTile lo spans = true →
    lo ≤ p → p < spansEnd lo spans → ∃ sp ∈ spans, sp.1.bytes ≤ p ∧ p < sp.2.1.bytes
  | [], lo, p, _, h1, h2 => by simp [spansEnd] at h2; omega
  | (s, e, l) :: rest, lo, p, h, h1, h2 => by
    simp only [spansTile, Bool.and_eq_true, decide_eq_true_eq] at h
    by_cases hp : p < e.bytes
    · exact ⟨(s, e, l), by simp, by simp; omega, by simpa using hp⟩
    · obtain ⟨sp, hsp, h3⟩ := tile_find rest e.bytes p h.2 (by omega) (by simpa [spansEnd] using h2)
      exact ⟨sp, List.mem_cons_of_mem _ hsp, h3⟩

theorem tile_iff : ∀ (spans : List (Length × Length × Nat)) (lo : Nat),
    spansTile lo spans = (spansChain lo spans && spansMono spans)
  | [], _ => by simp [spansTile, spansChain, spansMono]
  | (s, e, l) :: rest, lo => by
    have ih := tile_iff rest e.bytes
    simp only [spansTile, spansChain, spansMono, List.all_cons, ih] at *
    cases decide (s.bytes = lo) <;> cases decide (s.bytes ≤ e.bytes) <;> simp

theorem chain_append : ∀ (xs : List (Length × Length × Nat)) (lo : Nat) (x : Length × Length × Nat),
    spansChain lo (xs ++ [x]) = (spansChain lo xs && decide (x.1.bytes = spansEnd lo xs)) ∧
    spansEnd lo (xs ++ [x]) = x.2.1.bytes
  | [], lo, (s, e, l) => by simp [spansChain, spansEnd]; rfl
  | (s, e, l) :: rest, lo, x => by
    have ih := chain_append rest e.bytes x
    simp [spansChain, spansEnd, ih.1, ih.2, Bool.and_assoc]; rfl

/-- A span `(start, end, label)` of the walk; `lo` is instantiated with the end of the SHORTER tree, `hi` with the end of the longer. -/
def SpanOK (lo hi : Nat) (x : Length × Length × Nat) : Prop :=
  x.1.bytes ≤ lo ∧ x.1.bytes ≤ x.2.1.bytes ∧ x.2.1.bytes ≤ hi

/-- On the last range of the (reversed) array: `lo` is the walk's position, `M` the end of the shorter tree, `H` of the longer.
`start ≤ M` is there for the final size call `(M, H)`, which may start before `lo`: it then starts inside the last range and
overwrites its end with `H`, uncovering nothing. -/
def Top (M H lo : Nat) : List TSRange → Prop
  | [] => True
  | last :: _ => last.start_byte ≤ last.end_byte ∧ last.end_byte ≤ lo ∧ last.start_byte ≤ M ∧ last.end_byte ≤ H

theorem Top.mono {M H lo lo' : Nat} (h : lo ≤ lo') : ∀ {racc}, Top M H lo racc → Top M H lo' racc
  | [], _ => trivial
  | _ :: _, ⟨a, b, c, d⟩ => ⟨a, by omega, c, d⟩

theorem addRev_step {M H lo : Nat} {racc : List TSRange} {s e : Length} (h : Top M H lo racc)
    (hs : lo ≤ s.bytes ∨ (s.bytes = M ∧ e.bytes = H)) (h1 : s.bytes ≤ M) (h2 : s.bytes ≤ e.bytes) (h3 : e.bytes ≤ H) :
    growOK racc s e = true ∧ admissible racc s e = true ∧ Top M H e.bytes (addRev racc s e) := by
  cases racc with
  | nil =>
    refine ⟨rfl, rfl, ?_⟩
    simp only [addRev]
    split
    · simp only [Top, mkRange]; omega
    · trivial
  | cons last rest =>
    obtain ⟨a, b, c, d⟩ := h
    refine ⟨?_, ?_, ?_⟩
    · simp only [growOK, Bool.or_eq_true, Bool.and_eq_true, decide_eq_true_eq]; omega
    · simp only [admissible, Bool.or_eq_true, decide_eq_true_eq]; omega
    · simp only [addRev]
      split
      · simp only [Top]; omega
      · split
        · simp only [Top, mkRange]; omega
        · simp only [Top]; omega

theorem addRev_top (M H : Nat) (racc : List TSRange) (s e : Length) (h : Top M H s.bytes racc)
    (h1 : s.bytes ≤ M) (h2 : s.bytes ≤ e.bytes) (h3 : e.bytes ≤ H) :
    growOK racc s e = true ∧ admissible racc s e = true ∧ Top M H e.bytes (addRev racc s e) :=
  addRev_step h (Or.inl (Nat.le_refl _)) h1 h2 h3

def NEall (racc : List TSRange) : Prop := ∀ r ∈ racc, r.start_byte < r.end_byte

theorem NEall.cons {r : TSRange} {racc : List TSRange} (hr : r.start_byte < r.end_byte) (h : NEall racc) : NEall (r :: racc) :=
  List.forall_mem_cons.2 ⟨hr, h⟩

theorem addRev_ne' {M H lo : Nat} {racc : List TSRange} {s e : Length} (h : Top M H lo racc) (hn : NEall racc)
    (hs : (lo ≤ s.bytes ∧ s.bytes ≤ e.bytes) ∨ e.bytes = H) : NEall (addRev racc s e) := by
  cases racc with
  | nil =>
    simp only [addRev]
    split
    · rename_i hlt; exact .cons hlt hn
    · exact hn
  | cons last rest =>
    obtain ⟨a, b, c, d⟩ := h
    obtain ⟨hl, hr⟩ := List.forall_mem_cons.1 hn
    simp only [addRev]
    split
    · exact .cons (show last.start_byte < e.bytes by omega) hr
    · split
      · rename_i hlt; exact .cons hlt hn
      · exact hn

theorem addRev_ne (M H : Nat) (racc : List TSRange) (s e : Length) (h : Top M H s.bytes racc) (hn : NEall racc)
    (h2 : s.bytes ≤ e.bytes) : NEall (addRev racc s e) :=
  addRev_ne' h hn (Or.inl ⟨Nat.le_refl _, h2⟩)

/-- `lo` is where the previous span ended (the walk's position): a span that is handed to `add` starts there, so `Top … lo`
speaks of that call; a span that is not handed over only moves `lo` on. -/
theorem calls_inv (M H : Nat) : ∀ (spans : List (Length × Length × Nat)) (lo : Nat) (racc : List TSRange),
    Top M H lo racc → spansChain lo spans = true → (∀ x ∈ spans, SpanOK M H x) →
    (traceGrow racc (callsOf spans) = true ∧ traceAdmissible racc (callsOf spans) = true ∧
      Top M H (spansEnd lo spans) (foldAdd racc (callsOf spans)) ∧ (∀ c ∈ callsOf spans, c.2.bytes ≤ H)) ∧
    (NEall racc → NEall (foldAdd racc (callsOf spans)))
  | [], lo, racc, ht, _, _ => ⟨⟨rfl, rfl, ht, fun _ h => (nomatch h)⟩, id⟩
  | (s, e, l) :: rest, lo, racc, ht, hc, hs => by
    simp only [spansChain, Bool.and_eq_true, decide_eq_true_eq] at hc
    obtain ⟨⟨k1, k2, k3⟩, hrest⟩ := List.forall_mem_cons.1 hs
    simp only at k1 k2 k3
    rw [callsOf_cons]
    simp only [spansEnd]
    by_cases hl : (l == 0) = true
    · simp only [hl, if_true]
      have ht' : Top M H s.bytes racc := hc.1 ▸ ht
      obtain ⟨g, a, t⟩ := addRev_top M H racc s e ht' k1 k2 k3
      obtain ⟨⟨ig, ia, it, ib⟩, ine⟩ := calls_inv M H rest e.bytes (addRev racc s e) t hc.2 hrest
      exact ⟨⟨by simp [traceGrow, g, ig], by simp [traceAdmissible, a, ia], it, List.forall_mem_cons.2 ⟨k3, ib⟩⟩,
        fun hn => ine (addRev_ne M H racc s e ht' hn k2)⟩
    · simp only [hl]
      exact calls_inv M H rest e.bytes racc (ht.mono (by omega)) hc.2 hrest

theorem calls_grow (M H : Nat) : ∀ (spans : List (Length × Length × Nat)) (lo : Nat) (racc : List TSRange),
    Top M H lo racc → spansChain lo spans = true → (∀ x ∈ spans, SpanOK M H x) →
    traceGrow racc (callsOf spans) = true ∧ traceAdmissible racc (callsOf spans) = true ∧
    Top M H (spansEnd lo spans) (foldAdd racc (callsOf spans)) ∧ (∀ c ∈ callsOf spans, c.2.bytes ≤ H) :=
  fun spans lo racc ht hc hs => (calls_inv M H spans lo racc ht hc hs).1

theorem calls_ne (M H : Nat) : ∀ (spans : List (Length × Length × Nat)) (lo : Nat) (racc : List TSRange),
    Top M H lo racc → NEall racc → spansChain lo spans = true → (∀ x ∈ spans, SpanOK M H x) →
    NEall (foldAdd racc (callsOf spans)) :=
  fun spans lo racc ht hn hc hs => (calls_inv M H spans lo racc ht hc hs).2 hn

theorem pre_as_span {M H lo : Nat} {pre : List (Length × Length)} {spans : List (Length × Length × Nat)} (hM : M ≤ H) (hlo : lo ≤ M)
    (hpre : pre = [] ∨ ∃ p np : Length, pre = [(p, np)] ∧ p.bytes < np.bytes ∧ np.bytes = lo)
    (hc : spansChain lo spans = true) (hs : ∀ x ∈ spans, SpanOK M H x) :
    ∃ lo' spans', pre ++ callsOf spans = callsOf spans' ∧ spansChain lo' spans' = true ∧ ∀ x ∈ spans', SpanOK M H x := by
  rcases hpre with rfl | ⟨p, np, rfl, h1, rfl⟩
  · exact ⟨lo, spans, rfl, hc, hs⟩
  · refine ⟨p.bytes, (p, np, 0) :: spans, by rw [callsOf_cons]; rfl, by simpa [spansChain] using hc,
      List.forall_mem_cons.2 ⟨⟨?_, ?_, ?_⟩, hs⟩⟩ <;> simp only <;> omega

theorem post_call {M H lo : Nat} {racc : List TSRange} {post : List (Length × Length)} (hM : M ≤ H) (ht : Top M H lo racc)
    (hpost : post = [] ∨ ∃ a b : Length, post = [(a, b)] ∧ a.bytes = M ∧ b.bytes = H) :
    traceGrow racc post = true ∧ traceAdmissible racc post = true ∧ (∀ c ∈ post, c.2.bytes ≤ H) ∧
    (NEall racc → NEall (foldAdd racc post)) := by
  rcases hpost with rfl | ⟨a, b, rfl, h1, h2⟩
  · exact ⟨rfl, rfl, fun _ h => (nomatch h), id⟩
  · obtain ⟨g, ad, _⟩ := addRev_step (s := a) (e := b) ht (Or.inr ⟨h1, h2⟩) (by omega) (by omega) (by omega)
    exact ⟨by simp [traceGrow, g], by simp [traceAdmissible, ad], by simp; omega, fun hn => addRev_ne' (s := a) (e := b) ht hn (Or.inr h2)⟩

/-- The whole call sequence `pre ++ calls ++ post` of `ts_subtree_get_changed_ranges`, abstractly: a pre-call ending at
the loop start (or none; it counts as one more span, `pre_as_span`), contiguous `SpanOK` spans from the loop start, and a
post-call `(M, H)` (or none). -/
theorem whole_trace (M H lo : Nat) (pre post : List (Length × Length)) (spans : List (Length × Length × Nat))
    (hM : M ≤ H) (hlo : lo ≤ M)
    (hpre : pre = [] ∨ ∃ p np : Length, pre = [(p, np)] ∧ p.bytes < np.bytes ∧ np.bytes = lo)
    (hpost : post = [] ∨ ∃ a b : Length, post = [(a, b)] ∧ a.bytes = M ∧ b.bytes = H)
    (hc : spansChain lo spans = true) (hs : ∀ x ∈ spans, SpanOK M H x) :
    traceGrow [] ((pre ++ callsOf spans) ++ post) = true ∧
    traceAdmissible [] ((pre ++ callsOf spans) ++ post) = true ∧
    traceBound ((pre ++ callsOf spans) ++ post) ≤ H := by
  obtain ⟨lo', spans', he, hc', hs'⟩ := pre_as_span hM hlo hpre hc hs
  rw [he]
  obtain ⟨c1, c2, c3, c4⟩ := calls_grow M H spans' lo' [] trivial hc' hs'
  obtain ⟨q1, q2, q3, _⟩ := post_call hM c3 hpost
  exact ⟨by rw [traceGrow_append, c1, q1]; rfl, by rw [traceAdmissible_append, c2, q2]; rfl,
    traceBound_le H _ (List.forall_mem_append.2 ⟨c4, q3⟩)⟩

theorem whole_trace_ne (M H lo : Nat) (pre post : List (Length × Length)) (spans : List (Length × Length × Nat))
    (hM : M ≤ H) (hlo : lo ≤ M)
    (hpre : pre = [] ∨ ∃ p np : Length, pre = [(p, np)] ∧ p.bytes < np.bytes ∧ np.bytes = lo)
    (hpost : post = [] ∨ ∃ a b : Length, post = [(a, b)] ∧ a.bytes = M ∧ b.bytes = H ∧ M < H)
    (hc : spansChain lo spans = true) (hs : ∀ x ∈ spans, SpanOK M H x) :
    NEall (foldAdd [] ((pre ++ callsOf spans) ++ post)) := by
  obtain ⟨lo', spans', he, hc', hs'⟩ := pre_as_span hM hlo hpre hc hs
  obtain ⟨⟨_, _, c3, _⟩, c5⟩ := calls_inv M H spans' lo' [] trivial hc' hs'
  rw [he, ← foldAdd_append]
  exact (post_call hM c3 (hpost.imp id fun ⟨a, b, h1, h2, h3, _⟩ => ⟨a, b, h1, h2, h3⟩)).2.2.2 (c5 fun _ h => nomatch h)

end TsVerif.C04
