import TsVerif.C04.Ends
/-!
# C04 — the walk reaches the end of the shorter tree (`reach`)

Three more stack predicates that every cursor operation preserves (`PushClosed`): `Bot R` (the bottom entry ends at `R`),
`BotP pr` (the bottom entry satisfies `pr`) and `LenOK S` (the stack is a path: its length plus the size of the top subtree is
at most `S`; `S ≤ 2^32 = 4294967296` in the hypotheses below keeps the `unsigned` `visible_depth` from wrapping, `pop_depth`).  With them: a cursor
becomes done only at the end of its root (`catchUp_done`); `visible_depth` counts the visible entries that have been
entered (`Wd`), so the depth alignment never pops the root of a cursor while the other one is alive (`ascendTo_w`);
hence the loop stops only when a cursor has reached the end of its root (`mainLoop_reach`, `walk_reach`).
-/
namespace TsVerif.C04
open TsGen

def bottomEnd : List Entry → Nat
  | [] => 0
  | [e] => e.position.bytes + e.subtree.totalBytes
  | _ :: rest => bottomEnd rest

def Bot (R : Nat) (stack : List Entry) : Prop := stack ≠ [] → bottomEnd stack = R

theorem bot_closed (R : Nat) : PushClosed (Bot R) :=
  .of_index (fun h => absurd rfl h)
    (fun _ rest h hne => by
      cases rest with
      | nil => exact absurd rfl hne
      | cons p r => exact h (List.cons_ne_nil _ _))
    (fun _ _ _ h _ _ => h (List.cons_ne_nil _ _))

def LenOK (S : Nat) : List Entry → Prop
  | [] => True
  | e :: rest => rest.length + e.subtree.size ≤ S ∧ LenOK S rest

theorem sizeList_get : ∀ (kids : List Tree) (k : Nat) (c : Tree), kids[k]? = some c → c.size ≤ Tree.sizeList kids
  | [], _, _, h => nomatch h
  | t :: ts, 0, c, h => by cases h; simp [Tree.sizeList]
  | t :: ts, k + 1, c, h => by
    have := sizeList_get ts k c h
    simp only [Tree.sizeList]; omega

theorem len_closed (S : Nat) : PushClosed (LenOK S) :=
  .of_index trivial (fun _ _ h => h.2) (fun c e rest h hk => by
    refine ⟨?_, h⟩
    have := h.1
    have := sizeList_get _ _ _ hk
    have : e.subtree.size = 1 + Tree.sizeList e.subtree.kids := by cases e.subtree; rfl
    simp only [List.length_cons]; omega)

theorem LenOK.length_le {S : Nat} : ∀ {stack : List Entry}, LenOK S stack → stack.length ≤ S
  | [], _ => Nat.zero_le _
  | e :: rest, h => by
    have h1 := h.1
    have : 1 ≤ e.subtree.size := by cases e.subtree with | mk d kids => simp [Tree.size]
    simp only [List.length_cons]; omega

theorem descend_nonempty (al : AliasTable) (fuel : Nat) (it : Iter) (goal : Nat) (h : it.stack ≠ []) :
    (it.descend al fuel goal).1.stack ≠ [] :=
  descend_q (Q := (· ≠ [])) (fun _ _ _ _ _ _ => List.cons_ne_nil _ _) h

def topEnd : List Entry → Nat
  | [] => 0
  | e :: _ => e.position.bytes + e.subtree.totalBytes

theorem last_child_end {e p : Entry} {rest : List Entry} (hok : StackOK (e :: p :: rest)) (hp : AllSized p.subtree)
    (hn : p.subtree.kids[e.childIndex + 1]? = none) :
    e.position.bytes + e.subtree.totalBytes = p.position.bytes + p.subtree.totalBytes := by
  obtain ⟨h1, h2, _⟩ := hok
  have ht := (hp.total h1).1
  have hs := prefixBytes_succ _ _ _ h1
  have hlen : e.childIndex + 1 = p.subtree.kids.length := by
    have a := List.getElem?_eq_none_iff.1 hn
    obtain ⟨b, _⟩ := List.getElem?_eq_some_iff.1 h1
    omega
  rw [hlen] at hs
  omega

theorem enterNext_nonempty (al : AliasTable) (fuel : Nat) (it : Iter) (next : Tree) (h : it.stack ≠ []) :
    (it.enterNext al fuel next).stack ≠ [] := by
  unfold Iter.enterNext
  split
  · split <;> exact h
  · exact descend_nonempty al fuel it 0 h

theorem advanceLoop_done (al : AliasTable) (fuel : Nat) : ∀ (stack : List Entry) (vd : Nat) (prev : Option Tree),
    StackOK stack → SS stack → (advanceLoop al fuel stack vd prev).stack = [] → topEnd stack = bottomEnd stack
  | [], _, _ => fun _ _ _ => rfl
  | [e], _, _ => fun _ _ _ => rfl
  | e :: p :: rest, vd, prev => fun hok hss hd => by
    obtain ⟨sci, prev', heq⟩ := advanceLoop_cons_cons al fuel e p rest vd prev
    rw [heq] at hd
    split at hd
    · exact absurd hd (enterNext_nonempty al fuel _ _ (List.cons_ne_nil _ _))
    · rename_i hn
      have ih := advanceLoop_done al fuel (p :: rest) _ _ hok.2.2 hss.tail hd
      have := last_child_end hok (hss p (by simp)) hn
      simp only [topEnd, bottomEnd] at ih ⊢
      omega

theorem advance_done (al : AliasTable) (fuel : Nat) (it : Iter) (hok : StackOK it.stack) (hss : SS it.stack)
    (hne : it.done = false) (hd : (it.advance al fuel).done = true) :
    it.endPosition.bytes = bottomEnd it.stack := by
  obtain ⟨s, vd, ip, prev⟩ := it
  have hne' : s ≠ [] := Iter.not_done_iff.1 hne
  unfold Iter.advance at hd
  cases ip with
  | true =>
    -- leaving a padding never empties the stack
    exfalso
    simp only [if_true] at hd
    split at hd
    · exact hne' (Iter.done_iff.1 hd)
    · exact descend_nonempty al fuel _ 0 hne' (Iter.done_iff.1 hd)
  | false =>
    rw [← advanceLoop_done al fuel s _ _ hok hss (Iter.done_iff.1 hd)]
    cases s with
    | nil => exact absurd rfl hne'
    | cons e rest =>
      simp only [endPosition_cons, topEnd, Bool.false_eq_true, if_false]

theorem catchUp_done (al : AliasTable) (tf : Nat) (R : Nat) : ∀ (fuel : Nat) (it : Iter) (np : Nat),
    Geo R it → Bot R it.stack → it.done = false → (catchUp al tf fuel it np).1.done = true → R ≤ np := by
  intro fuel it np g hb hne hd
  refine (catchUp_induct (C := fun it => Geo R it ∧ Bot R it.stack ∧ (it.done = true → R ≤ np)) ?_ fuel it
    ⟨g, hb, fun h => by rw [hne] at h; cases h⟩).2.2 hd
  intro it ⟨g, hb, _⟩ hnd he
  refine ⟨g.advance al tf, advance_q (bot_closed R) hb, fun hdn => ?_⟩
  have := advance_done al tf it g.ok g.ss hnd hdn
  have := hb (Iter.not_done_iff.1 hnd)
  omega

/-- Number of visible entries of a stack (visibility as `iterator_tree_is_visible` sees it: own flag or alias in the parent). -/
def countVis (al : AliasTable) : List Entry → Nat
  | [] => 0
  | e :: rest => (if stackTopVisible al (e :: rest) then 1 else 0) + countVis al rest

def EnteredAll (al : AliasTable) (P : Nat) : List Entry → Prop
  | [] => True
  | e :: rest => (stackTopVisible al (e :: rest) = true → e.left ≤ P) ∧ EnteredAll al P rest

theorem EnteredAll.mono {al : AliasTable} {P P' : Nat} (h : P ≤ P') : ∀ {s : List Entry}, EnteredAll al P s → EnteredAll al P' s
  | [], _ => trivial
  | _ :: _, ⟨a, b⟩ => ⟨fun hv => Nat.le_trans (a hv) h, EnteredAll.mono h b⟩

theorem countVis_cons (al : AliasTable) (c : Entry) (s : List Entry) :
    countVis al (c :: s) = (if stackTopVisible al (c :: s) then 1 else 0) + countVis al s := rfl

theorem countVis_le (al : AliasTable) : ∀ s : List Entry, countVis al s ≤ s.length
  | [] => Nat.le_refl _
  | e :: rest => by
    have := countVis_le al rest
    simp only [countVis, List.length_cons]
    split <;> omega

/-- The depth invariant: `visible_depth` is the number of visible entries, not counting a visible top entry whose
padding the cursor is still in; and every counted visible entry starts at or before `P`. -/
structure Wd (al : AliasTable) (P : Nat) (it : Iter) : Prop where
  depth : it.visibleDepth + (if it.inPadding && stackTopVisible al it.stack then 1 else 0) = countVis al it.stack
  ent : EnteredAll al P (if it.inPadding then it.stack.tail else it.stack)

theorem Wd.mono {al : AliasTable} {P P' : Nat} {it : Iter} (h : P ≤ P') (w : Wd al P it) : Wd al P' it :=
  ⟨w.depth, EnteredAll.mono h w.ent⟩

def Iter.entered (it : Iter) : List Entry := if it.inPadding then it.stack.tail else it.stack

theorem wd_iff {al : AliasTable} {P : Nat} {it : Iter} :
    Wd al P it ↔ it.visibleDepth = countVis al it.entered ∧ EnteredAll al P it.entered := by
  obtain ⟨s, vd, ip, prev⟩ := it
  have key : (vd + (if ip && stackTopVisible al s then 1 else 0) = countVis al s) ↔
      vd = countVis al (if ip then s.tail else s) := by
    cases ip
    · simp
    · cases s with
      | nil => simp [stackTopVisible, countVis]
      | cons c s => simp only [Bool.true_and, countVis_cons, List.tail_cons, if_true]; omega
  exact ⟨fun ⟨d, e⟩ => ⟨key.1 d, e⟩, fun ⟨d, e⟩ => ⟨key.2 d, e⟩⟩

theorem Wd.congr {al : AliasTable} {P : Nat} {it it' : Iter} (w : Wd al P it)
    (hd : it'.visibleDepth = it.visibleDepth) (he : it'.entered = it.entered) : Wd al P it' := by
  rw [wd_iff, hd, he]; exact wd_iff.1 w

theorem wd_push {al : AliasTable} {P : Nat} {c : Entry} {s : List Entry} {vd : Nat} {prev : Option Tree}
    (prev' : Option Tree) (w : Wd al P ⟨s, vd, false, prev⟩) :
    Wd al P ⟨c :: s, vd, true, prev'⟩ ∧
    (stackTopVisible al (c :: s) = false → Wd al P ⟨c :: s, vd, false, prev'⟩) ∧
    (stackTopVisible al (c :: s) = true → c.left ≤ P → Wd al P ⟨c :: s, vd + 1, false, prev'⟩) := by
  obtain ⟨d, e⟩ := wd_iff.1 w
  have d : vd = countVis al s := d
  refine ⟨w.congr rfl rfl, fun hv => wd_iff.2 ⟨?_, fun h => ?_, e⟩, fun hv hl => wd_iff.2 ⟨?_, fun _ => hl, e⟩⟩
  · show vd = countVis al (c :: s)
    rw [countVis_cons, hv]; simpa using d
  · rw [hv] at h; cases h
  · show vd + 1 = countVis al (c :: s)
    rw [countVis_cons, hv]; simp only [if_true]; omega

theorem descendLoop_w (al : AliasTable) (P : Nat) : ∀ (fuel : Nat) (s : List Entry) (vd : Nat) (prev : Option Tree) (goal : Nat),
    goal ≤ P → Wd al P ⟨s, vd, false, prev⟩ → Wd al P (descendLoop al fuel ⟨s, vd, false, prev⟩ goal).1
  | 0, _, _, _, _, _, w => w
  | fuel + 1, s, vd, prev, goal, hg, w => by
    unfold descendLoop
    split
    · exact w
    · rename_i e rest hs
      have hs : s = e :: rest := hs
      subst hs
      split
      · exact w.congr rfl rfl
      · rename_i ce prev' _
        obtain ⟨w1, w2, w3⟩ := wd_push (c := ce) prev' w
        simp only
        cases hv : stackTopVisible al (ce :: e :: rest) with
        | true =>
          simp only [Iter.treeIsVisible, hv, if_true]
          split
          · exact w1
          · rename_i hle
            refine w3 hv ?_
            simp only [length_add_bytes] at hle
            unfold Entry.left; omega
        | false =>
          simp only [Iter.treeIsVisible, hv, Bool.false_eq_true, if_false]
          exact descendLoop_w al P fuel _ _ _ goal hg (w2 hv)

theorem descend_w {al : AliasTable} {P fuel : Nat} {it : Iter} {goal : Nat} (hg : goal ≤ P) (w : Wd al P it) :
    Wd al P (it.descend al fuel goal).1 := by
  unfold Iter.descend
  split
  · exact w
  · rename_i hp
    obtain ⟨s, vd, ip, prev⟩ := it
    have hp : ip = false := by simpa using hp
    subst hp
    exact descendLoop_w al P fuel s vd prev goal hg w

theorem enterNext_w {al : AliasTable} {P : Nat} (fuel : Nat) {ne : Entry} {s : List Entry} {vd : Nat} {prev : Option Tree}
    (prev' : Option Tree) (w : Wd al P ⟨s, vd, false, prev⟩) (hpos : ne.position.bytes ≤ P) :
    Wd al P (Iter.enterNext al fuel ⟨ne :: s, vd, false, prev'⟩ ne.subtree) := by
  obtain ⟨w1, w2, w3⟩ := wd_push (c := ne) prev' w
  unfold Iter.enterNext
  cases hv : stackTopVisible al (ne :: s) with
  | true =>
    simp only [Iter.treeIsVisible, hv, if_true]
    split
    · exact w1
    · exact w3 hv (by unfold Entry.left; omega)
  | false =>
    simp only [Iter.treeIsVisible, hv, Bool.false_eq_true, if_false]
    exact descend_w (Nat.zero_le _) (w2 hv)

/-- Popping a counted entry undoes its count (`visible_depth` is `unsigned`, but never 0 when a visible entry is counted). -/
theorem pop_depth {al : AliasTable} {e : Entry} {s : List Entry} {vd : Nat}
    (hlen : (e :: s).length ≤ 4294967296) (hvd : vd = countVis al (e :: s)) :
    (if stackTopVisible al (e :: s) = true then decU32 vd else vd) = countVis al s := by
  rw [countVis_cons] at hvd
  have hle := countVis_le al s
  simp only [List.length_cons] at hlen
  cases hv : stackTopVisible al (e :: s)
  · simp only [hv, Bool.false_eq_true, if_false] at hvd ⊢; omega
  · simp only [hv, if_true] at hvd ⊢
    unfold decU32; omega

theorem advanceLoop_w (al : AliasTable) (P fuel : Nat) : ∀ (stack : List Entry) (vd : Nat) (prev : Option Tree),
    StackOK stack → SS stack → stack.length ≤ 4294967296 → Wd al P ⟨stack, vd, false, prev⟩ →
    topEnd stack ≤ P → Wd al P (advanceLoop al fuel stack vd prev)
  | [], vd, prev, _, _, _, w, _ => w
  | [e], vd, prev, _, _, hlen, w, _ => by
    simp only [advanceLoop]
    exact wd_iff.2 ⟨pop_depth hlen (wd_iff.1 w).1, trivial⟩
  | e :: p :: rest, vd, prev, hok, hss, hlen, w, hend => by
    have w' : Wd al P ⟨p :: rest, if stackTopVisible al (e :: p :: rest) = true then decU32 vd else vd, false, prev⟩ :=
      wd_iff.2 ⟨pop_depth hlen (wd_iff.1 w).1, (wd_iff.1 w).2.2⟩
    obtain ⟨sci, prev', heq⟩ := advanceLoop_cons_cons al fuel e p rest vd prev
    rw [heq]
    split
    · refine enterNext_w fuel _ w' ?_
      simp only [length_add_bytes, totalSize_bytes]
      simpa [topEnd] using hend
    · rename_i hn
      refine advanceLoop_w al P fuel (p :: rest) _ _ hok.2.2 hss.tail (Nat.le_of_succ_le hlen) (w'.congr rfl rfl) ?_
      have := last_child_end hok (hss p (by simp)) hn
      simp only [topEnd] at hend ⊢; omega

theorem advance_w (al : AliasTable) (P fuel : Nat) (it : Iter) (hok : StackOK it.stack) (hss : SS it.stack)
    (hlen : it.stack.length ≤ 4294967296) (hend : it.endPosition.bytes ≤ P) (w : Wd al P it) :
    Wd al P (it.advance al fuel) := by
  obtain ⟨s, vd, ip, prev⟩ := it
  unfold Iter.advance
  cases ip with
  | true =>
    simp only [if_true]
    cases s with
    | nil => exact descend_w (Nat.zero_le _) (w.congr rfl rfl)
    | cons e rest =>
      -- leaving the padding of `e` is entering `e`
      obtain ⟨_, w2, w3⟩ := wd_push (c := e) prev (w.congr rfl rfl : Wd al P ⟨rest, vd, false, prev⟩)
      cases hv : stackTopVisible al (e :: rest) with
      | true =>
        simp only [Iter.treeIsVisible, hv, if_true]
        refine w3 hv ?_
        simpa [endPosition_cons] using hend
      | false =>
        simp only [Iter.treeIsVisible, hv, Bool.false_eq_true, if_false]
        exact descend_w (Nat.zero_le _) (w2 hv)
  | false =>
    refine advanceLoop_w al P fuel s _ _ hok hss hlen w ?_
    cases s with
    | nil => exact Nat.zero_le _
    | cons e rest =>
      simpa [endPosition_cons, topEnd] using hend

theorem ascend_w (al : AliasTable) (P : Nat) (it : Iter) (hok : StackOK it.stack) (hss : SS it.stack)
    (hlen : it.stack.length ≤ 4294967296) (hpad : it.inPadding = true → it.endPosition.bytes > P) (w : Wd al P it) :
    Wd al P (it.ascend al) := by
  obtain ⟨s, vd, ip, prev⟩ := it
  unfold Iter.ascend
  cases s with
  | nil => exact w
  | cons e rest =>
    obtain ⟨wd, we⟩ := wd_iff.1 w
    cases ip with
    | false =>
      simp only [Bool.not_false, Bool.and_true, ite_self]
      exact wd_iff.2 ⟨pop_depth hlen wd, we.2⟩
    | true =>
      -- no decrement; the flag survives only when a first child is left
      simp only [Bool.not_true, Bool.and_false, Bool.false_eq_true, if_false]
      by_cases hci : e.childIndex > 0
      · simp only [hci, if_true]
        exact w.congr rfl rfl
      · simp only [hci, if_false]
        cases rest with
        | nil => exact w.congr rfl rfl
        | cons p rest' =>
          have wd : vd = countVis al (p :: rest') := wd
          refine wd_iff.2 ⟨?_, we.2⟩
          show vd = countVis al rest'
          rw [countVis_cons] at wd
          cases hv2 : stackTopVisible al (p :: rest') with
          | false => simpa [hv2] using wd
          | true =>
            -- `e` is the first child of the entered visible `p`: both start at the same place, at or before `P`,
            -- but the cursor, in the padding of `e`, ends after `P`
            exfalso
            have hle := we.1 hv2
            have hgt := hpad rfl
            have := (child_inside hok (hss p (by simp))).1 (by omega)
            rw [endPosition_cons] at hgt
            simp only [if_true] at hgt
            omega

def bottom : List Entry → Option Entry
  | [] => none
  | [e] => some e
  | _ :: rest => bottom rest

def BotP (pr : Entry → Prop) (stack : List Entry) : Prop := ∀ b, bottom stack = some b → pr b

theorem botP_closed (pr : Entry → Prop) : PushClosed (BotP pr) :=
  .of_index (fun _ h => nomatch h)
    (fun _ rest h b hb => by
      cases rest with
      | nil => cases hb
      | cons p r => exact h b hb)
    (fun _ _ _ h _ b hb => h b hb)

theorem countVis_bottom (al : AliasTable) : ∀ (stack : List Entry), stack ≠ [] →
    BotP (fun b => b.subtree.data.visible = true) stack → 1 ≤ countVis al stack
  | [], h, _ => absurd rfl h
  | [e], _, hb => by simp [countVis, stackTopVisible, hb e rfl]
  | e :: p :: rest, _, hb => by
    have := countVis_bottom al (p :: rest) (List.cons_ne_nil _ _) hb
    rw [countVis_cons]; omega

theorem depth_pos (al : AliasTable) (P : Nat) (it : Iter) (w : Wd al P it) (hnd : it.done = false)
    (hb : BotP (fun b => b.subtree.data.visible = true ∧ b.left ≤ P) it.stack)
    (hpad : it.inPadding = true → it.endPosition.bytes > P) : 1 ≤ it.visibleDepth := by
  obtain ⟨s, vd, ip, prev⟩ := it
  rw [(wd_iff.1 w).1]
  have hv : ∀ {s'}, bottom s' = bottom s → BotP (fun b => b.subtree.data.visible = true) s' :=
    fun h b hbb => (hb b (h ▸ hbb)).1
  cases s with
  | nil => cases hnd
  | cons e rest =>
    cases ip with
    | false => exact countVis_bottom al (e :: rest) (List.cons_ne_nil _ _) (hv rfl)
    | true =>
      cases rest with
      | nil =>
        -- the root's padding ends after `P`, yet the root starts at or before `P`
        have := hpad rfl
        have bl := (hb e rfl).2
        rw [endPosition_cons] at this
        simp only [if_true] at this
        omega
      | cons p rest' => exact countVis_bottom al (p :: rest') (List.cons_ne_nil _ _) (hv rfl)

/-- The depth alignment never ascends past the root while the other cursor is not done (`d ≥ 1`). -/
theorem ascendTo_w (al : AliasTable) (P R S : Nat) (hS : S ≤ 4294967296) : ∀ (fuel : Nat) (it : Iter) (d : Nat),
    Geo R it → LenOK S it.stack → Wd al P it → it.endPosition.bytes > P → 1 ≤ d → it.done = false →
    Wd al P (ascendTo al fuel it d) ∧ (ascendTo al fuel it d).done = false := by
  intro fuel it d g hl w he hd hnd
  refine (fun k => ⟨k.2.2.1, k.2.2.2.2⟩) (ascendTo_induct (C := fun x => Geo R x ∧ LenOK S x.stack ∧ Wd al P x ∧
    x.endPosition.bytes > P ∧ x.done = false) ?_ fuel it ⟨g, hl, w, he, hnd⟩)
  intro x ⟨g, hl, w, he, hnd⟩ hvd _
  have h1 := (wd_iff.1 w).1
  have h2 := countVis_le al x.entered
  match hs : x.stack with
  | [] => simp [Iter.done, hs] at hnd
  | [e] =>
    -- a cursor deeper than `d ≥ 1` has entered at least two entries
    have h3 : x.entered.length ≤ 1 := by unfold Iter.entered; rw [hs]; split <;> simp
    omega
  | e :: p :: rest =>
    have := ascend_end al x e p rest hs g.ok g.ss
    exact ⟨g.ascend al, ascend_q (len_closed S) hl,
      ascend_w al P x g.ok g.ss (Nat.le_trans hl.length_le hS) (fun _ => he) w, by omega,
      by simp [Iter.ascend, hs, Iter.done]⟩

/-- Everything known about one cursor at loop position `P` (`B` = the loop start, `R` = end of the root, `S` = size of the tree). -/
structure Cur (al : AliasTable) (R S B P : Nat) (it : Iter) : Prop where
  geo : Geo R it
  bot : Bot R it.stack
  botp : BotP (fun b => b.subtree.data.visible = true ∧ b.left ≤ B) it.stack
  len : LenOK S it.stack
  w : Wd al P it

theorem Cur.mono {al : AliasTable} {R S B P P' : Nat} {it : Iter} (h : P ≤ P') (c : Cur al R S B P it) : Cur al R S B P' it :=
  ⟨c.geo, c.bot, c.botp, c.len, c.w.mono h⟩

theorem Cur.descend {al : AliasTable} {R S B P : Nat} {it : Iter} (fuel goal : Nat) (hg : goal ≤ P) (c : Cur al R S B P it) :
    Cur al R S B P (it.descend al fuel goal).1 :=
  ⟨c.geo.descend al fuel goal, descend_q (bot_closed R).push c.bot, descend_q (botP_closed _).push c.botp,
   descend_q (len_closed S).push c.len, descend_w hg c.w⟩

theorem Cur.advance {al : AliasTable} {R S B P : Nat} {it : Iter} (hS : S ≤ 4294967296) (fuel : Nat)
    (hend : it.endPosition.bytes ≤ P) (c : Cur al R S B P it) : Cur al R S B P (it.advance al fuel) :=
  ⟨c.geo.advance al fuel, advance_q (bot_closed R) c.bot, advance_q (botP_closed _) c.botp,
   advance_q (len_closed S) c.len,
   advance_w al P fuel it c.geo.ok c.geo.ss (Nat.le_trans c.len.length_le hS) hend c.w⟩

theorem Cur.catchUp {al : AliasTable} {R S B : Nat} (hS : S ≤ 4294967296) (tf fuel : Nat) {it : Iter} (np : Nat)
    (c : Cur al R S B np it) : Cur al R S B np (catchUp al tf fuel it np).1 :=
  catchUp_induct (C := Cur al R S B np) (fun _ c _ he => c.advance hS tf he) fuel it c

theorem Cur.depth_pos {al : AliasTable} {R S B P : Nat} {it : Iter} (c : Cur al R S B P it) (hB : B ≤ P)
    (hnd : it.done = false) (he : it.endPosition.bytes > P) : 1 ≤ it.visibleDepth :=
  TsVerif.C04.depth_pos al P it c.w hnd (fun b hb => ⟨(c.botp b hb).1, Nat.le_trans (c.botp b hb).2 hB⟩) (fun _ => he)

theorem Cur.ascendTo {al : AliasTable} {R S B P : Nat} {it : Iter} (hS : S ≤ 4294967296) (fuel : Nat) {d : Nat}
    (c : Cur al R S B P it) (he : it.endPosition.bytes > P) (hd : 1 ≤ d) (hnd : it.done = false) :
    Cur al R S B P (ascendTo al fuel it d) ∧ (ascendTo al fuel it d).done = false ∧
      (ascendTo al fuel it d).endPosition.bytes > P := by
  obtain ⟨w, nd⟩ := ascendTo_w al P R S hS fuel it d c.geo c.len c.w he hd hnd
  exact ⟨⟨Geo.ascendTo al _ _ _ c.geo, ascendTo_q (bot_closed R) c.bot, ascendTo_q (botP_closed _) c.botp,
    ascendTo_q (len_closed S) c.len, w⟩, nd, Nat.lt_of_lt_of_le he (ascendTo_end al _ _ _ c.geo.ok c.geo.ss nd)⟩

/-- If a cursor comes out done, its catch-up already ran off the end of its tree, so `np` is at or beyond the end of the
shorter tree (`catchUp_done`); the alignment itself never finishes a cursor, because the other one is alive and hence at
depth ≥ 1 (`Cur.depth_pos`, `Cur.ascendTo`). -/
theorem tail_facts (al : AliasTable) (tf F Ro Rn So Sn B np : Nat) (hSo : So ≤ 4294967296) (hSn : Sn ≤ 4294967296)
    (a b : Iter) (ca : Cur al Ro So B np a) (cb : Cur al Rn Sn B np b) (hB : B ≤ np)
    (ha : a.done = false) (hb : b.done = false)
    (f1 : (catchUp al tf F a np).2 = false) (f2 : (catchUp al tf F b np).2 = false) :
    let cu1 := (catchUp al tf F a np).1
    let cu2 := (catchUp al tf F b np).1
    let o := ascendTo al (cu1.stack.length + 1) cu1 cu2.visibleDepth
    let n := ascendTo al (cu2.stack.length + 1) cu2 o.visibleDepth
    ((o.done = true ∨ n.done = true) → min Ro Rn ≤ np) ∧
    (o.done = false → n.done = false → Cur al Ro So B np o ∧ Cur al Rn Sn B np n) := by
  intro cu1 cu2 o n
  have c1 : Cur al Ro So B np cu1 := ca.catchUp hSo tf F np
  have c2 : Cur al Rn Sn B np cu2 := cb.catchUp hSn tf F np
  cases hd1 : cu1.done with
  | true =>
    have r1 := catchUp_done al tf Ro F a np ca.geo ca.bot ha hd1
    have od : o.done = true := ascendTo_done_of_done al _ cu1 _ hd1
    exact ⟨fun _ => by omega, fun h => by rw [od] at h; cases h⟩
  | false =>
    cases hd2 : cu2.done with
    | true =>
      have r2 := catchUp_done al tf Rn F b np cb.geo cb.bot hb hd2
      have nd : n.done = true := ascendTo_done_of_done al _ cu2 _ hd2
      exact ⟨fun _ => by omega, fun _ h => by rw [nd] at h; cases h⟩
    | false =>
      have p1 := (catchUp_post al tf F a np f1).resolve_left fun h => nomatch hd1.symm.trans h
      have p2 := (catchUp_post al tf F b np f2).resolve_left fun h => nomatch hd2.symm.trans h
      obtain ⟨co, ndo, eo⟩ := c1.ascendTo hSo (cu1.stack.length + 1) p1 (c2.depth_pos hB hd2 p2) hd1
      obtain ⟨cn, ndn, _⟩ := c2.ascendTo hSn (cu2.stack.length + 1) p2 (co.depth_pos hB ndo eo) hd2
      refine ⟨fun h => ?_, fun _ _ => ⟨co, cn⟩⟩
      rcases h with h | h
      · rw [ndo] at h; cases h
      · rw [ndn] at h; cases h

structure Inv2 (al : AliasTable) (Ro Rn So Sn B : Nat) (s : LoopSt) : Prop where
  inv : Inv Ro Rn s
  co : Cur al Ro So B s.position.bytes s.o
  cn : Cur al Rn Sn B s.position.bytes s.n
  od : s.o.done = false
  nd : s.n.done = false
  hB : B ≤ s.position.bytes

theorem descend_not_done {al : AliasTable} {fuel : Nat} {it : Iter} {goal : Nat} (h : it.done = false) :
    (it.descend al fuel goal).1.done = false :=
  Iter.not_done_iff.2 (descend_nonempty al fuel it goal (Iter.not_done_iff.1 h))

theorem loopBody_inv2 (al : AliasTable) (fixed : Bool) (diffs : List TSRange) (tf Ro Rn So Sn B : Nat)
    (hSo : So ≤ 4294967296) (hSn : Sn ≤ 4294967296) (s : LoopSt) (h : Inv2 al Ro Rn So Sn B s)
    (hf : (loopBody al fixed diffs tf s).fuelOut = false) :
    (((loopBody al fixed diffs tf s).o.done = true ∨ (loopBody al fixed diffs tf s).n.done = true) →
      min Ro Rn ≤ (loopBody al fixed diffs tf s).position.bytes) ∧
    ((loopBody al fixed diffs tf s).o.done = false → (loopBody al fixed diffs tf s).n.done = false →
      Inv2 al Ro Rn So Sn B (loopBody al fixed diffs tf s)) := by
  have hmi := midStep_inv al fixed diffs tf Ro Rn s h.inv
  have hnext := (loopBody_inv al fixed diffs tf Ro Rn s h.inv).2 hf
  rcases hm : midStep al fixed diffs tf s with ⟨mo, mn, b, np, c⟩
  rw [hm] at hmi
  have m1 : s.position.bytes ≤ np.bytes := hmi.2.2.1
  obtain ⟨ca, cb, da, db⟩ : Cur al Ro So B s.position.bytes mo ∧ Cur al Rn Sn B s.position.bytes mn ∧
      mo.done = false ∧ mn.done = false := by
    rcases (midStep_shape hm).1 with ⟨rfl, rfl⟩ | ⟨rfl, rfl⟩
    · exact ⟨h.co, h.cn, h.od, h.nd⟩
    · exact ⟨h.co.descend tf _ (Nat.le_refl _), h.cn.descend tf _ (Nat.le_refl _),
        descend_not_done h.od, descend_not_done h.nd⟩
  have hB := h.hB
  obtain ⟨l, di, hb⟩ := loopBody_eq hm
  rw [hb] at hf hnext ⊢
  simp only [Bool.or_eq_false_iff] at hf
  obtain ⟨T1, T2⟩ := tail_facts al tf (2 * tf + 2) Ro Rn So Sn B np.bytes hSo hSn mo mn (ca.mono m1) (cb.mono m1)
    (by omega) da db hf.1.2 hf.2
  refine ⟨T1, fun hdo hdn => ?_⟩
  obtain ⟨co, cn⟩ := T2 hdo hdn
  exact ⟨hnext hdo hdn, co, cn, hdo, hdn, Nat.le_trans hB m1⟩

theorem mainLoop_reach (al : AliasTable) (fixed : Bool) (diffs : List TSRange) (tf Ro Rn So Sn B : Nat)
    (hSo : So ≤ 4294967296) (hSn : Sn ≤ 4294967296) : ∀ (fuel : Nat) (s : LoopSt), Inv2 al Ro Rn So Sn B s →
    (mainLoop al fixed diffs tf fuel s).fuelOut = false → min Ro Rn ≤ (mainLoop al fixed diffs tf fuel s).position.bytes :=
  mainLoop_induct (I := Inv2 al Ro Rn So Sn B) (C := fun r => min Ro Rn ≤ r.position.bytes)
    (fun s _ hs => hs ▸ loopBody_inv2 al fixed diffs tf Ro Rn So Sn B hSo hSn s)

/-- The roots are visible and the trees are not absurdly large (both true of every real tree). -/
def rootOK (t : Tree) : Bool := t.data.visible && decide (t.size ≤ 4294967296)

theorem Cur.iterNew (al : AliasTable) (t : Tree) (B P : Nat) (hs : AllSized t) (hr : rootOK t = true)
    (hB : t.data.padding.bytes ≤ B) (hP : B ≤ P) : Cur al t.totalBytes t.size B P (iterNew t) := by
  simp only [rootOK, Bool.and_eq_true, decide_eq_true_eq] at hr
  refine ⟨Geo.iterNew t hs, ?_, ?_, ?_, ?_, ?_⟩
  · intro _; simp [TsVerif.C04.iterNew, bottomEnd, length_zero]
  · intro b hb
    simp only [TsVerif.C04.iterNew, bottom, Option.some.injEq] at hb
    subst hb
    exact ⟨hr.1, by simp [Entry.left, length_zero]; exact hB⟩
  · exact ⟨by simp, trivial⟩
  · simp [TsVerif.C04.iterNew, countVis, stackTopVisible, hr.1]
  · simp only [TsVerif.C04.iterNew, Bool.false_eq_true, if_false]
    exact ⟨fun _ => by simp [Entry.left, length_zero]; omega, trivial⟩

/-- `reach` for `ts_subtree_get_changed_ranges`: the spans of the walk end at or after the end of the shorter tree. -/
theorem walk_reach (al : AliasTable) (fixed : Bool) (old new : Tree) (diffs : List TSRange)
    (hso : AllSized old) (hsn : AllSized new) (hentry : entryOK old new = true)
    (hro : rootOK old = true) (hrn : rootOK new = true)
    (hfuel : (changedRanges al fixed old new diffs).fuelOut = false) :
    min old.totalBytes new.totalBytes ≤ spansEnd (loopStart old new) (changedRanges al fixed old new diffs).spans := by
  have hro' := hro
  have hrn' := hrn
  simp only [rootOK, Bool.and_eq_true, decide_eq_true_eq] at hro' hrn'
  have e1 := iterNew_start old
  have e2 := iterNew_start new
  have hlo : old.data.padding.bytes ≤ loopStart old new := by unfold loopStart; omega
  have hln : new.data.padding.bytes ≤ loopStart old new := by unfold loopStart; omega
  obtain ⟨hs, hf⟩ := changedRanges_loop al fixed old new diffs
  have hp := walkStart_position old new
  rw [hf] at hfuel
  rw [hs, (mainLoop_chain al fixed diffs _ (loopStart old new) _ (walkStart old new) rfl hp.symm).2]
  refine mainLoop_reach al fixed diffs _ old.totalBytes new.totalBytes old.size new.size (loopStart old new) hro'.2 hrn'.2 _ _ ?_ hfuel
  exact ⟨inv_init hso hsn hentry, Cur.iterNew al old _ _ hso hro hlo (Nat.le_of_eq hp.symm),
    Cur.iterNew al new _ _ hsn hrn hln (Nat.le_of_eq hp.symm), rfl, rfl, Nat.le_of_eq hp.symm⟩

end TsVerif.C04
