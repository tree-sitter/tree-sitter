import TsVerif.C04.Sized
import TsVerif.C04.AddCalls
/-!
# C04 — end positions of the lock-step cursors, the loop invariant, and what follows for the spans

`ascend_end`: on sized trees `iterator_ascend`, unless it pops the root, never moves the end position backwards.  `FS`: every cursor entry lies
inside its root (`end_le`).  `Inv`: at the head of every iteration both cursors end at or after `position`; hence every
iteration's span goes forwards (`mainLoop_spanOK`), starts inside both trees and ends inside the longer one.  Contiguous
spans of that kind give calls to `ts_range_array_add` that grow the array and are admissible (`whole_trace`, in `AddCalls.lean`);
the walk of `ts_subtree_get_changed_ranges` produces such spans (`walk_calls`).
-/

namespace TsVerif.C04
open TsGen

/-- A first child starts where its parent starts, padding included: `ts_subtree_summarize_children` gives the parent its
first child's padding. -/
theorem child_inside {e p : Entry} {rest : List Entry} (hok : StackOK (e :: p :: rest)) (hp : AllSized p.subtree) :
    (e.childIndex = 0 → e.left = p.left) ∧
    e.position.bytes + e.subtree.totalBytes ≤ p.position.bytes + p.subtree.totalBytes := by
  obtain ⟨h1, h2, _⟩ := hok
  obtain ⟨t1, t2⟩ := hp.total h1
  have hle := prefixBytes_le_full p.subtree.kids (e.childIndex + 1)
  have hsucc := prefixBytes_succ _ _ _ h1
  refine ⟨fun hz => ?_, by omega⟩
  rw [hz] at h1 h2
  cases hk : p.subtree.kids with
  | nil => simp [hk] at h1
  | cons c cs =>
    rw [hk] at h1 h2 t2
    simp only [List.getElem?_cons_zero, Option.some.injEq] at h1
    subst h1
    simp only [prefixBytes, Nat.add_zero, firstPad] at h2 t2
    unfold Entry.left
    omega

/-- While the cursor is in the padding of a first child, `iterator_ascend` keeps the flag: it then ends where the parent's
padding ends, which is the same place; in every other case it ends at the end of the parent. -/
theorem ascend_end (al : AliasTable) (it : Iter) (e p : Entry) (rest : List Entry)
    (hs : it.stack = e :: p :: rest) (hok : StackOK it.stack) (hss : SS it.stack) :
    (it.ascend al).endPosition.bytes ≥ it.endPosition.bytes := by
  obtain ⟨s, vd, ip, prev⟩ := it
  have hs : s = e :: p :: rest := hs
  subst hs
  obtain ⟨hfirst, hin⟩ := child_inside hok (hss p (by simp))
  have := e.left_le_end
  unfold Iter.ascend
  by_cases hci : e.childIndex > 0 <;> cases ip <;>
    simp only [endPosition_cons, hci, if_true, Bool.false_eq_true, if_false] <;> omega

theorem ascendTo_done_of_done (al : AliasTable) (fuel : Nat) (it : Iter) (d : Nat) (h : it.done = true) :
    (ascendTo al fuel it d).done = true :=
  ascendTo_induct (C := fun it => it.done = true) (fun _ h _ hnd => by rw [h] at hnd; cases hnd) fuel it h

theorem ascendTo_end (al : AliasTable) : ∀ (fuel : Nat) (it : Iter) (d : Nat), StackOK it.stack → SS it.stack →
    (ascendTo al fuel it d).done = false → (ascendTo al fuel it d).endPosition.bytes ≥ it.endPosition.bytes := by
  intro fuel it d hok hss hnd
  refine (ascendTo_induct (C := fun x => StackOK x.stack ∧ SS x.stack ∧
    (x.done = false → it.endPosition.bytes ≤ x.endPosition.bytes)) ?_ fuel it ⟨hok, hss, fun _ => Nat.le_refl _⟩).2.2 hnd
  intro x ⟨ok, ss, he⟩ _ hx
  refine ⟨ascend_ok al x ok, ascend_q ss_closed ss, fun hd => ?_⟩
  -- still alive after ascending: there were at least two entries
  match hs : x.stack with
  | [] => simp [Iter.done, hs] at hx
  | [e] => simp [Iter.ascend, hs, Iter.done] at hd
  | e :: p :: rest => exact Nat.le_trans (he hx) (ascend_end al x e p rest hs ok ss)

theorem catchUp_post (al : AliasTable) (tf : Nat) : ∀ (fuel : Nat) (it : Iter) (np : Nat),
    (catchUp al tf fuel it np).2 = false →
    (catchUp al tf fuel it np).1.done = true ∨ (catchUp al tf fuel it np).1.endPosition.bytes > np
  | 0, it, np => fun h => nomatch h
  | fuel + 1, it, np => fun h => by
    unfold catchUp at h ⊢
    split
    · rename_i hc
      rw [if_pos hc] at h
      exact catchUp_post al tf fuel _ np h
    · rename_i hc
      simp only [Bool.and_eq_true, Bool.not_eq_true', decide_eq_true_eq, not_and, Nat.not_le] at hc
      by_cases hd : it.done = true
      · exact Or.inl hd
      · exact Or.inr (hc (by simpa using hd))

theorem descend_end_ge (al : AliasTable) (fuel : Nat) (it : Iter) (goal : Nat) (h : it.endPosition.bytes > goal) :
    (it.descend al fuel goal).1.endPosition.bytes > goal := by
  rcases descend_end_cases al fuel it goal with h' | h'
  · exact h'
  · rw [h'.2]; exact h

theorem descend_end_ge' {al : AliasTable} {fuel : Nat} {it : Iter} {goal : Nat} (h : it.endPosition.bytes ≥ goal) :
    (it.descend al fuel goal).1.endPosition.bytes ≥ goal := by
  rcases descend_end_cases al fuel it goal with h' | h'
  · exact Nat.le_of_lt h'
  · rw [h'.2]; exact h

def FS (R : Nat) (stack : List Entry) : Prop := ∀ e ∈ stack, e.position.bytes + e.subtree.totalBytes ≤ R

theorem fits_child {R : Nat} {p : Tree} {pos : Nat} {k : Nat} {c : Tree} (hp : AllSized p) (hk : p.kids[k]? = some c)
    (hfit : pos + p.totalBytes ≤ R) : pos + prefixBytes p.kids k + c.totalBytes ≤ R := by
  have h1 := (hp.total hk).1
  have h2 := prefixBytes_succ _ _ _ hk
  have h3 := prefixBytes_le_full p.kids (k + 1)
  omega

/-- The geometry of one cursor in a tree that ends at `R`. -/
structure Geo (R : Nat) (it : Iter) : Prop where
  ok : StackOK it.stack
  ss : SS it.stack
  fs : FS R it.stack

theorem Geo.stack {R : Nat} {it : Iter} (g : Geo R it) : StackOK it.stack ∧ SS it.stack ∧ FS R it.stack := ⟨g.ok, g.ss, g.fs⟩

theorem Geo.of_stack {R : Nat} {it : Iter} (g : StackOK it.stack ∧ SS it.stack ∧ FS R it.stack) : Geo R it := ⟨g.1, g.2.1, g.2.2⟩

theorem geo_closed (R : Nat) : PushClosed fun s => StackOK s ∧ SS s ∧ FS R s where
  nil := ⟨trivial, fun _ h => (nomatch h), fun _ h => (nomatch h)⟩
  tail := fun _ _ ⟨a, b, f⟩ => ⟨a.tail, b.tail, (List.forall_mem_cons.1 f).2⟩
  push := fun c e rest ⟨a, b, f⟩ hk hp =>
    have he := b e (List.mem_cons_self ..)
    ⟨stackOK_closed.push c e rest a hk hp, List.forall_mem_cons.2 ⟨he.kid hk, b⟩,
      List.forall_mem_cons.2 ⟨hp ▸ fits_child he hk (f e (List.mem_cons_self ..)), f⟩⟩
  next := fun c e p rest ⟨a, b, f⟩ hk hc hp =>
    have a' := stackOK_closed.next c e p rest a hk hc hp
    have hpp := b.tail p (List.mem_cons_self ..)
    have f' := (List.forall_mem_cons.1 f).2
    ⟨a', List.forall_mem_cons.2 ⟨hpp.kid hk, b.tail⟩,
      List.forall_mem_cons.2 ⟨a'.2.1 ▸ fits_child hpp hk (f' p (List.mem_cons_self ..)), f'⟩⟩

theorem Geo.descend {R : Nat} {it : Iter} (al : AliasTable) (fuel goal : Nat) (g : Geo R it) : Geo R (it.descend al fuel goal).1 :=
  Geo.of_stack (descend_q (geo_closed R).push g.stack)

theorem Geo.advance {R : Nat} {it : Iter} (al : AliasTable) (fuel : Nat) (g : Geo R it) : Geo R (it.advance al fuel) :=
  Geo.of_stack (advance_q (geo_closed R) g.stack)

theorem Geo.ascend {R : Nat} {it : Iter} (al : AliasTable) (g : Geo R it) : Geo R (it.ascend al) :=
  Geo.of_stack (ascend_q (geo_closed R) g.stack)

theorem Geo.catchUp {R : Nat} (al : AliasTable) (tf : Nat) : ∀ (fuel : Nat) (it : Iter) (np : Nat), Geo R it →
    Geo R (catchUp al tf fuel it np).1 :=
  fun _ _ _ g => Geo.of_stack (catchUp_q (geo_closed R) g.stack)

theorem Geo.ascendTo {R : Nat} (al : AliasTable) : ∀ (fuel : Nat) (it : Iter) (d : Nat), Geo R it →
    Geo R (ascendTo al fuel it d) :=
  fun _ _ _ g => Geo.of_stack (ascendTo_q (geo_closed R) g.stack)

theorem end_le {R : Nat} (it : Iter) (h : FS R it.stack) : it.endPosition.bytes ≤ R := by
  obtain ⟨s, vd, ip, prev⟩ := it
  cases s with
  | nil => simp [Iter.endPosition, length_zero]
  | cons e rest =>
    have := h e (List.mem_cons_self ..)
    have := e.left_le_end
    rw [endPosition_cons]
    split <;> omega

theorem Geo.iterNew (t : Tree) (h : AllSized t) : Geo t.totalBytes (iterNew t) := by
  refine ⟨trivial, ?_, ?_⟩
  · intro e he; simp [TsVerif.C04.iterNew] at he; subst he; exact h
  · intro e he; simp [TsVerif.C04.iterNew] at he; subst he; simp [length_zero]

/-- What holds at the head of every iteration.  `np`: `next_position` has caught up with `position` — needed because the
both-descended case of `midStep` hands the OLD `next_position` on as the next position. -/
structure Inv (Ro Rn : Nat) (s : LoopSt) : Prop where
  go : Geo Ro s.o
  gn : Geo Rn s.n
  oe : s.position.bytes ≤ s.o.endPosition.bytes
  ne : s.position.bytes ≤ s.n.endPosition.bytes
  np : s.nextPosition.bytes = s.position.bytes

theorem midStep_inv (al : AliasTable) (fixed : Bool) (diffs : List TSRange) (tf : Nat) (Ro Rn : Nat) (s : LoopSt)
    (h : Inv Ro Rn s) :
    Geo Ro (midStep al fixed diffs tf s).1 ∧ Geo Rn (midStep al fixed diffs tf s).2.1 ∧
    s.position.bytes ≤ (midStep al fixed diffs tf s).2.2.2.1.bytes ∧
    (midStep al fixed diffs tf s).2.2.2.1.bytes ≤ max Ro Rn := by
  rcases hm : midStep al fixed diffs tf s with ⟨o, n, b, np, c⟩
  obtain ⟨hc, hnp⟩ := midStep_shape hm
  obtain ⟨go, gn, oe, ne⟩ : Geo Ro o ∧ Geo Rn n ∧ s.position.bytes ≤ o.endPosition.bytes ∧
      s.position.bytes ≤ n.endPosition.bytes := by
    rcases hc with ⟨rfl, rfl⟩ | ⟨rfl, rfl⟩
    · exact ⟨h.go, h.gn, h.oe, h.ne⟩
    · exact ⟨h.go.descend al tf _, h.gn.descend al tf _, descend_end_ge' h.oe, descend_end_ge' h.ne⟩
  have lo := end_le _ go.fs
  have ln := end_le _ gn.fs
  have hp := h.np
  refine ⟨go, gn, ?_⟩
  show s.position.bytes ≤ np.bytes ∧ np.bytes ≤ max Ro Rn
  rcases hnp with rfl | rfl | rfl | rfl
  · omega
  · omega
  · rw [length_min_bytes]; omega
  · have := h.oe; omega

theorem tail_end {R : Nat} (al : AliasTable) (tf F fuel : Nat) (a : Iter) (np d : Nat) (g : Geo R a)
    (hf : (catchUp al tf F a np).2 = false) (hd : (ascendTo al fuel (catchUp al tf F a np).1 d).done = false) :
    Geo R (ascendTo al fuel (catchUp al tf F a np).1 d) ∧
    np < (ascendTo al fuel (catchUp al tf F a np).1 d).endPosition.bytes := by
  have c := Geo.catchUp al tf F a np g
  have q := (catchUp_post al tf F a np hf).resolve_left
    (fun h => by rw [ascendTo_done_of_done al _ _ _ h] at hd; cases hd)
  exact ⟨Geo.ascendTo al _ _ _ c, Nat.lt_of_lt_of_le q (ascendTo_end al _ _ _ c.ok c.ss hd)⟩

theorem loopBody_inv (al : AliasTable) (fixed : Bool) (diffs : List TSRange) (tf : Nat) (Ro Rn : Nat) (s : LoopSt)
    (h : Inv Ro Rn s) :
    (s.position.bytes ≤ (loopBody al fixed diffs tf s).position.bytes ∧
     (loopBody al fixed diffs tf s).position.bytes ≤ max Ro Rn ∧ s.position.bytes ≤ min Ro Rn) ∧
    ((loopBody al fixed diffs tf s).fuelOut = false → (loopBody al fixed diffs tf s).o.done = false →
      (loopBody al fixed diffs tf s).n.done = false → Inv Ro Rn (loopBody al fixed diffs tf s)) := by
  have hmi := midStep_inv al fixed diffs tf Ro Rn s h
  rcases hm : midStep al fixed diffs tf s with ⟨mo, mn, b, np, c⟩
  rw [hm] at hmi
  obtain ⟨g1, g2, m1, m2⟩ := hmi
  obtain ⟨l, di, hb⟩ := loopBody_eq hm
  have lo := end_le _ h.go.fs
  have ln := end_le _ h.gn.fs
  have hoe := h.oe
  have hne := h.ne
  rw [hb]
  refine ⟨⟨m1, m2, by omega⟩, fun hf hdo hdn => ?_⟩
  simp only [Bool.or_eq_false_iff] at hf
  obtain ⟨go, eo⟩ := tail_end al tf _ _ mo np.bytes _ g1 hf.1.2 hdo
  obtain ⟨gn, en⟩ := tail_end al tf _ _ mn np.bytes _ g2 hf.2 hdn
  exact ⟨go, gn, Nat.le_of_lt eo, Nat.le_of_lt en, rfl⟩

theorem loopBody_spans (al : AliasTable) (fixed : Bool) (diffs : List TSRange) (tf : Nat) (s : LoopSt) :
    ∃ l, (loopBody al fixed diffs tf s).spans = (s.position, (loopBody al fixed diffs tf s).position, l) :: s.spans := by
  unfold loopBody
  exact ⟨_, rfl⟩

theorem mainLoop_chain (al : AliasTable) (fixed : Bool) (diffs : List TSRange) (tf : Nat) (lo : Nat) :
    ∀ (fuel : Nat) (s : LoopSt), spansChain lo s.spans.reverse = true → spansEnd lo s.spans.reverse = s.position.bytes →
      spansChain lo (mainLoop al fixed diffs tf fuel s).spans.reverse = true ∧
      spansEnd lo (mainLoop al fixed diffs tf fuel s).spans.reverse = (mainLoop al fixed diffs tf fuel s).position.bytes := by
  intro fuel s h1 h2
  refine mainLoop_always (I := fun s => spansChain lo s.spans.reverse = true ∧ spansEnd lo s.spans.reverse = s.position.bytes)
    (fun s ⟨h1, h2⟩ => ?_) (fun _ h => h) fuel s ⟨h1, h2⟩
  obtain ⟨l, hl⟩ := loopBody_spans al fixed diffs tf s
  rw [hl, List.reverse_cons]
  have := chain_append s.spans.reverse lo (s.position, (loopBody al fixed diffs tf s).position, l)
  rw [this.1, this.2, h1, h2]; simp

theorem mainLoop_spanOK (al : AliasTable) (fixed : Bool) (diffs : List TSRange) (tf : Nat) (Ro Rn : Nat) :
    ∀ (fuel : Nat) (s : LoopSt), Inv Ro Rn s → (mainLoop al fixed diffs tf fuel s).fuelOut = false →
      (∀ x ∈ s.spans, SpanOK (min Ro Rn) (max Ro Rn) x) →
      ∀ x ∈ (mainLoop al fixed diffs tf fuel s).spans, SpanOK (min Ro Rn) (max Ro Rn) x := by
  intro fuel s hinv hf hsp
  refine mainLoop_induct (I := fun s => Inv Ro Rn s ∧ ∀ x ∈ s.spans, SpanOK (min Ro Rn) (max Ro Rn) x)
    (C := fun r => ∀ x ∈ r.spans, SpanOK (min Ro Rn) (max Ro Rn) x) ?_ fuel s ⟨hinv, hsp⟩ hf
  rintro s _ rfl ⟨hinv, hsp⟩ hf
  obtain ⟨⟨b1, b2, b3⟩, hnext⟩ := loopBody_inv al fixed diffs tf Ro Rn s hinv
  have step : ∀ x ∈ (loopBody al fixed diffs tf s).spans, SpanOK (min Ro Rn) (max Ro Rn) x := by
    obtain ⟨l, hl⟩ := loopBody_spans al fixed diffs tf s
    rw [hl]
    exact List.forall_mem_cons.2 ⟨⟨b3, b1, b2⟩, hsp⟩
  exact ⟨fun _ => step, fun ho hn => ⟨hnext hf ho hn, step⟩⟩

theorem iterNew_end (t : Tree) : (iterNew t).endPosition.bytes = t.totalBytes := by
  simp [iterNew, endPosition_cons, length_zero]

theorem iterNew_start (t : Tree) : (iterNew t).startPosition.bytes = t.data.padding.bytes := by
  simp [iterNew, Iter.startPosition, length_add, length_zero]

/-- The entry condition of the walk: the loop starts inside both trees. -/
def entryOK (old new : Tree) : Bool := decide (loopStart old new ≤ min old.totalBytes new.totalBytes)

def firstStart (old new : Tree) : Nat :=
  min (iterNew old).startPosition.bytes (iterNew new).startPosition.bytes

/-- The state in which `ts_subtree_get_changed_ranges` enters its loop: the two fresh cursors, at the later of the two root
starts.  (When the roots start at the same byte `position` is the old root's start and `next_position` the new root's: the
same offset, possibly different points.) -/
def walkStart (old new : Tree) : LoopSt :=
  let p := (iterNew old).startPosition
  let np := (iterNew new).startPosition
  { o := iterNew old, n := iterNew new, position := if p.bytes < np.bytes then np else p,
    nextPosition := if p.bytes > np.bytes then p else np, diffIdx := 0, spans := [] }

theorem walkStart_position (old new : Tree) : (walkStart old new).position.bytes = loopStart old new := by
  unfold walkStart loopStart
  simp only
  split <;> omega

theorem walkStart_next (old new : Tree) : (walkStart old new).nextPosition.bytes = (walkStart old new).position.bytes := by
  unfold walkStart
  simp only
  split <;> split <;> omega

theorem changedRanges_loop (al : AliasTable) (fixed : Bool) (old new : Tree) (diffs : List TSRange) :
    (changedRanges al fixed old new diffs).spans =
      (mainLoop al fixed diffs (old.size + new.size + 2) (4 * (old.size + new.size + 2) + 8) (walkStart old new)).spans.reverse ∧
    (changedRanges al fixed old new diffs).fuelOut =
      (mainLoop al fixed diffs (old.size + new.size + 2) (4 * (old.size + new.size + 2) + 8) (walkStart old new)).fuelOut := by
  unfold changedRanges changedTrace walkStart
  simp only
  split
  · rename_i h
    simp only [Nat.lt_asymm h, if_false, and_self]
  · split <;> exact ⟨rfl, rfl⟩

/-- The call before the loop covers the gap between the two root starts, if there is one. -/
theorem pre_shape' (al : AliasTable) (fixed : Bool) (old new : Tree) (diffs : List TSRange) :
    ((changedRanges al fixed old new diffs).pre = [] ∧ firstStart old new = loopStart old new) ∨
    ∃ p np : Length, (changedRanges al fixed old new diffs).pre = [(p, np)] ∧ p.bytes = firstStart old new ∧
      np.bytes = loopStart old new ∧ p.bytes < np.bytes := by
  unfold changedRanges changedTrace loopStart firstStart
  simp only
  split
  · rename_i h
    exact Or.inr ⟨_, _, rfl, by omega, by omega, h⟩
  · split
    · rename_i h
      exact Or.inr ⟨_, _, rfl, by omega, by omega, h⟩
    · exact Or.inl ⟨rfl, by omega⟩

theorem pre_shape (al : AliasTable) (fixed : Bool) (old new : Tree) (diffs : List TSRange) :
    (changedRanges al fixed old new diffs).pre = [] ∨
    ∃ p np : Length, (changedRanges al fixed old new diffs).pre = [(p, np)] ∧ p.bytes < np.bytes ∧ np.bytes = loopStart old new :=
  (pre_shape' al fixed old new diffs).imp (·.1) fun ⟨p, np, h1, _, h3, h4⟩ => ⟨p, np, h1, h4, h3⟩

theorem inv_init {old new : Tree} (hso : AllSized old) (hsn : AllSized new) (hentry : entryOK old new = true) :
    Inv old.totalBytes new.totalBytes (walkStart old new) := by
  have hentry := of_decide_eq_true hentry
  have hp := walkStart_position old new
  exact ⟨Geo.iterNew old hso, Geo.iterNew new hsn, by rw [hp]; exact (iterNew_end old).symm ▸ (by omega),
    by rw [hp]; exact (iterNew_end new).symm ▸ (by omega), walkStart_next old new⟩

theorem walk_spanOK (al : AliasTable) (fixed : Bool) (old new : Tree) (diffs : List TSRange)
    (hso : AllSized old) (hsn : AllSized new) (hentry : entryOK old new = true)
    (hfuel : (changedRanges al fixed old new diffs).fuelOut = false) :
    (∀ x ∈ (changedRanges al fixed old new diffs).spans, SpanOK (min old.totalBytes new.totalBytes) (max old.totalBytes new.totalBytes) x) := by
  obtain ⟨hs, hf⟩ := changedRanges_loop al fixed old new diffs
  rw [hf] at hfuel
  rw [hs]
  intro x hx
  exact mainLoop_spanOK al fixed diffs _ _ _ _ _ (inv_init hso hsn hentry) hfuel (fun _ h => nomatch h) x
    (List.mem_reverse.1 hx)

/-- For ALL tree pairs, alias tables and difference lists the spans of the walk are
contiguous from `loopStart` on — each iteration starts where the previous one ended. -/
theorem spans_contiguous (al : AliasTable) (fixed : Bool) (old new : Tree) (diffs : List TSRange) :
    spansChain (loopStart old new) (changedRanges al fixed old new diffs).spans = true := by
  rw [(changedRanges_loop al fixed old new diffs).1]
  exact (mainLoop_chain al fixed diffs _ (loopStart old new) _ (walkStart old new) rfl (walkStart_position old new).symm).1

theorem post_shape' (al : AliasTable) (fixed : Bool) (old new : Tree) (diffs : List TSRange) :
    ((changedRanges al fixed old new diffs).post = [] ∧ old.totalBytes = new.totalBytes) ∨
    ∃ a b : Length, (changedRanges al fixed old new diffs).post = [(a, b)] ∧
      a.bytes = min old.totalBytes new.totalBytes ∧ b.bytes = max old.totalBytes new.totalBytes ∧
      min old.totalBytes new.totalBytes < max old.totalBytes new.totalBytes := by
  unfold changedRanges changedTrace
  simp only [totalSize_bytes]
  split
  · exact Or.inr ⟨_, _, rfl, by rw [totalSize_bytes]; omega, by rw [totalSize_bytes]; omega, by omega⟩
  · split
    · exact Or.inr ⟨_, _, rfl, by rw [totalSize_bytes]; omega, by rw [totalSize_bytes]; omega, by omega⟩
    · exact Or.inl ⟨rfl, by omega⟩

theorem post_shape (al : AliasTable) (fixed : Bool) (old new : Tree) (diffs : List TSRange) :
    (changedRanges al fixed old new diffs).post = [] ∨
    ∃ a b : Length, (changedRanges al fixed old new diffs).post = [(a, b)] ∧
      a.bytes = min old.totalBytes new.totalBytes ∧ b.bytes = max old.totalBytes new.totalBytes ∧
      min old.totalBytes new.totalBytes < max old.totalBytes new.totalBytes :=
  (post_shape' al fixed old new diffs).imp (·.1) id

theorem walk_calls (al : AliasTable) (fixed : Bool) (old new : Tree) (diffs : List TSRange)
    (hso : AllSized old) (hsn : AllSized new) (hentry : entryOK old new = true)
    (hfuel : (changedRanges al fixed old new diffs).fuelOut = false) :
    traceGrow [] ((changedRanges al fixed old new diffs).main ++ (changedRanges al fixed old new diffs).post) = true ∧
    traceAdmissible [] ((changedRanges al fixed old new diffs).main ++ (changedRanges al fixed old new diffs).post) = true ∧
    traceBound ((changedRanges al fixed old new diffs).main ++ (changedRanges al fixed old new diffs).post)
      ≤ max old.totalBytes new.totalBytes := by
  rw [changedRanges_main]
  exact whole_trace _ _ (loopStart old new) _ _ _ (by omega) (of_decide_eq_true hentry)
    (pre_shape al fixed old new diffs)
    ((post_shape al fixed old new diffs).imp id (fun ⟨a, b, h1, h2, h3, _⟩ => ⟨a, b, h1, h2, h3⟩))
    (spans_contiguous al fixed old new diffs)
    (walk_spanOK al fixed old new diffs hso hsn hentry hfuel)

end TsVerif.C04
