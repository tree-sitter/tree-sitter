import TsVerif.C04.AddCalls
/-!
# C04 — the included-range difference (`symDiff`) and the override test (`intersects`)

`symDiffLoop` walks two range lists boundary by boundary.  One side of it is a list suffix and a flag "inside the head range"
(`nextPos`, `adv`, `advE` of `Ranges.lean`); `WF` says that such a side is a valid remainder at the current position, `memFrom`
which bytes it still covers.  The invariant (`symDiffLoop_spec`): the output covers what it covered before plus every byte from
the current position on that lies in exactly one of the two remainders (`XorP`), and it stays a `Chain`.  One boundary step is
`step_algebra`.  `intersectsFrom_spec`: the early-exit scan of `ts_range_array_intersects` is exact on a sorted array.
-/
namespace TsVerif.C04
open TsGen

/-- Valid input list from position `lo` on (what `ts_lexer_set_included_ranges` accepts, plus:
no range *starts* at `UINT32_MAX`, all ends are `≤ UINT32_MAX`). -/
def SortedFrom : Nat → List TSRange → Prop
  | _, [] => True
  | lo, r :: t => lo ≤ r.start_byte ∧ r.start_byte ≤ r.end_byte ∧ r.start_byte < UMAX ∧
      r.end_byte ≤ UMAX ∧ SortedFrom r.end_byte t

theorem SortedFrom.mono {lo lo' : Nat} (h : lo' ≤ lo) : ∀ {l}, SortedFrom lo l → SortedFrom lo' l
  | [], _ => trivial
  | _ :: _, ⟨a, b⟩ => ⟨by omega, b⟩

theorem SortedFrom.not_mem_below {lo : Nat} : ∀ {l}, SortedFrom lo l → ∀ x, x < lo → ¬ mem l x
  | [], _, x, _ => by simp
  | r :: t, ⟨a, b, _, _, e⟩, x, hx => by
    have := SortedFrom.not_mem_below e x (by omega)
    simp [this]; omega

theorem SortedFrom.not_mem_max {lo : Nat} : ∀ {l}, SortedFrom lo l → ∀ x, UMAX ≤ x → ¬ mem l x
  | [], _, x, _ => by simp
  | r :: t, ⟨a, b, _, _, e⟩, x, hx => by
    have := SortedFrom.not_mem_max e x hx
    simp [this]; omega

theorem SortedFrom.nil_of_max {lo : Nat} (hlo : UMAX ≤ lo) : ∀ {l}, SortedFrom lo l → l = []
  | [], _ => rfl
  | r :: t, ⟨a, _, c, _, _⟩ => by omega

/-- Membership in the not yet consumed part of a list, for bytes at or after the current position:
when `inR`, the head range is "open" (its start was already passed). -/
def memFrom (rs : List TSRange) (inR : Bool) (x : Nat) : Prop :=
  match rs, inR with
  | [], _ => False
  | r :: t, true => x < r.end_byte ∨ mem t x
  | r :: t, false => mem (r :: t) x

/-- The state "exhausted but open" (`[]`, `true`; the one in which C would read `ranges[count]`) can only be met at
`cur ≥ UINT32_MAX`, where no byte is left to account for: that is what "no range starts at `UINT32_MAX`" buys. -/
def WF (cur : Nat) (rs : List TSRange) (inR : Bool) : Prop :=
  match rs, inR with
  | [], false => True
  | [], true => UMAX ≤ cur
  | r :: t, true => cur ≤ r.end_byte ∧ r.end_byte ≤ UMAX ∧ SortedFrom r.end_byte t
  | r :: t, false => SortedFrom cur (r :: t)

theorem nextPos_le_max {cur rs inR} (h : WF cur rs inR) : (nextPos rs inR).bytes ≤ UMAX := by
  cases rs <;> cases inR <;> simp_all [WF, nextPos, SortedFrom, LENGTH_MAX, UMAX] <;> omega

theorem cur_le_nextPos {cur rs inR} (h : WF cur rs inR) (hc : cur ≤ UMAX) : cur ≤ (nextPos rs inR).bytes := by
  cases rs <;> cases inR <;> simp_all [WF, nextPos, SortedFrom, LENGTH_MAX, UMAX]

theorem memFrom_before {cur rs inR} (h : WF cur rs inR) {x : Nat} (hx : cur ≤ x)
    (hlt : x < (nextPos rs inR).bytes) : memFrom rs inR x ↔ inR = true := by
  cases rs with
  | nil => cases inR <;> simp_all [WF, nextPos, memFrom, LENGTH_MAX, UMAX]; omega
  | cons r t =>
    cases inR
    · simp only [WF, nextPos] at h hlt
      have h' : SortedFrom r.start_byte (r :: t) := ⟨Nat.le_refl _, h.2⟩
      have := SortedFrom.not_mem_below h' x (by simpa using hlt)
      simp [memFrom, this]
    · simp [nextPos] at hlt
      simp [memFrom, hlt]

theorem memFrom_after {cur rs inR} (h : WF cur rs inR) {x : Nat}
    (hge : (nextPos rs inR).bytes ≤ x) : memFrom rs inR x ↔ memFrom (adv rs inR).1 (adv rs inR).2 x := by
  cases rs with
  | nil => cases inR <;> simp [adv, memFrom]
  | cons r t =>
    cases inR
    · simp [nextPos] at hge
      simp [adv, memFrom, hge]
    · simp [nextPos] at hge
      have : ¬ x < r.end_byte := by omega
      cases t <;> simp [adv, memFrom, this]

theorem WF_adv {cur rs inR} (h : WF cur rs inR) :
    WF (nextPos rs inR).bytes (adv rs inR).1 (adv rs inR).2 := by
  cases rs with
  | nil => cases inR <;> simp_all [adv, WF, nextPos, LENGTH_MAX, UMAX]
  | cons r t =>
    cases inR
    · obtain ⟨a, b, c, d, e⟩ := h
      simp [adv, WF, nextPos]; exact ⟨b, d, e⟩
    · obtain ⟨a, b, c⟩ := h
      cases t with
      | nil => simp [adv, WF]
      | cons q u => simpa [adv, WF, nextPos] using c

theorem WF.mono {cur cur' rs inR} (h : WF cur rs inR) (hle : cur ≤ cur')
    (hnp : cur' ≤ (nextPos rs inR).bytes) : WF cur' rs inR := by
  cases rs with
  | nil => cases inR <;> simp_all [WF]; omega
  | cons r t => cases inR <;> exact ⟨by simpa [nextPos] using hnp, h.2⟩

theorem memFrom_max {cur rs inR} (h : WF cur rs inR) {x : Nat} (hx : UMAX ≤ x) : ¬ memFrom rs inR x := by
  cases rs with
  | nil => simp [memFrom]
  | cons r t =>
    cases inR
    · exact SortedFrom.not_mem_max h x hx
    · obtain ⟨a, b, c⟩ := h
      have := SortedFrom.not_mem_max c x hx
      simp [memFrom, this]; omega

theorem WF_advE {cur rs inR} (h : WF cur rs inR) :
    WF (nextPos rs inR).bytes (advE rs inR).1 (advE rs inR).2 := by
  unfold advE
  split
  · rename_i hc; obtain ⟨rfl, rfl⟩ := hc; simp [WF]
  · exact WF_adv h

theorem memFrom_afterE {cur rs inR} (h : WF cur rs inR) {x : Nat}
    (hge : (nextPos rs inR).bytes ≤ x) : memFrom rs inR x ↔ memFrom (advE rs inR).1 (advE rs inR).2 x := by
  unfold advE
  split
  · exact Iff.rfl
  · exact memFrom_after h hge

def XorP (a b : Prop) : Prop := (a ∧ ¬ b) ∨ (¬ a ∧ b)

/-- One boundary step of the loop, for one byte `x`, with everything about lists abstracted away: the position moves from
`cur` to the next boundary `no`; the output `a` gains `[cur, no)` exactly if the two flags differ (`hacc`); between `cur` and
`no` membership in either remainder IS its flag (`hP`, `hQ`: no boundary in between); from `no` on it is membership in the
advanced remainder (`hP'`, `hQ'`). -/
theorem step_algebra {cur no x : Nat} {a a' P P' Q Q' : Prop} {bo bn : Bool}
    (hle : cur ≤ no)
    (hacc : a' ↔ a ∨ ((bo != bn) = true ∧ cur ≤ x ∧ x < no))
    (hP : cur ≤ x → x < no → (P ↔ bo = true)) (hQ : cur ≤ x → x < no → (Q ↔ bn = true))
    (hP' : no ≤ x → (P ↔ P')) (hQ' : no ≤ x → (Q ↔ Q')) :
    (a' ∨ (no ≤ x ∧ XorP P' Q')) ↔ (a ∨ (cur ≤ x ∧ XorP P Q)) := by
  by_cases h1 : x < no
  · by_cases h2 : cur ≤ x
    · have nl : ¬ no ≤ x := by omega
      rw [hacc, hP h2 h1, hQ h2 h1]
      cases bo <;> cases bn <;> simp [XorP, h1, h2, nl]
    · have nl : ¬ no ≤ x := by omega
      rw [hacc]
      simp [h2, nl]
  · have h3 : no ≤ x := by omega
    have h4 : cur ≤ x := by omega
    rw [hacc, hP' h3, hQ' h3]
    simp [h1, h3, h4]

theorem acc_step (racc0 : List TSRange) (cur no : Length) (bo bn : Bool)
    (ha : Chain (cur.bytes + 1) racc0) (hle : cur.bytes ≤ no.bytes) :
    Chain (no.bytes + 1) (if _h : (bo != bn) = true then addRev racc0 cur no else racc0) ∧
    ∀ x, mem (if _h : (bo != bn) = true then addRev racc0 cur no else racc0) x ↔
      (mem racc0 x ∨ ((bo != bn) = true ∧ cur.bytes ≤ x ∧ x < no.bytes)) := by
  split
  · have := addRev_spec racc0 cur no ha hle
    refine ⟨this.1, fun x => ?_⟩
    rw [this.2]; simp_all
  · refine ⟨Chain.mono (by omega) ha, fun x => ?_⟩
    simp_all

/-- The invariant of the loop of `ts_range_array_get_changed_ranges`: whatever the state it is entered in, the final output is
a `Chain`, and it covers exactly what `racc` covered plus every byte from `cur` on that lies in exactly one of the two
REMAINING lists (`memFrom`: an open head range counts from `cur`).  The second guard of the model is the dead state
described at `WF`. -/
theorem symDiffLoop_spec (old new : List TSRange) (cur : Length) (inOld inNew : Bool) (racc : List TSRange)
    (ho : WF cur.bytes old inOld) (hn : WF cur.bytes new inNew) (hc : cur.bytes ≤ UMAX)
    (ha : Chain (cur.bytes + 1) racc) :
    (∃ hi, Chain hi (symDiffLoop old new cur inOld inNew racc)) ∧
    ∀ x, mem (symDiffLoop old new cur inOld inNew racc) x ↔
      (mem racc x ∨ (cur.bytes ≤ x ∧ XorP (memFrom old inOld x) (memFrom new inNew x))) := by
  fun_induction symDiffLoop old new cur inOld inNew racc
  case case1 old new cur inOld inNew racc h =>
    obtain ⟨rfl, rfl⟩ := h
    exact ⟨⟨_, ha⟩, fun x => by simp [memFrom, XorP]⟩
  case case2 old new cur inOld inNew racc h1 h2 =>
    refine ⟨⟨_, ha⟩, fun x => ?_⟩
    have hmax : cur.bytes ≤ x → UMAX ≤ x := by
      intro hx
      rcases h2 with ⟨rfl, rfl⟩ | ⟨rfl, rfl⟩
      · simp [WF] at ho; omega
      · simp [WF] at hn; omega
    constructor
    · exact Or.inl
    · rintro (h | ⟨hx, hxor⟩)
      · exact h
      · have := memFrom_max ho (hmax hx)
        have := memFrom_max hn (hmax hx)
        simp_all [XorP]
  case case3 old new cur inOld inNew racc0 h1 h2 no nn hlt racc ih =>
    have hle : cur.bytes ≤ no.bytes := cur_le_nextPos ho hc
    have hno : no.bytes ≤ UMAX := nextPos_le_max ho
    have hacc := acc_step racc0 cur no inOld inNew ha hle
    have ih' := ih (WF_adv ho) (WF.mono hn hle (Nat.le_of_lt hlt)) hno hacc.1
    refine ⟨ih'.1, fun x => ?_⟩
    rw [ih'.2 x]
    exact step_algebra hle (hacc.2 x)
      (fun a b => memFrom_before ho a b)
      (fun a b => memFrom_before hn a (Nat.lt_trans b hlt))
      (fun a => memFrom_after ho a) (fun _ => Iff.rfl)
  case case4 old new cur inOld inNew racc0 h1 h2 no nn hnlt hlt racc ih =>
    have hle : cur.bytes ≤ nn.bytes := cur_le_nextPos hn hc
    have hnn : nn.bytes ≤ UMAX := nextPos_le_max hn
    have hacc := acc_step racc0 cur nn inOld inNew ha hle
    have ih' := ih (WF.mono ho hle (Nat.le_of_lt hlt)) (WF_adv hn) hnn hacc.1
    refine ⟨ih'.1, fun x => ?_⟩
    rw [ih'.2 x]
    exact step_algebra hle (hacc.2 x)
      (fun a b => memFrom_before ho a (Nat.lt_trans b hlt))
      (fun a b => memFrom_before hn a b)
      (fun _ => Iff.rfl) (fun a => memFrom_after hn a)
  case case5 old new cur inOld inNew racc0 h1 h2 no nn hnlt hnlt' racc ih =>
    have heq : no.bytes = nn.bytes := by omega
    have hle : cur.bytes ≤ nn.bytes := cur_le_nextPos hn hc
    have hnn : nn.bytes ≤ UMAX := nextPos_le_max hn
    have hacc := acc_step racc0 cur nn inOld inNew ha hle
    have ih' := ih (heq ▸ WF_advE ho) (WF_advE hn) hnn hacc.1
    refine ⟨ih'.1, fun x => ?_⟩
    rw [ih'.2 x]
    exact step_algebra hle (hacc.2 x)
      (fun a b => memFrom_before ho a (heq ▸ b))
      (fun a b => memFrom_before hn a b)
      (fun a => memFrom_afterE ho (heq ▸ a)) (fun a => memFrom_afterE hn a)

theorem WF_false_of_sorted {rs : List TSRange} (h : SortedFrom 0 rs) : WF 0 rs false := by
  cases rs <;> simp_all [WF]

theorem memFrom_false (rs : List TSRange) (x : Nat) : memFrom rs false x ↔ mem rs x := by
  cases rs <;> simp [memFrom]

theorem intersectsFrom_spec : ∀ (rs : List TSRange) (a b : Nat), StrictSorted rs →
    (intersectsFrom rs a b = true ↔ ∃ r ∈ rs, a < r.end_byte ∧ r.start_byte < b)
  | [], _, _, _ => by simp [intersectsFrom]
  | r :: t, a, b, hs => by
    obtain ⟨hlater, hp⟩ := List.pairwise_cons.1 hs.1
    obtain ⟨hr, hne⟩ := List.forall_mem_cons.1 hs.2
    unfold intersectsFrom
    simp only [List.mem_cons, exists_eq_or_imp]
    split
    · split
      · constructor
        · intro h; cases h
        · rintro (h | ⟨q, hq, h1, h2⟩)
          · omega
          · have := hlater q hq; omega
      · simp; exact Or.inl ⟨by omega, by omega⟩
    · rename_i hle
      rw [intersectsFrom_spec t a b ⟨hp, hne⟩]
      exact (or_iff_right fun h => hle h.1).symm

end TsVerif.C04
