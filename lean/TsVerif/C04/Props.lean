import TsVerif.C04.Judge
import TsVerif.C04.Reach
import TsVerif.C04.Points
import TsVerif.C04.SymDiff
/-!
# C04 — Changed ranges cover every position whose ancestor chain changed

Property text: "Given the edited old tree that was passed to a re-parse and the tree that re-parse
returned, the reported changed ranges are sorted, disjoint, inside the document, and every
character whose stack of enclosing node types differs between the two trees lies inside one of
them. This also holds when the included ranges changed between the two parses."

Clause-by-clause map (phrase of the property text → theorem; PROVED = kernel-checked ∀-theorem about the ports in
`Ranges.lean` / `Iter.lean`, which are tied to `lib/src/get_changed_ranges.c` by the function- and system-level
correspondence of `checks/c04.py`; PARTIAL = proved under a hypothesis that is decidable and evaluated by the driver
on every real case; JUDGED = decided on every real output by the Lean judge `Judge.lean`):

0. "Given the edited old tree that was passed to a re-parse and the tree that re-parse returned"
   — the quantifier.  The theorems are about ALL pairs of trees (no relation between them is assumed, except the
   premises named below); the check instantiates them with real (edited old, re-parsed new) pairs.
1. "the reported changed ranges are sorted, disjoint"
   * PROVED for the building blocks: `add_sorted` (`ts_range_array_add`), `symDiff_spec` (the included-range
     difference: sorted, strictly separated, no empty range), `intersects_spec` (the override test is exact).
   * PROVED for ARBITRARY call sequences (`AddCalls.lean`, no tree involved): `add_calls_sorted` (non-decreasing
     starts + non-empty calls ⇒ sorted/strictly separated/non-empty, ends ≤ largest end handed over),
     `add_calls_wellformed` (`s ≤ e` only ⇒ `start ≤ end`; `empty_range_witness`), `add_calls_exact` (positions never
     go backwards ⇒ covers exactly the union of the spans), `add_calls_sound` (NO premise: no invented byte),
     the EXACT premise `add_step_exact` / `add_calls_strict_iff` (`keepsStrict`), and `decreasing_start_witness`
     (`(5,6) (0,1)` leaves `[5,1)`).  For the walk: `changed_ranges_sound` (ALL tree pairs, no premise: every reported
     byte lies in a span the walk handed to `add`) and `changed_ranges_exact` (sized trees + `entryOK`: reported bytes
     = exactly the union of those spans).
   * PARTIAL for the walk — `changed_sorted_bounded` + `changed_nonempty`: sorted, pairwise STRICTLY separated
     (`prev.end < next.start`: adjacent ranges are merged), no empty range.  Premises: both trees sized
     (`AllSized`, via `allSizedB`: true of every real tree seen, edited ones included), the loop starts inside both
     trees (`entryOK`; implied by equal root starts, `entry_of_same_start`; NEEDED, `entry_needed_witness`), model fuel
     not exhausted.  Outside the premises (~2 % of real pairs: one tree ends before the other root starts):
     `changed_sorted_bounded_partial` under `traceAdmissible` (evaluated), which gives `start ≤ end` only — real
     traces there do hold a transient `[0,0)`.
   * POINTS (row/column): `ranges_points_from_calls` + `walk_positions` (`Points.lean`, for ALL tree pairs): every
     reported (start_byte, start_point) and (end_byte, end_point) is the (bytes, extent) of ONE `Length` of the walk —
     bytes and points never travel separately.  That a walk position's extent is the row/column of its byte offset is
     the consistency of the trees' stored `Length`s with the text (C10's `Cons`), a property of trees, not of this
     function; given it the point versions of clauses 1–3 follow from the byte versions (monotone `pointAt`).
   * JUDGED on every real output: `rangesOrdered` (bytes AND points); the correspondence compares the port's points
     with the implementation's.
2. "inside the document"
   * PARTIAL — `changed_sorted_bounded`: every range ends at or before the end of the LONGER of the two trees
     (`end_le`: a cursor never ends beyond its root).  Weaker than the English in one respect: "the document" is the
     new text; the edited old tree can be longer than the new text only by what `ts_tree_edit` left (it is not —
     the check's judge uses `max(document length, both tree ends)` and never saw a range beyond the document).
   * JUDGED: every range ends at or before `max(document length, tree ends)`.
3. "every character whose stack of enclosing node types differs between the two trees lies inside one of them"
   * PARTIAL — `changed_covers` (premises of 1 + MatchSound/PassSound: on every span the walk did not hand to `add`
     the two per-byte stacks agree — this is where parser determinism / subtree sharing enters; evaluated per real
     case with the judge's stacks): every differing byte in `[loopStart, walk end)` and every byte of the pre-call
     `[min root start, max root start)` and of the post-call `[min total, max total)` is reported.
     Rests on `spans_contiguous` (PROVED for all pairs), `spans_forward`, `trace_grows`.
     `changed_covers_all` (+ `walk_reaches_end`, premise `rootOK`: both roots visible, sizes < 2^32): the same for
     EVERY byte from the start of the earlier root to the end of the longer tree — the walk does not stop before the
     end of the shorter tree (`Reach.lean`), so nothing between the loop start and the post-call is left out.
     Remaining differences to the English, decided by the judge: (a) bytes before both root starts and after both
     trees (no node encloses them in either tree: stacks equal by the judge's definition); (b) "character" = byte
     here, and a character's bytes share their stacks only if no node boundary splits a character (true for trees of
     valid parses; judged per byte).
   * JUDGED on every real output: `firstUncovered` over per-byte scope stacks computed from full dumps
     (alias rule of `tree_cursor.c` included).
4. "This also holds when the included ranges changed between the two parses"
   * PROVED: `symDiff_spec`, `symDiff_inside` (the difference list is exactly the bytes in one list only).
   * The override: `changed_covers` holds for every difference list (its premise MatchSound is evaluated with the
     override applied); for the code BEFORE /repo e524398 the clause was FALSE — `override_span_witness` (finding
     C04-override-span-in-padding, fixed by fixes/C04-range-override-in-padding.diff; the port carries both variants
     and the check picks the one /repo behaves like).
   * JUDGED: coverage is required only for bytes included in at least one of the two range lists.

Conventions: a byte `x` is *in* a range when `start_byte ≤ x < end_byte`.  Input lists are what
`ts_lexer_set_included_ranges` accepts (`SortedFrom 0`): starts ≥ previous end, end ≥ start; plus
"no range starts at `UINT32_MAX`" — for a list violating that, the C loop reads `ranges[count]`
(the state guarded in `symDiffLoop`), so the theorem cannot hold for the C code there.
-/
namespace TsVerif.C04
open TsGen

/-- Appending `[s, e)` with `s` at or after every existing end (the calling
discipline: positions handed to `ts_range_array_add` never go backwards) keeps the array sorted,
pairwise strictly separated and free of empty ranges, and adds exactly the bytes of `[s, e)`. -/
theorem add_sorted (arr : List TSRange) (s e : Length) (hs : StrictSorted arr)
    (hend : ∀ r ∈ arr, r.end_byte ≤ s.bytes) (hse : s.bytes ≤ e.bytes) :
    StrictSorted (add arr s e) ∧
    (∀ r ∈ add arr s e, r.end_byte ≤ e.bytes) ∧
    ∀ x, mem (add arr s e) x ↔ (mem arr x ∨ (s.bytes ≤ x ∧ x < e.bytes)) := by
  have hc : Chain (s.bytes + 1) arr.reverse :=
    chain_iff.2 ⟨by simpa using hs, fun r hr => by have := hend r (List.mem_reverse.1 hr); omega⟩
  have := addRev_spec arr.reverse s e hc hse
  refine ⟨this.1.strictSorted, ?_, fun x => ?_⟩
  · intro r hr
    have := (chain_iff.1 this.1).2 r (List.mem_reverse.1 hr)
    omega
  · unfold add
    rw [mem_reverse, this.2 x, mem_reverse]

example : let arr : List TSRange := [⟨⟨0,1⟩,⟨0,3⟩,1,3⟩, ⟨⟨0,5⟩,⟨0,6⟩,5,6⟩]
    StrictSorted arr ∧ (∀ r ∈ arr, r.end_byte ≤ 6) ∧
    add arr ⟨6,⟨0,6⟩⟩ ⟨9,⟨0,9⟩⟩ = [⟨⟨0,1⟩,⟨0,3⟩,1,3⟩, ⟨⟨0,5⟩,⟨0,9⟩,5,9⟩] := by
  unfold StrictSorted; decide

/-- For two valid range lists the reported differences are sorted, pairwise
strictly separated (touching pieces are merged), contain no empty range, and a byte is covered
iff it lies in exactly one of the two lists. -/
theorem symDiff_spec (old new : List TSRange) (ho : SortedFrom 0 old) (hn : SortedFrom 0 new) :
    StrictSorted (symDiff old new) ∧
    ∀ x, mem (symDiff old new) x ↔ XorP (mem old x) (mem new x) := by
  have := symDiffLoop_spec old new length_zero false false []
    (WF_false_of_sorted ho) (WF_false_of_sorted hn) (by simp [length_zero, UMAX]) (by simp [Chain])
  obtain ⟨⟨hi, hch⟩, hm⟩ := this
  refine ⟨hch.strictSorted, fun x => ?_⟩
  unfold symDiff
  rw [mem_reverse, hm x, memFrom_false, memFrom_false]
  simp [length_zero]

/-- Every reported difference lies inside a range of one of the lists ("inside the document"
for the included-range part). -/
theorem symDiff_inside (old new : List TSRange) (ho : SortedFrom 0 old) (hn : SortedFrom 0 new)
    (x : Nat) (hx : mem (symDiff old new) x) : mem old x ∨ mem new x := by
  rcases ((symDiff_spec old new ho hn).2 x).1 hx with ⟨h, _⟩ | ⟨_, h⟩
  · exact Or.inl h
  · exact Or.inr h

example : SortedFrom 0 ([⟨⟨0,0⟩,⟨0,4⟩,0,4⟩, ⟨⟨0,4⟩,⟨0,4⟩,4,4⟩, ⟨⟨0,6⟩,⟨4294967295,4294967295⟩,6,4294967295⟩] : List TSRange) := by
  simp [SortedFrom, UMAX]

/-- On a sorted array (as produced by `symDiff`) the early-exit scan of
`ts_range_array_intersects` answers exactly "some range from `startIndex` on overlaps
`(startByte, endByte)`", i.e. has `end > startByte` and `start < endByte`. -/
theorem intersects_spec (arr : List TSRange) (i a b : Nat) (hs : StrictSorted arr) :
    intersects arr i a b = true ↔ ∃ r ∈ arr.drop i, a < r.end_byte ∧ r.start_byte < b := by
  unfold intersects
  refine intersectsFrom_spec _ a b ⟨?_, fun r hr => hs.2 r (List.mem_of_mem_drop hr)⟩
  exact List.Pairwise.sublist (List.drop_sublist i arr) hs.1

/-- For every pair of trees and every list of included-range
differences, IF every call that the lock-step walk makes to `ts_range_array_add` is `admissible`
for the array built so far (it starts after the last range, or does not end before the last
range's start), THEN the reported ranges are sorted, pairwise strictly separated, well formed
(`start ≤ end`), and end at or before the largest position handed over.  The hypothesis is evaluated by the driver on every real case.
(The obvious stronger hypothesis "positions never go backwards" is FALSE for the real code: when
the two roots start at different offsets the first loop iteration can hand over `(11, 6)`; see the
example below, `entry_needed_witness` and notes/C04.md.)
`changed_sorted_bounded` drops the hypothesis for sized trees that satisfy `entryOK`. -/
theorem changed_sorted_bounded_partial (al : AliasTable) (fixed : Bool) (old new : Tree) (diffs : List TSRange)
    (h : traceAdmissible [] ((changedRanges al fixed old new diffs).main ++ (changedRanges al fixed old new diffs).post) = true) :
    WeakSorted (changedRanges al fixed old new diffs).ranges ∧
    ∀ r ∈ (changedRanges al fixed old new diffs).ranges,
      r.end_byte ≤ traceBound ((changedRanges al fixed old new diffs).main ++ (changedRanges al fixed old new diffs).post) := by
  rw [changedRanges_eq_fold]
  exact admissible_wellformed _ h

/-- Non-vacuity, and the shape seen on real trees whose roots start at different offsets
(`lst`, old root starting at byte 11, new root spanning [2,6)): the calls `(2,11) (11,6) (6,11)` go
backwards, are admissible, and give the single range [2,11).  (Real histories also show
`(0,2) (2,0) (0,10)`: the array is `[0,0)` — an empty range — until the final call repairs it;
hence the conclusion is `start ≤ end`, not `start < end`.) -/
example : let tr : List (Length × Length) := [(⟨2,⟨0,2⟩⟩, ⟨11,⟨0,11⟩⟩), (⟨11,⟨0,11⟩⟩, ⟨6,⟨0,6⟩⟩), (⟨6,⟨0,6⟩⟩, ⟨11,⟨0,11⟩⟩)]
    traceAdmissible [] tr = true ∧ (foldAdd [] tr).reverse = [⟨⟨0,2⟩,⟨0,11⟩,2,11⟩] := by decide

/-- The cursor-stack invariant of the lock-step walk, for ALL tree pairs, alias tables and
difference lists: in the state in which the loop of `ts_subtree_get_changed_ranges` ends (and, by the same
induction, in every state it passes through) each entry of both cursor stacks is the child of the entry below
it at the recorded child index, and its position is its parent's position plus the total sizes of the
earlier siblings.  `descend`, `advance` and `ascend` each preserve it (`descend_ok`, `advance_ok`, `ascend_ok`). -/
theorem walk_stackOK (al : AliasTable) (fixed : Bool) (old new : Tree) (diffs : List TSRange) (tf fuel : Nat)
    (position nextPosition : Length) :
    let s := mainLoop al fixed diffs tf fuel
      { o := iterNew old, n := iterNew new, position := position, nextPosition := nextPosition, diffIdx := 0, spans := [] }
    StackOK s.o.stack ∧ StackOK s.n.stack :=
  mainLoop_ok al fixed diffs tf fuel _ (by simp [iterNew, StackOK]) (by simp [iterNew, StackOK])

/-- A successful `iterator_descend(goal)` keeps the stack invariant and leaves the iterator on
a node (or in the padding of a node) whose end lies strictly beyond the goal. -/
theorem descend_end (al : AliasTable) (fuel : Nat) (it : Iter) (goal : Nat) (h : StackOK it.stack)
    (hd : (it.descend al fuel goal).2 = true) :
    StackOK (it.descend al fuel goal).1.stack ∧ (it.descend al fuel goal).1.endPosition.bytes > goal :=
  ⟨(descend_ok al fuel it goal h).1, (descend_ok al fuel it goal h).2 hd⟩

/-- The coverage clause for the walk, for ALL tree pairs, alias tables and
difference lists, and for arbitrary per-byte stack functions `so`/`sn` (the judge's scope stacks):
IF (a) every call to `ts_range_array_add` grows the array (`traceGrow`), (b) no iteration's span goes
backwards (`spansMono`; that the spans are CONTIGUOUS from `loopStart` on is proved for all tree pairs,
`spans_contiguous`), and (c) **MatchSound / PassSound**:
on every span the walk did NOT hand to `add` — `compare` answered *Matches* (label 1) or the span was
passed over without a possible descent (label 2) — the two stacks agree at every byte,
THEN every byte between `loopStart old new` and the end of the walk (`spansEnd`) whose stacks differ lies in a reported range,
and so does every byte of the call made before the loop and of the final size-difference call.
(a)–(c) are decidable and are evaluated by the driver on every real case (`cov=ok`); (c) is where
parser determinism enters (DESIGN §7: MatchSound is a hypothesis, discharged per case).
`changed_covers` proves (a), (b) for sized trees that satisfy `entryOK` (they fail on the rare "roots start at
different offsets" traces, see below); OPEN: (c) from a model of the parser. -/
theorem changed_covers_partial {α : Type} (al : AliasTable) (fixed : Bool) (old new : Tree)
    (diffs : List TSRange) (so sn : Nat → α)
    (hgrow : traceGrow [] ((changedRanges al fixed old new diffs).main ++ (changedRanges al fixed old new diffs).post) = true)
    (hmono : spansMono (changedRanges al fixed old new diffs).spans = true)
    (hsound : ∀ sp ∈ (changedRanges al fixed old new diffs).spans, sp.2.2 ≠ 0 →
      ∀ p, sp.1.bytes ≤ p → p < sp.2.1.bytes → so p = sn p) :
    (∀ p, loopStart old new ≤ p → p < spansEnd (loopStart old new) (changedRanges al fixed old new diffs).spans → so p ≠ sn p →
      mem (changedRanges al fixed old new diffs).ranges p) ∧
    (∀ c ∈ (changedRanges al fixed old new diffs).pre ++ (changedRanges al fixed old new diffs).post,
      ∀ p, c.1.bytes ≤ p → p < c.2.bytes → mem (changedRanges al fixed old new diffs).ranges p) := by
  have key : ∀ c ∈ (changedRanges al fixed old new diffs).main ++ (changedRanges al fixed old new diffs).post,
      ∀ p, c.1.bytes ≤ p → p < c.2.bytes → mem (changedRanges al fixed old new diffs).ranges p := fun c hc p h3 h4 => by
    rw [changedRanges_eq_fold, mem_reverse]
    exact (foldAdd_grow _ [] hgrow p).2 c hc h3 h4
  have htile : spansTile (loopStart old new) (changedRanges al fixed old new diffs).spans = true := by
    rw [tile_iff, spans_contiguous, hmono]; rfl
  rw [changedRanges_main] at key
  refine ⟨fun p h1 h2 hne => ?_, fun c hc => key c ?_⟩
  · obtain ⟨sp, hsp, h3, h4⟩ := tile_find _ (loopStart old new) p htile h1 h2
    by_cases hl : sp.2.2 = 0
    · refine key (sp.1, sp.2.1) (List.mem_append_left _ (List.mem_append_right _ ?_)) p h3 h4
      unfold callsOf
      exact List.mem_filterMap.2 ⟨sp, hsp, by simp [hl]⟩
    · exact absurd (hsound sp hsp hl p h3 h4) hne
  · rcases List.mem_append.1 hc with h | h
    · exact List.mem_append_left _ (List.mem_append_left _ h)
    · exact List.mem_append_right _ h

example : traceGrow [] [(⟨1,⟨0,1⟩⟩, ⟨5,⟨0,5⟩⟩), (⟨5,⟨0,5⟩⟩, ⟨7,⟨0,7⟩⟩), (⟨3,⟨0,3⟩⟩, ⟨9,⟨0,9⟩⟩)] = true ∧
    spansTile 1 [(⟨1,⟨0,1⟩⟩, ⟨5,⟨0,5⟩⟩, 0), (⟨5,⟨0,5⟩⟩, ⟨5,⟨0,5⟩⟩, 2), (⟨5,⟨0,5⟩⟩, ⟨7,⟨0,7⟩⟩, 1)] = true := by decide


/-! ## The walk's geometry: what holds for ALL sized tree pairs

Premises (all decidable and evaluated by the driver on every real case):
* `AllSized old`, `AllSized new` (via `allSizedB`, `allSizedB_sound`);
* `entryOK old new`: the loop starts at or before the end of both trees;
* the model's fuel did not run out (`fuelOut = false`; the fuel only bounds the model's recursion — the C loops
  have no counterpart — and the driver reports any case in which it is exhausted). -/

/-- No iteration of the lock-step walk goes backwards: `position ≤ next_position`. -/
theorem spans_forward (al : AliasTable) (fixed : Bool) (old new : Tree) (diffs : List TSRange)
    (hso : AllSized old) (hsn : AllSized new) (hentry : entryOK old new = true)
    (hfuel : (changedRanges al fixed old new diffs).fuelOut = false) :
    spansMono (changedRanges al fixed old new diffs).spans = true := by
  unfold spansMono
  rw [List.all_eq_true]
  intro x hx
  exact decide_eq_true (walk_spanOK al fixed old new diffs hso hsn hentry hfuel x hx).2.1

/-- Every call to `ts_range_array_add` made by `ts_subtree_get_changed_ranges` starts after the last
range, or inside it and ends at or after its end — nothing that was covered gets uncovered. -/
theorem trace_grows (al : AliasTable) (fixed : Bool) (old new : Tree) (diffs : List TSRange)
    (hso : AllSized old) (hsn : AllSized new) (hentry : entryOK old new = true)
    (hfuel : (changedRanges al fixed old new diffs).fuelOut = false) :
    traceGrow [] ((changedRanges al fixed old new diffs).main ++ (changedRanges al fixed old new diffs).post) = true :=
  (walk_calls al fixed old new diffs hso hsn hentry hfuel).1

/-- "sorted, disjoint, inside the document" for the tree walk, for ALL pairs of sized
trees, alias tables and difference lists: the reported ranges are sorted, pairwise strictly separated, well
formed (`start ≤ end`) and end at or before the end of the longer tree. -/
theorem changed_sorted_bounded (al : AliasTable) (fixed : Bool) (old new : Tree) (diffs : List TSRange)
    (hso : AllSized old) (hsn : AllSized new) (hentry : entryOK old new = true)
    (hfuel : (changedRanges al fixed old new diffs).fuelOut = false) :
    WeakSorted (changedRanges al fixed old new diffs).ranges ∧
    ∀ r ∈ (changedRanges al fixed old new diffs).ranges, r.end_byte ≤ max old.totalBytes new.totalBytes := by
  obtain ⟨_, ha, hb⟩ := walk_calls al fixed old new diffs hso hsn hentry hfuel
  obtain ⟨h1, h2⟩ := changed_sorted_bounded_partial al fixed old new diffs ha
  exact ⟨h1, fun r hr => Nat.le_trans (h2 r hr) hb⟩

/-- Under the same premises no reported range is empty — together with `changed_sorted_bounded`:
sorted, strictly separated, non-empty (what `add_sorted` states for a single call, for the whole walk). -/
theorem changed_nonempty (al : AliasTable) (fixed : Bool) (old new : Tree) (diffs : List TSRange)
    (hso : AllSized old) (hsn : AllSized new) (hentry : entryOK old new = true)
    (hfuel : (changedRanges al fixed old new diffs).fuelOut = false) :
    ∀ r ∈ (changedRanges al fixed old new diffs).ranges, r.start_byte < r.end_byte := by
  intro r hr
  rw [changedRanges_eq_fold, changedRanges_main] at hr
  exact whole_trace_ne _ _ (loopStart old new) _ _ _ (by omega) (of_decide_eq_true hentry)
    (pre_shape al fixed old new diffs) (post_shape al fixed old new diffs) (spans_contiguous al fixed old new diffs)
    (walk_spanOK al fixed old new diffs hso hsn hentry hfuel) r (List.mem_reverse.1 hr)

/-- The coverage clause for the walk, for ALL pairs of sized trees: under MatchSound / PassSound
(on every span the walk did not hand to `add` the two per-byte stacks agree) every byte from the loop start to
the end of the walk whose stacks differ lies in a reported range, and so does every byte of the call made
before the loop and of the final size-difference call. -/
theorem changed_covers {α : Type} (al : AliasTable) (fixed : Bool) (old new : Tree)
    (diffs : List TSRange) (so sn : Nat → α)
    (hso : AllSized old) (hsn : AllSized new) (hentry : entryOK old new = true)
    (hfuel : (changedRanges al fixed old new diffs).fuelOut = false)
    (hsound : ∀ sp ∈ (changedRanges al fixed old new diffs).spans, sp.2.2 ≠ 0 →
      ∀ p, sp.1.bytes ≤ p → p < sp.2.1.bytes → so p = sn p) :
    (∀ p, loopStart old new ≤ p → p < spansEnd (loopStart old new) (changedRanges al fixed old new diffs).spans → so p ≠ sn p →
      mem (changedRanges al fixed old new diffs).ranges p) ∧
    (∀ c ∈ (changedRanges al fixed old new diffs).pre ++ (changedRanges al fixed old new diffs).post,
      ∀ p, c.1.bytes ≤ p → p < c.2.bytes → mem (changedRanges al fixed old new diffs).ranges p) :=
  changed_covers_partial al fixed old new diffs so sn
    (trace_grows al fixed old new diffs hso hsn hentry hfuel)
    (spans_forward al fixed old new diffs hso hsn hentry hfuel) hsound


/-- `reach`: under the premises of `changed_sorted_bounded` and with visible roots (`rootOK`; also
bounds the tree sizes by 2^32 so that `visible_depth` cannot wrap), the lock-step walk does not stop before the end of
the shorter tree (`Reach.lean`). -/
theorem walk_reaches_end (al : AliasTable) (fixed : Bool) (old new : Tree) (diffs : List TSRange)
    (hso : AllSized old) (hsn : AllSized new) (hentry : entryOK old new = true)
    (hro : rootOK old = true) (hrn : rootOK new = true)
    (hfuel : (changedRanges al fixed old new diffs).fuelOut = false) :
    min old.totalBytes new.totalBytes ≤ spansEnd (loopStart old new) (changedRanges al fixed old new diffs).spans :=
  walk_reach al fixed old new diffs hso hsn hentry hro hrn hfuel

/-- The coverage clause for the WHOLE extent of the two trees: under the premises above and
MatchSound/PassSound, EVERY byte from the start of the earlier root to the end of the longer tree whose stacks differ
lies in a reported range (bytes before the later root start and after the end of the shorter tree are reported
whatever their stacks). -/
theorem changed_covers_all {α : Type} (al : AliasTable) (fixed : Bool) (old new : Tree)
    (diffs : List TSRange) (so sn : Nat → α)
    (hso : AllSized old) (hsn : AllSized new) (hentry : entryOK old new = true)
    (hro : rootOK old = true) (hrn : rootOK new = true)
    (hfuel : (changedRanges al fixed old new diffs).fuelOut = false)
    (hsound : ∀ sp ∈ (changedRanges al fixed old new diffs).spans, sp.2.2 ≠ 0 →
      ∀ p, sp.1.bytes ≤ p → p < sp.2.1.bytes → so p = sn p) :
    ∀ p, firstStart old new ≤ p → p < max old.totalBytes new.totalBytes → so p ≠ sn p →
      mem (changedRanges al fixed old new diffs).ranges p := by
  obtain ⟨c1, c2⟩ := changed_covers al fixed old new diffs so sn hso hsn hentry hfuel hsound
  have hr := walk_reaches_end al fixed old new diffs hso hsn hentry hro hrn hfuel
  intro p h1 h2 hne
  by_cases hlo : p < loopStart old new
  · rcases pre_shape' al fixed old new diffs with ⟨_, he⟩ | ⟨a, b, hp, ha, hb, _⟩
    · omega
    · exact c2 (a, b) (by rw [hp]; simp) p (by simp only; omega) (by simp only; omega)
  · by_cases hin : p < spansEnd (loopStart old new) (changedRanges al fixed old new diffs).spans
    · exact c1 p (by omega) hin hne
    · rcases post_shape' al fixed old new diffs with ⟨_, he⟩ | ⟨a, b, hp, ha, hb, _⟩
      · omega
      · exact c2 (a, b) (by rw [hp]; simp) p (by simp only; omega) (by simp only; omega)

/-- The entry premise holds whenever both roots start at the same offset (the usual case: the old tree was edited
to the new text, so both start after the same leading padding). -/
theorem entry_of_same_start (old new : Tree)
    (h : (iterNew old).startPosition.bytes = (iterNew new).startPosition.bytes) : entryOK old new = true := by
  have e1 := iterNew_start old
  have e2 := iterNew_start new
  have t1 : old.totalBytes = old.data.padding.bytes + old.data.size.bytes := rfl
  have t2 : new.totalBytes = new.data.padding.bytes + new.data.size.bytes := rfl
  unfold entryOK loopStart
  exact decide_eq_true (by omega)

/-- On sized trees `iterator_ascend`, when it leaves an entry that has a parent, never moves the end position
backwards (`ascend_end`). -/
theorem ascend_never_back (al : AliasTable) (it : Iter) (e p : Entry) (rest : List Entry)
    (hs : it.stack = e :: p :: rest) (hok : StackOK it.stack) (hss : SS it.stack) :
    (it.ascend al).endPosition.bytes ≥ it.endPosition.bytes :=
  ascend_end al it e p rest hs hok hss

/-! ## The coverage clause when the included ranges changed: OPEN, and false for the code as it is

OPEN `changed_covers_ranges` (DESIGN §7): "a byte whose scope stacks differ and which lies in a
subtree that `compare` matched only because of a range difference is reported".
The walk applies the range-difference override to the span `[position, iterator_end_position(old))`.
In a node's padding that span is just the padding, while `iterator_compare` has compared the
*enclosing* visible nodes.  Witness (`override_span_witness`): two trees whose nodes `A` look alike
(symbol, size, state) but differ inside, difference list `[2,3)`: byte 1 — the padding of `y`,
inside the extra node of the new tree — has different stacks and is not reported; with the
override applied to the compared node (`fixed := true`, fixes/C04-range-override-in-padding.diff)
the whole of `[0,3)` is reported.  Real instance: corpus/c04.txt (fx_aliased_inlined_rules),
known_findings/C04.json. -/

def wData (sym pad sz : Nat) : NodeData :=
  let d : NodeData := default
  { d with symbol := sym, padding := ⟨pad, ⟨0, pad⟩⟩, size := ⟨sz, ⟨0, sz⟩⟩, visible := true, named := true, parseState := 1 }
def wLeaf (sym pad sz : Nat) : Tree := .mk (wData sym pad sz) []
def wNode (sym sz : Nat) (kids : List Tree) : Tree := .mk (wData sym 0 sz) kids
/-- `R(A(x y))` with `y` preceded by one byte of padding … -/
def wOld : Tree := wNode 1 3 [wNode 2 3 [wLeaf 3 0 1, wLeaf 4 1 1]]
/-- … and `R(A(A(x y)))`: one more `A` around the same tokens. -/
def wNew : Tree := wNode 1 3 [wNode 2 3 [wNode 2 3 [wLeaf 3 0 1, wLeaf 4 1 1]]]
def wDiffs : List TSRange := [⟨⟨0,2⟩,⟨0,3⟩,2,3⟩]

/-- The negation of the coverage clause on the model of the code as it is. -/
theorem override_span_witness :
    (scopeStacks {} wOld 3).getD 1 [] ≠ (scopeStacks {} wNew 3).getD 1 [] ∧
    covered (changedRanges {} false wOld wNew wDiffs).ranges 1 = false ∧
    ((changedRanges {} false wOld wNew wDiffs).ranges.map fun r => (r.start_byte, r.end_byte)) = [(0,1),(2,3)] ∧
    ((changedRanges {} true wOld wNew wDiffs).ranges.map fun r => (r.start_byte, r.end_byte)) = [(0,3)] := by
  decide +kernel

/-- Non-vacuity of the premises (the witness pair of `override_span_witness` is sized, enters inside both trees and
needs no more fuel), and the entry premise cannot be dropped: a new tree that ends before the old one starts
makes the first iteration go backwards, from 11 to 6. -/
theorem entry_needed_witness :
    (allSizedB wOld = true ∧ allSizedB wNew = true ∧ entryOK wOld wNew = true ∧
      (changedRanges {} true wOld wNew wDiffs).fuelOut = false) ∧
    (allSizedB (wLeaf 1 11 1) = true ∧ allSizedB (wLeaf 1 2 4) = true ∧ entryOK (wLeaf 1 11 1) (wLeaf 1 2 4) = false ∧
      ((changedRanges {} true (wLeaf 1 11 1) (wLeaf 1 2 4) []).spans.map fun x => (x.1.bytes, x.2.1.bytes)) = [(11, 6)]) := by
  decide +kernel

/-- For ALL pairs of sized trees with `entryOK` (premises of `changed_sorted_bounded`): the
reported bytes are EXACTLY the union of the spans handed to `ts_range_array_add` — nothing flagged is lost by a later
call overwriting the last range's end, nothing else is reported. -/
theorem changed_ranges_exact (al : AliasTable) (fixed : Bool) (old new : Tree) (diffs : List TSRange)
    (hso : AllSized old) (hsn : AllSized new) (hentry : entryOK old new = true)
    (hfuel : (changedRanges al fixed old new diffs).fuelOut = false) (x : Nat) :
    mem (changedRanges al fixed old new diffs).ranges x ↔
    ∃ c ∈ (changedRanges al fixed old new diffs).main ++ (changedRanges al fixed old new diffs).post,
      c.1.bytes ≤ x ∧ x < c.2.bytes := by
  refine ⟨changed_ranges_sound al fixed old new diffs x, ?_⟩
  rintro ⟨c, hc, h1, h2⟩
  have hg := (walk_calls al fixed old new diffs hso hsn hentry hfuel).1
  rw [changedRanges_eq_fold, mem_reverse]
  exact (foldAdd_grow _ [] hg x).2 c hc h1 h2

/-- Non-vacuity of `changed_ranges_exact`: the witness pair of `entry_needed_witness` satisfies the premises. -/
example : AllSized wOld ∧ AllSized wNew ∧ entryOK wOld wNew = true ∧
    (changedRanges {} true wOld wNew wDiffs).fuelOut = false :=
  ⟨allSizedB_sound _ entry_needed_witness.1.1, allSizedB_sound _ entry_needed_witness.1.2.1,
    entry_needed_witness.1.2.2.1, entry_needed_witness.1.2.2.2⟩

end TsVerif.C04
