import TsVerif.C03.Cover
import TsVerif.C03.CompleteLemmas
/-!
# `grammar_cover`, `parser_complete`: every derivation of the source grammar is a tree over `P`

`Flat`: one derivation of a rule flattens to a symbol sequence of `expand` with trees for its symbols.  It is built
along the derivation, for every fuel, so that it can be used at the one fuel `coverOK` evaluates (`relFuel g`); at a
non-terminal the trees of one flattening of its rule become the children of its node (`nt_tree`).
-/
namespace TsVerif.C03

variable {g : Grammar} {tbl : Table} {aux : AuxMap} {P : List Prod} {r : Rule} {w : List Tok}

theorem find?_getD_ne {l : List Nat} {p : Nat → Bool} (h : (l.find? p).getD 0 ≠ 0) :
    (l.find? p).getD 0 ∈ l ∧ p ((l.find? p).getD 0) = true := by
  cases hf : l.find? p with
  | none => simp [hf] at h
  | some y => exact ⟨List.mem_of_find?_eq_some hf, List.find?_some hf⟩

theorem tokId_spec {t : Tok} (h : tokId tbl t ≠ 0) :
    tokId tbl t < tbl.tokenCount ∧ tokOf tbl (tokId tbl t) = t := by
  obtain ⟨h1, h2⟩ := find?_getD_ne h
  simp only [Bool.and_eq_true, beq_iff_eq] at h2
  exact ⟨List.mem_range.mp h1, h2.2⟩

theorem ntId_spec {x : String} (h : ntId tbl aux x ≠ 0) :
    ntId tbl aux x < tbl.symbolCount ∧ tbl.tokenCount ≤ ntId tbl aux x ∧ aux.lookup (ntId tbl aux x) = none ∧
      tbl.symName (ntId tbl aux x) = x := by
  obtain ⟨h1, h2⟩ := find?_getD_ne h
  simp only [Bool.and_eq_true, decide_eq_true_eq, beq_iff_eq, Option.isNone_iff_eq_none] at h2
  exact ⟨List.mem_range.mp h1, h2.1.1, h2.1.2, h2.2⟩

theorem auxId_spec {a : Rule} (h : auxId tbl aux a ≠ 0) :
    tbl.tokenCount ≤ auxId tbl aux a ∧ auxId tbl aux a < tbl.symbolCount ∧ aux.lookup (auxId tbl aux a) = some a := by
  unfold auxId at h ⊢
  cases hf : aux.find? (fun e => e.2 == a && decide (tbl.tokenCount ≤ e.1) && decide (e.1 < tbl.symbolCount) && aux.lookup e.1 == some a) with
  | none => simp [hf] at h
  | some e =>
    simp only [Option.map_some, Option.getD_some]
    have h1 := List.find?_some hf
    simp only [Bool.and_eq_true, decide_eq_true_eq, beq_iff_eq] at h1
    exact ⟨h1.1.1.2, h1.1.2, h1.2⟩

theorem hasProd_mem {A : Nat} {syms : List Nat} (h : hasProd P A syms = true) :
    ∃ pid, (A, syms, pid) ∈ P := by
  simp only [hasProd, List.any_eq_true, Bool.and_eq_true, beq_iff_eq] at h
  obtain ⟨⟨A', s', pid⟩, hp, rfl, rfl⟩ := h
  exact ⟨pid, hp⟩

structure CoverFacts (g : Grammar) (tbl : Table) (aux : AuxMap) (P : List Prod) : Prop where
  nt : ∀ y b, tbl.tokenCount ≤ y → y < tbl.symbolCount → aux.lookup y = none → g.body (tbl.symName y) = some b →
    ∀ syms, syms ∈ expand g tbl aux (relFuel g) b → 0 ∉ syms ∧ ∃ pid, (y, syms, pid) ∈ P
  aux : ∀ y a, tbl.tokenCount ≤ y → y < tbl.symbolCount → aux.lookup y = some a → (∃ pid, (y, [y, y], pid) ∈ P) ∧
    ∀ syms, syms ∈ expand g tbl aux (relFuel g) a → 0 ∉ syms ∧ y ∉ syms ∧ ∃ pid, (y, syms, pid) ∈ P

theorem coverFacts_of {start : Nat}
    (h : coverOK g tbl aux P start = true) : CoverFacts g tbl aux P := by
  have hall : ∀ y, tbl.tokenCount ≤ y → y < tbl.symbolCount → ntCoverOK g tbl aux P y = true := by
    simp only [coverOK, Bool.and_eq_true, List.all_eq_true, List.mem_range, Bool.or_eq_true, decide_eq_true_eq] at h
    exact fun y hy hlt => (h.2 y hlt).resolve_left (by omega)
  refine ⟨fun y b hy hlt hl hb syms hs => ?_, fun y a hy hlt hl => ?_⟩
  · have h1 := hall y hy hlt
    simp only [ntCoverOK, hl, hb, List.all_eq_true, Bool.and_eq_true, Bool.not_eq_true'] at h1
    exact ⟨by simpa using (h1 syms hs).1, hasProd_mem (h1 syms hs).2⟩
  · have h1 := hall y hy hlt
    simp only [ntCoverOK, hl, List.all_eq_true, Bool.and_eq_true, Bool.not_eq_true'] at h1
    refine ⟨hasProd_mem h1.1, fun syms hs => ?_⟩
    have := h1.2 syms hs
    exact ⟨by simpa using this.1.1, by simpa using this.1.2, hasProd_mem this.2⟩

theorem validL_of {allow : Allow} {q : Prod} : ∀ (ts : List DT) (i : Nat),
    (∀ t, t ∈ ts → t.Valid tbl P allow) → (∀ j t, t ∈ ts → allowedAt allow q j t = true) →
    DT.ValidL tbl P allow q i ts := by
  intro ts
  induction ts with
  | nil => intro i _ _; simp [DT.ValidL]
  | cons t ts ih =>
    intro i hv ha
    exact ⟨hv t (by simp), ha i t (by simp), ih (i + 1) (fun t' ht' => hv t' (by simp [ht'])) (fun j t' ht' => ha j t' (by simp [ht']))⟩

theorem allowedAt_aux {q : Prod} {j : Nat} {t : DT} (h : j = 0 ∨ aux.lookup q.1 = none ∨ t.sym ≠ q.1) :
    allowedAt (auxAllow aux) q j t = true := by
  cases t with
  | leaf a => rfl
  | node A pid ks =>
    simp only [allowedAt, DT.prod?, auxAllow, Bool.not_eq_true', Bool.and_eq_false_iff]
    rcases h with rfl | h | h
    · exact .inl (.inl (.inl rfl))
    · exact .inl (.inl (.inr (by rw [h]; rfl)))
    · exact .inl (.inr (beq_eq_false_iff_ne.mpr h))

theorem yieldL_append : ∀ (a b : List DT), DT.yieldL (a ++ b) = DT.yieldL a ++ DT.yieldL b := by
  intro a
  induction a with
  | nil => intro b; simp [DT.yieldL]
  | cons t ts ih => intro b; simp [DT.yieldL, ih]

/-- what the flattening of one derivation delivers: a symbol sequence of `expand`, and trees for it -/
def Flat (g : Grammar) (tbl : Table) (aux : AuxMap) (P : List Prod) (f : Nat) (r : Rule) (w : List Tok) : Prop :=
  ∃ syms, syms ∈ expand g tbl aux f r ∧ ∃ ts : List DT, ts.map DT.sym = syms ∧
    (0 ∉ syms → (∀ t, t ∈ ts → t.Valid tbl P (auxAllow aux)) ∧ (DT.yieldL ts).map (tokOf tbl) = w)

theorem flat_bad (g : Grammar) (tbl : Table) (aux : AuxMap) (P : List Prod) (f : Nat) (r : Rule) (w : List Tok)
    (h : [0] ∈ expand g tbl aux f r) : Flat g tbl aux P f r w :=
  ⟨[0], h, [.leaf 0], by simp [DT.sym], by intro h; simp at h⟩

theorem flat_tok {f : Nat} {t : Tok}
    (h : [tokId tbl t] ∈ expand g tbl aux f r) : Flat g tbl aux P f r [t] := by
  refine ⟨_, h, [.leaf (tokId tbl t)], rfl, fun h0 => ?_⟩
  have hne : tokId tbl t ≠ 0 := fun he => h0 (by simp [he])
  have := tokId_spec hne
  exact ⟨by simpa [DT.Valid] using ⟨this.1, hne⟩, by simp [DT.yieldL, DT.yield, this.2]⟩

theorem flat_nil {f : Nat}
    (h : [] ∈ expand g tbl aux f r) : Flat g tbl aux P f r [] :=
  ⟨[], h, [], rfl, fun _ => ⟨nofun, rfl⟩⟩

/-- a claim for every fuel: without fuel `expand` gives the marker `[0]`, about which `Flat` says nothing -/
theorem flat_all
    (h : ∀ f, Flat g tbl aux P (f + 1) r w) : ∀ f, Flat g tbl aux P f r w
  | 0 => flat_bad g tbl aux P 0 r w (by simp [expand])
  | f + 1 => h f

/-- a rule that flattens to whatever its content flattens to (wrappers, an alternative, an inlined rule) -/
theorem flat_sub {r r' : Rule}
    (hsub : ∀ f syms, syms ∈ expand g tbl aux f r → syms ∈ expand g tbl aux (f + 1) r')
    (ih : ∀ f, Flat g tbl aux P f r w) : ∀ f, Flat g tbl aux P f r' w :=
  flat_all fun f => let ⟨syms, hs, rest⟩ := ih f; ⟨syms, hsub f syms hs, rest⟩

theorem flat_nt {f : Nat} (y : Nat)
    (hy : [y] ∈ expand g tbl aux f r)
    (h : y ≠ 0 → ∃ t : DT, t.sym = y ∧ t.Valid tbl P (auxAllow aux) ∧ t.yield.map (tokOf tbl) = w) :
    Flat g tbl aux P f r w := by
  refine ⟨[y], hy, ?_⟩
  cases Nat.decEq y 0 with
  | isTrue h0 => exact ⟨[.leaf 0], by simp [DT.sym, h0], by simp [h0]⟩
  | isFalse hne =>
    obtain ⟨t, hts, htv, hty⟩ := h hne
    exact ⟨[t], by simp [hts], fun _ => ⟨by simpa using htv, by simpa [DT.yieldL] using hty⟩⟩

theorem nt_tree (cf : CoverFacts g tbl aux P) {x : String} {b : Rule} (hne : ntId tbl aux x ≠ 0)
    (hb : g.body x = some b) (h : Flat g tbl aux P (relFuel g) b w) :
    ∃ pid ts, (DT.node (ntId tbl aux x) pid ts).Valid tbl P (auxAllow aux) ∧
      (DT.node (ntId tbl aux x) pid ts).yield.map (tokOf tbl) = w := by
  obtain ⟨hlt, hge, hl, hname⟩ := ntId_spec hne
  obtain ⟨syms, hs, ts, hts, hgood⟩ := h
  obtain ⟨h0, pid, hp⟩ := cf.nt _ b hge hlt hl (by rw [hname]; exact hb) syms hs
  obtain ⟨hv, hy⟩ := hgood h0
  refine ⟨pid, ts, ?_, by simpa [DT.yield] using hy⟩
  simp only [DT.Valid, hts]
  exact ⟨hp, validL_of ts 0 hv fun j t _ => allowedAt_aux (.inr (.inl hl))⟩

/-- one more iteration of a repeat, under the auxiliary symbol `R`: the content production `R → syms` alone
for the first iteration, `R → R R` over the earlier iterations and it afterwards -/
theorem flat_rep (cf : CoverFacts g tbl aux P)
    {a r : Rule} {u v : List Tok} {f : Nat} (hr : [auxId tbl aux a] ∈ expand g tbl aux f r)
    (ihu : Flat g tbl aux P 1 (.rep a) u) (ihv : Flat g tbl aux P (relFuel g) a v) : Flat g tbl aux P f r (u ++ v) := by
  refine flat_nt _ hr fun hne => ?_
  obtain ⟨hR, hRs, hl⟩ := auxId_spec hne
  obtain ⟨su, hsu, tu, htu, hgu⟩ := ihu
  simp only [expand, List.mem_cons, List.not_mem_nil, or_false] at hsu
  generalize auxId tbl aux a = R at *
  obtain ⟨symsv, hsv, tv, htv, hgood⟩ := ihv
  obtain ⟨⟨pidr, hpr⟩, hC⟩ := cf.aux R a hR hRs hl
  obtain ⟨h0, hnR, pidc, hpc⟩ := hC symsv hsv
  obtain ⟨hvv, hvy⟩ := hgood h0
  have hcv : (DT.node R pidc tv).Valid tbl P (auxAllow aux) := by
    simp only [DT.Valid, htv]
    exact ⟨hpc, validL_of tv 0 hvv fun j t ht => allowedAt_aux (.inr (.inr fun he => hnR (htv ▸ List.mem_map.mpr ⟨t, ht, he⟩)))⟩
  rcases hsu with rfl | rfl
  · obtain ⟨_, rfl⟩ := hgu (by simp)
    cases List.map_eq_nil_iff.mp htu
    exact ⟨.node R pidc tv, rfl, hcv, by simpa [DT.yield, DT.yieldL] using hvy⟩
  · obtain ⟨huv, rfl⟩ := hgu (by simpa using fun h => hne h.symm)
    rcases tu with _ | ⟨t1, _ | ⟨t2, tl⟩⟩
    · simp at htu
    · simp only [List.map_cons, List.map_nil, List.cons.injEq, and_true] at htu
      refine ⟨.node R pidr [t1, .node R pidc tv], rfl, ?_, by simp [DT.yield, DT.yieldL, hvy]⟩
      simp only [DT.Valid, List.map_cons, List.map_nil, htu, show (DT.node R pidc tv).sym = R from rfl]
      refine ⟨hpr, ?_⟩
      simp only [DT.ValidL, and_true]
      refine ⟨huv t1 (by simp), allowedAt_aux (.inl rfl), by simpa [DT.Valid, htv] using hcv, ?_⟩
      simp only [allowedAt, DT.prod?, auxAllow, htv, Bool.not_eq_true', Bool.and_eq_false_iff]
      exact .inr (by simpa using hnR)
    · simp at htu

theorem flat_of_derives (cf : CoverFacts g tbl aux P)
    (h : DerivesTok g r w) : ∀ f, Flat g tbl aux P f r w := by
  induction h with
  | blank => exact flat_all fun f => flat_nil (by simp [expand])
  | @str s => exact flat_all fun f => flat_tok (by simp [expand])
  | @symTok x b hb ht => exact flat_all fun f => flat_tok (by simp [expand, hb, ht])
  | @symRule x b w hb hnt hd ih =>
    cases hin : g.inline.contains x with
    | true => exact flat_sub (fun f syms hs => by simp only [expand, hb, hnt, hin]; simpa using hs) ih
    | false =>
      refine flat_all fun f => flat_nt (ntId tbl aux x) (by simp only [expand, hb, hnt, hin]; simp) fun hne => ?_
      obtain ⟨pid, ts, hv, hy⟩ := nt_tree cf hne hb (ih (relFuel g))
      exact ⟨_, rfl, hv, hy⟩
  | @seq a b u v _ _ iha ihb =>
    refine flat_all fun f => ?_
    obtain ⟨sa, hsa, ta, hta, hga⟩ := iha f
    obtain ⟨sb, hsb, tb, htb, hgb⟩ := ihb f
    refine ⟨sa ++ sb, ?_, ta ++ tb, by simp [hta, htb], fun h0 => ?_⟩
    · simp only [expand, List.mem_flatMap, List.mem_map]
      exact ⟨sa, hsa, sb, hsb, rfl⟩
    · obtain ⟨hva, hya⟩ := hga fun h => h0 (by simp [h])
      obtain ⟨hvb, hyb⟩ := hgb fun h => h0 (by simp [h])
      exact ⟨List.forall_mem_append.mpr ⟨hva, hvb⟩, by rw [yieldL_append, List.map_append, hya, hyb]⟩
  | @choiceL a b w _ ih => exact flat_sub (fun f syms hs => by simp [expand, hs]) ih
  | @choiceR a b w _ ih => exact flat_sub (fun f syms hs => by simp [expand, hs]) ih
  | @repNil a => exact flat_all fun f => flat_nil (by simp [expand])
  | @repCons a u v _ _ ihu ihv =>
    exact flat_all fun f => flat_rep cf (by simp [expand]) (ihu 1) (ihv (relFuel g))
  | @rep1 a u v _ _ ihu ihv =>
    exact flat_all fun f => flat_rep cf (by simp [expand]) (ihu 1) (ihv (relFuel g))
  | @field n a w _ ih => exact flat_sub (fun f syms hs => by simpa [expand] using hs) ih
  | @alias v n a w _ ih => exact flat_sub (fun f syms hs => by simpa [expand] using hs) ih
  | @prec k v a w _ ih => exact flat_sub (fun f syms hs => by simpa [expand] using hs) ih

theorem grammar_cover (g : Grammar) (tbl : Table) (aux : AuxMap) (P : List Prod) (start : Nat)
    (h : coverOK g tbl aux P start = true) (w : List Tok) (hd : DerivesTok g (.sym g.start) w) :
    ∃ pid ks, (DT.node start pid ks).Valid tbl P (auxAllow aux) ∧ (DT.node start pid ks).yield.map (tokOf tbl) = w := by
  have cf := coverFacts_of h
  simp only [coverOK, Bool.and_eq_true, beq_iff_eq, bne_iff_ne, ne_eq] at h
  obtain ⟨⟨⟨⟨hst, hne⟩, hbody⟩, _⟩, _⟩ := h
  rw [hst] at hne ⊢
  cases hd with
  | symTok hb ht => simp [hb, ht] at hbody
  | symRule hb hnt hd' => exact nt_tree cf hne hb (flat_of_derives cf hd' (relFuel g))

mutual
  theorem valid_yield (tbl : Table) (P : List Prod) (allow : Allow) :
      ∀ (t : DT), t.Valid tbl P allow → ∀ a, a ∈ t.yield → a < tbl.tokenCount ∧ a ≠ 0
    | .leaf b, h, a, ha => by
      cases List.mem_singleton.mp ha
      exact h
    | .node A pid ks, h, a, ha => validL_yield tbl P allow _ 0 ks h.2 a ha
  theorem validL_yield (tbl : Table) (P : List Prod) (allow : Allow) :
      ∀ (q : Prod) (i : Nat) (ts : List DT), DT.ValidL tbl P allow q i ts → ∀ a, a ∈ DT.yieldL ts → a < tbl.tokenCount ∧ a ≠ 0
    | _, _, [], _, a, ha => by simp [DT.yieldL] at ha
    | q, i, t :: ts, h, a, ha => by
      simp only [DT.yieldL, List.mem_append] at ha
      rcases ha with ha | ha
      · exact valid_yield tbl P allow t h.1 a ha
      · exact validL_yield tbl P allow q (i + 1) ts h.2.2 a ha
end

theorem map_tok_inj (hinj : tokInj tbl = true) : ∀ (xs ys : List Nat),
    (∀ a, a ∈ xs → a < tbl.tokenCount ∧ a ≠ 0) → (∀ a, a ∈ ys → a < tbl.tokenCount ∧ a ≠ 0) →
    xs.map (tokOf tbl) = ys.map (tokOf tbl) → xs = ys := by
  simp only [tokInj, List.all_eq_true, List.mem_range, Bool.or_eq_true, beq_iff_eq, bne_iff_ne, ne_eq] at hinj
  intro xs
  induction xs with
  | nil =>
    rintro (_ | ⟨y, ys⟩) _ _ h
    · rfl
    · simp at h
  | cons x xs ih =>
    rintro (_ | ⟨y, ys⟩) hx hy h
    · simp at h
    · simp only [List.map_cons, List.cons.injEq] at h
      have hx0 := hx x (by simp)
      have hy0 := hy y (by simp)
      have hxy : x = y := by simpa [hx0.2, hy0.2, h.1] using hinj x hx0.1 y hy0.1
      rw [hxy, ih ys (fun a ha => hx a (by simp [ha])) (fun a ha => hy a (by simp [ha])) h.2]

theorem parser_complete (g : Grammar) (tbl : Table) (aux : AuxMap) (P : List Prod) (ann : Ann) (start : Nat)
    (hcov : coverOK g tbl aux P start = true) (hok : completeOK tbl P (auxAllow aux) ann start = true)
    (toks : List Nat) (htoks : ∀ a, a ∈ toks → a < tbl.tokenCount ∧ a ≠ 0)
    (hd : DerivesTok g (.sym g.start) (toks.map (tokOf tbl))) :
    ∃ f pt, runLoop tbl f { stack := [], toks := toks } = .accepted pt := by
  obtain ⟨pid, ks, hv, hy⟩ := grammar_cover g tbl aux P start hcov _ hd
  have hinj : tokInj tbl = true := by
    simp only [coverOK, Bool.and_eq_true] at hcov
    exact hcov.1.2
  rw [← map_tok_inj hinj _ _ (valid_yield tbl P _ _ hv) htoks hy]
  exact table_complete tbl P _ ann start hok pid ks hv

end TsVerif.C03
