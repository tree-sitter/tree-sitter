import TsVerif.C03.Driver
/-!
# C03 — cells with several actions: all runs of the table and the selection among them

The simplest faithful extension of the single-version driver to GLR cells: `runAll` follows EVERY
effective action of a cell (`stepAct` applies one; the runtime forks a stack
version per action), collecting the trees of
all accepting runs in the order the runtime tries the actions; `selectBest` keeps one of them with
the comparison chain of `ts_parser__select_tree` restricted to error-free trees (greater dynamic
precedence wins, otherwise the earlier tree stays).  Not modelled: merging of stack versions that
reach the same state (the runtime then selects between sub-trees locally with the same comparison),
the version limit, and the structural tie-break `ts_subtree_compare` (a tie between different trees
is reported, not resolved).
-/
namespace TsVerif.C03

/-- one action of a cell applied to a configuration (`none` = this version dies) -/
def stepAct (acc : Stack → Option PTree) (tbl : Table) (c : Conf) (eoe : Bool) : Action → Option (Conf ⊕ PTree)
  | .shift s' extra _ =>
    match c.toks with
    | [] => none
    | a :: rest =>
      if (if extra then topState c.stack else s') = 0 ∨ tbl.stateCount ≤ (if extra then topState c.stack else s') then none
      else some (.inl { stack := ((if extra then topState c.stack else s'), PTree.leaf a extra) :: c.stack, toks := rest })
  | .reduce A n dp pid =>
    match reduce tbl c.stack A n dp pid eoe with
    | .ok st => some (.inl { c with stack := st })
    | .error _ => none
  | .accept =>
    match c.toks with
    | [] => (acc c.stack).map .inr
    | _ :: _ => none
  | .recover => none

def cellActions (tbl : Table) (c : Conf) : List Action :=
  effective (if tbl.lexEnd (topState c.stack) then tbl.actions (topState c.stack) 0
             else tbl.actions (topState c.stack) (c.toks.headD 0))

/-- the trees of all accepting runs, in action order -/
def runAll (acc : Stack → Option PTree) (tbl : Table) : Nat → Conf → List PTree
  | 0, _ => []
  | f + 1, c =>
    (cellActions tbl c).flatMap fun a =>
      match stepAct acc tbl c (tbl.lexEnd (topState c.stack)) a with
      | some (.inl c') => runAll acc tbl f c'
      | some (.inr t) => [t]
      | none => []

def selectBest : List PTree → Option PTree
  | [] => none
  | t :: ts =>
    match selectBest ts with
    | none => some t
    | some b => if b.dynPrec > t.dynPrec then some b else some t

def parseAll (tbl : Table) (toks : List Nat) : List PTree :=
  runAll acceptTree tbl (fuelFor toks) { stack := [], toks := toks }

end TsVerif.C03
