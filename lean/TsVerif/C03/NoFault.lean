import TsVerif.C03.DriverSteps
/-!
# On a closed table the driver never faults (`runLoop_no_fault`, behind `driver_no_fault`)

`StackInv`: each entry's state is a real state connected to the state below by a table transition, or
equal to it for extras.  Every applied action keeps it (`stepAct_ok`), and with it no pop runs below the
base, every goto is defined and an accepting stack holds a root.  (The labelled invariant `Spells` of
`SoundLemmas.lean` does not give this one: it is kept only on tables without non-terminal extras, and its edges
`symEdge` are not the `hasEdge` that `tableClosed` walks — a goto that loops on a state counts there only if its
symbol is also reduced before a real look-ahead, because at the end of an extra the node is flagged extra
instead and stays in the state.)
-/
namespace TsVerif.C03

variable {tbl : Table} {c : Conf} {a : Action} {st : Stack}

theorem mem_predsOf {p q : Nat} (hp : p < tbl.stateCount) (hp0 : p ≠ 0) (hq : q < tbl.stateCount)
    (he : hasEdge tbl p q = true) : p ∈ predsOf tbl q := by
  unfold predsOf
  simp [hq, List.mem_filter, hp, hp0, he]

theorem tableClosed_iff (tbl : Table) : tableClosed tbl = closedWith tbl (predsOf tbl) := by
  have : (fun q => (predTable tbl).getD q []) = predsOf tbl := by
    funext q
    by_cases h : q < tbl.stateCount <;> simp [predTable, Array.getD, h, predsOf]
  simp only [tableClosed, this]

theorem back_shift (pr : Nat → List Nat) (s p x : Nat) (hp : p ∈ pr s) :
    ∀ n, x ∈ back pr p n → x ∈ back pr s (n + 1) := by
  intro n
  induction n generalizing x with
  | zero =>
    intro hx
    simp only [back, List.mem_singleton] at hx
    subst hx
    simpa [back] using hp
  | succ n ih =>
    intro hx
    simp only [back, List.mem_eraseDups, List.mem_flatMap] at hx
    obtain ⟨q, hq, hxq⟩ := hx
    show x ∈ back pr s (n + 1 + 1)
    rw [back]
    simp only [List.mem_eraseDups, List.mem_flatMap]
    exact ⟨q, ih q hq, hxq⟩

def PTree.isLeaf : PTree → Bool
  | .leaf _ _ => true
  | .node _ _ _ _ _ => false

/-- the clause on leaves serves `accept_root`: an accepting state is no shift target, so the entry below the
extras on top of an accepting stack is a node -/
def StackInv (tbl : Table) : Stack → Prop
  | [] => True
  | (s, t) :: rest =>
    s ≠ 0 ∧ s < tbl.stateCount ∧
    (if t.isExtra = true then s = topState rest
     else topState rest ∈ predsOf tbl s ∧ (t.isLeaf = true → isShiftTarget tbl s = true)) ∧
    StackInv tbl rest

theorem StackInv.cons_extra {s : Nat} {t : PTree} {rest : Stack} (hx : t.isExtra = true) :
    StackInv tbl ((s, t) :: rest) ↔ s ≠ 0 ∧ s < tbl.stateCount ∧ s = topState rest ∧ StackInv tbl rest := by
  simp only [StackInv, hx, if_true]

theorem StackInv.cons_keep {s : Nat} {t : PTree} {rest : Stack} (hx : t.isExtra = false) :
    StackInv tbl ((s, t) :: rest) ↔ s ≠ 0 ∧ s < tbl.stateCount ∧
      (topState rest ∈ predsOf tbl s ∧ (t.isLeaf = true → isShiftTarget tbl s = true)) ∧ StackInv tbl rest := by
  simp only [StackInv, hx, Bool.false_eq_true, if_false]

theorem topState_ok (h1 : 1 < tbl.stateCount) (h : StackInv tbl st) :
    topState st ≠ 0 ∧ topState st < tbl.stateCount := by
  cases st with
  | nil => simp [topState]; omega
  | cons e rest => exact ⟨h.1, h.2.1⟩

theorem pops_inv {n : Nat} {ks : List PTree} {rest : Stack} (h : Pops n st ks rest)
    (hinv : StackInv tbl st) : StackInv tbl rest ∧ topState rest ∈ back (predsOf tbl) (topState st) n := by
  induction h with
  | zero => exact ⟨hinv, by simp [back]⟩
  | @extra n s t tl ks r hx _ ih =>
    obtain ⟨_, _, hlink, htl⟩ := (StackInv.cons_extra hx).1 hinv
    simpa [topState, hlink] using ih htl
  | @keep n s t tl ks r hx _ ih =>
    obtain ⟨_, _, hlink, htl⟩ := (StackInv.cons_keep hx).1 hinv
    exact ⟨(ih htl).1, back_shift _ s _ _ hlink.1 n (ih htl).2⟩

theorem popN_none {n : Nat} (hinv : StackInv tbl st) (h : popN n st = none) :
    ∃ k, k < n ∧ 1 ∈ back (predsOf tbl) (topState st) k := by
  fun_induction popN n st with
  | case1 st => cases h
  | case2 n => exact ⟨0, by omega, by simp [back, topState]⟩
  | case3 n s t rest ks r hp ih => cases h
  | case4 n s t rest hp ih =>
    cases hx : t.isExtra with
    | true =>
      obtain ⟨_, _, hlink, htl⟩ := (StackInv.cons_extra hx).1 hinv
      obtain ⟨k, hk, h1⟩ := ih htl hp
      exact ⟨k, by simpa [hx] using hk, by simpa [topState, hlink] using h1⟩
    | false =>
      obtain ⟨_, _, hlink, htl⟩ := (StackInv.cons_keep hx).1 hinv
      obtain ⟨k, hk, h1⟩ := ih htl hp
      exact ⟨k + 1, by simp only [hx, Bool.false_eq_true, if_false] at hk; omega, back_shift _ s _ _ hlink.1 k h1⟩

structure Closed (tbl : Table) : Prop where
  one : 1 < tbl.stateCount
  act : ∀ s a x, s < tbl.stateCount → s ≠ 0 → x ∈ tbl.actions s a → actionOK tbl (predsOf tbl) s a x = true

theorem closed_of_tableClosed (h : tableClosed tbl = true) : Closed tbl := by
  rw [tableClosed_iff] at h
  simp only [closedWith, Bool.and_eq_true, decide_eq_true_eq, List.all_eq_true, List.mem_range, Bool.or_eq_true, beq_iff_eq] at h
  refine ⟨h.1, ?_⟩
  intro s a x hs hs0 hx
  rcases h.2 s hs with h0 | hr
  · exact absurd h0 hs0
  · exact hr (a, tbl.actions s a) (actions_mem hx) x hx

theorem shift_edge {s a s' : Nat} {r : Bool} (h : Action.shift s' false r ∈ tbl.actions s a) :
    hasEdge tbl s s' = true := by
  unfold hasEdge
  simp only [Bool.or_eq_true, List.any_eq_true]
  exact .inl ⟨(a, tbl.actions s a), actions_mem h, by simpa using mem_shiftTargets h⟩

theorem shift_target {s a s' : Nat} {r : Bool} (hs : s < tbl.stateCount)
    (h : Action.shift s' false r ∈ tbl.actions s a) : isShiftTarget tbl s' = true := by
  unfold isShiftTarget
  simp only [List.any_eq_true, List.mem_range]
  exact ⟨s, hs, (a, tbl.actions s a), actions_mem h, by simpa using mem_shiftTargets h⟩

theorem goto_edge {p A : Nat} (h : tbl.goto p A ≠ 0)
    (hpl : p = tbl.goto p A → plainReduced tbl A = true) : hasEdge tbl p (tbl.goto p A) = true := by
  unfold hasEdge
  simp only [Bool.or_eq_true, List.any_eq_true]
  refine .inr ⟨(A, tbl.goto p A), goto_mem h, ?_⟩
  simp only [beq_self_eq_true, Bool.true_and, Bool.or_eq_true, bne_iff_ne, ne_eq]
  by_cases hpq : p = tbl.goto p A
  · exact .inr (hpl hpq)
  · exact .inl hpq

theorem plainReduced_of {s a A n : Nat} {dp : Int} {pid : Nat} (hs : s < tbl.stateCount)
    (hl : tbl.lexEnd s = false) (h : Action.reduce A n dp pid ∈ tbl.actions s a) : plainReduced tbl A = true := by
  unfold plainReduced
  simp only [List.any_eq_true, List.mem_range, Bool.and_eq_true, Bool.not_eq_true']
  refine ⟨s, hs, hl, (a, tbl.actions s a), actions_mem h, ?_⟩
  unfold hasReduceOf
  simp only [List.any_eq_true]
  exact ⟨_, h, by simp⟩

/-- `reduceOK` says that the base state 1 is not within `n` backward steps of the top state, so `popN` cannot
run out (`popN_none`), and that every state `n` steps back has the goto (`pops_inv`); the trailing extras go
back on top with the goto state. -/
theorem reduce_ok (hc : Closed tbl) (hinv : StackInv tbl st)
    (A n : Nat) (dp : Int) (pid : Nat) (eoe : Bool)
    (hok : reduceOK tbl (predsOf tbl) (topState st) A n = true)
    (hpl : eoe = false → plainReduced tbl A = true) :
    ∃ st', reduce tbl st A n dp pid eoe = .ok st' ∧ StackInv tbl st' := by
  simp only [reduceOK, Bool.and_eq_true, List.all_eq_true, List.mem_range, Bool.not_eq_true', bne_iff_ne, ne_eq,
    decide_eq_true_eq] at hok
  obtain ⟨hbase, hgoto⟩ := hok
  cases hp : popN n st with
  | none =>
    obtain ⟨k, hk, h1⟩ := popN_none hinv hp
    have := hbase k hk
    simp [h1] at this
  | some r =>
    obtain ⟨kids, rest⟩ := r
    obtain ⟨hrest, hback⟩ := pops_inv (pops_of_popN hp) hinv
    obtain ⟨hq0, hqS⟩ := hgoto _ hback
    refine ⟨_, reduce_eq_ok.mpr ⟨kids, rest, hp, hq0, hqS, rfl⟩, ?_⟩
    obtain ⟨hp0, hpS⟩ := topState_ok hc.one hrest
    refine push_on_top (Inv := StackInv tbl) (P := fun t => t.isExtra = true) (q := tbl.goto (topState rest) A)
      (fun t rest hx hr htop => (StackInv.cons_extra hx).2 ⟨hq0, hqS, htop.symm, hr⟩)
      ?_ rfl _ (splitTrailing_extras kids)
    simp only [StackInv, PTree.isExtra, PTree.isLeaf]
    refine ⟨hq0, hqS, ?_, hrest⟩
    by_cases hx : (eoe && tbl.goto (topState rest) A == topState rest) = true
    · simp only [hx, if_true]
      simp only [Bool.and_eq_true, beq_iff_eq] at hx
      exact hx.2
    · simp only [hx, Bool.false_eq_true, if_false, false_implies, and_true]
      refine mem_predsOf hpS hp0 hqS (goto_edge hq0 fun heq => hpl ?_)
      cases eoe with
      | false => rfl
      | true => exact absurd (by simp [← heq]) hx

/-- the state on top of an accepting stack is entered by a goto only: below the extras on top lies a node -/
theorem accept_root {s : Nat} (hs1 : s ≠ 1) (hst : isShiftTarget tbl s = false) :
    ∀ (st : Stack), StackInv tbl st → topState st = s →
      ∃ up sym pid dp kids low, st.map (·.2) = up ++ PTree.node sym pid dp false kids :: low ∧
        ∀ x, x ∈ up → x.isExtra = true := by
  intro st
  induction st with
  | nil => intro _ h; exact absurd h.symm hs1
  | cons e tl ih =>
    intro hinv htop
    obtain ⟨s', t⟩ := e
    simp only [topState] at htop
    subst htop
    cases hx : t.isExtra with
    | true =>
      obtain ⟨_, _, hlink, htl⟩ := (StackInv.cons_extra hx).1 hinv
      obtain ⟨up, sym, pid, dp, kids, low, h, hup⟩ := ih htl hlink.symm
      exact ⟨t :: up, sym, pid, dp, kids, low, by simp [h], List.forall_mem_cons.mpr ⟨hx, hup⟩⟩
    | false =>
      obtain ⟨_, _, hlink, _⟩ := (StackInv.cons_keep hx).1 hinv
      cases t with
      | leaf a ex => rw [hlink.2 rfl] at hst; cases hst
      | node sym pid dp e kids => cases hx; exact ⟨[], sym, pid, dp, kids, tl.map (·.2), rfl, nofun⟩

theorem stepAct_ok (hc : Closed tbl) (hinv : StackInv tbl c.stack)
    (hnz : ∀ x, x ∈ c.toks → x ≠ 0) (ha : Applies tbl c a) :
    (∀ c', stepAct acceptTree tbl c (tbl.lexEnd (topState c.stack)) a = some (.inl c') →
      StackInv tbl c'.stack ∧ ∀ x, x ∈ c'.toks → x ≠ 0) ∧
    (a ≠ .recover → stepAct acceptTree tbl c (tbl.lexEnd (topState c.stack)) a ≠ none) := by
  obtain ⟨hs0, hsS⟩ := topState_ok hc.one hinv
  obtain ⟨la, hmem, hla⟩ := ha.mem
  have hok := hc.act _ _ _ hsS hs0 hmem
  cases a with
  | shift s' e rep =>
    have hle := ha.lexEnd_false (by simp)
    simp only [actionOK, Bool.and_eq_true, bne_iff_ne, ne_eq, Bool.or_eq_true, decide_eq_true_eq, hla hle] at hok
    cases htoks : c.toks with
    | nil => simp [htoks] at hok
    | cons x rest =>
      have hns : (if e = true then topState c.stack else s') ≠ 0 ∧
          (if e = true then topState c.stack else s') < tbl.stateCount := by
        cases e with
        | true => exact ⟨hs0, hsS⟩
        | false => simpa using hok.2
      have hno : ¬ ((if e = true then topState c.stack else s') = 0 ∨
          tbl.stateCount ≤ (if e = true then topState c.stack else s')) := by omega
      simp only [stepAct, htoks, hno, if_false, Option.some.injEq, Sum.inl.injEq]
      refine ⟨?_, fun _ => nofun⟩
      rintro c' rfl
      refine ⟨⟨hns.1, hns.2, ?_, hinv⟩, fun y hy => hnz y (by simp [htoks, hy])⟩
      cases e with
      | true => simp [PTree.isExtra]
      | false =>
        simp only [PTree.isExtra, PTree.isLeaf, Bool.false_eq_true, if_false] at hns ⊢
        exact ⟨mem_predsOf hsS hs0 hns.2 (shift_edge hmem), fun _ => shift_target hsS hmem⟩
  | reduce A n dp pid =>
    obtain ⟨st', hr, hinv'⟩ := reduce_ok hc hinv A n dp pid (tbl.lexEnd (topState c.stack)) hok
      (fun hle => plainReduced_of hsS hle hmem)
    simp only [stepAct, hr, Option.some.injEq, Sum.inl.injEq]
    exact ⟨by rintro c' rfl; exact ⟨hinv', hnz⟩, fun _ => nofun⟩
  | accept =>
    have hle := ha.lexEnd_false (by simp)
    simp only [actionOK, Bool.and_eq_true, beq_iff_eq, bne_iff_ne, ne_eq, Bool.not_eq_true', hla hle] at hok
    obtain ⟨⟨ha0, hs1⟩, hst⟩ := hok
    cases htoks : c.toks with
    | cons x rest => exact absurd (by simpa [htoks] using ha0) (hnz x (by simp [htoks]))
    | nil =>
      obtain ⟨up, sym, pid, dp, kids, low, hl, hup⟩ := accept_root hs1 hst c.stack hinv rfl
      simp only [stepAct, htoks, acceptTree_eq_some.mpr ⟨up, sym, pid, dp, kids, low, hl, hup, rfl⟩]
      exact ⟨nofun, fun _ => nofun⟩
  | recover => exact ⟨nofun, fun h => absurd rfl h⟩

theorem runLoop_no_fault (hc : Closed tbl) {fuel : Nat} (hinv : StackInv tbl c.stack)
    (hnz : ∀ a, a ∈ c.toks → a ≠ 0) (f : Fault) : runLoop tbl fuel c ≠ .fault f := by
  intro h
  obtain ⟨c', hI, hfin⟩ := runLoop_ends (I := fun c => StackInv tbl c.stack ∧ ∀ a, a ∈ c.toks → a ≠ 0)
    (fun _ _ c1 hc1 ha hact => (stepAct_ok hc hc1.1 hc1.2 ha).1 c1 hact) h nofun ⟨hinv, hnz⟩
  obtain ⟨a, ha, hrec, hnone⟩ := step_fault_elim hfin
  exact (stepAct_ok hc hI.1 hI.2 ha).2 hrec hnone

end TsVerif.C03
