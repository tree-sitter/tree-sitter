import TsVerif.C03.Lang
/-!
# Soundness of the bounded language enumerator (`enumLang_sound`, `enumFix_sound`, behind `enum_sound`, `oracle_sound`)

First the closure of `DerivesTok` under repeats (`rep_append` … `rep1_append_rep`; `RelateLemmas.lean` uses it).
-/
namespace TsVerif.C03

theorem rep_append {g : Grammar} {a : Rule} {u : List Tok} (hu : DerivesTok g (.rep a) u) :
    ∀ v, DerivesTok g (.rep a) v → DerivesTok g (.rep a) (u ++ v) := by
  intro v hv
  generalize hr : Rule.rep a = r at hv
  induction hv with
  | repNil => cases hr; simpa using hu
  | repCons h1 h2 ih1 _ =>
    cases hr
    rw [← List.append_assoc]
    exact .repCons (ih1 rfl) h2
  | _ => cases hr

theorem rep1_to_rep {g : Grammar} {a : Rule} {w : List Tok} (h : DerivesTok g (.rep1 a) w) : DerivesTok g (.rep a) w := by
  cases h with
  | rep1 h1 h2 => exact .repCons h1 h2

theorem rep1_of_one {g : Grammar} {a : Rule} {w : List Tok} (h : DerivesTok g a w) : DerivesTok g (.rep1 a) w := by
  simpa using DerivesTok.rep1 (a := a) .repNil h

theorem rep_of_one {g : Grammar} {a : Rule} {w : List Tok} (h : DerivesTok g a w) : DerivesTok g (.rep a) w := by
  simpa using DerivesTok.repCons (a := a) .repNil h

theorem rep1_append_rep {g : Grammar} {a : Rule} {u : List Tok} (hu : DerivesTok g (.rep1 a) u) :
    ∀ v, DerivesTok g (.rep a) v → DerivesTok g (.rep1 a) (u ++ v)
  | _, .repNil => by simpa using hu
  | _, .repCons h1 h2 => by
    rw [← List.append_assoc]
    exact .rep1 (rep_append (rep1_to_rep hu) _ h1) h2

theorem dedup_fold_sub {α : Type} [BEq α] [Hashable α] {x : α} (l : List α) :
    ∀ acc : Std.HashSet α × List α,
      x ∈ (l.foldl (fun (acc : Std.HashSet α × List α) x =>
          if acc.1.contains x then acc else (acc.1.insert x, x :: acc.2)) acc).2 → x ∈ acc.2 ∨ x ∈ l := by
  induction l with
  | nil => exact fun _ h => .inl h
  | cons y ys ih =>
    intro acc h
    simp only [List.foldl] at h
    rcases ih _ h with h' | h'
    · split at h'
      · exact .inl h'
      · rcases List.mem_cons.mp h' with rfl | h''
        · exact .inr List.mem_cons_self
        · exact .inl h''
    · exact .inr (List.mem_cons_of_mem _ h')

theorem dedupH_sub {l : List (List Tok)} {x : List Tok} (h : x ∈ dedupH l) : x ∈ l := by
  simpa using dedup_fold_sub l _ (List.mem_reverse.mp h)

theorem concatUpTo_mem {L : Nat} {A B : List (List Tok)} {w : List Tok} (h : w ∈ concatUpTo L A B) :
    ∃ u v, u ∈ A ∧ v ∈ B ∧ w = u ++ v := by
  simp only [concatUpTo, List.mem_flatMap, List.mem_filterMap, Option.ite_none_right_eq_some, Option.some.injEq] at h
  obtain ⟨u, hu, v, hv, -, rfl⟩ := h
  exact ⟨u, v, hu, hv, rfl⟩

theorem repClose_sound {g : Grammar} {a : Rule} {L : Nat} {A : List (List Tok)}
    (hA : ∀ w, w ∈ A → DerivesTok g a w) : ∀ k w, w ∈ repClose L A k → DerivesTok g (.rep a) w := by
  intro k
  induction k with
  | zero => intro w h; simp [repClose] at h; subst h; exact .repNil
  | succ k ih =>
    intro w h
    simp only [repClose] at h
    have h := dedupH_sub h
    rcases List.mem_append.mp h with h | h
    · exact ih w h
    · obtain ⟨u, v, hu, hv, rfl⟩ := concatUpTo_mem h
      exact .repCons (ih u hu) (hA v hv)

def EnvSound (g : Grammar) (env : Env) : Prop :=
  ∀ x w, w ∈ env.get x → ∀ b, g.body x = some b → isTerminalBody b = false → DerivesTok g b w

theorem evalRule_sound {g : Grammar} {env : Env} {L : Nat} (henv : EnvSound g env) :
    ∀ (r : Rule) (w : List Tok), w ∈ evalRule g env L r → DerivesTok g r w := by
  intro r
  induction r <;> intro w h <;> simp only [evalRule, List.mem_singleton, List.not_mem_nil] at h
  case blank => exact h ▸ .blank
  case str s => exact h ▸ .str
  case sym x =>
    split at h
    · next b hb =>
      split at h
      · next ht => cases List.mem_singleton.mp h; exact .symTok hb ht
      · next ht => exact .symRule hb (by simpa using ht) (henv x w h b hb (by simpa using ht))
    · simp at h
  case seq a b iha ihb =>
    obtain ⟨u, v, hu, hv, rfl⟩ := concatUpTo_mem (dedupH_sub h)
    exact .seq (iha u hu) (ihb v hv)
  case choice a b iha ihb =>
    rcases List.mem_append.mp (dedupH_sub h) with h | h
    · exact .choiceL (iha w h)
    · exact .choiceR (ihb w h)
  case rep a iha => exact repClose_sound iha L w h
  case rep1 a iha =>
    obtain ⟨u, v, hu, hv, rfl⟩ := concatUpTo_mem (dedupH_sub h)
    exact .rep1 (repClose_sound iha L u hu) (iha v hv)
  case field n a iha => exact .field (iha w h)
  case «alias» v n a iha => exact .alias (iha w h)
  case prec k v a iha => exact .prec (iha w h)

theorem get_map_rules {β : Type} (rules : List (String × Rule)) (ev : Rule → List β) (x : String) (w : β)
    (h : w ∈ ((rules.map fun (x, b) => (x, ev b)).lookup x).getD []) : ∃ b, rules.lookup x = some b ∧ w ∈ ev b := by
  induction rules with
  | nil => simp at h
  | cons e es ih =>
    obtain ⟨k, b⟩ := e
    simp only [List.map_cons, List.lookup_cons] at h ⊢
    cases hk : x == k with
    | true => exact ⟨b, rfl, by simpa [hk] using h⟩
    | false => exact ih (by simpa [hk] using h)

theorem enumStep_sound {g : Grammar} {L : Nat} {env : Env} (henv : EnvSound g env) : EnvSound g (enumStep g L env) := by
  intro x w hw b hb _
  obtain ⟨b', hb', hw'⟩ := get_map_rules g.rules (evalRule g env L) x w hw
  cases hb.symm.trans hb'
  exact evalRule_sound henv b w hw'

theorem enumLang_sound (g : Grammar) (L : Nat) : ∀ k, EnvSound g (enumLang g L k) := by
  intro k
  induction k with
  | zero => intro x w hw; simp [enumLang, Env.get] at hw
  | succ k ih => exact enumStep_sound ih

theorem enumFix_sound (g : Grammar) (L : Nat) : ∀ (cap k : Nat) (env : Env), EnvSound g env →
    EnvSound g (enumFix g L cap k env).1 := by
  intro cap
  induction cap with
  | zero => intro k env h; simpa [enumFix] using h
  | succ cap ih =>
    intro k env h
    simp only [enumFix]
    split
    · exact enumStep_sound h
    · exact ih _ _ (enumStep_sound h)

end TsVerif.C03
