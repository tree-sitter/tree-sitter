import TsVerif.C03.Rename
import TsVerif.C03.RelateLemmas
import TsVerif.C03.CoverLemmas
/-!
# C03 — the driver does not read the names of non-terminals

`step` on the renamed table is `step` (`step_rename`, by `rfl`) and the names of terminals stay (`tokOf_rename`), so
`parser_sound` and `parser_complete`, validated on the renamed table, speak of the dumped one.
-/
namespace TsVerif.C03

theorem step_rename (tbl : Table) (ren : List (Nat × String)) (c : Conf) :
    step (renameNT tbl ren) c = step tbl c := rfl

theorem runLoop_rename (tbl : Table) (ren : List (Nat × String)) : ∀ (f : Nat) (c : Conf),
    runLoop (renameNT tbl ren) f c = runLoop tbl f c := by
  intro f
  induction f with
  | zero => intro c; rfl
  | succ n ih => intro c; simp only [runLoop, step_rename, ih]

theorem tokOf_rename (tbl : Table) (ren : List (Nat × String)) (a : Nat) (h : a < tbl.tokenCount) :
    tokOf (renameNT tbl ren) a = tokOf tbl a := by
  unfold tokOf Table.symName renameNT
  have hn : ¬ tbl.tokenCount ≤ a := by omega
  by_cases ha : a < tbl.syms.size
  · simp [Array.getD, ha, hn]
  · simp [Array.getD, ha]

theorem isExtraSym_rename (tbl : Table) (ren : List (Nat × String)) (a : Nat) :
    isExtraSym (renameNT tbl ren) a = isExtraSym tbl a := rfl

theorem parser_sound_renamed (g : Grammar) (tbl : Table) (ren : List (Nat × String)) (aux : AuxMap)
    (hsafe : tableSafe (renameNT tbl ren) = true) (hrel : relOK g (renameNT tbl ren) aux = true)
    (toks : List Nat) (htoks : ∀ a, a ∈ toks → a < tbl.tokenCount ∧ a ≠ 0) (t : PTree) (f : Nat)
    (h : runLoop tbl f { stack := [], toks := toks } = .accepted t) :
    DerivesTok g (.sym g.start) ((toks.filter fun a => !isExtraSym tbl a).map (tokOf tbl)) := by
  have := parser_sound_fuel hsafe hrel (fun a ha => (htoks a ha).2) ((runLoop_rename tbl ren f _).trans h)
  rwa [List.map_congr_left fun a ha => tokOf_rename tbl ren a (htoks a (List.mem_filter.mp ha).1).1] at this

theorem parser_complete_renamed (g : Grammar) (tbl : Table) (ren : List (Nat × String)) (aux : AuxMap)
    (P : List Prod) (ann : Ann) (start : Nat)
    (hcov : coverOK g (renameNT tbl ren) aux P start = true)
    (hok : completeOK (renameNT tbl ren) P (auxAllow aux) ann start = true)
    (toks : List Nat) (htoks : ∀ a, a ∈ toks → a < tbl.tokenCount ∧ a ≠ 0)
    (hd : DerivesTok g (.sym g.start) (toks.map (tokOf tbl))) :
    ∃ f pt, runLoop tbl f { stack := [], toks := toks } = .accepted pt := by
  have hm : toks.map (tokOf (renameNT tbl ren)) = toks.map (tokOf tbl) :=
    List.map_congr_left fun a ha => tokOf_rename tbl ren a (htoks a ha).1
  obtain ⟨f, pt, h⟩ := parser_complete g (renameNT tbl ren) aux P ann start hcov hok toks htoks (hm ▸ hd)
  exact ⟨f, pt, (runLoop_rename tbl ren f _).symm.trans h⟩

end TsVerif.C03
