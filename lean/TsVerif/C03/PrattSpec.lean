import TsVerif.C03.Pratt
/-!
# C03 — what it means for an expression tree to respect the operator table (`Respects`)
-/
namespace TsVerif.C03

/-- the top operator of `e` (if it is a binary or postfix node) was allowed to continue under `ctx` -/
def topOK (t : OpTable) (ctx : PCtx) : ETree → Bool
  | .bin k _ _ => shouldShift ctx (t.binIn k)
  | .post k _ => shouldShift ctx (t.postIn k)
  | _ => true

/-- `l` may be the left operand of an operator of level `p`: whatever operator is at the top of `l`
was completed (reduced) when that operator arrived, i.e. it was not allowed to continue under it
(a postfix operator at the top of `l` is complete by itself) -/
def leftOK (t : OpTable) (p : List Int) : ETree → Bool
  | .bin k1 _ _ => !shouldShift (some (t.binLevel k1, t.binRight k1)) p
  | .un u _ => !shouldShift (some (t.unLevel u, false)) p
  | _ => true

def Respects (t : OpTable) : ETree → Bool
  | .atom => true
  | .paren e => Respects t e
  | .un u e => Respects t e && topOK t (some (t.unLevel u, false)) e
  | .bin k l r => Respects t l && Respects t r && topOK t (some (t.binLevel k, t.binRight k)) r &&
      leftOK t (t.binIn k) l
  | .post k e => Respects t e && leftOK t (t.postIn k) e

end TsVerif.C03
