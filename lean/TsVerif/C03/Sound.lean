import TsVerif.C03.Driver
/-!
# C03 — `driver_sound`: every accepted tree is a tree over the productions the table spells

`P` is recovered from the table alone: a production `(A, [X₁ … Xₙ], production_id)` belongs to the
table when some state `s` has a reduce action `(A, n, production_id)` and `X₁ … Xₙ` labels a path of
`n` non-extra transitions into `s` (`pathsBack`).  `driver_sound`: every node of every tree the
driver accepts — for ALL token strings — is an instance of such a production: its non-extra
children carry exactly the symbols `X₁ … Xₙ` (the standard LR invariant: the stack spells a path of
the automaton).  Relating `P` to the source grammar: per output tree by `check_sound`,
per grammar in `Relate.lean`.  The theorem is proved in `SoundLemmas.lean`.
-/
namespace TsVerif.C03

/-- a non-extra transition `p →X q` of the table: a (non-extra) shift of token `X`, or a goto on `X` -/
def symEdge (tbl : Table) (p X q : Nat) : Bool :=
  (shiftTargets (tbl.actions p X)).contains q || (tbl.goto p X == q && q != 0)

/-- the labels of the transitions `p → q`, read off the two rows of `p` -/
def rowEdges (tbl : Table) (p q : Nat) : List Nat :=
  ((tbl.acts.getD p []).filterMap fun e => if symEdge tbl p e.1 q then some e.1 else none) ++
  ((tbl.gotos.getD p []).filterMap fun e => if symEdge tbl p e.1 q then some e.1 else none)

/-- all (origin state, label sequence) of paths of `n` non-extra transitions into `s` -/
def pathsBack (tbl : Table) (s : Nat) : Nat → List (Nat × List Nat)
  | 0 => [(s, [])]
  | n + 1 =>
    ((pathsBack tbl s n).flatMap fun e =>
      (List.range tbl.stateCount).flatMap fun p => (rowEdges tbl p e.1).map fun X => (p, X :: e.2)).eraseDups

/-- `(A, syms, pid)` is a production the table spells -/
def IsProd (tbl : Table) (A : Nat) (syms : List Nat) (pid : Nat) : Prop :=
  ∃ s a n dp p, Action.reduce A n dp pid ∈ tbl.actions s a ∧ (p, syms) ∈ pathsBack tbl s n

def nonExtraSyms (ks : List PTree) : List Nat := (ks.filter fun k => !k.isExtra).map PTree.sym

def isShiftExtra : Action → Bool
  | .shift _ true _ => true
  | _ => false

def isExtraSym (tbl : Table) (a : Nat) : Bool :=
  (List.range tbl.acts.size).any fun s => (tbl.actions s a).any isShiftExtra

def LeafOK (tbl : Table) (s : Nat) (e : Bool) : Prop :=
  (e = true → isExtraSym tbl s = true ∨ s = 0) ∧
  (e = false → s ≠ 0 ∧ s < tbl.tokenCount ∧ isExtraSym tbl s = false)

inductive TreeOver (tbl : Table) : PTree → Prop
  | leaf {s e} : LeafOK tbl s e → TreeOver tbl (.leaf s e)
  | node {A pid dp e ks} : e = false → IsProd tbl A (nonExtraSyms ks) pid → (∀ t, t ∈ ks → TreeOver tbl t) →
      TreeOver tbl (.node A pid dp e ks)

def leafSafe (tbl : Table) : Bool :=
  (List.range tbl.acts.size).all fun s => (tbl.acts.getD s []).all fun e =>
    (tbl.actions s e.1).all fun a => match a with
      | .shift _ false _ => e.1 != 0 && decide (e.1 < tbl.tokenCount) && !isExtraSym tbl e.1
      | _ => true

/-- no state is an "end of a non-terminal extra" state (grammars without non-terminal extras) -/
def noLexEnd (tbl : Table) : Bool := tbl.lexState.toList.all fun v => v != 65535

/-- no non-extra transition enters the start state, and the only way into an accepting state is
from the start state: then everything below the root on the stack at acceptance is an extra -/
def rootSafe (tbl : Table) : Bool :=
  ((List.range tbl.stateCount).all fun p => (rowEdges tbl p 1).isEmpty) &&
  ((List.range tbl.stateCount).all fun s =>
    !((tbl.acts.getD s []).any fun e => e.2.contains Action.accept) ||
      ((List.range tbl.stateCount).all fun p => (rowEdges tbl p s).isEmpty || p == 1))

def tableSafe (tbl : Table) : Bool :=
  decide (1 < tbl.stateCount) && rootSafe tbl && leafSafe tbl && noLexEnd tbl

end TsVerif.C03
