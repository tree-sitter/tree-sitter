import TsVerif.C03.PrattSpec
/-!
# The Pratt tree has the token string as its yield and respects the operator table
-/
namespace TsVerif.C03

/-- produced by the operator loop (a binary or postfix node) rather than by the prefix parser -/
def isLoopNode : ETree → Bool
  | .bin _ _ _ => true
  | .post _ _ => true
  | _ => false

/-- the loop stopped before `rest`: the operator that comes next may not continue under `ctx` -/
def Declined (t : OpTable) (ctx : PCtx) (rest : List OpTok) : Prop :=
  (∀ k r, rest = .bin k :: r → shouldShift ctx (t.binIn k) = false) ∧
  (∀ k r, rest = .post k :: r → shouldShift ctx (t.postIn k) = false)

/-- if `e` becomes the LEFT operand of the operator that comes next, its top operator is complete -/
def LeftReady (t : OpTable) (e : ETree) (rest : List OpTok) : Prop :=
  (∀ k r, rest = .bin k :: r → leftOK t (t.binIn k) e = true) ∧
  (∀ k r, rest = .post k :: r → leftOK t (t.postIn k) e = true)

/-- what `parseExpr ctx` returns -/
structure ExprPost (t : OpTable) (ctx : PCtx) (toks : List OpTok) (e : ETree) (rest : List OpTok) : Prop where
  yield : toks = e.yield ++ rest
  resp : Respects t e = true
  top : topOK t ctx e = true
  decl : Declined t ctx rest

/-- what `parsePrefix` returns: an operand that the loop may take as its first left operand -/
structure PrefixPost (t : OpTable) (toks : List OpTok) (e : ETree) (rest : List OpTok) : Prop where
  yield : toks = e.yield ++ rest
  resp : Respects t e = true
  notLoop : isLoopNode e = false
  left : LeftReady t e rest

/-- the three functions meet their postconditions with fuel `f`; the third conjunct is the invariant of the
operator loop -/
def PAt (t : OpTable) (f : Nat) : Prop :=
  (∀ ctx toks e rest, parseExpr t f ctx toks = some (e, rest) → ExprPost t ctx toks e rest) ∧
  (∀ toks e rest, parsePrefix t f toks = some (e, rest) → PrefixPost t toks e rest) ∧
  (∀ ctx lhs toks e rest, parseLoop t f ctx lhs toks = some (e, rest) →
      Respects t lhs = true → topOK t ctx lhs = true → LeftReady t lhs toks →
      (e.yield ++ rest = lhs.yield ++ toks ∧ Respects t e = true ∧ topOK t ctx e = true ∧ Declined t ctx rest))

theorem topOK_of_notLoop {t : OpTable} {ctx : PCtx} {e : ETree} (h : isLoopNode e = false) : topOK t ctx e = true := by
  cases e <;> simp_all [isLoopNode, topOK]

theorem Declined.leftReady {t : OpTable} {ctx : PCtx} {e : ETree} {rest : List OpTok}
    (he : ∀ p, leftOK t p e = !shouldShift ctx p) (h : Declined t ctx rest) : LeftReady t e rest :=
  ⟨fun k r hr => by simp [he, h.1 k r hr], fun k r hr => by simp [he, h.2 k r hr]⟩

theorem pratt_step (t : OpTable) (f : Nat) (ih : PAt t f) : PAt t (f + 1) := by
  obtain ⟨ihE, ihP, ihL⟩ := ih
  refine ⟨?_, ?_, ?_⟩
  · intro ctx toks e rest h
    simp only [parseExpr] at h
    split at h
    · next lhs r hp =>
      have pp := ihP toks lhs r hp
      have := ihL ctx lhs r e rest h pp.resp (topOK_of_notLoop pp.notLoop) pp.left
      exact ⟨by rw [pp.yield]; exact this.1.symm, this.2.1, this.2.2.1, this.2.2.2⟩
    · cases h
  · intro toks e rest h
    simp only [parsePrefix] at h
    split at h
    · next r => cases h; exact ⟨by simp [ETree.yield], rfl, rfl, ⟨fun _ _ _ => rfl, fun _ _ _ => rfl⟩⟩
    · next r =>
      split at h
      · next e' r' he =>
        cases h
        have ep := ihE none r e' _ he
        exact ⟨by rw [ep.yield]; simp [ETree.yield], by simpa [Respects] using ep.resp, rfl,
          ⟨fun _ _ _ => rfl, fun _ _ _ => rfl⟩⟩
      · cases h
    · next u r =>
      split at h
      · next e' r' he =>
        cases h
        have ep := ihE _ r e' _ he
        exact ⟨by rw [ep.yield]; simp [ETree.yield], by simp [Respects, ep.resp, ep.top], rfl,
          ep.decl.leftReady fun _ => rfl⟩
      · cases h
    · cases h
  · intro ctx lhs toks e rest h hresp htop hleft
    simp only [parseLoop] at h
    split at h
    · next k r =>
      split at h
      · next hshift =>
        split at h
        · next rhs r' he =>
          have ep := ihE _ r rhs r' he
          have hresp' : Respects t (.bin k lhs rhs) = true := by
            simp only [Respects, Bool.and_eq_true]
            exact ⟨⟨⟨hresp, ep.resp⟩, ep.top⟩, hleft.1 k r rfl⟩
          have := ihL ctx (.bin k lhs rhs) r' e rest h hresp' (by simpa [topOK] using hshift)
            (ep.decl.leftReady fun _ => rfl)
          refine ⟨?_, this.2⟩
          rw [this.1, ep.yield]
          simp [ETree.yield, List.append_assoc]
        · cases h
      · next hshift =>
        cases h
        exact ⟨rfl, hresp, htop, by rintro k' r' ⟨⟩; simpa using hshift, by rintro k' r' ⟨⟩⟩
    · next k r =>
      split at h
      · next hshift =>
        have hresp' : Respects t (.post k lhs) = true := by
          simp only [Respects, Bool.and_eq_true]
          exact ⟨hresp, hleft.2 k r rfl⟩
        have hleft' : LeftReady t (.post k lhs) r := ⟨fun _ _ _ => rfl, fun _ _ _ => rfl⟩
        have := ihL ctx (.post k lhs) r e rest h hresp' (by simpa [topOK] using hshift) hleft'
        refine ⟨?_, this.2⟩
        rw [this.1]
        simp [ETree.yield, List.append_assoc]
      · next hshift =>
        cases h
        exact ⟨rfl, hresp, htop, by rintro k' r' ⟨⟩, by rintro k' r' ⟨⟩; simpa using hshift⟩
    · next hnb hnp =>
      cases h
      exact ⟨rfl, hresp, htop, fun k r hr => absurd hr (hnb k r), fun k r hr => absurd hr (hnp k r)⟩

theorem pratt_all (t : OpTable) : ∀ f, PAt t f := by
  intro f
  induction f with
  | zero =>
    refine ⟨?_, ?_, ?_⟩
    · intro ctx toks e rest h; simp [parseExpr] at h
    · intro toks e rest h; simp [parsePrefix] at h
    · intro ctx lhs toks e rest h; simp [parseLoop] at h
  | succ f ih => exact pratt_step t f ih

theorem pratt_post {t : OpTable} {toks : List OpTok} {e : ETree} (h : pratt t toks = some e) :
    ExprPost t none toks e [] := by
  unfold pratt at h
  split at h
  · next e' he => cases h; exact (pratt_all t _).1 none toks e [] he
  · cases h

end TsVerif.C03
