import TsVerif.C03.Table
/-!
# C03 — the raw parse-table rows and the runtime's lookup

The dump also carries, per state, the RAW content of the row the runtime decodes: for a large state
the row of `parse_table` (indexed by symbol), for a small state the record of `small_parse_table`
(group count, then per group: value, symbol count, symbols — `lib/include/tree_sitter/parser.h`,
written by the generator's `render`), and the value `ts_language_lookup` returns for every symbol.
`rawLookup` is the format's meaning: the value of the first group that lists the symbol, 0 if none
does.  `rawTie` compares it with the runtime's answer for every (state, symbol) of the table — an
exhaustive tie between the table the generator wrote and the table the parser walks.
-/
namespace TsVerif.C03

inductive RawRow where
  | large (vals : List Nat)
  | small (groups : List (Nat × List Nat))
  deriving Repr, Inhabited

/-- parse `value count sym… value count sym…` -/
def parseGroups : Nat → Nat → List Nat → List (Nat × List Nat)
  | 0, _, _ => []
  | _, 0, _ => []
  | f + 1, n + 1, v :: c :: rest => (v, rest.take c) :: parseGroups f n (rest.drop c)
  | _, _, _ => []

def smallLookup : List (Nat × List Nat) → Nat → Nat
  | [], _ => 0
  | (v, syms) :: rest, y => if syms.contains y then v else smallLookup rest y

def rawLookup (r : RawRow) (y : Nat) : Nat :=
  match r with
  | .large vals => vals.getD y 0
  | .small groups => smallLookup groups y

structure RawDump where
  rows : List (Nat × RawRow) := []
  looked : List (Nat × List Nat) := []
  deriving Inhabited

def RawDump.addLine (d : RawDump) (line : String) : RawDump :=
  match line.splitOn " " with
  | "rawL" :: s :: vals => { d with rows := (natOf' s, .large (vals.map natOf')) :: d.rows }
  | "rawS" :: s :: gc :: rest =>
    let nums := rest.map natOf'
    { d with rows := (natOf' s, .small (parseGroups (nums.length + 1) (natOf' gc) nums)) :: d.rows }
  | "v" :: s :: vals => { d with looked := (natOf' s, vals.map natOf') :: d.looked }
  | _ => d

/-- the first (state, symbol, raw value, looked-up value) on which the runtime's lookup differs from
the raw row; `none` = they agree everywhere (or the dump carries no raw rows) -/
def rawTie (d : RawDump) (symbolCount : Nat) : Option (Nat × Nat × Nat × Nat) :=
  d.rows.findSome? fun (s, row) =>
    match d.looked.lookup s with
    | none => some (s, 0, 0, 0)
    | some vals =>
      (List.range symbolCount).findSome? fun y =>
        let a := rawLookup row y
        let b := vals.getD y 0
        if a == b then none else some (s, y, a, b)

/-- `ts_language_alias_sequence` returns row `production_id` of `ts_alias_sequences` (stride
`max_alias_sequence_length`) for every production id but 0, and `ts_parser__reduce` / the tree cursor
index it with every child position: a reduce action with a non-zero production id must not have more
children than the row is long, or the runtime reads the NEXT production's aliases (or past the table).
Returns the first offending (state, symbol, child count). -/
def aliasRowOverrun (tbl : Table) : Option (Nat × Nat × Nat) :=
  (List.range tbl.acts.size).findSome? fun s =>
    (tbl.acts.getD s []).findSome? fun e =>
      e.2.findSome? fun a => match a with
        | .reduce _ n _ pid => if pid != 0 && n > tbl.maxAliasSeqLen then some (s, e.1, n) else none
        | _ => none

end TsVerif.C03
