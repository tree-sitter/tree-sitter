import TsVerif.C03.Table
/-!
# C03 — the names of non-terminals are immaterial

`extract_default_aliases` gives a rule that is aliased at every use the alias as its symbol name, so
the table's name of a non-terminal need not be the grammar's.  The driver never looks at names, and
the conclusions of `parser_sound` / `parser_complete` mention only the names of TERMINALS; so the
per-grammar validations (`relOK`, `coverOK`, `completeOK`) may be evaluated on the dumped table with
its non-terminals renamed by an untrusted map (`renameNT`), and the theorems transfer to the dumped
table itself (`runLoop_rename`, `tokOf_rename`; `RenameLemmas.lean`).
-/
namespace TsVerif.C03

def renameNT (tbl : Table) (ren : List (Nat × String)) : Table :=
  { tbl with syms := (Array.range tbl.syms.size).map fun y =>
      let i := tbl.syms.getD y default
      if tbl.tokenCount ≤ y then
        match ren.lookup y with
        | some n => { i with name := n }
        | none => i
      else i }

end TsVerif.C03
