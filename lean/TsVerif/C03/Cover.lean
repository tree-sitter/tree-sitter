import TsVerif.C03.Relate
import TsVerif.C03.Complete
/-!
# C03 — completeness, second half: every derivation of the source grammar is a tree over `P`

`Relate.lean` goes from the table to `grammar.json` (every production of the table is an instance of
the source rule of its left-hand side).  This file goes the other way.  `expand` is a canonical
flattening of a source rule into sequences of table symbols (choices multiplied out, a `REPEAT` replaced
by its auxiliary symbol or by nothing, inlined rules substituted, hidden rules kept as symbols — the
table may have removed their unit reductions, which `completeOK`'s unit-skip items validate).
`coverOK g tbl aux P start` is decidable: every sequence `expand` yields for the rule of a non-terminal
of the table is a production in `P`, an auxiliary symbol `R` for the rule `a` has `R → R R` and every
sequence of `a`, and the terminals carry distinct names.

`grammar_cover`: then every `DerivesTok` derivation from the start rule has a derivation tree over `P`
with the same token string, of the left-nested shape `auxAllow` describes.
`parser_complete`: with `completeOK` for that `P` (validated on the real table): every token string
(no extra tokens) the grammar derives is accepted by the driver — the converse of `parser_sound`.  Both are proved in `CoverLemmas.lean`.
-/
namespace TsVerif.C03

/-- the terminal of the table that carries this name (0 = none) -/
def tokId (tbl : Table) (t : Tok) : Nat :=
  ((List.range tbl.tokenCount).find? fun y => y != 0 && tokOf tbl y == t).getD 0

/-- the (non-auxiliary) non-terminal of the table that carries this name (0 = none) -/
def ntId (tbl : Table) (aux : AuxMap) (x : String) : Nat :=
  ((List.range tbl.symbolCount).find? fun y =>
    decide (tbl.tokenCount ≤ y) && (aux.lookup y).isNone && tbl.symName y == x).getD 0

/-- the auxiliary symbol that repeats this rule (0 = none) -/
def auxId (tbl : Table) (aux : AuxMap) (a : Rule) : Nat :=
  ((aux.find? fun e => e.2 == a && decide (tbl.tokenCount ≤ e.1) && decide (e.1 < tbl.symbolCount) && aux.lookup e.1 == some a).map (·.1)).getD 0

/-- The canonical flattening of a rule: the sequences of table symbols it stands for.  The symbol 0
(the end token, never part of a production) marks "not expressible": no fuel, a name without a symbol,
a construct outside the token-level semantics. -/
def expand (g : Grammar) (tbl : Table) (aux : AuxMap) : Nat → Rule → List (List Nat)
  | 0, _ => [[0]]
  | f + 1, r =>
    match r with
    | .blank => [[]]
    | .str s => [[tokId tbl ⟨s, false⟩]]
    | .sym x =>
      match g.body x with
      | none => [[0]]
      | some b =>
        if isTerminalBody b then [[tokId tbl ⟨x, true⟩]]
        else if g.inline.contains x then expand g tbl aux f b
        else [[ntId tbl aux x]]
    | .seq a b => (expand g tbl aux f a).flatMap fun u => (expand g tbl aux f b).map fun v => u ++ v
    | .choice a b => expand g tbl aux f a ++ expand g tbl aux f b
    | .rep a => [[], [auxId tbl aux a]]
    | .rep1 a => [[auxId tbl aux a]]
    | .field _ a => expand g tbl aux f a
    | .alias _ _ a => expand g tbl aux f a
    | .prec _ _ a => expand g tbl aux f a
    | _ => [[0]]

/-- the trees `grammar_cover` builds: repeats nest to the left (`R → R R` has a content production as
its second child) -/
def auxAllow (aux : AuxMap) : Allow := fun q i p =>
  !(decide (i > 0) && (aux.lookup q.1).isSome && p.1 == q.1 && p.2.1.contains p.1)

def hasProd (P : List Prod) (A : Nat) (syms : List Nat) : Bool := P.any fun p => p.1 == A && p.2.1 == syms

def tokInj (tbl : Table) : Bool :=
  (List.range tbl.tokenCount).all fun a => (List.range tbl.tokenCount).all fun b =>
    a == 0 || b == 0 || a == b || tokOf tbl a != tokOf tbl b

def ntCoverOK (g : Grammar) (tbl : Table) (aux : AuxMap) (P : List Prod) (y : Nat) : Bool :=
  match aux.lookup y with
  | some a =>
    hasProd P y [y, y] &&
    (expand g tbl aux (relFuel g) a).all fun syms => !syms.contains 0 && !syms.contains y && hasProd P y syms
  | none =>
    match g.body (tbl.symName y) with
    | some b => (expand g tbl aux (relFuel g) b).all fun syms => !syms.contains 0 && hasProd P y syms
    | none => false

def coverOK (g : Grammar) (tbl : Table) (aux : AuxMap) (P : List Prod) (start : Nat) : Bool :=
  start == ntId tbl aux g.start && start != 0 &&
  (match g.body g.start with
   | some b => !isTerminalBody b
   | none => false) &&
  tokInj tbl &&
  (List.range tbl.symbolCount).all fun y => decide (y < tbl.tokenCount) || ntCoverOK g tbl aux P y

end TsVerif.C03
