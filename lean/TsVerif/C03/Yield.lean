import TsVerif.C03.DriverSteps
/-!
# The leaves of an accepted tree are the tokens; the tree kept among all accepting runs
-/
namespace TsVerif.C03

variable {tbl : Table} {c : Conf} {a : Action} {st : Stack}

/-- the leaves of the trees on the stack, bottom first -/
def stackLeaves (st : Stack) : List Nat := PTree.leavesL (st.map (·.2)).reverse

@[simp] theorem stackLeaves_nil : stackLeaves [] = [] := rfl

theorem leavesL_append (xs ys : List PTree) : PTree.leavesL (xs ++ ys) = PTree.leavesL xs ++ PTree.leavesL ys := by
  induction xs with
  | nil => simp [PTree.leavesL]
  | cons x xs ih => simp [PTree.leavesL, ih]

theorem stackLeaves_cons (s : Nat) (t : PTree) (st : Stack) : stackLeaves ((s, t) :: st) = stackLeaves st ++ t.leaves := by
  simp [stackLeaves, leavesL_append, PTree.leavesL]

theorem pops_leaves {n : Nat} {ks : List PTree} {rest : Stack} (h : Pops n st ks rest) :
    stackLeaves st = stackLeaves rest ++ PTree.leavesL ks := by
  induction h with
  | zero => simp [PTree.leavesL]
  | extra _ _ ih => simp [stackLeaves_cons, ih, leavesL_append, PTree.leavesL]
  | keep _ _ ih => simp [stackLeaves_cons, ih, leavesL_append, PTree.leavesL]

theorem reduce_leaves {st st' : Stack} {A n : Nat} {dp : Int} {pid : Nat} {eoe : Bool}
    (h : reduce tbl st A n dp pid eoe = .ok st') : stackLeaves st' = stackLeaves st := by
  obtain ⟨kids, rest, hp, _, _, rfl⟩ := reduce_eq_ok.mp h
  rw [pops_leaves (pops_of_popN hp)]
  conv => rhs; rw [← splitTrailing_append kids]
  simp [stackLeaves, leavesL_append, PTree.leavesL, PTree.leaves, List.map_map, Function.comp_def]

theorem acceptTree_leaves (st : Stack) (t : PTree) (h : acceptTree st = some t) :
    t.leaves = stackLeaves st ++ [0] := by
  obtain ⟨up, sym, pid, dp, kids, low, hl, _, rfl⟩ := acceptTree_eq_some.mp h
  simp [stackLeaves, hl, leavesL_append, PTree.leavesL, PTree.leaves]

theorem stepAct_inl_leaves {acc : Stack → Option PTree} {c c' : Conf} {eoe : Bool}
    (h : stepAct acc tbl c eoe a = some (.inl c')) :
    stackLeaves c'.stack ++ c'.toks = stackLeaves c.stack ++ c.toks := by
  rcases stepAct_inl_elim h with ⟨s', e, rep, x, rfl, ht, hs, _, _⟩ | ⟨A, n, dp, pid, rfl, hr, ht⟩
  · simp [ht, hs, stackLeaves_cons, PTree.leaves]
  · rw [ht, reduce_leaves hr]

theorem stepAct_inr_leaves {acc : Stack → Option PTree} (hacc' : ∀ st t, acc st = some t → t.leaves = stackLeaves st ++ [0])
    {eoe : Bool} {t : PTree}
    (h : stepAct acc tbl c eoe a = some (.inr t)) : t.leaves = stackLeaves c.stack ++ c.toks ++ [0] := by
  obtain ⟨_, htoks, hacc⟩ := stepAct_inr_iff.mp h
  rw [htoks, List.append_nil]
  exact hacc' _ _ hacc

theorem runLoop_yield {fuel : Nat} {t : PTree} (h : runLoop tbl fuel c = .accepted t) :
    t.leaves = stackLeaves c.stack ++ c.toks ++ [0] := by
  obtain ⟨c', hI, hfin⟩ := runLoop_ends
    (I := fun c1 => stackLeaves c1.stack ++ c1.toks = stackLeaves c.stack ++ c.toks)
    (fun _ _ _ h1 _ hact => by rw [stepAct_inl_leaves hact, h1]) h nofun rfl
  obtain ⟨a, _, hact⟩ := step_accepted_elim hfin
  rw [stepAct_inr_leaves acceptTree_leaves hact, hI]

theorem runAll_yield (acc : Stack → Option PTree) (hacc' : ∀ st t, acc st = some t → t.leaves = stackLeaves st ++ [0])
    (tbl : Table) : ∀ (f : Nat) (c : Conf) (t : PTree),
    t ∈ runAll acc tbl f c → t.leaves = stackLeaves c.stack ++ c.toks ++ [0] := by
  intro f
  induction f with
  | zero => intro c t h; simp [runAll] at h
  | succ k ih =>
    intro c t h
    simp only [runAll, List.mem_flatMap] at h
    obtain ⟨a, _, ht⟩ := h
    split at ht
    · next c' hs =>
      rw [ih c' t ht, stepAct_inl_leaves hs]
    · next t' hs =>
      cases List.mem_singleton.mp ht
      exact stepAct_inr_leaves hacc' hs
    · simp at ht

theorem selectBest_eq_none : ∀ {ts : List PTree}, selectBest ts = none → ts = []
  | [], _ => rfl
  | _ :: _, h => by simp only [selectBest] at h; split at h <;> (try split at h) <;> cases h

theorem selectBest_spec : ∀ (ts : List PTree) (t : PTree), selectBest ts = some t →
    t ∈ ts ∧ ∀ u, u ∈ ts → u.dynPrec ≤ t.dynPrec
  | [], t, h => by simp [selectBest] at h
  | x :: xs, t, h => by
    simp only [selectBest] at h
    cases hb : selectBest xs with
    | none =>
      simp only [hb, Option.some.injEq] at h
      subst h
      simp [selectBest_eq_none hb]
    | some b =>
      obtain ⟨hmem, hmax⟩ := selectBest_spec xs b hb
      simp only [hb] at h
      split at h <;> cases h
      · exact ⟨List.mem_cons_of_mem _ hmem, List.forall_mem_cons.mpr ⟨by omega, hmax⟩⟩
      · exact ⟨List.mem_cons_self, List.forall_mem_cons.mpr ⟨Int.le_refl _, fun u hu => by have := hmax u hu; omega⟩⟩

end TsVerif.C03
