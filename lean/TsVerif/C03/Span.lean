/-!
# What a matcher consumed

The matchers of C03 (`matchRuleP` on the children of a node, `matchSyms` on the symbols of a
production) return the inputs that remain after a match.  `Span P xs rem`: the part of `xs` in front
of `rem` satisfies `P`.
-/
namespace TsVerif.C03

def Span {α : Type} (P : List α → Prop) (xs rem : List α) : Prop := ∃ pre, xs = pre ++ rem ∧ P pre

variable {α : Type} {P Q R : List α → Prop} {xs mid rem : List α}

theorem Span.nil (h : P []) : Span P xs xs := ⟨[], rfl, h⟩

theorem Span.one {x : α} (h : P [x]) : Span P (x :: rem) rem := ⟨[x], rfl, h⟩

theorem Span.mono (h : ∀ pre, P pre → Q pre) : Span P xs rem → Span Q xs rem
  | ⟨p, hp, hm⟩ => ⟨p, hp, h p hm⟩

theorem Span.seq (h : ∀ u v, P u → Q v → R (u ++ v)) : Span P xs mid → Span Q mid rem → Span R xs rem
  | ⟨p1, hp1, hm1⟩, ⟨p2, hp2, hm2⟩ => ⟨p1 ++ p2, by rw [hp1, hp2, List.append_assoc], h p1 p2 hm1 hm2⟩

theorem Span.full : Span P xs [] → P xs
  | ⟨p, hp, hm⟩ => by rwa [hp, List.append_nil]

theorem mem_nil_of_any {l : List (List α)} (h : (l.any fun r => r.isEmpty) = true) : [] ∈ l := by
  simp only [List.any_eq_true, List.isEmpty_iff] at h
  obtain ⟨rem, hrem, rfl⟩ := h
  exact hrem

end TsVerif.C03
