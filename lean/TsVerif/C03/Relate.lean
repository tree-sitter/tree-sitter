import TsVerif.C03.Sound
import TsVerif.C03.Lang
/-!
# C03 — the productions the table spells are instances of the source grammar's rules

`relOK g tbl aux` (decidable, evaluated per generated grammar): every production `(A → X₁ … Xₙ)` that
the table spells (`prodList`) is an instance of the source rule of `A` — the rule body of `A` in
grammar.json matches the symbol sequence with inlined/hidden rules expanded in place, repeats
standing for their auxiliary symbols (`aux` maps an auxiliary symbol to the repeated rule; found by
search, checked here), removed unit reductions tolerated.  `parser_sound`: then every tree the driver
accepts — for ALL token strings — has a yield that the grammar derives (`DerivesTok`), so
`has_error = false ⇒ string ∈ L(G)` holds as a theorem per validated grammar, not only per output (proved in `RelateLemmas.lean`).
-/
namespace TsVerif.C03

def tokOf (tbl : Table) (y : Nat) : Tok := ⟨tbl.symName y, (tbl.syms.getD y default).named⟩

abbrev AuxMap := List (Nat × Rule)

def matchSyms (g : Grammar) (tbl : Table) (aux : AuxMap) : Nat → Rule → List Nat → List (List Nat)
  | 0, _, _ => []
  | f + 1, r, xs =>
    List.eraseDups <| match r with
    | .blank => [xs]
    | .str s =>
      match xs with
      | y :: rest => if y < tbl.tokenCount ∧ tokOf tbl y = ⟨s, false⟩ then [rest] else []
      | [] => []
    | .sym x =>
      match g.body x with
      | none => []
      | some b =>
        if isTerminalBody b then
          match xs with
          | y :: rest => if y < tbl.tokenCount ∧ tokOf tbl y = ⟨x, true⟩ then [rest] else []
          | [] => []
        else
          (match xs with
           | y :: rest =>
             if tbl.tokenCount ≤ y ∧ aux.lookup y = none ∧ tbl.symName y = x then [rest] else []
           | [] => []) ++
          -- a rule without a node of its own at this place: inlined, or hidden with its unit reduction removed
          (if g.hidden x then matchSyms g tbl aux f b xs else [])
    | .seq a b => (matchSyms g tbl aux f a xs).flatMap fun rem => matchSyms g tbl aux f b rem
    | .choice a b => matchSyms g tbl aux f a xs ++ matchSyms g tbl aux f b xs
    | .rep a =>
      xs ::
        ((match xs with
          | y :: rest => if tbl.tokenCount ≤ y ∧ aux.lookup y = some a then matchSyms g tbl aux f (.rep a) rest else []
          | [] => []) ++
         (matchSyms g tbl aux f a xs).flatMap fun rem =>
           if rem.length < xs.length then matchSyms g tbl aux f (.rep a) rem else [])
    | .rep1 a =>
      (match xs with
       | y :: rest => if tbl.tokenCount ≤ y ∧ aux.lookup y = some a then matchSyms g tbl aux f (.rep a) rest else []
       | [] => []) ++
      (matchSyms g tbl aux f a xs).flatMap fun rem => matchSyms g tbl aux f (.rep a) rem
    | .field _ a => matchSyms g tbl aux f a xs
    | .alias _ _ a => matchSyms g tbl aux f a xs
    | .prec _ _ a => matchSyms g tbl aux f a xs
    | _ => []

def prodList (tbl : Table) : List (Nat × List Nat × Nat) :=
  ((List.range tbl.acts.size).flatMap fun s => (tbl.acts.getD s []).flatMap fun e =>
    (tbl.actions s e.1).flatMap fun a => match a with
      | .reduce A n _ pid => (pathsBack tbl s n).map fun p => (A, p.2, pid)
      | _ => []).eraseDups

def relFuel (g : Grammar) : Nat := 60 + 8 * g.rules.length

def prodOK (g : Grammar) (tbl : Table) (aux : AuxMap) (pr : Nat × List Nat × Nat) : Bool :=
  decide (tbl.tokenCount ≤ pr.1) &&
  match aux.lookup pr.1 with
  | some a =>
    -- a production of a repeat-auxiliary symbol: one or more iterations, each either the symbol
    -- itself (`aux → aux aux`) or an instance of the repeated rule (also after unit-reduction removal)
    (matchSyms g tbl aux (relFuel g) (.rep1 a) pr.2.1).any (fun r => r.isEmpty)
  | none =>
    match g.body (tbl.symName pr.1) with
    | some b => !isTerminalBody b && (matchSyms g tbl aux (relFuel g) b pr.2.1).any (fun r => r.isEmpty)
    | none => false

def hasAccept (tbl : Table) (q : Nat) : Bool := (tbl.acts.getD q []).any fun e => e.2.contains Action.accept

def startOK (g : Grammar) (tbl : Table) (aux : AuxMap) : Bool :=
  (List.range tbl.stateCount).all fun q =>
    !hasAccept tbl q || (rowEdges tbl 1 q).all fun X =>
      decide (tbl.tokenCount ≤ X) && (aux.lookup X).isNone && tbl.symName X == g.start

def relOK (g : Grammar) (tbl : Table) (aux : AuxMap) : Bool :=
  (prodList tbl).all (prodOK g tbl aux) && startOK g tbl aux

mutual
  def yieldTok (tbl : Table) : PTree → List Tok
    | .leaf s e => if e then [] else [tokOf tbl s]
    | .node _ _ _ _ ks => yieldTokL tbl ks
  def yieldTokL (tbl : Table) : List PTree → List Tok
    | [] => []
    | t :: ts => yieldTok tbl t ++ yieldTokL tbl ts
end

def keepTok (tbl : Table) (s : Nat) : Bool := s != 0 && !isExtraSym tbl s

end TsVerif.C03
