import TsVerif.C03.Span
import TsVerif.C03.Memo
/-!
# Soundness of the derivation checker (behind `check_sound`, `check_memo_sound`)

`matchP_sound` and `bodyP_sound` hold for every check `cb` of child nodes that only accepts derivations.  The two
checkers are its instances: `checkBody_sound` (`cb` = the checker itself with less fuel; induction on the fuel) and
`cbTab_sound` (`cb` = the look-up in a table that only records derivations: `TabOK`, kept by `buildTab_fold_ok`, `buildTab_ok`).
-/
namespace TsVerif.C03

theorem dedupLen_sub {x : List VNode} : ∀ l : List (List VNode), x ∈ dedupLen l → x ∈ l := by
  intro l
  induction l with
  | nil => intro h; simp [dedupLen] at h
  | cons y ys ih =>
    intro h
    simp only [dedupLen] at h
    split at h
    · exact List.mem_cons_of_mem _ (ih h)
    · rcases List.mem_cons.mp h with rfl | h'
      · exact List.mem_cons_self
      · exact List.mem_cons_of_mem _ (ih h')

abbrev MSpan (g : Grammar) (r : Rule) (c : MCtx) : List VNode → List VNode → Prop := Span (Matches g r c)

variable {g : Grammar} {r : Rule} {c : MCtx} {cs rem : List VNode}

/-! The shapes in which the matcher looks at the first child: a node of a given kind, name flag and
field whose children pass a test; a leaf of that description; any first child passing a test. -/

theorem mem_node_match {v : String} {n : Bool} {fld : Option String} {q : List VNode → Prop} [DecidablePred q]
    (h : rem ∈ (match cs with
      | .mk k' n' false f' kids :: rest => if k' = v ∧ n' = n ∧ f' = fld ∧ q kids then [rest] else []
      | _ => [])) : ∃ kids, cs = .mk v n false fld kids :: rem ∧ q kids := by
  split at h
  · next k' n' f' kids rest =>
    split at h
    · next hc => obtain ⟨rfl, rfl, rfl, hq⟩ := hc; cases List.mem_singleton.mp h; exact ⟨kids, rfl, hq⟩
    · simp at h
  · simp at h

theorem mem_leaf_match {v : String} {n : Bool} {fld : Option String}
    (h : rem ∈ (match cs with
      | .mk k' n' false f' [] :: rest => if k' = v ∧ n' = n ∧ f' = fld then [rest] else []
      | _ => [])) : cs = .mk v n false fld [] :: rem := by
  split at h
  · next k' n' f' rest =>
    split at h
    · next hc => obtain ⟨rfl, rfl, rfl⟩ := hc; cases List.mem_singleton.mp h; rfl
    · simp at h
  · simp at h

theorem mem_first_match {q : VNode → Prop} [DecidablePred q]
    (h : rem ∈ (match cs with
      | x :: rest => if q x then [rest] else []
      | [] => [])) : ∃ x, cs = x :: rem ∧ q x := by
  split at h
  · next x rest =>
    split at h
    · next hc => cases List.mem_singleton.mp h; exact ⟨x, rfl, hc⟩
    · simp at h
  · simp at h

theorem matchLeaf_sound {k : String} {named : Bool} (h : rem ∈ matchLeaf c k named cs)
    (hm : Matches g r c [leafFor c k named]) : MSpan g r c cs rem := by
  have : leafFor c k named = .mk (leafFor c k named).kind (leafFor c k named).named false c.effField [] := by
    unfold leafFor; split <;> rfl
  rw [this] at hm
  cases mem_leaf_match h
  exact .one hm

theorem matchHidden_sound (h : rem ∈ matchHiddenOrAliased c cs) (h0 : c.effAlias = none → Matches g r c [])
    (h1 : ∀ v n, c.effAlias = some (v, n) → Matches g r c [.mk v n false c.effField []]) : MSpan g r c cs rem := by
  unfold matchHiddenOrAliased at h
  split at h
  · next ha => cases List.mem_singleton.mp h; exact .nil (h0 ha)
  · next v n ha => cases mem_leaf_match h; exact .one (h1 v n ha)

theorem matchP_sound (g : Grammar) (cb : Rule → List VNode → Bool)
    (hcb : ∀ b kids, cb b kids = true → NodeBody g b kids) :
    ∀ (f : Nat) (r : Rule) (c : MCtx) (cs rem : List VNode), rem ∈ matchRuleP g cb f r c cs →
      ∃ pre, cs = pre ++ rem ∧ Matches g r c pre := by
  intro f
  induction f with
  | zero => intro r c cs rem h; simp [matchRuleP] at h
  | succ f ihM =>
    intro r c cs rem h
    change MSpan g r c cs rem
    replace ihM : ∀ r c cs rem, rem ∈ matchRuleP g cb f r c cs → MSpan g r c cs rem := ihM
    unfold matchRuleP at h
    cases r with
    | blank => cases List.mem_singleton.mp h; exact .nil .blank
    | str s => exact matchLeaf_sound h .str
    | pat p => exact matchHidden_sound h .patHidden fun _ _ => .patAliased
    | token a =>
      simp only at h
      split at h
      · next s hs => exact matchLeaf_sound h (.tokenStr hs)
      · next hs => exact matchHidden_sound h (.tokenHidden hs) fun _ _ => .tokenAliased hs
    | immToken a =>
      simp only at h
      split at h
      · next s hs => exact matchLeaf_sound h (.immTokenStr hs)
      · next hs => exact matchHidden_sound h (.immTokenHidden hs) fun _ _ => .immTokenAliased hs
    | seq a b =>
      obtain ⟨r1, hr1, hr2⟩ := List.mem_flatMap.mp (dedupLen_sub _ h)
      exact .seq (fun _ _ => .seq) (ihM a c cs r1 hr1) (ihM b c r1 rem hr2)
    | choice a b =>
      rcases List.mem_append.mp (dedupLen_sub _ h) with h | h
      · exact (ihM a c cs rem h).mono fun _ => .choiceL
      · exact (ihM b c cs rem h).mono fun _ => .choiceR
    | rep a =>
      simp only at h
      split at h
      · next hal =>
        rcases List.mem_cons.mp h with rfl | h
        · exact .nil .repNil
        · obtain ⟨r1, hr1, hr2⟩ := List.mem_flatMap.mp (dedupLen_sub _ h)
          split at hr2
          · exact .seq (fun _ _ => .repCons hal) (ihM a _ cs r1 hr1) (ihM (.rep a) c r1 rem hr2)
          · simp at hr2
      · next v n hal =>
        rcases List.mem_cons.mp h with rfl | h
        · exact .nil .repNil
        · rcases List.mem_append.mp h with h | h
          · obtain ⟨kids, rfl, hk⟩ := mem_node_match h
            exact .one (.repAliased hal (hcb _ _ hk))
          · obtain ⟨x, rfl, hfa, hx⟩ := mem_first_match h
            exact .one (.repAliasedUnit hal hfa (ihM a _ _ [] (mem_nil_of_any hx)).full)
    | rep1 a =>
      simp only at h
      split at h
      · next hal =>
        obtain ⟨r1, hr1, hr2⟩ := List.mem_flatMap.mp (dedupLen_sub _ h)
        exact .seq (fun _ _ => .rep1 hal) (ihM a _ cs r1 hr1) (ihM (.rep a) c r1 rem hr2)
      · next v n hal =>
        rcases List.mem_append.mp h with h | h
        · obtain ⟨kids, rfl, hk⟩ := mem_node_match h
          exact .one (.rep1Aliased hal (hcb _ _ hk))
        · obtain ⟨x, rfl, hfa, hx⟩ := mem_first_match h
          exact .one (.rep1AliasedUnit hal hfa (ihM a _ _ [] (mem_nil_of_any hx)).full)
    | field n a => exact (ihM _ _ cs rem h).mono fun _ => .field
    | «alias» v n a => exact (ihM _ _ cs rem h).mono fun _ => .alias
    | prec k v a => exact (ihM _ _ cs rem h).mono fun _ => .prec
    | unknown ty => simp at h
    | sym x =>
      simp only at h
      split at h
      · next hb =>
        -- no rule of that name: an external token
        split at h
        · next hk => cases List.mem_singleton.mp h; exact .nil (.symExternalHidden hb hk)
        · next k n hk => cases mem_leaf_match h; exact .one (.symExternalVisible hb hk)
      · next b hb =>
        split at h
        · next hk =>
          rcases List.mem_append.mp h with h | h
          · split at h
            · next ht => cases List.mem_singleton.mp h; exact .nil (.symHiddenToken hb hk ht)
            · simp at h
          · exact (ihM b _ cs rem h).mono fun _ => .symHidden hb hk
        · next k n hk =>
          rcases List.mem_append.mp h with h | h
          · obtain ⟨kids, rfl, hkids⟩ := mem_node_match h
            exact .one (.symVisible hb hk (hcb b _ hkids))
          · obtain ⟨y, rfl, hh, hfa, hy⟩ := mem_first_match h
            exact .one (.symAliasedUnit hb hh hk hfa (ihM b _ _ [] (mem_nil_of_any hy)).full)

theorem extraP_sound {g : Grammar} {cb : Rule → List VNode → Bool}
    (hcb : ∀ b kids, cb b kids = true → NodeBody g b kids) {f : Nat} {k : VNode}
    (h : extraP g cb f k = true) : ExtraOK g k := by
  obtain ⟨kd, n, x, fl, kids⟩ := k
  unfold extraP at h
  obtain ⟨e, he, hrem⟩ := List.any_eq_true.mp h
  exact .mk he (Span.full (matchP_sound g cb hcb f e _ _ [] (mem_nil_of_any hrem)))

theorem bodyP_sound {g : Grammar} {cb : Rule → List VNode → Bool}
    (hcb : ∀ b kids, cb b kids = true → NodeBody g b kids) {f : Nat} {b : Rule} {kids : List VNode}
    (h : bodyP g cb f b kids = true) : NodeBody g b kids := by
  unfold bodyP at h
  simp only [Bool.or_eq_true, Bool.and_eq_true, List.isEmpty_iff, List.any_eq_true, List.all_eq_true,
    Bool.not_eq_true'] at h
  rcases h with ⟨ht, hk⟩ | ⟨⟨rem, hrem, hnil⟩, hex⟩
  · subst hk; exact .token ht
  · subst hnil
    refine .inner (Span.full (matchP_sound g cb hcb f b {} (nonExtra kids) [] hrem)) ?_
    intro k hk hke
    rcases hex k hk with h0 | h1
    · rw [hke] at h0; cases h0
    · exact extraP_sound hcb h1

theorem checkBody_sound (g : Grammar) : ∀ (f : Nat) (b : Rule) (kids : List VNode),
    checkBody g f b kids = true → NodeBody g b kids := by
  intro f
  induction f with
  | zero => intro b kids h; simp [checkBody] at h
  | succ f ih =>
    intro b kids h
    unfold checkBody at h
    exact bodyP_sound (fun b' ks' h' => ih b' ks' h') h

mutual
  theorem beqV_eq : ∀ (a b : VNode), beqV a b = true → a = b
    | .mk k n e f ks, .mk k' n' e' f' ks', h => by
      simp only [beqV, Bool.and_eq_true, beq_iff_eq] at h
      obtain ⟨⟨⟨⟨rfl, rfl⟩, rfl⟩, rfl⟩, hk⟩ := h
      rw [beqVL_eq ks ks' hk]
  theorem beqVL_eq : ∀ (a b : List VNode), beqVL a b = true → a = b
    | [], [], _ => rfl
    | a :: as, b :: bs, h => by
      simp only [beqVL, Bool.and_eq_true] at h
      rw [beqV_eq a b h.1, beqVL_eq as bs h.2]
    | [], _ :: _, h => by simp [beqVL] at h
    | _ :: _, [], h => by simp [beqVL] at h
end

def TabOK (g : Grammar) (t : Tab) : Prop := ∀ b kids, (b, kids, true) ∈ t → NodeBody g b kids

theorem Tab.find_mem {b : Rule} {kids : List VNode} {r : Bool} : ∀ t : Tab, t.find b kids = some r → (b, kids, r) ∈ t := by
  intro t
  induction t with
  | nil => intro h; simp [Tab.find] at h
  | cons e rest ih =>
    intro h
    obtain ⟨b', k', r'⟩ := e
    simp only [Tab.find] at h
    split at h
    · next hc =>
      simp only [Bool.and_eq_true, decide_eq_true_eq] at hc
      cases h
      rw [← beqVL_eq k' kids hc.1, ← hc.2]
      exact List.mem_cons_self
    · exact List.mem_cons_of_mem _ (ih h)

theorem cbTab_sound {g : Grammar} {fuel : Nat} {t : Tab} (hT : TabOK g t) (b : Rule) (kids : List VNode)
    (h : cbTab g fuel t b kids = true) : NodeBody g b kids := by
  unfold cbTab at h
  split at h
  · next r hf => subst h; exact hT b kids (Tab.find_mem t hf)
  · exact checkBody_sound g fuel b kids h

theorem buildTab_fold_ok (g : Grammar) (fuel : Nat) (kids : List VNode) : ∀ (cs : List Rule) (t : Tab), TabOK g t →
    TabOK g (cs.foldl (fun acc b => (b, kids, bodyP g (cbTab g fuel acc) fuel b kids) :: acc) t) := by
  intro cs
  induction cs with
  | nil => intro t h; exact h
  | cons c cs ih =>
    intro t h
    simp only [List.foldl_cons]
    apply ih
    intro b ks hm
    rcases List.mem_cons.mp hm with he | hm'
    · simp only [Prod.mk.injEq] at he
      obtain ⟨rfl, rfl, hr⟩ := he
      exact bodyP_sound (cbTab_sound h) hr.symm
    · exact h b ks hm'

mutual
  theorem buildTab_ok (g : Grammar) (fuel : Nat) : ∀ (n : VNode) (t : Tab), TabOK g t → TabOK g (buildTab g fuel n t)
    | .mk k _ _ _ kids, t, h => by
      exact buildTab_fold_ok g fuel kids _ _ (buildTabL_ok g fuel kids t h)
  theorem buildTabL_ok (g : Grammar) (fuel : Nat) : ∀ (ns : List VNode) (t : Tab), TabOK g t → TabOK g (buildTabL g fuel ns t)
    | [], t, h => by simpa [buildTabL] using h
    | x :: xs, t, h => by
      exact buildTabL_ok g fuel xs _ (buildTab_ok g fuel x t h)
end

end TsVerif.C03
