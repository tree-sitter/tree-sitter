import TsVerif.C03.Glr
import TsVerif.C03.Sound
/-!
# The driver, one action at a time

`step` consults one cell and, when the cell holds a single effective action, applies it.  `stepAct`
(Glr.lean) is that application for one given action; `Applies` ties the two, and every invariant of the driver (the
stack invariant of a closed table in `NoFault.lean`, leaves = tokens in `Yield.lean`, the labelled invariant in
`SoundLemmas.lean`, the simulation in C15) is proved per action.
-/
namespace TsVerif.C03

variable {tbl : Table}

theorem lookup_mem {β : Type} {k : Nat} {l : List (Nat × β)} {v : β} (h : l.lookup k = some v) : (k, v) ∈ l := by
  obtain ⟨l₁, l₂, rfl, _⟩ := List.lookup_eq_some_iff.mp h
  simp

theorem actions_mem {t : Table} {s a : Nat} {x : Action} (h : x ∈ t.actions s a) :
    (a, t.actions s a) ∈ t.acts.getD s [] := by
  unfold Table.actions at h ⊢
  generalize t.acts.getD s [] = row at *
  cases hl : row.lookup a with
  | none => simp [hl] at h
  | some v => simpa [hl] using lookup_mem hl

theorem goto_mem {t : Table} {s A : Nat} (h : t.goto s A ≠ 0) : (A, t.goto s A) ∈ t.gotos.getD s [] := by
  unfold Table.goto at h ⊢
  generalize t.gotos.getD s [] = row at *
  cases hl : row.lookup A with
  | none => simp [hl] at h
  | some v => simpa [hl] using lookup_mem hl

theorem actions_state_lt {s a : Nat} {x : Action} (h : x ∈ tbl.actions s a) : s < tbl.acts.size := by
  have := actions_mem h
  by_cases hs : s < tbl.acts.size
  · exact hs
  · simp [Array.getD, hs] at this

theorem noLexEnd_elim (h : noLexEnd tbl = true) (s : Nat) : tbl.lexEnd s = false := by
  unfold noLexEnd at h
  unfold Table.lexEnd
  by_cases hs : s < tbl.lexState.size
  · have : (tbl.lexState[s] != 65535) = true := (List.all_eq_true.mp h) _ (Array.mem_toList_iff.mpr (Array.getElem_mem hs))
    simpa [Array.getD, hs] using this
  · simp [Array.getD, hs]

theorem effective_single {as : List Action} {x : Action} (h : effective as = [x]) : x ∈ as :=
  (List.mem_filter.mp (show x ∈ effective as by rw [h]; exact List.mem_cons_self)).1

theorem mem_shiftTargets {as : List Action} {s' : Nat} {r : Bool} (h : Action.shift s' false r ∈ as) :
    s' ∈ shiftTargets as :=
  List.mem_filterMap.mpr ⟨_, h, rfl⟩

/-- `step` applies `a`: it is the single effective action of the consulted cell, and at the end of a
non-terminal extra it is a reduction (`step` reports any other single action there as `glr`) -/
def Applies (tbl : Table) (c : Conf) (a : Action) : Prop :=
  cellActions tbl c = [a] ∧ (tbl.lexEnd (topState c.stack) = true → ∃ A n dp pid, a = .reduce A n dp pid)

theorem applies_of_cell {c : Conf} {a : Action} (hle : tbl.lexEnd (topState c.stack) = false)
    (h : effective (tbl.actions (topState c.stack) (c.toks.headD 0)) = [a]) : Applies tbl c a :=
  ⟨by simpa [cellActions, hle] using h, by simp [hle]⟩

theorem step_of_applies {c : Conf} {a : Action} (h : Applies tbl c a) :
    match stepAct acceptTree tbl c (tbl.lexEnd (topState c.stack)) a with
    | some (.inl c') => step tbl c = .inl c'
    | some (.inr t) => step tbl c = .inr (.accepted t)
    | none => (a = .recover ∧ step tbl c = .inr (.rejected c.toks.length)) ∨
        (a ≠ .recover ∧ ∃ f, step tbl c = .inr (.fault f)) := by
  obtain ⟨hcell, hred⟩ := h
  unfold cellActions at hcell
  unfold step
  cases hle : tbl.lexEnd (topState c.stack) with
  | true =>
    obtain ⟨A, n, dp, pid, rfl⟩ := hred hle
    simp only [hle, if_true] at hcell ⊢
    rw [hcell]
    simp only [stepAct]
    cases reduce tbl c.stack A n dp pid true <;> simp
  | false =>
    simp only [hle, Bool.false_eq_true, if_false] at hcell ⊢
    rw [hcell]
    cases a with
    | shift s' e rep =>
      simp only [stepAct]
      cases c.toks with
      | nil => simp
      | cons x rest =>
        simp only
        generalize (if e = true then topState c.stack else s') = ns
        by_cases hb : ns = 0 ∨ tbl.stateCount ≤ ns <;> simp [hb]
    | reduce A n dp pid => simp only [stepAct]; cases reduce tbl c.stack A n dp pid false <;> simp
    | accept => simp only [stepAct]; cases c.toks <;> cases acceptTree c.stack <;> simp
    | recover => simp [stepAct]

theorem step_cases (tbl : Table) (c : Conf) :
    (∃ a, Applies tbl c a) ∨ step tbl c = .inr (.rejected c.toks.length) ∨ step tbl c = .inr .glr := by
  unfold step Applies cellActions
  cases hle : tbl.lexEnd (topState c.stack) with
  | true =>
    simp only [hle, if_true]
    split
    · exact .inr (.inl rfl)
    · next A n dp pid heff => exact .inl ⟨_, heff, fun _ => ⟨A, n, dp, pid, rfl⟩⟩
    · exact .inr (.inr rfl)
  | false =>
    simp only [hle, Bool.false_eq_true, if_false]
    split
    · exact .inr (.inl rfl)
    · next heff => exact .inl ⟨_, heff, nofun⟩
    · next heff => exact .inl ⟨_, heff, nofun⟩
    · next heff => exact .inl ⟨_, heff, nofun⟩
    · next heff => exact .inl ⟨_, heff, nofun⟩
    · exact .inr (.inr rfl)

theorem step_rejects {c : Conf} (h : cellActions tbl c = []) : step tbl c = .inr (.rejected c.toks.length) := by
  unfold cellActions at h
  unfold step
  cases hle : tbl.lexEnd (topState c.stack) with
  | true => simp only [hle, if_true] at h ⊢; rw [h]
  | false => simp only [hle, Bool.false_eq_true, if_false] at h ⊢; rw [h]

theorem Applies.step_inl {c c' : Conf} {a : Action} (h : Applies tbl c a)
    (hs : stepAct acceptTree tbl c (tbl.lexEnd (topState c.stack)) a = some (.inl c')) : step tbl c = .inl c' := by
  simpa [hs] using step_of_applies h

theorem Applies.step_accepted {c : Conf} {a : Action} {t : PTree} (h : Applies tbl c a)
    (hs : stepAct acceptTree tbl c (tbl.lexEnd (topState c.stack)) a = some (.inr t)) :
    step tbl c = .inr (.accepted t) := by
  simpa [hs] using step_of_applies h

theorem applied_of_step {c : Conf} {r : Conf ⊕ Outcome} (h : step tbl c = r)
    (hr : r ≠ .inr (.rejected c.toks.length)) (hg : r ≠ .inr .glr) : ∃ a, Applies tbl c a :=
  (step_cases tbl c).resolve_right fun h' => h'.elim (fun h' => hr (h ▸ h')) fun h' => hg (h ▸ h')

theorem step_inl_elim {c c' : Conf} (h : step tbl c = .inl c') :
    ∃ a, Applies tbl c a ∧ stepAct acceptTree tbl c (tbl.lexEnd (topState c.stack)) a = some (.inl c') := by
  obtain ⟨a, ha⟩ := applied_of_step h nofun nofun
  have hs := h ▸ step_of_applies ha
  exact ⟨a, ha, by split at hs <;> simp_all⟩

theorem step_accepted_elim {c : Conf} {t : PTree} (h : step tbl c = .inr (.accepted t)) :
    ∃ a, Applies tbl c a ∧ stepAct acceptTree tbl c (tbl.lexEnd (topState c.stack)) a = some (.inr t) := by
  obtain ⟨a, ha⟩ := applied_of_step h nofun nofun
  have hs := h ▸ step_of_applies ha
  exact ⟨a, ha, by split at hs <;> simp_all⟩

theorem step_fault_elim {c : Conf} {f : Fault} (h : step tbl c = .inr (.fault f)) :
    ∃ a, Applies tbl c a ∧ a ≠ .recover ∧ stepAct acceptTree tbl c (tbl.lexEnd (topState c.stack)) a = none := by
  obtain ⟨a, ha⟩ := applied_of_step h nofun nofun
  have hs := h ▸ step_of_applies ha
  exact ⟨a, ha, by split at hs <;> simp_all⟩

/-- the cell the applied action comes from: the end-of-input column at the end of a non-terminal
extra, the look-ahead's column otherwise -/
theorem Applies.mem {c : Conf} {a : Action} (h : Applies tbl c a) :
    ∃ la, a ∈ tbl.actions (topState c.stack) la ∧ (tbl.lexEnd (topState c.stack) = false → la = c.toks.headD 0) := by
  have hm := effective_single h.1
  cases hle : tbl.lexEnd (topState c.stack) with
  | true => exact ⟨0, by simpa [hle] using hm, nofun⟩
  | false => exact ⟨_, by simpa [hle] using hm, fun _ => rfl⟩

theorem Applies.lexEnd_false {c : Conf} {a : Action} (h : Applies tbl c a)
    (ha : ∀ A n dp pid, a ≠ .reduce A n dp pid) : tbl.lexEnd (topState c.stack) = false := by
  cases hle : tbl.lexEnd (topState c.stack) with
  | false => rfl
  | true => obtain ⟨A, n, dp, pid, rfl⟩ := h.2 hle; exact absurd rfl (ha A n dp pid)

theorem stepAct_inr_iff {acc : Stack → Option PTree} {c : Conf} {eoe : Bool} {a : Action} {t : PTree} :
    stepAct acc tbl c eoe a = some (.inr t) ↔ a = .accept ∧ c.toks = [] ∧ acc c.stack = some t := by
  cases a with
  | shift s' e rep =>
    simp only [stepAct]
    cases c.toks with
    | nil => simp
    | cons x rest => simp only; split <;> simp
  | reduce A n dp pid => simp only [stepAct]; cases reduce tbl c.stack A n dp pid eoe <;> simp
  | accept => simp only [stepAct]; cases c.toks <;> simp
  | recover => simp [stepAct]

theorem stepAct_inl_elim {acc : Stack → Option PTree} {c : Conf} {eoe : Bool} {a : Action} {c' : Conf}
    (h : stepAct acc tbl c eoe a = some (.inl c')) :
    (∃ s' e rep x, a = .shift s' e rep ∧ c.toks = x :: c'.toks ∧
        c'.stack = ((if e then topState c.stack else s'), .leaf x e) :: c.stack ∧
        (if e then topState c.stack else s') ≠ 0 ∧ (if e then topState c.stack else s') < tbl.stateCount) ∨
    (∃ A n dp pid, a = .reduce A n dp pid ∧ reduce tbl c.stack A n dp pid eoe = .ok c'.stack ∧ c'.toks = c.toks) := by
  cases a with
  | shift s' e rep =>
    simp only [stepAct] at h
    cases htoks : c.toks with
    | nil => simp [htoks] at h
    | cons x rest =>
      simp only [htoks] at h
      by_cases hb : (if e = true then topState c.stack else s') = 0 ∨
          tbl.stateCount ≤ (if e = true then topState c.stack else s')
      · simp [hb] at h
      · simp only [hb, if_false, Option.some.injEq, Sum.inl.injEq] at h
        subst h
        exact .inl ⟨s', e, rep, x, rfl, rfl, rfl, by omega, by omega⟩
  | reduce A n dp pid =>
    simp only [stepAct] at h
    cases hr : reduce tbl c.stack A n dp pid eoe with
    | ok st => rw [hr] at h; cases h; exact .inr ⟨A, n, dp, pid, rfl, hr, rfl⟩
    | error e => rw [hr] at h; cases h
  | accept =>
    simp only [stepAct] at h
    split at h
    · cases hacc : acc c.stack <;> simp [hacc] at h
    · cases h
  | recover => simp [stepAct] at h

inductive Steps (tbl : Table) : Conf → Conf → Prop
  | refl {c} : Steps tbl c c
  | next {c c1 c2} : step tbl c = .inl c1 → Steps tbl c1 c2 → Steps tbl c c2

theorem Steps.trans {a b c : Conf} (h1 : Steps tbl a b) (h2 : Steps tbl b c) : Steps tbl a c := by
  induction h1 with
  | refl => exact h2
  | next hs _ ih => exact .next hs (ih h2)

theorem Steps.single {tbl : Table} {a b : Conf} (h : step tbl a = .inl b) : Steps tbl a b := .next h .refl

theorem Steps.inv {I : Conf → Prop} (hI : ∀ c c', I c → step tbl c = .inl c' → I c')
    {c c' : Conf} (h : Steps tbl c c') (hc : I c) : I c' := by
  induction h with
  | refl => exact hc
  | next hs _ ih => exact ih (hI _ _ hc hs)

theorem steps_accept {c c' : Conf} {t : PTree} (h : Steps tbl c c')
    (hacc : step tbl c' = .inr (.accepted t)) : ∃ f, runLoop tbl f c = .accepted t := by
  induction h with
  | refl => exact ⟨1, by simp [runLoop, hacc]⟩
  | next hs _ ih =>
    obtain ⟨f, hf⟩ := ih hacc
    exact ⟨f + 1, by simp [runLoop, hs, hf]⟩

theorem runLoop_steps {fuel : Nat} {c : Conf} {o : Outcome} (h : runLoop tbl fuel c = o)
    (ho : o ≠ .fuelOut) : ∃ c', Steps tbl c c' ∧ step tbl c' = .inr o := by
  induction fuel generalizing c with
  | zero => exact absurd h.symm ho
  | succ k ih =>
    unfold runLoop at h
    cases hs : step tbl c with
    | inl c1 =>
      rw [hs] at h
      obtain ⟨c', hst, hfin⟩ := ih h
      exact ⟨c', .next hs hst, hfin⟩
    | inr o' =>
      rw [hs] at h
      exact ⟨c, .refl, by rw [hs, ← h]⟩

theorem runLoop_ends {I : Conf → Prop}
    (hI : ∀ c a c', I c → Applies tbl c a →
      stepAct acceptTree tbl c (tbl.lexEnd (topState c.stack)) a = some (.inl c') → I c')
    {fuel : Nat} {c : Conf} {o : Outcome} (h : runLoop tbl fuel c = o) (ho : o ≠ .fuelOut) (hc : I c) :
    ∃ c', I c' ∧ step tbl c' = .inr o := by
  obtain ⟨c', hst, hfin⟩ := runLoop_steps h ho
  refine ⟨c', hst.inv (fun c1 c2 h1 hs => ?_) hc, hfin⟩
  obtain ⟨a, ha, hact⟩ := step_inl_elim hs
  exact hI c1 a c2 h1 ha hact

/-- `Pops n st ks rest`: popping until `n` non-extra entries are gone takes the trees `ks` (bottom
first) off `st` and leaves `rest` -/
inductive Pops : Nat → Stack → List PTree → Stack → Prop
  | zero {st} : Pops 0 st [] st
  | extra {n s t tl ks r} : t.isExtra = true → Pops (n + 1) tl ks r → Pops (n + 1) ((s, t) :: tl) (ks ++ [t]) r
  | keep {n s t tl ks r} : t.isExtra = false → Pops n tl ks r → Pops (n + 1) ((s, t) :: tl) (ks ++ [t]) r

theorem pops_of_popN {n : Nat} {st : Stack} {ks : List PTree} {r : Stack} (h : popN n st = some (ks, r)) :
    Pops n st ks r := by
  fun_induction popN n st generalizing ks r with
  | case1 st => cases h; exact .zero
  | case2 n => cases h
  | case3 n s t rest ks' r' hp ih =>
    cases h
    cases hx : t.isExtra with
    | true => exact .extra hx (by simpa [hx] using ih hp)
    | false => exact .keep hx (by simpa [hx] using ih hp)
  | case4 n s t rest hp ih => cases h

variable {st : Stack}

theorem reduce_eq_ok {st st' : Stack} {A n : Nat} {dp : Int} {pid : Nat} {eoe : Bool} :
    reduce tbl st A n dp pid eoe = .ok st' ↔
      ∃ kids rest, popN n st = some (kids, rest) ∧
        tbl.goto (topState rest) A ≠ 0 ∧ tbl.goto (topState rest) A < tbl.stateCount ∧
        st' = ((splitTrailing kids).2.reverse.map fun t => (tbl.goto (topState rest) A, t)) ++
          (tbl.goto (topState rest) A, PTree.node A pid (dp + sumDyn (splitTrailing kids).1)
            (eoe && tbl.goto (topState rest) A == topState rest) (splitTrailing kids).1) :: rest := by
  unfold reduce
  cases popN n st with
  | none => simp
  | some r =>
    obtain ⟨kids, rest⟩ := r
    by_cases hq : tbl.goto (topState rest) A = 0 ∨ tbl.stateCount ≤ tbl.goto (topState rest) A
    · simp only [hq, if_true, reduceCtorEq, Option.some.injEq, Prod.mk.injEq, false_iff]
      rintro ⟨kids', rest', ⟨rfl, rfl⟩, h0, hS, _⟩
      omega
    · simp only [hq, if_false, Except.ok.injEq, Option.some.injEq, Prod.mk.injEq]
      constructor
      · rintro rfl; exact ⟨kids, rest, ⟨rfl, rfl⟩, by omega, by omega, rfl⟩
      · rintro ⟨kids', rest', ⟨rfl, rfl⟩, _, _, rfl⟩; rfl

theorem splitTrailing_append (ks : List PTree) : (splitTrailing ks).1 ++ (splitTrailing ks).2 = ks := by
  unfold splitTrailing
  simp only
  rw [← List.reverse_append, List.takeWhile_append_dropWhile, List.reverse_reverse]

theorem splitTrailing_extras (ks : List PTree) : ∀ t, t ∈ (splitTrailing ks).2.reverse → t.isExtra = true := by
  intro t ht
  simp only [splitTrailing, List.reverse_reverse] at ht
  exact List.all_eq_true.mp List.all_takeWhile t ht

theorem dropWhile_eq_cons {α : Type} {p : α → Bool} {l : List α} {x : α} {r : List α} (h : l.dropWhile p = x :: r) :
    l = l.takeWhile p ++ x :: r ∧ (∀ y, y ∈ l.takeWhile p → p y = true) ∧ p x = false := by
  refine ⟨by rw [← h, List.takeWhile_append_dropWhile], List.all_eq_true.mp List.all_takeWhile, ?_⟩
  simpa [h] using List.head_dropWhile_not p (l := l) (by simp [h])

/-- the EOF leaf pushed first is an extra: it joins the extras above the root -/
theorem acceptTree_eq_some {t : PTree} :
    acceptTree st = some t ↔ ∃ up sym pid dp kids low,
      st.map (·.2) = up ++ PTree.node sym pid dp false kids :: low ∧ (∀ x, x ∈ up → x.isExtra = true) ∧
      t = .node sym pid (sumDyn (low.reverse ++ kids ++ (PTree.leaf 0 true :: up).reverse) + (dp - sumDyn kids)) false
            (low.reverse ++ kids ++ (PTree.leaf 0 true :: up).reverse) := by
  unfold acceptTree
  have heof : (PTree.leaf 0 true).isExtra = true := rfl
  simp only [List.dropWhile_cons_of_pos heof, List.takeWhile_cons_of_pos heof]
  constructor
  · intro h
    split at h
    · next sym pid dp e kids low hdw =>
      cases h
      obtain ⟨hl, hu, hx⟩ := dropWhile_eq_cons hdw
      cases hx
      exact ⟨_, sym, pid, dp, kids, low, hl, hu, rfl⟩
    · cases h
  · rintro ⟨up, sym, pid, dp, kids, low, hl, hu, rfl⟩
    have hx : ¬ (PTree.node sym pid dp false kids).isExtra = true := nofun
    rw [hl, List.dropWhile_append_of_pos hu, List.takeWhile_append_of_pos hu, List.dropWhile_cons_of_neg hx,
      List.takeWhile_cons_of_neg hx, List.append_nil]

/-- the trailing extras of a reduce go back on top of the goto state `q`: an invariant that an entry carrying the
top state keeps (`StackInv`, `Spells`) holds of the new stack -/
theorem push_on_top {Inv : Stack → Prop} {P : PTree → Prop} {q : Nat}
    (hcons : ∀ t rest, P t → Inv rest → topState rest = q → Inv ((q, t) :: rest))
    {base : Stack} (hb : Inv base) (ht : topState base = q) :
    ∀ (l : List PTree), (∀ t, t ∈ l → P t) → Inv (l.map (fun t => (q, t)) ++ base)
  | [], _ => hb
  | t :: ts, hall =>
    hcons t _ (hall t List.mem_cons_self) (push_on_top hcons hb ht ts fun x hx => hall x (List.mem_cons_of_mem _ hx))
      (by cases ts with | nil => exact ht | cons => rfl)

end TsVerif.C03

-- more fuel keeps an accepting run; the names are those under which C15's property cites them
namespace TsVerif.C15
open TsVerif.C03

theorem runLoop_mono (tbl : Table) : ∀ (f k : Nat) (c : Conf) (t : PTree),
    runLoop tbl f c = .accepted t → runLoop tbl (f + k) c = .accepted t := by
  intro f
  induction f with
  | zero => intro k c t h; simp [runLoop] at h
  | succ n ih =>
    intro k c t h
    rw [show n + 1 + k = (n + k) + 1 by omega]
    unfold runLoop at h ⊢
    cases hs : step tbl c with
    | inl c' => rw [hs] at h; exact ih k c' t h
    | inr o => rw [hs] at h; exact h

theorem runLoop_det (tbl : Table) (f1 f2 : Nat) (c : Conf) (t1 t2 : PTree)
    (h1 : runLoop tbl f1 c = .accepted t1) (h2 : runLoop tbl f2 c = .accepted t2) : t1 = t2 := by
  have b := runLoop_mono tbl f2 f1 c t2 h2
  rw [Nat.add_comm, runLoop_mono tbl f1 f2 c t1 h1] at b
  exact Outcome.accepted.inj b

end TsVerif.C15
