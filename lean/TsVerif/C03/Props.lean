import TsVerif.C03.NoFault
import TsVerif.C03.DeriveLemmas
import TsVerif.C03.DynLemmas
import TsVerif.C03.PrattLemmas
import TsVerif.C03.RenameLemmas
import TsVerif.C03.RawTable
import TsVerif.C03.Judge
/-!
# C03 — A generated parser recognises exactly its grammar and builds its derivation

Property text: for every grammar the generator accepts, the generated parser reports no error on a
string exactly when the grammar derives it, and on such strings the tree is a derivation of the
grammar: the unique one for conflict-free grammars, and for operator grammars the one selected by the
declared precedence and associativity.  For grammars with declared conflicts, the tree is one of the
grammar's derivations, and where two candidate subtrees for the same text differ in dynamic
precedence the one with the greater value is kept.

The generator's Rust code is not modelled.  The theorems are about *verified checkers* applied to
what the generator and the runtime produce on every run (table dump, trees).

## Clause-by-clause map

Status: **proved** = a ∀-theorem about the model driver on the real dumped table (tied to the real
parser by the per-string correspondence `run tbl toks` vs `ts_parser_parse`: accept/reject, tree,
production ids, dynamic precedence); **partial** = proved under a decidable hypothesis that the check
evaluates per generated grammar (fraction = grammars where it holds, quick tier, seed 1: 202
dumped tables; the thorough tier has ≈ 800 with the same proportions); **judged** = decided per explored string by a verified checker or a model, no ∀-theorem.

| phrase of the property text | theorems | status |
|---|---|---|
| "for every grammar the generator accepts" | — the generator runs for real on random CFGs / operator tables / declared-conflict / zoo grammars; operator tables: accepted iff `OpTable.resolvable` | judged (15 rejected tables, all unresolvable) |
| the runtime's table walk is well defined (no pop below the base, no undefined goto, a root at accept) | `driver_no_fault` | partial: `tableClosed` — 202/202 (failing is a violation); the RAW table rows read by `rawLookup` (`small_table_lookup_first_group`) equal `ts_language_lookup` on every (state, symbol): 202/202 (failing is a violation); no reduce action with a production id is longer than a row of `ts_alias_sequences` (`aliasRowOverrun`, judged per table) |
| "reports no error on a string ⇒ the grammar derives it" | `driver_sound` (accepted tree is a tree over the productions the table spells), `parser_sound_per_grammar` (… ⇒ `DerivesTok g start toks`, ALL strings) | partial: `tableSafe ∧ relOK g tbl aux` (grammar read through `tokenView`, non-terminals renamed by `renameNT`: `parser_sound_renamed`) — 189/202 (in `relScope`, 175, failing is a violation); outside: judged per string (`check_memo_sound` on the real tree) |
| "the grammar derives it ⇒ reports no error" | `table_complete_for_its_productions`, `grammar_covered_by_productions`, `parser_complete_per_grammar` (ALL strings of non-extra terminals; fuel existential) | partial: `coverOK ∧ completeOK` (`parser_complete_renamed`) — 70/202, i.e. 70 of the 99 random-CFG/zoo tables it is attempted on (for covered grammars without precedence and one action per cell, 18, failing is a violation); outside: judged per string (oracle up to L, generated sentences), except members lost to a statically resolved real LR(1) conflict (by design; counted) |
| "exactly when" (both halves together) | `parser_recognises_exactly_its_grammar` : accepts ↔ `DerivesTok` | partial: all four validations (`…_up_to_names`) — 70/202 |
| the membership oracle behind the per-string judgement never claims a non-member | `enum_sound`, `oracle_sound` | proved (its completeness at the fixpoint: not proved; converged on 152/152) |
| "the tree is a derivation of the grammar" (fields, aliases, hidden/inlined rules, extras) | `check_sound`, `check_memo_sound` : `checkDerivationM g t = true → Derives g t`; `driver_yield` (leaves = tokens) | judged per error-free real tree (9625/9625 pass; thorough ≈ 95 000) with a proved checker; `check_complete` not proved |
| "the unique one for conflict-free grammars" | — (`unique_eq` not proved); the model driver is deterministic and its tree equals the real internal tree | judged (correspondence on every accepted string) |
| "for operator grammars the one selected by the declared precedence and associativity" | `pratt_yield`, `pratt_respects` (binary/prefix/postfix, integer/negative/default levels, rules sharing an operator token) | proved about the Pratt model; real tree = Pratt tree judged per string (180 000 strings quick, ≈ 2 M thorough, incl. all chains of two and three operators; NAMED precedence levels, operators as alternatives of one rule) |
| "declared conflicts: the tree is one of the grammar's derivations" | `check_sound`; `glr_yield` (every accepting run of a multi-action table yields the token string) | judged per string; the GLR model (`parseAll`) is tied by correspondence (version merging not modelled) |
| "the one with the greater dynamic precedence is kept" | `glr_select_max`, `select_tree_prefers_dynprec`, `select_tree_prefers_lower_cost`, `dyn_sound` (every (string, total) of the dynamic-precedence oracle comes from a derivation) | proved about `selectBest` / the port of `ts_parser__select_tree`; real root's dynamic precedence = greatest total judged per string |

OPEN (kept at full strength, not proved): `check_complete` (`Derives g t → checkDerivation g t = true`,
false as stated for hidden recursion deeper than the fuel), completeness of the enumerator at its
fixpoint, uniqueness of the derivation for conflict-free grammars (`unique_eq`), a termination
bound for the driver (fuel is existential in the completeness theorems), extras inside the string
and hidden terminal rules in `parser_complete_per_grammar`.
-/
namespace TsVerif.C03

/-- On a table that passes the decidable closedness check the single-version
driver never pops below the stack base, never looks up an undefined goto, never enters a
non-existing state, never accepts without a root — for ALL token strings (symbol 0 is reserved for
the end of input). -/
theorem driver_no_fault (tbl : Table) (hclosed : tableClosed tbl = true)
    (toks : List Nat) (hnz : ∀ a, a ∈ toks → a ≠ 0) : ∀ f, run tbl toks ≠ .fault f := by
  unfold run
  exact runLoop_no_fault (closed_of_tableClosed hclosed) (by simp [StackInv]) hnz

/-- The leaves of an accepted tree are exactly the consumed tokens, in order,
followed by the end-of-input leaf (any table, any token string). -/
theorem driver_yield (tbl : Table) (toks : List Nat) (t : PTree) (h : run tbl toks = .accepted t) :
    t.leaves = toks ++ [0] := by
  simpa using runLoop_yield (tbl := tbl) h

theorem smallLookup_hit (pre : List (Nat × List Nat)) (v : Nat) (syms : List Nat) (post : List (Nat × List Nat)) (y : Nat)
    (hy : y ∈ syms) (hpre : ∀ g, g ∈ pre → y ∉ g.2) : smallLookup (pre ++ (v, syms) :: post) y = v := by
  induction pre with
  | nil => simp [smallLookup, hy]
  | cons g gs ih => simp [smallLookup, hpre g, ih fun g hg => hpre g (by simp [hg])]

theorem smallLookup_miss (gs : List (Nat × List Nat)) (y : Nat) (h : ∀ g, g ∈ gs → y ∉ g.2) : smallLookup gs y = 0 := by
  induction gs with
  | nil => rfl
  | cons g gs ih => simp [smallLookup, h g, ih fun g hg => h g (by simp [hg])]

/-- What a small state's record means — a symbol listed in a group
(and in no earlier one) has that group's value.  `rawTie` compares this reading of the RAW rows the
generator wrote with what the runtime's `ts_language_lookup` answers, for every (state, symbol) of
every dumped table (violation `lookup-differs-from-raw-table`). -/
theorem small_table_lookup_first_group (pre : List (Nat × List Nat)) (v : Nat) (syms : List Nat)
    (post : List (Nat × List Nat)) (y : Nat) (hy : y ∈ syms) (hpre : ∀ g, g ∈ pre → y ∉ g.2) :
    rawLookup (.small (pre ++ (v, syms) :: post)) y = v :=
  smallLookup_hit pre v syms post y hy hpre

/-- A tree accepted by the executable checker is a derivation of the grammar. -/
theorem check_sound (g : Grammar) (t : VNode) (h : checkDerivation g t = true) : Derives g t := by
  unfold checkDerivation at h
  split at h
  · next k n e fl kids b hb =>
    simp only [Bool.and_eq_true, decide_eq_true_eq, Bool.not_eq_true', Option.isNone_iff_eq_none] at h
    obtain ⟨⟨⟨⟨hk, hn⟩, he⟩, hf⟩, hbody⟩ := h
    subst hk hn he hf
    exact ⟨b, kids, hb, rfl, checkBody_sound g _ b kids hbody⟩
  · cases h

/-- The same for the checker the driver runs, which checks the children of every
node once (bottom-up table of node checks) instead of once per alternative that mentions the node —
`checkDerivation` is exponential in the depth of left-nested trees for rules with two alternatives
that start with the same recursive symbol. -/
theorem check_memo_sound (g : Grammar) (t : VNode) (h : checkDerivationM g t = true) : Derives g t := by
  unfold checkDerivationM at h
  obtain ⟨k, n, e, fl, kids⟩ := t
  cases hb : g.body g.start with
  | none => simp [hb] at h
  | some b =>
    simp only [hb, Bool.and_eq_true, decide_eq_true_eq, Bool.not_eq_true', Option.isNone_iff_eq_none] at h
    obtain ⟨⟨⟨⟨rfl, rfl⟩, rfl⟩, rfl⟩, hbody⟩ := h
    have hT : TabOK g (buildTabL g (checkFuel g (.mk g.start true false none kids)) kids []) :=
      buildTabL_ok g _ kids [] (by intro b ks hm; cases hm)
    exact ⟨b, kids, hb, rfl, bodyP_sound (cbTab_sound hT) hbody⟩

/-- Every string the bounded enumerator lists for a (non-token) rule is derivable from it. -/
theorem enum_sound (g : Grammar) (L k : Nat) (x : String) (b : Rule) (w : List Tok)
    (hb : g.body x = some b) (hnt : isTerminalBody b = false) (hw : w ∈ (enumLang g L k).get x) :
    DerivesTok g (.sym x) w :=
  .symRule hb hnt (enumLang_sound g L k x w hw b hb hnt)

/-- A string the membership oracle of the driver accepts is in the language
(terminal extras removed, the rest derives from the start rule). -/
theorem oracle_sound (g : Grammar) (L : Nat) (b : Rule) (w : List Tok)
    (hb : g.body g.start = some b) (hnt : isTerminalBody b = false)
    (hw : (Std.HashSet.ofList (oracleList g L).1).contains (stripExtras g w) = true) : InLang g w := by
  rw [Std.HashSet.contains_ofList] at hw
  have hmem : stripExtras g w ∈ (oracleList g L).1 := List.contains_iff_mem.mp hw
  unfold oracleList at hmem
  simp only at hmem
  have := enumFix_sound g L _ 0 [] (by intro x w hw; simp [Env.get] at hw) g.start _ hmem b hb hnt
  exact .symRule hb hnt this

/-- With equal error cost and different dynamic precedence the
candidate with the greater dynamic precedence is kept (`true` = the new/right tree replaces the left). -/
theorem select_tree_prefers_dynprec (l r : Cand) (hc : l.errorCost = r.errorCost) (hd : l.dynPrec ≠ r.dynPrec) :
    selectTree l r = some (decide (r.dynPrec > l.dynPrec)) := by
  simp only [selectTree, hc, Nat.lt_irrefl, if_false]
  by_cases h : r.dynPrec > l.dynPrec
  · simp [h]
  · simp [h, show l.dynPrec > r.dynPrec by omega]

/-- …and a smaller error cost always wins, whatever the dynamic precedences. -/
theorem select_tree_prefers_lower_cost (l r : Cand) (hc : l.errorCost ≠ r.errorCost) :
    selectTree l r = some (decide (r.errorCost < l.errorCost)) := by
  unfold selectTree
  by_cases h : r.errorCost < l.errorCost
  · simp [h]
  · have : l.errorCost < r.errorCost := by omega
    simp [h, this]

/-- On a table that passes the decidable `tableSafe` (state 1 exists; no transition
enters the start state and accepting states are entered only from it; non-extra shifts are on real
terminals that are never shifted as extras; no non-terminal extras) every tree the driver accepts —
for ALL token strings — is a tree over the productions the table spells (`TreeOver`): each node
`(A, production_id)` is a non-extra node whose non-extra children carry exactly the symbols
`X₁ … Xₙ` of a path of `n` transitions into a state with the reduce action `(A, n, production_id)`
(`IsProd`), every extra leaf is a token the table shifts as an extra. -/
theorem driver_sound (tbl : Table) (hsafe : tableSafe tbl = true)
    (toks : List Nat) (t : PTree) (h : run tbl toks = .accepted t) : TreeOver tbl t :=
  (runLoop_sound hsafe (c := { stack := [], toks := toks }) trivial h).1

/-- The relation to the SOURCE grammar, per validated grammar instead of
per output tree.  If the table passes `tableSafe` and every production the table spells is an
instance of the source rule of its left-hand side (`relOK g tbl aux`, decidable; `aux` assigns each
repeat-auxiliary symbol the rule it repeats), then for ALL token strings: whatever the driver
accepts is derived by the grammar's start rule (table extras removed) — `has_error = false ⇒
string ∈ L(G)` as a theorem about the generated table, for the model driver. -/
theorem parser_sound_per_grammar (g : Grammar) (tbl : Table) (aux : AuxMap) (hsafe : tableSafe tbl = true)
    (hrel : relOK g tbl aux = true) (toks : List Nat) (hnz : ∀ a, a ∈ toks → a ≠ 0) (t : PTree)
    (h : run tbl toks = .accepted t) :
    DerivesTok g (.sym g.start) ((toks.filter fun a => !isExtraSym tbl a).map (tokOf tbl)) :=
  parser_sound g tbl aux hsafe hrel toks hnz t h

/-- The converse of `driver_sound`.  `P` is a set of productions
over the table's symbols, `ann` an LR(1)-style annotation of the states (items with look-aheads, where
an item may say that a symbol stands at the dot in place of a hidden rule whose unit reduction the
generator removed; `nullable`/`first` sets) computed by an untrusted propagation, `allow` the shape of
trees the claim is about (all trees, or left-nested repeats).  If the decidable `completeOK` holds
(start items in state 1; shift / goto into a state holding the advanced item; closure under the
allowed productions for every look-ahead that can follow; the single effective reduce on the
look-ahead of a complete item; `first`/`nullable` closed under `P`), then EVERY derivation tree of the
start symbol over `P` is accepted by the driver (with enough fuel) — no string such a tree yields
is rejected, for all trees.  (Token strings without extra tokens; deterministic cells; tables
without non-terminal extras.) -/
theorem table_complete_for_its_productions (tbl : Table) (P : List Prod) (allow : Allow) (ann : Ann) (start : Nat)
    (hok : completeOK tbl P allow ann start = true) (pid : Nat) (ks : List DT)
    (hv : (DT.node start pid ks).Valid tbl P allow) :
    ∃ f pt, runLoop tbl f { stack := [], toks := (DT.node start pid ks).yield } = .accepted pt :=
  table_complete tbl P allow ann start hok pid ks hv

/-- From `grammar.json` to a production set `P` over the table's
symbols.  `coverOK g tbl aux P start` (decidable) says: for every non-terminal of the table, every
symbol sequence in the canonical flattening `expand` of its source rule (choices multiplied out, a
repeat replaced by its auxiliary symbol or nothing, inlined rules substituted, names resolved to the
table's symbols) is a production of `P`; an auxiliary symbol `R` of the rule `a` has `R → R R` and every
flattening of `a`; terminal names are distinct.  Then every derivation of the start rule in the
token-level semantics `DerivesTok` has a derivation tree over `P` (left-nested repeats: `auxAllow`)
with the same token string. -/
theorem grammar_covered_by_productions (g : Grammar) (tbl : Table) (aux : AuxMap) (P : List Prod) (start : Nat)
    (h : coverOK g tbl aux P start = true) (w : List Tok) (hd : DerivesTok g (.sym g.start) w) :
    ∃ pid ks, (DT.node start pid ks).Valid tbl P (auxAllow aux) ∧ (DT.node start pid ks).yield.map (tokOf tbl) = w :=
  grammar_cover g tbl aux P start h w hd

/-- The converse of `parser_sound_per_grammar`, per validated
(grammar, table) pair and for ALL token strings without extra tokens: `string ∈ L(G) ⇒ the driver
accepts`.  `coverOK` relates `grammar.json` to `P`, `completeOK` validates the real table against `P`
(both decidable, both evaluated by the check on every generated grammar in scope). -/
theorem parser_complete_per_grammar (g : Grammar) (tbl : Table) (aux : AuxMap) (P : List Prod) (ann : Ann) (start : Nat)
    (hcov : coverOK g tbl aux P start = true) (hok : completeOK tbl P (auxAllow aux) ann start = true)
    (toks : List Nat) (htoks : ∀ a, a ∈ toks → a < tbl.tokenCount ∧ a ≠ 0)
    (hd : DerivesTok g (.sym g.start) (toks.map (tokOf tbl))) :
    ∃ f pt, runLoop tbl f { stack := [], toks := toks } = .accepted pt :=
  parser_complete g tbl aux P ann start hcov hok toks htoks hd

/-- Both halves together.  For a (grammar, table) pair that
passes the four decidable validations, and every string of non-extra terminals: the driver accepts
the string (with some amount of fuel) iff the grammar's start rule derives it. -/
theorem parser_recognises_exactly_its_grammar (g : Grammar) (tbl : Table) (aux : AuxMap) (P : List Prod) (ann : Ann) (start : Nat)
    (hsafe : tableSafe tbl = true) (hrel : relOK g tbl aux = true)
    (hcov : coverOK g tbl aux P start = true) (hok : completeOK tbl P (auxAllow aux) ann start = true)
    (toks : List Nat) (htoks : ∀ a, a ∈ toks → a < tbl.tokenCount ∧ a ≠ 0 ∧ isExtraSym tbl a = false) :
    (∃ f pt, runLoop tbl f { stack := [], toks := toks } = .accepted pt) ↔
      DerivesTok g (.sym g.start) (toks.map (tokOf tbl)) := by
  constructor
  · rintro ⟨f, pt, h⟩
    have := parser_sound_fuel hsafe hrel (fun a ha => (htoks a ha).2.1) h
    rwa [filter_not_extra fun a ha => (htoks a ha).2.2] at this
  · intro hd
    exact parser_complete g tbl aux P ann start hcov hok toks (fun a ha => ⟨(htoks a ha).1, (htoks a ha).2.1⟩) hd

/-- The form the check evaluates.  The names the
table gives its NON-terminals are immaterial (the driver never reads them, the statement mentions
only terminal names), and `extract_default_aliases` renames a rule that is aliased at every use; so
the four validations are evaluated on `renameNT tbl ren` (`ren` found by an untrusted search) and the
grammar is read through `tokenView` (which whole-rule terminals are tokens: `extract_tokens`'
absorption rule) — the equivalence holds for the dumped table itself. -/
theorem parser_recognises_exactly_its_grammar_up_to_names (g : Grammar) (tbl : Table) (ren : List (Nat × String))
    (aux : AuxMap) (P : List Prod) (ann : Ann) (start : Nat)
    (hsafe : tableSafe (renameNT tbl ren) = true) (hrel : relOK g (renameNT tbl ren) aux = true)
    (hcov : coverOK g (renameNT tbl ren) aux P start = true)
    (hok : completeOK (renameNT tbl ren) P (auxAllow aux) ann start = true)
    (toks : List Nat) (htoks : ∀ a, a ∈ toks → a < tbl.tokenCount ∧ a ≠ 0 ∧ isExtraSym tbl a = false) :
    (∃ f pt, runLoop tbl f { stack := [], toks := toks } = .accepted pt) ↔
      DerivesTok g (.sym g.start) (toks.map (tokOf tbl)) := by
  constructor
  · rintro ⟨f, pt, h⟩
    have := parser_sound_renamed g tbl ren aux hsafe hrel toks (fun a ha => ⟨(htoks a ha).1, (htoks a ha).2.1⟩) pt f h
    rwa [filter_not_extra fun a ha => (htoks a ha).2.2] at this
  · intro hd
    exact parser_complete_renamed g tbl ren aux P ann start hcov hok toks (fun a ha => ⟨(htoks a ha).1, (htoks a ha).2.1⟩) hd

/-- For cells with several actions the model follows every action (`parseAll`); each
accepting run yields a tree whose leaves are exactly the token string — in particular the tree
`selectBest` keeps (`selectBest_spec`). -/
theorem glr_yield (tbl : Table) (toks : List Nat) (t : PTree) (h : t ∈ parseAll tbl toks) :
    t.leaves = toks ++ [0] := by
  unfold parseAll at h
  simpa using runAll_yield acceptTree acceptTree_leaves tbl _ _ t h

/-- The tree kept among all accepting runs is one of them and no other accepting
run has a greater dynamic precedence ("the one with the greater value is kept"). -/
theorem glr_select_max (tbl : Table) (toks : List Nat) (t : PTree) (h : selectBest (parseAll tbl toks) = some t) :
    t ∈ parseAll tbl toks ∧ ∀ u, u ∈ parseAll tbl toks → u.dynPrec ≤ t.dynPrec :=
  selectBest_spec _ t h

/-- Every item of the dynamic-precedence oracle is backed by a derivation of the start
rule's body with exactly that bookkeeping (`own`/`inl`: the value of the start production itself,
`e`: the sum of the values of all productions below it — what the root of a real tree carries) — so
the `best` value the judge compares the kept tree against is the value of an actual competing
derivation, computed with the generator's per-production rule (first value of greatest magnitude,
an inlined rule's value competing with the outer production's own one). -/
theorem dyn_sound (g : Grammar) (L : Nat) (b : Rule) (d : DItem)
    (hb : g.body g.start = some b) (hnt : isTerminalBody b = false) (hd : d ∈ (dynOracle g L).1) :
    DerivesTokD g b d.w d.own d.inl d.e := by
  unfold dynOracle at hd
  simp only at hd
  exact enumFixD_sound g L _ 0 [] (by intro x e he; simp [EnvD.get] at he) g.start d hd b hb hnt

/-- The tree the precedence-climbing parser returns is a tree over exactly the given tokens. -/
theorem pratt_yield (t : OpTable) (toks : List OpTok) (e : ETree) (h : pratt t toks = some e) : e.yield = toks := by
  simpa using (pratt_post h).yield.symm

/-- At every node of the Pratt tree the declared precedence and associativity hold
(`Respects`): the top operator of a right operand (and of a prefix operator's operand) was allowed
to continue under the operator to its left — higher level, or equal level and that left operator is
right-associative; the top operator of a left operand was complete when the operator arrived. -/
theorem pratt_respects (t : OpTable) (toks : List OpTok) (e : ETree) (h : pratt t toks = some e) :
    Respects t e = true :=
  (pratt_post h).resp

def tinyOps : OpTable :=
  { bin := [⟨"+", 2, false, "b0"⟩, ⟨"*", 4, false, "b1"⟩, ⟨"^", 6, true, "b2"⟩],
    un := [⟨"!", 3, "u0", true⟩, ⟨"~", -1, "u1", true⟩], post := [⟨"?", 0, "p0", false⟩] }
-- 1 + 1 * 1  ⇒  1 + (1 * 1);   1 ^ 1 ^ 1 ⇒ 1 ^ (1 ^ 1);   ! 1 * 1 + 1 ⇒ (!(1 * 1)) + 1
example : pratt tinyOps [.atom, .bin 0, .atom, .bin 1, .atom] = some (.bin 0 .atom (.bin 1 .atom .atom)) := by decide +kernel
example : pratt tinyOps [.atom, .bin 2, .atom, .bin 2, .atom] = some (.bin 2 .atom (.bin 2 .atom .atom)) := by decide +kernel
example : pratt tinyOps [.un 0, .atom, .bin 1, .atom, .bin 0, .atom] =
    some (.bin 0 (.un 0 (.bin 1 .atom .atom)) .atom) := by decide +kernel
-- an un-annotated postfix operator has the default precedence 0: it binds tighter than a prefix
-- operator of negative precedence and weaker than one of positive precedence
-- ~ 1 ?  ⇒  ~ (1 ?);   ! 1 ?  ⇒  (! 1) ?
example : pratt tinyOps [.un 1, .atom, .post 0] = some (.un 1 (.post 0 .atom)) := by decide +kernel
example : pratt tinyOps [.un 0, .atom, .post 0] = some (.post 0 (.un 0 .atom)) := by decide +kernel
example : Respects tinyOps (.bin 1 .atom (.bin 0 .atom .atom)) = false := by decide +kernel
/-- two rules share the operator `-`: `sub = prec.left(1, e - e)` (declared first) and
`range = prec.right(2, e - e)`; the token stands for `range`, and the tie with the pending `range`
continues to the right although the token also has the lower reading `sub` -/
def twinOps : OpTable :=
  { bin := [{ text := "-", level := 1, right := false, rule := "sub" }, { text := "-", level := 2, right := true, rule := "range" }] }
example : twinOps.binWinner "-" = some 1 := by decide +kernel
example : pratt twinOps [.atom, .bin 1, .atom, .bin 1, .atom] = some (.bin 1 .atom (.bin 1 .atom .atom)) := by decide +kernel
example : Respects twinOps (.bin 1 (.bin 1 .atom .atom) .atom) = false := by decide +kernel
example : Respects tinyOps (.un 0 (.post 0 .atom)) = false := by decide +kernel

/-- a tiny table: `S → a`, start state 1, `a` = symbol 1, `S` = symbol 2 -/
def tinyTable : Table :=
  { symbolCount := 3, tokenCount := 2, stateCount := 4
    acts := #[[], [(1, [.shift 2 false false])], [(0, [.reduce 2 1 0 0])], [(0, [.accept])]]
    gotos := #[[], [(2, 3)], [], []]
    lexState := #[0, 0, 0, 0] }

example : tableClosed tinyTable = true := by decide +kernel
example : tableSafe tinyTable = true := by decide +kernel
/-- the completeness premise on the tiny table: `S → a`, items `[S → . a, $]` in state 1, `[S → a ., $]` in state 2 -/
def tinyAnn : Ann :=
  { items := #[[], [⟨2, [1], 0, 0, 0, none⟩], [⟨2, [1], 0, 1, 0, none⟩], []], nullable := [], first := [(2, [1])] }
example : completeOK tinyTable [(2, [1], 0)] (fun _ _ _ => true) tinyAnn 2 = true := by decide +kernel
example : (DT.node 2 0 [DT.leaf 1]).Valid tinyTable [(2, [1], 0)] (fun _ _ _ => true) := by
  simp [DT.Valid, DT.ValidL, DT.sym, allowedAt, DT.prod?, tinyTable]
example : (∀ a, a ∈ [1] → a ≠ 0) := by decide +kernel
/-- both directions on a tiny pair: the table with names, and the grammar `s: field("f", 'a')` (a bare `s: 'a'`
would be a token rule) -/
def tinyNamed : Table :=
  { tinyTable with syms := #[⟨false, true, false, 0, "end"⟩, ⟨true, false, false, 1, "a"⟩, ⟨true, true, false, 2, "s"⟩] }
def tinyG : Grammar := { name := "t", rules := [("s", .field "f" (.str "a"))] }
example : coverOK tinyG tinyNamed [] [(2, [1], 0)] 2 = true := by decide +kernel
example : completeOK tinyNamed [(2, [1], 0)] (auxAllow []) tinyAnn 2 = true := by decide +kernel
example : relOK tinyG tinyNamed [] = true := by decide +kernel
example : tableSafe tinyNamed = true := by decide +kernel
/-- a production set that lacks the rule's only production is not a cover -/
example : coverOK tinyG tinyNamed [] [(2, [1, 1], 0)] 2 = false := by decide +kernel
example : (match run tinyTable [1] with | .accepted t => t.leaves == [1, 0] | _ => false) = true := by decide +kernel
example : (match run tinyTable [1, 1] with | .rejected _ => true | _ => false) = true := by decide +kernel

/-- a table that is NOT closed (the reduce pops 2 entries but only 1 can be on the stack) is rejected by the check -/
def badTable : Table := { tinyTable with acts := #[[], [(1, [.shift 2 false false])], [(0, [.reduce 2 2 0 0])], [(0, [.accept])]] }
example : tableClosed badTable = false := by decide +kernel
/-- …and the completeness premise fails on it: the complete item `[S → a ., $]` does not find its reduce -/
example : completeOK badTable [(2, [1], 0)] (fun _ _ _ => true) tinyAnn 2 = false := by decide +kernel
example : (match run badTable [1] with | .fault .popBelowBase => true | _ => false) = true := by decide +kernel

def tinyGrammar : Grammar :=
  { name := "t", rules := [("s", .seq (.str "a") (.rep (.sym "_x"))), ("_x", .choice (.str "b") (.field "f" (.sym "y"))), ("y", .pat "[0-9]")] }

example : checkDerivation tinyGrammar
    (.mk "s" true false none [.mk "a" false false none [], .mk "b" false false none [], .mk "y" true false (some "f") []]) = true := by
  decide +kernel
example : checkDerivation tinyGrammar (.mk "s" true false none [.mk "b" false false none []]) = false := by decide +kernel
example : checkDerivationM tinyGrammar (.mk "s" true false none [.mk "b" false false none []]) = false := by decide +kernel

example : selectTree ⟨0, 0⟩ ⟨0, 1⟩ = some true := by decide +kernel
example : selectTree ⟨0, 2⟩ ⟨0, 1⟩ = some false := by decide +kernel

end TsVerif.C03
