import TsVerif.C03.Relate
import TsVerif.C03.SoundLemmas
import TsVerif.C03.Yield
import TsVerif.C03.Span
import TsVerif.C03.LangLemmas
/-!
# `parser_sound`: what the driver accepts, the grammar derives

`SymLang` is the language of an internal symbol, `Subst` substitutes words for a sequence of symbols.
`matchSyms_sound`: what `matchSyms` consumed derives every substituted word (`Spans`); so a production that
passes `prodOK` maps the languages of its symbols into the language of its left-hand side, and a `TreeOver`
tree yields a word of its symbol's language (`tree_lang`).
-/
namespace TsVerif.C03

variable {g : Grammar} {tbl : Table} {aux : AuxMap}

/-- the language of an internal symbol: a terminal stands for itself, an auxiliary symbol for one or
more iterations of the rule it repeats, any other non-terminal for the rule of its name -/
def SymLang (g : Grammar) (tbl : Table) (aux : AuxMap) (y : Nat) (w : List Tok) : Prop :=
  if y < tbl.tokenCount then w = [tokOf tbl y]
  else match aux.lookup y with
    | some a => DerivesTok g (.rep1 a) w
    | none => DerivesTok g (.sym (tbl.symName y)) w

inductive Subst (g : Grammar) (tbl : Table) (aux : AuxMap) : List Nat → List Tok → Prop
  | nil : Subst g tbl aux [] []
  | cons {y ys u v} : SymLang g tbl aux y u → Subst g tbl aux ys v → Subst g tbl aux (y :: ys) (u ++ v)

theorem subst_append : ∀ (xs ys : List Nat) (w : List Tok),
    Subst g tbl aux (xs ++ ys) w → ∃ u v, w = u ++ v ∧ Subst g tbl aux xs u ∧ Subst g tbl aux ys v
  | [], _, w, h => ⟨[], w, rfl, .nil, h⟩
  | _ :: xs, ys, _, .cons h1 h2 =>
    let ⟨u, v, e, hu, hv⟩ := subst_append xs ys _ h2
    ⟨_ ++ u, v, by simp [e], .cons h1 hu, hv⟩

def MatchSound (g : Grammar) (tbl : Table) (aux : AuxMap) (f : Nat) : Prop :=
  ∀ r xs rem, rem ∈ matchSyms g tbl aux f r xs →
    ∃ pre, xs = pre ++ rem ∧ ∀ w, Subst g tbl aux pre w → DerivesTok g r w

theorem symLang_tok {y : Nat} {w : List Tok} (hy : y < tbl.tokenCount)
    (h : SymLang g tbl aux y w) : w = [tokOf tbl y] := by
  unfold SymLang at h; simpa [hy] using h

/-- `r` derives every word substituted for the part of `xs` in front of `rem` -/
abbrev Spans (g : Grammar) (tbl : Table) (aux : AuxMap) (r : Rule) : List Nat → List Nat → Prop :=
  Span fun pre => ∀ w, Subst g tbl aux pre w → DerivesTok g r w

theorem Spans.nil {r : Rule} {xs : List Nat} (h : DerivesTok g r []) : Spans g tbl aux r xs xs :=
  Span.nil fun w hw => by cases hw; exact h

theorem Spans.one {r : Rule} {y : Nat} {rest : List Nat} (h : ∀ w, SymLang g tbl aux y w → DerivesTok g r w) :
    Spans g tbl aux r (y :: rest) rest :=
  Span.one fun w hw => by
    cases hw with
    | cons h1 h2 => cases h2; simpa using h _ h1

theorem Spans.mono {r r' : Rule} {xs rem : List Nat} (h : ∀ w, DerivesTok g r w → DerivesTok g r' w) :
    Spans g tbl aux r xs rem → Spans g tbl aux r' xs rem :=
  Span.mono fun _ hd w hw => h w (hd w hw)

theorem Spans.seq {a b r : Rule} {xs mid rem : List Nat}
    (h : ∀ u v, DerivesTok g a u → DerivesTok g b v → DerivesTok g r (u ++ v)) :
    Spans g tbl aux a xs mid → Spans g tbl aux b mid rem → Spans g tbl aux r xs rem :=
  Span.seq fun p1 p2 hd1 hd2 w hw => by
    obtain ⟨u, v, rfl, hu, hv⟩ := subst_append p1 p2 w hw
    exact h u v (hd1 u hu) (hd2 v hv)

theorem Spans.tok {r : Rule} {y : Nat} {rest : List Nat} {t : Tok} (hc : y < tbl.tokenCount ∧ tokOf tbl y = t)
    (h : DerivesTok g r [t]) : Spans g tbl aux r (y :: rest) rest :=
  .one fun w hw => by rw [symLang_tok hc.1 hw, hc.2]; exact h

theorem Spans.auxSym {a : Rule} {y : Nat} {rest : List Nat} (hc : tbl.tokenCount ≤ y ∧ aux.lookup y = some a) :
    Spans g tbl aux (.rep1 a) (y :: rest) rest :=
  .one fun w hw => by unfold SymLang at hw; simpa [Nat.not_lt.mpr hc.1, hc.2] using hw

/-- the one shape in which `matchSyms` looks at the first symbol -/
theorem mem_head_match {p : Nat → Prop} [DecidablePred p] {F : List Nat → List (List Nat)} {xs rem : List Nat}
    (h : rem ∈ (match xs with
      | y :: rest => if p y then F rest else []
      | [] => [])) : ∃ y rest, xs = y :: rest ∧ p y ∧ rem ∈ F rest := by
  cases xs with
  | nil => simp at h
  | cons y rest =>
    simp only at h
    split at h
    · next hc => exact ⟨y, rest, rfl, hc, h⟩
    · simp at h

theorem matchSyms_sound (g : Grammar) (tbl : Table) (aux : AuxMap) : ∀ f, MatchSound g tbl aux f := by
  intro f
  induction f with
  | zero => intro r xs rem h; simp [matchSyms] at h
  | succ f ih =>
    intro r xs rem h
    change Spans g tbl aux r xs rem
    replace ih : ∀ r xs rem, rem ∈ matchSyms g tbl aux f r xs → Spans g tbl aux r xs rem := ih
    unfold matchSyms at h
    rw [List.mem_eraseDups] at h
    cases r with
    | blank => cases List.mem_singleton.mp h; exact .nil .blank
    | str s =>
      obtain ⟨y, rest, rfl, hc, h⟩ := mem_head_match h
      cases List.mem_singleton.mp h
      exact .tok hc .str
    | sym x =>
      simp only at h
      split at h
      · simp at h
      · next b hb =>
        split at h
        · next ht =>
          obtain ⟨y, rest, rfl, hc, h⟩ := mem_head_match h
          cases List.mem_singleton.mp h
          exact .tok hc (.symTok hb ht)
        · next ht =>
          have ht' : isTerminalBody b = false := by simpa using ht
          rcases List.mem_append.mp h with h | h
          · obtain ⟨y, rest, rfl, hc, h⟩ := mem_head_match h
            cases List.mem_singleton.mp h
            refine .one fun w hw => ?_
            unfold SymLang at hw
            simpa [Nat.not_lt.mpr hc.1, hc.2.1, hc.2.2] using hw
          · split at h
            · exact (ih b xs rem h).mono fun w => .symRule hb ht'
            · simp at h
    | seq a b =>
      obtain ⟨r1, hr1, hr2⟩ := List.mem_flatMap.mp h
      exact .seq (fun _ _ => .seq) (ih a xs r1 hr1) (ih b r1 rem hr2)
    | choice a b =>
      rcases List.mem_append.mp h with h | h
      · exact (ih a xs rem h).mono fun _ => .choiceL
      · exact (ih b xs rem h).mono fun _ => .choiceR
    | rep a =>
      rcases List.mem_cons.mp h with rfl | h
      · exact .nil .repNil
      · rcases List.mem_append.mp h with h | h
        · obtain ⟨y, rest, rfl, hc, h⟩ := mem_head_match h
          exact .seq (fun _ v hu => rep_append (rep1_to_rep hu) v) (.auxSym hc) (ih (.rep a) rest rem h)
        · obtain ⟨r1, hr1, hr2⟩ := List.mem_flatMap.mp h
          split at hr2
          · exact .seq (fun _ v hu => rep_append (rep_of_one hu) v) (ih a xs r1 hr1) (ih (.rep a) r1 rem hr2)
          · simp at hr2
    | rep1 a =>
      rcases List.mem_append.mp h with h | h
      · obtain ⟨y, rest, rfl, hc, h⟩ := mem_head_match h
        exact .seq (fun _ v hu => rep1_append_rep hu v) (.auxSym hc) (ih (.rep a) rest rem h)
      · obtain ⟨r1, hr1, hr2⟩ := List.mem_flatMap.mp h
        exact .seq (fun _ v hu => rep1_append_rep (rep1_of_one hu) v) (ih a xs r1 hr1) (ih (.rep a) r1 rem hr2)
    | field n a => exact (ih a xs rem h).mono fun _ => .field
    | «alias» v n a => exact (ih a xs rem h).mono fun _ => .alias
    | prec k v a => exact (ih a xs rem h).mono fun _ => .prec
    | pat p => simp at h
    | token a => simp at h
    | immToken a => simp at h
    | unknown t => simp at h

theorem prodList_complete {A : Nat} {syms : List Nat} {pid : Nat} (h : IsProd tbl A syms pid) :
    (A, syms, pid) ∈ prodList tbl := by
  obtain ⟨s, a, n, dp, p, hact, hpath⟩ := h
  unfold prodList
  simp only [List.mem_eraseDups, List.mem_flatMap, List.mem_range]
  refine ⟨s, actions_state_lt hact, (a, tbl.actions s a), actions_mem hact, _, hact, ?_⟩
  simp only [List.mem_map]
  exact ⟨(p, syms), hpath, rfl⟩

theorem prodOK_sound (g : Grammar) (tbl : Table) (aux : AuxMap) (A : Nat) (syms : List Nat) (pid : Nat)
    (h : prodOK g tbl aux (A, syms, pid) = true) : ∀ w, Subst g tbl aux syms w → SymLang g tbl aux A w := by
  simp only [prodOK, Bool.and_eq_true, decide_eq_true_eq] at h
  obtain ⟨hA, h⟩ := h
  intro w hw
  simp only [SymLang, Nat.not_lt.mpr hA, if_false]
  cases hl : aux.lookup A with
  | some a =>
    simp only [hl] at h ⊢
    exact Span.full (matchSyms_sound g tbl aux _ (.rep1 a) syms [] (mem_nil_of_any h)) w hw
  | none =>
    simp only [hl] at h ⊢
    cases hb : g.body (tbl.symName A) with
    | none => simp [hb] at h
    | some b =>
      simp only [hb, Bool.and_eq_true, Bool.not_eq_true'] at h
      exact .symRule hb h.1 (Span.full (matchSyms_sound g tbl aux _ b syms [] (mem_nil_of_any h.2)) w hw)

mutual
  theorem tree_lang (g : Grammar) (tbl : Table) (aux : AuxMap) (hrel : ∀ pr, pr ∈ prodList tbl → prodOK g tbl aux pr = true) :
      ∀ (t : PTree), TreeOver tbl t → t.isExtra = false → SymLang g tbl aux t.sym (yieldTok tbl t)
    | .leaf s e, .leaf hl, hx => by
      cases hx
      simp [SymLang, PTree.sym, yieldTok, (hl.2 rfl).2.1]
    | .node A pid dp e ks, .node he hprod hkids, _ =>
      prodOK_sound g tbl aux A _ pid (hrel _ (prodList_complete hprod)) _ (forest_lang g tbl aux hrel ks hkids)
  theorem forest_lang (g : Grammar) (tbl : Table) (aux : AuxMap) (hrel : ∀ pr, pr ∈ prodList tbl → prodOK g tbl aux pr = true) :
      ∀ (ks : List PTree), (∀ t, t ∈ ks → TreeOver tbl t) → Subst g tbl aux (nonExtraSyms ks) (yieldTokL tbl ks)
    | [], _ => by simp [nonExtraSyms, yieldTokL]; exact .nil
    | t :: ts, h => by
      have ht := h t List.mem_cons_self
      have hts := forest_lang g tbl aux hrel ts (fun x hx => h x (List.mem_cons_of_mem _ hx))
      simp only [yieldTokL]
      cases hx : t.isExtra with
      | true =>
        -- an extra child is a leaf (extra nodes do not exist in a `TreeOver` tree) and yields nothing
        have : yieldTok tbl t = [] := by
          cases ht with
          | leaf _ => cases hx; rfl
          | node he _ _ => cases he; cases hx
        simpa [nonExtraSyms, hx, this] using hts
      | false => simpa [nonExtraSyms, hx] using Subst.cons (tree_lang g tbl aux hrel t ht hx) hts
end

theorem startOK_elim (h : startOK g tbl aux = true)
    {q a X : Nat} (hq : q < tbl.stateCount) (hacc : Action.accept ∈ tbl.actions q a) (he : symEdge tbl 1 X q = true) :
    tbl.tokenCount ≤ X ∧ aux.lookup X = none ∧ tbl.symName X = g.start := by
  simp only [startOK, List.all_eq_true, List.mem_range, Bool.or_eq_true, Bool.not_eq_true', Bool.and_eq_true,
    decide_eq_true_eq, Option.isNone_iff_eq_none, beq_iff_eq] at h
  rcases h q hq with hno | hall
  · rw [hasAccept, any_accept hacc] at hno; cases hno
  · exact and_assoc.mp (hall X (mem_rowEdges he))

theorem parser_sound_tree_fuel (hsafe : tableSafe tbl = true)
    (hrel : relOK g tbl aux = true) {toks : List Nat} {t : PTree} {f : Nat}
    (h : runLoop tbl f { stack := [], toks := toks } = .accepted t) :
    DerivesTok g (.sym g.start) (yieldTok tbl t) := by
  simp only [relOK, Bool.and_eq_true, List.all_eq_true] at hrel
  obtain ⟨hover, sym, pid, dp, ks, q, a, rfl, hq, hacc, hedge⟩ := runLoop_sound hsafe (c := { stack := [], toks := toks }) trivial h
  obtain ⟨hX, hauxn, hname⟩ := startOK_elim hrel.2 hq hacc hedge
  simpa [SymLang, PTree.sym, Nat.not_lt.mpr hX, hauxn, hname] using tree_lang g tbl aux hrel.1 _ hover rfl

theorem parser_sound_tree (g : Grammar) (tbl : Table) (aux : AuxMap) (hsafe : tableSafe tbl = true)
    (hrel : relOK g tbl aux = true) (toks : List Nat) (t : PTree) (h : run tbl toks = .accepted t) :
    DerivesTok g (.sym g.start) (yieldTok tbl t) :=
  parser_sound_tree_fuel hsafe hrel h

mutual
  theorem yieldTok_eq (tbl : Table) : ∀ (t : PTree), TreeOver tbl t →
      yieldTok tbl t = (t.leaves.filter (keepTok tbl)).map (tokOf tbl)
    | .leaf s true, .leaf hl => by
      rcases hl.1 rfl with hx | h0
      · simp [yieldTok, PTree.leaves, keepTok, hx]
      · simp [yieldTok, PTree.leaves, keepTok, h0]
    | .leaf s false, .leaf hl => by simp [yieldTok, PTree.leaves, keepTok, (hl.2 rfl).1, (hl.2 rfl).2.2]
    | .node A pid dp e ks, .node _ _ hkids => by simpa [yieldTok, PTree.leaves] using yieldTokL_eq tbl ks hkids
  theorem yieldTokL_eq (tbl : Table) : ∀ (ks : List PTree), (∀ t, t ∈ ks → TreeOver tbl t) →
      yieldTokL tbl ks = ((PTree.leavesL ks).filter (keepTok tbl)).map (tokOf tbl)
    | [], _ => by simp [yieldTokL, PTree.leavesL]
    | t :: ts, h => by
      simp only [yieldTokL, PTree.leavesL, List.filter_append, List.map_append]
      rw [yieldTok_eq tbl t (h t List.mem_cons_self),
        yieldTokL_eq tbl ts (fun x hx => h x (List.mem_cons_of_mem _ hx))]
end

theorem filter_not_extra {toks : List Nat} (h : ∀ a, a ∈ toks → isExtraSym tbl a = false) :
    (toks.filter fun a => !isExtraSym tbl a) = toks :=
  List.filter_eq_self.mpr fun a ha => by simp [h a ha]

theorem parser_sound_fuel (hsafe : tableSafe tbl = true)
    (hrel : relOK g tbl aux = true) {toks : List Nat} (hnz : ∀ a, a ∈ toks → a ≠ 0) {t : PTree} {f : Nat}
    (h : runLoop tbl f { stack := [], toks := toks } = .accepted t) :
    DerivesTok g (.sym g.start) ((toks.filter fun a => !isExtraSym tbl a).map (tokOf tbl)) := by
  have hd := parser_sound_tree_fuel hsafe hrel h
  rw [yieldTok_eq tbl t (runLoop_sound hsafe (c := { stack := [], toks := toks }) trivial h).1, show t.leaves = toks ++ [0] by simpa using runLoop_yield h] at hd
  have hf : (toks ++ [0]).filter (keepTok tbl) = toks.filter fun a => !isExtraSym tbl a := by
    rw [List.filter_append, show [0].filter (keepTok tbl) = [] by simp [keepTok], List.append_nil]
    exact List.filter_congr fun a ha => by simp [keepTok, hnz a ha]
  rwa [hf] at hd

theorem parser_sound (g : Grammar) (tbl : Table) (aux : AuxMap) (hsafe : tableSafe tbl = true)
    (hrel : relOK g tbl aux = true) (toks : List Nat) (hnz : ∀ a, a ∈ toks → a ≠ 0) (t : PTree)
    (h : run tbl toks = .accepted t) :
    DerivesTok g (.sym g.start) ((toks.filter fun a => !isExtraSym tbl a).map (tokOf tbl)) :=
  parser_sound_fuel hsafe hrel hnz h

end TsVerif.C03
