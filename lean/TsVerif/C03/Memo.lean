import TsVerif.C03.Derive
/-!
# C03 — the derivation checker with a table of node checks (`checkDerivationM`)

`checkBody` re-checks the body of a child node once per alternative of the parent's rule that mentions
it: for `start: choice(seq(start, num), seq(start, 'a', r1), …)` and a left-nested tree of depth `d`
that is `2^d` checks.  `checkDerivationM` walks the tree bottom-up once, checks the children of every
node against every rule body a node of its kind can stand for (`cands`), and records the answers in a
table; the matcher (`matchRuleP`) is then run with the table look-up as its check of child nodes.  A
query the table does not hold falls back to `checkBody`, so the candidate list is an optimisation
only.  `check_memo_sound` (Props.lean): a tree accepted this way is a derivation.
-/
namespace TsVerif.C03

mutual
  def beqV : VNode → VNode → Bool
    | .mk k n e f ks, .mk k' n' e' f' ks' => k == k' && n == n' && e == e' && f == f' && beqVL ks ks'
  def beqVL : List VNode → List VNode → Bool
    | [], [] => true
    | a :: as, b :: bs => beqV a b && beqVL as bs
    | _, _ => false
end

/-- (rule body, children, do the children derive from the body?) -/
abbrev Tab := List (Rule × List VNode × Bool)

def Tab.find : Tab → Rule → List VNode → Option Bool
  | [], _, _ => none
  | (b', k', r) :: rest, b, kids => if beqVL k' kids && decide (b' = b) then some r else Tab.find rest b kids

def cbTab (g : Grammar) (fuel : Nat) (t : Tab) (b : Rule) (kids : List VNode) : Bool :=
  match t.find b kids with
  | some r => r
  | none => checkBody g fuel b kids

/-- a rule without its FIELD / ALIAS / PREC wrappers -/
def coreOf : Rule → Rule
  | .field _ a => coreOf a
  | .alias _ _ a => coreOf a
  | .prec _ _ a => coreOf a
  | r => r

/-- what the content of an `ALIAS` of value `k` can make a node of kind `k` stand for -/
def aliasBodies (g : Grammar) (k : String) : Rule → List Rule
  | .alias v _ a =>
    (if v == k then
      match coreOf a with
      | .sym x => (g.body x).toList
      | .rep r => [.rep r]
      | .rep1 r => [.rep1 r]
      | _ => []
     else []) ++ aliasBodies g k a
  | .seq a b => aliasBodies g k a ++ aliasBodies g k b
  | .choice a b => aliasBodies g k a ++ aliasBodies g k b
  | .rep a => aliasBodies g k a
  | .rep1 a => aliasBodies g k a
  | .field _ a => aliasBodies g k a
  | .prec _ _ a => aliasBodies g k a
  | _ => []

def cands (g : Grammar) (k : String) : List Rule :=
  ((g.body k).toList ++ g.rules.flatMap fun e => aliasBodies g k e.2).eraseDups

mutual
  def buildTab (g : Grammar) (fuel : Nat) : VNode → Tab → Tab
    | .mk k _ _ _ kids, t =>
      let t1 := buildTabL g fuel kids t
      (cands g k).foldl (fun acc b => (b, kids, bodyP g (cbTab g fuel acc) fuel b kids) :: acc) t1
  def buildTabL (g : Grammar) (fuel : Nat) : List VNode → Tab → Tab
    | [], t => t
    | x :: xs, t => buildTabL g fuel xs (buildTab g fuel x t)
end

def checkDerivationM (g : Grammar) (t : VNode) : Bool :=
  match t, g.body g.start with
  | .mk k n e fl kids, some b =>
    decide (k = g.start) && n && !e && fl.isNone &&
      bodyP g (cbTab g (checkFuel g t) (buildTabL g (checkFuel g t) kids [])) (checkFuel g t) b kids
  | _, none => false

end TsVerif.C03
