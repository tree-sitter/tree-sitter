import TsVerif.C03.LangLemmas
/-!
# Soundness of the dynamic-precedence enumerator (`enumFixD_sound`, behind `dyn_sound`)
-/
namespace TsVerif.C03

theorem dedupD_sub {l : List DItem} {x : DItem} (h : x ∈ dedupD l) : x ∈ l := by
  simpa using dedup_fold_sub l _ (List.mem_reverse.mp h)

theorem concatD_mem {L : Nat} {A B : List DItem} {x : DItem} (h : x ∈ concatD L A B) :
    ∃ u v, u ∈ A ∧ v ∈ B ∧ x = ⟨u.w ++ v.w, comb u.own v.own, comb u.inl v.inl, u.e + v.e⟩ := by
  simp only [concatD, List.mem_flatMap, List.mem_filterMap, Option.ite_none_right_eq_some, Option.some.injEq] at h
  obtain ⟨u, hu, v, hv, -, rfl⟩ := h
  exact ⟨u, v, hu, hv, rfl⟩

theorem concatRep_mem {L : Nat} {R A : List DItem} {x : DItem} (h : x ∈ concatRep L R A) :
    ∃ u v, u ∈ R ∧ v ∈ A ∧ x = ⟨u.w ++ v.w, 0, 0, u.e + (comb v.own v.inl + v.e)⟩ := by
  simp only [concatRep, List.mem_flatMap, List.mem_filterMap, Option.ite_none_right_eq_some, Option.some.injEq] at h
  obtain ⟨u, hu, v, hv, -, rfl⟩ := h
  exact ⟨u, v, hu, hv, rfl⟩

def Backed (g : Grammar) (r : Rule) (x : DItem) : Prop := DerivesTokD g r x.w x.own x.inl x.e

theorem repCloseD_sound {g : Grammar} {a : Rule} {L : Nat} {A : List DItem}
    (hA : ∀ x, x ∈ A → Backed g a x) : ∀ k x, x ∈ repCloseD L A k →
      x.own = 0 ∧ x.inl = 0 ∧ DerivesTokD g (.rep a) x.w 0 0 x.e := by
  intro k
  induction k with
  | zero => intro x h; simp [repCloseD] at h; subst h; exact ⟨rfl, rfl, .repNil⟩
  | succ k ih =>
    intro x h
    simp only [repCloseD] at h
    rcases List.mem_append.mp (dedupD_sub h) with h | h
    · exact ih x h
    · obtain ⟨u, v, hu, hv, rfl⟩ := concatRep_mem h
      exact ⟨rfl, rfl, .repCons (ih u hu).2.2 (hA v hv)⟩

def EnvDSound (g : Grammar) (env : EnvD) : Prop :=
  ∀ x d, d ∈ env.get x → ∀ b, g.body x = some b → isTerminalBody b = false → Backed g b d

theorem evalRuleD_sound {g : Grammar} {env : EnvD} {L : Nat} (henv : EnvDSound g env) :
    ∀ (r : Rule) (x : DItem), x ∈ evalRuleD g env L r → Backed g r x := by
  intro r
  induction r <;> intro x h <;> simp only [evalRuleD, List.mem_singleton, List.not_mem_nil] at h
  case blank => exact h ▸ .blank
  case str s => exact h ▸ .str
  case sym y =>
    split at h
    · next b hb =>
      split at h
      · next ht => cases List.mem_singleton.mp h; exact .symTok hb ht
      · next ht =>
        have ht' : isTerminalBody b = false := by simpa using ht
        split at h
        · next hin =>
          obtain ⟨d, hd, rfl⟩ := List.mem_map.mp h
          exact .symInline hb ht' hin (henv y d hd b hb ht')
        · next hin =>
          obtain ⟨d, hd, rfl⟩ := List.mem_map.mp h
          exact .symRule hb ht' (by simpa using hin) (henv y d hd b hb ht')
    · simp at h
  case seq a b iha ihb =>
    obtain ⟨u, v, hu, hv, rfl⟩ := concatD_mem (dedupD_sub h)
    exact .seq (iha u hu) (ihb v hv)
  case choice a b iha ihb =>
    rcases List.mem_append.mp (dedupD_sub h) with h | h
    · exact .choiceL (iha x h)
    · exact .choiceR (ihb x h)
  case rep a iha =>
    obtain ⟨h1, h2, h3⟩ := repCloseD_sound iha L x (List.mem_filter.mp h).1
    unfold Backed
    rwa [h1, h2]
  case rep1 a iha =>
    obtain ⟨u, v, hu, hv, rfl⟩ := concatRep_mem (dedupD_sub h)
    exact .rep1 (repCloseD_sound iha L u (List.mem_filter.mp hu).1).2.2 (iha v hv)
  case field n a iha => exact .field (iha x h)
  case «alias» v n a iha => exact .alias (iha x h)
  case prec k v a iha =>
    split at h
    · next hk =>
      subst hk
      obtain ⟨d, hd, rfl⟩ := List.mem_map.mp h
      exact .precDyn (iha d hd)
    · next hk => exact .prec hk (iha x h)

theorem enumStepD_sound {g : Grammar} {L : Nat} {env : EnvD} (henv : EnvDSound g env) : EnvDSound g (enumStepD g L env) := by
  intro x d hd b hb _
  obtain ⟨b', hb', hd'⟩ := get_map_rules g.rules (evalRuleD g env L) x d hd
  cases hb.symm.trans hb'
  exact evalRuleD_sound henv b d hd'

theorem enumFixD_sound (g : Grammar) (L : Nat) : ∀ (cap k : Nat) (env : EnvD), EnvDSound g env →
    EnvDSound g (enumFixD g L cap k env).1 := by
  intro cap
  induction cap with
  | zero => intro k env h; simpa [enumFixD] using h
  | succ cap ih =>
    intro k env h
    simp only [enumFixD]
    split
    · exact enumStepD_sound h
    · exact ih _ _ (enumStepD_sound h)

end TsVerif.C03
