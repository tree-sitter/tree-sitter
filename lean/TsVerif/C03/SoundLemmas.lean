import TsVerif.C03.Sound
import TsVerif.C03.DriverSteps
/-!
# The stack spells a path of the automaton (`runLoop_sound`, behind `driver_sound`)

The labelled LR invariant `Spells` (every entry is reached by a transition labelled with its tree's symbol,
extras keep the state, all trees on the stack are `TreeOver`) is kept by every applied action; at acceptance
the root's production and the trees spliced around it make a `TreeOver` tree.
-/
namespace TsVerif.C03

variable {tbl : Table}

theorem leafSafe_elim (h : leafSafe tbl = true) {s a s' : Nat} {r : Bool}
    (hx : Action.shift s' false r ∈ tbl.actions s a) : a ≠ 0 ∧ a < tbl.tokenCount ∧ isExtraSym tbl a = false := by
  simp only [leafSafe, List.all_eq_true, List.mem_range] at h
  have := h s (actions_state_lt hx) (a, tbl.actions s a) (actions_mem hx) _ hx
  simp only [Bool.and_eq_true, bne_iff_ne, ne_eq, decide_eq_true_eq, Bool.not_eq_true'] at this
  exact and_assoc.mp this

theorem isExtraSym_of {s a s' : Nat} {r : Bool} (hx : Action.shift s' true r ∈ tbl.actions s a) :
    isExtraSym tbl a = true := by
  unfold isExtraSym
  simp only [List.any_eq_true, List.mem_range]
  exact ⟨s, actions_state_lt hx, _, hx, rfl⟩

def Spells (tbl : Table) : Stack → Prop
  | [] => True
  | (s, t) :: rest =>
    s < tbl.stateCount ∧
    (if t.isExtra = true then s = topState rest else symEdge tbl (topState rest) t.sym s = true) ∧
    TreeOver tbl t ∧ Spells tbl rest

variable {st : Stack} {c : Conf}

theorem Spells.cons_extra {s : Nat} {t : PTree} {rest : Stack} (hx : t.isExtra = true) :
    Spells tbl ((s, t) :: rest) ↔ s < tbl.stateCount ∧ s = topState rest ∧ TreeOver tbl t ∧ Spells tbl rest := by
  simp only [Spells, hx, if_true]

theorem Spells.cons_keep {s : Nat} {t : PTree} {rest : Stack} (hx : t.isExtra = false) :
    Spells tbl ((s, t) :: rest) ↔
      s < tbl.stateCount ∧ symEdge tbl (topState rest) t.sym s = true ∧ TreeOver tbl t ∧ Spells tbl rest := by
  simp only [Spells, hx, Bool.false_eq_true, if_false]

theorem spells_top (h1 : 1 < tbl.stateCount) (h : Spells tbl st) : topState st < tbl.stateCount := by
  cases st with
  | nil => simpa [topState] using h1
  | cons e rest => obtain ⟨s, t⟩ := e; exact h.1

theorem mem_rowEdges {p X q : Nat} (h : symEdge tbl p X q = true) : X ∈ rowEdges tbl p q := by
  unfold rowEdges
  have h' := h
  simp only [symEdge, Bool.or_eq_true, Bool.and_eq_true, beq_iff_eq, bne_iff_ne, ne_eq] at h'
  rw [List.mem_append]
  rcases h' with hs | ⟨hg, hq⟩
  · obtain ⟨x, hx, _⟩ := List.mem_filterMap.mp (show q ∈ shiftTargets (tbl.actions p X) by simpa using hs)
    exact .inl (List.mem_filterMap.mpr ⟨(X, tbl.actions p X), actions_mem hx, by simp [h]⟩)
  · exact .inr (List.mem_filterMap.mpr ⟨(X, tbl.goto p X), goto_mem (hg ▸ hq), by simp [h]⟩)

theorem pathsBack_step {s p q X : Nat} {syms : List Nat} {n : Nat} (hp : p < tbl.stateCount)
    (he : X ∈ rowEdges tbl p q) (h : (q, syms) ∈ pathsBack tbl s n) : (p, X :: syms) ∈ pathsBack tbl s (n + 1) := by
  simp only [pathsBack, List.mem_eraseDups, List.mem_flatMap, List.mem_map, List.mem_range]
  exact ⟨(q, syms), h, p, hp, X, he, rfl⟩

/-- a path into `s'` extended by the transition `s' →X s` is a path into `s` (we walk the stack from the top downwards) -/
theorem pathsBack_shift (tbl : Table) (s s' X : Nat) (he : symEdge tbl s' X s = true) (hs' : s' < tbl.stateCount) :
    ∀ (n : Nat) (p : Nat) (syms : List Nat),
      (p, syms) ∈ pathsBack tbl s' n → (p, syms ++ [X]) ∈ pathsBack tbl s (n + 1) := by
  intro n
  induction n with
  | zero =>
    intro p syms h
    simp only [pathsBack, List.mem_singleton, Prod.mk.injEq] at h
    obtain ⟨rfl, rfl⟩ := h
    exact pathsBack_step hs' (mem_rowEdges he) (by simp [pathsBack])
  | succ n ih =>
    intro p syms h
    simp only [pathsBack, List.mem_eraseDups, List.mem_flatMap, List.mem_map, List.mem_range, Prod.mk.injEq] at h
    obtain ⟨⟨q, ys⟩, hq, p', hp', Y, hY, rfl, rfl⟩ := h
    exact pathsBack_step hp' hY (ih q ys hq)

theorem nonExtraSyms_append (xs ys : List PTree) : nonExtraSyms (xs ++ ys) = nonExtraSyms xs ++ nonExtraSyms ys := by
  simp [nonExtraSyms, List.filter_append]

theorem nonExtraSyms_extras (xs : List PTree) (h : ∀ t, t ∈ xs → t.isExtra = true) : nonExtraSyms xs = [] := by
  have : xs.filter (fun k => !k.isExtra) = [] := List.filter_eq_nil_iff.mpr fun t ht => by simp [h t ht]
  simp [nonExtraSyms, this]

theorem pops_spells (h1 : 1 < tbl.stateCount) {n : Nat} {ks : List PTree} {rest : Stack}
    (h : Pops n st ks rest) (hsp : Spells tbl st) :
    Spells tbl rest ∧ (∀ t, t ∈ ks → TreeOver tbl t) ∧
      (topState rest, nonExtraSyms ks) ∈ pathsBack tbl (topState st) n := by
  induction h with
  | zero => exact ⟨hsp, nofun, by simp [pathsBack, nonExtraSyms]⟩
  | @extra n s t tl ks r hx _ ih =>
    obtain ⟨_, hlink, htree, htl⟩ := (Spells.cons_extra hx).1 hsp
    obtain ⟨ha, hb, hc⟩ := ih htl
    exact ⟨ha, List.forall_mem_append.mpr ⟨hb, by simpa using htree⟩,
      by simpa [nonExtraSyms, List.filter_append, hx, topState, hlink] using hc⟩
  | @keep n s t tl ks r hx _ ih =>
    obtain ⟨_, hlink, htree, htl⟩ := (Spells.cons_keep hx).1 hsp
    obtain ⟨ha, hb, hc⟩ := ih htl
    refine ⟨ha, List.forall_mem_append.mpr ⟨hb, by simpa using htree⟩, ?_⟩
    rw [show nonExtraSyms (ks ++ [t]) = nonExtraSyms ks ++ [t.sym] by simp [nonExtraSyms, List.filter_append, hx]]
    exact pathsBack_shift tbl s (topState tl) t.sym hlink (spells_top h1 htl) n _ _ hc

theorem popN_spells (tbl : Table) (h1 : 1 < tbl.stateCount) : ∀ (st : Stack) (n : Nat) (ks : List PTree) (rest : Stack),
    Spells tbl st → popN n st = some (ks, rest) →
    Spells tbl rest ∧ (∀ t, t ∈ ks → TreeOver tbl t) ∧
      (topState rest, nonExtraSyms ks) ∈ pathsBack tbl (topState st) n :=
  fun _ _ _ _ hsp h => pops_spells h1 (pops_of_popN h) hsp

theorem reduce_spells (h1 : 1 < tbl.stateCount) {st st' : Stack} (hsp : Spells tbl st)
    {a A n : Nat} {dp : Int} {pid : Nat}
    (hact : Action.reduce A n dp pid ∈ tbl.actions (topState st) a)
    (h : reduce tbl st A n dp pid false = .ok st') : Spells tbl st' := by
  obtain ⟨kids, rest, hp, hq0, hqS, rfl⟩ := reduce_eq_ok.mp h
  obtain ⟨hrest, hkids, hpath⟩ := pops_spells h1 (pops_of_popN hp) hsp
  have htr := splitTrailing_extras kids
  rw [← splitTrailing_append kids] at hkids hpath
  rw [nonExtraSyms_append, nonExtraSyms_extras (splitTrailing kids).2 fun t ht => htr t (by simpa using ht),
    List.append_nil] at hpath
  refine push_on_top (Inv := Spells tbl) (P := fun t => t.isExtra = true ∧ TreeOver tbl t)
    (q := tbl.goto (topState rest) A)
    (fun t r hx hr htop => (Spells.cons_extra hx.1).2 ⟨hqS, htop.symm, hx.2, hr⟩) ?_ rfl _
    (fun t ht => ⟨htr t ht, hkids t (List.mem_append_right _ (by simpa using ht))⟩)
  refine (Spells.cons_keep rfl).2 ?_
  exact ⟨hqS, by simp [symEdge, hq0, PTree.sym],
    .node rfl ⟨topState st, a, n, dp, topState rest, hact, hpath⟩ (fun t ht => hkids t (List.mem_append_left _ ht)),
    hrest⟩

theorem below_all_extra (hno : ∀ p X, p < tbl.stateCount → symEdge tbl p X 1 = false)
    (h1 : 1 < tbl.stateCount) : ∀ {st : Stack}, Spells tbl st → topState st = 1 → ∀ e, e ∈ st → e.2.isExtra = true := by
  intro st
  induction st with
  | nil => intro _ _ e he; cases he
  | cons x tl ih =>
    intro hsp htop e he
    obtain ⟨s, t⟩ := x
    simp only [topState] at htop
    subst htop
    cases hx : t.isExtra with
    | true =>
      obtain ⟨_, hlink, _, htl⟩ := (Spells.cons_extra hx).1 hsp
      rcases List.mem_cons.mp he with rfl | he'
      · exact hx
      · exact ih htl hlink.symm e he'
    | false =>
      obtain ⟨_, hlink, _, htl⟩ := (Spells.cons_keep hx).1 hsp
      rw [hno _ _ (spells_top h1 htl)] at hlink
      cases hlink

theorem stepAct_spells (h1 : 1 < tbl.stateCount) (hleaf : leafSafe tbl = true)
    {acc : Stack → Option PTree} {c c' : Conf} (hsp : Spells tbl c.stack) {a : Action}
    (hact : a ∈ tbl.actions (topState c.stack) (c.toks.headD 0))
    (h : stepAct acc tbl c false a = some (.inl c')) : Spells tbl c'.stack := by
  rcases stepAct_inl_elim h with ⟨s', e, rep, x, rfl, ht, hs, _, hS⟩ | ⟨A, n, dp, pid, rfl, hr, _⟩
  · rw [hs]
    simp only [ht, List.headD_cons] at hact
    cases e with
    | true => exact ⟨hS, by simp [PTree.isExtra], .leaf ⟨fun _ => .inl (isExtraSym_of hact), nofun⟩, hsp⟩
    | false =>
      refine ⟨hS, ?_, .leaf ⟨nofun, fun _ => leafSafe_elim hleaf hact⟩, hsp⟩
      simpa [PTree.isExtra, PTree.sym, symEdge] using .inl (mem_shiftTargets hact)
  · exact reduce_spells h1 hsp hact hr

theorem any_accept {s a : Nat} (h : Action.accept ∈ tbl.actions s a) :
    ((tbl.acts.getD s []).any fun e => e.2.contains Action.accept) = true :=
  List.any_eq_true.mpr ⟨(a, tbl.actions s a), actions_mem h, by simpa using h⟩

theorem rootSafe_elim (h : rootSafe tbl = true) :
    (∀ p X, p < tbl.stateCount → symEdge tbl p X 1 = false) ∧
    (∀ s a p X, s < tbl.stateCount → p < tbl.stateCount → Action.accept ∈ tbl.actions s a →
        symEdge tbl p X s = true → p = 1) := by
  simp only [rootSafe, Bool.and_eq_true, List.all_eq_true, List.mem_range, List.isEmpty_iff, Bool.or_eq_true,
    Bool.not_eq_true', beq_iff_eq] at h
  refine ⟨fun p X hp => ?_, fun s a p X hs hp hacc he => ?_⟩
  · cases he : symEdge tbl p X 1 with
    | false => rfl
    | true => simpa [h.1 p hp] using mem_rowEdges he
  · rcases h.2 s hs with hno | hall
    · rw [any_accept hacc] at hno; cases hno
    · rcases hall p hp with hemp | h1
      · simpa [hemp] using mem_rowEdges he
      · exact h1

theorem spells_drop_extras : ∀ (upper : Stack) {X : Stack}, Spells tbl (upper ++ X) →
    (∀ e, e ∈ upper → e.2.isExtra = true) → Spells tbl X ∧ topState (upper ++ X) = topState X := by
  intro upper
  induction upper with
  | nil => intro X h _; exact ⟨h, rfl⟩
  | cons e tl ih =>
    intro X h hall
    obtain ⟨q, x⟩ := e
    obtain ⟨_, hlink, _, htl⟩ := (Spells.cons_extra (hall (q, x) List.mem_cons_self)).1 h
    have := ih htl (fun e he => hall e (List.mem_cons_of_mem _ he))
    exact ⟨this.1, hlink.trans this.2⟩

theorem spells_trees : ∀ {st : Stack}, Spells tbl st → ∀ e, e ∈ st → TreeOver tbl e.2 := by
  intro st
  induction st with
  | nil => intro _ e he; cases he
  | cons x tl ih => exact fun h => List.forall_mem_cons.mpr ⟨h.2.2.1, ih h.2.2.2⟩

/-- what `startOK` is asked about the root: its symbol labels a transition from state 1 into an accepting state -/
def RootOK (tbl : Table) (t : PTree) : Prop :=
  ∃ sym pid dp ks q a, t = PTree.node sym pid dp false ks ∧ q < tbl.stateCount ∧
    Action.accept ∈ tbl.actions q a ∧ symEdge tbl 1 sym q = true

theorem accept_treeOver (tbl : Table) (h1 : 1 < tbl.stateCount) (hroot : rootSafe tbl = true)
    (st : Stack) (hsp : Spells tbl st) (t : PTree) (hacc : acceptTree st = some t)
    (a : Nat) (hcell : Action.accept ∈ tbl.actions (topState st) a) : TreeOver tbl t ∧ RootOK tbl t := by
  obtain ⟨hno1, honly⟩ := rootSafe_elim hroot
  obtain ⟨up, sym, pid, dp, kids, low, hl, hup, rfl⟩ := acceptTree_eq_some.mp hacc
  obtain ⟨upper, rest', rfl, rfl, hrest'⟩ := List.map_eq_append_iff.mp hl
  obtain ⟨⟨q, x⟩, lower, rfl, hx, rfl⟩ := List.map_eq_cons_iff.mp hrest'
  simp only at hx
  subst hx
  have htrees := spells_trees hsp
  -- the entries above the root are extras, so the root's state is the one that accepts
  obtain ⟨⟨hqS, hlink, hnode, hlow⟩, htop⟩ := spells_drop_extras upper hsp
    (fun e he => hup _ (List.mem_map_of_mem he))
  simp only [PTree.isExtra, Bool.false_eq_true, if_false, PTree.sym] at hlink
  rw [htop] at hcell
  -- it is entered from the start state only, below which everything is an extra
  have hp1 : topState lower = 1 := honly q a _ _ hqS (spells_top h1 hlow) hcell hlink
  have hlowx := below_all_extra hno1 h1 hlow hp1
  cases hnode with
  | node _ hprod hkids =>
    refine ⟨.node rfl ?_ ?_, ⟨_, _, _, _, q, a, rfl, hqS, hcell, hp1 ▸ hlink⟩⟩
    · rw [nonExtraSyms_append, nonExtraSyms_append, nonExtraSyms_extras (lower.map (·.2)).reverse,
        nonExtraSyms_extras (PTree.leaf 0 true :: upper.map (·.2)).reverse]
      · simpa using hprod
      · simp only [List.mem_reverse, List.mem_cons]
        rintro t (rfl | ht)
        · rfl
        · exact hup t ht
      · intro t ht
        obtain ⟨e, he, rfl⟩ := List.mem_map.mp (List.mem_reverse.mp ht)
        exact hlowx e he
    · simp only [List.mem_append, List.mem_reverse, List.mem_cons, List.mem_map]
      rintro t ((⟨e, he, rfl⟩ | ht) | rfl | ⟨e, he, rfl⟩)
      · exact htrees e (by simp [he])
      · exact hkids t ht
      · exact .leaf ⟨fun _ => .inr rfl, nofun⟩
      · exact htrees e (by simp [he])

theorem runLoop_sound (hsafe : tableSafe tbl = true) {fuel : Nat} {t : PTree}
    (hsp : Spells tbl c.stack) (h : runLoop tbl fuel c = .accepted t) : TreeOver tbl t ∧ RootOK tbl t := by
  simp only [tableSafe, Bool.and_eq_true, decide_eq_true_eq] at hsafe
  obtain ⟨⟨⟨h1, hroot⟩, hleaf⟩, hnle⟩ := hsafe
  have hle := noLexEnd_elim hnle
  obtain ⟨c', hsp', hfin⟩ := runLoop_ends (I := fun c => Spells tbl c.stack) (fun c1 a c2 hc1 ha hact => by
    obtain ⟨la, hmem, hla⟩ := ha.mem
    rw [hle] at hact
    exact stepAct_spells h1 hleaf hc1 (hla (hle _) ▸ hmem) hact) h nofun hsp
  obtain ⟨a, ha, hact⟩ := step_accepted_elim hfin
  obtain ⟨rfl, _, hacc⟩ := stepAct_inr_iff.mp hact
  obtain ⟨la, hmem, _⟩ := ha.mem
  exact accept_treeOver tbl h1 hroot c'.stack hsp' t hacc la hmem

end TsVerif.C03
