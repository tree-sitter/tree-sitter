import TsVerif.C03.Complete
import TsVerif.C03.DriverSteps
/-!
# `table_complete`: every derivation tree over `P` is followed by the driver

`tree_run` / `forest_run`: with an item of the annotation that expects the symbols of the trees at its dot and
an admissible follow token, the driver consumes exactly their yield, one shift per leaf and one reduce per node
(`shift_step`, `reduce_step`, `reduce_pushed`), and ends in a state holding the advanced item.
-/
namespace TsVerif.C03

theorem shift_step {tbl : Table} {st : Stack} {a s' : Nat} {rep : Bool} {r : List Nat}
    (hle : tbl.lexEnd (topState st) = false)
    (heff : effective (tbl.actions (topState st) a) = [.shift s' false rep])
    (h0 : s' ≠ 0) (hS : s' < tbl.stateCount) :
    step tbl { stack := st, toks := a :: r } = .inl { stack := (s', PTree.leaf a false) :: st, toks := r } := by
  have hno : ¬ (s' = 0 ∨ tbl.stateCount ≤ s') := by omega
  exact (applies_of_cell (c := { stack := st, toks := a :: r }) hle heff).step_inl (by simp [stepAct, hno])

theorem reduce_step {tbl : Table} {st st' : Stack} {r : List Nat} {A n : Nat} {dp : Int} {pid : Nat}
    (hle : tbl.lexEnd (topState st) = false)
    (heff : effective (tbl.actions (topState st) (r.headD 0)) = [.reduce A n dp pid])
    (hr : reduce tbl st A n dp pid false = .ok st') :
    step tbl { stack := st, toks := r } = .inl { stack := st', toks := r } :=
  (applies_of_cell (c := { stack := st, toks := r }) hle heff).step_inl (by simp [stepAct, hle, hr])

theorem accept_step {tbl : Table} {st : Stack} {t : PTree}
    (hle : tbl.lexEnd (topState st) = false)
    (heff : effective (tbl.actions (topState st) 0) = [.accept]) (hacc : acceptTree st = some t) :
    step tbl { stack := st, toks := [] } = .inr (.accepted t) :=
  (applies_of_cell (c := { stack := st, toks := [] }) hle heff).step_accepted (by simp [stepAct, hacc])

theorem popN_pushed : ∀ (es : Stack) (st0 : Stack), (∀ e, e ∈ es → e.2.isExtra = false) →
    popN es.length (es ++ st0) = some ((es.map (·.2)).reverse, st0) := by
  intro es
  induction es with
  | nil => intro st0 _; simp [popN]
  | cons e rest ih =>
    intro st0 h
    obtain ⟨s, t⟩ := e
    have ht : t.isExtra = false := h (s, t) List.mem_cons_self
    simp [popN, ht, ih st0 fun e he => h e (List.mem_cons_of_mem _ he)]

theorem splitTrailing_nonextra (ks : List PTree) (h : ∀ k, k ∈ ks → k.isExtra = false) : splitTrailing ks = (ks, []) := by
  have hd : ∀ l : List PTree, (∀ k, k ∈ l → k.isExtra = false) →
      l.dropWhile PTree.isExtra = l ∧ l.takeWhile PTree.isExtra = []
    | [], _ => by simp
    | x :: _, hl => by simp [List.dropWhile, List.takeWhile, hl x List.mem_cons_self]
  simp [splitTrailing, hd ks.reverse fun k hk => h k (List.mem_reverse.mp hk)]

theorem reduce_pushed (tbl : Table) (es st0 : Stack) (A : Nat) (dp : Int) (pid : Nat)
    (hne : ∀ e, e ∈ es → e.2.isExtra = false)
    (hq0 : tbl.goto (topState st0) A ≠ 0) (hqS : tbl.goto (topState st0) A < tbl.stateCount) :
    ∃ d ks, reduce tbl (es ++ st0) A es.length dp pid false =
      .ok ((tbl.goto (topState st0) A, PTree.node A pid d false ks) :: st0) := by
  have hk : ∀ k, k ∈ (es.map (·.2)).reverse → k.isExtra = false := by
    simp only [List.mem_reverse, List.mem_map]
    rintro k ⟨e, he, rfl⟩
    exact hne e he
  exact ⟨dp + sumDyn (es.map (·.2)).reverse, (es.map (·.2)).reverse,
    reduce_eq_ok.mpr ⟨_, _, popN_pushed es st0 hne, hq0, hqS, by simp [splitTrailing_nonextra _ hk]⟩⟩

variable {tbl : Table} {P : List Prod} {allow : Allow} {ann : Ann}

structure FirstFacts (tbl : Table) (P : List Prod) (ann : Ann) : Prop where
  lhsNT : ∀ A rhs pid, (A, rhs, pid) ∈ P → tbl.tokenCount ≤ A
  null : ∀ A rhs pid, (A, rhs, pid) ∈ P → (∀ Y, Y ∈ rhs → nullOf tbl ann Y = true) → nullOf tbl ann A = true
  pref : ∀ A rhs pid, (A, rhs, pid) ∈ P → prefixFirstOK tbl ann A rhs = true

theorem firstFacts_of (h : firstOK tbl P ann = true) : FirstFacts tbl P ann := by
  simp only [firstOK, List.all_eq_true, Bool.and_eq_true, decide_eq_true_eq, Bool.or_eq_true, Bool.not_eq_true'] at h
  refine ⟨fun A rhs pid hp => (h _ hp).1.1, ?_, fun A rhs pid hp => (h _ hp).2⟩
  intro A rhs pid hp hall
  obtain ⟨⟨h1, hn | hc⟩, _⟩ := h _ hp
  · simp only [List.all_eq_false] at hn
    obtain ⟨Y, hY, hf⟩ := hn
    exact absurd (hall Y hY) hf
  · simpa [nullOf, h1] using hc

/-- token `a` can begin a word of the symbol sequence, behind a nullable prefix: what `prefixFirstOK` checks -/
def PrefFirst (tbl : Table) (ann : Ann) : List Nat → Nat → Prop
  | [], _ => False
  | Y :: ys, a => a ∈ firstOf tbl ann Y ∨ (nullOf tbl ann Y = true ∧ PrefFirst tbl ann ys a)

theorem prefFirst_sub {A a : Nat} : ∀ {rhs : List Nat},
    prefixFirstOK tbl ann A rhs = true → PrefFirst tbl ann rhs a → a ∈ firstOf tbl ann A := by
  intro rhs
  induction rhs with
  | nil => intro _ h; cases h
  | cons Y ys ih =>
    intro hok h
    simp only [prefixFirstOK, Bool.and_eq_true, List.all_eq_true, Bool.or_eq_true, Bool.not_eq_true'] at hok
    rcases h with h | ⟨hn, h⟩
    · simpa using hok.1 a h
    · rcases hok.2 with hf | hr
      · rw [hn] at hf; cases hf
      · exact ih hr h

mutual
  theorem dt_first (tbl : Table) (P : List Prod) (allow : Allow) (ann : Ann) (ff : FirstFacts tbl P ann) :
      ∀ (t : DT), t.Valid tbl P allow →
        (t.yield = [] → nullOf tbl ann t.sym = true) ∧ (∀ a v, t.yield = a :: v → a ∈ firstOf tbl ann t.sym)
    | .leaf a, h => by
      simp only [DT.Valid] at h
      refine ⟨by simp [DT.yield], fun b v hy => ?_⟩
      cases hy
      simp [DT.sym, firstOf, h.1]
    | .node A pid ks, h => by
      obtain ⟨hp, hks⟩ := h
      have := dtl_first tbl P allow ann ff _ 0 ks hks
      exact ⟨fun hy => ff.null A _ pid hp (this.1 hy), fun a v hy => prefFirst_sub (ff.pref A _ pid hp) (this.2 a v hy)⟩
  theorem dtl_first (tbl : Table) (P : List Prod) (allow : Allow) (ann : Ann) (ff : FirstFacts tbl P ann) :
      ∀ (q : Prod) (i : Nat) (ts : List DT), DT.ValidL tbl P allow q i ts →
        (DT.yieldL ts = [] → ∀ Y, Y ∈ ts.map DT.sym → nullOf tbl ann Y = true) ∧
        (∀ a v, DT.yieldL ts = a :: v → PrefFirst tbl ann (ts.map DT.sym) a)
    | _, _, [], _ => ⟨fun _ Y hY => by simp at hY, fun a v hy => by simp [DT.yieldL] at hy⟩
    | q, i, t :: ts, h => by
      obtain ⟨ht, _, hts⟩ := h
      have h1 := dt_first tbl P allow ann ff t ht
      have h2 := dtl_first tbl P allow ann ff q (i + 1) ts hts
      refine ⟨fun hy => ?_, ?_⟩
      · simp only [DT.yieldL, List.append_eq_nil_iff] at hy
        exact List.forall_mem_cons.mpr ⟨h1.1 hy.1, h2.1 hy.2⟩
      · intro a v hy
        simp only [DT.yieldL] at hy
        cases hty : t.yield with
        | nil =>
          rw [hty, List.nil_append] at hy
          exact .inr ⟨h1.1 hty, h2.2 a v hy⟩
        | cons b w =>
          rw [hty, List.cons_append, List.cons.injEq] at hy
          exact .inl (hy.1 ▸ h1.2 b w hty)
end

theorem follow_ok (ff : FirstFacts tbl P ann) {q : Prod} :
    ∀ (ts : List DT) {i : Nat}, DT.ValidL tbl P allow q i ts → ∀ (r : List Nat),
      (DT.yieldL ts ++ r).headD 0 ∈ firstSeq tbl ann (ts.map DT.sym) (r.headD 0) := by
  intro ts
  induction ts with
  | nil => intro _ _ r; simp [DT.yieldL, firstSeq]
  | cons t ts ih =>
    intro i h r
    have h1 := dt_first tbl P allow ann ff t h.1
    simp only [DT.yieldL, List.map_cons, firstSeq, List.mem_append]
    cases hty : t.yield with
    | nil => exact .inr (by rw [if_pos (h1.1 hty)]; exact ih h.2.2 r)
    | cons b w => exact .inl (h1.2 b w hty)

theorem item_wf {s : Nat} {it : Item} (h : itemOK tbl P allow ann s it = true) :
    (it.lhs, it.rhs, it.pid) ∈ P ∧ it.dot ≤ it.rhs.length := by
  simp only [itemOK, Bool.and_eq_true, decide_eq_true_eq] at h
  exact ⟨by simpa using h.1.1, h.1.2⟩

theorem item_done {s : Nat} {it : Item} (h : itemOK tbl P allow ann s it = true)
    (hd : it.dot = it.rhs.length) :
    ∃ dp, effective (tbl.actions s it.la) = [.reduce it.lhs it.rhs.length dp it.pid] := by
  simp only [itemOK, hd, if_true, Bool.and_eq_true] at h
  have := h.2.2
  unfold isReduceCell at this
  split at this
  · next B m dp q heq =>
    simp only [Bool.and_eq_true, beq_iff_eq] at this
    obtain ⟨⟨rfl, rfl⟩, rfl⟩ := this
    exact ⟨dp, heq⟩
  · cases this

theorem item_term {s : Nat} {it : Item} (h : itemOK tbl P allow ann s it = true)
    (X : Nat) (hlt : it.dot < it.rhs.length) (hc : it.cur = some X) (hX : X < tbl.tokenCount) :
    X ≠ 0 ∧ ∃ s' rep, effective (tbl.actions s X) = [.shift s' false rep] ∧ s' ≠ 0 ∧ s' < tbl.stateCount ∧
      it.adv ∈ ann.itemsOf s' := by
  unfold itemOK at h
  have hne : ¬ it.dot = it.rhs.length := by omega
  simp only [hne, if_false, hc, hX, if_true, Bool.and_eq_true, bne_iff_ne, ne_eq] at h
  obtain ⟨_, hX0, hm⟩ := h
  refine ⟨hX0, ?_⟩
  split at hm
  · next s' rep heq =>
    simp only [Bool.and_eq_true, bne_iff_ne, ne_eq, decide_eq_true_eq] at hm
    exact ⟨s', rep, heq, hm.1.1, hm.1.2, by simpa using hm.2⟩
  · cases hm

theorem item_nt {s : Nat} {it : Item} (h : itemOK tbl P allow ann s it = true)
    (X : Nat) (hlt : it.dot < it.rhs.length) (hc : it.cur = some X) (hX : ¬ X < tbl.tokenCount) :
    tbl.goto s X ≠ 0 ∧ tbl.goto s X < tbl.stateCount ∧ it.adv ∈ ann.itemsOf (tbl.goto s X) ∧
    ∀ γ pid, (X, γ, pid) ∈ P → allow it.ctx.1 it.ctx.2 (X, γ, pid) = true →
      (∀ x, x ∈ firstSeq tbl ann (it.rhs.drop (it.dot + 1)) it.la → (⟨X, γ, pid, 0, x, none⟩ : Item) ∈ ann.itemsOf s) ∨
      (γ.length = 1 ∧ ({ it with sub := some (X, γ, pid) } : Item) ∈ ann.itemsOf s) := by
  unfold itemOK at h
  have hne : ¬ it.dot = it.rhs.length := by omega
  simp only [hne, if_false, hc, hX, Bool.and_eq_true, bne_iff_ne, ne_eq, decide_eq_true_eq, List.all_eq_true,
    Bool.or_eq_true, beq_iff_eq] at h
  obtain ⟨_, ⟨⟨hg0, hgS⟩, hadv⟩, hcl⟩ := h
  refine ⟨hg0, hgS, by simpa using hadv, ?_⟩
  intro γ pid hp hal
  rcases hcl (X, γ, pid) hp with ((hne' | hna) | hall) | hunit
  · simp at hne'
  · simp only [Bool.not_eq_true'] at hna; rw [hal] at hna; cases hna
  · left; intro x hx; simpa using hall x hx
  · right; exact ⟨hunit.1, by simpa using hunit.2⟩

theorem drop_succ_of {α : Type} {l : List α} {n : Nat} {x : α} {xs : List α} (h : l.drop n = x :: xs) :
    l.drop (n + 1) = xs := by
  rw [← List.tail_drop, h]; rfl

structure CompleteFacts (tbl : Table) (P : List Prod) (allow : Allow) (ann : Ann) (start : Nat) : Prop where
  one : 1 < tbl.stateCount
  nle : ∀ s, tbl.lexEnd s = false
  item : ∀ s it, s < tbl.stateCount → it ∈ ann.itemsOf s → itemOK tbl P allow ann s it = true
  ff : FirstFacts tbl P ann
  startItems : ∀ γ pid, (start, γ, pid) ∈ P → (⟨start, γ, pid, 0, 0, none⟩ : Item) ∈ ann.itemsOf 1
  acc0 : tbl.goto 1 start ≠ 0
  accS : tbl.goto 1 start < tbl.stateCount
  acc : effective (tbl.actions (tbl.goto 1 start) 0) = [Action.accept]

theorem completeFacts_of {start : Nat}
    (h : completeOK tbl P allow ann start = true) : CompleteFacts tbl P allow ann start := by
  simp only [completeOK, startItemsOK, Bool.and_eq_true, decide_eq_true_eq, List.all_eq_true, List.mem_range,
    Bool.or_eq_true, bne_iff_ne, ne_eq] at h
  obtain ⟨⟨⟨⟨h1, hnle⟩, hitems⟩, ⟨⟨hsi, hg0⟩, hgS⟩, hacc⟩, hfirst⟩ := h
  exact ⟨h1, noLexEnd_elim hnle, fun s it hs hit => hitems s hs it hit, firstFacts_of hfirst,
    fun γ pid hp => (hsi (start, γ, pid) hp).elim (fun hne => absurd rfl hne) (by simpa using ·), hg0, hgS, hacc⟩

mutual
  theorem tree_run (tbl : Table) (P : List Prod) (allow : Allow) (ann : Ann) (start : Nat) (cf : CompleteFacts tbl P allow ann start) :
      ∀ (t : DT), t.Valid tbl P allow → ∀ (st : Stack) (r : List Nat) (it : Item),
        topState st < tbl.stateCount → it ∈ ann.itemsOf (topState st) →
        allowedAt allow it.ctx.1 it.ctx.2 t = true →
        it.dot < it.rhs.length → it.cur = some t.sym →
        r.headD 0 ∈ firstSeq tbl ann (it.rhs.drop (it.dot + 1)) it.la →
        ∃ s' pt, Steps tbl { stack := st, toks := t.yield ++ r } { stack := (s', pt) :: st, toks := r } ∧
          pt.isExtra = false ∧ s' < tbl.stateCount ∧ it.adv ∈ ann.itemsOf s'
    | .leaf a, hv, st, r, it, hs, hit, _, hlt, hc, _ => by
      obtain ⟨_, s', rep, heff, h0, hS, hadv⟩ := item_term (cf.item _ it hs hit) a hlt hc hv.1
      exact ⟨s', PTree.leaf a false, Steps.single (shift_step (cf.nle _) heff h0 hS), rfl, hS, hadv⟩
    | .node A pid ks, hv, st, r, it, hs, hit, hal, hlt, hc, hfol => by
      obtain ⟨hp, hks⟩ := hv
      have hA : ¬ A < tbl.tokenCount := by have := cf.ff.lhsNT A _ pid hp; omega
      obtain ⟨hg0, hgS, hadv, hcl⟩ := item_nt (cf.item _ it hs hit) A hlt hc hA
      rcases hcl _ pid hp (by simpa [allowedAt, DT.prod?] using hal) with hclos | ⟨hlen1, hsub⟩
      · -- the closure item for this production with the actual follow token as look-ahead
        obtain ⟨es, hsteps, hlen, hne, htopS, hdone⟩ :=
          forest_run tbl P allow ann start cf ks st r ⟨A, ks.map DT.sym, pid, 0, r.headD 0, none⟩
            hks hs (hclos _ hfol) rfl rfl rfl
        obtain ⟨dp, heffr⟩ := item_done (cf.item _ _ htopS hdone) rfl
        simp only [List.length_map] at heffr
        obtain ⟨d, ks', hred⟩ := reduce_pushed tbl es st A dp pid hne hg0 hgS
        rw [hlen] at hred
        exact ⟨tbl.goto (topState st) A, .node A pid d false ks',
          hsteps.trans (Steps.single (reduce_step (cf.nle _) heffr hred)), rfl, hgS, hadv⟩
      · -- the unit reduction was removed: the only child is parsed in place of the node
        match ks, hks, hlen1, hsub with
        | [t1], hks, _, hsub =>
          obtain ⟨s', pt, hst, hpx, hS', hadv'⟩ :=
            tree_run tbl P allow ann start cf t1 hks.1 st r { it with sub := some (A, [t1.sym], pid) } hs
              hsub hks.2.1 hlt rfl hfol
          refine ⟨s', pt, ?_, hpx, hS', hadv'⟩
          simpa [DT.yield, DT.yieldL] using hst
        | [], _, hl, _ => simp at hl
        | _ :: _ :: _, _, hl, _ => simp at hl
  theorem forest_run (tbl : Table) (P : List Prod) (allow : Allow) (ann : Ann) (start : Nat) (cf : CompleteFacts tbl P allow ann start) :
      ∀ (ts : List DT) (st : Stack) (r : List Nat) (it : Item),
        DT.ValidL tbl P allow (it.lhs, it.rhs, it.pid) it.dot ts →
        topState st < tbl.stateCount → it ∈ ann.itemsOf (topState st) → it.sub = none →
        it.rhs.drop it.dot = ts.map DT.sym → it.la = r.headD 0 →
        ∃ es : Stack, Steps tbl { stack := st, toks := DT.yieldL ts ++ r } { stack := es ++ st, toks := r } ∧
          es.length = ts.length ∧ (∀ e, e ∈ es → e.2.isExtra = false) ∧
          topState (es ++ st) < tbl.stateCount ∧
          ({ it with dot := it.rhs.length } : Item) ∈ ann.itemsOf (topState (es ++ st))
    | [], st, r, it, _, hs, hit, hsn, hd, _ => by
      have : it.dot = it.rhs.length :=
        Nat.le_antisymm (item_wf (cf.item _ it hs hit)).2 (List.drop_eq_nil_iff.mp (by simpa using hd))
      refine ⟨[], .refl, rfl, nofun, hs, ?_⟩
      rw [← this]
      exact hit
    | t :: ts, st, r, it, hv, hs, hit, hsn, hd, hla => by
      obtain ⟨ht, hal, hts⟩ := hv
      simp only [List.map_cons] at hd
      have hlt : it.dot < it.rhs.length := Nat.lt_of_not_le fun h => by simp [List.drop_eq_nil_iff.mpr h] at hd
      have hcur : it.cur = some t.sym := by simp [Item.cur, hsn, hd]
      have hfol : (DT.yieldL ts ++ r).headD 0 ∈ firstSeq tbl ann (it.rhs.drop (it.dot + 1)) it.la := by
        rw [hla, drop_succ_of hd]; exact follow_ok cf.ff ts hts r
      obtain ⟨s', pt, hst1, hpx, hS', hadv⟩ :=
        tree_run tbl P allow ann start cf t ht st (DT.yieldL ts ++ r) it hs hit
          (by simpa [Item.ctx, hsn] using hal) hlt hcur hfol
      have hd' : it.adv.rhs.drop it.adv.dot = ts.map DT.sym := drop_succ_of hd
      obtain ⟨es, hst2, hlen, hne, htopS, hdone⟩ :=
        forest_run tbl P allow ann start cf ts ((s', pt) :: st) r it.adv hts hS' hadv rfl hd' hla
      refine ⟨es ++ [(s', pt)], ?_, by simp [hlen], ?_, by simpa using htopS, by simpa [Item.adv, hsn] using hdone⟩
      · simp only [DT.yieldL, List.append_assoc, List.singleton_append]
        exact hst1.trans hst2
      · exact List.forall_mem_append.mpr ⟨hne, by simpa using hpx⟩
end

theorem table_complete (tbl : Table) (P : List Prod) (allow : Allow) (ann : Ann) (start : Nat)
    (hok : completeOK tbl P allow ann start = true) (pid : Nat) (ks : List DT)
    (hv : (DT.node start pid ks).Valid tbl P allow) :
    ∃ f pt, runLoop tbl f { stack := [], toks := (DT.node start pid ks).yield } = .accepted pt := by
  have cf := completeFacts_of hok
  obtain ⟨hp, hks⟩ := hv
  obtain ⟨es, hsteps, hlen, hne, htopS, hdone⟩ :=
    forest_run tbl P allow ann start cf ks [] [] ⟨start, ks.map DT.sym, pid, 0, 0, none⟩ hks cf.one
      (cf.startItems _ pid hp) rfl rfl rfl
  obtain ⟨dp, heffr⟩ := item_done (cf.item _ _ htopS hdone) rfl
  simp only [List.length_map] at heffr
  obtain ⟨d, kids, hred⟩ := reduce_pushed tbl es [] start dp pid hne cf.acc0 cf.accS
  rw [hlen] at hred
  simp only [topState] at hred
  have hstep2 := reduce_step (st := es ++ []) (r := []) (cf.nle _) (by simpa using heffr) hred
  have hfinal := accept_step (st := [(tbl.goto 1 start, .node start pid d false kids)]) (cf.nle _)
    cf.acc (acceptTree_eq_some.mpr ⟨[], start, pid, d, kids, [], rfl, nofun, rfl⟩)
  obtain ⟨f, hf⟩ := steps_accept (hsteps.trans (Steps.single hstep2)) hfinal
  exact ⟨f, _, by simpa [DT.yield] using hf⟩

end TsVerif.C03
