import TsVerif.C03.Sound
/-!
# C03 — completeness of the table for its productions (`table_complete`, proved in `CompleteLemmas.lean`)

The converse of `driver_sound`.  `P` is a set of productions over the table's symbols; a state
annotation `ann` gives LR(1)-style items per state plus `nullable`/`first` sets (computed by an
untrusted propagation in the driver).  `completeOK tbl P ann start` is decidable and says (following
the validator of Jourdan, Pottier & Leroy, "Validating LR(1) parsers"): the start state holds the
start items; an item with the dot before a terminal has the (single, effective) shift into a state
holding the advanced item; before a non-terminal it has the goto into such a state and the state is
closed under the productions of that non-terminal for every look-ahead that can follow; a complete
item has the (single) reduce action on its look-ahead; `first`/`nullable` are closed under `P`.
`table_complete`: then every derivation tree over `P` of the start symbol is accepted by the driver
(given enough fuel), for ALL such trees — no token string of L(P) is rejected.  Restrictions:
token strings without extra tokens, tables without non-terminal extras, deterministic cells.
-/
namespace TsVerif.C03

abbrev Prod := Nat × List Nat × Nat

inductive DT where
  | leaf (a : Nat)
  | node (A pid : Nat) (kids : List DT)
  deriving Repr, Inhabited

namespace DT

def sym : DT → Nat
  | leaf a => a
  | node A _ _ => A

mutual
  def yield : DT → List Nat
    | leaf a => [a]
    | node _ _ ks => yieldL ks
  def yieldL : List DT → List Nat
    | [] => []
    | t :: ts => yield t ++ yieldL ts
end

def prod? : DT → Option Prod
  | leaf _ => none
  | node A pid ks => some (A, ks.map sym, pid)

end DT

/-- which productions may sit under position `i` of a production: the trees the theorem is about.
`fun _ _ _ => true` = all trees over `P`; for repeats the generator's auxiliary rule `R → R R` is
ambiguous and the table only builds the left-nested trees, so right-nesting is not allowed. -/
abbrev Allow := Prod → Nat → Prod → Bool

def allowedAt (allow : Allow) (q : Prod) (i : Nat) (t : DT) : Bool :=
  match t.prod? with
  | none => true
  | some p => allow q i p

namespace DT

mutual
  def Valid (tbl : Table) (P : List Prod) (allow : Allow) : DT → Prop
    | leaf a => a < tbl.tokenCount ∧ a ≠ 0
    | node A pid ks => (A, ks.map sym, pid) ∈ P ∧ ValidL tbl P allow (A, ks.map sym, pid) 0 ks
  def ValidL (tbl : Table) (P : List Prod) (allow : Allow) (q : Prod) : Nat → List DT → Prop
    | _, [] => True
    | i, t :: ts => Valid tbl P allow t ∧ allowedAt allow q i t = true ∧ ValidL tbl P allow q (i + 1) ts
end

end DT

structure Item where
  lhs : Nat
  rhs : List Nat
  pid : Nat
  dot : Nat
  la : Nat
  /-- `some (X, [Y], pid)`: the symbol expected at the dot is `Y`, standing for the symbol in the
  production through unit productions whose reductions the generator removed
  (`remove_unit_reductions`: shifting `Y` leads directly where the goto on `X` would) -/
  sub : Option Prod := none
  deriving DecidableEq, Hashable, Repr, Inhabited

def Item.adv (it : Item) : Item := { it with dot := it.dot + 1, sub := none }

def Item.cur (it : Item) : Option Nat :=
  match it.sub with
  | some p => p.2.1.head?
  | none => (it.rhs.drop it.dot).head?

/-- the (production, position) the `allow` relation is asked about for a subtree at the dot -/
def Item.ctx (it : Item) : Prod × Nat :=
  match it.sub with
  | some p => (p, 0)
  | none => ((it.lhs, it.rhs, it.pid), it.dot)

structure Ann where
  items : Array (List Item) := #[]
  nullable : List Nat := []
  first : List (Nat × List Nat) := []
  deriving Inhabited

def Ann.itemsOf (ann : Ann) (s : Nat) : List Item := ann.items.getD s []

def nullOf (tbl : Table) (ann : Ann) (Y : Nat) : Bool := decide (tbl.tokenCount ≤ Y) && ann.nullable.contains Y

def firstOf (tbl : Table) (ann : Ann) (Y : Nat) : List Nat :=
  if Y < tbl.tokenCount then [Y] else (ann.first.lookup Y).getD []

/-- the tokens that can come next when `β` is still to be parsed and `la` follows it -/
def firstSeq (tbl : Table) (ann : Ann) : List Nat → Nat → List Nat
  | [], la => [la]
  | Y :: ys, la => firstOf tbl ann Y ++ (if nullOf tbl ann Y then firstSeq tbl ann ys la else [])

def isReduceCell (as : List Action) (A n pid : Nat) : Bool :=
  match as with
  | [.reduce B m _ q] => B == A && m == n && q == pid
  | _ => false

def itemOK (tbl : Table) (P : List Prod) (allow : Allow) (ann : Ann) (s : Nat) (it : Item) : Bool :=
  P.contains (it.lhs, it.rhs, it.pid) && decide (it.dot ≤ it.rhs.length) &&
  if it.dot = it.rhs.length then
    it.sub.isNone && isReduceCell (effective (tbl.actions s it.la)) it.lhs it.rhs.length it.pid
  else
    match it.cur with
    | none => false
    | some X =>
      if X < tbl.tokenCount then
        X != 0 &&
        match effective (tbl.actions s X) with
        | [.shift s' false _] => s' != 0 && decide (s' < tbl.stateCount) && (ann.itemsOf s').contains it.adv
        | _ => false
      else
        tbl.goto s X != 0 && decide (tbl.goto s X < tbl.stateCount) && (ann.itemsOf (tbl.goto s X)).contains it.adv &&
        P.all fun p => p.1 != X || !allow it.ctx.1 it.ctx.2 p ||
          ((firstSeq tbl ann (it.rhs.drop (it.dot + 1)) it.la).all fun x =>
              (ann.itemsOf s).contains ⟨X, p.2.1, p.2.2, 0, x, none⟩) ||
          -- the unit reduction of `p` was removed in this state: its only symbol stands at the dot
          (p.2.1.length == 1 && (ann.itemsOf s).contains { it with sub := some p })

def prefixFirstOK (tbl : Table) (ann : Ann) (A : Nat) : List Nat → Bool
  | [] => true
  | Y :: ys => (firstOf tbl ann Y).all (fun x => (firstOf tbl ann A).contains x) &&
      (!nullOf tbl ann Y || prefixFirstOK tbl ann A ys)

def firstOK (tbl : Table) (P : List Prod) (ann : Ann) : Bool :=
  P.all fun p => decide (tbl.tokenCount ≤ p.1) &&
    (!(p.2.1.all (nullOf tbl ann)) || ann.nullable.contains p.1) && prefixFirstOK tbl ann p.1 p.2.1

def startItemsOK (tbl : Table) (P : List Prod) (ann : Ann) (start : Nat) : Bool :=
  (P.all fun p => p.1 != start || (ann.itemsOf 1).contains ⟨start, p.2.1, p.2.2, 0, 0, none⟩) &&
  tbl.goto 1 start != 0 && decide (tbl.goto 1 start < tbl.stateCount) &&
  decide (effective (tbl.actions (tbl.goto 1 start) 0) = [Action.accept])

def completeOK (tbl : Table) (P : List Prod) (allow : Allow) (ann : Ann) (start : Nat) : Bool :=
  decide (1 < tbl.stateCount) && noLexEnd tbl &&
  ((List.range tbl.stateCount).all fun s => (ann.itemsOf s).all (itemOK tbl P allow ann s)) &&
  startItemsOK tbl P ann start && firstOK tbl P ann

end TsVerif.C03
