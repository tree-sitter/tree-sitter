import TsVerif.C19.SrcUpdate
/-!
# C19 — safety of the protocol WITH source updates

`safety_with_source_updates`: from any initial state, after any interleaving of loader steps (any
number of loaders, crashes, lock stealing) and source updates, a loader that returned success with a
library of generation `v` has `callGen ≤ lastCheck ≤ v ≤ src`: what it returns was built from sources
at least as new as the ones its LAST check read (which are at least as new as at its call), and
never from "future" ones.  Equality `v = lastCheck` is NOT a theorem: an update that lands between
a winner's check and its compile makes it build — and return — the newer generation
(`winner_may_return_newer`).  It is an equality when no update happens after the last check
(`eq_lastCheck_of_no_update_since`).
-/
namespace TsVerif.C19.Upd

/-- what the pc adds to the per-loader invariant -/
def extra (src : Nat) (lib : Option Nat) (pr : Proc) : Prop :=
  match pr.pc with
  | .loading => ∃ v, lib = some v ∧ pr.lastCheck ≤ v
  | .compiled => ∃ v, lib = some v ∧ pr.lastCheck ≤ v
  | .done v => pr.lastCheck ≤ v ∧ v ≤ src
  | _ => True

def PInv (src : Nat) (lib : Option Nat) (pr : Proc) : Prop :=
  pr.callGen ≤ pr.lastCheck ∧ pr.lastCheck ≤ src ∧ extra src lib pr

def Inv (s : State) : Prop :=
  (∀ v, s.lib = some v → v ≤ s.src) ∧ ∀ pr ∈ s.procs, PInv s.src s.lib pr

theorem PInv.mono {src src' : Nat} {lib lib' : Option Nat} {pr : Proc}
    (h : PInv src lib pr) (hs : src ≤ src')
    (hl : ∀ v, lib = some v → ∃ v', lib' = some v' ∧ v ≤ v') : PInv src' lib' pr := by
  obtain ⟨h1, h2, h3⟩ := h
  refine ⟨h1, by omega, ?_⟩
  have lift : (∃ v, lib = some v ∧ pr.lastCheck ≤ v) → ∃ v, lib' = some v ∧ pr.lastCheck ≤ v :=
    fun ⟨v, hv, hle⟩ => (hl v hv).imp fun _ h => ⟨h.1, Nat.le_trans hle h.2⟩
  unfold extra at h3 ⊢
  cases hpc : pr.pc <;> simp only [hpc] at h3 ⊢
  · exact lift h3
  · exact lift h3
  · exact ⟨h3.1, by omega⟩

theorem inv_set {s : State} {src' : Nat} {lib' : Option Nat} {l : Bool} {p : Nat} {pr' : Proc}
    (hI : Inv s) (hs : s.src ≤ src')
    (hl : ∀ v, s.lib = some v → ∃ v', lib' = some v' ∧ v ≤ v')
    (hb : ∀ v, lib' = some v → v ≤ src') (hp : PInv src' lib' pr') :
    Inv { src := src', lib := lib', lock := l, procs := s.procs.set p pr' } := by
  refine ⟨hb, ?_⟩
  intro pr hmem
  rcases List.mem_or_eq_of_mem_set hmem with h | h
  · exact (hI.2 pr h).mono hs hl
  · exact h ▸ hp

theorem afterCheck_extra (s : State) (c : Nat) :
    extra s.src s.lib { pc := afterCheck s, callGen := c, lastCheck := s.src } := by
  unfold extra afterCheck
  by_cases h : s.lib = some s.src <;> simp [h]

theorem step_inv {s s' : State} {p : Nat} {a : Act} (hI : Inv s) (h : step s p a = some s') : Inv s' := by
  unfold step at h
  split at h
  · cases h
  next pr hp =>
    obtain ⟨h1, h2, h3⟩ := hI.2 pr (List.mem_of_getElem? hp)
    -- every action but `compile` leaves sources and library alone
    have keep : ∀ {l : Bool} {pr' : Proc}, PInv s.src s.lib pr' →
        Inv { s with lock := l, procs := s.procs.set p pr' } :=
      inv_set hI (Nat.le_refl _) (fun v hv => ⟨v, hv, Nat.le_refl v⟩) hI.1
    split at h
    · -- check
      cases h
      exact keep ⟨Nat.le_refl _, Nat.le_refl _, afterCheck_extra s s.src⟩
    · -- lock
      split at h <;> cases h <;> exact keep ⟨h1, h2, trivial⟩
    · -- lockGone
      split at h
      · cases h
      · cases h
        exact keep ⟨Nat.le_trans h1 h2, Nat.le_refl _, afterCheck_extra s pr.callGen⟩
    · -- steal
      cases h
      exact keep ⟨Nat.le_trans h1 h2, Nat.le_refl _, afterCheck_extra s pr.callGen⟩
    · -- compile
      cases h
      exact inv_set hI (Nat.le_refl _) (fun v hv => ⟨s.src, rfl, hI.1 v hv⟩) (fun v hv => by cases hv; exact Nat.le_refl _)
        ⟨h1, h2, s.src, rfl, h2⟩
    next hpc =>
      -- unlock
      cases h
      exact keep ⟨h1, h2, by simpa only [extra, hpc] using h3⟩
    next hpc =>
      -- load
      simp only [extra, hpc] at h3
      obtain ⟨v, hv, hle⟩ := h3
      split at h
      next w hw =>
        cases hv.symm.trans hw
        cases h
        exact keep ⟨h1, h2, by simp only [extra]; exact ⟨hle, hI.1 _ hv⟩⟩
      next hw => rw [hv] at hw; cases hw
    · -- crash
      split at h
      · cases h
      · cases h
        exact keep ⟨h1, h2, trivial⟩
    · cases h

theorem upd_inv {s : State} (hI : Inv s) : Inv (srcUpdate s) :=
  ⟨fun v hv => Nat.le_succ_of_le (hI.1 v hv),
    fun pr hmem => (hI.2 pr hmem).mono (Nat.le_succ _) fun v hv => ⟨v, hv, Nat.le_refl v⟩⟩

theorem init_inv {s : State} (h : Init s) : Inv s := by
  refine ⟨h.lib, fun pr hmem => ?_⟩
  obtain ⟨a, b, c⟩ := h.procs pr hmem
  refine ⟨by omega, by omega, ?_⟩
  simp [extra, a]

theorem reach_inv {s t : State} (h0 : Inv s) (h : Reach s t) : Inv t := by
  induction h with
  | refl => exact h0
  | step p a _ hs ih => exact step_inv ih hs
  | upd _ ih => exact upd_inv ih

theorem safety_with_source_updates {s0 s : State} (hi : Init s0) (hr : Reach s0 s)
    (pr : Proc) (hmem : pr ∈ s.procs) (v : Nat) (hd : pr.pc = .done v) :
    pr.callGen ≤ pr.lastCheck ∧ pr.lastCheck ≤ v ∧ v ≤ s.src := by
  obtain ⟨h1, _, h3⟩ := (reach_inv (init_inv hi) hr).2 pr hmem
  simp only [extra, hd] at h3
  exact ⟨h1, h3.1, h3.2⟩

theorem eq_lastCheck_of_no_update_since {s0 s : State} (hi : Init s0) (hr : Reach s0 s)
    (pr : Proc) (hmem : pr ∈ s.procs) (v : Nat) (hd : pr.pc = .done v) (hno : pr.lastCheck = s.src) :
    v = pr.lastCheck ∧ v = s.src := by
  have := safety_with_source_updates hi hr pr hmem v hd
  omega

def init2 : State := { src := 1, lib := none, lock := false, procs := [⟨.start, 0, 0⟩, ⟨.start, 0, 0⟩] }

example : Init init2 := ⟨by decide, by decide⟩

/-- the `live` history of the explorer: L0 wins and compiles generation 1, L1 waits, the sources are
rewritten, L0 unlocks and loads generation 1, L1 re-checks (reads 2), compiles and returns 2. -/
def liveHistory : List (Option (Nat × Act)) :=
  [some (0, .check), some (0, .lock), some (1, .check), some (1, .lock), some (0, .compile), none,
   some (0, .unlock), some (0, .load), some (1, .lockGone), some (1, .lock), some (1, .compile),
   some (1, .unlock), some (1, .load)]

example : (runEv init2 liveHistory).map (fun s => s.procs.map (·.pc)) = some [.done 1, .done 2] := by decide

/-- equality with the last check is not a theorem: the update lands between check and compile -/
theorem winner_may_return_newer :
    (runEv init2 [some (0, .check), some (0, .lock), none, some (0, .compile), some (0, .unlock), some (0, .load)]).map
      (fun s => s.procs.head?.map fun pr => (pr.lastCheck, pr.pc)) = some (some (1, .done 2)) := by decide

end TsVerif.C19.Upd
