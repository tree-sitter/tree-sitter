import TsVerif.C19.Model
/-!
# C19 — the staleness test on exact modification times

`Model.lean` abstracts `needs_recompile` to "the library was built from the current version of every
source" (`Fresh`).  This file justifies the abstraction for the comparison the loader really makes
— `fs::metadata(path)?.modified()? > lib_mtime`, a **strict `>` on exact timestamps**, over *every*
path in `paths_to_check` — and refutes it for a comparison at a coarser resolution (the seeded
change `C19-r4-mtime-whole-seconds`).

Timestamps are natural numbers (nanoseconds).  The file system / clock discipline that the
abstraction needs is stated explicitly as `WellTimed`; it is an ASSUMPTION about the environment
(not hook-observed): a source that was not modified since the library was built is not newer than
the library, and a source that was modified afterwards carries a strictly later timestamp.

The last section states the loader's constants behind "within bounded time" (`lockTimeoutMs`, `sleepMs`, `defaultK`,
`defaultLoadBoundMs`), which the driver's judge of the `default` case uses.
-/
namespace TsVerif.C19

structure Src where
  mtime : Nat
  ver : Nat
  deriving DecidableEq, Repr

/-- The library file with the versions of the sources it was compiled from (ghost). -/
structure TLib where
  mtime : Nat
  builtFrom : List Nat
  deriving DecidableEq, Repr

/-- `needs_recompile(lib_path, paths_to_check)` with the comparison `newer src_mtime lib_mtime` as a
parameter: the library is missing, or ANY source is newer. -/
def needsRecompile (newer : Nat → Nat → Bool) (lib : Option TLib) (srcs : List Src) : Bool :=
  match lib with
  | none => true
  | some l => srcs.any fun s => newer s.mtime l.mtime

/-- The loader's comparison: strict, on the exact timestamps. -/
def exactNewer (a b : Nat) : Bool := decide (b < a)

/-- The comparison of the seeded change: whole seconds. -/
def wholeSecondsNewer (a b : Nat) : Bool := decide (b / 1000000000 < a / 1000000000)

def UpToDate (lib : Option TLib) (srcs : List Src) : Prop :=
  ∃ l, lib = some l ∧ l.builtFrom = srcs.map (·.ver)

/-- Two lists related element by element (core Lean has no `Forall₂`). -/
inductive Paired {α β : Type} (R : α → β → Prop) : List α → List β → Prop
  | nil : Paired R [] []
  | cons {a : α} {b : β} {as : List α} {bs : List β} : R a b → Paired R as bs → Paired R (a :: as) (b :: bs)

/-- the clock discipline: ASSUMED of the environment, not observed by the harness -/
def WellTimed (l : TLib) (srcs : List Src) : Prop :=
  Paired (fun (s : Src) (v : Nat) => (s.ver = v → s.mtime ≤ l.mtime) ∧ (s.ver ≠ v → l.mtime < s.mtime))
    srcs l.builtFrom

theorem any_exact_iff {T : Nat} {srcs : List Src} {built : List Nat}
    (h : Paired (fun (s : Src) (v : Nat) => (s.ver = v → s.mtime ≤ T) ∧ (s.ver ≠ v → T < s.mtime)) srcs built) :
    (srcs.any fun s => exactNewer s.mtime T) = false ↔ built = srcs.map (·.ver) := by
  induction h with
  | nil => simp
  | @cons s v srcs built hsv _ ih =>
    have : exactNewer s.mtime T = false ↔ v = s.ver := by
      rw [exactNewer, decide_eq_false_iff_not, Nat.not_lt]
      exact ⟨fun h => Decidable.byContradiction fun hv => Nat.not_lt.2 h (hsv.2 (Ne.symm hv)), fun h => hsv.1 h.symm⟩
    simp only [List.any_cons, List.map_cons, Bool.or_eq_false_iff, List.cons.injEq, ih, this]

/-- **The exact strict comparison decides staleness**: under the clock discipline, the loader
rebuilds iff the library is missing or was built from another version of some source. -/
theorem needs_recompile_exact (lib : Option TLib) (srcs : List Src)
    (hw : ∀ l, lib = some l → WellTimed l srcs) :
    needsRecompile exactNewer lib srcs = false ↔ UpToDate lib srcs := by
  cases lib with
  | none => simp [needsRecompile, UpToDate]
  | some l => simp [needsRecompile, UpToDate, any_exact_iff (hw l rfl)]

/-- **A comparison in whole seconds is refuted** (the seeded change): a well-timed cache whose
source was rewritten 1 ns after the library, in the same second, is taken for up to date. -/
theorem whole_seconds_misses_same_second :
    ∃ (l : TLib) (srcs : List Src), WellTimed l srcs ∧
      needsRecompile wholeSecondsNewer (some l) srcs = false ∧ ¬ UpToDate (some l) srcs := by
  refine ⟨⟨5000000000, [1]⟩, [⟨5000000001, 2⟩], ?_, by decide, ?_⟩
  · exact Paired.cons ⟨by decide, by decide⟩ Paired.nil
  · rintro ⟨l, hl, h⟩; cases hl; simp at h

/-- The same for the other sub-second distances the real runs use (1 ms, 999 ms), and the exact
comparison does rebuild in each of them. -/
example : needsRecompile wholeSecondsNewer (some ⟨5000000000, [1]⟩) [⟨5999000000, 2⟩] = false := by decide
example : needsRecompile exactNewer (some ⟨5000000000, [1]⟩) [⟨5000000001, 2⟩] = true := by decide
example : needsRecompile exactNewer (some ⟨5000000000, [1, 1]⟩) [⟨4000000000, 1⟩, ⟨5001000000, 2⟩] = true := by decide
/-- A library that is newer than every source by 1 ns is NOT rebuilt. -/
example : needsRecompile exactNewer (some ⟨5000000000, [2, 2]⟩) [⟨4999999999, 2⟩, ⟨4999999999, 2⟩] = false := by decide
/-- A non-strict comparison would rebuild a library written in the same instant as its source. -/
example : needsRecompile (fun a b => decide (b ≤ a)) (some ⟨5, [2]⟩) [⟨5, 2⟩] = true := by decide

/-- `rename` of a library just compiled from the current sources keeps the discipline, provided
the clock did not run backwards (its timestamp is at least every source's). -/
theorem wellTimed_after_build (srcs : List Src) (T : Nat) (hT : ∀ s ∈ srcs, s.mtime ≤ T) :
    WellTimed ⟨T, srcs.map (·.ver)⟩ srcs := by
  unfold WellTimed
  induction srcs with
  | nil => exact Paired.nil
  | cons s rest ih =>
    exact Paired.cons ⟨fun _ => hT s List.mem_cons_self, fun h => absurd rfl h⟩
      (ih fun x hx => hT x (List.mem_cons_of_mem s hx))

/-- The abstraction map into `Model.lean`: the tuple of source versions is encoded as one number by
any injective `enc`; then `Fresh` of the abstract state is exactly `UpToDate`. -/
theorem fresh_iff_upToDate (enc : List Nat → Nat) (hinj : ∀ a b, enc a = enc b → a = b)
    (lib : Option TLib) (srcs : List Src) :
    Fresh (enc (srcs.map (·.ver))) (lib.map fun l => ⟨enc l.builtFrom, true⟩) ↔ UpToDate lib srcs := by
  cases lib with
  | none => simp [Fresh, UpToDate]
  | some l => simpa [Fresh, UpToDate] using ⟨hinj _ _, congrArg enc⟩

/-- So the model's `check` step (`if Fresh … then loading else needLock`) is the loader's test. -/
theorem check_is_exact_test (enc : List Nat → Nat) (hinj : ∀ a b, enc a = enc b → a = b)
    (lib : Option TLib) (srcs : List Src) (hw : ∀ l, lib = some l → WellTimed l srcs) :
    needsRecompile exactNewer lib srcs = false ↔
      Fresh (enc (srcs.map (·.ver))) (lib.map fun l => ⟨enc l.builtFrom, true⟩) :=
  (needs_recompile_exact lib srcs hw).trans (fresh_iff_upToDate enc hinj lib srcs).symm

/-! ## The constants behind "within bounded time"

The model's `K` (a waiter gives up at its `K + 1`-th poll that still sees the lock) is abstract.  The loader's actual
numbers — constants of the theorems' interpretation, measured on every run by the `default` case of the
check (a stale lock, library absent, NO timeout override: a working language within `defaultLoadBoundMs`) —: -/

/-- `Duration::from_secs(30)` at the call site of `LockFile::wait_for_removal`. -/
def lockTimeoutMs : Nat := 30000

/-- The `i`-th sleep of `wait_for_removal`: 100 ms, doubling, capped at 1000 ms. -/
def sleepMs (i : Nat) : Nat := min (100 * 2 ^ i) 1000

def elapsedAfter (n : Nat) : Nat := ((List.range n).map sleepMs).sum

/-- The `K` of the model that corresponds to the default: the number of polls that still see the lock
before the deadline test `Instant::now() > deadline` can succeed. -/
def defaultK : Nat := 33

/-- After 33 sleeps the deadline has passed, after 32 it has not; the waiter overshoots the 30 s by at
most one maximal sleep. -/
theorem default_timeout_polls :
    lockTimeoutMs < elapsedAfter defaultK ∧ elapsedAfter (defaultK - 1) ≤ lockTimeoutMs ∧
    elapsedAfter defaultK ≤ lockTimeoutMs + 1000 := by decide

/-- What the check allows a later loader that finds a stale lock and no library: the timeout, one
maximal sleep, and an allowance of 13.5 s for `cc` and `dlopen` (the elapsed time of the `default` case is recorded in the
evidence under `coverage.default_lock_timeout`). -/
def defaultLoadBoundMs : Nat := 45000

example : elapsedAfter defaultK + 13500 ≤ defaultLoadBoundMs := by decide

/-- The seeded unit mix-up (`Duration::from_secs(30_000)`): the same waiter would sit out more than
eight hours — far beyond any bound the check allows. -/
example : defaultLoadBoundMs * 600 < 30000 * 1000 := by decide

end TsVerif.C19
