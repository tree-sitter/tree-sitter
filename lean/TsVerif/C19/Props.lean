import TsVerif.C19.Liveness
import TsVerif.C19.Judge
import TsVerif.C19.Timed
/-!
# C19 — Grammar loading is safe under concurrency and after crashes

> When several threads or processes load the same grammar at once, with the compiled library
> absent or older than its sources, every call that returns success yields a complete library
> built from the current sources, and no caller ever observes a partially written file. If a
> process dies at any point while compiling, later loads still succeed within bounded time and
> never load a stale or truncated library.

## Clause map (phrase of the property text → theorems)

Marks: **proved** = kernel-checked statement about the transition system of `Model.lean`, which is tied
to `loader.rs` by hook-controlled schedules (model predicts every announced point, result and file
left) and by free-running races (outcome ∈ model's reachable outcomes); **partial (H)** = proved under
the stated hypothesis H; **judged only** = no theorem, the Lean judge runs on every real outcome;
**assumed** = semantics of the OS / environment that neither the model nor the harness can establish.

| # | phrase | theorems | mark |
|---|---|---|---|
| 1 | "when several threads or processes load the same grammar at once" | every theorem quantifies over `s0.procs` of ANY length and over `Reach` (any caller, any enabled action, any order) or over an arbitrary scheduler `σ : ℕ → caller × action` (`execC`); `mkInit_is_init` for `n` callers; `mutual_exclusion` (`orig`: at most one caller between winning `create_new` and dropping the lock) | proved for any N; threads and processes are the same `Proc` (the protocol uses only files) — real runs: 1–4 processes × 1–3 threads, n ≤ 6 membership-checked, above judged only |
| 2 | "with the compiled library absent or older than its sources" | `Init` admits library absent / stale / fresh (any `lib` that is complete), leftover lock, leftover temps; the staleness test itself: `needs_recompile_exact`, `check_is_exact_test`, `wellTimed_after_build` (Timed.lean) | proved; partial (`WellTimed`: clock discipline — **assumed**); refuted at coarser resolution: `whole_seconds_misses_same_second` |
| 3 | "every call that returns success yields a complete library built from the current sources" | `safety` (every `done (ok v)` has `v = src`), `no_partial` (the file is complete), together per tick in `c19_full_strength`; judge: `judge_safe_of_model` | proved for `recheck` with or without compile errors and for `orig` without (`Cfg.safe`); **refuted** for `orig` with compile errors: `safety_compile_error` (the defect fixed in 8957f32) |
| 4 | "no caller ever observes a partially written file" | `no_partial`: in every reachable state the file at the library path is complete and nobody ends with `partialLib` | proved; rests on **assumed** atomic `rename(2)` and "`cc` writes only its temp path" |
| 5 | "if a process dies at any point while compiling" | `crash` is enabled at EVERY non-finished program point (not only while compiling); `Reach`/`execC` place crashes anywhere, any number of them | proved (quantified); **assumed**: a dead process takes no further step and cleans nothing up |
| 6 | "later loads still succeed" | `recovery_recheck`, `recovery_recheck_failing`, `c19_full_strength` (second part), `liveness_with_crashes`, `progressC_iff` (fair ⇔ the execution becomes quiescent), `liveness_recheck` (crash-free schedules, fairness predicate `Progress`), `completion_exists`; a later loader = a caller whose first step comes late in `σ` | proved for `recheck`; **refuted** for `orig`: `stale_lock_never_recovers`, `crash_while_holding_is_permanent`, `leftover_lock_is_stuck`; witness that `recheck` gets out of that state: `recheck_recovers_example` |
| 7 | "within bounded time" | `recheck_bounded` (every execution, crashes included, has at most `mu c s` steps), `mu_init` (closed form of the bound for `n` callers), `wait_free`/`bounded_termination` (`orig`: `K + 7` own steps), `no_orphan_lock` (judge: `judge_orphan_of_model`) | proved; time is abstract in the transition system; the loader's constants are stated in Timed.lean (`lockTimeoutMs`, `defaultK = 33`, `default_timeout_polls`, `defaultLoadBoundMs`) and `solo_recovery_steps` gives the worst case (`K + 10` own steps); the DEFAULT value is measured by the `default` case of every run, the other cases use 0 ms / 1.5 s / 10 min through the hook |
| 8 | "and never load a stale or truncated library" | 3 + 4 hold in every reachable state, after any crashes; `safety`'s `loading → Fresh` | proved |
| 9 | quantifier: "all crash points between those steps, cache states (…leftover lock, leftover temp file), with and without an external scanner" | crash points: 5; cache states: `Init`, `mkInit_is_init`; scanner: `src` is the version of the whole source set, `needsRecompile` ranges over every source | proved (model); real: crash injected at every hook point, all five cache states, scanner on/off × `stalekind` × `gap` |

## Gaps between the statements and the property text

* All theorems are about the model.  Its steps are the loader's file-system actions at hook-point
  granularity; what is observed and what is assumed per step is tabulated in `notes/C19.md`.
* `safety` needs `Cfg.safe`; every reachable configuration of the committed protocol satisfies it
  (`Or.inr`), examples included.  `Init` is satisfiable (`mkInit_is_init`), `Quiescent` states are
  reachable from every state (`completion_exists`), `ProgressC` is satisfiable and excludes only stalling
  schedulers (`progressC_iff`: so the fairness hypothesis cannot be suspected of being unsatisfiable
  with crashes).
* The sources are constant during a run (`reach_src`): "current sources" = the sources at the check;
  a source rewritten *while* loaders run is outside the statement (boundary convention) of THIS model;
  `SrcUpdate.lean` / `SrcUpdateProps.lean` (`Upd.safety_with_source_updates`) cover a rewrite that
  completes before a loader's (re-)check.
* "bounded time" is a bound on steps, not seconds.
* `orig` clauses are kept as refutations only; `liveness_ok` for `orig` stays OPEN (moot since the fix).

Boundary conventions: "current sources" = the version of the whole source set on disk (parser.c,
scanner.c, external files: one number encodes the tuple; the real runs vary parser.c and scanner.c
independently, with and without an external scanner), constant during a run;
`needs_recompile`'s mtime comparison is abstracted to version inequality in the transition system and
justified for exact timestamps in Timed.lean under the clock discipline `WellTimed`; time is abstract
(a waiter gives up at its `K + 1`-th poll that still sees the lock).
-/
namespace TsVerif.C19

/-- In every reachable state the file at the library path, if any, is complete
(it is only ever assigned by `rename` of a temp file whose compiler run finished), a caller about
to rename holds a complete temp built from the current sources, and no caller ever ends with
"loaded a truncated file". Holds for every configuration (compile failures, both variants). -/
theorem no_partial (c : Cfg) {s0 s : State} (hi : Init s0) (hr : Reach c s0 s) :
    (∀ f, s.lib = some f → f.complete = true) ∧
    (∀ (p : Nat) (pr : Proc), s.procs[p]? = some pr → pr.pc = .wroteTemp → pr.temp = some ⟨s.src, true⟩) ∧
    (∀ (p : Nat) (pr : Proc), s.procs[p]? = some pr → pr.pc ≠ .done (.err .partialLib)) := by
  have hinv := reach_inv (init_inv (c := c) hi) hr
  refine ⟨hinv.libOk, fun p pr hp hpc => ?_, fun p pr hp hpc => ?_⟩
  · have := hinv.procs p pr hp
    rwa [procOk, hpc] at this
  · have := hinv.procs p pr hp
    rw [procOk, hpc] at this
    exact this.1 rfl

/-- For any number of callers, any interleaving and any crash points, every caller that
returned success loaded the current version, the library on disk is (still) current, and every
error is a lock timeout (or the compile error when sources may fail to compile) — provided
`c.safe`: compiles either complete or the process dies (`mayFail = false`), or waiters re-check. -/
theorem safety (c : Cfg) (hs : c.safe) {s0 s : State} (hi : Init s0) (hr : Reach c s0 s)
    (p : Nat) (pr : Proc) (hp : s.procs[p]? = some pr) :
    (∀ v, pr.pc = .done (.ok v) → v = s0.src ∧ Fresh s.src s.lib) ∧
    (pr.pc = .loading → Fresh s.src s.lib) ∧
    (∀ e, pr.pc = .done (.err e) → e = .timeout ∨ (e = .compile ∧ c.mayFail = true)) := by
  have hinv := reach_inv (init_inv (c := c) hi) hr
  have hsrc := reach_src hr
  have := hinv.procs p pr hp
  unfold procOk at this
  refine ⟨fun v hpc => ?_, fun hpc => ?_, fun e hpc => ?_⟩ <;> rw [hpc] at this
  · exact ⟨hsrc ▸ (this hs).1, (this hs).2⟩
  · exact this hs
  · exact this.2 hs

example : Cfg.safe { K := 3, mayFail := false } := Or.inl rfl
example : Cfg.safe { K := 3, mayFail := true, variant := .recheck } := Or.inr rfl

theorem mkInit_pc {src : Nat} {lib : Option File} {lock : Bool} {n : Nat} {temp : Option File} {p : Nat} {pr : Proc}
    (h : (mkInit src lib lock n temp).procs[p]? = some pr) : pr.pc = .start := by
  simp only [mkInit, List.getElem?_replicate] at h
  split at h <;> cases h
  rfl

/-- The five initial cache states (library absent / stale / fresh, leftover lock, leftover temp of
the same name) with any number of callers are initial states. -/
theorem mkInit_is_init (src : Nat) (lib : Option File) (lock : Bool) (n : Nat) (temp : Option File)
    (hl : ∀ f, lib = some f → f.complete = true) : Init (mkInit src lib lock n temp) := by
  refine ⟨fun p pr h => mkInit_pc h, hl, ?_⟩
  · intro q h
    simp only [mkInit] at h
    split at h
    · cases h; simp [mkInit]
    · cases h

example : Init (mkInit 2 (some ⟨1, true⟩) true 3) := mkInit_is_init _ _ _ _ _ (by intro f h; cases h; rfl)

/-- Non-vacuity of `safety`: two callers, stale library; one compiles, the other waits; both end
with the current version. -/
example : (run { K := 3, mayFail := false, variant := .orig } (mkInit 2 (some ⟨1, true⟩) false 2)
    [(0, .check), (1, .check), (0, .tryLock), (1, .tryLock), (0, .compileBegin), (1, .poll), (0, .compileFinish),
     (0, .rename), (0, .unlock), (1, .poll), (1, .load), (0, .load)]).map (fun s => s.procs.map (·.pc))
    = some [.done (.ok 2), .done (.ok 2)] := by decide

/-- The judge that is evaluated on real outcomes accepts the outcome of
every reachable model state. -/
theorem judge_safe_of_model (c : Cfg) (hs : c.safe) {s0 s : State} (hi : Init s0) (hr : Reach c s0 s) :
    judgeSafe (outcomeOf c s) = true := by
  have hnp := no_partial c hi hr
  have hsrc := reach_src hr
  unfold judgeSafe outcomeOf
  simp only [Bool.and_eq_true]
  refine ⟨⟨?_, rfl⟩, ?_⟩
  · simp only [List.all_map, List.all_eq_true]
    intro pr hmem
    obtain ⟨p, hp⟩ := List.getElem?_of_mem hmem
    have hsafe := safety c hs hi hr p pr hp
    obtain ⟨pc, temp⟩ := pr
    cases pc with
    | done r =>
      cases r with
      | ok v => simp [resultOf, resSafe, (hsafe.1 v rfl).1, hsrc]
      | err e => cases e <;> first | rfl | exact absurd rfl (hnp.2.2 p _ hp)
    | _ => rfl
  · cases hl : s.lib with
    | none => rfl
    | some f => exact hnp.1 f hl

/-- (pre-fix protocol `orig`): when `cc` can fail and return, the negation of
`safety`. Sources are at version 2 and do not compile, the library is version 1; caller 0 wins the
lock, fails to compile and drops the lock; caller 1, which was waiting, then loads version 1 and
returns success. -/
theorem safety_compile_error :
    let c : Cfg := { K := 3, mayFail := true, variant := .orig }
    let s0 := mkInit 2 (some ⟨1, true⟩) false 2
    ∃ s, run c s0 [(0, .check), (1, .check), (0, .tryLock), (1, .tryLock), (0, .compileBegin),
                   (0, .compileFail), (0, .unlock), (1, .poll), (1, .load)] = some s ∧
      s.procs.map (·.pc) = [.done (.err .compile), .done (.ok 1)] ∧ s.src = 2 ∧
      judgeSafe (outcomeOf c s) = false := by
  decide

/-- (pre-fix protocol `orig`): at most one caller is between winning `create_new` and
dropping the lock, so at most one compiler writes at any time. -/
theorem mutual_exclusion (c : Cfg) (hv : c.variant = .orig) {s0 s : State} (hi : Init s0) (hr : Reach c s0 s)
    (p q : Nat) (prp prq : Proc) (hp : s.procs[p]? = some prp) (hq : s.procs[q]? = some prq)
    (h1 : prp.pc.holder = true) (h2 : prq.pc.holder = true) : p = q := by
  have hm := reach_minv hv (init_minv hi) hr
  exact Option.some.inj ((hm p prp hp h1).symm.trans (hm q prq hq h2))

/-- (pre-fix protocol `orig`): once the lock file exists while nobody is in a
lock-holding pc and the library is not up to date, this stays so forever: no caller — present or
future — ever succeeds; every finished call is a lock timeout. -/
theorem stale_lock_never_recovers (c : Cfg) (hv : c.variant = .orig) {s t : State} (hst : Stuck s)
    (hr : Reach c s t) :
    Stuck t ∧ ∀ (p : Nat) (pr : Proc) (r : Res), t.procs[p]? = some pr → pr.pc = .done r → r = .err .timeout := by
  have ht := reach_preserves (step_stuck hv) hst hr
  refine ⟨ht, fun p pr r hp hpc => ?_⟩
  have := ht.pcs p pr hp
  rw [hpc] at this
  cases r with
  | ok v => cases this
  | err e => cases e <;> first | rfl | cases this

/-- A lock file left behind by an earlier process, with the library absent or stale: stuck. -/
theorem leftover_lock_is_stuck (src : Nat) (lib : Option File) (n : Nat) (h : ¬ Fresh src lib) :
    Stuck (mkInit src lib true n) :=
  ⟨⟨n, rfl⟩, h, fun p pr hp => by rw [mkInit_pc hp]; rfl⟩

/-- (pre-fix protocol `orig`, compiles do not fail): if the lock owner
dies before its rename while the library is not up to date, the resulting state is stuck — by
`stale_lock_never_recovers` every later load fails with a timeout, forever.  This contradicts the
property's "later loads still succeed". -/
theorem crash_while_holding_is_permanent (c : Cfg) (hv : c.variant = .orig) (hm : c.mayFail = false)
    {s0 s s' : State} (hi : Init s0) (hr : Reach c s0 s) (p : Nat) (pr : Proc)
    (hp : s.procs[p]? = some pr) (hpc : pr.pc = .haveLock ∨ pr.pc = .compiling ∨ pr.pc = .wroteTemp)
    (hstale : ¬ Fresh s.src s.lib) (hstep : step c s p .crash = some s') : Stuck s' := by
  have hinv := reach_inv (init_inv (c := c) hi) hr
  have hmi := reach_minv hv (init_minv hi) hr
  have hs : c.safe := Or.inl hm
  have hlock : s.lock = some p := hmi p pr hp (by rcases hpc with h | h | h <;> rw [h] <;> rfl)
  obtain ⟨_, hp0, _, _, _, he, rfl⟩ := step_eff hstep
  cases he
  refine ⟨⟨p, hlock⟩, hstale, forall_setProc hp0 rfl fun q prq hqp hq => ?_⟩
  have hok := hinv.procs q prq hq
  have hho := hmi q prq hq
  obtain ⟨pc, temp⟩ := prq
  cases pc with
  | loading => exact absurd (hok hs) hstale
  | renamed => exact absurd hok hstale
  | done r =>
    cases r with
    | ok v => exact absurd (hok hs).2 hstale
    | err e =>
      rcases hok.2 hs with h | ⟨_, h⟩
      · subst h; rfl
      · rw [hm] at h; cases h
  | start | needLock | waiting | dead => rfl
  | _ => exact absurd (Option.some.inj ((hho rfl).symm.trans hlock)) hqp

/-- Non-vacuity: such a crash is reachable (caller 0 dies while compiling), and afterwards caller 1
and a later caller 2 both time out. -/
example : (run { K := 1, mayFail := false, variant := .orig } (mkInit 2 none false 3)
    [(0, .check), (0, .tryLock), (0, .compileBegin), (0, .crash), (1, .check), (1, .tryLock), (1, .poll), (1, .poll),
     (2, .check), (2, .tryLock), (2, .poll), (2, .poll)]).map (fun s => s.procs.map (·.pc))
    = some [.dead, .done (.err .timeout), .done (.err .timeout)] := by decide

/-- The repaired protocol (`Variant.recheck`) gets out of the same situation: the waiter removes
the lock that outlived its timeout, re-checks, compiles and succeeds. -/
theorem recheck_recovers_example :
    (run { K := 1, mayFail := false, variant := .recheck } (mkInit 2 (some ⟨1, true⟩) true 1)
      [(0, .check), (0, .tryLock), (0, .poll), (0, .poll), (0, .check), (0, .tryLock), (0, .compileBegin),
       (0, .compileFinish), (0, .rename), (0, .unlock), (0, .load)]).map (fun s => (s.procs.map (·.pc), s.lock, s.lib))
    = some ([.done (.ok 2)], none, some ⟨2, true⟩) := by decide

/-- (pre-fix protocol `orig`): every step strictly decreases a measure that starts
at `n · (K + 7)` (`measure_init`; `K + 7` is the rank of a caller at `start`); hence every execution — any
interleaving, any crashes — has at most that many steps. -/
theorem bounded_termination (c : Cfg) (hv : c.variant = .orig) (s t : State) (sched : List (Nat × Act))
    (h : run c s sched = some t) : sched.length ≤ measure c s := by
  have := run_descent (step_decreases hv) sched s t h
  omega

theorem measure_init (c : Cfg) (src : Nat) (lib : Option File) (lock : Bool) (n : Nat) :
    measure c (mkInit src lib lock n) = n * (c.K + 7) := by
  simp only [measure, mkInit, rank, List.map_replicate, List.sum_replicate_nat]

/-- (both variants, any configuration): a lock file that exists in a reachable
state is either the leftover one from the initial cache state, or its recorded owner is a caller
that is still in a lock-holding pc (its next `unlock` removes the file) or that died.  Hence once
every caller has returned, only a leftover lock can remain: a caller that returns never leaves its
lock behind (which would make every later load wait out the timeout). -/
theorem no_orphan_lock (c : Cfg) {s0 s : State} (hi : Init s0) (hr : Reach c s0 s) (q : Nat)
    (hq : s.lock = some q) :
    (s0.lock = some q ∧ s0.procs.length ≤ q) ∨
    (∃ pr, s.procs[q]? = some pr ∧ (pr.pc.holder = true ∨ pr.pc = .dead)) :=
  reach_preserves (P := Owned s0) step_owned (fun q hq => .inl ⟨hq, hi.lockForeign q hq⟩) hr q hq

/-- The judge's form of it: the outcome of a reachable state in which nobody died and no lock was
left over initially has no lock file. -/
theorem judge_orphan_of_model (c : Cfg) {s0 s : State} (hi : Init s0) (hr : Reach c s0 s) :
    judgeNoOrphanLock s0.lock.isSome (outcomeOf c s) = true := by
  unfold judgeNoOrphanLock outcomeOf
  simp only
  cases h0 : s0.lock with
  | some q0 => simp
  | none =>
    cases hl : s.lock with
    | none => simp
    | some q =>
      rcases no_orphan_lock c hi hr q hl with ⟨h1, _⟩ | ⟨pr, hp, hpc⟩
      · rw [h0] at h1; cases h1
      · simp only [Option.isSome_none, Option.isSome_some, Bool.not_true, Bool.false_or, List.any_map, List.any_eq_true]
        refine ⟨pr, List.mem_of_getElem? hp, ?_⟩
        obtain ⟨pc, temp⟩ := pr
        rcases hpc with h | h
        · cases pc <;> simp [Pc.holder] at h <;> rfl
        · simp only at h; subst h; rfl

/-- In the committed protocol **every** execution — any interleaving, crashes
anywhere, leftover lock or not, failing compiles or not — has at most `mu c s` steps: the ranking
function `mu` (Liveness.lean) decreases on every step. -/
theorem recheck_bounded (c : Cfg) (hv : c.variant = .recheck) (s t : State) (sched : List (Nat × Act))
    (h : run c s sched = some t) : sched.length ≤ mu c s := by
  have := run_descent (step_mu hv) sched s t h
  omega

/-- The bound for `n` callers starting together: `n·(K+10) + (K+3)·n(n+1)/2` with a leftover lock,
`7n + (K+3)·n(n+1)/2` without. -/
theorem mu_init (c : Cfg) (src : Nat) (lib : Option File) (lock : Bool) (n : Nat) :
    mu c (mkInit src lib lock n) = n * (if lock then c.K + 10 else 7) + (c.K + 3) * tri n := by
  simp only [mu, mkInit, rkSum, potSum, rk, pot, List.map_replicate, List.sum_replicate_nat, Nat.mul_one]
  cases lock <;> rfl

/-- With sources that may fail to compile: in a reachable state in which nobody can move any more, a live
caller ends with the current version or with the compile error — never with a stale library, a timeout, a
missing or a partial file. -/
theorem recovery_recheck_failing (c : Cfg) (hv : c.variant = .recheck) {s0 s : State}
    (hi : Init s0) (hr : Reach c s0 s) (hq : Quiescent c s) (p : Nat) (pr : Proc)
    (hp : s.procs[p]? = some pr) :
    pr.pc = .dead ∨ pr.pc = .done (.ok s0.src) ∨ (pr.pc = .done (.err .compile) ∧ c.mayFail = true) := by
  have hfin := quiescent_finished hq p pr hp
  have hsafe := safety c (Or.inr hv) hi hr p pr hp
  have hnt : NoTimeout s :=
    reach_preserves (step_noTimeout hv) (fun q prq hq' hpc => by rw [hi.allStart q prq hq'] at hpc; cases hpc) hr
  obtain ⟨pc, temp⟩ := pr
  cases pc with
  | dead => exact .inl rfl
  | done r =>
    cases r with
    | ok v => exact .inr (.inl (by rw [(hsafe.1 v rfl).1]))
    | err e =>
      rcases hsafe.2.2 e rfl with rfl | ⟨rfl, h2⟩
      · exact absurd rfl (hnt p _ hp)
      · exact .inr (.inr ⟨rfl, h2⟩)
  | _ => cases hfin

/-- (the property's "later loads still succeed … and never load a stale or
truncated library", for the committed protocol with sources that compile): in every state that
is reachable — through any interleaving, with any number of crashes at any points, from any of the
initial cache states incl. a leftover lock — and in which nobody can move any more, **every caller
that did not die itself has returned `ok` with the current version**; nobody timed out, nobody saw
a missing or partial file. -/
theorem recovery_recheck (c : Cfg) (hv : c.variant = .recheck) (hm : c.mayFail = false) {s0 s : State}
    (hi : Init s0) (hr : Reach c s0 s) (hq : Quiescent c s) (p : Nat) (pr : Proc)
    (hp : s.procs[p]? = some pr) : pr.pc = .dead ∨ pr.pc = .done (.ok s0.src) :=
  (recovery_recheck_failing c hv hi hr hq p pr hp).imp_right fun h =>
    h.resolve_right fun h => Bool.false_ne_true (hm ▸ h.2)

/-- From **any** state the callers can be run to quiescence without further
crashes within `mu c s` steps (nobody ever blocks: `wait_free`). -/
theorem completion_exists (c : Cfg) (hv : c.variant = .recheck) : ∀ (m : Nat) (s : State), mu c s ≤ m →
    ∃ sched t, (∀ x ∈ sched, x.2 ≠ Act.crash) ∧ run c s sched = some t ∧ Quiescent c t ∧ sched.length ≤ mu c s := by
  intro _ s hm
  clear hm
  generalize hn : mu c s = n
  induction n using Nat.strongRecOn generalizing s with
  | ind n ih =>
    by_cases hq : Quiescent c s
    · exact ⟨[], s, by simp, rfl, hq, by simp⟩
    · simp only [Quiescent, Classical.not_forall] at hq
      obtain ⟨p, a, hne, hs⟩ := hq
      obtain ⟨s', hs'⟩ := Option.ne_none_iff_exists'.1 hs
      have hlt := step_mu hv hs'
      obtain ⟨sched, t, hnc, hrun, hqt, hlen⟩ := ih _ (by omega) s' rfl
      exact ⟨(p, a) :: sched, t, List.forall_mem_cons.2 ⟨hne, hnc⟩, by simp [run, hs', hrun], hqt,
        by simp only [List.length_cons]; omega⟩

/-- Every crash-free execution that satisfies `Progress` reaches a quiescent
state within finitely many ticks; by `recovery_recheck` every live caller then holds `ok src`.
(Proof: the ranking function `mu` never increases along the execution and strictly decreases at
every tick that moves somebody.) -/
theorem liveness_recheck (c : Cfg) (hv : c.variant = .recheck) (s0 : State) (σ : Nat → Nat × Act)
    (hfair : Progress c s0 σ) : ∃ T, Quiescent c (exec c s0 σ T) :=
  descent_reaches (exec c s0 σ) (mu c) (Quiescent c) (fun i => by
    simp only [exec]
    split
    · exact .inl rfl
    · exact getD_step_mu hv _ _ _) hfair

/-- Non-vacuity of `Progress`/`liveness_recheck`/`recovery_recheck`: a concrete run of two callers
from "stale library + leftover lock" in which caller 0 dies holding the lock; caller 1 still ends
with the current version. -/
example : (run { K := 1, mayFail := false } (mkInit 2 (some ⟨1, true⟩) true 2)
    [(0, .check), (0, .tryLock), (0, .poll), (0, .poll), (0, .check), (0, .tryLock), (0, .compileBegin), (0, .crash),
     (1, .check), (1, .tryLock), (1, .poll), (1, .poll), (1, .check), (1, .tryLock), (1, .compileBegin),
     (1, .compileFinish), (1, .rename), (1, .unlock), (1, .load)]).map (fun s => (s.procs.map (·.pc), s.lock))
    = some ([.dead, .done (.ok 2)], none) := by decide

/-- Liveness with crashes anywhere: every fair execution becomes quiescent (the ranking function `mu`
also decreases at a crash). -/
theorem liveness_with_crashes (c : Cfg) (hv : c.variant = .recheck) (s0 : State) (σ : Nat → Nat × Act)
    (hfair : ProgressC c s0 σ) : ∃ T, Quiescent c (execC c s0 σ T) :=
  descent_reaches (execC c s0 σ) (mu c) (Quiescent c) (fun _ => getD_step_mu hv _ _ _) hfair

/-- The fairness predicate is exactly "the execution does not stall before it is finished": a scheduler
is fair iff its execution becomes quiescent.  So `ProgressC` excludes nothing but schedulers that stop
scheduling enabled steps forever, and it is satisfiable from every state (`completion_exists`). -/
theorem progressC_iff (c : Cfg) (hv : c.variant = .recheck) (s0 : State) (σ : Nat → Nat × Act) :
    ProgressC c s0 σ ↔ ∃ T, Quiescent c (execC c s0 σ T) := by
  constructor
  · exact liveness_with_crashes c hv s0 σ
  · rintro ⟨T, hq⟩ i hni
    apply Classical.byContradiction
    intro hno
    have hconst : ∀ d, execC c s0 σ (i + d) = execC c s0 σ i := by
      intro d
      induction d with
      | zero => rfl
      | succ d ih => exact (Classical.not_not.1 fun hne => hno ⟨i + d, by omega, hne⟩).trans ih
    rcases Nat.le_total i T with h | h
    · obtain ⟨d, rfl⟩ := Nat.exists_eq_add_of_le h
      exact hni (hconst d ▸ hq)
    · obtain ⟨d, rfl⟩ := Nat.exists_eq_add_of_le h
      exact hni ((execC_const_after_quiescent c s0 σ T hq d).symm ▸ hq)

/-- **C19 at full strength, for the committed protocol** (`recheck`: re-check after waiting, steal a
lock that outlived the timeout).  For any number `N` of callers, any initial cache (library absent /
stale / fresh, leftover lock of a dead process, leftover temp files), any scheduler `σ` — i.e. every
interleaving and every placement of crashes —:

* *safety, at every tick*: the file at the library path is never partially written; a caller that
  is about to `dlopen` sees a library built from the current sources; a caller that has returned
  success loaded the current version; nobody ever returns "partial library";
* *recovery*: if the scheduler is fair, then after finitely many ticks nobody can move any more, and
  then every caller that did not die itself has returned the current version — or the compile error,
  when the sources do not compile.  No timeout, no missing file, no stale version. -/
theorem c19_full_strength (c : Cfg) (hv : c.variant = .recheck) {s0 : State} (hi : Init s0)
    (σ : Nat → Nat × Act) :
    (∀ i, (∀ f, (execC c s0 σ i).lib = some f → f.complete = true) ∧
      ∀ (p : Nat) (pr : Proc), (execC c s0 σ i).procs[p]? = some pr →
        (∀ v, pr.pc = .done (.ok v) → v = s0.src) ∧
        (pr.pc = .loading → Fresh s0.src (execC c s0 σ i).lib) ∧
        pr.pc ≠ .done (.err .partialLib)) ∧
    (ProgressC c s0 σ → ∃ T, Quiescent c (execC c s0 σ T) ∧
      ∀ (p : Nat) (pr : Proc), (execC c s0 σ T).procs[p]? = some pr →
        pr.pc = .dead ∨ pr.pc = .done (.ok s0.src) ∨ (pr.pc = .done (.err .compile) ∧ c.mayFail = true)) := by
  refine ⟨?_, ?_⟩
  · intro i
    have hr := execC_reach c s0 σ i
    have hnp := no_partial c hi hr
    refine ⟨hnp.1, ?_⟩
    intro p pr hp
    have hs := safety c (Or.inr hv) hi hr p pr hp
    refine ⟨fun v hv' => (hs.1 v hv').1, ?_, hnp.2.2 p pr hp⟩
    intro hl
    have := hs.2.1 hl
    rwa [reach_src hr] at this
  · intro hfair
    obtain ⟨T, hq⟩ := liveness_with_crashes c hv s0 σ hfair
    exact ⟨T, hq, fun p pr hp => recovery_recheck_failing c hv hi (execC_reach c s0 σ T) hq p pr hp⟩

/-- Non-vacuity: a scheduler for two callers on "stale library + leftover lock" in which caller 0 dies
while compiling; the execution is quiescent after 19 ticks and caller 1 holds the current version. -/
example :
    let σ : Nat → Nat × Act := fun i =>
      ([(0, .check), (0, .tryLock), (0, .poll), (0, .poll), (0, .check), (0, .tryLock), (0, .compileBegin), (0, .crash),
        (1, .check), (1, .tryLock), (1, .poll), (1, .poll), (1, .check), (1, .tryLock), (1, .compileBegin),
        (1, .compileFinish), (1, .rename), (1, .unlock), (1, .load)] : List (Nat × Act)).getD i (0, .check)
    ((execC { K := 1, mayFail := false } (mkInit 2 (some ⟨1, true⟩) true 2) σ 19).procs.map (·.pc)) = [.dead, .done (.ok 2)] := by
  decide

/-- The state of a single waiter that has seen the stale lock `j` times. -/
def soloWaiting (src : Nat) (j : Nat) : State :=
  { src, lib := none, lock := some 1, procs := [{ pc := .waiting j, temp := none }] }

theorem run_polls (c : Cfg) (src : Nat) (rest : List (Nat × Act)) : ∀ (d j : Nat), j + d ≤ c.K →
    run c (soloWaiting src j) (List.replicate d (0, Act.poll) ++ rest) = run c (soloWaiting src (j + d)) rest
  | 0, j, _ => by simp
  | d + 1, j, h => by
    have hlt : j < c.K := by omega
    have hstep : step c (soloWaiting src j) 0 .poll = some (soloWaiting src (j + 1)) := by
      simp [step, soloWaiting, State.setProc, hlt]
    rw [List.replicate_succ, List.cons_append]
    simp only [run, hstep]
    rw [run_polls c src rest d (j + 1) (by omega)]
    congr 2
    omega

/-- **A later loader that finds a stale lock and no library** (the worst case for "bounded time": nobody
else is alive to remove the lock) ends with the current version after exactly `K + 10` own steps, for
every `K`: check, lock attempt, `K` polls that see the lock, the poll that gives up and removes it,
re-check, lock, compile, rename, unlock, load.  With the loader's default (`defaultK = 33` polls = at most
30.5 s, Timed.lean) plus the compile time this is the bound the `default` case of the check measures. -/
theorem solo_recovery_steps (c : Cfg) (hv : c.variant = .recheck) (src : Nat) :
    (run c (mkInit src none true 1)
      ([(0, .check), (0, .tryLock)] ++ List.replicate c.K (0, Act.poll) ++
       [(0, .poll), (0, .check), (0, .tryLock), (0, .compileBegin), (0, .compileFinish), (0, .rename), (0, .unlock), (0, .load)])).map
      (fun s => (s.procs.map (·.pc), s.lock, s.lib))
    = some ([.done (.ok src)], none, some ⟨src, true⟩) := by
  have h0 : ∀ rest, run c (mkInit src none true 1) ([(0, .check), (0, .tryLock)] ++ rest) =
      run c (soloWaiting src 0) rest := by
    simp [run, step, mkInit, State.setProc, Fresh, soloWaiting]
  rw [List.append_assoc, h0, run_polls c src _ c.K 0 (by omega)]
  simp [run, step, soloWaiting, State.setProc, hv, Fresh]

example : ([(0, Act.check), (0, Act.tryLock)] ++ List.replicate defaultK (0, Act.poll) ++
    [(0, Act.poll), (0, .check), (0, .tryLock), (0, .compileBegin), (0, .compileFinish), (0, .rename), (0, .unlock), (0, .load)]).length
    = defaultK + 10 := by decide

end TsVerif.C19
