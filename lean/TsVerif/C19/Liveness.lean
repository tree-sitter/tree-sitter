import TsVerif.C19.Lemmas
/-!
# C19 — the ranking function `mu`, quiescence, fair executions

In `recheck` a waiter can go back to `start`, so no per-caller step bound exists as for `orig`.
The ranking function below still decreases on **every** step of either variant (`step_mu_any`), crashes
included, in any interleaving: a caller's rank depends on whether the lock file exists (a caller at `start`/`needLock`
facing a lock has a whole wait-and-steal cycle ahead of it), and every caller that may still take
the lock carries a credit that pays for the rank increase of the others when it does take it
(each caller takes the lock at most once: afterwards it only moves towards `done`).
Only `step_noTimeout` needs `recheck`.
-/
namespace TsVerif.C19

/-- May this caller still create the lock file? -/
def pot : Pc → Nat
  | .start => 1
  | .needLock => 1
  | .waiting _ => 1
  | _ => 0

/-- Upper bound on the caller's own remaining steps *as long as nobody else takes the lock*.  Without a lock file
`start` has 7 steps to go (check, tryLock, compileBegin, compileFinish, rename, unlock, load); facing one, check, tryLock,
`K` polls that see it, the poll that gives up and removes it, and then those 7: `K + 10`.  The difference `K + 3` is
the credit of `mu`. -/
def rk (c : Cfg) (locked : Bool) : Pc → Nat
  | .start => if locked then c.K + 10 else 7
  | .needLock => if locked then c.K + 9 else 6
  | .haveLock => 5
  | .compiling => 4
  | .wroteTemp => 3
  | .renamed => 2
  | .failed => 1
  | .waiting k => (c.K - k) + 8
  | .loading => 1
  | .done _ => 0
  | .dead => 0

/-- Triangular: each of the `a` callers that may still take the lock raises, when it does, the rank of the other
potential takers by at most `K + 3` each. -/
def tri : Nat → Nat
  | 0 => 0
  | a + 1 => tri a + (a + 1)

theorem tri_mono : ∀ {a b : Nat}, a ≤ b → tri a ≤ tri b := by
  intro a b h
  induction h with
  | refl => exact Nat.le_refl _
  | step _ ih => exact Nat.le_trans ih (by simp [tri])

def rkSum (c : Cfg) (locked : Bool) (l : List Proc) : Nat := (l.map fun pr => rk c locked pr.pc).sum
def potSum (l : List Proc) : Nat := (l.map fun pr => pot pr.pc).sum

def mu (c : Cfg) (s : State) : Nat :=
  rkSum c s.lock.isSome s.procs + (c.K + 3) * tri (potSum s.procs)

theorem rk_bounds (c : Cfg) (pc : Pc) :
    rk c false pc ≤ rk c true pc ∧ rk c true pc ≤ rk c false pc + (c.K + 3) * pot pc := by
  cases pc <;> simp [rk, pot] <;> omega

theorem rkSum_bounds (c : Cfg) (l : List Proc) :
    rkSum c false l ≤ rkSum c true l ∧ rkSum c true l ≤ rkSum c false l + (c.K + 3) * potSum l := by
  induction l with
  | nil => simp [rkSum, potSum]
  | cons x xs ih =>
    have := rk_bounds c x.pc
    simp only [rkSum, potSum, List.map_cons, List.sum_cons, Nat.mul_add] at ih ⊢; omega

theorem rkSum_le_any (c : Cfg) (b : Bool) (l : List Proc) : rkSum c false l ≤ rkSum c b l := by
  cases b
  · exact Nat.le_refl _
  · exact (rkSum_bounds c l).1

theorem rkSum_set {c : Cfg} {b : Bool} {l : List Proc} {p : Nat} {pr : Proc} (pr' : Proc) (hp : l[p]? = some pr) :
    rkSum c b (l.set p pr') + rk c b pr.pc = rkSum c b l + rk c b pr'.pc :=
  sum_map_set (fun (q : Proc) => rk c b q.pc) l p pr pr' hp

theorem potSum_set {l : List Proc} {p : Nat} {pr : Proc} (pr' : Proc) (hp : l[p]? = some pr) :
    potSum (l.set p pr') + pot pr.pc = potSum l + pot pr'.pc :=
  sum_map_set (fun (q : Proc) => pot q.pc) l p pr pr' hp

/-- Dropping the lock flag lowers everybody's rank; for one distinguished caller we keep track of both. -/
theorem rkSum_mix (c : Cfg) {l : List Proc} {p : Nat} {pr : Proc} (hp : l[p]? = some pr) :
    rkSum c false l + rk c true pr.pc ≤ rkSum c true l + rk c false pr.pc := by
  -- take `pr` out of the list (a dead caller has rank 0 either way) and compare the rest
  have ht := rkSum_set (c := c) (b := true) ⟨.dead, none⟩ hp
  have hf := rkSum_set (c := c) (b := false) ⟨.dead, none⟩ hp
  have := (rkSum_bounds c (l.set p ⟨.dead, none⟩)).1
  have h0 : ∀ b, rk c b Pc.dead = 0 := fun _ => rfl
  rw [h0] at ht hf
  omega

/-- A step of `p` that leaves the lock file alone or removes it: `p`'s rank falls (old rank read with the old lock flag, new
with the new) and its potential does not rise.  Removing the lock is allowed because it lowers everybody's rank (`rkSum_mix`). -/
theorem mu_drop {c : Cfg} {s : State} {p : Nat} {pr pr' : Proc} {lib' : Option File} {lock' : Option Nat}
    (hp : s.procs[p]? = some pr) (hb : lock' = s.lock ∨ lock' = none)
    (hr : rk c lock'.isSome pr'.pc < rk c s.lock.isSome pr.pc) (hpot : pot pr'.pc ≤ pot pr.pc) :
    mu c ({ s with lib := lib', lock := lock' }.setProc p pr') < mu c s := by
  have h1 := rkSum_set (c := c) (b := lock'.isSome) pr' hp
  have h2 := potSum_set pr' hp
  have h3 := Nat.mul_le_mul_left (c.K + 3)
    (tri_mono (a := potSum (s.procs.set p pr')) (b := potSum s.procs) (by omega))
  have h4 : rkSum c lock'.isSome s.procs + rk c s.lock.isSome pr.pc ≤
      rkSum c s.lock.isSome s.procs + rk c lock'.isSome pr.pc := by
    rcases hb with rfl | rfl
    · exact Nat.le_refl _
    · cases s.lock.isSome
      · exact Nat.le_refl _
      · exact rkSum_mix c hp
  simp only [mu, State.setProc]
  omega

/-- Winning `create_new`: the others' ranks may grow by a cycle each; the winner's credit pays. -/
theorem mu_acquire {c : Cfg} {s : State} {p : Nat} {pr pr' : Proc} {lib' : Option File} (hl : s.lock = none)
    (hp : s.procs[p]? = some pr) (hpc : pr.pc = .needLock) (hpc' : pr'.pc = .haveLock) :
    mu c ({ s with lib := lib', lock := some p }.setProc p pr') < mu c s := by
  have h1 := rkSum_set (c := c) (b := false) pr' hp
  have h2 := potSum_set pr' hp
  have h5 := (rkSum_bounds c (s.procs.set p pr')).2
  simp only [hpc, hpc', rk, pot, Bool.false_eq_true, if_false] at h1 h2
  have hA : potSum s.procs = potSum (s.procs.set p pr') + 1 := by omega
  simp only [mu, State.setProc, Option.isSome_some, hl, Option.isSome_none, hA, tri, Nat.mul_add, Nat.mul_one]
  omega

/-- Both variants, crashes included.  `orig` is covered because its two ways out of `waiting` go to `loading` and to
`done`, which rank below every `waiting`. -/
theorem step_mu_any {c : Cfg} {s s' : State} {p : Nat} {a : Act}
    (h : step c s p a = some s') : mu c s' < mu c s := by
  obtain ⟨pr, hp, pr', lib', lock', he, rfl⟩ := step_eff h
  cases he with
  | lockWon hl => exact mu_acquire hl hp rfl rfl
  | checkFresh | checkStale =>
    exact mu_drop hp (.inl rfl) (by cases s.lock.isSome <;> simp [rk]) (by simp [pot])
  | lockHeld hl | pollGoneRecheck hl => exact mu_drop hp (.inl rfl) (by simp [rk, hl]) (Nat.le_refl _)
  | pollAgain hl hk => exact mu_drop hp (.inl rfl) (by simp only [rk]; omega) (Nat.le_refl _)
  | pollSteal => exact mu_drop hp (.inr rfl) (by simp [rk]) (Nat.le_refl _)
  | unlockOk | unlockFailed => exact mu_drop hp (.inr rfl) (by simp [rk]) (Nat.zero_le _)
  | @crash pc _ hf =>
    refine mu_drop hp (.inl rfl) ?_ (Nat.zero_le _)
    revert hf; cases pc <;> cases s.lock.isSome <;> simp [rk, Pc.finished]
  | _ => exact mu_drop hp (.inl rfl) (by simp [rk]) (Nat.zero_le _)

theorem step_mu {c : Cfg} (hv : c.variant = .recheck) {s s' : State} {p : Nat} {a : Act}
    (h : step c s p a = some s') : mu c s' < mu c s :=
  step_mu_any h

/-- nobody has returned `LockFileTimeout` -/
def NoTimeout (s : State) : Prop := ∀ (p : Nat) (pr : Proc), s.procs[p]? = some pr → pr.pc ≠ .done (.err .timeout)

theorem step_noTimeout {c : Cfg} (hv : c.variant = .recheck) {s s' : State} {p : Nat} {a : Act}
    (hinv : NoTimeout s) (h : step c s p a = some s') : NoTimeout s' := by
  obtain ⟨pr, hp, pr', lib', lock', he, rfl⟩ := step_eff h
  refine forall_setProc (s := { s with lib := lib', lock := lock' }) hp ?_ fun q prq _ hq => hinv q prq hq
  cases he with
  | pollTimeout _ _ ho => rw [hv] at ho; cases ho
  | loadMissing | loadOk | loadPartial | unlockFailed => nofun
  | _ => exact Pc.noConfusion

/-- No protocol step is enabled.  Crashes are left out on purpose: a state in which only crashes are possible counts
as finished (`quiescent_stuck`: then no crash is possible either). -/
def Quiescent (c : Cfg) (s : State) : Prop := ∀ (p : Nat) (a : Act), a ≠ .crash → step c s p a = none

theorem quiescent_finished {c : Cfg} {s : State} (hq : Quiescent c s) (p : Nat) (pr : Proc)
    (hp : s.procs[p]? = some pr) : pr.pc.finished = true := by
  cases hf : pr.pc.finished with
  | true => rfl
  | false =>
    obtain ⟨a, _, hne, hen⟩ := wait_free c s p pr hp hf
    rw [hq p a hne] at hen; cases hen

theorem quiescent_stuck {c : Cfg} {s : State} (hq : Quiescent c s) (p : Nat) (a : Act) : step c s p a = none := by
  by_cases ha : a = .crash
  · subst ha
    cases h : step c s p .crash with
    | none => rfl
    | some s' =>
      obtain ⟨pr, hp, _, _, _, he, _⟩ := step_eff h
      cases he with
      | crash hf => rw [quiescent_finished hq p _ hp] at hf; cases hf
  · exact hq p a ha

theorem descent_reaches {α : Type} (x : Nat → α) (m : α → Nat) (Q : α → Prop)
    (hstep : ∀ i, x (i + 1) = x i ∨ m (x (i + 1)) < m (x i))
    (hfair : ∀ i, ¬ Q (x i) → ∃ j, i ≤ j ∧ x (j + 1) ≠ x j) : ∃ T, Q (x T) := by
  have hmono : ∀ i d, m (x (i + d)) ≤ m (x i) := by
    intro i d
    induction d with
    | zero => exact Nat.le_refl _
    | succ d ih =>
      rcases hstep (i + d) with h | h
      · rw [← Nat.add_assoc, h]; exact ih
      · rw [← Nat.add_assoc]; omega
  suffices h : ∀ n i, m (x i) < n → ∃ T, Q (x T) from h _ 0 (Nat.lt_succ_self _)
  intro n
  induction n with
  | zero => intro i hm; cases hm
  | succ n ih =>
    intro i hm
    by_cases hq : Q (x i)
    · exact ⟨i, hq⟩
    · obtain ⟨j, hij, hne⟩ := hfair i hq
      have := hmono i (j - i)
      rw [show i + (j - i) = j by omega] at this
      exact ih (j + 1) (by have := (hstep j).resolve_left hne; omega)

theorem getD_step_mu {c : Cfg} (hv : c.variant = .recheck) (s : State) (p : Nat) (a : Act) :
    (step c s p a).getD s = s ∨ mu c ((step c s p a).getD s) < mu c s := by
  cases h : step c s p a with
  | none => exact .inl rfl
  | some s' => exact .inr (step_mu hv h)

/-- An infinite execution driven by a scheduler: at tick `i` caller `(σ i).1` is asked to do
`(σ i).2`; if that action is not enabled (or is a crash) nothing happens. -/
def exec (c : Cfg) (s0 : State) (σ : Nat → Nat × Act) : Nat → State
  | 0 => s0
  | i + 1 =>
    let s := exec c s0 σ i
    if (σ i).2 = Act.crash then s else (step c s (σ i).1 (σ i).2).getD s

/-- The fairness hypothesis, as a predicate on schedules: as long as somebody can still move, some
later tick of the schedule does move somebody (the scheduler does not starve *everybody* forever).
No assumption is made about *which* caller moves, and none about the lock holder's speed relative
to the waiters' polls: in `recheck` a waiter that gives up waiting removes the lock and proceeds by itself. -/
def Progress (c : Cfg) (s0 : State) (σ : Nat → Nat × Act) : Prop :=
  ∀ i, ¬ Quiescent c (exec c s0 σ i) → ∃ j, i ≤ j ∧ exec c s0 σ (j + 1) ≠ exec c s0 σ j

/-- An execution in which crashes happen too: at tick `i` caller `(σ i).1` does `(σ i).2` — a protocol
step or a crash — if that is enabled, otherwise nothing happens.  `σ` is arbitrary: it fixes the
interleaving of any number of callers AND where who dies. -/
def execC (c : Cfg) (s0 : State) (σ : Nat → Nat × Act) : Nat → State
  | 0 => s0
  | i + 1 => (step c (execC c s0 σ i) (σ i).1 (σ i).2).getD (execC c s0 σ i)

theorem execC_reach (c : Cfg) (s0 : State) (σ : Nat → Nat × Act) : ∀ i, Reach c s0 (execC c s0 σ i) := by
  intro i
  induction i with
  | zero => exact Reach.refl _
  | succ i ih =>
    simp only [execC]
    cases h : step c (execC c s0 σ i) (σ i).1 (σ i).2 with
    | none => simpa using ih
    | some s' => simpa using Reach.tail _ _ ih h

/-- Fairness for executions with crashes: as long as some live caller can still take a protocol step,
some later tick changes the state (by a step or by a crash). -/
def ProgressC (c : Cfg) (s0 : State) (σ : Nat → Nat × Act) : Prop :=
  ∀ i, ¬ Quiescent c (execC c s0 σ i) → ∃ j, i ≤ j ∧ execC c s0 σ (j + 1) ≠ execC c s0 σ j

theorem execC_const_after_quiescent (c : Cfg) (s0 : State) (σ : Nat → Nat × Act) (T : Nat)
    (hq : Quiescent c (execC c s0 σ T)) : ∀ d, execC c s0 σ (T + d) = execC c s0 σ T := by
  intro d
  induction d with
  | zero => rfl
  | succ d ih =>
    rw [← Nat.add_assoc]
    simp only [execC]
    rw [ih, quiescent_stuck hq]
    rfl

end TsVerif.C19
