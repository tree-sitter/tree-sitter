import TsVerif.C19.Model
/-!
# C19 — invariants of the loading protocol

`step_eff` presents `step` as the relation `Eff` (one constructor per branch of the protocol); every
invariant and measure is preserved by a case analysis of `Eff` that names the actions it depends on, and
carried along `Reach` by `reach_preserves`.  `step` itself is evaluated only where an action has to be shown
ENABLED: in `wait_free` and in the concrete runs of `Props.lean`.
-/
namespace TsVerif.C19

/-- What action `a` of caller `p` does in state `s`: the caller's record before and after, and the
library file and the lock file after it. -/
inductive Eff (c : Cfg) (s : State) (p : Nat) : Act → Proc → Proc → Option File → Option Nat → Prop
  | checkFresh {t} : Fresh s.src s.lib → Eff c s p .check ⟨.start, t⟩ ⟨.loading, t⟩ s.lib s.lock
  | checkStale {t} : ¬ Fresh s.src s.lib → Eff c s p .check ⟨.start, t⟩ ⟨.needLock, t⟩ s.lib s.lock
  | lockWon {t} : s.lock = none → Eff c s p .tryLock ⟨.needLock, t⟩ ⟨.haveLock, t⟩ s.lib (some p)
  | lockHeld {t o} : s.lock = some o → Eff c s p .tryLock ⟨.needLock, t⟩ ⟨.waiting 0, t⟩ s.lib s.lock
  | compileBegin {t} : Eff c s p .compileBegin ⟨.haveLock, t⟩ ⟨.compiling, some ⟨s.src, false⟩⟩ s.lib s.lock
  | compileFinish {t} : Eff c s p .compileFinish ⟨.compiling, t⟩ ⟨.wroteTemp, some ⟨s.src, true⟩⟩ s.lib s.lock
  | compileFail {t} : c.mayFail = true → Eff c s p .compileFail ⟨.compiling, t⟩ ⟨.failed, none⟩ s.lib s.lock
  | rename {f} : Eff c s p .rename ⟨.wroteTemp, some f⟩ ⟨.renamed, none⟩ (some f) s.lock
  | renameNone : Eff c s p .rename ⟨.wroteTemp, none⟩ ⟨.failed, none⟩ s.lib s.lock
  | unlockOk {t} : Eff c s p .unlock ⟨.renamed, t⟩ ⟨.loading, t⟩ s.lib none
  | unlockFailed {t} : Eff c s p .unlock ⟨.failed, t⟩ ⟨.done (.err .compile), t⟩ s.lib none
  | pollGoneOrig {t k} : s.lock = none → c.variant = .orig →
      Eff c s p .poll ⟨.waiting k, t⟩ ⟨.loading, t⟩ s.lib s.lock
  | pollGoneRecheck {t k} : s.lock = none → c.variant = .recheck →
      Eff c s p .poll ⟨.waiting k, t⟩ ⟨.start, t⟩ s.lib s.lock
  | pollAgain {t k o} : s.lock = some o → k < c.K →
      Eff c s p .poll ⟨.waiting k, t⟩ ⟨.waiting (k + 1), t⟩ s.lib s.lock
  | pollTimeout {t k o} : s.lock = some o → ¬ k < c.K → c.variant = .orig →
      Eff c s p .poll ⟨.waiting k, t⟩ ⟨.done (.err .timeout), t⟩ s.lib s.lock
  -- the last `path.exists()` and the `remove_file` of the timed-out lock are one step: the give-up condition is local
  -- to the waiter and monotone, so a lock that changes hands between the two real actions is removed all the same
  | pollSteal {t k o} : s.lock = some o → ¬ k < c.K → c.variant = .recheck →
      Eff c s p .poll ⟨.waiting k, t⟩ ⟨.start, t⟩ s.lib none
  | loadMissing {t} : s.lib = none → Eff c s p .load ⟨.loading, t⟩ ⟨.done (.err .missing), t⟩ s.lib s.lock
  | loadOk {t f} : s.lib = some f → f.complete = true →
      Eff c s p .load ⟨.loading, t⟩ ⟨.done (.ok f.ver), t⟩ s.lib s.lock
  | loadPartial {t f} : s.lib = some f → f.complete = false →
      Eff c s p .load ⟨.loading, t⟩ ⟨.done (.err .partialLib), t⟩ s.lib s.lock
  | crash {pc t} : pc.finished = false → Eff c s p .crash ⟨pc, t⟩ ⟨.dead, t⟩ s.lib s.lock

theorem step_eff {c : Cfg} {s s' : State} {p : Nat} {a : Act} (h : step c s p a = some s') :
    ∃ pr, s.procs[p]? = some pr ∧ ∃ pr' lib' lock', Eff c s p a pr pr' lib' lock' ∧
      s' = { s with lib := lib', lock := lock' }.setProc p pr' := by
  unfold step at h
  split at h
  · cases h
  next pr hp =>
    obtain ⟨pc, t⟩ := pr
    refine ⟨_, hp, ?_⟩
    split at h
    next hpc =>
      cases hpc
      split at h
      next hf => cases h; exact ⟨_, _, _, .checkFresh hf, rfl⟩
      next hf => cases h; exact ⟨_, _, _, .checkStale hf, rfl⟩
    next hpc =>
      cases hpc
      split at h
      next hl => cases h; exact ⟨_, _, _, .lockWon hl, rfl⟩
      next hl => cases h; exact ⟨_, _, _, .lockHeld hl, rfl⟩
    next hpc => cases hpc; cases h; exact ⟨_, _, _, .compileBegin, rfl⟩
    next hpc => cases hpc; cases h; exact ⟨_, _, _, .compileFinish, rfl⟩
    next hpc =>
      cases hpc
      split at h
      next hm => cases h; exact ⟨_, _, _, .compileFail hm, rfl⟩
      · cases h
    next hpc =>
      cases hpc
      split at h
      next ht => cases ht; cases h; exact ⟨_, _, _, .rename, rfl⟩
      next ht => cases ht; cases h; exact ⟨_, _, _, .renameNone, rfl⟩
    next hpc => cases hpc; cases h; exact ⟨_, _, _, .unlockOk, rfl⟩
    next hpc => cases hpc; cases h; exact ⟨_, _, _, .unlockFailed, rfl⟩
    next k hpc =>
      cases hpc
      split at h
      next hl =>
        split at h
        next hv => cases h; exact ⟨_, _, _, .pollGoneOrig hl hv, rfl⟩
        next hv => cases h; exact ⟨_, _, _, .pollGoneRecheck hl hv, rfl⟩
      next hl =>
        split at h
        next hk => cases h; exact ⟨_, _, _, .pollAgain hl hk, rfl⟩
        next hk =>
          split at h
          next hv => cases h; exact ⟨_, _, _, .pollTimeout hl hk hv, rfl⟩
          next hv => cases h; exact ⟨_, _, _, .pollSteal hl hk hv, rfl⟩
    next hpc =>
      cases hpc
      split at h
      next hl => cases h; exact ⟨_, _, _, .loadMissing hl, rfl⟩
      next f hl =>
        split at h
        next hc => cases h; exact ⟨_, _, _, .loadOk hl hc, rfl⟩
        next hc => cases h; exact ⟨_, _, _, .loadPartial hl (by simpa using hc), rfl⟩
    · split at h
      · cases h
      next hf => cases h; exact ⟨_, _, _, .crash (by simpa using hf), rfl⟩
    · cases h

@[simp] theorem setProc_src (s : State) (p : Nat) (pr : Proc) : (s.setProc p pr).src = s.src := rfl
@[simp] theorem setProc_lib (s : State) (p : Nat) (pr : Proc) : (s.setProc p pr).lib = s.lib := rfl
@[simp] theorem setProc_lock (s : State) (p : Nat) (pr : Proc) : (s.setProc p pr).lock = s.lock := rfl
@[simp] theorem setProc_len (s : State) (p : Nat) (pr : Proc) :
    (s.setProc p pr).procs.length = s.procs.length := by simp [State.setProc]

theorem forall_setProc {s : State} {p : Nat} {pr pr' : Proc} {P : Nat → Proc → Prop}
    (hp : s.procs[p]? = some pr) (hnew : P p pr')
    (hold : ∀ q prq, q ≠ p → s.procs[q]? = some prq → P q prq) :
    ∀ q prq, (s.setProc p pr').procs[q]? = some prq → P q prq := by
  intro q prq hq
  have hp' : p < s.procs.length := (List.getElem?_eq_some_iff.1 hp).1
  by_cases hqp : q = p
  · subst hqp
    simp only [State.setProc, List.getElem?_set_self hp', Option.some.injEq] at hq
    exact hq ▸ hnew
  · rw [State.setProc, List.getElem?_set_ne (Ne.symm hqp)] at hq
    exact hold q prq hqp hq

theorem getElem?_setProc_self {s : State} {p : Nat} {pr : Proc} (pr' : Proc) (hp : s.procs[p]? = some pr) :
    (s.setProc p pr').procs[p]? = some pr' := by
  simp only [State.setProc, List.getElem?_set_self (List.getElem?_eq_some_iff.1 hp).1]

/-- The configurations in which every success is current: a compile never fails and returns, or waiters re-check. -/
def Cfg.safe (c : Cfg) : Prop := c.mayFail = false ∨ c.variant = .recheck

/-- What a caller's pc says about its temp file, the library and the lock.  `waiting`: in `orig` a waiter takes the
disappearance of the lock for a fresh library, so there the lock may only disappear when the library is fresh.
`failed` is entered only by a compile that failed and returned.  `e ≠ partialLib` needs no `c.safe`: the library file is
always complete (`Inv.libOk`). -/
def procOk (c : Cfg) (src : Nat) (lib : Option File) (lock : Option Nat) (pr : Proc) : Prop :=
  match pr.pc with
  | .wroteTemp => pr.temp = some ⟨src, true⟩
  | .renamed => Fresh src lib
  | .loading => c.safe → Fresh src lib
  | .done (.ok v) => c.safe → v = src ∧ Fresh src lib
  | .done (.err e) => e ≠ .partialLib ∧ (c.safe → e = .timeout ∨ (e = .compile ∧ c.mayFail = true))
  | .waiting _ => c.safe → c.variant = .orig → lock = none → Fresh src lib
  | .failed => c.mayFail = true
  | _ => True

/-- the safety invariant -/
structure Inv (c : Cfg) (s : State) : Prop where
  libOk : ∀ f, s.lib = some f → f.complete = true
  procs : ∀ (q : Nat) (pr : Proc), s.procs[q]? = some pr → procOk c s.src s.lib s.lock pr

theorem procOk_mono {c : Cfg} {src : Nat} {lib lib' : Option File} {lock lock' : Option Nat} {pr : Proc}
    (hf : Fresh src lib → Fresh src lib')
    (hl : c.safe → c.variant = .orig → lock' = none → lock = none ∨ Fresh src lib')
    (h : procOk c src lib lock pr) : procOk c src lib' lock' pr := by
  obtain ⟨pc, temp⟩ := pr
  cases pc with
  | waiting k => exact fun hs hv hn => (hl hs hv hn).elim (fun h1 => hf (h hs hv h1)) id
  | renamed => exact hf h
  | loading => exact fun hs => hf (h hs)
  | done r =>
    cases r with
    | ok v => exact fun hs => ⟨(h hs).1, hf (h hs).2⟩
    | err e => exact h
  | _ => exact h

/-- `hl` is what the `waiting` clause of `procOk` needs of the other callers. -/
theorem inv_update {c : Cfg} {s : State} {p : Nat} {pr pr' : Proc} {lib' : Option File} {lock' : Option Nat}
    (hinv : Inv c s) (hp : s.procs[p]? = some pr)
    (hlib : ∀ f, lib' = some f → f.complete = true)
    (hf : Fresh s.src s.lib → Fresh s.src lib')
    (hl : c.safe → c.variant = .orig → lock' = none → s.lock = none ∨ Fresh s.src lib')
    (hnew : procOk c s.src lib' lock' pr') :
    Inv c ({ s with lib := lib', lock := lock' }.setProc p pr') :=
  ⟨hlib, forall_setProc (s := { s with lib := lib', lock := lock' }) hp hnew
    fun q prq _ hq => procOk_mono hf hl (hinv.procs q prq hq)⟩

theorem inv_update_local {c : Cfg} {s : State} {p : Nat} {pr pr' : Proc}
    (hinv : Inv c s) (hp : s.procs[p]? = some pr)
    (hnew : procOk c s.src s.lib s.lock pr') : Inv c (s.setProc p pr') :=
  inv_update hinv hp hinv.libOk id (fun _ _ h => Or.inl h) hnew

theorem step_inv {c : Cfg} {s s' : State} {p : Nat} {a : Act}
    (hinv : Inv c s) (h : step c s p a = some s') : Inv c s' := by
  obtain ⟨pr, hp, pr', lib', lock', he, rfl⟩ := step_eff h
  have hok := hinv.procs p pr hp
  cases he with
  | checkFresh hf => exact inv_update_local hinv hp fun _ => hf
  | lockWon => exact inv_update hinv hp hinv.libOk id (fun _ _ h => nomatch h) trivial
  | lockHeld hl | pollAgain hl =>
    exact inv_update_local hinv hp fun _ _ hn => by rw [hl] at hn; cases hn
  | compileFinish => exact inv_update_local hinv hp rfl
  | compileFail hm => exact inv_update_local hinv hp hm
  | rename =>
    cases hok
    have hfr : Fresh s.src (some ⟨s.src, true⟩) := ⟨_, rfl, rfl⟩
    exact inv_update hinv hp (fun f hf => by cases hf; rfl) (fun _ => hfr) (fun _ _ h => Or.inl h) hfr
  | renameNone => cases hok
  | unlockOk => exact inv_update hinv hp hinv.libOk id (fun _ _ _ => Or.inr hok) fun _ => hok
  | unlockFailed =>
    -- a compile that failed and returned: `c.safe` then means `recheck`, where waiters do not rely on the lock
    have hv : c.safe → c.variant = .recheck := fun hs => hs.resolve_left (by rw [hok]; nofun)
    exact inv_update hinv hp hinv.libOk id (fun hs ho => by rw [hv hs] at ho; cases ho)
      ⟨nofun, fun _ => Or.inr ⟨rfl, hok⟩⟩
  | pollGoneOrig hl hv => exact inv_update_local hinv hp fun hs => hok hs hv hl
  | pollTimeout => exact inv_update_local hinv hp ⟨nofun, fun _ => Or.inl rfl⟩
  | pollSteal _ _ hv =>
    exact inv_update hinv hp hinv.libOk id (fun _ ho => by rw [hv] at ho; cases ho) trivial
  | loadMissing hn =>
    refine inv_update_local hinv hp ⟨nofun, fun hs => ?_⟩
    obtain ⟨g, hg, _⟩ := hok hs
    rw [hg] at hn; cases hn
  | loadOk hf =>
    refine inv_update_local hinv hp fun hs => ?_
    obtain ⟨g, hg, hgv⟩ := hok hs
    cases hf.symm.trans hg
    exact ⟨hgv, hok hs⟩
  | loadPartial hf hc => rw [hinv.libOk _ hf] at hc; cases hc
  | _ => exact inv_update_local hinv hp trivial

theorem reach_preserves {c : Cfg} {P : State → Prop}
    (hstep : ∀ {s s' : State} {p : Nat} {a : Act}, P s → step c s p a = some s' → P s') {s t : State}
    (h0 : P s) (h : Reach c s t) : P t := by
  induction h with
  | refl => exact h0
  | tail p a _ hs ih => exact hstep ih hs

theorem Reach.trans {c : Cfg} {s t u : State} (h1 : Reach c s t) (h2 : Reach c t u) : Reach c s u := by
  induction h2 with
  | refl => exact h1
  | tail p a _ hs ih => exact Reach.tail p a ih hs

theorem reach_inv {c : Cfg} {s t : State} (hinv : Inv c s) (h : Reach c s t) : Inv c t :=
  reach_preserves step_inv hinv h

theorem reach_src {c : Cfg} {s t : State} (h : Reach c s t) : t.src = s.src :=
  reach_preserves (P := fun u => u.src = s.src)
    (fun h hs => by obtain ⟨_, _, _, _, _, _, rfl⟩ := step_eff hs; exact h) rfl h

theorem init_inv {c : Cfg} {s : State} (hi : Init s) : Inv c s := by
  refine ⟨hi.libComplete, fun q pr hq => ?_⟩
  obtain ⟨pc, temp⟩ := pr
  cases hi.allStart q _ hq
  trivial

/-- between winning `create_new` and dropping the lock -/
def Pc.holder : Pc → Bool
  | .haveLock | .compiling | .wroteTemp | .renamed | .failed => true
  | _ => false

/-- How an action treats the lock file.  It leaves it alone, and then a holder stays one or dies and a
non-holder stays one; or `p` creates it and becomes its holder; or `p` removes it and is no holder
afterwards — its own lock, or (only in `recheck`) one that outlived the timeout. -/
theorem eff_lock {c : Cfg} {s : State} {p : Nat} {a : Act} {pr pr' : Proc} {lib' : Option File} {lock' : Option Nat}
    (he : Eff c s p a pr pr' lib' lock') :
    (lock' = s.lock ∧ (pr'.pc.holder = true → pr.pc.holder = true) ∧
      (pr.pc.holder = true → pr'.pc.holder = true ∨ pr'.pc = .dead) ∧ pr.pc ≠ .dead) ∨
    (s.lock = none ∧ lock' = some p ∧ pr'.pc.holder = true) ∨
    (lock' = none ∧ pr'.pc.holder = false ∧ (pr.pc.holder = true ∨ c.variant = .recheck)) := by
  cases he with
  | lockWon hl => exact .inr (.inl ⟨hl, rfl, rfl⟩)
  | unlockOk | unlockFailed => exact .inr (.inr ⟨rfl, rfl, .inl rfl⟩)
  | pollSteal _ _ hv => exact .inr (.inr ⟨rfl, rfl, .inr hv⟩)
  | compileBegin | compileFinish | compileFail | rename | renameNone =>
    exact .inl ⟨rfl, fun _ => rfl, fun _ => .inl rfl, Pc.noConfusion⟩
  | crash hf => exact .inl ⟨rfl, Bool.noConfusion, fun _ => .inr rfl, fun h => by cases h; cases hf⟩
  | _ => exact .inl ⟨rfl, Bool.noConfusion, Bool.noConfusion, Pc.noConfusion⟩

/-- Every caller in a lock-holding pc is the recorded owner.  `orig` only: in `recheck` a lock can be stolen. -/
def MInv (s : State) : Prop :=
  ∀ (q : Nat) (pr : Proc), s.procs[q]? = some pr → pr.pc.holder = true → s.lock = some q

theorem minv_update {s : State} {p : Nat} {pr pr' : Proc} {lib' : Option File} {lock' : Option Nat}
    (hinv : MInv s) (hp : s.procs[p]? = some pr)
    (hnew : pr'.pc.holder = true → lock' = some p)
    (hl : ∀ q, q ≠ p → s.lock = some q → lock' = some q) :
    MInv ({ s with lib := lib', lock := lock' }.setProc p pr') :=
  forall_setProc (s := { s with lib := lib', lock := lock' }) hp hnew
    fun q prq hq hprq hh => hl q hq (hinv q prq hprq hh)

theorem step_minv {c : Cfg} (hv : c.variant = .orig) {s s' : State} {p : Nat} {a : Act}
    (hinv : MInv s) (h : step c s p a = some s') : MInv s' := by
  obtain ⟨pr, hp, pr', lib', lock', he, rfl⟩ := step_eff h
  have hown := hinv p pr hp
  rcases eff_lock he with ⟨rfl, k1, -, -⟩ | ⟨hl, rfl, -⟩ | ⟨rfl, hn, hr⟩
  · exact minv_update hinv hp (fun h => hown (k1 h)) fun _ _ h => h
  · exact minv_update hinv hp (fun _ => rfl) fun q _ hq => by rw [hl] at hq; cases hq
  · -- the lock that goes away is `p`'s own, so no other holder loses it
    have := hown (hr.resolve_right (by rw [hv]; nofun))
    exact minv_update hinv hp (by rw [hn]; nofun) fun q hq hl =>
      absurd (Option.some.inj (this.symm.trans hl)) (Ne.symm hq)

theorem reach_minv {c : Cfg} (hv : c.variant = .orig) {s t : State} (hinv : MInv s) (h : Reach c s t) : MInv t :=
  reach_preserves (step_minv hv) hinv h

theorem init_minv {s : State} (hi : Init s) : MInv s := by
  intro q pr hq hh
  rw [hi.allStart q pr hq] at hh; cases hh

/-- A lock file is the one left over in the initial state `s0` (its owner is no caller), or its recorded owner is a
caller in a lock-holding pc or dead.  The first alternative speaks of `s0` only, so the disjunction is inductive. -/
def Owned (s0 s : State) : Prop :=
  ∀ q, s.lock = some q → (s0.lock = some q ∧ s0.procs.length ≤ q) ∨
    ∃ pr, s.procs[q]? = some pr ∧ (pr.pc.holder = true ∨ pr.pc = .dead)

theorem step_owned {c : Cfg} {s0 s s' : State} {p : Nat} {a : Act} (h : Owned s0 s) (hs : step c s p a = some s') :
    Owned s0 s' := by
  obtain ⟨pr, hp, pr', lib', lock', he, rfl⟩ := step_eff hs
  intro q hq
  have hself := getElem?_setProc_self (s := { s with lib := lib', lock := lock' }) pr' hp
  rcases eff_lock he with ⟨rfl, -, k2, k3⟩ | ⟨-, rfl, hh⟩ | ⟨rfl, -, -⟩
  · refine (h q hq).imp_right fun ⟨prq, hprq, hpc⟩ => ?_
    by_cases hqp : q = p
    · subst hqp
      cases hp.symm.trans hprq
      exact ⟨pr', hself, hpc.elim k2 (absurd · k3)⟩
    · exact ⟨prq, by rw [State.setProc, List.getElem?_set_ne (Ne.symm hqp)]; exact hprq, hpc⟩
  · cases hq; exact .inr ⟨pr', hself, .inl hh⟩
  · cases hq

/-- the pcs that can occur in a `Stuck` state -/
def Pc.stuckOk : Pc → Bool
  | .start | .needLock | .waiting _ | .dead => true
  | .done (.err .timeout) => true
  | _ => false

/-- The lock file exists, the library is not current, and nobody is in a pc from which the lock is dropped or the
library written or loaded. -/
structure Stuck (s : State) : Prop where
  locked : ∃ q, s.lock = some q
  stale : ¬ Fresh s.src s.lib
  pcs : ∀ (p : Nat) (pr : Proc), s.procs[p]? = some pr → pr.pc.stuckOk = true

theorem step_stuck {c : Cfg} (hv : c.variant = .orig) {s s' : State} {p : Nat} {a : Act}
    (hst : Stuck s) (h : step c s p a = some s') : Stuck s' := by
  obtain ⟨o, hlock⟩ := hst.locked
  obtain ⟨pr, hp, pr', lib', lock', he, rfl⟩ := step_eff h
  have hpc := hst.pcs p pr hp
  cases he with
  | checkFresh hf => exact absurd hf hst.stale
  | lockWon hl | pollGoneOrig hl | pollGoneRecheck hl => rw [hl] at hlock; cases hlock
  | pollSteal _ _ ho => rw [hv] at ho; cases ho
  | checkStale | lockHeld | pollAgain | pollTimeout | crash =>
    exact ⟨hst.locked, hst.stale, forall_setProc hp rfl fun q prq _ hq => hst.pcs q prq hq⟩
  | _ => exact Bool.noConfusion hpc

theorem sum_map_set {α : Type} (f : α → Nat) : ∀ (l : List α) (p : Nat) (x y : α), l[p]? = some x →
    ((l.set p y).map f).sum + f x = (l.map f).sum + f y
  | [], p, x, y, h => by simp at h
  | a :: l, 0, x, y, h => by
    cases h
    simp only [List.set_cons_zero, List.map_cons, List.sum_cons]; omega
  | a :: l, p + 1, x, y, h => by
    have := sum_map_set f l p x y h
    simp only [List.set_cons_succ, List.map_cons, List.sum_cons]; omega

theorem eff_rank {c : Cfg} (hv : c.variant = .orig) {s : State} {p : Nat} {a : Act} {pr pr' : Proc}
    {lib' : Option File} {lock' : Option Nat} (he : Eff c s p a pr pr' lib' lock') :
    rank c pr'.pc < rank c pr.pc := by
  cases he with
  | pollGoneRecheck _ ho | pollSteal _ _ ho => rw [hv] at ho; cases ho
  | pollAgain _ hk => simp only [rank]; omega
  | @crash pc _ hf => revert hf; cases pc <;> simp [rank, Pc.finished]
  | _ => simp [rank]

theorem step_decreases {c : Cfg} (hv : c.variant = .orig) {s s' : State} {p : Nat} {a : Act}
    (h : step c s p a = some s') : measure c s' < measure c s := by
  obtain ⟨pr, hp, pr', lib', lock', he, rfl⟩ := step_eff h
  have := sum_map_set (fun pr => rank c pr.pc) s.procs p pr pr' hp
  have := eff_rank hv he
  simp only [measure, State.setProc]
  omega

theorem run_descent {c : Cfg} {m : State → Nat}
    (hm : ∀ {s s' : State} {p : Nat} {a : Act}, step c s p a = some s' → m s' < m s) :
    ∀ (sched : List (Nat × Act)) (s t : State), run c s sched = some t → sched.length + m t ≤ m s
  | [], s, t, h => by cases h; simp
  | (p, a) :: rest, s, t, h => by
    simp only [run] at h
    split at h
    · cases h
    next s' hs' =>
      have h1 := hm hs'
      have h2 := run_descent hm rest s' t h
      simp only [List.length_cons]; omega

/-- A caller that has not finished always has its next protocol action enabled,
whatever state the others are in (waiting is polling, never blocking).  With
`bounded_termination`: every maximal execution ends, within the bound, with all callers finished. -/
theorem wait_free (c : Cfg) (s : State) (p : Nat) (pr : Proc) (hp : s.procs[p]? = some pr)
    (hf : pr.pc.finished = false) : ∃ a, a ∈ actsAt c pr.pc ∧ a ≠ Act.crash ∧ (step c s p a).isSome = true := by
  obtain ⟨pc, temp⟩ := pr
  cases pc with
  | done | dead => cases hf
  | start => exact ⟨.check, .head _, nofun, by simp only [step, hp]; rfl⟩
  | needLock => exact ⟨.tryLock, .head _, nofun, by simp only [step, hp]; split <;> rfl⟩
  | haveLock => exact ⟨.compileBegin, .head _, nofun, by simp only [step, hp]; rfl⟩
  | compiling => exact ⟨.compileFinish, by simp only [actsAt]; split <;> exact .head _, nofun, by simp only [step, hp]; rfl⟩
  | wroteTemp => exact ⟨.rename, .head _, nofun, by simp only [step, hp]; split <;> rfl⟩
  | renamed => exact ⟨.unlock, .head _, nofun, by simp only [step, hp]; rfl⟩
  | failed => exact ⟨.unlock, .head _, nofun, by simp only [step, hp]; rfl⟩
  | waiting k => exact ⟨.poll, .head _, nofun, by simp only [step, hp]; (repeat' split) <;> rfl⟩
  | loading => exact ⟨.load, .head _, nofun, by simp only [step, hp]; (repeat' split) <;> rfl⟩

end TsVerif.C19
