import TsVerif.Gen.Basic
import TsVerif.Common.Tree
/-!
# Algebra of the *generated* `point_*` / `length_*` definitions (lib/src/point.h, length.h)

These lemmas are about the definitions regenerated from /repo on every run: a change to the C
arithmetic that breaks the monoid / cancellation structure breaks these proofs.  `extent` is the
text model: the row/column extent of a byte string obtained by counting newlines.
-/
namespace TsVerif
open TsGen

/-- Row/column extent of a byte string: (number of newlines, bytes after the last newline). -/
def extent : List Nat → TSPoint
  | [] => { row := 0, column := 0 }
  | b :: bs =>
    let p := extent bs
    if b = 10 then
      { row := p.row + 1, column := p.column }
    else if p.row = 0 then { row := 0, column := p.column + 1 } else p

def lengthOf (bs : List Nat) : Length := { bytes := bs.length, extent := extent bs }

/-! ## Canonical forms

`pointAddSpec` is a fixed, hand-written form of the generated `point_add`.  The equality below is
proved with `grind`, which case-splits on whatever `if` structure the regenerated definition has,
so a semantics-preserving rewrite of point.h leaves it (and everything proved through it) intact,
while a semantic change breaks it. -/

def pointAddSpec (a b : TSPoint) : TSPoint :=
  if b.row = 0 then { row := a.row, column := a.column + b.column }
  else { row := a.row + b.row, column := b.column }

theorem point_add_eq_spec (a b : TSPoint) : point_add a b = pointAddSpec a b := by
  cases a; cases b
  grind [point_add, point__new, pointAddSpec]

theorem point_add_zero (a : TSPoint) : point_add a { row := 0, column := 0 } = a := by
  rw [point_add_eq_spec]; simp [pointAddSpec]

theorem point_zero_add (a : TSPoint) : point_add { row := 0, column := 0 } a = a := by
  rw [point_add_eq_spec]; cases a; grind [pointAddSpec]

theorem point_add_assoc (a b c : TSPoint) :
    point_add (point_add a b) c = point_add a (point_add b c) := by
  simp only [point_add_eq_spec]
  cases a; cases b; cases c
  grind [pointAddSpec]

theorem point_sub_add_cancel (a b : TSPoint) : point_sub (point_add a b) a = b := by
  simp only [point_add_eq_spec]
  cases a; cases b
  grind [pointAddSpec, point_sub, point__new]


theorem point_lte_refl (a : TSPoint) : point_lte a a = true := by simp [point_lte]

theorem point_lt_irrefl (a : TSPoint) : point_lt a a = false := by simp [point_lt]

theorem point_lte_add (a b : TSPoint) : point_lte a (point_add a b) = true := by
  rw [point_add_eq_spec]
  cases a; cases b
  simp only [point_lte, pointAddSpec]
  split <;> simp <;> omega

theorem point_lte_eq_not_lt (a b : TSPoint) : point_lte a b = !point_lt b a := by
  rw [Bool.eq_iff_iff]
  simp only [point_lt, point_lte, decide_eq_true_eq, Bool.not_eq_true', decide_eq_false_iff_not]
  omega

theorem point_gt_eq (a b : TSPoint) : point_gt a b = point_lt b a := by
  rw [Bool.eq_iff_iff]
  simp only [point_gt, point_lt, decide_eq_true_eq]
  omega

theorem point_lte_of_lt {a b : TSPoint} (h : point_lt a b = true) : point_lte a b = true := by
  simp only [point_lt, point_lte, decide_eq_true_eq] at *
  omega

theorem point_lte_trans {a b c : TSPoint} (h1 : point_lte a b = true) (h2 : point_lte b c = true) : point_lte a c = true := by
  simp only [point_lte, decide_eq_true_eq] at *
  omega

theorem point_lt_of_lt_of_lte {a b c : TSPoint} (h1 : point_lt a b = true) (h2 : point_lte b c = true) : point_lt a c = true := by
  simp only [point_lt, point_lte, decide_eq_true_eq] at *
  omega


theorem length_add_assoc (a b c : Length) :
    length_add (length_add a b) c = length_add a (length_add b c) := by
  simp [length_add, point_add_assoc, Nat.add_assoc]

theorem length_add_zero (a : Length) : length_add a length_zero = a := by
  simp [length_add, length_zero, point_add_zero]

theorem length_zero_add (a : Length) : length_add length_zero a = a := by
  simp [length_add, length_zero, point_zero_add]

theorem length_sub_add_cancel (a b : Length) : length_sub (length_add a b) a = b := by
  simp [length_sub, length_add, point_sub_add_cancel]


theorem length_add_bytes (a b : Length) : (length_add a b).bytes = a.bytes + b.bytes := by
  simp [length_add]

theorem length_sub_bytes (a b : Length) : (length_sub a b).bytes = a.bytes - b.bytes := by
  simp only [length_sub]
  split <;> omega

theorem length_zero_bytes : length_zero.bytes = 0 := by simp [length_zero]

theorem totalSize_bytes (t : Tree) : t.totalSize.bytes = t.totalBytes := length_add_bytes _ _

theorem length_saturating_sub_bytes (a b : Length) :
    (length_saturating_sub a b).bytes = a.bytes - b.bytes := by
  unfold length_saturating_sub
  split
  · exact length_sub_bytes a b
  · rw [length_zero_bytes]; omega

theorem length_min_bytes (a b : Length) : (length_min a b).bytes = min a.bytes b.bytes := by
  unfold length_min
  split <;> omega


theorem extent_append (x y : List Nat) : extent (x ++ y) = point_add (extent x) (extent y) := by
  simp only [point_add_eq_spec]
  induction x with
  | nil =>
    simp only [List.nil_append, extent]
    generalize extent y = p
    cases p; grind [pointAddSpec]
  | cons b bs ih =>
    simp only [List.cons_append, extent, ih]
    generalize extent y = p
    generalize extent bs = q
    cases p; cases q
    grind [pointAddSpec]

theorem lengthOf_append (x y : List Nat) : lengthOf (x ++ y) = length_add (lengthOf x) (lengthOf y) := by
  simp [lengthOf, length_add, extent_append]

theorem lengthOf_sub_prefix (x y : List Nat) : length_sub (lengthOf (x ++ y)) (lengthOf x) = lengthOf y := by
  rw [lengthOf_append, length_sub_add_cancel]

end TsVerif
