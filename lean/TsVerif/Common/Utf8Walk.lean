/-!
One round of `core::str::from_utf8` behind the lead byte: the bytes that follow are checked one by one against a list of
tests the lead byte fixes (the rows of Unicode Table 3-7).  Both ports of the round (C17 `utf8Step`, C18 `stepAt`) are this walk
up to the names of their results, so what they need of a round is proved here, by induction over the list of tests.
-/
namespace TsVerif.Utf8Walk

inductive Res where
  /-- all tests passed: a character of `n` bytes, lead byte included -/
  | char (n : Nat)
  /-- the byte `k` places behind the lead byte failed its test (`error_len = k + 1`) -/
  | invalid (k : Nat)
  /-- the input ended first -/
  | incomplete

/-- Run the tests along `rest`; `i` bytes behind the lead byte are accepted already. -/
def walk : List (Nat → Bool) → List Nat → Nat → Res
  | [], _, i => .char (i + 1)
  | _ :: _, [], _ => .incomplete
  | p :: ps, b :: r, i => if p b then walk ps r (i + 1) else .invalid i

theorem walk_char {ps : List (Nat → Bool)} {rest : List Nat} {i n : Nat} (h : walk ps rest i = .char n) :
    n = i + ps.length + 1 ∧ ps.length ≤ rest.length ∧ ∀ z, walk ps (rest.take ps.length ++ z) i = .char n := by
  fun_induction walk ps rest i with
  | case1 => cases h; exact ⟨rfl, Nat.zero_le _, fun z => by rw [walk]⟩
  | case2 => cases h
  | case3 p ps b r i hp ih =>
    obtain ⟨h1, h2, h3⟩ := ih h
    refine ⟨by rw [List.length_cons]; omega, Nat.succ_le_succ h2, fun z => ?_⟩
    rw [List.length_cons, List.take_succ_cons, List.cons_append, walk, if_pos hp]
    exact h3 z
  | case4 => cases h

theorem walk_invalid {ps : List (Nat → Bool)} {rest : List Nat} {i k : Nat} (h : walk ps rest i = .invalid k) :
    i ≤ k ∧ k < i + rest.length := by
  fun_induction walk ps rest i with
  | case1 => cases h
  | case2 => cases h
  | case3 p ps b r i hp ih => have := ih h; rw [List.length_cons]; omega
  | case4 => cases h; rw [List.length_cons]; omega

/-- Unless the input ended inside the sequence, what follows it does not matter. -/
theorem walk_append {ps : List (Nat → Bool)} {rest : List Nat} {i : Nat} (z : List Nat)
    (h : walk ps rest i ≠ .incomplete) : walk ps (rest ++ z) i = walk ps rest i := by
  fun_induction walk ps rest i with
  | case1 => rfl
  | case2 => exact absurd rfl h
  | case3 p ps b r i hp ih => rw [List.cons_append, walk, if_pos hp]; exact ih h
  | case4 p ps b r i hp => rw [List.cons_append, walk, if_neg hp]

theorem walk_incomplete_cons {ps : List (Nat → Bool)} {rest : List Nat} {i c : Nat} (z : List Nat)
    (hc : ∀ p ∈ ps, ¬ p c = true) (h : walk ps rest i = .incomplete) : ∃ k, walk ps (rest ++ c :: z) i = .invalid k := by
  fun_induction walk ps rest i with
  | case1 => cases h
  | case2 p ps i => exact ⟨i, by rw [List.nil_append, walk, if_neg (hc p List.mem_cons_self)]⟩
  | case3 p ps b r i hp ih =>
    rw [List.cons_append, walk, if_pos hp]
    exact ih (fun q hq => hc q (List.mem_cons_of_mem _ hq)) h
  | case4 => cases h

end TsVerif.Utf8Walk
