import TsVerif.C06.RawGeom
/-!
# C06 — what the range searches share

`ts_node_(named_)descendant_for_{byte,point}_range` and `FT.descendantFor{Bytes,Points}` all perform the same descent:
from the current node enter the child a test names, remember it if it counts for the flag, stop when no child is named.
The plain raw searches `dfrIdealA` / `dfrIdealP` / `dfrIdealE`, the searches over the visible children `vgo*` and the `FT`
searches are each shown to be a `descend` (`…_eq_descend`, in the range files); they differ in the step.  The ports are equal
to the plain raw searches (`NavVariants.lean`, `EmptyRange.lean`, `EmptyPointRange.lean`); `dfrIdealEP` is used as written.
What the module proves of `descend`: a raw search and the search over the visible children end on the same node when one
level of them agrees at every node (`vis_eq_raw`), and one level agrees on a `Sized` tree when the tests are decided by the
order of positions (`Monotone`, `raw_vis`).

Letters in the names of the range files: `A` either flag, `P` row/column order, `B` bytes, `E` empty range; `vgo…` the search
over the Visible children written out on `TSNode`s, `ftgo…` the loop `FT.descendantFor….go`; `dfrL…` / `dfrR…` one level of the
raw search on a list of raw children / of the visible search on a list of `TSNode`s; `dfrH…` / `dfrHL…` the two agree at a node
/ along the children of a node (`H`: through hidden levels).
-/
namespace TsVerif.C06
open TsGen TsVerif TsVerif.C02

theorem find_congr_mem {α : Type} (p q : α → Bool) : ∀ (l : List α), (∀ x ∈ l, p x = q x) → l.find? p = l.find? q
  | [], _ => rfl
  | a :: l, h => by
    simp only [List.find?_cons, h a (by simp)]
    split
    · rfl
    · exact find_congr_mem p q l (fun x hx => h x (by simp [hx]))

def descend {α : Type} (keep : α → Bool) (next : α → Option α) : Nat → α → α → α
  | 0, _, last => last
  | f + 1, a, last =>
    match next a with
    | none => last
    | some c => descend keep next f c (if keep c then c else last)

theorem descend_none {α : Type} {keep : α → Bool} {next : α → Option α} {a last : α} (h : next a = none) :
    ∀ f, descend keep next f a last = last
  | 0 => rfl
  | f + 1 => by simp only [descend, h]

theorem descend_some {α : Type} {keep : α → Bool} {next : α → Option α} {a c : α} (h : next a = some c) (f : Nat) (last : α) :
    descend keep next (f + 1) a last = descend keep next f c (if keep c then c else last) := by
  simp only [descend, h]

theorem descend_fuel {α : Type} (keep : α → Bool) (next : α → Option α) (μ : α → Nat) (Inv : α → Prop)
    (h : ∀ a c, Inv a → next a = some c → Inv c ∧ μ c < μ a) :
    ∀ (n : Nat) (a : α), Inv a → μ a ≤ n → ∀ (f1 f2 : Nat) (last : α), μ a ≤ f1 → μ a ≤ f2 →
      descend keep next f1 a last = descend keep next f2 a last
  | 0, a, ha, hn, _, _, last, _, _ => by
    cases hc : next a with
    | none => rw [descend_none hc, descend_none hc]
    | some c => have := (h a c ha hc).2; omega
  | n + 1, a, ha, hn, f1, f2, last, h1, h2 => by
    cases hc : next a with
    | none => rw [descend_none hc, descend_none hc]
    | some c =>
      obtain ⟨hic, hlt⟩ := h a c ha hc
      obtain ⟨f1', rfl⟩ : ∃ x, f1 = x + 1 := ⟨f1 - 1, by omega⟩
      obtain ⟨f2', rfl⟩ : ∃ x, f2 = x + 1 := ⟨f2 - 1, by omega⟩
      rw [descend_some hc f1' last, descend_some hc f2' last]
      exact descend_fuel keep next μ Inv h n c hic (by omega) f1' f2' _ (by omega) (by omega)

theorem descend_map {α β : Type} (g : α → β) (k₁ : α → Bool) (n₁ : α → Option α) (k₂ : β → Bool) (n₂ : β → Option β)
    (Inv : α → Prop) (hstep : ∀ a, Inv a → (n₁ a).map g = n₂ (g a))
    (hinv : ∀ a c, Inv a → n₁ a = some c → Inv c ∧ k₁ c = k₂ (g c)) :
    ∀ (f : Nat) (a last : α), Inv a → g (descend k₁ n₁ f a last) = descend k₂ n₂ f (g a) (g last)
  | 0, _, _, _ => rfl
  | f + 1, a, last, ha => by
    have hs := hstep a ha
    cases hn : n₁ a with
    | none =>
      rw [hn] at hs
      rw [descend_none hn, descend_none hs.symm]
    | some c =>
      rw [hn] at hs
      obtain ⟨hic, hk⟩ := hinv a c ha hn
      rw [descend_some hn f last, descend_some hs.symm f (g last),
        descend_map g k₁ n₁ k₂ n₂ Inv hstep hinv f c _ hic, hk]
      split <;> rfl

/-- The step all searches use: the first element a test selects, unless it stops the search. -/
def pickIn {α : Type} (sel stop : α → Bool) (l : List α) : Option α :=
  (l.find? sel).bind fun c => if stop c then none else some c

theorem pickIn_mem {α : Type} {sel stop : α → Bool} {l : List α} {c : α} (h : pickIn sel stop l = some c) :
    l.find? sel = some c ∧ stop c = false := by
  obtain ⟨r, hf, hr⟩ := Option.bind_eq_some_iff.mp h
  split at hr
  · cases hr
  · cases hr
    exact ⟨hf, Bool.eq_false_iff.mpr ‹_›⟩

theorem pickIn_stop_of_none {α : Type} {sel stop : α → Bool} {l : List α} {c : α} (h : pickIn sel stop l = none)
    (hf : l.find? sel = some c) : stop c = true := by
  unfold pickIn at h
  rw [hf, Option.bind_some] at h
  split at h
  · assumption
  · cases h

theorem pickIn_map {α β : Type} (g : α → β) (p s : α → Bool) (q t : β → Bool) (A : List α)
    (hp : ∀ j ∈ A, p j = q (g j)) (hs : ∀ j ∈ A, s j = t (g j)) : (pickIn p s A).map g = pickIn q t (A.map g) := by
  unfold pickIn
  rw [List.find?_map, ← find_congr_mem p (q ∘ g) A hp]
  cases hf : A.find? p with
  | none => rfl
  | some c =>
    simp only [Option.bind_some, Option.map_some, hs c (List.mem_of_find?_eq_some hf)]
    split <;> rfl

theorem pickIn_cons {α : Type} (sel stop : α → Bool) (a : α) (l : List α) :
    pickIn sel stop (a :: l) = if sel a then (if stop a then none else some a) else pickIn sel stop l := by
  unfold pickIn
  rw [List.find?_cons]
  cases sel a <;> rfl

theorem pickIn_append_none {α : Type} {sel stop : α → Bool} {a b : List α} (h : a.find? sel = none) :
    pickIn sel stop (a ++ b) = pickIn sel stop b := by
  unfold pickIn
  rw [List.find?_append, h, Option.none_or]

theorem pickIn_append_some {α : Type} {sel stop : α → Bool} {a b : List α} {c : α} (h : a.find? sel = some c) :
    pickIn sel stop (a ++ b) = pickIn sel stop a := by
  unfold pickIn
  rw [List.find?_append, h, Option.some_or]

theorem pickIn_none_of_stop {α : Type} {sel stop : α → Bool} {l : List α} (h : ∀ c ∈ l, stop c = true) :
    pickIn sel stop l = none := by
  unfold pickIn
  cases hf : l.find? sel with
  | none => rfl
  | some c => simp only [Option.bind_some, h c (List.mem_of_find?_eq_some hf), if_true]

theorem descend_pick_succ {α : Type} (keep sel stop : α → Bool) (kidsOf : α → List α) (f : Nat) (a last : α) :
    descend keep (fun a => pickIn sel stop (kidsOf a)) (f + 1) a last =
      match (kidsOf a).find? sel with
      | none => last
      | some c => if stop c then last else descend keep (fun a => pickIn sel stop (kidsOf a)) f c (if keep c then c else last) := by
  simp only [descend, pickIn]
  cases (kidsOf a).find? sel with
  | none => rfl
  | some c =>
    simp only [Option.bind_some]
    cases stop c <;> rfl

/-- One level of a raw search on an explicit list of raw children. -/
def scanRaw (g : Nat → NodeRef → NodeRef → NodeRef) (kr : NodeRef → NodeRef → NodeRef) (rsel : RawChild → Bool)
    (rstop : NodeRef → Bool) (f : Nat) (last : NodeRef) (raws : List RawChild) : NodeRef :=
  match pickIn rsel (fun rc => rstop rc.node) raws with
  | none => last
  | some rc => g f rc.node (kr rc.node last)

/-- One level of a visible search on an explicit list of nodes; the node entered gets fuel for its whole raw subtree. -/
def scanVis (g : Nat → NodeRef → NodeRef → NodeRef) (kv : NodeRef → NodeRef → NodeRef) (vsel stop : NodeRef → Bool)
    (last : NodeRef) (refs : List NodeRef) : NodeRef :=
  match pickIn vsel stop refs with
  | none => last
  | some r => g r.t.size r (kv r last)

theorem scanRaw_eq (g : Nat → NodeRef → NodeRef → NodeRef) (kr : NodeRef → NodeRef → NodeRef) (rsel : RawChild → Bool)
    (rstop : NodeRef → Bool) (f : Nat) (last : NodeRef) (raws : List RawChild) :
    scanRaw g kr rsel rstop f last raws =
      match raws.find? rsel with
      | none => last
      | some rc => if rstop rc.node then last else g f rc.node (kr rc.node last) := by
  unfold scanRaw pickIn
  cases raws.find? rsel with
  | none => rfl
  | some rc =>
    by_cases h : rstop rc.node = true
    · simp only [Option.bind_some, h, if_true]
    · simp only [Option.bind_some, h, Bool.false_eq_true, if_false]

theorem scanVis_eq (g : Nat → NodeRef → NodeRef → NodeRef) (kv : NodeRef → NodeRef → NodeRef) (vsel stop : NodeRef → Bool)
    (last : NodeRef) (refs : List NodeRef) :
    scanVis g kv vsel stop last refs =
      match refs.find? vsel with
      | none => last
      | some r => if stop r then last else g r.t.size r (kv r last) := by
  unfold scanVis pickIn
  cases refs.find? vsel with
  | none => rfl
  | some r =>
    simp only [Option.bind_some]
    cases stop r <;> rfl

theorem scanVis_congr (g : Nat → NodeRef → NodeRef → NodeRef) (kv kv' : NodeRef → NodeRef → NodeRef) (vsel stop : NodeRef → Bool)
    (last : NodeRef) (refs : List NodeRef) (h : ∀ r ∈ refs, kv r last = kv' r last) :
    scanVis g kv vsel stop last refs = scanVis g kv' vsel stop last refs := by
  unfold scanVis
  cases hp : pickIn vsel stop refs with
  | none => rfl
  | some r => simp only [h r (List.mem_of_find?_eq_some (pickIn_mem hp).1)]

/-- One raw child `rc` against the visible nodes `cpart` it contributes (`vis`: itself, else those of its
subtree), `raws` / `refs` the later raw children and what they contribute.  The tests are variables; what the order of
the nodes (or a hypothesis on the tree) has to supply: a child the raw search enters is one the visible search would
enter (`hEnter`); where the raw search stops everything visible from here on stops too (`hStop`, `hMono`); a child the raw
search passes over contributes nothing selected, or ends both searches (`hPass`); and after a hidden child that is entered
and offers nothing selected, nothing later is entered (`hLater`). -/
theorem scan_step (g : Nat → NodeRef → NodeRef → NodeRef) (kr kv : NodeRef → NodeRef → NodeRef) (rsel : RawChild → Bool)
    (rstop vsel stop : NodeRef → Bool) (f : Nat) (last : NodeRef) (rc : RawChild) (raws : List RawChild)
    (cpart refs : List NodeRef) (vis : Bool)
    (hX : if vis then cpart = [rc.node] ∧ kr rc.node last = kv rc.node last ∧
              g f rc.node (kv rc.node last) = g rc.node.t.size rc.node (kv rc.node last)
          else kr rc.node last = last ∧
            (rsel rc = true → rstop rc.node = false → g f rc.node last = scanVis g kv vsel stop last cpart))
    (hEnter : rsel rc = true → rstop rc.node = false → vsel rc.node = true ∧ stop rc.node = false)
    (hStop : rsel rc = true → rstop rc.node = true → stop rc.node = true)
    (hMono : stop rc.node = true → ∀ r ∈ cpart ++ refs, stop r = true)
    (hPass : rsel rc = false → (∀ r ∈ cpart, vsel r = false) ∨
      (stop rc.node = true ∧ scanRaw g kr rsel rstop f last raws = last))
    (hLater : vis = false → rsel rc = true → rstop rc.node = false → cpart.find? vsel = none → pickIn vsel stop refs = none)
    (hIH : rsel rc = false → scanRaw g kr rsel rstop f last raws = scanVis g kv vsel stop last refs) :
    scanRaw g kr rsel rstop f last (rc :: raws) = scanVis g kv vsel stop last (cpart ++ refs) := by
  have hstopped : stop rc.node = true → scanVis g kv vsel stop last (cpart ++ refs) = last := fun h => by
    simp only [scanVis, pickIn_none_of_stop (hMono h)]
  unfold scanRaw
  rw [pickIn_cons]
  cases hs : rsel rc with
  | false =>
    simp only [Bool.false_eq_true, if_false]
    rcases hPass hs with hnone | ⟨hst, hl⟩
    · have := hIH hs
      unfold scanRaw at this
      rw [this]
      unfold scanVis
      rw [pickIn_append_none (List.find?_eq_none.mpr (fun r hr => by simp [hnone r hr]))]
    · unfold scanRaw at hl
      rw [hl, hstopped hst]
  | true =>
    simp only [if_true]
    cases ht : rstop rc.node with
    | true => simp only [if_true]; exact (hstopped (hStop hs ht)).symm
    | false =>
      simp only [Bool.false_eq_true, if_false]
      obtain ⟨hv, hns⟩ := hEnter hs ht
      cases vis with
      | true =>
        simp only [if_true] at hX
        obtain ⟨hc, hk, hg⟩ := hX
        subst hc
        simp only [scanVis, List.cons_append, List.nil_append, pickIn_cons, hv, hns, if_true, Bool.false_eq_true, if_false]
        rw [hk, hg]
      | false =>
        simp only [Bool.false_eq_true, if_false] at hX
        rw [hX.1, hX.2 hs ht]
        unfold scanVis
        cases hf : cpart.find? vsel with
        | some r => rw [pickIn_append_some hf]
        | none =>
          rw [pickIn_append_none hf, hLater rfl hs ht hf]
          simp only [pickIn, hf, Option.bind_none]

/-- `scan_step` for a raw search that never stops (`rstop = false`) and tests given by order. -/
theorem mono_step (g : Nat → NodeRef → NodeRef → NodeRef) (kr kv : NodeRef → NodeRef → NodeRef) (rsel : RawChild → Bool)
    (vsel stop : NodeRef → Bool) (f : Nat) (last : NodeRef) (rc : RawChild) (raws : List RawChild) (cpart refs : List NodeRef)
    (vis : Bool)
    (hX : if vis then cpart = [rc.node] ∧ kr rc.node last = kv rc.node last ∧
              g f rc.node (kv rc.node last) = g rc.node.t.size rc.node (kv rc.node last)
          else kr rc.node last = last ∧ g f rc.node last = scanVis g kv vsel stop last cpart)
    (hIH : scanRaw g kr rsel (fun _ => false) f last raws = scanVis g kv vsel stop last refs)
    (hsel : rsel rc = (vsel rc.node && !stop rc.node))
    (hin : ∀ r ∈ cpart, (stop rc.node = true → stop r = true) ∧ (vsel r = true → vsel rc.node = true))
    (haftV : stop rc.node = true ∨ vsel rc.node = true → ∀ r ∈ refs, stop r = true)
    (haftR : stop rc.node = true ∨ vsel rc.node = true → ∀ x ∈ raws, rsel x = false) :
    scanRaw g kr rsel (fun _ => false) f last (rc :: raws) = scanVis g kv vsel stop last (cpart ++ refs) := by
  refine scan_step g kr kv rsel _ vsel stop f last rc raws cpart refs vis ?_ ?_ (fun _ h => by simp at h) ?_ ?_ ?_ (fun _ => hIH)
  · cases vis with
    | true => exact hX
    | false => exact ⟨hX.1, fun _ _ => hX.2⟩
  · intro h _
    rw [hsel] at h
    simpa using h
  · intro h r hr
    rcases List.mem_append.mp hr with hr | hr
    · exact (hin r hr).1 h
    · exact haftV (Or.inl h) r hr
  · intro h
    rw [hsel] at h
    cases hv : vsel rc.node with
    | false =>
      refine Or.inl fun r hr => ?_
      cases hvr : vsel r with
      | false => rfl
      | true => rw [(hin r hr).2 hvr] at hv; exact absurd hv (by simp)
    | true =>
      have hst : stop rc.node = true := by simpa [hv] using h
      have hnone : raws.find? rsel = none :=
        List.find?_eq_none.mpr (fun x hx => by rw [haftR (Or.inl hst) x hx]; exact Bool.false_ne_true)
      exact Or.inr ⟨hst, by simp only [scanRaw, pickIn, hnone, Option.bind_none]⟩
  · intro _ h _ _
    rw [hsel, Bool.and_eq_true] at h
    exact pickIn_none_of_stop (haftV (Or.inr h.1))

def rnext (lang : Lang) (rsel : RawChild → Bool) (rstop : NodeRef → Bool) (n : NodeRef) : Option NodeRef :=
  (pickIn rsel (fun rc => rstop rc.node) (rawChildren lang n)).map (·.node)

/-- The step of a search over the visible children (`enumRefs`: hidden children replaced by theirs). -/
def vnext (lang : Lang) (vsel stop : NodeRef → Bool) (n : NodeRef) : Option NodeRef :=
  pickIn vsel stop (enumRefs lang n.t n.start)

def keepIf (keep : NodeRef → Bool) (c last : NodeRef) : NodeRef := if keep c then c else last

theorem descend_rnext_succ (lang : Lang) (keep : NodeRef → Bool) (rsel : RawChild → Bool) (rstop : NodeRef → Bool) (f : Nat)
    (n last : NodeRef) :
    descend keep (rnext lang rsel rstop) (f + 1) n last =
      scanRaw (descend keep (rnext lang rsel rstop)) (keepIf keep) rsel rstop f last (rawChildren lang n) := by
  simp only [descend, rnext, scanRaw, keepIf]
  cases pickIn rsel (fun rc => rstop rc.node) (rawChildren lang n) <;> rfl

theorem raw_fuel (lang : Lang) (keep : NodeRef → Bool) (rsel : RawChild → Bool) (rstop : NodeRef → Bool) (n : NodeRef)
    (f1 f2 : Nat) (last : NodeRef) (h1 : n.t.size ≤ f1) (h2 : n.t.size ≤ f2) :
    descend keep (rnext lang rsel rstop) f1 n last = descend keep (rnext lang rsel rstop) f2 n last :=
  descend_fuel keep _ (fun n => n.t.size) (fun _ => True) (fun a c _ hc => by
      obtain ⟨rc, hp, rfl⟩ := Option.map_eq_some_iff.mp hc
      exact ⟨trivial, raw_child_size lang a rc (List.mem_of_find?_eq_some (pickIn_mem hp).1)⟩)
    n.t.size n trivial (Nat.le_refl _) f1 f2 last h1 h2

/-- What `raw_vis` needs of the tests `vsel` ("reaches the end of the range") and `stop` ("starts after its start") and of
the raw test `rsel`, as facts about the order of positions only. -/
structure Monotone (rsel : RawChild → Bool) (vsel stop : NodeRef → Bool) : Prop where
  sel : ∀ rc : RawChild, rc.posAfter = rc.node.endLen → rsel rc = (vsel rc.node && !stop rc.node)
  inside : ∀ n r : NodeRef, lle n.start r.start → lle r.endLen n.endLen →
    (stop n = true → stop r = true) ∧ (vsel r = true → vsel n = true)
  after : ∀ n r : NodeRef, lle n.endLen r.start → stop n = true ∨ vsel n = true → stop r = true

section
variable {lang : Lang} {keep : NodeRef → Bool} {rsel : RawChild → Bool} {vsel stop : NodeRef → Bool}

/-- One level of `raw_vis` on a laid-out list of raw children.  `hT` is `raw_vis` itself at the fuel `f` (the induction hypothesis of
`raw_vis`): it is used for a hidden child that is entered, whose own children are scanned with that fuel. -/
theorem raw_visL (hk : ∀ n : NodeRef, n.relevant lang true = false → keep n = false) (hm : Monotone rsel vsel stop) (f : Nat)
    (last : NodeRef)
    (hT : ∀ n : NodeRef, n.t.size ≤ f → Sized n.t → descend keep (rnext lang rsel fun _ => false) f n last =
      scanVis (descend keep (rnext lang rsel fun _ => false)) (keepIf keep) vsel stop last (enumRefs lang n.t n.start)) :
    ∀ raws : List RawChild, Laid raws → (∀ rc ∈ raws, rc.node.t.size ≤ f) →
      scanRaw (descend keep (rnext lang rsel fun _ => false)) (keepIf keep) rsel (fun _ => false) f last raws =
        scanVis (descend keep (rnext lang rsel fun _ => false)) (keepIf keep) vsel stop last
          (raws.flatMap fun rc => contribR lang rc.node)
  | [], _, _ => rfl
  | rc :: raws, hl, hf => by
    obtain ⟨hp, hall⟩ := hl
    rw [List.pairwise_cons] at hp
    obtain ⟨hsz, hpa⟩ := hall rc List.mem_cons_self
    have hlater : stop rc.node = true ∨ vsel rc.node = true → ∀ x ∈ raws, stop x.node = true :=
      fun h x hx => hm.after _ _ (hp.1 x hx) h
    rw [List.flatMap_cons]
    refine mono_step _ _ _ _ _ _ f last rc raws _ _ (rc.node.relevant lang true) ?_
      (raw_visL hk hm f last hT raws ⟨hp.2, fun x hx => hall x (List.mem_cons_of_mem _ hx)⟩ fun x hx => hf x (List.mem_cons_of_mem _ hx))
      (hm.sel rc hpa) (fun r hr => hm.inside _ _ (contribR_inside lang rc.node hsz r hr).1 (contribR_inside lang rc.node hsz r hr).2)
      (fun h r hr => ?_) (fun h x hx => by
        rw [hm.sel x (hall x (List.mem_cons_of_mem _ hx)).2, hlater h x hx, Bool.not_true, Bool.and_false])
    · unfold contribR
      cases hrel : rc.node.relevant lang true with
      | true =>
        simp only [if_true, true_and]
        exact raw_fuel lang keep rsel _ rc.node f rc.node.t.size _ (hf rc List.mem_cons_self) (Nat.le_refl _)
      | false =>
        simp only [Bool.false_eq_true, if_false, keepIf, hk rc.node hrel, true_and]
        exact hT rc.node (hf rc List.mem_cons_self) hsz
    · obtain ⟨x, hx, hr⟩ := List.mem_flatMap.mp hr
      have hin := contribR_inside lang x.node (hall x (List.mem_cons_of_mem _ hx)).1 r hr
      exact (hm.inside _ _ hin.1 hin.2).1 (hlater h x hx)

/-- On a `Sized` raw subtree a raw search with monotone tests (through any number of hidden levels) does
what the visible search does: take the first VISIBLE child that is selected; if it stops the search stop, else
continue in it.  `keep` rejects hidden nodes. -/
theorem raw_vis (hk : ∀ n : NodeRef, n.relevant lang true = false → keep n = false) (hm : Monotone rsel vsel stop) :
    ∀ (f : Nat) (n last : NodeRef), n.t.size ≤ f → Sized n.t →
      descend keep (rnext lang rsel fun _ => false) f n last =
        scanVis (descend keep (rnext lang rsel fun _ => false)) (keepIf keep) vsel stop last (enumRefs lang n.t n.start)
  | 0, n, _, hf, _ => by have := tree_size_pos n.t; omega
  | f + 1, n, last, hf, hs => by
    rw [descend_rnext_succ, enumRefs_flatMap]
    exact raw_visL hk hm f last (fun m hm' hs' => raw_vis hk hm f m last hm' hs') _ (raw_laid lang n hs)
      (fun rc hrc => by have := raw_child_size lang n rc hrc; omega)

theorem raw_vis_kids (hk : ∀ n : NodeRef, n.relevant lang true = false → keep n = false) (hm : Monotone rsel vsel stop)
    (kids : List Tree) (n : NodeRef) (pid nk : Nat) (pos : Length) (si k : Nat) (last : NodeRef) (f : Nat)
    (hf : Tree.sizeList kids ≤ f) (hs : SizedL kids) :
    scanRaw (descend keep (rnext lang rsel fun _ => false)) (keepIf keep) rsel (fun _ => false) f last
        (rawChildren.go lang n pid nk kids pos si k) =
      scanVis (descend keep (rnext lang rsel fun _ => false)) (keepIf keep) vsel stop last
        (enumRefsKids lang pid n.t.data.addr nk kids pos si k) := by
  rw [enumRefsKids_flatMap]
  exact raw_visL hk hm f last (fun m hm' hs' => raw_vis hk hm f m last hm' hs') _ (go_laid lang n pid nk kids pos si k hs)
    (fun rc hrc => Nat.le_trans (sizeList_mem _ _ (go_mem_kid lang n pid nk kids pos si k rc hrc)) hf)
end

/-- The search over the visible children is the raw search (fuel covering the raw subtree, `Sized` tree), given an invariant
that the visible search preserves and at whose nodes one level of the two searches agrees (`raw_vis`; `dfrHE` under `emptyOK`). -/
theorem vis_eq_raw (lang : Lang) (keep : NodeRef → Bool) (rsel : RawChild → Bool) (rstop vsel stop : NodeRef → Bool)
    (Inv : NodeRef → Prop)
    (hnode : ∀ (n last : NodeRef) (f : Nat), Inv n → n.t.size ≤ f → Sized n.t →
      descend keep (rnext lang rsel rstop) f n last =
        scanVis (descend keep (rnext lang rsel rstop)) (keepIf keep) vsel stop last (enumRefs lang n.t n.start))
    (hinv : ∀ n r : NodeRef, Inv n → Sized n.t → vnext lang vsel stop n = some r → Inv r) :
    ∀ (F : Nat) (self last : NodeRef), Inv self → self.t.size ≤ F → Sized self.t →
      descend keep (vnext lang vsel stop) F self last = descend keep (rnext lang rsel rstop) F self last
  | 0, self, _, _, hF, _ => by have := tree_size_pos self.t; omega
  | F' + 1, self, last, hi, hF, hs => by
    rw [hnode self last (F' + 1) hi hF hs]
    unfold scanVis
    cases hp : pickIn vsel stop (enumRefs lang self.t self.start) with
    | none => exact descend_none hp _
    | some r =>
      have hp' : vnext lang vsel stop self = some r := hp
      have hr := enumRefs_props lang self.t self.start hs r (List.mem_of_find?_eq_some (pickIn_mem hp).1)
      rw [descend_some hp' F' last,
        vis_eq_raw lang keep rsel rstop vsel stop Inv hnode hinv F' r _ (hinv self r hi hs hp') (by omega) hr.2.2]
      exact raw_fuel lang keep rsel rstop r F' r.t.size _ (by omega) (Nat.le_refl _)

theorem vis_eq_raw_mono {lang : Lang} {keep : NodeRef → Bool} {rsel : RawChild → Bool} {vsel stop : NodeRef → Bool}
    (hk : ∀ n : NodeRef, n.relevant lang true = false → keep n = false) (hm : Monotone rsel vsel stop) {self : NodeRef}
    (last : NodeRef) {F : Nat} (hF : self.t.size ≤ F) (hs : Sized self.t) :
    descend keep (vnext lang vsel stop) F self last = descend keep (rnext lang rsel fun _ => false) F self last :=
  vis_eq_raw lang _ _ _ _ _ (fun _ => True)
    (fun n last f _ hf hs => raw_vis hk hm f n last hf hs)
    (fun _ _ _ _ _ => trivial) F self last trivial hF hs

end TsVerif.C06
