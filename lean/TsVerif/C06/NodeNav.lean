import TsVerif.C06.NodePort
import TsVerif.C06.Cursor
/-!
# C06 — ports of the position-based searches of node.c

`ts_node_child_with_descendant`, `ts_node_parent`, `ts_node__next_sibling`,
`ts_node__prev_sibling` (+ `ts_subtree_has_trailing_empty_descendant`).  A `TSNode` is a
`NodeRef` (subtree, alias, slot id, start position).  `rawChildren` is the sequence of results of
`ts_node_child_iterator_next` together with `iterator.position` after each step; the C `while`
loops over the iterator become recursions over that list, the outer "descend" loops take fuel
(bounded by the number of raw nodes).  The ports of the two field functions, `ts_node_field_name_for_child` and
`ts_node_child_by_field_id`, are in `NodeFields.lean`; what their theorems are stated with (`fieldFromLanguage`, `enumF`,
`hiddenExtraOK`, `hasF`, `cbfSpec`, `fieldEntries`, `entryAt`, `cbfOK`, …) is here.
-/
namespace TsVerif.C06
open TsGen TsVerif TsVerif.C02

structure RawChild where
  node : NodeRef
  /-- `iterator.position` after the step = end of the child -/
  posAfter : Length
  /-- structural index of the child (for an extra child: of the next structural child) -/
  si : Nat := 0
  /-- raw index of the child -/
  k : Nat := 0
  deriving Inhabited

def NodeRef.endByte (n : NodeRef) : Nat := n.start.bytes + n.t.data.size.bytes
def NodeRef.startByte (n : NodeRef) : Nat := n.start.bytes
/-- `ts_node_child_count` -/
def NodeRef.childCount (n : NodeRef) : Nat := if n.t.kids.length > 0 then n.t.data.visibleChildCount else 0
def NodeRef.relevant (lang : Lang) (n : NodeRef) (anon : Bool) : Bool := isRelevant lang n.t n.alias anon
def NodeRef.relChildCount (n : NodeRef) (anon : Bool) : Nat := TsVerif.C06.relevantChildCount n.t anon

/-- All steps of `ts_node_child_iterator_next` over the children of `n`. -/
def rawChildren (lang : Lang) (n : NodeRef) : List RawChild :=
  let pid := n.t.data.productionId
  let kids := n.t.kids
  let nk := kids.length
  let rec go : List Tree → Length → Nat → Nat → List RawChild
    | [], _, _, _ => []
    | c :: rest, pos, si, k =>
      let al := if c.data.extra then 0 else lang.aliasAt pid si
      let si' := if c.data.extra then si else si + 1
      let cstart := if k > 0 then length_add pos c.data.padding else pos
      let pos' := length_add cstart c.data.size
      { node := { t := c, alias := al, id := slotId n.t.data.addr nk k, start := cstart }, posAfter := pos', si := si, k := k } ::
        go rest pos' si' (k + 1)
  go kids n.start 0 0

/-- `ts_node_child_with_descendant(self, descendant)`; the descendant is given by its id and byte
range. -/
def childWithDescendant (lang : Lang) (fuel : Nat) (self : NodeRef) (dId dStart dEnd : Nat) : Option NodeRef :=
  match fuel with
  | 0 => none
  | fuel + 1 =>
    let isEmpty := dStart == dEnd
    -- the inner do-while over the children of `self`
    let rec inner : List RawChild → Option (Option NodeRef × Option NodeRef)
        -- result: (returned value, node to continue the outer loop with)
      | [] => some (none, none)          -- iterator exhausted: return null
      | rc :: rest =>
        let s := rc.node
        if s.startByte > dStart then some (none, none)
        else if s.id == dId then some (some s, none)
        else
          let viaEmpty :=
            if isEmpty && rc.posAfter.bytes ≥ dEnd && s.childCount > 0 then
              match childWithDescendant lang fuel s dId dStart dEnd with
              | some child => some (if s.relevant lang true then s else child)
              | none => none
            else none
          match viaEmpty with
          | some r => some (some r, none)
          | none =>
            let again := (if isEmpty then rc.posAfter.bytes ≤ dEnd else rc.posAfter.bytes < dEnd) || s.childCount == 0
            if again then inner rest else some (none, some s)
    match inner (rawChildren lang self) with
    | some (some r, _) => some r
    | some (none, some s) => if s.relevant lang true then some s else childWithDescendant lang fuel s dId dStart dEnd
    | _ => none

/-- `ts_node_parent(self)`. -/
def nodeParent (lang : Lang) (fuel : Nat) (root : NodeRef) (self : NodeRef) : Option NodeRef :=
  if root.id == self.id then none else
  let rec go (f : Nat) (node : NodeRef) : NodeRef :=
    match f with
    | 0 => node
    | f + 1 =>
      match childWithDescendant lang fuel node self.id self.startByte self.endByte with
      | none => node
      | some next => if next.id == self.id then node else go f next
  some (go fuel root)

/-- `ts_node__next_sibling(self, include_anonymous)`. -/
def nextSiblingPort (lang : Lang) (fuel : Nat) (root self : NodeRef) (anon : Bool) : Option NodeRef :=
  let targetEnd := self.endByte
  let startByte := self.startByte
  let isEmpty := startByte == targetEnd
  -- one pass over the children of `node`: (child containing target, later child, its relevance)
  let rec scan : List RawChild → Option NodeRef → Option NodeRef × Option (NodeRef × Bool)
    | [], cct => (cct, none)
    | rc :: rest, cct =>
      if rc.posAfter.bytes ≤ targetEnd then scan rest cct
      else
        let child := rc.node
        let containsTarget := if isEmpty then child.startByte < startByte else child.startByte ≤ startByte
        if containsTarget then
          -- `ts_node__subtree(child).ptr != ts_node__subtree(self).ptr`
          let same := (child.t.data.addr != 0 && child.t.data.addr == self.t.data.addr) ||
                      (child.t.data.addr == 0 && self.t.data.addr == 0 && decide (child.t.data = self.t.data))
          scan rest (if same then cct else some child)
        else if child.relevant lang anon then (cct, some (child, true))
        else if child.relChildCount anon > 0 then (cct, some (child, false))
        else scan rest cct
  let rec go (f : Nat) (node : Option NodeRef) (later : Option (NodeRef × Bool)) : Option NodeRef :=
    match f with
    | 0 => none
    | f + 1 =>
      match node with
      | none => none
      | some node =>
        let (cct, laterChild) := scan (rawChildren lang node) none
        match cct with
        | some c => go f (some c) (match laterChild with | some l => some l | none => later)
        | none =>
          match laterChild with
          | some (lc, true) => some lc
          | some (lc, false) => go f (some lc) later
          | none =>
            match later with
            | some (ln, true) => some ln
            | some (ln, false) => go f (some ln) later    -- `node = later_node` (later_node is kept)
            | none => none
  go (fuel + 1) (nodeParent lang fuel root self) none

/-- The loop of `ts_subtree_has_trailing_empty_descendant` over the children from the right; `inner` is
the recursive call (one level less fuel). -/
def tedBack (inner : Tree → Tree → Bool) (other : Tree) : List Tree → Bool
  | [] => false
  | c :: rest =>
    if c.totalBytes > 0 then false
    else
      let same := (c.data.addr != 0 && c.data.addr == other.data.addr) ||
                  (c.data.addr == 0 && other.data.addr == 0 && decide (c.data = other.data))
      if same || inner c other then true else tedBack inner other rest

/-- `ts_subtree_has_trailing_empty_descendant(self, other)` (structural in the fuel, so that it
evaluates inside proofs). -/
def hasTrailingEmptyDescendant : Nat → Tree → Tree → Bool
  | 0, _, _ => false
  | fuel + 1, self, other => tedBack (hasTrailingEmptyDescendant fuel) other self.kids.reverse

/-- `ts_node__prev_sibling(self, include_anonymous)`. -/
def prevSiblingPort (lang : Lang) (fuel : Nat) (root self : NodeRef) (anon : Bool) : Option NodeRef :=
  let selfEmpty := self.t.totalBytes == 0
  let targetEnd := self.endByte
  -- one pass: (found child containing target?, the child at which the loop stopped, earlier child)
  let rec scan : List RawChild → Option (NodeRef × Bool) → Bool × Option NodeRef × Option (NodeRef × Bool)
    | [], earlier => (false, none, earlier)
    | rc :: rest, earlier =>
      let child := rc.node
      if child.id == self.id then (false, some child, earlier)
      else if rc.posAfter.bytes > targetEnd then (true, some child, earlier)
      else if rc.posAfter.bytes == targetEnd &&
          (!selfEmpty || hasTrailingEmptyDescendant fuel child.t self.t) then (true, some child, earlier)
      else if child.relevant lang anon then scan rest (some (child, true))
      else if child.relChildCount anon > 0 then scan rest (some (child, false))
      else scan rest earlier
  let rec go (f : Nat) (node : Option NodeRef) (earlierNode : Option (NodeRef × Bool)) : Option NodeRef :=
    match f with
    | 0 => none
    | f + 1 =>
      match node with
      | none => none
      | some node =>
        let (found, stopChild, earlierChild) := scan (rawChildren lang node) none
        if found then
          go f stopChild (match earlierChild with | some e => some e | none => earlierNode)
        else
          match earlierChild with
          | some (ec, true) => some ec
          | some (ec, false) => go f (some ec) earlierNode
          | none =>
            match earlierNode with
            | some (en, true) => some en
            | some (en, false) => go f (some en) none
            | none => none
  go (fuel + 1) (nodeParent lang fuel root self) none

/-- `ts_node__first_child_for_byte(self, goal, include_anonymous)` with its single saved iterator
(`last_iterator`), saved only when `iterator.child_index < child_count(child)`. -/
def firstChildForBytePort (lang : Lang) (fuel : Nat) (self : NodeRef) (goal : Nat) (anon : Bool) : Option NodeRef :=
  let rec loop (f : Nat) (iter : List RawChild) (saved : Option (List RawChild)) : Option NodeRef :=
    match f with
    | 0 => none
    | f + 1 =>
      match iter with
      | [] =>
        match saved with
        | some it => loop f it none
        | none => none
      | rc :: rest =>
        let child := rc.node
        if child.endByte > goal then
          if child.relevant lang anon then some child
          else if child.childCount > 0 then
            -- `iterator.child_index` (already advanced) against the CHILD's raw child count
            let saved := if rc.k + 1 < child.t.kids.length then some rest else saved
            loop f (rawChildren lang child) saved
          else loop f rest saved
        else loop f rest saved
  loop (2 * fuel + 4) (rawChildren lang self) none

/-- `ts_node__descendant_for_byte_range`. -/
def descendantForByteRangePort (lang : Lang) (fuel : Nat) (self : NodeRef) (rs re : Nat) (anon : Bool) : Option NodeRef :=
  if rs > re then none else
  let rec scan : List RawChild → Option NodeRef
    | [] => none
    | rc :: rest =>
      let nodeEnd := rc.posAfter.bytes
      if nodeEnd < re then scan rest
      else
        let isEmpty := rc.node.startByte == nodeEnd
        if (if isEmpty then nodeEnd < rs else nodeEnd ≤ rs) then scan rest
        else if rs < rc.node.startByte then none
        else some rc.node
  let rec go (f : Nat) (node last : NodeRef) : NodeRef :=
    match f with
    | 0 => last
    | f + 1 =>
      match scan (rawChildren lang node) with
      | none => last
      | some c => go f c (if c.relevant lang anon then c else last)
  some (go fuel self self)

/-- `ts_node__descendant_for_point_range`. -/
def descendantForPointRangePort (lang : Lang) (fuel : Nat) (self : NodeRef) (rs re : TSPoint) (anon : Bool) : Option NodeRef :=
  if point_gt rs re then none else
  let rec scan : List RawChild → Option NodeRef
    | [] => none
    | rc :: rest =>
      let nodeEnd := rc.posAfter.extent
      if point_lt nodeEnd re then scan rest
      else
        let isEmpty := point_eq rc.node.start.extent nodeEnd
        if (if isEmpty then point_lt nodeEnd rs else point_lte nodeEnd rs) then scan rest
        else if point_lt rs rc.node.start.extent then none
        else some rc.node
  let rec go (f : Nat) (node last : NodeRef) : NodeRef :=
    match f with
    | 0 => last
    | f + 1 =>
      match scan (rawChildren lang node) with
      | none => last
      | some c => go f c (if c.relevant lang anon then c else last)
  some (go fuel self self)

/-- Does the search path of `ts_node__descendant_for_byte_range` (the raw children it descends into,
hidden ones included) visit a zero-width node?  This is the condition of the known defect
"descendant-range-zero-width": an empty raw node — possibly a hidden leaf such as a zero-width
external token — is entered first and ends the search. -/
def descendantBytePathHasEmpty (lang : Lang) (fuel : Nat) (self : NodeRef) (rs re : Nat) : Bool :=
  if rs > re then false else
  let rec scan : List RawChild → Option NodeRef
    | [] => none
    | rc :: rest =>
      let nodeEnd := rc.posAfter.bytes
      if nodeEnd < re then scan rest
      else
        let isEmpty := rc.node.startByte == nodeEnd
        if (if isEmpty then nodeEnd < rs else nodeEnd ≤ rs) then scan rest
        else if rs < rc.node.startByte then none
        else some rc.node
  let rec go (f : Nat) (node : NodeRef) : Bool :=
    match f with
    | 0 => false
    | f + 1 =>
      match scan (rawChildren lang node) with
      | none => false
      | some c => (c.startByte == c.endByte) || go f c
  go fuel self

def descendantPointPathHasEmpty (lang : Lang) (fuel : Nat) (self : NodeRef) (rs re : TSPoint) : Bool :=
  if point_gt rs re then false else
  let rec scan : List RawChild → Option NodeRef
    | [] => none
    | rc :: rest =>
      let nodeEnd := rc.posAfter.extent
      if point_lt nodeEnd re then scan rest
      else
        let isEmpty := point_eq rc.node.start.extent nodeEnd
        if (if isEmpty then point_lt nodeEnd rs else point_lte nodeEnd rs) then scan rest
        else if point_lt rs rc.node.start.extent then none
        else some rc.node
  let rec go (f : Nat) (node : NodeRef) : Bool :=
    match f with
    | 0 => false
    | f + 1 =>
      match scan (rawChildren lang node) with
      | none => false
      | some c => (c.startByte == c.endByte) || go f c
  go fuel self

/-- `ts_node__field_name_from_language`: first non-inherited entry for the structural index. -/
def fieldFromLanguage (lang : Lang) (n : NodeRef) (si : Nat) : Option Nat :=
  ((lang.fieldMap n.t.data.productionId).toList.find? fun m => !m.inherited && m.childIndex == si).map (·.fieldId)

mutual
  /-- The visible children of a node together with the field chain `flattenKids` records for each
  (own structural slot first, then the slots of the hidden ancestors passed on the way down;
  an extra child has none and cuts the chain). -/
  def enumF (lang : Lang) : Tree → List (List Nat) → List (Tree × Nat × List (List Nat))
    | .mk d kids, outer => enumKidsF lang d.productionId kids 0 outer
  def enumKidsF (lang : Lang) (pid : Nat) : List Tree → Nat → List (List Nat) → List (Tree × Nat × List (List Nat))
    | [], _, _ => []
    | c :: rest, si, outer =>
      let al := if c.data.extra then 0 else lang.aliasAt pid si
      let si' := if c.data.extra then si else si + 1
      let chain := if c.data.extra then [] else directFields lang pid si :: outer
      (if c.data.visible || al != 0 then [(c, al, chain)] else enumF lang c chain) ++ enumKidsF lang pid rest si' outer
end


mutual
  /-- Hypothesis of `field_name_for_child_spec`: a hidden EXTRA node has no visible children (the C
  code would index the field map with the structural index of the previous sibling when descending
  into one).  Evaluated on every real tree. -/
  def hiddenExtraOK (lang : Lang) : Tree → Nat → Bool
    | .mk d kids, al =>
      (if d.extra && !(d.visible || al != 0) then decide (vcc (.mk d kids) = 0) else true) &&
        hiddenExtraOKKids lang kids d.productionId 0
  def hiddenExtraOKKids (lang : Lang) : List Tree → Nat → Nat → Bool
    | [], _, _ => true
    | c :: rest, pid, si =>
      hiddenExtraOK lang c (if c.data.extra then 0 else lang.aliasAt pid si) &&
        hiddenExtraOKKids lang rest pid (if c.data.extra then si else si + 1)
end


/-! ### Paths of raw child indices -/

def rawChildAt (lang : Lang) (n : NodeRef) (k : Nat) : Option NodeRef := ((rawChildren lang n)[k]?).map (·.node)

/-- The node reached from `n` by following raw child indices. -/
def nodeAt (lang : Lang) : NodeRef → List Nat → Option NodeRef
  | n, [] => some n
  | n, k :: rest => match rawChildAt lang n k with
    | some c => nodeAt lang c rest
    | none => none

/-- What `ts_node_child_with_descendant` is meant to return: the first relevant (visible or
aliased) node strictly below `n` on the path; the end of the path itself if none is relevant
before it. -/
def firstRelevantOnPath (lang : Lang) : NodeRef → List Nat → Option NodeRef
  | _, [] => none
  | n, k :: rest => match rawChildAt lang n k with
    | some c => if rest.isEmpty || c.relevant lang true then some c else firstRelevantOnPath lang c rest
    | none => none

/-- Side conditions of the path (all decidable, evaluated on the real trees by the driver):
no earlier sibling along the path and no proper ancestor shares the descendant's slot id.  (That
every proper ancestor reports a positive visible child count is derived from `Summarized`,
`ancestor_child_count_pos`.) -/
def pathOK (lang : Lang) (dId : Nat) : NodeRef → List Nat → Bool
  | _, [] => true
  | n, k :: rest =>
    ((rawChildren lang n).take k).all (fun rc => rc.node.id != dId) &&
    match rawChildAt lang n k with
    | some c => rest.isEmpty || (c.id != dId && pathOK lang dId c rest)
    | none => false


/-- The nearest relevant proper ancestor of the end of the path (`best` if there is none):
what `ts_node_parent` is meant to return, with `best = n = root`. -/
def parentOnPath (lang : Lang) : NodeRef → NodeRef → List Nat → NodeRef
  | best, _, [] => best
  | best, _, [_] => best
  | best, n, k :: k' :: rest => match rawChildAt lang n k with
    | some c => parentOnPath lang (if c.relevant lang true then c else best) c (k' :: rest)
    | none => best

/-- `firstRelevantOnPath` together with the rest of the path. -/
def relSplit (lang : Lang) : NodeRef → List Nat → Option (NodeRef × List Nat)
  | _, [] => none
  | n, k :: rest => match rawChildAt lang n k with
    | some c => if rest.isEmpty || c.relevant lang true then some (c, rest) else relSplit lang c rest
    | none => none


mutual
  /-- Every non-empty path of raw child indices below a tree, in preorder. -/
  def pathsOf : Tree → List (List Nat)
    | .mk _ kids => pathsKids kids 0
  def pathsKids : List Tree → Nat → List (List Nat)
    | [], _ => []
    | c :: rest, k => ([k] :: (pathsOf c).map (k :: ·)) ++ pathsKids rest (k + 1)
end



/-! ### Runtime side of `next_sibling_spec_partial` (SiblingZw.lean) -/

/-- `ts_node__subtree(child).ptr == ts_node__subtree(self).ptr` -/
def samePtr (child self : NodeRef) : Bool :=
  (child.t.data.addr != 0 && child.t.data.addr == self.t.data.addr) ||
    (child.t.data.addr == 0 && self.t.data.addr == 0 && decide (child.t.data = self.t.data))

mutual
  /-- Every raw node of the subtree, placed at byte `st`, ends strictly after byte `tgt` (in the
  positions of `ts_node_child_iterator_next`: the first child starts where its parent starts, each
  later child after the previous one plus its own padding).  For nodes that start at or after `tgt`
  this excludes exactly the zero-width nodes AT `tgt`. -/
  def endsAfter (tgt : Nat) : Tree → Nat → Bool
    | .mk d kids, st => decide (tgt < st + d.size.bytes) && endsAfterL tgt kids st true
  def endsAfterL (tgt : Nat) : List Tree → Nat → Bool → Bool
    | [], _, _ => true
    | c :: rest, pos, first =>
      endsAfter tgt c (if first then pos else pos + c.data.padding.bytes) &&
        endsAfterL tgt rest ((if first then pos else pos + c.data.padding.bytes) + c.data.size.bytes) false
end

/-- The visible nodes that follow the end of the path: later siblings at the deepest level first,
then those of each ancestor on the path (the same list as `laterSiblings` of the cursor theorems). -/
def laterOnPath (lang : Lang) : NodeRef → List Nat → List (Tree × Nat)
  | _, [] => []
  | n, k :: rest => match (rawChildren lang n)[k]? with
    | some rc => laterOnPath lang rc.node rest ++
        enumKids lang n.t.data.productionId (n.t.kids.drop (k + 1)) (if rc.node.t.data.extra then rc.si else rc.si + 1)
    | none => []

/-- Hypotheses of `next_sibling_spec_partial` along the path (decidable; evaluated on real trees):
at every level, every raw node among the later siblings (and inside them) ends strictly after the
end of `self` — i.e. no zero-width raw node sits exactly where `self` ends — and no ancestor on the
path is the same subtree as `self`. -/
def nsPathOK (lang : Lang) (self : NodeRef) : NodeRef → List Nat → Bool
  | _, [] => true
  | n, k :: rest =>
    match (rawChildren lang n)[k]? with
    | some rc => endsAfterL self.endByte (n.t.kids.drop (k + 1)) rc.posAfter.bytes false &&
        (rest.isEmpty || (!samePtr rc.node self && nsPathOK lang self rc.node rest))
    | none => false


/-! ### Runtime side of `prev_sibling_spec_partial` -/

mutual
  /-- No raw node strictly inside the subtree has the slot id `sid`. -/
  def noIdIn (sid : Nat) : Tree → Bool
    | .mk d kids => noIdInL sid d.addr kids.length kids 0
  def noIdInL (sid addr nk : Nat) : List Tree → Nat → Bool
    | [], _ => true
    | c :: rest, k => (slotId addr nk k != sid) && noIdIn sid c && noIdInL sid addr nk rest (k + 1)
end

/-- The visible nodes that precede the end of the path within `n`: earlier siblings at the top
level first, then those at each deeper level (the same list as `earlierSiblings` of the cursor
theorems, outermost level first). -/
def earlierOnPath (lang : Lang) : NodeRef → List Nat → List (Tree × Nat)
  | _, [] => []
  | n, k :: rest => enumKids lang n.t.data.productionId (n.t.kids.take k) 0 ++
      (match (rawChildren lang n)[k]? with
       | some rc => earlierOnPath lang rc.node rest
       | none => [])

/-- Hypotheses of `prev_sibling_spec_partial` along the path (decidable; evaluated on real trees):
no raw node among the earlier siblings (nor inside them) and no ancestor on the path has the slot
id of `self`. -/
def psPathOK (lang : Lang) (self : NodeRef) : NodeRef → List Nat → Bool
  | _, [] => true
  | n, k :: rest => noIdInL self.id n.t.data.addr n.t.kids.length (n.t.kids.take k) 0 &&
    match (rawChildren lang n)[k]? with
    | some rc => rest.isEmpty || (rc.node.id != self.id && psPathOK lang self rc.node rest)
    | none => false

/-! ### Runtime side of the ZERO-WIDTH sibling theorems (`SiblingZw.lean`) -/

/-- Extra hypothesis of `next_sibling_spec_empty` (self EMPTY at byte `x`, on top of `nsPathOK`).
For an empty `self` the C scan classifies a child by the STRICT test `child_start < x`; an ancestor
`a` on the path that STARTS at `x` (so `self` is its first, empty, descendant) and extends beyond
`x` is therefore not a "child containing the target" but a "later child": the scan breaks at it and
descends into it WITHOUT having looked at the siblings after `a`, which are lost for the rest of the
search.  The answer is still right exactly when the search inside `a` succeeds, i.e. something
visible follows `self` inside `a` — or when there was nothing to lose (no visible node after `a` at
its level).  Such an `a` must also be hidden (else it would be returned itself). -/
def nsZwOK (lang : Lang) (self : NodeRef) : NodeRef → List Nat → Bool
  | _, [] => true
  | n, k :: rest =>
    match (rawChildren lang n)[k]? with
    | some rc =>
      rest.isEmpty ||
        ((if rc.node.startByte == self.startByte && decide (self.endByte < rc.posAfter.bytes) then
            !rc.node.relevant lang true &&
              (!(laterOnPath lang rc.node rest).isEmpty ||
                (enumKids lang n.t.data.productionId (n.t.kids.drop (k + 1)) (if rc.node.t.data.extra then rc.si else rc.si + 1)).isEmpty)
          else true) && nsZwOK lang self rc.node rest)
    | none => false

/-- The scan of `ts_node__prev_sibling` passes over a child ending at `e` (and remembers it as the
"earlier child"): it ends strictly before `self` ends, or exactly there while `self` has no bytes at
all and `ts_subtree_has_trailing_empty_descendant(child, self)` is false. -/
def posPass (fuel : Nat) (self : NodeRef) (t : Tree) (e : Nat) : Bool :=
  decide (e < self.endByte) || (e == self.endByte && self.t.totalBytes == 0 && !hasTrailingEmptyDescendant fuel t self.t)

/-- The scan stops at a child ending at `e` as "the child containing the target". -/
def posStop (fuel : Nat) (self : NodeRef) (t : Tree) (e : Nat) : Bool :=
  decide (e > self.endByte) || (e == self.endByte && (!(self.t.totalBytes == 0) || hasTrailingEmptyDescendant fuel t self.t))

mutual
  /-- Every raw node of the subtree placed at byte `st` (itself included) is passed over (`posPass`). -/
  def passIn (fuel : Nat) (self : NodeRef) : Tree → Nat → Bool
    | .mk d kids, st => posPass fuel self (.mk d kids) (st + d.size.bytes) && passInL fuel self kids st true
  def passInL (fuel : Nat) (self : NodeRef) : List Tree → Nat → Bool → Bool
    | [], _, _ => true
    | c :: rest, pos, first =>
      passIn fuel self c (if first then pos else pos + c.data.padding.bytes) &&
        passInL fuel self rest ((if first then pos else pos + c.data.padding.bytes) + c.data.size.bytes) false
end

/-- Hypothesis of `prev_sibling_spec_general` about positions (on top of `psPathOK`, which is about
slot ids): along the path every earlier sibling — and every raw node inside it — is passed over by
the scan, and the scan stops at every proper ancestor.  For a NON-EMPTY `self` this always holds (`psZwOK_of_nonempty`), and an empty one
with padding never consults the test; for a `self` without any bytes it says that
`ts_subtree_has_trailing_empty_descendant(·, self)` — which compares subtree POINTERS, inline leaves
by value, and gives up at the first non-empty child from the right — is true for the ancestors that
end where `self` lies and false for everything before `self` that ends there. -/
def psZwOK (lang : Lang) (fuel : Nat) (self : NodeRef) : NodeRef → List Nat → Bool
  | _, [] => true
  | n, k :: rest =>
    passInL fuel self (n.t.kids.take k) n.start.bytes true &&
    match (rawChildren lang n)[k]? with
    | some rc => rest.isEmpty || (posStop fuel self rc.node.t rc.posAfter.bytes && psZwOK lang fuel self rc.node rest)
    | none => false

/-- Evaluation of the hypotheses of `parent_spec_partial` / `child_with_descendant_spec_partial`
on a real tree: over every relevant node below the root, `checked` = non-empty nodes whose path
satisfies `pathOK` (slot ids distinct along the search) and for which
the ported `ts_node_parent` returns `parentOnPath`; `zeroWidth` = how many of them are empty
(checked with `psPathOK`, the hypothesis of `parent_spec_empty`); `bad` = non-empty nodes violating a hypothesis or the conclusion. -/
structure ParentHyp where
  checked : Nat := 0
  zeroWidth : Nat := 0
  bad : Nat := 0
  /-- ids of the expected parents (`parentOnPath`) for the link with the flattened tree -/
  parents : List (Nat × Nat) := []

def parentHyp (lang : Lang) (root : NodeRef) : ParentHyp :=
  (pathsOf root.t).foldl (init := {}) fun acc p =>
    match nodeAt lang root p with
    | none => { acc with bad := acc.bad + 1 }
    | some d =>
      if !d.relevant lang true then acc
      else
        let empty := d.startByte == d.endByte
        let exp := parentOnPath lang root root p
        -- a zero-width node needs the stronger id hypothesis of `parent_spec_empty`
        let okH := root.id != d.id && (if empty then psPathOK lang d root p else pathOK lang d.id root p)
        let okC := match nodeParent lang (p.length + 1) root d with
          | some r => r.id == exp.id
          | none => false
        if okH && okC then
          { acc with checked := acc.checked + 1, zeroWidth := acc.zeroWidth + (if empty then 1 else 0), parents := (d.id, exp.id) :: acc.parents }
        else { acc with bad := acc.bad + 1 }

/-! ### Runtime side of `node_nav_flat_spec` -/

/-- Every node strictly between `n` and the end of the path is hidden (not relevant). -/
def hiddenPath (lang : Lang) : NodeRef → List Nat → Bool
  | _, [] => true
  | n, k :: rest => match rawChildAt lang n k with
    | some c => rest.isEmpty || (!c.relevant lang true && hiddenPath lang c rest)
    | none => false

/-- Nearest relevant proper ancestor of the end of the path together with the path from it
(`parentOnPath` = first component). -/
def parentSplit (lang : Lang) : NodeRef × List Nat → NodeRef → List Nat → NodeRef × List Nat
  | best, _, [] => best
  | best, _, [_] => best
  | best, n, k :: k' :: rest => match rawChildAt lang n k with
    | some c => parentSplit lang (if c.relevant lang true then (c, k' :: rest) else best) c (k' :: rest)
    | none => best

/-! ### Runtime side of the NAMED sibling theorems (`SiblingNamed.lean`) -/

/-- Does an enumerated visible child count for the flag `include_anonymous`? -/
def keepA (lang : Lang) (anon : Bool) (e : Tree × Nat) : Bool := anon || entryNamed lang e

/-- `nsZwOK` for either flag (extra hypothesis of `next_sibling_spec_anon` for an EMPTY `self`): an
ancestor below the parent that STARTS where `self` lies and extends beyond it is not relevant; if the
scan takes it as a "later child" (its relevant-child count is positive) then something that counts
follows `self` inside it, or nothing that counts follows the ancestor at its own level; if the scan
passes it over (count 0) nothing that counts follows `self` inside it. -/
def nsZwOKA (lang : Lang) (anon : Bool) (self : NodeRef) : NodeRef → List Nat → Bool
  | _, [] => true
  | n, k :: rest =>
    match (rawChildren lang n)[k]? with
    | some rc =>
      rest.isEmpty ||
        ((if rc.node.startByte == self.startByte && decide (self.endByte < rc.posAfter.bytes) then
            !rc.node.relevant lang anon &&
              (if rc.node.relChildCount anon == 0 then ((laterOnPath lang rc.node rest).filter (keepA lang anon)).isEmpty
               else !((laterOnPath lang rc.node rest).filter (keepA lang anon)).isEmpty ||
                 ((enumKids lang n.t.data.productionId (n.t.kids.drop (k + 1)) (if rc.node.t.data.extra then rc.si else rc.si + 1)).filter (keepA lang anon)).isEmpty)
          else true) && nsZwOKA lang anon self rc.node rest)
    | none => false

/-- Evaluation of `next_sibling_spec_partial` on a real tree, over every relevant NON-EMPTY node
below the root: `checked` = nodes whose path from the parent satisfies `nsPathOK` and for which the
ported `ts_node_next_sibling` returns the head of `laterOnPath` (same subtree data and alias);
`outside` = nodes excluded by the hypothesis (a zero-width raw node sits where the node ends);
`bad` = hypothesis holds but the conclusion fails.  `nexts` = (id, expected next sibling's data and
alias) for the comparison with the flattened tree. -/
structure SiblingHyp where
  checked : Nat := 0
  outside : Nat := 0
  bad : Nat := 0
  nexts : List (Nat × Option (NodeData × Nat)) := []
  /-- the same three counters and expectations for `prev_sibling_spec_partial` -/
  pchecked : Nat := 0
  poutside : Nat := 0
  pbad : Nat := 0
  prevs : List (Nat × Option (NodeData × Nat)) := []
  /-- ZERO-WIDTH nodes (`next_sibling_spec_empty`, hypotheses `nsPathOK` + `nsZwOK`) -/
  zchecked : Nat := 0
  zoutside : Nat := 0
  zbad : Nat := 0
  /-- ZERO-WIDTH nodes (`prev_sibling_spec_general`, hypotheses `psPathOK` + `psZwOK`) -/
  zpchecked : Nat := 0
  zpoutside : Nat := 0
  zpbad : Nat := 0
  /-- why zero-width nodes are outside: next — parent/id hypotheses, `nsPathOK` (a zero-width raw node
  follows at the same byte), `nsZwOK`; prev — parent/id hypotheses, `psPathOK`, `psZwOK` -/
  zwhy : Nat × Nat × Nat × Nat × Nat × Nat := (0, 0, 0, 0, 0, 0)
  /-- `prev_sibling_spec_anon` for the NAMED flag (every relevant node, any width): checked / outside / bad,
  and the expectations for the comparison with `FT.prevSibling … namedOnly` -/
  nnchecked : Nat := 0
  nnoutside : Nat := 0
  nnbad : Nat := 0
  nnexts : List (Nat × Option (NodeData × Nat)) := []
  npchecked : Nat := 0
  npoutside : Nat := 0
  npbad : Nat := 0
  nprevs : List (Nat × Option (NodeData × Nat)) := []
  /-- non-empty nodes for which `psZwOK` (always true for them, `psZwOK_of_nonempty`) evaluates to false -/
  pgenbad : Nat := 0

def siblingHyp (lang : Lang) (root : NodeRef) (anonOK : Bool := true) : SiblingHyp :=
  (pathsOf root.t).foldl (init := {}) fun acc p =>
    match nodeAt lang root p with
    | none => { acc with bad := acc.bad + 1 }
    | some d =>
      if !d.relevant lang true then acc
      else if d.startByte == d.endByte then
        -- zero-width node: `next_sibling_spec_empty` / `prev_sibling_spec_general` (+ `parent_spec_empty`)
        let (par, q) := parentSplit lang (root, p) root p
        let fuel := root.t.size + 1
        let parOK := par.id == (parentOnPath lang root root p).id && hiddenPath lang par q &&
          (match nodeAt lang par q with | some x => x.id == d.id | none => false) && psPathOK lang d root p
        let acc :=
          if !(parOK && nsPathOK lang d par q && nsZwOK lang d par q) then
            let (a, b, c, x, y, z) := acc.zwhy
            { acc with zoutside := acc.zoutside + 1,
                       zwhy := if !parOK then (a + 1, b, c, x, y, z) else if !nsPathOK lang d par q then (a, b + 1, c, x, y, z) else (a, b, c + 1, x, y, z) }
          else
            let exp : Option (NodeData × Nat) := ((laterOnPath lang par q).head?).map fun x => (x.1.data, x.2)
            let got : Option (NodeData × Nat) := (nextSiblingPort lang fuel root d true).map fun r => (r.t.data, r.alias)
            if decide (got = exp) then { acc with zchecked := acc.zchecked + 1, nexts := (d.id, exp) :: acc.nexts }
            else { acc with zbad := acc.zbad + 1 }
        -- the NAMED flag (`next_sibling_spec_anon`): nsPathOK + nsZwOKA + anonLeafOK of the tree
        let acc :=
          if !(anonOK && parOK && nsPathOK lang d par q && nsZwOKA lang false d par q) then { acc with nnoutside := acc.nnoutside + 1 }
          else
            let nexp : Option (NodeData × Nat) := (((laterOnPath lang par q).filter (entryNamed lang)).head?).map fun x => (x.1.data, x.2)
            let ngot : Option (NodeData × Nat) := (nextSiblingPort lang fuel root d false).map fun r => (r.t.data, r.alias)
            if decide (ngot = nexp) then { acc with nnchecked := acc.nnchecked + 1, nnexts := (d.id, nexp) :: acc.nnexts }
            else { acc with nnbad := acc.nnbad + 1 }
        if !(parOK && psPathOK lang d par q && psZwOK lang fuel d par q) then
          let (a, b, c, x, y, z) := acc.zwhy
          { acc with zpoutside := acc.zpoutside + 1,
                     zwhy := if !parOK then (a, b, c, x + 1, y, z) else if !psPathOK lang d par q then (a, b, c, x, y + 1, z) else (a, b, c, x, y, z + 1) }
        else
          let exp : Option (NodeData × Nat) := ((earlierOnPath lang par q).getLast?).map fun x => (x.1.data, x.2)
          let got : Option (NodeData × Nat) := (prevSiblingPort lang fuel root d true).map fun r => (r.t.data, r.alias)
          let acc := if decide (got = exp) then { acc with zpchecked := acc.zpchecked + 1, prevs := (d.id, exp) :: acc.prevs }
            else { acc with zpbad := acc.zpbad + 1 }
          -- the NAMED flag (`prev_sibling_spec_anon`), same hypotheses + anonLeafOK of the tree
          if !anonOK then { acc with npoutside := acc.npoutside + 1 }
          else
            let nexp : Option (NodeData × Nat) := (((earlierOnPath lang par q).filter (entryNamed lang)).getLast?).map fun x => (x.1.data, x.2)
            let ngot : Option (NodeData × Nat) := (prevSiblingPort lang fuel root d false).map fun r => (r.t.data, r.alias)
            if decide (ngot = nexp) then { acc with npchecked := acc.npchecked + 1, nprevs := (d.id, nexp) :: acc.nprevs }
            else { acc with npbad := acc.npbad + 1 }
      else
        let (par, q) := parentSplit lang (root, p) root p
        let parOK := par.id == (parentOnPath lang root root p).id && hiddenPath lang par q &&
          (match nodeAt lang par q with | some x => x.id == d.id | none => false)
        let acc := if psPathOK lang d par q && !psZwOK lang (root.t.size + 1) d par q then { acc with pgenbad := acc.pgenbad + 1 } else acc
        let acc :=
          if !(nsPathOK lang d par q) then { acc with outside := acc.outside + 1 }
          else
            let exp := ((laterOnPath lang par q).head?).map fun x => (x.1.data, x.2)
            let got := (nextSiblingPort lang (root.t.size + 1) root d true).map fun r => (r.t.data, r.alias)
            if parOK && decide (got = exp) then
              { acc with checked := acc.checked + 1, nexts := (d.id, exp) :: acc.nexts }
            else { acc with bad := acc.bad + 1 }
        -- the NAMED flag (`next_sibling_spec_anon`), non-empty node: nsPathOK + anonLeafOK of the tree
        let acc :=
          if !(anonOK && parOK && nsPathOK lang d par q) then { acc with nnoutside := acc.nnoutside + 1 }
          else
            let nexp : Option (NodeData × Nat) := (((laterOnPath lang par q).filter (entryNamed lang)).head?).map fun x => (x.1.data, x.2)
            let ngot : Option (NodeData × Nat) := (nextSiblingPort lang (root.t.size + 1) root d false).map fun r => (r.t.data, r.alias)
            if decide (ngot = nexp) then { acc with nnchecked := acc.nnchecked + 1, nnexts := (d.id, nexp) :: acc.nnexts }
            else { acc with nnbad := acc.nnbad + 1 }
        if !(psPathOK lang d par q) then { acc with poutside := acc.poutside + 1 }
        else
          let exp := ((earlierOnPath lang par q).getLast?).map fun x => (x.1.data, x.2)
          let got := (prevSiblingPort lang (root.t.size + 1) root d true).map fun r => (r.t.data, r.alias)
          let acc := if parOK && decide (got = exp) then
              { acc with pchecked := acc.pchecked + 1, prevs := (d.id, exp) :: acc.prevs }
            else { acc with pbad := acc.pbad + 1 }
          -- the NAMED flag (`prev_sibling_spec_anon`): psPathOK + psZwOK (true for non-empty nodes) + anonLeafOK of the tree
          if !(anonOK && parOK && psZwOK lang (root.t.size + 1) d par q) then { acc with npoutside := acc.npoutside + 1 }
          else
            let nexp : Option (NodeData × Nat) := (((earlierOnPath lang par q).filter (entryNamed lang)).getLast?).map fun x => (x.1.data, x.2)
            let ngot : Option (NodeData × Nat) := (prevSiblingPort lang (root.t.size + 1) root d false).map fun r => (r.t.data, r.alias)
            if decide (ngot = nexp) then { acc with npchecked := acc.npchecked + 1, nprevs := (d.id, nexp) :: acc.nprevs }
            else { acc with npbad := acc.npbad + 1 }

/-! ### Runtime side of `first_child_for_byte_spec_partial` -/

mutual
  /-- The search `ts_node_first_child_for_byte` is meant to perform, by plain recursion: the first
  visible child (hidden children replaced by theirs, in order) that ends after `goal`; a hidden child
  is entered only if it ends after `goal`, and the scan CONTINUES with the next sibling when nothing
  is found inside (the C code has a single saved iterator for that, see `ndeNode`). -/
  def fcbNode (lang : Lang) (goal : Nat) : Tree → Length → Option NodeRef
    | .mk d kids, start => fcbKids lang goal d.productionId d.addr kids.length kids start 0 0
  def fcbKids (lang : Lang) (goal pid addr nk : Nat) : List Tree → Length → Nat → Nat → Option NodeRef
    | [], _, _, _ => none
    | c :: rest, pos, si, k =>
      let cstart := if k > 0 then length_add pos c.data.padding else pos
      let node : NodeRef := { t := c, alias := (if c.data.extra then 0 else lang.aliasAt pid si), id := slotId addr nk k, start := cstart }
      let next := fcbKids lang goal pid addr nk rest (length_add cstart c.data.size) (if c.data.extra then si else si + 1) (k + 1)
      if node.endByte > goal then
        if node.relevant lang true then some node
        else if node.childCount > 0 then
          match fcbNode lang goal c cstart with
          | some r => some r
          | none => next
        else next
      else next
end

mutual
  /-- "No dead end": every hidden child the search enters (it has visible children and ends after
  `goal`) contains a visible child ending after `goal`.  This is the hypothesis finding
  `C06-first-child-for-byte-fallback` forces: after a failed descent the C code resumes from its
  single saved iterator, which is saved under an odd condition and overwritten by nested descents. -/
  def ndeNode (lang : Lang) (goal : Nat) : Tree → Length → Bool
    | .mk d kids, start => ndeKids lang goal d.productionId d.addr kids.length kids start 0 0
  def ndeKids (lang : Lang) (goal pid addr nk : Nat) : List Tree → Length → Nat → Nat → Bool
    | [], _, _, _ => true
    | c :: rest, pos, si, k =>
      let cstart := if k > 0 then length_add pos c.data.padding else pos
      let node : NodeRef := { t := c, alias := (if c.data.extra then 0 else lang.aliasAt pid si), id := slotId addr nk k, start := cstart }
      let next := ndeKids lang goal pid addr nk rest (length_add cstart c.data.size) (if c.data.extra then si else si + 1) (k + 1)
      if node.endByte > goal then
        if node.relevant lang true then true
        else if node.childCount > 0 then (fcbNode lang goal c cstart).isSome && ndeNode lang goal c cstart
        else next
      else next
end


/-! ### Runtime side of `descendant_for_byte_range_spec_partial` -/

/-- Does the raw child span the byte range `[rs, re]`? -/
def spans (rs re : Nat) (rc : RawChild) : Bool := decide (rc.node.startByte ≤ rs) && decide (re ≤ rc.posAfter.bytes)

/-- The plain search: follow, from `node`, the first raw child that spans the range; answer the last
relevant node on that chain. -/
def dfrIdeal (lang : Lang) (rs re : Nat) : Nat → NodeRef → NodeRef → NodeRef
  | 0, _, last => last
  | f + 1, node, last =>
    match (rawChildren lang node).find? (spans rs re) with
    | none => last
    | some rc => dfrIdeal lang rs re f rc.node (if rc.node.relevant lang true then rc.node else last)

/-! ### Runtime side of the NAMED / POINT variants (`NavVariants.lean`) -/

/-- `dfrIdeal` for either relevance (`anon = false`: `ts_node_named_descendant_for_byte_range`). -/
def dfrIdealA (lang : Lang) (anon : Bool) (rs re : Nat) : Nat → NodeRef → NodeRef → NodeRef
  | 0, _, last => last
  | f + 1, node, last =>
    match (rawChildren lang node).find? (spans rs re) with
    | none => last
    | some rc => dfrIdealA lang anon rs re f rc.node (if rc.node.relevant lang anon then rc.node else last)

/-- Does the raw child span the POINT range `[rs, re]` (row/column order)? -/
def spansP (rs re : TSPoint) (rc : RawChild) : Bool := point_lte rc.node.start.extent rs && point_lte re rc.posAfter.extent

/-- The plain search in row/column order (`ts_node_(named_)descendant_for_point_range`). -/
def dfrIdealP (lang : Lang) (anon : Bool) (rs re : TSPoint) : Nat → NodeRef → NodeRef → NodeRef
  | 0, _, last => last
  | f + 1, node, last =>
    match (rawChildren lang node).find? (spansP rs re) with
    | none => last
    | some rc => dfrIdealP lang anon rs re f rc.node (if rc.node.relevant lang anon then rc.node else last)

mutual
  /-- `fcbNode` for either relevance (`anon = false`: `ts_node_first_named_child_for_byte`): a child
  that is not relevant is entered when it has VISIBLE children (the C code tests `ts_node_child_count`,
  not the named count) and ends after `goal`. -/
  def fcbNodeA (lang : Lang) (anon : Bool) (goal : Nat) : Tree → Length → Option NodeRef
    | .mk d kids, start => fcbKidsA lang anon goal d.productionId d.addr kids.length kids start 0 0
  def fcbKidsA (lang : Lang) (anon : Bool) (goal pid addr nk : Nat) : List Tree → Length → Nat → Nat → Option NodeRef
    | [], _, _, _ => none
    | c :: rest, pos, si, k =>
      let cstart := if k > 0 then length_add pos c.data.padding else pos
      let node : NodeRef := { t := c, alias := (if c.data.extra then 0 else lang.aliasAt pid si), id := slotId addr nk k, start := cstart }
      let next := fcbKidsA lang anon goal pid addr nk rest (length_add cstart c.data.size) (if c.data.extra then si else si + 1) (k + 1)
      if node.endByte > goal then
        if node.relevant lang anon then some node
        else if node.childCount > 0 then
          match fcbNodeA lang anon goal c cstart with
          | some r => some r
          | none => next
        else next
      else next
end

mutual
  /-- "No dead end" for either relevance (see `ndeNode`). -/
  def ndeNodeA (lang : Lang) (anon : Bool) (goal : Nat) : Tree → Length → Bool
    | .mk d kids, start => ndeKidsA lang anon goal d.productionId d.addr kids.length kids start 0 0
  def ndeKidsA (lang : Lang) (anon : Bool) (goal pid addr nk : Nat) : List Tree → Length → Nat → Nat → Bool
    | [], _, _, _ => true
    | c :: rest, pos, si, k =>
      let cstart := if k > 0 then length_add pos c.data.padding else pos
      let node : NodeRef := { t := c, alias := (if c.data.extra then 0 else lang.aliasAt pid si), id := slotId addr nk k, start := cstart }
      let next := ndeKidsA lang anon goal pid addr nk rest (length_add cstart c.data.size) (if c.data.extra then si else si + 1) (k + 1)
      if node.endByte > goal then
        if node.relevant lang anon then true
        else if node.childCount > 0 then (fcbNodeA lang anon goal c cstart).isSome && ndeNodeA lang anon goal c cstart
        else next
      else next
end

/-! ### Runtime side of `child_by_field_id_spec_partial` -/

/-- Does a field chain contain the field? -/
def hasF (f : Nat) (chain : List (List Nat)) : Bool := chain.any (·.contains f)

/-- What `ts_node_child_by_field_id(self, f)` is meant to return: the first visible child, in order,
whose field chain (own slot, then the slots of the hidden ancestors below `self`) contains `f`. -/
def cbfSpec (lang : Lang) (f : Nat) (t : Tree) : Option (Tree × Nat) :=
  ((enumF lang t []).find? (fun x => hasF f x.2.2)).map (fun x => (x.1, x.2.1))

/-- The entries of one field in a production's field map have strictly increasing child indices (the
scan of `ts_node_child_by_field_id` consumes them in table order, at most one per child). -/
def entriesSorted : List FieldEntry → Bool
  | [] => true
  | [_] => true
  | a :: b :: r => decide (a.childIndex < b.childIndex) && entriesSorted (b :: r)

/-- The entries of field `f` in the field map of production `pid` (what the two trimming loops of the C
function leave when the table is sorted by field id). -/
def fieldEntries (lang : Lang) (pid f : Nat) : List FieldEntry := (lang.fieldMap pid).toList.filter (·.fieldId == f)

/-- LANGUAGE-level premise, decidable on the dumped tables: for every production and every field the
entries have strictly increasing child indices. -/
def fieldMapsSorted (lang : Lang) : Bool :=
  (List.range lang.productionIdCount).all fun pid => (List.range (lang.fieldCount + 1)).all fun f => entriesSorted (fieldEntries lang pid f)

/-- The entry for structural child `i`, if any. -/
def entryAt (es : List FieldEntry) (i : Nat) : Option FieldEntry := es.find? (·.childIndex == i)

mutual
  /-- TREE-level premise of `child_by_field_id_spec_partial` for field `f` (decidable, evaluated for every
  node and field): the entries of `f` are sorted at every node the search enters; an INHERITED entry never
  points at a visible (or aliased) child — the C code would search inside it; a hidden child WITHOUT an entry
  contains no visible node carrying `f` (the table's `inherited` entries are complete: fails below ERROR
  nodes, which have no field map — finding 8); an extra hidden child contains none either (extras are skipped). -/
  def cbfOK (lang : Lang) (f : Nat) : Tree → Bool
    | .mk d kids => entriesSorted (fieldEntries lang d.productionId f) &&
        cbfOKKids lang f d.productionId (fieldEntries lang d.productionId f) kids 0
  def cbfOKKids (lang : Lang) (f pid : Nat) (es : List FieldEntry) : List Tree → Nat → Bool
    | [], _ => true
    | c :: rest, si =>
      if c.data.extra then
        (c.data.visible || (enumF lang c []).all (fun x => !hasF f x.2.2)) && cbfOKKids lang f pid es rest si
      else
        (if c.data.visible || lang.aliasAt pid si != 0 then
           (match entryAt es si with | some m => !m.inherited | none => true)
         else
           match entryAt es si with
           | some m => if m.inherited then cbfOK lang f c
                       else (match (enumF lang c [[f]]).head? with | some x => hasF f x.2.2 | none => true)
           | none => (enumF lang c []).all (fun x => !hasF f x.2.2)) &&
        cbfOKKids lang f pid es rest (si + 1)
end

/-! ### Runtime side of the EMPTY-range searches (`EmptyRange.lean`): `ts_node_descendant_for_byte_range(self, x, x)` -/

/-- A node the scan of an EMPTY range at byte `x` does not pass over: it ends after `x`, or it is a zero-width node
sitting at `x` (`isEmpty ? end < x : end ≤ x` is the C test for passing over). -/
def selE (x : Nat) (r : NodeRef) : Bool := decide (r.endByte > x) || (r.startByte == r.endByte && r.endByte == x)

/-- The plain raw search for the empty range `[x, x]`: first raw child the scan does not pass over; stop if it
starts after `x`, else go on inside it; answer the last node on the chain that counts for the flag. -/
def dfrIdealE (lang : Lang) (anon : Bool) (x : Nat) : Nat → NodeRef → NodeRef → NodeRef
  | 0, _, last => last
  | f + 1, node, last =>
    match (rawChildren lang node).find? (fun rc => selE x rc.node) with
    | none => last
    | some rc => if x < rc.node.startByte then last else dfrIdealE lang anon x f rc.node (if rc.node.relevant lang anon then rc.node else last)

mutual
  /-- First VISIBLE node below `t` (children in order, hidden ones replaced by theirs) that the empty-range scan at `x`
  does not pass over. -/
  def firstSelE (lang : Lang) (x : Nat) : Tree → Length → Option NodeRef
    | .mk d kids, start => firstSelEKids lang x d.productionId d.addr kids.length kids start 0 0
  def firstSelEKids (lang : Lang) (x pid addr nk : Nat) : List Tree → Length → Nat → Nat → Option NodeRef
    | [], _, _, _ => none
    | c :: rest, pos, si, k =>
      let cstart := if k > 0 then length_add pos c.data.padding else pos
      let node : NodeRef := { t := c, alias := (if c.data.extra then 0 else lang.aliasAt pid si), id := slotId addr nk k, start := cstart }
      match (if node.relevant lang true then (if selE x node then some node else none) else firstSelE lang x c cstart) with
      | some r => some r
      | none => firstSelEKids lang x pid addr nk rest (length_add cstart c.data.size) (if c.data.extra then si else si + 1) (k + 1)
end

mutual
  /-- EXACT hypothesis of `descendant_for_empty_byte_range_spec` (decidable, evaluated on every empty-range question):
  along the raw search path for the empty range at `x`,
  (H2) a HIDDEN raw child the scan passes over contains no visible node it would not pass over — i.e. a hidden non-empty
       child ending exactly at `x` has no visible zero-width descendant at `x` (the search on the ordered tree would take it);
  (H4) a HIDDEN raw child the scan enters at or before `x` whose visible content offers nothing at `x` — a hidden zero-width
       node without visible descendants, finding 6 — is followed, among the later siblings, by no visible node the search on
       the ordered tree would enter (the first one it does not pass over starts after `x`);
  and the same inside every child the search enters. -/
  def emptyOK (lang : Lang) (x : Nat) : Tree → Length → Bool
    | .mk d kids, start => emptyOKKids lang x d.productionId d.addr kids.length kids start 0 0
  def emptyOKKids (lang : Lang) (x pid addr nk : Nat) : List Tree → Length → Nat → Nat → Bool
    | [], _, _, _ => true
    | c :: rest, pos, si, k =>
      let cstart := if k > 0 then length_add pos c.data.padding else pos
      let node : NodeRef := { t := c, alias := (if c.data.extra then 0 else lang.aliasAt pid si), id := slotId addr nk k, start := cstart }
      let pos' := length_add cstart c.data.size
      let si' := if c.data.extra then si else si + 1
      if selE x node then
        if x < node.startByte then true
        else if node.relevant lang true then emptyOK lang x c cstart
        else emptyOK lang x c cstart &&
          ((firstSelE lang x c cstart).isSome ||
            (match firstSelEKids lang x pid addr nk rest pos' si' (k + 1) with
             | none => true
             | some r => decide (x < r.startByte)))
      else
        (node.relevant lang true || (firstSelE lang x c cstart).isNone) && emptyOKKids lang x pid addr nk rest pos' si' (k + 1)
end

end TsVerif.C06
