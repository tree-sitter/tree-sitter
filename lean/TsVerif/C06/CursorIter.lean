import TsVerif.C06.Enum
import TsVerif.C06.TreeBase
import TsVerif.C06.CursorRun
/-!
# C06 — one child iterator of the cursor, forward and back

What a single `CursorChildIterator` does, before any stack: the step of `ts_tree_cursor_child_iterator_next` in closed form and
its run as a list (`kidsFrom`, `run_next`), where its scans stop (`firstRel`, `lastRel` of Enum.lean), and the bookkeeping it
carries: `IterOK` / `EntryOK` (structural index `siAfter`, descendant index `base + descBefore` of the children passed), kept by
every step.  Then `ts_tree_cursor_child_iterator_previous` without its three departures (`Quirks.none`): stepping back keeps
`IterOK`, it is a reverse of the forward step (`iterPrev_undoes_iterNext`); and the witnesses for the departures.
-/
open TsGen TsVerif TsVerif.C02 TsVerif.C06
namespace TsVerif.C06

/-- The iterator after `iterNext` stepped over child `c`. -/
def nextIter (lang : Lang) (it : Iter) (c : Tree) : Iter :=
  { it with
    pos := (match it.parent.kids[it.childIndex + 1]? with
            | some next => length_add (length_add it.pos c.data.size) next.data.padding
            | none => length_add it.pos c.data.size)
    childIndex := it.childIndex + 1
    si := if c.data.extra then it.si else it.si + 1
    descIdx := it.descIdx + vdc c +
      (if (c.data.visible || (!c.data.extra && lang.aliasAt it.parent.data.productionId it.si != 0)) then 1 else 0) }

def entryOf (it : Iter) (c : Tree) : Entry :=
  { t := c, id := slotId it.parent.data.addr it.parent.kids.length it.childIndex, pos := it.pos
    childIndex := it.childIndex, si := it.si, descIdx := it.descIdx }

def visOf (lang : Lang) (it : Iter) (c : Tree) : Bool :=
  c.data.visible || (!c.data.extra && lang.aliasAt it.parent.data.productionId it.si != 0)

/-- Is the entry `e` (a child of the entry `p`) a visible node of the tree? -/
def visEntry (lang : Lang) (e p : Entry) : Bool :=
  e.t.data.visible || (!e.t.data.extra && lang.aliasAt p.t.data.productionId e.si != 0)

theorem isEntryVisible_eq (lang : Lang) (e p : Entry) : isEntryVisible lang e (some p) = visEntry lang e p := by
  unfold isEntryVisible visEntry
  by_cases hv : e.t.data.visible = true <;> by_cases hx : e.t.data.extra = true <;> simp [hv, hx]

theorem visOf_eq (lang : Lang) (it : Iter) (e p : Entry) (h1 : it.parent = p.t) (h2 : it.si = e.si) :
    visOf lang it e.t = visEntry lang e p := by
  simp [visOf, visEntry, h1, h2]

theorem visEntry_eq (lang : Lang) (e p : Entry) :
    visEntry lang e p = (e.t.data.visible || (if e.t.data.extra then 0 else lang.aliasAt p.t.data.productionId e.si) != 0) :=
  (vis_alias e.t _).symm

theorem nextIter_parent (lang : Lang) (it : Iter) (c : Tree) : (nextIter lang it c).parent = it.parent := rfl
theorem nextIter_childIndex (lang : Lang) (it : Iter) (c : Tree) : (nextIter lang it c).childIndex = it.childIndex + 1 := rfl
theorem nextIter_si (lang : Lang) (it : Iter) (c : Tree) : (nextIter lang it c).si = (if c.data.extra then it.si else it.si + 1) := rfl

theorem iterNext_some (lang : Lang) (it : Iter) (c : Tree) (hv : it.valid = true)
    (hc : it.parent.kids[it.childIndex]? = some c) :
    iterNext lang it = some (entryOf it c, visOf lang it c, nextIter lang it c) := by
  have hlt := lt_of_getElem?_some _ _ _ hc
  have hne : (it.childIndex == it.parent.kids.length) = false := by
    simp only [beq_eq_false_iff_ne, ne_eq]; omega
  unfold iterNext
  simp only [hv, hne, hc, Bool.not_true, Bool.or_self, Bool.false_eq_true, if_false]
  cases hn : it.parent.kids[it.childIndex + 1]? <;> simp [entryOf, visOf, nextIter, hn, hv]

theorem iterNext_none (lang : Lang) (it : Iter) (hc : it.parent.kids[it.childIndex]? = none) :
    iterNext lang it = none := by
  unfold iterNext
  simp only [hc]
  split <;> rfl

/-- The entries of the raw children `ks` of `par` as the forward iterator hands them out, starting with raw index `k`,
structural index `si`, position `pos` and descendant index `d` (`run_next`). -/
def kidsFrom (lang : Lang) (par : Tree) : List Tree → Length → Nat → Nat → Nat → List (Entry × Bool)
  | [], _, _, _, _ => []
  | c :: rest, pos, k, si, d =>
    ({ t := c, id := slotId par.data.addr par.kids.length k, pos := pos, childIndex := k, si := si, descIdx := d },
        c.data.visible || (!c.data.extra && lang.aliasAt par.data.productionId si != 0)) ::
      kidsFrom lang par rest
        ((rest.head?.map fun next => length_add (length_add pos c.data.size) next.data.padding).getD (length_add pos c.data.size))
        (k + 1) (if c.data.extra then si else si + 1)
        (d + vdc c + (if (c.data.visible || (!c.data.extra && lang.aliasAt par.data.productionId si != 0)) then 1 else 0))

def ahead (lang : Lang) (it : Iter) : List (Entry × Bool) :=
  kidsFrom lang it.parent (it.parent.kids.drop it.childIndex) it.pos it.childIndex it.si it.descIdx

theorem kidsFrom_length (lang : Lang) (par : Tree) : ∀ (ks : List Tree) (pos : Length) (k si d : Nat),
    (kidsFrom lang par ks pos k si d).length = ks.length
  | [], _, _, _, _ => rfl
  | c :: rest, pos, k, si, d => by rw [kidsFrom, List.length_cons, kidsFrom_length lang par rest, List.length_cons]

theorem kidsFrom_mem (lang : Lang) (par : Tree) : ∀ (ks : List Tree) (pos : Length) (k si d : Nat) (x : Entry × Bool),
    x ∈ kidsFrom lang par ks pos k si d → x.1.t ∈ ks
  | [], _, _, _, _, _, h => nomatch h
  | c :: rest, pos, k, si, d, x, h => by
    rw [kidsFrom] at h
    rcases List.mem_cons.mp h with rfl | h
    · exact List.mem_cons_self
    · exact List.mem_cons_of_mem _ (kidsFrom_mem lang par rest _ _ _ _ x h)

theorem kidsFrom_vis (lang : Lang) (p : Entry) : ∀ (ks : List Tree) (pos : Length) (k si d : Nat) (x : Entry × Bool),
    x ∈ kidsFrom lang p.t ks pos k si d → x.2 = isEntryVisible lang x.1 (some p)
  | [], _, _, _, _, _, h => nomatch h
  | c :: rest, pos, k, si, d, x, h => by
    rw [kidsFrom] at h
    rcases List.mem_cons.mp h with rfl | h
    · rw [isEntryVisible_eq]; rfl
    · exact kidsFrom_vis lang p rest _ _ _ _ x h

theorem ahead_cons (lang : Lang) (it : Iter) (c : Tree) (hc : it.parent.kids[it.childIndex]? = some c) :
    ahead lang it = (entryOf it c, visOf lang it c) :: ahead lang (nextIter lang it c) := by
  unfold ahead
  rw [drop_eq_cons _ _ _ hc, kidsFrom, List.head?_drop]
  cases hd : it.parent.kids[it.childIndex + 1]? <;> simp only [nextIter, hd, entryOf, visOf] <;> rfl

theorem run_next (lang : Lang) : ∀ (fuel : Nat) (it : Iter),
    run (iterNext lang) fuel it = if it.valid = true then (ahead lang it).take fuel else []
  | 0, it => by rw [run, List.take_zero, ite_self]
  | fuel + 1, it => by
    rw [run]
    cases hv : it.valid
    · rw [show iterNext lang it = none by unfold iterNext; simp [hv]]; rfl
    · cases hc : it.parent.kids[it.childIndex]? with
      | none =>
        rw [iterNext_none lang it hc, ahead, List.drop_eq_nil_of_le (List.getElem?_eq_none_iff.mp hc)]
        rfl
      | some c =>
        rw [iterNext_some lang it c hv hc, ahead_cons lang it c hc]
        show (entryOf it c, visOf lang it c) :: run (iterNext lang) fuel (nextIter lang it c) = _
        rw [run_next lang fuel, if_pos (show (nextIter lang it c).valid = true from hv), if_pos rfl]
        rfl

theorem run_mem (lang : Lang) (fuel : Nat) (it : Iter) (x : Entry × Bool) (h : x ∈ run (iterNext lang) fuel it) :
    x ∈ ahead lang it := by
  rw [run_next] at h
  split at h
  · exact List.mem_of_mem_take h
  · nomatch h

theorem run_full (lang : Lang) (fuel : Nat) (it : Iter) (hv : it.valid = true)
    (hf : it.parent.kids.length - it.childIndex < fuel) : run (iterNext lang) fuel it = ahead lang it := by
  rw [run_next, if_pos hv, List.take_of_length_le]
  rw [ahead, kidsFrom_length, List.length_drop]
  omega

/-- What `firstRel` / `lastRel` record of the child a scan stops at. -/
def stopKey (x : Entry × Bool) : Tree × Nat × Bool := (x.1.t, x.1.si, x.2)

theorem find?_stops_cons (x : Entry × Bool) (l : List (Entry × Bool)) :
    ((x :: l).find? stops).map stopKey = (if stops x then some (stopKey x) else none).or ((l.find? stops).map stopKey) := by
  rw [List.find?_cons]
  cases stops x <;> rfl

theorem relStep_kid (lang : Lang) (pid si : Nat) (c : Tree) (e : Entry) (ht : e.t = c) (hsi : e.si = si) :
    (if stops (e, c.data.visible || (!c.data.extra && lang.aliasAt pid si != 0)) then
      some (stopKey (e, c.data.visible || (!c.data.extra && lang.aliasAt pid si != 0))) else none) = relStep lang pid si c := by
  subst ht hsi
  unfold relStep stops stopKey
  cases (e.t.data.visible || (!e.t.data.extra && lang.aliasAt pid e.si != 0))
  · by_cases hk : vcc e.t > 0 <;> simp [hk]
  · rfl

theorem kidsFrom_firstRel (lang : Lang) (par : Tree) : ∀ (ks : List Tree) (pos : Length) (k si d : Nat),
    ((kidsFrom lang par ks pos k si d).find? stops).map stopKey = firstRel lang par.data.productionId ks si
  | [], _, _, _, _ => rfl
  | c :: rest, pos, k, si, d => by
    rw [kidsFrom, find?_stops_cons, relStep_kid lang _ si c _ rfl rfl, kidsFrom_firstRel lang par rest, firstRel_cons]

theorem kidsFrom_lastRel (lang : Lang) (par : Tree) : ∀ (ks : List Tree) (pos : Length) (k si d : Nat),
    ((kidsFrom lang par ks pos k si d).reverse.find? stops).map stopKey = lastRel lang par.data.productionId ks si
  | [], _, _, _, _ => rfl
  | c :: rest, pos, k, si, d => by
    rw [kidsFrom, List.reverse_cons, List.find?_append, Option.map_or, kidsFrom_lastRel lang par rest, find?_stops_cons,
      relStep_kid lang _ si c _ rfl rfl, List.find?_nil, Option.map_none, Option.or_none, lastRel_cons]

theorem firstGo_spec (lang : Lang) : ∀ (fuel : Nat) (it : Iter), it.valid = true →
    it.parent.kids.length - it.childIndex < fuel →
    ((firstChildInternal.go lang fuel it).2.map fun e => (e.t, e.si)) =
      ((firstRel lang it.parent.data.productionId (it.parent.kids.drop it.childIndex) it.si).map fun r => (r.1, r.2.1)) ∧
    ((firstChildInternal.go lang fuel it).1 =
      match firstRel lang it.parent.data.productionId (it.parent.kids.drop it.childIndex) it.si with
      | some (_, _, true) => Step.visible
      | some (_, _, false) => Step.hidden
      | none => Step.none) := by
  intro fuel it hv hf
  rw [firstGo_run, run_full lang fuel it hv hf, ← kidsFrom_firstRel lang it.parent _ it.pos it.childIndex it.si it.descIdx, ← ahead]
  cases (ahead lang it).find? stops with
  | none => exact ⟨rfl, rfl⟩
  | some x => obtain ⟨e, vis⟩ := x; cases vis <;> exact ⟨rfl, rfl⟩

def bestOf : Step × Option Entry → Option (Tree × Nat × Bool)
  | (.visible, some e) => some (e.t, e.si, true)
  | (.hidden, some e) => some (e.t, e.si, false)
  | _ => none

theorem bestOf_stepOf (o : Option (Entry × Bool)) : bestOf (stepOf o) = o.map stopKey := by
  cases o with
  | none => rfl
  | some x => obtain ⟨x, b⟩ := x; cases b <;> rfl

theorem bestOf_scan_cons (adv : Iter → Option (Entry × Bool × Iter)) (fuel : Nat) (it it' : Iter) (x : Entry × Bool)
    (h : adv it = some (x.1, x.2, it')) :
    bestOf (scanSiblings adv (fuel + 1) it) =
      (if stops x then some (stopKey x) else none).or (bestOf (scanSiblings adv fuel it')) := by
  rw [scanSiblings_run, scanSiblings_run, bestOf_stepOf, bestOf_stepOf, run, h]
  exact find?_stops_cons x _

theorem lastGo_spec (lang : Lang) : ∀ (fuel : Nat) (it : Iter) (best : Step × Option Entry), it.valid = true →
    it.parent.kids.length - it.childIndex < fuel →
    bestOf (lastChildInternal.go lang fuel it best) =
      (lastRel lang it.parent.data.productionId (it.parent.kids.drop it.childIndex) it.si).or (bestOf best) := by
  intro fuel it best hv hf
  rw [lastGo_run, run_full lang fuel it hv hf, ← kidsFrom_lastRel lang it.parent _ it.pos it.childIndex it.si it.descIdx, ← ahead]
  cases (ahead lang it).reverse.find? stops with
  | none => rfl
  | some x => obtain ⟨e, vis⟩ := x; cases vis <;> rfl

theorem iterateChildren_parent (lang : Lang) (top : Entry) (p? : Option Entry) :
    (iterateChildren lang top p?).parent = top.t := by
  unfold iterateChildren
  split <;> rfl

theorem iterateChildren_invalid (lang : Lang) (top : Entry) (p? : Option Entry) (he : top.t.kids.isEmpty = true) :
    iterNext lang (iterateChildren lang top p?) = none := by
  unfold iterateChildren iterNext
  simp [he]

theorem iterateChildren_of_ne (lang : Lang) (top : Entry) (p? : Option Entry) (h : top.t.kids.isEmpty = false) :
    iterateChildren lang top p? =
      { valid := true, parent := top.t, pos := top.pos, childIndex := 0, si := 0,
        descIdx := top.descIdx + (if isEntryVisible lang top p? then 1 else 0) } := by
  rw [iterateChildren, if_neg (by simp [h])]

theorem run_children (lang : Lang) (top : Entry) (p? : Option Entry) :
    run (iterNext lang) (top.t.kids.length + 1) (iterateChildren lang top p?) =
      kidsFrom lang top.t top.t.kids top.pos 0 0 (top.descIdx + (if isEntryVisible lang top p? then 1 else 0)) := by
  by_cases hempty : top.t.kids.isEmpty = true
  · rw [run_next, List.isEmpty_iff.mp hempty]
    simp [iterateChildren, hempty, kidsFrom]
  · rw [iterateChildren_of_ne lang top p? (eq_false_of_ne_true hempty), run_full _ _ _ rfl (by simp only [Nat.sub_zero]; omega)]
    rfl

theorem siblingIter_parent (lang : Lang) (e p : Entry) (p? : Option Entry) : (siblingIter lang e p p?).parent = p.t :=
  iterateChildren_parent lang p p?

theorem siblingIter_childIndex (lang : Lang) (e p : Entry) (p? : Option Entry) : (siblingIter lang e p p?).childIndex = e.childIndex := rfl

theorem siblingIter_valid (lang : Lang) (e p : Entry) (p? : Option Entry) (c : Tree) (h : p.t.kids[e.childIndex]? = some c) :
    (siblingIter lang e p p?).valid = true := by
  cases hk : p.t.kids with
  | nil => simp [hk] at h
  | cons a b => simp [siblingIter, iterateChildren, hk]

/-- Visible nodes contained in the raw children `kids` (each child's visible descendants, plus the
child itself when visible or aliased), structural index threaded from `si`: what
`ts_tree_cursor_child_iterator_next` adds to `descendant_index` while passing them. -/
def descBefore (lang : Lang) (pid : Nat) : List Tree → Nat → Nat
  | [], _ => 0
  | c :: rest, si =>
    (vdc c + (if (c.data.visible || (!c.data.extra && lang.aliasAt pid si != 0)) then 1 else 0)) +
      descBefore lang pid rest (if c.data.extra then si else si + 1)

theorem descBefore_append (lang : Lang) (pid : Nat) : ∀ (a b : List Tree) (si : Nat),
    descBefore lang pid (a ++ b) si = descBefore lang pid a si + descBefore lang pid b (siAfter a si)
  | [], _, _ => by simp [descBefore, siAfter]
  | c :: a, b, si => by
    simp only [List.cons_append, descBefore, siAfter]
    rw [descBefore_append lang pid a b]
    omega

/-- The invariant of a child iterator over the children of `parent`, started with descendant
index `base`: structural index and descendant index are those of the child at `childIndex`. -/
def IterOK (lang : Lang) (base : Nat) (it : Iter) : Prop :=
  it.valid = true ∧
  it.si = siAfter (it.parent.kids.take it.childIndex) 0 ∧
  it.descIdx = base + descBefore lang it.parent.data.productionId (it.parent.kids.take it.childIndex) 0

/-- The invariant of an entry produced by such an iterator. -/
def EntryOK (lang : Lang) (parent : Tree) (base : Nat) (e : Entry) : Prop :=
  parent.kids[e.childIndex]? = some e.t ∧
  e.si = siAfter (parent.kids.take e.childIndex) 0 ∧
  e.descIdx = base + descBefore lang parent.data.productionId (parent.kids.take e.childIndex) 0

theorem kidsFrom_ok (lang : Lang) (base : Nat) (par : Tree) : ∀ (ks : List Tree) (pos : Length) (k si d : Nat),
    par.kids.drop k = ks → si = siAfter (par.kids.take k) 0 →
    d = base + descBefore lang par.data.productionId (par.kids.take k) 0 →
    ∀ x ∈ kidsFrom lang par ks pos k si d, EntryOK lang par base x.1
  | [], _, _, _, _, _, _, _, _, h => nomatch h
  | c :: rest, pos, k, si, d, hk, hsi, hd, x, hx => by
    obtain ⟨hc, hrest⟩ := getElem?_of_drop hk
    rw [kidsFrom] at hx
    rcases List.mem_cons.mp hx with rfl | hx
    · exact ⟨hc, hsi, hd⟩
    · refine kidsFrom_ok lang base par rest _ _ _ _ hrest ?_ ?_ x hx
      · rw [take_succ_of_getElem? _ _ _ hc, siAfter_append, ← hsi]; rfl
      · rw [take_succ_of_getElem? _ _ _ hc, descBefore_append, ← hsi, hd]
        simp only [descBefore]
        omega

theorem nextIter_ok (lang : Lang) (base : Nat) (it : Iter) (c : Tree) (h : IterOK lang base it)
    (hc : it.parent.kids[it.childIndex]? = some c) : IterOK lang base (nextIter lang it c) := by
  obtain ⟨hv, hsi, hd⟩ := h
  refine ⟨by simp [nextIter, hv], ?_, ?_⟩
  · simp only [nextIter_si, nextIter_parent, nextIter_childIndex]
    rw [take_succ_of_getElem? _ _ _ hc, siAfter_append, ← hsi]
    simp [siAfter]
  · simp only [nextIter]
    rw [take_succ_of_getElem? _ _ _ hc, descBefore_append, ← hsi, hd]
    simp only [descBefore]
    omega

theorem entryOf_ok (lang : Lang) (base : Nat) (it : Iter) (c : Tree) (h : IterOK lang base it)
    (hc : it.parent.kids[it.childIndex]? = some c) : EntryOK lang it.parent base (entryOf it c) := by
  obtain ⟨_, hsi, hd⟩ := h
  exact ⟨hc, hsi, hd⟩

theorem siblingIter_ok (lang : Lang) (e p : Entry) (p? : Option Entry) (base : Nat) (h : EntryOK lang p.t base e) :
    IterOK lang base (siblingIter lang e p p?) :=
  ⟨siblingIter_valid lang e p _ _ h.1, by rw [siblingIter_parent]; exact h.2.1, by rw [siblingIter_parent]; exact h.2.2⟩

theorem iterateChildren_ok (lang : Lang) (top : Entry) (p? : Option Entry) (hne : top.t.kids.isEmpty = false) :
    IterOK lang (top.descIdx + (if isEntryVisible lang top p? then 1 else 0)) (iterateChildren lang top p?) := by
  unfold iterateChildren IterOK
  simp [hne, siAfter, descBefore]

def prevIndex (it : Iter) : Nat := if it.childIndex == 0 then u32max else it.childIndex - 1

theorem prevIndex_zero (it : Iter) (h : it.childIndex = 0) : prevIndex it = u32max := by simp [prevIndex, h]
theorem prevIndex_pos (it : Iter) (h : it.childIndex ≠ 0) : prevIndex it = it.childIndex - 1 := by simp [prevIndex, h]

/-- The child entered when stepping back (none when stepping back from the first child). -/
def prevOf (it : Iter) : Option Tree :=
  if prevIndex it < it.parent.kids.length then it.parent.kids[prevIndex it]? else none

/-- The iterator after the repaired `iterPrev` stepped back over child `c` (at `it.childIndex`). -/
def prevIter (lang : Lang) (it : Iter) (c : Tree) : Iter :=
  match prevOf it with
  | some prev =>
    { it with pos := length_backtrack (length_backtrack it.pos c.data.padding) prev.data.size
              childIndex := prevIndex it
              si := if prev.data.extra then it.si else it.si - 1
              descIdx := it.descIdx - (vdc prev + (if (prev.data.visible || (!prev.data.extra &&
                lang.aliasAt it.parent.data.productionId (if prev.data.extra then it.si else it.si - 1) != 0)) then 1 else 0)) }
  | none => { it with pos := length_backtrack it.pos c.data.padding, childIndex := prevIndex it }

/-- `hn`: the C iterator steps back by `child_index--` on a `uint32_t` and tests `child_index == UINT32_MAX` for "before the
first child"; with 2³² − 1 children or more a real index would be taken for that end.  The bound is carried from here to
`cursor_prev_sibling_spec`. -/
theorem iterPrev_some (lang : Lang) (it : Iter) (c : Tree) (hv : it.valid = true)
    (hc : it.parent.kids[it.childIndex]? = some c) (hn : it.parent.kids.length ≤ u32max) :
    iterPrev lang Quirks.none it = some (entryOf it c, visOf lang it c, prevIter lang it c) := by
  have hlt := lt_of_getElem?_some _ _ _ hc
  have hne : (it.childIndex == u32max) = false := by
    simp only [beq_eq_false_iff_ne, ne_eq]; omega
  unfold iterPrev prevIter prevOf prevIndex entryOf visOf
  simp only [Quirks.none, hv, hne, hc, Bool.not_true, Bool.or_self, Bool.false_eq_true, if_false]
  cases hp : (if (if it.childIndex == 0 then u32max else it.childIndex - 1) < it.parent.kids.length
      then it.parent.kids[(if it.childIndex == 0 then u32max else it.childIndex - 1)]? else none) <;> simp

theorem prevIter_parent (lang : Lang) (it : Iter) (c : Tree) : (prevIter lang it c).parent = it.parent := by
  unfold prevIter; cases prevOf it <;> rfl
theorem prevIter_valid (lang : Lang) (it : Iter) (c : Tree) : (prevIter lang it c).valid = it.valid := by
  unfold prevIter; cases prevOf it <;> rfl
theorem prevIter_childIndex (lang : Lang) (it : Iter) (c : Tree) : (prevIter lang it c).childIndex = prevIndex it := by
  unfold prevIter; cases prevOf it <;> rfl

theorem iterPrev_none (lang : Lang) (it : Iter) (h : it.childIndex = u32max) : iterPrev lang Quirks.none it = none := by
  unfold iterPrev
  simp [Quirks.none, h]

theorem prevIter_ok (lang : Lang) (base : Nat) (it : Iter) (c : Tree) (h : IterOK lang base it)
    (hpos : it.childIndex > 0) (hlt : it.childIndex < it.parent.kids.length) (hn : it.parent.kids.length ≤ u32max) :
    IterOK lang base (prevIter lang it c) := by
  obtain ⟨hv, hsi, hd⟩ := h
  have hpi := prevIndex_pos it (Nat.ne_of_gt hpos)
  have hlt' : it.childIndex - 1 < it.parent.kids.length := by omega
  have hget : it.parent.kids[it.childIndex - 1]? = some (it.parent.kids[it.childIndex - 1]) := by simp [hlt']
  have hpo : prevOf it = some (it.parent.kids[it.childIndex - 1]) := by
    unfold prevOf; rw [hpi]; simp [hlt']
  have htake : it.parent.kids.take it.childIndex = it.parent.kids.take (it.childIndex - 1) ++ [it.parent.kids[it.childIndex - 1]] := by
    have := take_succ_of_getElem? it.parent.kids (it.childIndex - 1) _ hget
    have e : it.childIndex - 1 + 1 = it.childIndex := by omega
    rwa [e] at this
  unfold prevIter
  rw [hpo]
  refine ⟨hv, ?_, ?_⟩
  · simp only [hpi]
    rw [htake, siAfter_append] at hsi
    simp only [siAfter] at hsi
    by_cases hx : (it.parent.kids[it.childIndex - 1]).data.extra = true
    · simp only [hx, if_true] at hsi ⊢; exact hsi
    · simp only [hx, Bool.false_eq_true, if_false] at hsi ⊢; omega
  · simp only [hpi]
    rw [htake, siAfter_append] at hsi
    rw [htake, descBefore_append] at hd
    simp only [descBefore, siAfter] at hd hsi
    by_cases hx : (it.parent.kids[it.childIndex - 1]).data.extra = true
    · simp only [hx, if_true, Bool.not_true, Bool.false_and, Bool.or_false] at hd hsi ⊢
      clear hpi hget hpo htake hn hpos hsi
      omega
    · simp only [hx, Bool.false_eq_true, if_false, Bool.not_false, Bool.true_and] at hd hsi ⊢
      rw [hsi, Nat.add_sub_cancel]
      clear hpi hget hpo htake hn hpos hsi
      omega

/-- The reverse iterator of the unchanged code returns "no more siblings"
at EVERY child index ≡ 255 (mod 256), whatever the parent and however many children precede. -/
theorem iterPrev_int8_stops (lang : Lang) (it : Iter) (h : it.childIndex % 256 = 255) :
    iterPrev lang Quirks.current it = none := by
  simp [iterPrev, Quirks.current, h]

theorem iterPrev_fixed_steps (lang : Lang) (it : Iter) (hv : it.valid = true)
    (hi : it.childIndex < it.parent.kids.length) (hn : it.parent.kids.length ≤ u32max) :
    (iterPrev lang Quirks.none it).map (fun r => r.1.t) = it.parent.kids[it.childIndex]? := by
  rw [iterPrev_some lang it _ hv (List.getElem?_eq_getElem hi) hn, List.getElem?_eq_getElem hi]
  rfl

/-- Stepping the REPAIRED reverse iterator from the state the forward
iterator reached brings back the child index, the structural index and the descendant index the
forward iterator had — i.e. it is a reverse of `ts_tree_cursor_child_iterator_next`.
(Positions are restored too when the skipped paddings/sizes have no rows; otherwise the caller
recomputes them — `recomputePosition`.) -/
theorem iterPrev_undoes_iterNext (lang : Lang) (it it' : Iter) (e : Entry) (vis : Bool)
    (hnext : iterNext lang it = some (e, vis, it'))
    (hmore : it'.childIndex < it.parent.kids.length) (hn : it.parent.kids.length ≤ u32max) :
    (iterPrev lang Quirks.none it').map (fun r => (r.2.2.childIndex, r.2.2.si, r.2.2.descIdx, r.2.2.parent)) =
      some (it.childIndex, it.si, it.descIdx, it.parent) := by
  unfold iterNext at hnext
  by_cases hv : (!it.valid || it.childIndex == it.parent.kids.length) = true
  · simp [hv] at hnext
  · simp only [hv, if_false, Bool.false_eq_true] at hnext
    cases hc : it.parent.kids[it.childIndex]? with
    | none => simp [hc] at hnext
    | some child =>
      simp only [hc, Option.some.injEq, Prod.mk.injEq] at hnext
      obtain ⟨he, hvis, hit⟩ := hnext
      subst hit
      simp only at hmore ⊢
      have hvalid : it.valid = true := by
        cases h : it.valid <;> simp [h] at hv ⊢
      have hne : (it.childIndex + 1 == u32max) = false := by
        simp only [beq_eq_false_iff_ne, ne_eq]; omega
      have hget : it.parent.kids[it.childIndex + 1]? = some (it.parent.kids[it.childIndex + 1]) := by simp [hmore]
      have hlt : it.childIndex < it.parent.kids.length := by omega
      have h10 : (it.childIndex + 1 == 0) = false := by simp
      unfold iterPrev
      simp only [Quirks.none, hvalid, hne, hget, Bool.not_true, Bool.or_self, Bool.false_eq_true, if_false,
        Nat.add_sub_cancel, h10]
      rw [if_pos hlt, hc]
      simp only [Option.map_some, Option.some.injEq, Prod.mk.injEq, true_and, and_true]
      by_cases hx : child.data.extra = true <;> simp [hx] <;> omega

theorem lastRel_snoc (lang : Lang) (pid : Nat) (c : Tree) (a : List Tree) (si : Nat) :
    lastRel lang pid (a ++ [c]) si = (relStep lang pid (siAfter a si) c).or (lastRel lang pid a si) := by
  simp only [lastRel_eq, withSi_append, withSi, List.reverse_append, List.reverse_cons, List.reverse_nil, List.nil_append,
    List.singleton_append, List.findSome?_cons]
  cases relStep lang pid (siAfter a si) c <;> rfl

theorem scanPrev_none (lang : Lang) (fuel : Nat) (it : Iter) (h : it.childIndex = u32max) :
    scanSiblings (iterPrev lang Quirks.none) fuel it = (Step.none, none) := by
  cases fuel with
  | zero => rfl
  | succ f => unfold scanSiblings; rw [iterPrev_none lang it h]

/-- Scanning back from child `i` stops where `lastRel` of the first `i + 1` children says: the child at `i` is the LAST of
them, so it decides if the scan stops there (`lastRel_snoc`), and otherwise the scan from `i - 1` answers. -/
theorem prevScan_spec (lang : Lang) (base : Nat) : ∀ (i fuel : Nat) (it : Iter), IterOK lang base it →
    it.childIndex = i → i < it.parent.kids.length → it.parent.kids.length ≤ u32max → i + 1 < fuel →
    bestOf (scanSiblings (iterPrev lang Quirks.none) fuel it) =
      lastRel lang it.parent.data.productionId (it.parent.kids.take (i + 1)) 0 := by
  intro i fuel
  induction fuel generalizing i with
  | zero => intro _ _ _ _ _ hf; omega
  | succ fuel ih =>
    intro it hok hi hlt hn hf
    have hget : it.parent.kids[it.childIndex]? = some (it.parent.kids[i]) := by
      rw [hi]; simp [hlt]
    have htake : it.parent.kids.take (i + 1) = it.parent.kids.take i ++ [it.parent.kids[i]] :=
      take_succ_of_getElem? _ _ _ (by simp [hlt])
    have hsi : siAfter (it.parent.kids.take i) 0 = it.si := by rw [← hi]; exact hok.2.1.symm
    rw [bestOf_scan_cons _ fuel it _ (entryOf it _, visOf lang it _) (iterPrev_some lang it _ hok.1 hget hn), htake,
      lastRel_snoc, hsi]
    unfold visOf
    rw [relStep_kid lang _ it.si (it.parent.kids[i]) (entryOf it _) rfl rfl]
    refine congrArg (Option.or _) ?_
    cases i with
    | zero => rw [scanPrev_none lang _ _ (by rw [prevIter_childIndex, prevIndex_zero it hi])]; rfl
    | succ j =>
      have hok' := prevIter_ok lang base it (it.parent.kids[j + 1]) hok (by omega) (by omega) hn
      have hci : (prevIter lang it (it.parent.kids[j + 1])).childIndex = j := by
        rw [prevIter_childIndex, prevIndex_pos it (by omega)]; omega
      have ih := ih j (prevIter lang it (it.parent.kids[j + 1])) hok' hci
        (by rw [prevIter_parent]; omega) (by rw [prevIter_parent]; exact hn) (by omega)
      rw [prevIter_parent] at ih
      exact ih

theorem prevScan_entry_ok (lang : Lang) (base : Nat) : ∀ (fuel : Nat) (it : Iter), IterOK lang base it →
    it.childIndex < it.parent.kids.length → it.parent.kids.length ≤ u32max →
    ∀ e, (scanSiblings (iterPrev lang Quirks.none) fuel it).2 = some e → EntryOK lang it.parent base e
  | 0, _, _, _, _, e, h => by simp [scanSiblings] at h
  | fuel + 1, it, hok, hlt, hn, e, h => by
    have hget : it.parent.kids[it.childIndex]? = some (it.parent.kids[it.childIndex]) := by simp [hlt]
    unfold scanSiblings at h
    rw [iterPrev_some lang it _ hok.1 hget hn] at h
    simp only at h
    split at h
    · simp only [Option.some.injEq] at h; rw [← h]; exact entryOf_ok lang base it _ hok hget
    · split at h
      · simp only [Option.some.injEq] at h; rw [← h]; exact entryOf_ok lang base it _ hok hget
      · by_cases hz : it.childIndex = 0
        · have hcu : (prevIter lang it (it.parent.kids[it.childIndex])).childIndex = u32max := by
            rw [prevIter_childIndex, prevIndex_zero it hz]
          rw [scanPrev_none lang _ _ hcu] at h
          simp at h
        · have hok' := prevIter_ok lang base it (it.parent.kids[it.childIndex]) hok (by omega) hlt hn
          have hci : (prevIter lang it (it.parent.kids[it.childIndex])).childIndex = it.childIndex - 1 := by
            rw [prevIter_childIndex, prevIndex_pos it hz]
          have := prevScan_entry_ok lang base fuel _ hok' (by rw [hci, prevIter_parent]; omega)
            (by rw [prevIter_parent]; exact hn) e h
          rwa [prevIter_parent] at this

theorem prevScan_from (lang : Lang) (base : Nat) (it : Iter) (c : Tree) (fuel : Nat) (hok : IterOK lang base it)
    (hlt : it.childIndex < it.parent.kids.length) (hn : it.parent.kids.length ≤ u32max) (hf : it.childIndex + 1 < fuel) :
    bestOf (scanSiblings (iterPrev lang Quirks.none) fuel (prevIter lang it c)) =
      lastRel lang it.parent.data.productionId (it.parent.kids.take it.childIndex) 0 ∧
    ∀ e, (scanSiblings (iterPrev lang Quirks.none) fuel (prevIter lang it c)).2 = some e → EntryOK lang it.parent base e := by
  by_cases hz : it.childIndex = 0
  · have hcu : (prevIter lang it c).childIndex = u32max := by rw [prevIter_childIndex, prevIndex_zero it hz]
    rw [scanPrev_none lang _ _ hcu, hz]
    exact ⟨rfl, fun e he => by simp at he⟩
  · have hok1 := prevIter_ok lang base it c hok (by omega) hlt hn
    have hcj : (prevIter lang it c).childIndex = it.childIndex - 1 := by rw [prevIter_childIndex, prevIndex_pos it hz]
    have h1 := prevScan_spec lang base (it.childIndex - 1) fuel (prevIter lang it c) hok1 hcj
      (by rw [prevIter_parent]; omega) (by rw [prevIter_parent]; exact hn) (by omega)
    have h2 := prevScan_entry_ok lang base fuel (prevIter lang it c) hok1 (by rw [hcj, prevIter_parent]; omega)
      (by rw [prevIter_parent]; exact hn)
    rw [prevIter_parent] at h1 h2
    rw [show it.childIndex - 1 + 1 = it.childIndex by omega] at h1
    exact ⟨h1, h2⟩

def wLeaf (extra : Bool) : Tree :=
  .mk { (default : NodeData) with symbol := 1, visible := true, named := true, extra := extra
                                  size := ⟨1, ⟨0, 1⟩⟩, ext := "-" } []

def wideParent : Tree := .mk { (default : NodeData) with symbol := 2, visible := true, named := true, ext := "-" }
  (List.replicate 300 (wLeaf false))

def wideIter : Iter := { valid := true, parent := wideParent, pos := length_zero, childIndex := 255, si := 255, descIdx := 256 }

/-- Child 255 of 300 has 255 earlier siblings, yet the current reverse iterator
reports none; the repaired one steps.  (This is `goto_previous_sibling` returning false at once on
`(` + 254 comments + `)`.) -/
theorem int8_witness :
    (iterPrev {} Quirks.current wideIter).isNone = true ∧ (iterPrev {} Quirks.none wideIter).isSome = true := by
  constructor
  · rw [iterPrev_int8_stops _ _ (by decide)]; rfl
  · have hk : wideIter.parent.kids = List.replicate 300 (wLeaf false) := rfl
    have hlen : wideIter.parent.kids.length = 300 := by rw [hk]; exact List.length_replicate
    have h := iterPrev_fixed_steps {} wideIter rfl (by rw [hlen]; decide) (by rw [hlen]; decide)
    have hs : (wideIter.parent.kids[wideIter.childIndex]?).isSome = true := by
      rw [hk]
      show ((List.replicate 300 (wLeaf false))[255]?).isSome = true
      rw [List.getElem?_replicate]
      decide
    rw [← h] at hs
    simpa using hs

/-- Children [a, b, extra]; stepping back from the extra
(structural index 2 = "next structural child") the current code arrives at `b` still with index 2
(should be 1), the repaired code with 1. -/
example :
    let p : Tree := .mk { (default : NodeData) with symbol := 2, visible := true, productionId := 1, ext := "-" }
                      [wLeaf false, wLeaf false, wLeaf true]
    let it : Iter := { valid := true, parent := p, pos := length_zero, childIndex := 2, si := 2, descIdx := 3 }
    ((iterPrev {} Quirks.current it).map fun r => r.2.2.si) = some 2 ∧
    ((iterPrev {} Quirks.none it).map fun r => r.2.2.si) = some 1 ∧
    ((iterPrev {} Quirks.none it).map fun r => r.2.2.descIdx) = some 2 := by
  decide

end TsVerif.C06
