import TsVerif.C06.Cursor
/-!
C06, tree_cursor.c: `ts_tree_cursor_goto_first_child_for_byte` / `_for_point`
(`ts_tree_cursor_goto_first_child_for_byte_and_point`).

`cursor_first_child_for_spec`: if the search meets no dead end (`ndeCur`: every hidden child it enters —
it ends after the goal and has visible children — contains a visible child ending after the goal), the
port returns what the plain search `cfcIdeal` returns: the first visible child, in order, hidden
children replaced by theirs, whose end lies after the goal (in bytes and in row/column order), together
with its index among the visible children, the new stack being that child on top of the hidden entries
passed through.  Without the hypothesis the C code returns -1 after the first unsuccessful descent
(finding 9: cursor-first-child-for-byte-dead-end); the plain search continues with the next sibling.
-/
open TsVerif TsVerif.C02 TsGen

namespace TsVerif.C06

abbrev cfcScan (lang : Lang) (gb : Nat) (gp : TSPoint) := gotoFirstChildFor.scan lang gb gp
abbrev cfcGo (lang : Lang) (gb : Nat) (gp : TSPoint) := gotoFirstChildFor.go lang gb gp

def cfcAfter (lang : Lang) (gb : Nat) (gp : TSPoint) (f : Nat) (st : List Entry) : Nat × Option (Entry × Bool) → Option (Nat × List Entry)
  | (idx, some (e, true)) => some (idx, e :: st)
  | (idx, some (e, false)) => cfcGo lang gb gp f (e :: st) idx
  | (_, none) => none

/-- The port's scan, the plain scan and the "no dead end" test `n` branch alike.  A map `F` takes one branching to
another if it does so on each branch on which the test holds. -/
theorem branch_alike {α β : Type} {G : Prop} [Decidable G] {F : α → β} {a a' : α} {b b' : β} {n n' : Bool}
    (h : (if G then n else n') = true) (h1 : n = true → F a = b) (h2 : n' = true → F a' = b') :
    F (if G then a else a') = if G then b else b' := by
  by_cases hG : G
  · rw [if_pos hG] at h
    rw [if_pos hG, if_pos hG]
    exact h1 h
  · rw [if_neg hG] at h
    rw [if_neg hG, if_neg hG]
    exact h2 h

theorem cfc_scan_spec (lang : Lang) (gb : Nat) (gp : TSPoint) (f : Nat) (st : List Entry)
    (ih : ∀ st' idx, ndeCur lang gb gp f st' idx = true → cfcGo lang gb gp f st' idx = cfcIdeal lang gb gp f st' idx) :
    ∀ (g : Nat) (it : Iter) (idx : Nat),
    cfcScanNde lang gb gp (cfcIdeal lang gb gp f) (ndeCur lang gb gp f) st g it idx = true →
    cfcAfter lang gb gp f st (cfcScan lang gb gp g it idx) = cfcScanIdeal lang gb gp (cfcIdeal lang gb gp f) st g it idx := by
  intro g
  induction g with
  | zero => exact fun _ _ _ => rfl
  | succ g ihg =>
    intro it idx h
    unfold cfcScanNde at h
    unfold cfcScanIdeal cfcScan gotoFirstChildFor.scan
    cases hn : iterNext lang it with
    | none => rfl
    | some r =>
      obtain ⟨e, vis, it'⟩ := r
      rw [hn] at h
      -- the child ends after the goal or not; is visible or not; has visible children or not
      refine branch_alike h
        (fun h => branch_alike h (fun _ => rfl) fun h => branch_alike h (fun h2 => ?_) (ihg it' idx))
        (fun h => branch_alike h (ihg it' (idx + 1)) (ihg it' (idx + vcc e.t)))
      -- the hidden child is entered: by `ih` the port's descent is the plain search one level down, which finds something
      rw [Bool.and_eq_true] at h2
      show cfcGo lang gb gp f (e :: st) idx = _
      rw [ih (e :: st) idx h2.2]
      obtain ⟨r, hr⟩ := Option.isSome_iff_exists.mp h2.1
      rw [hr]

theorem cfc_go_spec (lang : Lang) (gb : Nat) (gp : TSPoint) : ∀ (f : Nat) (st : List Entry) (idx : Nat),
    ndeCur lang gb gp f st idx = true → cfcGo lang gb gp f st idx = cfcIdeal lang gb gp f st idx := by
  intro f
  induction f with
  | zero => exact fun _ _ _ => rfl
  | succ f ihf =>
    intro st idx h
    cases st with
    | nil => rfl
    | cons top rest => exact cfc_scan_spec lang gb gp f (top :: rest) ihf _ _ idx h

/-- For every language, every cursor (any stack) and every goal (byte
and point): without a dead end (`ndeCur`) the port of `ts_tree_cursor_goto_first_child_for_byte_and_point`
returns the index and the stack the plain search `cfcIdeal` finds, and -1 with the cursor unchanged
exactly when the plain search finds nothing. -/
theorem cursor_first_child_for_spec (lang : Lang) (gb : Nat) (gp : TSPoint) (c : Cursor)
    (h : ndeCur lang gb gp (topSize c.stack) c.stack 0 = true) :
    gotoFirstChildFor lang gb gp c =
      (match cfcIdeal lang gb gp (topSize c.stack) c.stack 0 with
       | some (idx, st) => ((idx : Int), { c with stack := st })
       | none => (-1, c)) := by
  rw [← cfc_go_spec lang gb gp (topSize c.stack) c.stack 0 h]
  rfl

end TsVerif.C06
