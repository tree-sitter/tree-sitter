import TsVerif.C06.RangeFlat
/-!
# C06 — the byte-range search over ALL nodes on `FT`

`ts_node_descendant_for_byte_range` is `ts_node_named_descendant_for_byte_range` with every visible node counting:
`descendant_for_byte_range_ft_spec` is the case `nm = false` of `named_descendant_for_byte_range_ft_spec` (`RangeFlat.lean`), and
that one line is its proof.  The other statements of the file are the link-by-link form for this flag — on `dfrIdeal`, the function
the driver evaluates for `ts_node_descendant_for_byte_range`, without a flag argument: readings of `RangeFlat.lean` /
`RangeSearch.lean` with `anon = true` put in; the main theorem does not pass through them.
-/
open TsVerif TsVerif.C02 TsGen
namespace TsVerif.C06

/-- The search of `FT.descendantForBytes` written on `TSNode`s. -/
def vgo (lang : Lang) (rs re : Nat) : Nat → NodeRef → NodeRef → NodeRef
  | 0, _, last => last
  | f + 1, self, last =>
    match (enumRefs lang self.t self.start).find? (fun r => decide (r.endByte ≥ re)) with
    | none => last
    | some r => if rs < r.startByte then last else vgo lang rs re f r r

theorem vgo_eq_vgoA (lang : Lang) (rs re : Nat) : ∀ (f : Nat) (self last : NodeRef),
    vgo lang rs re f self last = vgoA lang true rs re f self last
  | 0, _, _ => rfl
  | f + 1, self, last => by
    rw [vgo, vgoA]
    simp only [vgo_eq_vgoA lang rs re f]
    cases hf : (enumRefs lang self.t self.start).find? (fun r => decide (r.endByte ≥ re)) with
    | none => rfl
    | some r => simp only [enumRefs_relevant lang _ _ r (List.mem_of_find?_eq_some hf), if_true]

theorem dfrIdeal_fuel (lang : Lang) (rs re : Nat) : ∀ (n : Nat) (node : NodeRef), node.t.size ≤ n → ∀ (f1 f2 : Nat) (last : NodeRef),
    node.t.size ≤ f1 → node.t.size ≤ f2 → dfrIdeal lang rs re f1 node last = dfrIdeal lang rs re f2 node last := by
  intro _ node _ f1 f2 last h1 h2
  rw [dfrIdeal_eq_A, dfrIdealA_eq_descend]
  exact raw_fuel lang _ _ _ node f1 f2 last h1 h2

theorem ftgo_step (lang : Lang) (ft : FT) (rs re : Nat) (hr : rs < re) (info : VInfo) (kids : List VTree) (k : Nat)
    (par : Option Nat) (dep : Nat) (hg : GoodAt ft.toList (.mk info kids) k par dep) (hq : QQ lang (.mk info kids)) (f last : Nat) :
    (∃ c vi vk, FT.descendantForBytes.go ft rs re false (f + 1) k last = FT.descendantForBytes.go ft rs re false f c c ∧
        GoodAt ft.toList (.mk vi vk) c (some k) (dep + 1) ∧ QQ lang (.mk vi vk) ∧ (.mk vi vk) ∈ kids ∧
        (enumRefs lang info.raw info.start).find? (fun r => decide (r.endByte ≥ re)) = some (refOf vi) ∧ ¬ (rs < (refOf vi).startByte)) ∨
    (FT.descendantForBytes.go ft rs re false (f + 1) k last = last ∧
      (match (enumRefs lang info.raw info.start).find? (fun r => decide (r.endByte ≥ re)) with
       | none => True
       | some r => rs < r.startByte)) := by
  rcases ftgo_stepA lang ft false rs re hr info kids k par dep hg hq f last with h | ⟨h1, h2⟩
  · exact Or.inl (by simpa only [Bool.not_false, Bool.true_or, if_true] using h)
  · refine Or.inr ⟨h1, ?_⟩
    cases hf : (enumRefs lang info.raw info.start).find? (fun r => decide (r.endByte ≥ re)) with
    | none => trivial
    | some r => rw [hf] at h2; exact h2

theorem ftgo_fuel (lang : Lang) (ft : FT) (rs re : Nat) : ∀ (n : Nat) (info : VInfo) (kids : List VTree) (k : Nat)
    (par : Option Nat) (dep : Nat), GoodAt ft.toList (.mk info kids) k par dep → vsize (.mk info kids) ≤ n →
    ∀ (f1 f2 last : Nat), vsize (.mk info kids) ≤ f1 → vsize (.mk info kids) ≤ f2 →
    FT.descendantForBytes.go ft rs re false f1 k last = FT.descendantForBytes.go ft rs re false f2 k last := by
  exact ftgo_fuelA lang ft false rs re

theorem ftgo_eq_vgo (lang : Lang) (ft : FT) (rs re : Nat) (hr : rs < re) : ∀ (f : Nat) (info : VInfo) (kids : List VTree) (k : Nat)
    (par : Option Nat) (dep : Nat), GoodAt ft.toList (.mk info kids) k par dep → QQ lang (.mk info kids) → ∀ (last : Nat),
    refOf (ft.node (FT.descendantForBytes.go ft rs re false f k last)).info =
      vgo lang rs re f (refOf info) (refOf (ft.node last).info) := by
  intro f info kids k par dep hg hq last
  rw [vgo_eq_vgoA]
  exact ftgo_eq_vgoA lang ft false rs re hr f info kids k par dep hg hq last

/-- What `dfrIdeal` does with the raw children still to be scanned / what the visible search does
with the visible children still to be scanned. -/
def dfrL (lang : Lang) (rs re f : Nat) (last : NodeRef) (raws : List RawChild) : NodeRef :=
  match raws.find? (spans rs re) with
  | none => last
  | some rc => dfrIdeal lang rs re f rc.node (if rc.node.relevant lang true then rc.node else last)
def dfrR (lang : Lang) (rs re : Nat) (last : NodeRef) (refs : List NodeRef) : NodeRef :=
  match refs.find? (fun r => decide (r.endByte ≥ re)) with
  | none => last
  | some r => if rs < r.startByte then last else dfrIdeal lang rs re r.t.size r r

theorem dfrL_eq_scanRaw (lang : Lang) (rs re f : Nat) (last : NodeRef) (raws : List RawChild) :
    dfrL lang rs re f last raws =
      scanRaw (dfrIdeal lang rs re) (keepIf fun r => r.relevant lang true) (spans rs re) (fun _ => false) f last raws := by
  rw [scanRaw_eq]
  rfl

theorem dfrR_eq_scanVis (lang : Lang) (rs re : Nat) (last : NodeRef) (refs : List NodeRef) :
    dfrR lang rs re last refs = scanVis (dfrIdeal lang rs re) (fun r _ => r) (reachB re) (afterB rs) last refs := by
  rw [scanVis_eq]
  simp only [afterB, decide_eq_true_eq]
  rfl

theorem dfr_step (lang : Lang) (rs re f : Nat) (hr : rs < re) (last : NodeRef) (rc : RawChild) (raws : List RawChild)
    (cpart refs : List NodeRef) (hpa : rc.posAfter.bytes = rc.node.endByte)
    (hX : if rc.node.relevant lang true then
            cpart = [rc.node] ∧ dfrIdeal lang rs re f rc.node rc.node = dfrIdeal lang rs re rc.node.t.size rc.node rc.node
          else dfrIdeal lang rs re f rc.node last = dfrR lang rs re last cpart)
    (hIH : dfrL lang rs re f last raws = dfrR lang rs re last refs)
    (hF1 : ∀ r ∈ refs, rc.node.endByte ≤ r.startByte)
    (hF2 : ∀ r ∈ cpart, rc.node.startByte ≤ r.startByte ∧ r.endByte ≤ rc.node.endByte)
    (hF3 : ∀ x ∈ raws, rc.node.endByte ≤ x.node.startByte) :
    dfrL lang rs re f last (rc :: raws) = dfrR lang rs re last (cpart ++ refs) := by
  have hse : rc.node.startByte ≤ rc.node.endByte := Nat.le_add_right _ _
  rw [dfrL_eq_scanRaw, dfrR_eq_scanVis]
  refine mono_step _ _ _ _ _ _ f last rc raws cpart refs (rc.node.relevant lang true) ?_
    (by rw [← dfrL_eq_scanRaw, ← dfrR_eq_scanVis]; exact hIH) ?_ (fun r hr' => ?_) (fun h r hr' => ?_) (fun h x hx => ?_)
  · cases hrel : rc.node.relevant lang true with
    | true => simpa only [hrel, if_true, keepIf, true_and] using hX
    | false =>
      simp only [hrel, Bool.false_eq_true, if_false, keepIf, true_and] at hX ⊢
      rw [hX, dfrR_eq_scanVis]
  · rw [Bool.eq_iff_iff]
    simp only [spans, hpa, reachB, afterB, Bool.and_eq_true, Bool.not_eq_true', decide_eq_true_eq, decide_eq_false_iff_not]
    omega
  · have := hF2 r hr'
    simp only [reachB, afterB, decide_eq_true_eq]
    exact ⟨fun h => by omega, fun h => by omega⟩
  · have := hF1 r hr'
    simp only [reachB, afterB, decide_eq_true_eq] at h ⊢
    omega
  · have := hF3 x hx
    simp only [reachB, afterB, decide_eq_true_eq] at h
    simp only [spans, Bool.and_eq_false_iff, decide_eq_false_iff_not]
    omega

theorem dfrH (lang : Lang) (rs re : Nat) (hr : rs < re) : ∀ (t : Tree) (al id : Nat) (start : Length) (last : NodeRef) (f : Nat),
    t.size ≤ f → Sized t →
    dfrIdeal lang rs re f ⟨t, al, id, start⟩ last = dfrR lang rs re last (enumRefs lang t start) := by
  intro t al id start last f hf hs
  rw [dfrR_eq_scanVis, dfrIdeal_eq_A, dfrIdealA_eq_descend, raw_vis (fun _ h => h) (monotone_bytes rs re hr) f ⟨t, al, id, start⟩ last hf hs]
  exact scanVis_congr _ _ _ _ _ _ _ (fun r hr' => by simp only [keepIf, enumRefs_relevant lang t start r hr', if_true])

theorem dfrHL (lang : Lang) (rs re : Nat) (hr : rs < re) : ∀ (kids : List Tree) (n : NodeRef) (pid nk : Nat) (pos : Length) (si k : Nat)
    (last : NodeRef) (f : Nat), Tree.sizeList kids ≤ f → SizedL kids →
    dfrL lang rs re f last (rawChildren.go lang n pid nk kids pos si k) =
      dfrR lang rs re last (enumRefsKids lang pid n.t.data.addr nk kids pos si k) := by
  intro kids n pid nk pos si k last f hf hs
  rw [dfrL_eq_scanRaw, dfrR_eq_scanVis, dfrIdeal_eq_A, dfrIdealA_eq_descend,
    raw_vis_kids (fun _ h => h) (monotone_bytes rs re hr) kids n pid nk pos si k last f hf hs]
  exact scanVis_congr _ _ _ _ _ _ _ (fun r hr' => by
    simp only [keepIf, enumRefsKids_relevant lang pid _ nk kids pos si k r hr', if_true])

theorem vgo_eq_dfr (lang : Lang) (rs re : Nat) (hr : rs < re) : ∀ (m : Nat) (self last : NodeRef) (F : Nat),
    self.t.size ≤ m → self.t.size ≤ F → Sized self.t → vgo lang rs re F self last = dfrIdeal lang rs re F self last := by
  intro m self last F hm hF hs
  rw [vgo_eq_vgoA, dfrIdeal_eq_A]
  exact vgoA_eq_dfr lang true rs re hr m self last F hm hF hs

/-- In the form the driver evaluates it: root summarized and parser-shaped, `ft` the preorder
array of `flatten`, `rootRef` the `TSNode` of entry 0, a NON-EMPTY byte range and fuel covering the raw
tree: the port of `ts_node_descendant_for_byte_range(rootRef, rs, re)` returns exactly the `TSNode` of
the entry `FT.descendantForBytes 0 rs re` designates. -/
theorem descendant_for_byte_range_ft_spec (lang : Lang) (root : Tree) (rootId : Nat) (ps : Option Nat) (fuel rs re : Nat)
    (hs : Summarized lang root) (hsh : shapeOK ps root = true) (hr : rs < re) :
    let ft : FT := flatOf (flatten lang root rootId)
    root.size ≤ fuel →
    descendantForByteRangePort lang fuel (refOf (ft.node 0).info) rs re true =
      (ft.descendantForBytes 0 rs re false).map (fun j => refOf (ft.node j).info) := by
  exact named_descendant_for_byte_range_ft_spec lang false root rootId ps fuel rs re hs hsh hr

/-- Non-vacuity: the hypotheses hold on the demo tree (range [1, 2]). -/
example := descendant_for_byte_range_ft_spec C02.demoLang pvRoot.t pvRoot.id none 8 1 2 pvRoot_summarized pvRoot_shape (by decide +kernel) (by decide +kernel)

end TsVerif.C06
