import TsVerif.C06.Model
import TsVerif.C06.Cursor
import TsVerif.C06.NodePort
import TsVerif.C06.Sexp
import TsVerif.C06.NodeNav
import TsVerif.C06.NodeFields
import TsVerif.C02.Judge
import Std.Data.HashMap
/-!
# C06 judge: every recorded API answer against the answer computed on `flatten` (from the dump)

The explorer prints one line per question, `o <node-index> <op> <args…> <answer…>`; `expected`
recomputes the answer part from the numbered visible tree alone (it never sees the API), in the
same textual format, and the two are compared as strings.
-/
namespace TsVerif.C06
open TsGen TsVerif TsVerif.C02

def hexDigit (n : Nat) : Char := if n < 10 then Char.ofNat (48 + n) else Char.ofNat (87 + n)

def toHex (n : Nat) : String :=
  if n == 0 then "0" else
  let rec go (fuel n : Nat) (acc : List Char) : List Char :=
    match fuel with
    | 0 => acc
    | fuel + 1 => if n == 0 then acc else go fuel (n / 16) (hexDigit (n % 16) :: acc)
  String.ofList (go 64 n [])

def hexOfString (s : String) : String :=
  String.ofList (s.toUTF8.toList.flatMap fun b => [hexDigit (b.toNat / 16), hexDigit (b.toNat % 16)])

structure Ctx where
  lang : Lang
  ft : FT
  vt : VTree
  byId : Std.HashMap Nat Nat
  /-- subtrees of the visible tree by preorder index (for rendering) -/
  sub : Array VTree
  /-- number of raw nodes of the tree (fuel bound for the ports' descent loops) -/
  rootSize : Nat := 0

def Ctx.idOf (c : Ctx) (k : Nat) : String := toHex (c.ft.node k).info.id
def Ctx.optId (c : Ctx) : Option Nat → String
  | some k => c.idOf k
  | none => "-"

/-- Cursor state `<id> <kind> <depth> <descendant index> <field id>` relative to a cursor rooted at `r`. -/
def Ctx.state (c : Ctx) (r k : Nat) : String :=
  let f := if k == r then 0 else c.ft.fieldOf k
  s!"{c.idOf k} {c.lang.publicSymbol (c.ft.node k).info.sym} {(c.ft.node k).depth - (c.ft.node r).depth} {k - r} {f}"

def Ctx.fieldNameHex (c : Ctx) (k : Nat) : String :=
  let f := c.ft.fieldOf k
  if f == 0 then "-" else hexOfString (c.lang.fieldNames.getD f "")

mutual
  def collectSubs : VTree → Array VTree → Array VTree
    | .mk i kids, acc => collectSubsL kids (acc.push (.mk i kids))
  def collectSubsL : List VTree → Array VTree → Array VTree
    | [], acc => acc
    | k :: rest, acc => collectSubsL rest (collectSubs k acc)
end

def mkCtx (lang : Lang) (root : Tree) (rootId : Nat) : Ctx :=
  let vt := flatten lang root rootId
  let ft := flatOf vt
  let byId := Id.run do
    let mut m : Std.HashMap Nat Nat := {}
    for h : k in [0:ft.size] do
      m := m.insert (ft[k]'h.2.1).info.id k
    return m
  { lang := lang, ft := ft, vt := vt, byId := byId, sub := collectSubs vt #[], rootSize := root.size }

def idList (c : Ctx) (l : List Nat) : String :=
  if l.isEmpty then "-" else String.intercalate "," (l.map c.idOf)

def pt (r c : String) : TSPoint := { row := natOf r, column := natOf c }

/-- Target of a cursor move from node `k` (cursor rooted at `r`): 0 first child, 1 last child,
2 next sibling, 3 previous sibling, 4 parent. -/
def Ctx.moveTarget (c : Ctx) (r k mv : Nat) : Option Nat :=
  match mv with
  | 0 => (c.ft.kidsOf k).head?
  | 1 => (c.ft.kidsOf k).getLast?
  | 2 => if k == r then none else c.ft.nextSibling k false
  | 3 => if k == r then none else c.ft.prevSibling k false
  | _ => if k == r then none else (c.ft.node k).parent

def Ctx.moveAnswer (c : Ctx) (r k mv : Nat) (withPos : Bool) : String :=
  let (ok, t) := match c.moveTarget r k mv with
    | some t => (1, t)
    | none => (0, k)
  let pos := if withPos then s!" {c.ft.sb t} {(c.ft.sp t).row} {(c.ft.sp t).column}" else ""
  s!"{ok} {c.state r t}{pos}"

/-- Expected answer text for one question, or `none` if the question is not understood. -/
def Ctx.expected (c : Ctx) (k : Nat) (op : String) (args : List String) : Option String :=
  let ft := c.ft
  match op, args with
  | "par", _ => some (c.optId (ft.node k).parent)
  | "cnt", _ => some s!"{(ft.kidsOf k).length} {(ft.namedKids k).length} {(ft.node k).size}"
  | "ns", _ => some (c.optId (ft.nextSibling k false))
  | "ps", _ => some (c.optId (ft.prevSibling k false))
  | "nns", _ => some (c.optId (ft.nextSibling k true))
  | "pns", _ => some (c.optId (ft.prevSibling k true))
  | "ch", i :: _ => some (c.optId ((ft.kidsOf k)[natOf i]?))
  | "nch", i :: _ => some (c.optId ((ft.namedKids k)[natOf i]?))
  | "fn", i :: _ => some (match (ft.kidsOf k)[natOf i]? with | some j => c.fieldNameHex j | none => "-")
  | "fnn", i :: _ => some (match (ft.namedKids k)[natOf i]? with | some j => c.fieldNameHex j | none => "-")
  | "cbf", f :: _ => some (c.optId (ft.childByField k (natOf f)))
  | "fcb", g :: _ => some (c.optId (ft.firstChildForByte k (natOf g) false))
  | "fncb", g :: _ => some (c.optId (ft.firstChildForByte k (natOf g) true))
  | "dbr", w :: s :: e :: _ => some (c.optId (ft.descendantForBytes (if w == "r" then 0 else k) (natOf s) (natOf e) false))
  | "ndbr", w :: s :: e :: _ => some (c.optId (ft.descendantForBytes (if w == "r" then 0 else k) (natOf s) (natOf e) true))
  | "dpr", w :: sr :: sc :: er :: ec :: _ =>
    some (c.optId (ft.descendantForPoints (if w == "r" then 0 else k) (pt sr sc) (pt er ec) false))
  | "ndpr", w :: sr :: sc :: er :: ec :: _ =>
    some (c.optId (ft.descendantForPoints (if w == "r" then 0 else k) (pt sr sc) (pt er ec) true))
  | "cwd", _ => some (c.optId (ft.childWithDescendant 0 k))
  | "cwd2", d :: _ => some (c.optId (ft.childWithDescendant k (natOf d)))
  | "sx", _ =>
    let t := c.sub.getD k default
    let i := t.info
    -- the root frame is printed when MISSING or (alias ? "alias visible" : visible ∧ named)
    let printed := i.missing || (if i.alias != 0 then (c.lang.symMeta i.alias).visible else i.named)
    some (hexOfString (render c.lang t printed))
  | "kind", _ =>
    let i := (ft.node k).info
    some s!"{c.lang.publicSymbol i.sym} {i.raw.data.symbol} {hexOfString (c.lang.symMeta i.sym).name} {hexOfString (c.lang.symMeta i.raw.data.symbol).name}"
  | "fl", _ =>
    let i := (ft.node k).info
    let b := fun (x : Bool) (n : Nat) => if x then n else 0
    some (toString (b i.named 1 + b i.extra 2 + b i.missing 4 + b (c.lang.publicSymbol i.sym == symError) 8 + b i.raw.data.hasChanges 16))
  | "pst", _ => some s!"{(ft.node k).info.raw.data.parseState} 1"
  | "rng", _ => some s!"{ft.sb k} {ft.eb k} {(ft.sp k).row} {(ft.sp k).column} {(ft.ep k).row} {(ft.ep k).column}"
  | "chi", _ => some (idList c (ft.kidsOf k))
  | "nchi", _ => some (idList c (ft.namedKids k))
  | "cbfi", f :: _ => some (idList c ((ft.kidsOf k).filter fun j => ft.fieldOf j == natOf f))
  | "cbni", f :: _ => some (idList c ((ft.kidsOf k).filter fun j => ft.fieldOf j == natOf f))
  | "cbn", f :: _ => some (c.optId (ft.childByField k (natOf f)))
  | "gdn", _ => some (c.fieldNameHex k)
  | "gdc", _ => some (c.state 0 k)
  | "wcl", _ => some (c.state k k)
  | "wrs", _ => some (c.state k k)
  | "wrt", _ =>
    some (match (ft.kidsOf k).head? with
      | some j => s!"{c.state k k} 1 {c.state k j} 1 {c.state k k}"
      | none => s!"{c.state k k} 0 {c.state k k} 0 {c.state k k}")
  | "wrd", _ =>
    some (match (ft.kidsOf k).getLast? with
      | some j => s!"1 {c.state k j} 1 {c.state k k}"
      | none => s!"0 {c.state k k} 0 {c.state k k}")
  | "gd", _ => some (c.state 0 k)
  | "cfc", _ => some (c.moveAnswer 0 k 0 true)
  | "clc", _ => some (c.moveAnswer 0 k 1 true)
  | "cns", _ => some (c.moveAnswer 0 k 2 true)
  | "cps", _ => some (c.moveAnswer 0 k 3 true)
  | "cpa", _ => some (c.moveAnswer 0 k 4 true)
  | "cfcb", g :: _ =>
    some (match ft.cursorFirstChildFor k (natOf g) POINT_ZERO with
      | some (i, j) => s!"{i} {c.state 0 j}"
      | none => s!"-1 {c.state 0 k}")
  | "cfcp", r :: cl :: _ =>
    some (match ft.cursorFirstChildFor k 0 (pt r cl) with
      | some (i, j) => s!"{i} {c.state 0 j}"
      | none => s!"-1 {c.state 0 k}")
  | "w0", _ => some (c.state k k)
  | "wfc", _ => some (c.moveAnswer k k 0 false)
  | "wlc", _ => some (c.moveAnswer k k 1 false)
  | "wns", _ => some (c.moveAnswer k k 2 false)
  | "wps", _ => some (c.moveAnswer k k 3 false)
  | "wpa", _ => some (c.moveAnswer k k 4 false)
  | "wback", _ =>
    let ks := (ft.kidsOf k).reverse
    match ks with
    | [] => none
    | last :: before =>
      let steps := before.length
      let shown := (before.zipIdx.filter fun (_, i) => i + 1 ≤ 6 || (i + 1) % 50 == 0).map fun (j, _) => s!"{c.idOf j}@{ft.sb j}"
      some s!"{steps} {String.intercalate "," (c.idOf last :: shown)}"
  | _, _ => none

/-- Number of answer tokens that follow the arguments of each op. -/
def argCount (op : String) : Nat :=
  match op with
  | "ch" | "nch" | "fn" | "fnn" | "cbf" | "fcb" | "fncb" | "cwd" | "cwd2" | "cfcb" | "cbfi" | "cbni" | "cbn" => 1
  | "dbr" | "ndbr" => 3
  | "dpr" | "ndpr" => 5
  | "cfcp" => 2
  | _ => 0

structure Res where
  asked : Nat := 0
  fails : C02.Fails := {}
  corrFails : C02.Fails := {}
  portCompared : Nat := 0
  /-- cursor stacks of the port on which `stackLinked` failed -/
  stackBad : Nat := 0
  /-- `cursor_first_child_for_spec` evaluated on every goto_first_child_for_byte/point question: hypothesis
  `ndeCur` holds and port = `cfcIdeal` / hypothesis fails / conclusion fails / `cfcIdeal` ≠ `FT.cursorFirstChildFor` -/
  cfcChk : Nat := 0
  cfcOut : Nat := 0
  cfcBad : Nat := 0
  cfcFlat : Nat := 0
  /-- `cursor_parent_is_parentOnPath` (+ `goto_parent_spec`, `depth_parent`) evaluated on every positioned cursor:
  hypotheses (linked stack, top entry visible) and conclusion (goto_parent shows the node `parentOnPath` designates for
  the stack's path — compared by id —, depth decreases by one; on the root: fails) hold / conclusion fails -/
  cparChk : Nat := 0
  cparBad : Nat := 0
  /-- the port's cursor positioned on node `cacheNode` by `gotoDescendant` -/
  cacheNode : Nat := u32max
  cache : Cursor := default
  deriving Inhabited

def quirkSets : List (String × Quirks) :=
  [ ("none", Quirks.none),
    ("int8", { Quirks.none with int8 := true }),
    ("descidx", { Quirks.none with noDescIdx := true }),
    ("structidx", { Quirks.none with staleSi := true }),
    ("int8+descidx", { Quirks.none with int8 := true, noDescIdx := true }),
    ("int8+structidx", { Quirks.none with int8 := true, staleSi := true }),
    ("descidx+structidx", { Quirks.none with noDescIdx := true, staleSi := true }),
    ("int8+descidx+structidx", Quirks.current) ]

def isCursorOp (op : String) : Bool :=
  ["gd", "gdn", "gdc", "cfc", "clc", "cns", "cps", "cpa", "cfcb", "cfcp", "w0", "wcl", "wrt", "wrs", "wrd", "wfc", "wlc", "wns", "wps", "wpa", "wback"].contains op

def usesPrev (op : String) : Bool := op == "cps" || op == "wps" || op == "wback"

def applyMove (lang : Lang) (q : Quirks) (mv : Nat) (c : Cursor) : Bool × Cursor :=
  match mv with
  | 0 => let r := gotoChild lang false (topSize c.stack) c.stack; (r.1, { c with stack := r.2 })
  | 1 => let r := gotoChild lang true (topSize c.stack) c.stack; (r.1, { c with stack := r.2 })
  | 2 => gotoNextSibling lang c
  | 3 => gotoPreviousSibling lang q c
  | _ => gotoParent lang c

/-- The port's answer to a cursor question, for the cursor `cur` already positioned on the node. -/
def portAnswer (lang : Lang) (q : Quirks) (cur : Cursor) (op : String) (args : List String) : Option String :=
  let st := fun (c : Cursor) => c.state lang toHex
  let mvAns := fun (c : Cursor) (mv : Nat) (withPos : Bool) =>
    let (ok, c') := applyMove lang q mv c
    s!"{if ok then 1 else 0} {st c'}" ++ (if withPos then " " ++ c'.posString else "")
  match op, args with
  | "gd", _ => some (st cur)
  | "gdc", _ => some (st cur)
  | "gdn", _ =>
    let f := currentFieldId lang cur
    some (if f == 0 then "-" else hexOfString (lang.fieldNames.getD f ""))
  -- `ts_tree_cursor_copy`, `_reset_to`, `_reset`: the stack and the root alias are carried over
  | "wcl", _ => some (st (cur.rootedHere lang))
  | "wrs", _ => some (st (cur.rootedHere lang))
  | "wrt", _ =>
    let w := cur.rootedHere lang
    let (ok, w1) := applyMove lang q 0 w
    let (okp, w2) := applyMove lang q 4 w1
    some s!"{st w} {if ok then 1 else 0} {st w1} {if okp then 1 else 0} {st w2}"
  | "wrd", _ =>
    let w := cur.rootedHere lang
    let (okd, deep) := applyMove lang q 1 w
    let (okz, z) := applyMove lang q 4 deep
    some s!"{if okd then 1 else 0} {st deep} {if okz then 1 else 0} {st z}"
  | "cfc", _ => some (mvAns cur 0 true)
  | "clc", _ => some (mvAns cur 1 true)
  | "cns", _ => some (mvAns cur 2 true)
  | "cps", _ => some (mvAns cur 3 true)
  | "cpa", _ => some (mvAns cur 4 true)
  | "cfcb", g :: _ => let (i, c') := gotoFirstChildFor lang (natOf g) POINT_ZERO cur; some s!"{i} {st c'}"
  | "cfcp", r :: cl :: _ => let (i, c') := gotoFirstChildFor lang 0 (pt r cl) cur; some s!"{i} {st c'}"
  | "w0", _ => some (st (cur.rootedHere lang))
  | "wfc", _ => some (mvAns (cur.rootedHere lang) 0 false)
  | "wlc", _ => some (mvAns (cur.rootedHere lang) 1 false)
  | "wns", _ => some (mvAns (cur.rootedHere lang) 2 false)
  | "wps", _ => some (mvAns (cur.rootedHere lang) 3 false)
  | "wpa", _ => some (mvAns (cur.rootedHere lang) 4 false)
  | "wback", _ =>
    let w := cur.rootedHere lang
    let (_, w) := applyMove lang q 1 w
    let first := match w.stack.head? with | some e => toHex e.id | none => "?"
    let rec back (fuel steps : Nat) (w : Cursor) (acc : List String) : Nat × List String :=
      match fuel with
      | 0 => (steps, acc)
      | fuel + 1 =>
        let (ok, w') := gotoPreviousSibling lang q w
        if !ok then (steps, acc) else
        let steps := steps + 1
        let acc := if steps ≤ 6 || steps % 50 == 0 then
            (match w'.stack.head? with | some e => s!"{toHex e.id}@{e.pos.bytes}" | none => "?") :: acc else acc
        back fuel steps w' acc
    let (steps, acc) := back (topSize cur.stack) 0 w []
    some s!"{steps} {String.intercalate "," (first :: acc.reverse)}"
  | _, _ => none

mutual
  /-- Condition of finding 11 (`child-by-field-enters-visible-child`): on the way of the search for field `f`
  below `t` an INHERITED field-map entry points at a child that is visible (or aliased) in this tree — the
  generator's table says "search inside the hidden rule at this position", but the unit reduction to a visible
  alternative of that rule was eliminated, and the C code searches inside the visible child. -/
  def inhOnVisible (lang : Lang) (f : Nat) : Tree → Bool
    | .mk d kids => inhOnVisibleKids lang f d.productionId (fieldEntries lang d.productionId f) kids 0
  def inhOnVisibleKids (lang : Lang) (f pid : Nat) (es : List FieldEntry) : List Tree → Nat → Bool
    | [], _ => false
    | c :: rest, si =>
      if c.data.extra then inhOnVisibleKids lang f pid es rest si
      else
        (match entryAt es si with
         | some m => m.inherited && (if c.data.visible || lang.aliasAt pid si != 0 then c.kids.length > 0 else inhOnVisible lang f c)
         | none => false) || inhOnVisibleKids lang f pid es rest (si + 1)
end

def judgeLine (c : Ctx) (root : Tree) (rootId : Nat) (r : Res) (line : String) : Res :=
  match line.splitOn " " with
  | "o" :: idx :: op :: rest =>
    let k := natOf idx
    let args := rest.take (argCount op)
    let answer := " ".intercalate (rest.drop (argCount op))
    match c.expected k op args with
    | some exp =>
      let r := { r with asked := r.asked + 1 }
      let where_ := fun (_ : Unit) => s!"node#{k} [{c.ft.sb k},{c.ft.eb k}] sym={(c.ft.node k).info.sym} {op} {" ".intercalate args}"
      if isCursorOp op then
        -- position the port's cursor on node k once per node
        let r := if r.cacheNode == k then r else
          let cur := gotoDescendant c.lang k (Cursor.ofRoot root rootId)
          let hypOK := stackLinked cur.stack && stackIdxOK cur.stack
          let topVis := match cur.stack with | e :: rest => isEntryVisible c.lang e rest.head? | [] => false
          let rootRef : NodeRef := { t := root, alias := 0, id := rootId, start := root.data.padding }
          let (pok, pc) := gotoParent c.lang cur
          let concl : Bool :=
            if cur.stack.length ≤ 1 then !pok
            else
              let path := (cur.stack.dropLast.map (·.childIndex)).reverse
              let exp := parentOnPath c.lang rootRef rootRef path
              pok && (pc.stack.head?.map (·.id)) == some exp.id &&
                (match pc.stack with
                 | [r0] => decide (r0.t.data = exp.t.data) && exp.alias == 0
                 | e :: p :: _ => decide (e.t.data = exp.t.data) && exp.alias == (if e.t.data.extra then 0 else c.lang.aliasAt p.t.data.productionId e.si)
                 | [] => false) &&
                currentDepth c.lang pc + 1 == currentDepth c.lang cur
          { r with cacheNode := k, cache := cur, stackBad := r.stackBad + (if hypOK && topVis then 0 else 1),
                   cparChk := r.cparChk + (if hypOK && topVis && concl then 1 else 0),
                   cparBad := r.cparBad + (if hypOK && topVis && !concl then 1 else 0) }
        let r := if op == "cfcb" || op == "cfcp" then
            let (gb, gp) := if op == "cfcb" then (natOf (args.headD "0"), POINT_ZERO) else (0, pt (args.headD "0") (args.getD 1 "0"))
            let cur := r.cache
            let f := topSize cur.stack
            if !(ndeCur c.lang gb gp f cur.stack 0) then { r with cfcOut := r.cfcOut + 1 }
            else
              let ideal := cfcIdeal c.lang gb gp f cur.stack 0
              let (pi, pc) := gotoFirstChildFor c.lang gb gp cur
              let okPort : Bool := match ideal with
                | some (idx, st) => pi == (idx : Int) && (pc.stack.map (·.id)) == (st.map (·.id))
                | none => pi == -1 && (pc.stack.map (·.id)) == (cur.stack.map (·.id))
              let okFlat : Bool := match ideal, c.ft.cursorFirstChildFor k gb gp with
                | some (idx, st), some (i, j) => idx == i && (st.head?.map (·.id)) == some (c.ft.node j).info.id
                | none, none => true
                | _, _ => false
              { r with cfcChk := r.cfcChk + (if okPort then 1 else 0), cfcBad := r.cfcBad + (if okPort then 0 else 1),
                       cfcFlat := r.cfcFlat + (if okFlat then 0 else 1) }
          else r
        let qs := if usesPrev op then quirkSets else [("none", Quirks.none)]
        let hit := qs.find? fun (_, q) => portAnswer c.lang q r.cache op args == some answer
        let r := { r with portCompared := r.portCompared + 1 }
        let r := match hit with
          | some _ => r
          | none => { r with corrFails := r.corrFails.add ("corr:" ++ op) fun _ =>
                      s!"{where_ ()}: api={answer} port={(portAnswer c.lang Quirks.current r.cache op args).getD "?"}" }
        if exp == answer then r
        else
          let label := match hit with
            | some (name, _) =>
              if name == "none" then
                -- the port of the unchanged algorithm gives the API's answer: attribute to the known
                -- dead-end descent only for "-1 although a child ends after the goal"
                (if (op == "cfcb" || op == "cfcp") && answer.startsWith "-1 " && !exp.startsWith "-1 "
                 then op ++ ":dead-end-descent" else op ++ ":port-vs-tree")
              else op ++ ":quirk-" ++ name
            | none => op ++ ":unexplained"
          { r with fails := r.fails.add label fun _ => s!"{where_ ()}: api={answer} tree={exp}" }
      else
      -- node.c ports: child / named_child by index
      let r := if op == "ch" || op == "nch" then
          let info := (c.ft.node k).info
          let port := match nodeChild c.lang (op == "ch") info.raw info.start (natOf (args.headD "0")) with
            | some nr => toHex nr.id
            | none => "-"
          let r := { r with portCompared := r.portCompared + 1 }
          if port == answer then r
          else { r with corrFails := r.corrFails.add ("corr:" ++ op) fun _ => s!"{where_ ()}: api={answer} port={port}" }
        else r
      let refOf := fun (j : Nat) =>
        let i := (c.ft.node j).info
        ({ t := i.raw, alias := i.alias, id := i.id, start := i.start } : NodeRef)
      let optRef := fun (o : Option NodeRef) => match o with | some n => toHex n.id | none => "-"
      let navPort : Option String :=
        match op, args with
        | "par", _ => some (optRef (nodeParent c.lang (c.rootSize + 1) (refOf 0) (refOf k)))
        | "cwd", _ => some (optRef (childWithDescendant c.lang (c.rootSize + 1) (refOf 0) (refOf k).id (refOf k).startByte (refOf k).endByte))
        | "cwd2", dd :: _ =>
          let dn := refOf (natOf dd)
          some (optRef (childWithDescendant c.lang (c.rootSize + 1) (refOf k) dn.id dn.startByte dn.endByte))
        | "ns", _ => some (optRef (nextSiblingPort c.lang (c.rootSize + 1) (refOf 0) (refOf k) true))
        | "nns", _ => some (optRef (nextSiblingPort c.lang (c.rootSize + 1) (refOf 0) (refOf k) false))
        | "ps", _ => some (optRef (prevSiblingPort c.lang (c.rootSize + 1) (refOf 0) (refOf k) true))
        | "pns", _ => some (optRef (prevSiblingPort c.lang (c.rootSize + 1) (refOf 0) (refOf k) false))
        | "fcb", g :: _ => some (optRef (firstChildForBytePort c.lang (c.rootSize + 1) (refOf k) (natOf g) true))
        | "fncb", g :: _ => some (optRef (firstChildForBytePort c.lang (c.rootSize + 1) (refOf k) (natOf g) false))
        | "dbr", w :: s0 :: e0 :: _ => some (optRef (descendantForByteRangePort c.lang (c.rootSize + 1) (refOf (if w == "r" then 0 else k)) (natOf s0) (natOf e0) true))
        | "ndbr", w :: s0 :: e0 :: _ => some (optRef (descendantForByteRangePort c.lang (c.rootSize + 1) (refOf (if w == "r" then 0 else k)) (natOf s0) (natOf e0) false))
        | "dpr", w :: sr :: sc :: er :: ec :: _ =>
          some (optRef (descendantForPointRangePort c.lang (c.rootSize + 1) (refOf (if w == "r" then 0 else k)) (pt sr sc) (pt er ec) true))
        | "ndpr", w :: sr :: sc :: er :: ec :: _ =>
          some (optRef (descendantForPointRangePort c.lang (c.rootSize + 1) (refOf (if w == "r" then 0 else k)) (pt sr sc) (pt er ec) false))
        | "fn", i :: _ => some (match fieldNameForChildPort c.lang (c.rootSize + 1) (refOf k) (natOf i) true with
            | some f => hexOfString (c.lang.fieldNames.getD f "") | none => "-")
        | "fnn", i :: _ => some (match fieldNameForChildPort c.lang (c.rootSize + 1) (refOf k) (natOf i) false with
            | some f => hexOfString (c.lang.fieldNames.getD f "") | none => "-")
        | "cbf", f :: _ => some (optRef (childByFieldIdPort c.lang (c.rootSize + 1) (refOf k) (natOf f)))
        | "cbn", f :: _ => some (optRef (childByFieldIdPort c.lang (c.rootSize + 1) (refOf k) (natOf f)))
        | _, _ => none
      let r := match navPort with
        | some port =>
          let r := { r with portCompared := r.portCompared + 1 }
          if port == answer then r
          else { r with corrFails := r.corrFails.add ("corr:" ++ op) fun _ => s!"{where_ ()}: api={answer} port={port}" }
        | none => r
      let r := if op == "sx" then
          let info := (c.ft.node k).info
          let port := hexOfString (nodeString c.lang info.raw info.alias)
          let r := { r with portCompared := r.portCompared + 1 }
          if port == answer then r
          else { r with corrFails := r.corrFails.add "corr:sx" fun _ => s!"{where_ ()}: api={answer} port={port}" }
        else r
      if exp == answer then r
      else
        -- classify the position-based node.c findings by what the expected node looks like; a
        -- finding is only attributed to a known defect when the API's answer is exactly what the
        -- port of the unchanged algorithm computes (anything else is ":unexplained")
        let expNode := c.byId.get? (parseHexNat exp)
        let zeroWidth := match expNode with | some j => c.ft.sb j == c.ft.eb j | none => false
        let explained := navPort == some answer
        -- for the range searches: does the search path on the ordered tree pass a zero-width node?
        -- (point queries are mapped to bytes through the node boundaries they were built from)
        -- condition of the known defect: the search path — of the unchanged algorithm on the raw
        -- tree (hidden zero-width leaves included) or of the search on the ordered tree — visits a
        -- zero-width node
        let rangePathHasEmpty :=
          match op, args with
          | "dbr", w :: s0 :: e0 :: _ | "ndbr", w :: s0 :: e0 :: _ =>
            let r0 := if w == "r" then 0 else k
            descendantBytePathHasEmpty c.lang (c.rootSize + 1) (refOf r0) (natOf s0) (natOf e0) ||
              c.ft.descendantPathHasEmpty r0 (natOf s0) (natOf e0)
          | "dpr", w :: sr :: sc :: er :: ec :: _ | "ndpr", w :: sr :: sc :: er :: ec :: _ =>
            let r0 := if w == "r" then 0 else k
            descendantPointPathHasEmpty c.lang (c.rootSize + 1) (refOf r0) (pt sr sc) (pt er ec) ||
              c.ft.descendantPathHasEmpty r0 (c.ft.sb k) (c.ft.sb k) ||
              c.ft.descendantPathHasEmpty r0 (c.ft.eb k) (c.ft.eb k) ||
              c.ft.descendantPathHasEmpty r0 (c.ft.sb k) (c.ft.eb k)
          | _, _ => false
        let info := (c.ft.node k).info
        let label :=
          if op == "sx" then
            (if hexOfString (nodeString c.lang info.raw info.alias) == answer && hasHiddenMissing c.lang info.raw info.alias
             then "sx:hidden-missing-printed" else "sx")
          else if !explained && navPort.isSome then op ++ ":unexplained"
          else if (op == "cbf" || op == "cbn") && answer == "-" && info.raw.data.symbol == symError then "cbf:error-parent-has-no-field-map"
          else if (op == "cbf" || op == "cbn") && inhOnVisible c.lang (natOf (args.headD "0")) info.raw then "cbf:inherited-entry-on-visible-child"
          else if (op == "ns" || op == "nns") && zeroWidth then op ++ ":zero-width-sibling-skipped"
          else if (op == "ps" || op == "pns") && c.ft.sb k == c.ft.eb k then op ++ ":zero-width-self"
          else if (op == "dbr" || op == "ndbr" || op == "dpr" || op == "ndpr") &&
              (zeroWidth || rangePathHasEmpty) then op ++ ":zero-width"
          else if (op == "fcb" || op == "fncb") &&
              (answer == "-" || (match c.byId.get? (parseHexNat answer), expNode with
                                 | some a, some e => a > e
                                 | _, _ => false)) then op ++ ":fallback-lost"
          else op
        { r with fails := r.fails.add label fun _ => s!"{where_ ()}: api={answer} tree={exp}" }
    | none => { r with fails := r.fails.add "unparsed" fun _ => line }
  | ["rwo", idx, id, sb, sr, sc, eb, er, ec] =>
    let k := natOf idx
    let off : Length := { bytes := 7, extent := { row := 2, column := 3 } }
    let i := (c.ft.node k).info
    let s0 := length_add off i.start
    let e0 := length_add off i.stop
    let exp := s!"{toHex i.id} {s0.bytes} {s0.extent.row} {s0.extent.column} {e0.bytes} {e0.extent.row} {e0.extent.column}"
    let got := s!"{id} {sb} {sr} {sc} {eb} {er} {ec}"
    let r := { r with asked := r.asked + 1 }
    if k < c.ft.size && exp == got then r
    else { r with fails := r.fails.add "rwo" fun _ => s!"root_node_with_offset walk node#{k}: api={got} tree={exp}" }
  | "v" :: idx :: rest =>
    let k := natOf idx
    let r := { r with asked := r.asked + 1 }
    if k < c.ft.size && c.state 0 k == " ".intercalate rest then r
    else { r with fails := r.fails.add "walk" fun _ =>
            s!"cursor preorder walk node#{k}: api={" ".intercalate rest} tree={if k < c.ft.size then c.state 0 k else "(no such node)"}" }
  | _ => r

mutual
  def maxFanout : Tree → Nat
    | .mk _ kids => max kids.length (maxFanoutL kids)
  def maxFanoutL : List Tree → Nat
    | [] => 0
    | k :: rest => max (maxFanout k) (maxFanoutL rest)
end

mutual
  /-- COVERAGE measure for `ts_node_child_by_field_id` (not used by any theorem or verdict): does the scan for
  field `f` below `t` pass an INHERITED field-map entry whose hidden child carries no `f` in this tree before it
  reaches the child that does — at `t` itself or inside the hidden child the search continues in?  Only on such
  (node, field) pairs does the "not found inside this hidden child: go on with the next entry" branch of the C
  function decide the answer; the check demands that the explored trees contain some. -/
  def cbfPassesEmpty (lang : Lang) (f : Nat) : Tree → Bool
    | .mk d kids => cbfPassesEmptyKids lang f (fieldEntries lang d.productionId f) kids 0 false
  def cbfPassesEmptyKids (lang : Lang) (f : Nat) (es : List FieldEntry) : List Tree → Nat → Bool → Bool
    | [], _, _ => false
    | c :: rest, si, saw =>
      if c.data.extra then cbfPassesEmptyKids lang f es rest si saw
      else match entryAt es si with
        | some m =>
          if !m.inherited then saw
          else if (enumF lang c []).any (fun x => hasF f x.2.2) then saw || cbfPassesEmpty lang f c
          else cbfPassesEmptyKids lang f es rest (si + 1) true
        | none => cbfPassesEmptyKids lang f es rest (si + 1) saw
end

/-! ## Index fields of the cursor and the iterators beyond 16 bits (tie of the ℕ-valued ports to the C structs)

The ports of tree_cursor.c / node.c keep child index, structural child index and descendant index in `Nat`; the C code in
fixed-width fields of `TreeCursorEntry`, `CursorChildIterator`, `NodeChildIterator`.  They grow with the document, and no
explored PARSED tree comes near 2¹⁶ nodes (the full judge is quadratic in the fan-out).  `tsv-cunit_c02 cwidths` therefore
builds ONE flat node with `n = 70 000` one-byte leaf children with the real constructors and asks the real cursor / node
functions questions whose answers depend on indices beyond 65 535.  Child `i` of such a node starts at byte `i` and is
visible node number `i + 1` of the walk, so every expected answer is arithmetic in `n` — no field is named, the probe is
behavioural.  (`current_descendant_index`: an all-ones entry read back through the accessor: ≥ 32 bits.) -/
def wideProbeExpected (n : Nat) : List (String × Nat) :=
  [("child_count", n), ("ok", 1), ("last_start", n - 1), ("last_desc", n), ("prev_start", n - 2), ("prev_desc", n - 1),
   ("steps", n - 1), ("walk_start", n - 1), ("walk_desc", n), ("gd_start", 65536), ("gd_desc", 65537),
   ("fcb_index", 66000), ("fcb_start", 66000), ("child_last", n - 1), ("child_65536", 65536), ("next_of_65535", 65536),
   ("prev_of_65536", 65535), ("node_fcb", 66000), ("node_dbr", 67000)]

def wideProbeFails (measured : List (String × Nat)) : List String :=
  match measured.lookup "n" with
  | none => ["n: not measured"]
  | some n =>
    (if n ≥ 70000 then [] else [s!"n = {n}: the probe must exceed 16 bits"]) ++
    ((wideProbeExpected n).filterMap fun (name, e) =>
      match measured.lookup name with
      | some v => if v == e then none else some s!"{name}: real functions answer {v}, a flat node of {n} one-byte leaves gives {e}"
      | none => some s!"{name}: not measured") ++
    (match measured.lookup "current_descendant_index" with
     | some v => if C02.bitsOfMax v ≥ 32 then [] else [s!"current_descendant_index: holds {C02.bitsOfMax v} bits, the ports assume >= 32"]
     | none => ["current_descendant_index: not measured"])

end TsVerif.C06
