import TsVerif.C06.NodeProps
import TsVerif.C06.FlatProps
/-!
C06, node.c: `ts_node_first_child_for_byte` and `ts_node_first_named_child_for_byte` (EITHER flag; the statements without
`_anon` are the readings `anon = true`) in the semantics of the flattened tree and of the judge's array (`first_child_for_byte_flat_spec_anon`, `first_child_for_byte_ft_spec_anon`): for either
flag, without a dead end (named flag: `anonLeafOK`), the port returns the first visible child that counts
for the flag and ends after the goal byte = the `TSNode` of `FT.firstChildForByte k goal namedOnly`.
-/
open TsVerif TsVerif.C02 TsGen

namespace TsVerif.C06

mutual
  theorem fcbNodeA_eq_find (lang : Lang) (anon : Bool) (goal : Nat) : ∀ (t : Tree) (start : Length) (ps : Option Nat),
      Summarized lang t → shapeOK ps t = true → AOK lang anon t.kids t.data.productionId 0 →
      fcbNodeA lang anon goal t start = ((enumRefs lang t start).filter (keepR lang anon)).find? (fun r => decide (r.endByte > goal))
    | .mk d kids, start, ps, hs, hsh, ha =>
      fcbKidsA_eq_find lang anon goal d.productionId d.addr kids.length kids start 0 0 (some d.symbol)
        (summarizedL_kids lang _ hs) (shapeOKL_kids ps _ hsh) ha
  theorem fcbKidsA_eq_find (lang : Lang) (anon : Bool) (goal pid addr nk : Nat) : ∀ (kids : List Tree) (pos : Length) (si k : Nat)
      (ps : Option Nat), SummarizedL lang kids → shapeOKL ps kids = true → AOK lang anon kids pid si →
      fcbKidsA lang anon goal pid addr nk kids pos si k =
        ((enumRefsKids lang pid addr nk kids pos si k).filter (keepR lang anon)).find? (fun r => decide (r.endByte > goal))
    | [], _, _, _, _, _, _, _ => rfl
    | c :: rest, pos, si, k, ps, hs, hsh, ha => by
      replace hsh := Bool.and_eq_true_iff.mp hsh
      obtain ⟨hac, har⟩ := aok_cons lang anon c rest pid si ha
      rw [fcbKidsA, enumRefsKids, show (if c.data.extra = true then 0 else lang.aliasAt pid si) = alOf lang pid si c from rfl,
        List.filter_append, List.find?_append, ← fcbKidsA_eq_find lang anon goal pid addr nk rest _ _ _ ps hs.2 hsh.2 har,
        fcbNodeA_eq_find lang anon goal c _ ps hs.1 hsh.1 (aok_child lang anon c _ hac)]
      generalize fcbKidsA lang anon goal pid addr nk rest _ _ _ = nxt
      generalize (if k > 0 then length_add pos c.data.padding else pos) = cstart
      show _ = (List.find? _ (List.filter _ (contribR lang ⟨c, alOf lang pid si c, slotId addr nk k, cstart⟩))).or nxt
      rw [contrib_find (nd := ⟨c, alOf lang pid si c, slotId addr nk k, cstart⟩) (fun r => decide (r.endByte > goal))
        (fun r hr h => decide_eq_true (show goal < cstart.bytes + c.data.size.bytes from Nat.lt_of_lt_of_le (of_decide_eq_true h)
          (enumRefs_within lang c cstart (sized_of_summarized lang c hs.1) r hr))) hs.1 hsh.1 hac]
      generalize hnd : (⟨c, alOf lang pid si c, slotId addr nk k, cstart⟩ : NodeRef) = nd
      rw [show c = nd.t from hnd ▸ rfl, show cstart = nd.start from hnd ▸ rfl]
      by_cases hend : nd.endByte > goal
      · rw [if_pos hend, if_pos (decide_eq_true hend)]
        by_cases hrel : nd.relevant lang anon = true
        · rw [if_pos hrel, if_pos hrel]; rfl
        · rw [if_neg hrel, if_neg hrel]
          by_cases hcc : nd.childCount > 0
          · rw [if_pos hcc, if_pos hcc]
            cases List.find? _ _ <;> rfl
          · rw [if_neg hcc, if_neg hcc]; rfl
      · rw [if_neg hend, if_neg (by rw [decide_eq_false hend]; exact Bool.false_ne_true)]
        rfl
end

/-- On a summarized parser-shaped tree the plain search `fcbNode`
(= `ts_node_first_child_for_byte` when there is no dead end, `first_child_for_byte_spec_partial`)
is the FIRST of the visible children — `enumRefs`, i.e. `enumChildren` with positions — whose end
byte is after `goal`: skipping a hidden child that ends at or before `goal` loses nothing because
its children end inside it, and one whose cached `visible_child_count` is 0 has no visible child. -/
theorem fcbNode_eq_find (lang : Lang) (goal : Nat) : ∀ (t : Tree) (start : Length) (ps : Option Nat),
    Summarized lang t → shapeOK ps t = true →
    fcbNode lang goal t start = (enumRefs lang t start).find? (fun r => decide (r.endByte > goal)) := by
  intro t start ps hs hsh
  rw [← fcbNodeA_true, fcbNodeA_eq_find lang true goal t start ps hs hsh (Or.inl rfl),
    List.filter_eq_self.mpr fun (r : NodeRef) _ => (rfl : keepR lang true r = true)]

theorem fcbKids_eq_find (lang : Lang) (goal pid addr nk : Nat) : ∀ (kids : List Tree) (pos : Length) (si k : Nat)
    (ps : Option Nat), SummarizedL lang kids → shapeOKL ps kids = true →
    fcbKids lang goal pid addr nk kids pos si k =
      (enumRefsKids lang pid addr nk kids pos si k).find? (fun r => decide (r.endByte > goal)) := by
  intro kids pos si k ps hs hsh
  rw [← fcbKidsA_true, fcbKidsA_eq_find lang true goal pid addr nk kids pos si k ps hs hsh (Or.inl rfl),
    List.filter_eq_self.mpr fun (r : NodeRef) _ => (rfl : keepR lang true r = true)]

/-- Summarized parser-shaped subtree, no dead end (for the
named flag: `anonLeafOK`): the port of `ts_node_first_(named_)child_for_byte(self, goal)` is the first of
the visible children of `self` that count for the flag and end after `goal`. -/
theorem first_child_for_byte_flat_spec_anon (lang : Lang) (anon : Bool) (fuel : Nat) (self : NodeRef) (goal : Nat) (ps : Option Nat)
    (hf : self.t.size ≤ 2 * fuel + 4) (hs : Summarized lang self.t) (hsh : shapeOK ps self.t = true)
    (ha : AOK lang anon self.t.kids self.t.data.productionId 0)
    (hnde : ndeNodeA lang anon goal self.t self.start = true) :
    firstChildForBytePort lang fuel self goal anon =
      ((enumRefs lang self.t self.start).filter (keepR lang anon)).find? (fun r => decide (r.endByte > goal)) := by
  rw [first_child_for_byte_spec_anon lang anon fuel self goal hf hnde, fcbNodeA_eq_find lang anon goal self.t self.start ps hs hsh ha]

/-- Summarized parser-shaped subtree, no dead end: the port of
`ts_node_first_child_for_byte(self, goal)` is the first visible child of `self` (in the order of
`ts_node_child`, `enumRefs_proj`) whose end byte lies after `goal`. -/
theorem first_child_for_byte_flat_spec (lang : Lang) (fuel : Nat) (self : NodeRef) (goal : Nat) (ps : Option Nat)
    (hf : self.t.size ≤ 2 * fuel + 4) (hs : Summarized lang self.t) (hsh : shapeOK ps self.t = true)
    (hnde : ndeNode lang goal self.t self.start = true) :
    firstChildForBytePort lang fuel self goal true =
      (enumRefs lang self.t self.start).find? (fun r => decide (r.endByte > goal)) := by
  rw [first_child_for_byte_flat_spec_anon lang true fuel self goal ps hf hs hsh (Or.inl rfl) (by rw [ndeNodeA_true]; exact hnde),
    List.filter_eq_self.mpr fun (r : NodeRef) _ => (rfl : keepR lang true r = true)]

/-- For EVERY entry `k` of the preorder array of `flatten`, either
flag: port of `ts_node_first_(named_)child_for_byte(self_k, goal)` = `TSNode` of the entry
`FT.firstChildForByte k goal namedOnly` designates (no dead end; named flag: `anonLeafOK` below the entry). -/
theorem first_child_for_byte_ft_spec_anon (lang : Lang) (anon : Bool) (root : Tree) (rootId : Nat) (ps : Option Nat) (fuel k goal : Nat)
    (hs : Summarized lang root) (hsh : shapeOK ps root = true) :
    let ft : FT := flatOf (flatten lang root rootId)
    k < ft.size → (refOf (ft.node k).info).t.size ≤ 2 * fuel + 4 →
    AOK lang anon (refOf (ft.node k).info).t.kids (refOf (ft.node k).info).t.data.productionId 0 →
    ndeNodeA lang anon goal (refOf (ft.node k).info).t (refOf (ft.node k).info).start = true →
    firstChildForBytePort lang fuel (refOf (ft.node k).info) goal anon =
      (ft.firstChildForByte k goal (!anon)).map (fun j => refOf (ft.node j).info) := by
  intro ft hk hf ha hnde
  obtain ⟨info, kids, par, dep, hg, hq⟩ := ft_all_good lang root rootId ps hs hsh k hk
  simp only [good_node ft info kids k par dep hg] at hf hnde ha ⊢
  obtain ⟨hrefs, hpos⟩ := ft_kids_refs lang ft info kids k par dep hg hq
  have hnamed : ∀ j ∈ ft.kidsOf k, ft.named j = entryNamed lang ((ft.node j).info.raw, (ft.node j).info.alias) :=
    fun j hj => ft_kid_named hg hq hj
  obtain ⟨_, hsv, psv, hshv⟩ := hq
  rw [first_child_for_byte_flat_spec_anon lang anon fuel (refOf info) goal psv hf hsv hshv ha hnde]
  show ((enumRefs lang info.raw info.start).filter _).find? _ = _
  rw [← hrefs, List.find?_filter, List.find?_map]
  unfold FT.firstChildForByte
  refine congrArg (Option.map _) (find_congr_mem _ _ _ fun j hj => ?_)
  show decide (keepA lang anon ((ft.node j).info.raw, (ft.node j).info.alias) = true ∧
    decide ((refOf (ft.node j).info).endByte > goal) = true) = _
  rw [hnamed j hj, (hpos j hj).1, keepA, Bool.not_not, Bool.decide_and, Bool.decide_eq_true, Bool.decide_eq_true, Bool.and_comm]

/-- In the form the driver evaluates it: for EVERY entry `k` of the preorder array of `flatten`
(root summarized and parser-shaped), with `self` the `TSNode` built from that entry, and a goal byte
without dead end (`ndeNode`), the port of `ts_node_first_child_for_byte(self, goal)` returns exactly
the `TSNode` (raw subtree, alias, slot id, position) of the entry `FT.firstChildForByte k goal`
designates — null iff null. -/
theorem first_child_for_byte_ft_spec (lang : Lang) (root : Tree) (rootId : Nat) (ps : Option Nat) (fuel k goal : Nat)
    (hs : Summarized lang root) (hsh : shapeOK ps root = true) :
    let ft : FT := flatOf (flatten lang root rootId)
    k < ft.size → (refOf (ft.node k).info).t.size ≤ 2 * fuel + 4 →
    ndeNode lang goal (refOf (ft.node k).info).t (refOf (ft.node k).info).start = true →
    firstChildForBytePort lang fuel (refOf (ft.node k).info) goal true =
      (ft.firstChildForByte k goal false).map (fun j => refOf (ft.node j).info) := by
  intro ft hk hf hnde
  exact first_child_for_byte_ft_spec_anon lang true root rootId ps fuel k goal hs hsh hk hf (Or.inl rfl) (by rw [ndeNodeA_true]; exact hnde)

/-- The hypotheses of `first_child_for_byte_ft_spec` hold on the demo tree (entry 0 = root, goal byte 1). -/
example := first_child_for_byte_ft_spec C02.demoLang pvRoot.t pvRoot.id none 8 0 1 pvRoot_summarized pvRoot_shape
  (by rw [flatOf_size]; decide +kernel) (by rw [ft_node_zero]; decide +kernel) (by rw [ft_node_zero]; decide +kernel)

end TsVerif.C06
