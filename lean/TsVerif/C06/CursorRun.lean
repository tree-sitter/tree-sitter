import TsVerif.C06.Cursor
/-!
# C06 — the run of a child iterator

`run adv fuel it` is the list of (entry, visibility flag) pairs that the iterator step `adv`
(`ts_tree_cursor_child_iterator_next` or `_previous`) hands out from the state `it`.  Every loop of tree_cursor.c over a child
iterator is a list function of the run: `goto_first_child_internal` and the inner loop of `goto_sibling_internal` are
`find? stops`, `goto_last_child_internal` is `find? stops` of the reversed run.  Hence one level of `gotoChild` and of
`gotoSiblingInternal` is an equation with three outcomes (`gotoChild_step`, `gotoSiblingInternal_step`).  Everything here holds
for any iterator step; the closed form of the forward run is in CursorIter.lean.
-/
namespace TsVerif.C06
open TsGen TsVerif TsVerif.C02

def run (adv : Iter → Option (Entry × Bool × Iter)) : Nat → Iter → List (Entry × Bool)
  | 0, _ => []
  | fuel + 1, it =>
    match adv it with
    | none => []
    | some (e, vis, it') => (e, vis) :: run adv fuel it'

/-- Where a child scan stops: at a visible child, or at a hidden one that has visible children. -/
def stops (x : Entry × Bool) : Bool := x.2 || decide (vcc x.1.t > 0)

/-- The result of a scan that stopped at `x` (or nowhere). -/
def stepOf : Option (Entry × Bool) → Step × Option Entry
  | some (e, true) => (.visible, some e)
  | some (e, false) => (.hidden, some e)
  | none => (.none, none)

theorem stepOf_cons (e : Entry) (vis : Bool) (l : List (Entry × Bool)) :
    stepOf (((e, vis) :: l).find? stops) =
      if vis then (.visible, some e) else if vcc e.t > 0 then (.hidden, some e) else stepOf (l.find? stops) := by
  rw [List.find?_cons, stops]
  cases vis
  · by_cases hk : vcc e.t > 0
    · rw [if_pos hk]; simp only [hk, decide_true, Bool.or_true]; rfl
    · rw [if_neg hk]; simp only [hk, decide_false, Bool.or_false]; rfl
  · rfl

theorem scanSiblings_run (adv : Iter → Option (Entry × Bool × Iter)) : ∀ (fuel : Nat) (it : Iter),
    scanSiblings adv fuel it = stepOf ((run adv fuel it).find? stops)
  | 0, _ => rfl
  | fuel + 1, it => by
    unfold scanSiblings run
    cases adv it with
    | none => rfl
    | some r =>
      obtain ⟨e, vis, it'⟩ := r
      rw [stepOf_cons, ← scanSiblings_run adv fuel it']

theorem firstGo_run (lang : Lang) : ∀ (fuel : Nat) (it : Iter),
    firstChildInternal.go lang fuel it = stepOf ((run (iterNext lang) fuel it).find? stops)
  | 0, _ => rfl
  | fuel + 1, it => by
    unfold firstChildInternal.go run
    cases iterNext lang it with
    | none => rfl
    | some r =>
      obtain ⟨e, vis, it'⟩ := r
      rw [stepOf_cons, ← firstGo_run lang fuel it']

theorem lastGo_run (lang : Lang) : ∀ (fuel : Nat) (it : Iter) (best : Step × Option Entry),
    lastChildInternal.go lang fuel it best =
      match (run (iterNext lang) fuel it).reverse.find? stops with
      | some x => stepOf (some x)
      | none => best
  | 0, _, _ => rfl
  | fuel + 1, it, best => by
    unfold lastChildInternal.go run
    cases iterNext lang it with
    | none => rfl
    | some r =>
      obtain ⟨e, vis, it'⟩ := r
      simp only [List.reverse_cons, List.find?_append, lastGo_run lang fuel it']
      cases (run (iterNext lang) fuel it').reverse.find? stops with
      | some x => simp only [Option.some_or, ite_self]
      | none =>
        simp only [Option.none_or, List.find?_cons, List.find?_nil, stops]
        cases vis
        · by_cases hk : vcc e.t > 0 <;> simp only [hk, Bool.false_or, decide_true, decide_false, if_true, if_false, Bool.false_eq_true] <;> rfl
        · rfl

/-- The child at which the scan of goto_first_child (`last = false`) / goto_last_child stops. -/
def childStop (lang : Lang) (last : Bool) (top : Entry) (p? : Option Entry) : Option (Entry × Bool) :=
  if last then (run (iterNext lang) (top.t.kids.length + 1) (iterateChildren lang top p?)).reverse.find? stops
  else (run (iterNext lang) (top.t.kids.length + 1) (iterateChildren lang top p?)).find? stops

theorem gotoChild_step (lang : Lang) (last : Bool) (fuel : Nat) (top : Entry) (rest : List Entry) :
    gotoChild lang last (fuel + 1) (top :: rest) =
      match childStop lang last top rest.head? with
      | some (e, true) => (true, e :: top :: rest)
      | some (e, false) => gotoChild lang last fuel (e :: top :: rest)
      | none => (false, top :: rest) := by
  rw [gotoChild]
  cases last
  · simp only [Bool.false_eq_true, if_false, firstChildInternal, firstGo_run, childStop]
    cases (run (iterNext lang) (top.t.kids.length + 1) (iterateChildren lang top rest.head?)).find? stops with
    | none => rfl
    | some x => obtain ⟨x, b⟩ := x; cases b <;> rfl
  · simp only [if_true, lastChildInternal, lastGo_run, childStop]
    cases (run (iterNext lang) (top.t.kids.length + 1) (iterateChildren lang top rest.head?)).reverse.find? stops with
    | none => rfl
    | some x => obtain ⟨x, b⟩ := x; cases b <;> rfl

/-- The iterator `gotoSiblingInternal` positions on the popped entry `e`, a child of the entry `p`. -/
def siblingIter (lang : Lang) (e p : Entry) (p? : Option Entry) : Iter :=
  { iterateChildren lang p p? with childIndex := e.childIndex, si := e.si, pos := e.pos, descIdx := e.descIdx }

/-- The first step re-visits the popped entry: its visibility flag, and the iterator behind it. -/
def revisit (lang : Lang) (adv : Iter → Option (Entry × Bool × Iter)) (e p : Entry) (rest : List Entry) : Bool × Option Iter :=
  match adv (siblingIter lang e p rest.head?) with
  | some (_, v, it') => (v, some it')
  | none => (false, none)

/-- The first sibling ahead (in the direction of `adv`) at which the scan stops. -/
def sibStop (lang : Lang) (adv : Iter → Option (Entry × Bool × Iter)) (e p : Entry) (rest : List Entry) : Option (Entry × Bool) :=
  match (revisit lang adv e p rest).2 with
  | some it1 => (run adv (p.t.kids.length + 2) it1).find? stops
  | none => none

theorem gotoSiblingInternal_step (lang : Lang) (adv : Iter → Option (Entry × Bool × Iter)) (n : Nat) (e p : Entry) (rest : List Entry) :
    gotoSiblingInternal lang adv n (e :: p :: rest) =
      if ((revisit lang adv e p rest).1 && decide (rest.length + 2 < n)) = true then (Step.none, [])
      else match sibStop lang adv e p rest with
        | some (x, true) => (.visible, x :: p :: rest)
        | some (x, false) => (.hidden, x :: p :: rest)
        | none => gotoSiblingInternal lang adv n (p :: rest) := by
  rw [gotoSiblingInternal]
  cases h : adv (siblingIter lang e p rest.head?) with
  | none =>
    simp only [siblingIter] at h
    simp only [sibStop, revisit, siblingIter, h, List.length_cons]
  | some r =>
    obtain ⟨e', v, it'⟩ := r
    simp only [siblingIter] at h
    simp only [sibStop, revisit, siblingIter, h, List.length_cons, scanSiblings_run]
    cases (run adv (p.t.kids.length + 2) it').find? stops with
    | none => rfl
    | some x => obtain ⟨x, b⟩ := x; cases b <;> rfl

end TsVerif.C06
