import TsVerif.C06.CursorProps
import TsVerif.C06.RawGeom
/-!
# C06 — `ts_tree_cursor_goto_parent` and `ts_tree_cursor_current_depth`

`gotoParent` pops the top entry and then every entry that is not a visible node of the tree (`isEntryVisible`; the
bottom entry — the cursor's root — always counts as visible).  `goto_first_child` / `goto_last_child` push a run of hidden
entries and one visible entry, so `goto_parent` after either of them restores the stack exactly (when the cursor stood on a
visible node: `TopVisible`, which goto_parent, goto_first/last_child and goto_next_sibling establish).  `cursor_parent_is_parentOnPath`
ties goto_parent to the DEFINITION `parentOnPath` of the node.c theorems (an entry is the raw child of `rawChildren` at its index,
`rawChildAt_entry`); it is the only bridge between a cursor move and the path lists of those theorems.
-/
namespace TsVerif.C06
open TsGen TsVerif TsVerif.C02

/-- `pre` is a run of entries none of which is a visible node of the tree, relative to the entry below it in
`pre ++ stack`. -/
def HiddenOver (lang : Lang) : List Entry → List Entry → Prop
  | [], _ => True
  | h :: hs, stack => isEntryVisible lang h (hs ++ stack).head? = false ∧ HiddenOver lang hs stack

/-- The cursor stands on a visible node (or on its root). -/
def TopVisible (lang : Lang) : List Entry → Prop
  | [] => False
  | e :: rest => isEntryVisible lang e rest.head? = true

theorem hiddenOver_append (lang : Lang) : ∀ (a b stack : List Entry),
    HiddenOver lang a (b ++ stack) → HiddenOver lang b stack → HiddenOver lang (a ++ b) stack
  | [], _, _, _, hb => hb
  | h :: hs, b, stack, ha, hb => by
    simp only [List.cons_append, HiddenOver, List.append_assoc] at ha ⊢
    exact ⟨ha.1, hiddenOver_append lang hs b stack ha.2 hb⟩

theorem parentGo_skip (lang : Lang) : ∀ (hs stack : List Entry), HiddenOver lang hs stack →
    gotoParent.go lang (hs ++ stack) = gotoParent.go lang stack
  | [], _, _ => rfl
  | h :: hs, stack, hh => by
    simp only [HiddenOver] at hh
    simp only [List.cons_append, gotoParent.go, hh.1, Bool.false_eq_true, if_false]
    exact parentGo_skip lang hs stack hh.2

theorem parentGo_visible (lang : Lang) (stack : List Entry) (h : TopVisible lang stack) : gotoParent.go lang stack = some stack := by
  cases stack with
  | nil => exact absurd h (by simp [TopVisible])
  | cons e rest => simp only [TopVisible] at h; simp [gotoParent.go, h]

theorem parentGo_split (lang : Lang) : ∀ (stack : List Entry), stack ≠ [] →
    ∃ hs st, stack = hs ++ st ∧ HiddenOver lang hs st ∧ TopVisible lang st ∧ gotoParent.go lang stack = some st
  | [], h => absurd rfl h
  | [e], _ => ⟨[], [e], rfl, trivial, by simp [TopVisible, isEntryVisible], by simp [gotoParent.go, isEntryVisible]⟩
  | e :: p :: rest, _ => by
    by_cases hv : isEntryVisible lang e (some p) = true
    · exact ⟨[], e :: p :: rest, rfl, trivial, by simpa [TopVisible] using hv, by simp [gotoParent.go, hv]⟩
    · have hv' := eq_false_of_ne_true hv
      obtain ⟨hs, st, e1, h1, h2, h3⟩ := parentGo_split lang (p :: rest) (by simp)
      refine ⟨e :: hs, st, by simp [e1], ?_, h2, ?_⟩
      · simp only [HiddenOver]
        refine ⟨?_, h1⟩
        rw [← e1]; simpa using hv'
      · simp only [gotoParent.go, List.head?_cons, hv', Bool.false_eq_true, if_false]
        exact h3

/-- For every language and every cursor: `ts_tree_cursor_goto_parent` fails (cursor
unchanged) exactly when the stack has at most one entry; otherwise it succeeds and the new stack is what remains of
the old one after popping the top entry and the run of hidden entries below it: it begins with the nearest entry
below the top that is a visible node of the tree (or with the cursor's root). -/
theorem goto_parent_spec (lang : Lang) (c : Cursor) :
    (c.stack.length ≤ 1 → gotoParent lang c = (false, c)) ∧
    (∀ top rest, c.stack = top :: rest → rest ≠ [] →
      ∃ hs st, rest = hs ++ st ∧ HiddenOver lang hs st ∧ TopVisible lang st ∧
        gotoParent lang c = (true, { c with stack := st })) := by
  constructor
  · intro h
    unfold gotoParent
    cases hc : c.stack with
    | nil => rfl
    | cons top rest =>
      have : rest = [] := by rw [hc] at h; cases rest <;> simp_all
      subst this
      simp [gotoParent.go]
  · intro top rest hc hne
    obtain ⟨hs, st, e1, h1, h2, h3⟩ := parentGo_split lang rest hne
    refine ⟨hs, st, e1, h1, h2, ?_⟩
    unfold gotoParent
    simp only [hc, h3]

theorem iterNext_vis (lang : Lang) (it : Iter) (e : Entry) (vis : Bool) (it' : Iter) (p : Entry) (hp : it.parent = p.t)
    (h : iterNext lang it = some (e, vis, it')) : vis = isEntryVisible lang e (some p) ∧ it'.parent = it.parent := by
  cases hv : it.valid with
  | false => simp [iterNext, hv] at h
  | true =>
    cases hc : it.parent.kids[it.childIndex]? with
    | none => rw [iterNext_none lang it hc] at h; simp at h
    | some c =>
      rw [iterNext_some lang it c hv hc] at h
      simp only [Option.some.injEq, Prod.mk.injEq] at h
      obtain ⟨h1, h2, h3⟩ := h
      subst h1 h2 h3
      refine ⟨?_, rfl⟩
      simp only [visOf, isEntryVisible, entryOf, hp]
      cases c.data.visible <;> cases c.data.extra <;> simp

/-- What a child step may return: a visible entry that IS visible relative to `p`, or a hidden one that is not. -/
def StepOK (lang : Lang) (p : Entry) (r : Step × Option Entry) : Prop :=
  ∀ e, (r = (.visible, some e) → isEntryVisible lang e (some p) = true) ∧
       (r = (.hidden, some e) → isEntryVisible lang e (some p) = false)

theorem stepOK_stepOf (lang : Lang) (p : Entry) (it : Iter) (hp : it.parent = p.t) (x : Entry × Bool) (hx : x ∈ ahead lang it) :
    StepOK lang p (stepOf (some x)) := by
  unfold ahead at hx
  rw [hp] at hx
  have hv := kidsFrom_vis lang p _ _ _ _ _ x hx
  obtain ⟨x, b⟩ := x
  intro e
  cases b <;> constructor <;> intro h <;> cases h <;> exact hv.symm

theorem firstGo_vis (lang : Lang) (p : Entry) : ∀ (fuel : Nat) (it : Iter), it.parent = p.t →
    ∀ e, ((firstChildInternal.go lang fuel it) = (.visible, some e) → isEntryVisible lang e (some p) = true) ∧
         ((firstChildInternal.go lang fuel it) = (.hidden, some e) → isEntryVisible lang e (some p) = false) := by
  intro fuel it hp e
  rw [firstGo_run]
  cases hf : (run (iterNext lang) fuel it).find? stops with
  | none => exact ⟨nofun, nofun⟩
  | some x => exact stepOK_stepOf lang p it hp x (run_mem lang fuel it x (List.mem_of_find?_eq_some hf)) e

theorem lastGo_vis (lang : Lang) (p : Entry) : ∀ (fuel : Nat) (it : Iter) (best : Step × Option Entry), it.parent = p.t →
    StepOK lang p best → StepOK lang p (lastChildInternal.go lang fuel it best) := by
  intro fuel it best hp hb
  rw [lastGo_run]
  cases hf : (run (iterNext lang) fuel it).reverse.find? stops with
  | none => exact hb
  | some x =>
    exact stepOK_stepOf lang p it hp x (run_mem lang fuel it x (List.mem_reverse.mp (List.mem_of_find?_eq_some hf)))

theorem gotoChild_shape (lang : Lang) (last : Bool) : ∀ (fuel : Nat) (stack : List Entry),
    (gotoChild lang last fuel stack).1 = true →
    ∃ e hs, (gotoChild lang last fuel stack).2 = e :: (hs ++ stack) ∧ HiddenOver lang hs stack ∧
      isEntryVisible lang e (hs ++ stack).head? = true
  | 0, stack, h => by simp [gotoChild] at h
  | fuel + 1, [], h => by simp [gotoChild] at h
  | fuel + 1, top :: rest, h => by
    rw [gotoChild_step] at h ⊢
    cases hs : childStop lang last top rest.head? with
    | none => rw [hs] at h; cases h
    | some x =>
      have hv := childStop_vis hs
      obtain ⟨x, b⟩ := x
      rw [hs] at h
      cases b
      · obtain ⟨e', hs', h1, h2, h3⟩ := gotoChild_shape lang last fuel (x :: top :: rest) h
        refine ⟨e', hs' ++ [x], by simpa using h1, ?_, by simpa using h3⟩
        exact hiddenOver_append lang hs' [x] (top :: rest) (by simpa using h2) ⟨hv.symm, trivial⟩
      · exact ⟨x, [], rfl, trivial, hv.symm⟩

theorem gotoParent_over (lang : Lang) (c : Cursor) (e : Entry) (hs stack : List Entry)
    (hh : HiddenOver lang hs stack) (hv : TopVisible lang stack) :
    gotoParent lang { c with stack := e :: (hs ++ stack) } = (true, { c with stack := stack }) := by
  unfold gotoParent
  simp only [parentGo_skip lang hs stack hh, parentGo_visible lang stack hv]

/-- From a cursor that stands on a visible node (or its root), a successful
`goto_first_child` or `goto_last_child` followed by `goto_parent` restores the cursor exactly — the stack entry
for entry, so node, position, descendant index, field and depth are the old ones. -/
theorem goto_parent_undoes_child (lang : Lang) (last : Bool) (c : Cursor) (fuel : Nat) (hv : TopVisible lang c.stack)
    (h : (gotoChild lang last fuel c.stack).1 = true) :
    gotoParent lang { c with stack := (gotoChild lang last fuel c.stack).2 } = (true, c) ∧
    TopVisible lang (gotoChild lang last fuel c.stack).2 := by
  obtain ⟨e, hs, h1, h2, h3⟩ := gotoChild_shape lang last fuel c.stack h
  rw [h1]
  exact ⟨gotoParent_over lang c e hs c.stack h2 hv, by simpa [TopVisible] using h3⟩

theorem gotoParent_topVisible (lang : Lang) (c : Cursor) (h : (gotoParent lang c).1 = true) :
    TopVisible lang (gotoParent lang c).2.stack := by
  cases hc : c.stack with
  | nil => simp [gotoParent, hc] at h
  | cons top rest =>
    cases rest with
    | nil => simp [gotoParent, hc, gotoParent.go] at h
    | cons p r =>
      obtain ⟨hs, st, _, _, h2, h3⟩ := (goto_parent_spec lang c).2 top (p :: r) hc (by simp)
      rw [h3]; exact h2

/-- Number of entries above the cursor's root that are visible nodes. -/
def visibleAbove (lang : Lang) : List Entry → Nat
  | [] => 0
  | [_] => 0
  | e :: p :: rest => (if isEntryVisible lang e (some p) then 1 else 0) + visibleAbove lang (p :: rest)

/-- `ts_tree_cursor_current_depth` = number of stack entries above the cursor's root that are
visible nodes of the tree (the node itself included, the root excluded). -/
theorem depth_spec (lang : Lang) (c : Cursor) : currentDepth lang c = visibleAbove lang c.stack := by
  unfold currentDepth
  generalize c.stack = st
  induction st with
  | nil => rfl
  | cons e rest ih =>
    cases rest with
    | nil => rfl
    | cons p r => simp only [currentDepth.go, visibleAbove, ih]

theorem visibleAbove_hidden (lang : Lang) : ∀ (hs stack : List Entry), stack ≠ [] → HiddenOver lang hs stack →
    visibleAbove lang (hs ++ stack) = visibleAbove lang stack
  | [], _, _, _ => rfl
  | h :: hs, stack, hne, hh => by
    simp only [HiddenOver] at hh
    have ih := visibleAbove_hidden lang hs stack hne hh.2
    cases hx : hs ++ stack with
    | nil => simp at hx; exact absurd hx.2 hne
    | cons p r =>
      rw [hx] at hh ih
      simp only [List.cons_append, hx, visibleAbove, List.head?_cons] at hh ⊢
      simp [hh.1, ih]

/-- A successful `goto_first_child` / `goto_last_child` increases the depth by exactly one,
however many hidden levels it passes. -/
theorem depth_child (lang : Lang) (last : Bool) (c : Cursor) (fuel : Nat)
    (h : (gotoChild lang last fuel c.stack).1 = true) :
    currentDepth lang { c with stack := (gotoChild lang last fuel c.stack).2 } = currentDepth lang c + 1 := by
  obtain ⟨e, hs, h1, h2, h3⟩ := gotoChild_shape lang last fuel c.stack h
  have hne : c.stack ≠ [] := by
    intro h0; rw [h0] at h; cases fuel <;> simp [gotoChild] at h
  rw [depth_spec, depth_spec, h1]
  cases hx : hs ++ c.stack with
  | nil => simp at hx; exact absurd hx.2 hne
  | cons p r =>
    rw [hx] at h3
    simp only [visibleAbove, List.head?_cons] at h3 ⊢
    rw [h3, ← hx, visibleAbove_hidden lang hs c.stack hne h2]
    simp; omega

/-- From a visible node, a successful `goto_parent` decreases the depth by exactly one. -/
theorem depth_parent (lang : Lang) (c : Cursor) (hv : TopVisible lang c.stack) (h : (gotoParent lang c).1 = true) :
    currentDepth lang (gotoParent lang c).2 + 1 = currentDepth lang c := by
  cases hc : c.stack with
  | nil => simp [gotoParent, hc] at h
  | cons top rest =>
    cases rest with
    | nil => simp [gotoParent, hc, gotoParent.go] at h
    | cons p r =>
      obtain ⟨hs, st, e1, h1, h2, h3⟩ := (goto_parent_spec lang c).2 top (p :: r) hc (by simp)
      have hst : st ≠ [] := by intro h0; rw [h0] at h2; exact h2
      rw [h3, depth_spec, depth_spec, hc]
      simp only [TopVisible, hc, List.head?_cons] at hv
      simp only [visibleAbove, hv, if_true, e1, visibleAbove_hidden lang hs st hst h1]
      omega

theorem gotoParent_preserves_inv (lang : Lang) (c : Cursor) (hi : CursorInv lang c.stack) :
    CursorInv lang (gotoParent lang c).2.stack := by
  cases hc : c.stack with
  | nil => rw [hc] at hi; exact absurd hi (by simp [CursorInv])
  | cons top rest =>
    cases rest with
    | nil => rw [(goto_parent_spec lang c).1 (by simp [hc])]; exact hi
    | cons p r =>
      obtain ⟨hs, st, e1, h1, h2, h3⟩ := (goto_parent_spec lang c).2 top (p :: r) hc (by simp)
      have hst : st ≠ [] := by intro h0; rw [h0] at h2; exact h2
      rw [h3]
      rw [hc] at hi
      have := cursorInv_tail lang top (p :: r) (by simp) hi
      rw [e1] at this
      exact cursorInv_suffix lang hs st hst this

/-! ## The cursor's parent is `ts_node_parent`'s parent

The stack (top first) of a cursor, read from the bottom, is a path of raw child indices from the cursor's root
to the node shown.  `ts_node_parent` is specified on such paths (`parent_spec_partial`, `parent_spec_empty`:
its answer is `parentOnPath`).  Here: the node `goto_parent` shows is `parentOnPath` of the stack's path. -/

/-- A root-first chain of entries below `p`: each is the raw child of the one before at its recorded index, with
the structural index the forward iterator gives it (`StackOK` linkage + `IdxOK`, read from the bottom). -/
def ChainOK : Entry → List Entry → Prop
  | _, [] => True
  | p, e :: rest => p.t.kids[e.childIndex]? = some e.t ∧ e.si = siAfter (p.t.kids.take e.childIndex) 0 ∧ ChainOK e rest

/-- (subtree, alias) of the LAST entry of the chain that is a visible node, `best` if there is none. -/
def lastVisAll (lang : Lang) (best : Tree × Nat) : Entry → List Entry → Tree × Nat
  | _, [] => best
  | p, e :: rest => lastVisAll lang (if visEntry lang e p then (e.t, entryAlias lang e p) else best) e rest

theorem rawChildAt_entry (lang : Lang) (n : NodeRef) (p e : Entry) (hn : n.t = p.t)
    (hk : p.t.kids[e.childIndex]? = some e.t) (hsi : e.si = siAfter (p.t.kids.take e.childIndex) 0) :
    ∃ c, rawChildAt lang n e.childIndex = some c ∧ c.t = e.t ∧ c.alias = entryAlias lang e p ∧
      c.relevant lang true = visEntry lang e p := by
  have hlen : e.childIndex < (rawChildren lang n).length := by
    rw [rawChildren_length, hn]; exact lt_of_getElem?_some _ _ _ hk
  obtain ⟨rc, hrc⟩ : ∃ rc, (rawChildren lang n)[e.childIndex]? = some rc := ⟨_, List.getElem?_eq_getElem hlen⟩
  have he := go_elem lang _ _ _ _ _ _ _ e.childIndex rc hrc
  have hs := go_si lang _ _ _ _ _ _ _ e.childIndex rc hrc
  rw [hn] at he hs
  have ht : rc.node.t = e.t := by
    have := he.2.2; rw [hk] at this; exact (Option.some.inj this).symm
  have hsi' : rc.si = e.si := by rw [hs.1, hsi]
  have hal : rc.node.alias = entryAlias lang e p := by
    rw [hs.2, hsi', ht]; rfl
  refine ⟨rc.node, by simp [rawChildAt, hrc], ht, hal, ?_⟩
  simp only [NodeRef.relevant, isRelevant, if_true, hal, ht, visEntry, entryAlias]
  cases e.t.data.visible <;> cases e.t.data.extra <;> simp

theorem parentOnPath_chain (lang : Lang) : ∀ (es : List Entry) (x : Entry) (p : Entry) (n best : NodeRef), n.t = p.t →
    ChainOK p (es ++ [x]) →
    ((parentOnPath lang best n ((es ++ [x]).map (·.childIndex))).t, (parentOnPath lang best n ((es ++ [x]).map (·.childIndex))).alias) =
      lastVisAll lang (best.t, best.alias) p es
  | [], x, p, n, best, _, _ => by simp [parentOnPath, lastVisAll]
  | e :: rest, x, p, n, best, hn, hc => by
    simp only [List.cons_append, ChainOK] at hc
    obtain ⟨c, h1, h2, h3, h4⟩ := rawChildAt_entry lang n p e hn hc.1 hc.2.1
    have hmap : ((e :: rest) ++ [x]).map (·.childIndex) = e.childIndex :: (rest ++ [x]).map (·.childIndex) := by simp
    rw [hmap]
    cases hr : (rest ++ [x]).map (·.childIndex) with
    | nil => simp at hr
    | cons k' tl =>
      simp only [parentOnPath, h1, lastVisAll]
      rw [← hr]
      have ih := parentOnPath_chain lang rest x e c (if c.relevant lang true then c else best) h2 hc.2.2
      rw [ih, h4]
      by_cases hv : visEntry lang e p = true
      · simp [hv, h2, h3]
      · have hv' := eq_false_of_ne_true hv
        simp [hv']

theorem lastVisAll_snoc (lang : Lang) : ∀ (es : List Entry) (y : Entry) (best : Tree × Nat) (p : Entry),
    lastVisAll lang best p (es ++ [y]) =
      (if visEntry lang y ((p :: es).getLast (by simp)) then (y.t, entryAlias lang y ((p :: es).getLast (by simp)))
       else lastVisAll lang best p es)
  | [], y, best, p => by simp [lastVisAll]; rfl
  | e :: rest, y, best, p => by
    simp only [List.cons_append, lastVisAll]
    rw [lastVisAll_snoc lang rest y _ e]
    simp only [List.getLast_cons (List.cons_ne_nil e rest)]

/-- The node a stack shows: subtree of the top entry with the alias its parent entry (or the cursor, for the root) gives it. -/
def shown (lang : Lang) (rootAlias : Nat) : List Entry → Tree × Nat
  | [] => (default, 0)
  | [r] => (r.t, rootAlias)
  | e :: p :: _ => (e.t, entryAlias lang e p)

theorem head_rev_snoc (r : Entry) (es : List Entry) : (es.reverse ++ [r]).head? = some ((r :: es).getLast (by simp)) := by
  rw [← List.reverse_cons, List.head?_reverse, List.getLast?_eq_some_getLast]

/-- `parentOnPath` consumes the path from the root, `gotoParent.go` the stack from the top: hence the induction on the length,
with the list taken apart at its end. -/
theorem parentGo_chain (lang : Lang) (rootAlias : Nat) (r : Entry) : ∀ (n : Nat) (es : List Entry), es.length = n →
    ∃ st, gotoParent.go lang (es.reverse ++ [r]) = some st ∧ shown lang rootAlias st = lastVisAll lang (r.t, rootAlias) r es
  | 0, es, h => by
    have : es = [] := List.length_eq_zero_iff.mp h
    subst this
    exact ⟨[r], by simp [gotoParent.go, isEntryVisible], by simp [shown, lastVisAll]⟩
  | n + 1, es, h => by
    have hne : es ≠ [] := by intro h0; subst h0; simp at h
    obtain ⟨es', y, rfl⟩ : ∃ es' y, es = es' ++ [y] := ⟨es.dropLast, es.getLast hne, (List.dropLast_concat_getLast hne).symm⟩
    have hl : es'.length = n := by simpa using h
    obtain ⟨st, h1, h2⟩ := parentGo_chain lang rootAlias r n es' hl
    have hrev : (es' ++ [y]).reverse ++ [r] = y :: (es'.reverse ++ [r]) := by simp
    rw [hrev, lastVisAll_snoc]
    have hh := head_rev_snoc r es'
    obtain ⟨q, tl, hq⟩ := List.exists_cons_of_ne_nil (l := es'.reverse ++ [r]) (by simp)
    have hqeq : q = (r :: es').getLast (by simp) := by
      rw [hq] at hh; simpa using hh
    simp only [gotoParent.go, hq, List.head?_cons, isEntryVisible_eq]
    rw [← hqeq]
    by_cases hv : visEntry lang y q = true
    · simp only [hv, if_true]
      exact ⟨_, rfl, by simp [shown]⟩
    · have hv' := eq_false_of_ne_true hv
      simp only [hv', Bool.false_eq_true, if_false]
      rw [hq] at h1
      exact ⟨st, h1, h2⟩

/-- Let the cursor's stack, read from the bottom, be the chain `r :: es ++ [x]`
(`x` = the entry shown, `es` the entries between it and the cursor's root `r`; `ChainOK` = linkage and structural
indices, which `CursorInv` provides) and let `root` be the cursor's root as a `TSNode` (same subtree, alias
`rootAlias`).  Then `ts_tree_cursor_goto_parent` succeeds and shows exactly the node that `parentOnPath` — the
specification of `ts_node_parent` (`parent_spec_partial`, `parent_spec_empty`) — designates for the path of child
indices from the root to `x`: same subtree, same alias. -/
theorem cursor_parent_is_parentOnPath (lang : Lang) (c : Cursor) (r x : Entry) (es : List Entry) (root : NodeRef)
    (hstack : c.stack = x :: (es.reverse ++ [r])) (hroot : root.t = r.t) (hal : root.alias = c.rootAlias)
    (hc : ChainOK r (es ++ [x])) :
    (gotoParent lang c).1 = true ∧
    shown lang c.rootAlias (gotoParent lang c).2.stack =
      ((parentOnPath lang root root ((es ++ [x]).map (·.childIndex))).t,
       (parentOnPath lang root root ((es ++ [x]).map (·.childIndex))).alias) := by
  obtain ⟨st, h1, h2⟩ := parentGo_chain lang c.rootAlias r es.length es rfl
  have hp := parentOnPath_chain lang es x r root root hroot hc
  unfold gotoParent
  simp only [hstack, h1, true_and]
  rw [h2, hp, hroot, hal]

theorem linked_snoc : ∀ (l : List Entry) (q r : Entry), Linked (l ++ [q, r]) →
    Linked (l ++ [q]) ∧ r.t.kids[q.childIndex]? = some q.t ∧ q.si = siAfter (r.t.kids.take q.childIndex) 0
  | [], q, r, h => by simp only [List.nil_append, Linked] at h ⊢; exact ⟨trivial, h.1.1, h.1.2⟩
  | [e], q, r, h => by
    simp only [List.cons_append, List.nil_append, Linked] at h ⊢
    exact ⟨⟨h.1, trivial⟩, h.2.1.1, h.2.1.2⟩
  | e :: p :: l, q, r, h => by
    simp only [List.cons_append, Linked] at h ⊢
    have ih := linked_snoc (p :: l) q r (by simpa using h.2)
    exact ⟨⟨h.1, by simpa using ih.1⟩, ih.2⟩

theorem chainOK_of_linked : ∀ (es : List Entry) (r x : Entry), Linked (x :: (es.reverse ++ [r])) → ChainOK r (es ++ [x])
  | [], r, x, h => by
    simp only [List.reverse_nil, List.nil_append, Linked] at h
    simp only [List.nil_append, ChainOK]
    exact ⟨h.1.1, h.1.2, trivial⟩
  | e1 :: rest, r, x, h => by
    have hs : x :: ((e1 :: rest).reverse ++ [r]) = (x :: rest.reverse) ++ [e1, r] := by simp
    rw [hs] at h
    obtain ⟨h1, h2, h3⟩ := linked_snoc (x :: rest.reverse) e1 r h
    simp only [List.cons_append, ChainOK]
    exact ⟨h2, h3, chainOK_of_linked rest e1 x (by simpa using h1)⟩

theorem cursor_parent_is_parentOnPath_inv (lang : Lang) (c : Cursor) (r x : Entry) (es : List Entry) (root : NodeRef)
    (hstack : c.stack = x :: (es.reverse ++ [r])) (hroot : root.t = r.t) (hal : root.alias = c.rootAlias)
    (hi : CursorInv lang c.stack) :
    (gotoParent lang c).1 = true ∧
    shown lang c.rootAlias (gotoParent lang c).2.stack =
      ((parentOnPath lang root root ((es ++ [x]).map (·.childIndex))).t,
       (parentOnPath lang root root ((es ++ [x]).map (·.childIndex))).alias) :=
  cursor_parent_is_parentOnPath lang c r x es root hstack hroot hal
    (chainOK_of_linked es r x (by rw [← hstack]; exact linked_of_inv lang c.stack hi))

theorem sibStop_next_vis (lang : Lang) (e p : Entry) (rest : List Entry) (x : Entry × Bool)
    (hchild : p.t.kids[e.childIndex]? = some e.t) (h : sibStop lang (iterNext lang) e p rest = some x) :
    x.2 = isEntryVisible lang x.1 (some p) :=
  kidsFrom_vis lang p _ _ _ _ _ x (List.mem_of_find?_eq_some ((sibStop_next lang e p rest hchild).2 ▸ h))

/-- Shape of what the forward `gotoSiblingInternal` returns: it pops the top entry and a run of hidden entries
(a visible one below the original top ends the search), then pushes one sibling entry. -/
theorem next_internal_shape (lang : Lang) (initialSize : Nat) : ∀ (stack : List Entry), Linked stack →
    stack.length ≤ initialSize →
    (gotoSiblingInternal lang (iterNext lang) initialSize stack).1 ≠ Step.none →
    ∃ t hs below e, stack = t :: (hs ++ below) ∧ below ≠ [] ∧ HiddenOver lang hs below ∧
      (stack.length < initialSize → isEntryVisible lang t (hs ++ below).head? = false) ∧
      (gotoSiblingInternal lang (iterNext lang) initialSize stack).2 = e :: below ∧
      ((gotoSiblingInternal lang (iterNext lang) initialSize stack).1 = Step.visible → isEntryVisible lang e below.head? = true) ∧
      ((gotoSiblingInternal lang (iterNext lang) initialSize stack).1 = Step.hidden → isEntryVisible lang e below.head? = false) := by
  intro stack
  induction stack with
  | nil => intro _ _ hne; simp [gotoSiblingInternal] at hne
  | cons entry tl ih =>
    intro hl hlen hne
    cases tl with
    | nil => simp [gotoSiblingInternal] at hne
    | cons parent rest =>
    obtain ⟨⟨hchild, _⟩, hlrest⟩ := hl
    have hvis := (sibStop_next lang entry parent rest hchild).1
    rw [gotoSiblingInternal_step, hvis] at hne ⊢
    by_cases hbr : (visEntry lang entry parent && decide (rest.length + 2 < initialSize)) = true
    · rw [if_pos hbr] at hne; exact absurd rfl hne
    · rw [if_neg hbr] at hne ⊢
      -- below the cursor's own level a visible entry would have ended the search
      have hentryHidden : (entry :: parent :: rest).length < initialSize → isEntryVisible lang entry (some parent) = false := by
        intro hlt
        rw [isEntryVisible_eq]
        simpa [show rest.length + 2 < initialSize from hlt] using hbr
      cases hs : sibStop lang (iterNext lang) entry parent rest with
      | none =>
        rw [hs] at hne
        obtain ⟨t', hs', below, e, h1, h2, h3, h4, h5, h6, h7⟩ := ih hlrest (by simp at hlen ⊢; omega) hne
        obtain ⟨ht', h1⟩ := List.cons.inj h1
        subst ht'
        exact ⟨entry, parent :: hs', below, e, by rw [h1]; rfl, h2, ⟨h4 (by simp at hlen ⊢; omega), h3⟩, hentryHidden, h5, h6, h7⟩
      | some x =>
        have hv := sibStop_next_vis lang entry parent rest x hchild hs
        obtain ⟨x, b⟩ := x
        cases b
        · exact ⟨entry, [], parent :: rest, x, rfl, by simp, trivial, hentryHidden, rfl, (fun h => by cases h), fun _ => hv.symm⟩
        · exact ⟨entry, [], parent :: rest, x, rfl, by simp, trivial, hentryHidden, rfl, fun _ => hv.symm, (fun h => by cases h)⟩

/-- A failing descent leaves a run of hidden entries over the old stack (the C function is only called where it
cannot fail: after a hidden step with `visible_child_count > 0`). -/
theorem gotoChild_shape_fail (lang : Lang) (last : Bool) : ∀ (fuel : Nat) (stack : List Entry),
    (gotoChild lang last fuel stack).1 = false →
    ∃ hs, (gotoChild lang last fuel stack).2 = hs ++ stack ∧ HiddenOver lang hs stack
  | 0, stack, _ => ⟨[], by simp [gotoChild], trivial⟩
  | fuel + 1, [], _ => ⟨[], by simp [gotoChild], trivial⟩
  | fuel + 1, top :: rest, h => by
    rw [gotoChild_step] at h ⊢
    cases hs : childStop lang last top rest.head? with
    | none => exact ⟨[], rfl, trivial⟩
    | some x =>
      have hv := childStop_vis hs
      obtain ⟨x, b⟩ := x
      rw [hs] at h
      cases b
      · obtain ⟨hs', h1, h2⟩ := gotoChild_shape_fail lang last fuel (x :: top :: rest) h
        exact ⟨hs' ++ [x], by simpa using h1, hiddenOver_append lang hs' [x] (top :: rest) (by simpa using h2) ⟨hv.symm, trivial⟩⟩
      · cases h

/-- For every linked stack: after a successful `goto_next_sibling`, `goto_parent`
leads to the very same stack as `goto_parent` from the old position — the two nodes have the same parent — however
many hidden levels the move went up and down. -/
theorem next_sibling_keeps_parent (lang : Lang) (c : Cursor) (hl : Linked c.stack) (h : (gotoNextSibling lang c).1 = true) :
    gotoParent.go lang (gotoNextSibling lang c).2.stack.tail = gotoParent.go lang c.stack.tail := by
  unfold gotoNextSibling at h ⊢
  have hs := next_internal_shape lang c.stack.length c.stack hl (Nat.le_refl _)
  generalize hr : gotoSiblingInternal lang (iterNext lang) c.stack.length c.stack = r at hs h ⊢
  obtain ⟨step, st⟩ := r
  cases step with
  | none => simp at h
  | visible =>
    obtain ⟨t, hs', below, e, h1, _, h3, _, h5, _, _⟩ := hs (by simp)
    simp only at h5 ⊢
    rw [h5, h1]
    simp only [List.tail_cons]
    exact (parentGo_skip lang hs' below h3).symm
  | hidden =>
    obtain ⟨t, hs', below, e, h1, _, h3, _, h5, _, h7⟩ := hs (by simp)
    simp only at h5 h7 ⊢
    have he := h7 trivial
    rw [h5, h1]
    simp only [List.tail_cons]
    rw [parentGo_skip lang hs' below h3]
    cases hb : (gotoChild lang false (topSize (e :: below)) (e :: below)).1 with
    | true =>
      obtain ⟨e', hs2, g1, g2, _⟩ := gotoChild_shape lang false _ (e :: below) hb
      rw [g1]
      simp only [List.tail_cons]
      exact (parentGo_skip lang hs2 (e :: below) g2).trans (parentGo_skip lang [e] below ⟨he, trivial⟩)
    | false =>
      obtain ⟨hs2, g1, g2⟩ := gotoChild_shape_fail lang false _ (e :: below) hb
      rw [g1]
      cases hs2 with
      | nil => simp only [List.nil_append, List.tail_cons]
      | cons x xs =>
        simp only [List.cons_append, List.tail_cons]
        simp only [HiddenOver] at g2
        exact (parentGo_skip lang xs (e :: below) g2.2).trans (parentGo_skip lang [e] below ⟨he, trivial⟩)

theorem visibleAbove_push (lang : Lang) (e : Entry) (hs below : List Entry) (hne : below ≠ []) (hh : HiddenOver lang hs below)
    (he : isEntryVisible lang e (hs ++ below).head? = true) :
    visibleAbove lang (e :: (hs ++ below)) = 1 + visibleAbove lang below := by
  obtain ⟨q, qs, hq⟩ := List.exists_cons_of_ne_nil (l := hs ++ below) (by simp [hne])
  rw [hq] at he
  simp only [List.head?_cons] at he
  rw [hq]
  simp only [visibleAbove, he, if_true]
  rw [← hq, visibleAbove_hidden lang hs below hne hh]

/-- Under `StackOK` (summaries: a hidden step is only taken into a node with visible
children, so the descent succeeds) a successful `goto_next_sibling` from a visible node ends on a visible node at
the same depth. -/
theorem next_sibling_depth (lang : Lang) (c : Cursor) (hok : StackOK lang c.stack) (hl : Linked c.stack)
    (hv : TopVisible lang c.stack) (h : (gotoNextSibling lang c).1 = true) :
    TopVisible lang (gotoNextSibling lang c).2.stack ∧ currentDepth lang (gotoNextSibling lang c).2 = currentDepth lang c := by
  have hspec := sibling_internal_spec lang c.stack.length c.stack true hok (fun _ => rfl) (fun h => by simp at h)
  unfold gotoNextSibling at h ⊢
  have hs := next_internal_shape lang c.stack.length c.stack hl (Nat.le_refl _)
  generalize hr : gotoSiblingInternal lang (iterNext lang) c.stack.length c.stack = r at hs h hspec ⊢
  obtain ⟨step, st⟩ := r
  cases step with
  | none => simp at h
  | visible =>
    obtain ⟨t, hs', below, e, h1, h2, h3, _, h5, h6, _⟩ := hs (by simp)
    simp only at h5 h6 ⊢
    have he := h6 trivial
    rw [h1] at hv
    simp only [TopVisible] at hv
    refine ⟨by rw [h5]; simpa [TopVisible] using he, ?_⟩
    rw [depth_spec, depth_spec, h5, h1, visibleAbove_push lang t hs' below h2 h3 hv]
    exact visibleAbove_push lang e [] below h2 trivial (by simpa using he)
  | hidden =>
    obtain ⟨t, hs', below, e, h1, h2, h3, _, h5, _, h7⟩ := hs (by simp)
    simp only at h5 h7 hspec ⊢
    have he := h7 trivial
    obtain ⟨e0, st', hst, hvcc, hsum, ⟨ps, hsh⟩, _⟩ := hspec.2.1 trivial
    rw [h5] at hst
    have hee : e0 = e := by simp at hst; exact hst.1.symm
    subst hee
    obtain ⟨e', hs2, g1, g2, g3⟩ := gotoChild_shape lang false _ (e0 :: below) (gotoChild_of_vcc lang false e0 below ps hsum hsh hvcc).1
    rw [h5, g1]
    rw [h1] at hv
    simp only [TopVisible] at hv
    refine ⟨by simpa [TopVisible] using g3, ?_⟩
    rw [depth_spec, depth_spec, h1, visibleAbove_push lang t hs' below h2 h3 hv]
    have hh2 : HiddenOver lang (hs2 ++ [e0]) below := by
      apply hiddenOver_append
      · simpa using g2
      · simp only [HiddenOver, List.nil_append, and_true]; exact he
    have := visibleAbove_push lang e' (hs2 ++ [e0]) below h2 hh2 (by simpa using g3)
    simpa using this

/-! ## Non-vacuity: `cwRoot` = rule[tok, _hidden[tok, tok], tok]; the cursor on the first token inside the hidden node -/

def cpRootE : Entry := { t := cwRoot, id := 1, pos := length_zero }
def cpHiddenE : Entry := { t := cwHidden, id := 2, pos := length_zero, childIndex := 1, si := 1, descIdx := 2 }
def cpLeafE : Entry := { t := cwLeaf, id := 3, pos := length_zero, childIndex := 0, si := 0, descIdx := 2 }
def cpCursor : Cursor := { stack := [cpLeafE, cpHiddenE, cpRootE] }

example : HiddenOver C02.demoLang [cpHiddenE] [cpRootE] ∧ TopVisible C02.demoLang [cpRootE] ∧ TopVisible C02.demoLang cpCursor.stack := by
  refine ⟨⟨by decide, trivial⟩, by simp [TopVisible, isEntryVisible], ?_⟩
  show isEntryVisible C02.demoLang cpLeafE (some cpHiddenE) = true
  decide
example : (gotoParent C02.demoLang cpCursor).1 = true ∧ ((gotoParent C02.demoLang cpCursor).2.stack.map (·.id)) = [1] ∧
    currentDepth C02.demoLang cpCursor = 1 ∧ currentDepth C02.demoLang (gotoParent C02.demoLang cpCursor).2 = 0 := by decide
example : ChainOK cpRootE ([cpHiddenE] ++ [cpLeafE]) := by
  simp only [List.cons_append, List.nil_append, ChainOK]
  exact ⟨rfl, by decide, rfl, by decide, trivial⟩

end TsVerif.C06
