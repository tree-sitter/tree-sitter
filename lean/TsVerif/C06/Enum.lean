import TsVerif.C02.Props
import TsVerif.C06.NodeNav
/-!
# C06 — what one step of the child iterator contributes to the visible children

`ts_node_child_iterator_next` (node.c) and `ts_tree_cursor_child_iterator_next` (tree_cursor.c) walk the raw children of a
node keeping the structural index (and, in node.c, the position).  A raw child that is visible or aliased is a child of the
node in the ordered tree; a hidden one stands for ITS visible children.  So every enumeration of visible children is a
`flatMap` of per-child contributions (`enumKids_eq`, `enumRefs_flatMap`): splitting, reversing and the first / last element
come from the library's lemmas about `flatMap`, and a theorem about a loop over the raw children needs only the fact about
ONE raw child.  Where a scan over the raw children stops (`firstRel`, `lastRel`, `relStep`) is the `findSome?` companion of
`enumKids_eq`.  No statement here contains a `match`, so that the module can be imported anywhere.
-/
namespace TsVerif.C06
open TsGen TsVerif TsVerif.C02

/-- The raw children paired with their structural indices (`structural_child_index` counts the non-extra children). -/
def withSi : List Tree → Nat → List (Tree × Nat)
  | [], _ => []
  | c :: rest, si => (c, si) :: withSi rest (if c.data.extra then si else si + 1)

theorem withSi_append : ∀ (a b : List Tree) (si : Nat), withSi (a ++ b) si = withSi a si ++ withSi b (siAfter a si)
  | [], _, _ => rfl
  | c :: a, b, si => by simp only [List.cons_append, withSi, siAfter, withSi_append a b]

theorem mem_withSi : ∀ {ks : List Tree} {si : Nat} {x : Tree × Nat}, x ∈ withSi ks si → x.1 ∈ ks
  | c :: rest, si, x, h => by
    rcases List.mem_cons.mp h with rfl | h
    · exact List.mem_cons_self
    · exact List.mem_cons_of_mem _ (mem_withSi h)

/-- What the raw child `x.1` at structural index `x.2` contributes to the enumeration of the visible children. -/
def contribOf (lang : Lang) (pid : Nat) (x : Tree × Nat) : List (Tree × Nat) :=
  if x.1.data.visible || (if x.1.data.extra then 0 else lang.aliasAt pid x.2) != 0
  then [(x.1, if x.1.data.extra then 0 else lang.aliasAt pid x.2)] else enumChildren lang x.1

theorem enumKids_eq (lang : Lang) (pid : Nat) : ∀ (ks : List Tree) (si : Nat),
    enumKids lang pid ks si = (withSi ks si).flatMap (contribOf lang pid)
  | [], _ => by rw [enumKids]; rfl
  | c :: rest, si => by rw [enumKids, withSi, List.flatMap_cons, enumKids_eq lang pid rest]; rfl

theorem findSome?_bind {α β γ : Type} (g : α → Option γ) (r : α → Option β) (m : β → Option γ) : ∀ (l : List α),
    (∀ x ∈ l, g x = (r x).bind m ∧ (r x ≠ none → g x ≠ none)) → l.findSome? g = (l.findSome? r).bind m
  | [], _ => rfl
  | a :: l, h => by
    have ha := h a List.mem_cons_self
    have ih := findSome?_bind g r m l fun x hx => h x (List.mem_cons_of_mem _ hx)
    rw [List.findSome?_cons, List.findSome?_cons]
    cases hr : r a with
    | none => rw [ha.1, hr]; exact ih
    | some b =>
      have hgb : g a = m b := by rw [ha.1, hr]; rfl
      have hne : g a ≠ none := ha.2 (by rw [hr]; exact fun h => nomatch h)
      cases hg : g a with
      | none => exact absurd hg hne
      | some y => exact hg.symm.trans hgb

/-- First (`last = false`) / last (`last = true`) element of a concatenation of segments, when a per-element "stop" `r` with
meaning `m` says what the end of each segment is and is `none` exactly on the empty segments.  `seg` can be the contribution of
a raw child, or that contribution filtered by a flag. -/
theorem end_flatMap {α β γ : Type} (last : Bool) (seg : α → List γ) (r : α → Option β) (m : β → Option γ) (l : List α)
    (h : ∀ x ∈ l, (if last then (seg x).getLast? else (seg x).head?) = (r x).bind m ∧
      (r x ≠ none → (if last then (seg x).getLast? else (seg x).head?) ≠ none)) :
    (if last then (l.flatMap seg).getLast? else (l.flatMap seg).head?) =
      ((if last then l.reverse else l).findSome? r).bind m := by
  cases last
  · exact List.head?_flatMap.trans (findSome?_bind _ _ _ _ h)
  · exact List.getLast?_flatMap.trans (findSome?_bind _ _ _ _ fun x hx => h x (List.mem_reverse.mp hx))

mutual
  /-- The visible children of a raw subtree placed at `start`, as the nodes `ts_node_child` hands
  out (slot id, alias, position in node.c's system): a relevant child is listed itself, a hidden one
  is replaced by its own visible children. -/
  def enumRefs (lang : Lang) : Tree → Length → List NodeRef
    | .mk d kids, start => enumRefsKids lang d.productionId d.addr kids.length kids start 0 0
  def enumRefsKids (lang : Lang) (pid addr nk : Nat) : List Tree → Length → Nat → Nat → List NodeRef
    | [], _, _, _ => []
    | c :: rest, pos, si, k =>
      let cstart := if k > 0 then length_add pos c.data.padding else pos
      let node : NodeRef := { t := c, alias := (if c.data.extra then 0 else lang.aliasAt pid si), id := slotId addr nk k, start := cstart }
      (if node.relevant lang true then [node] else enumRefs lang c cstart) ++
        enumRefsKids lang pid addr nk rest (length_add cstart c.data.size) (if c.data.extra then si else si + 1) (k + 1)
end

mutual
  theorem enumRefs_proj (lang : Lang) : ∀ (t : Tree) (start : Length),
      (enumRefs lang t start).map (fun r => (r.t, r.alias)) = enumChildren lang t
    | .mk d kids, start => by
      unfold enumRefs enumChildren
      exact enumRefsKids_proj lang d.productionId d.addr kids.length kids start 0 0
  theorem enumRefsKids_proj (lang : Lang) (pid addr nk : Nat) : ∀ (kids : List Tree) (pos : Length) (si k : Nat),
      (enumRefsKids lang pid addr nk kids pos si k).map (fun r => (r.t, r.alias)) = enumKids lang pid kids si
    | [], _, _, _ => by simp [enumRefsKids, enumKids]
    | c :: rest, pos, si, k => by
      unfold enumRefsKids enumKids
      simp only [List.map_append]
      rw [enumRefsKids_proj lang pid addr nk rest]
      simp only [NodeRef.relevant, isRelevant, if_true]
      by_cases h : (c.data.visible || (if c.data.extra then 0 else lang.aliasAt pid si) != 0) = true
      · simp [h]
      · simp only [h, Bool.false_eq_true, if_false]
        rw [enumRefs_proj lang c]
end

/-- What the raw child `nd` contributes to the visible children of its parent. -/
def contribR (lang : Lang) (nd : NodeRef) : List NodeRef :=
  if nd.relevant lang true then [nd] else enumRefs lang nd.t nd.start

theorem enumRefsKids_flatMap (lang : Lang) (n : NodeRef) (pid nk : Nat) : ∀ (kids : List Tree) (pos : Length) (si k : Nat),
    enumRefsKids lang pid n.t.data.addr nk kids pos si k =
      (rawChildren.go lang n pid nk kids pos si k).flatMap fun rc => contribR lang rc.node
  | [], _, _, _ => by rw [enumRefsKids, rawChildren.go]; rfl
  | c :: rest, pos, si, k => by
    rw [enumRefsKids, rawChildren.go, List.flatMap_cons, ← enumRefsKids_flatMap lang n pid nk rest]
    rfl

theorem enumRefs_flatMap (lang : Lang) (n : NodeRef) :
    enumRefs lang n.t n.start = (rawChildren lang n).flatMap fun rc => contribR lang rc.node := by
  obtain ⟨⟨d, kids⟩, al, id, st⟩ := n
  rw [enumRefs]
  exact enumRefsKids_flatMap lang ⟨.mk d kids, al, id, st⟩ d.productionId kids.length kids st 0 0

mutual
  theorem enumRefs_induct (lang : Lang) (P : NodeRef → NodeRef → Prop)
      (base : ∀ n rc, rc ∈ rawChildren lang n → rc.node.relevant lang true = true → P n rc.node)
      (step : ∀ n rc r, rc ∈ rawChildren lang n → rc.node.relevant lang true = false → P rc.node r → P n r) :
      ∀ (t : Tree) (al id : Nat) (start : Length) (r : NodeRef), r ∈ enumRefs lang t start → P ⟨t, al, id, start⟩ r
    | .mk d kids, al, id, start, r, hr =>
      enumRefsKids_induct lang P base step kids ⟨.mk d kids, al, id, start⟩ d.productionId kids.length start 0 0
        (fun _ h => h) r (by rw [enumRefs] at hr; exact hr)
  theorem enumRefsKids_induct (lang : Lang) (P : NodeRef → NodeRef → Prop)
      (base : ∀ n rc, rc ∈ rawChildren lang n → rc.node.relevant lang true = true → P n rc.node)
      (step : ∀ n rc r, rc ∈ rawChildren lang n → rc.node.relevant lang true = false → P rc.node r → P n r) :
      ∀ (kids : List Tree) (n : NodeRef) (pid nk : Nat) (pos : Length) (si k : Nat),
      (∀ rc ∈ rawChildren.go lang n pid nk kids pos si k, rc ∈ rawChildren lang n) →
      ∀ r ∈ enumRefsKids lang pid n.t.data.addr nk kids pos si k, P n r
    | [], _, _, _, _, _, _, _, r, hr => by rw [enumRefsKids] at hr; exact absurd hr List.not_mem_nil
    | c :: rest, n, pid, nk, pos, si, k, hsub, r, hr => by
      rw [rawChildren.go] at hsub
      rw [enumRefsKids] at hr
      rcases List.mem_append.mp hr with hr | hr
      · have hrc := hsub _ List.mem_cons_self
        cases hrel : NodeRef.relevant lang ⟨c, if c.data.extra then 0 else lang.aliasAt pid si, slotId n.t.data.addr nk k,
            if k > 0 then length_add pos c.data.padding else pos⟩ true with
        | true =>
          rw [if_pos hrel, List.mem_singleton] at hr
          exact hr ▸ base n _ hrc hrel
        | false =>
          rw [if_neg (by rw [hrel]; exact Bool.false_ne_true)] at hr
          exact step n _ r hrc hrel (enumRefs_induct lang P base step c _ _ _ r hr)
      · exact enumRefsKids_induct lang P base step rest n pid nk _ _ _ (fun rc h => hsub rc (List.mem_cons_of_mem _ h)) r hr
end

mutual
  theorem enumRefs_relevant (lang : Lang) : ∀ (t : Tree) (start : Length), ∀ r ∈ enumRefs lang t start, r.relevant lang true = true
    | .mk d kids, start, r, hr => by
      unfold enumRefs at hr
      exact enumRefsKids_relevant lang d.productionId d.addr kids.length kids start 0 0 r hr
  theorem enumRefsKids_relevant (lang : Lang) (pid addr nk : Nat) : ∀ (kids : List Tree) (pos : Length) (si k : Nat),
      ∀ r ∈ enumRefsKids lang pid addr nk kids pos si k, r.relevant lang true = true
    | [], _, _, _, r, hr => by simp [enumRefsKids] at hr
    | c :: rest, pos, si, k, r, hr => by
      unfold enumRefsKids at hr
      simp only [List.mem_append] at hr
      generalize (if k > 0 then length_add pos c.data.padding else pos) = cstart at hr
      generalize (if c.data.extra = true then 0 else lang.aliasAt pid si) = al at hr
      rcases hr with hr | hr
      · split at hr
        · rw [List.mem_singleton.mp hr]; assumption
        · exact enumRefs_relevant lang c _ r hr
      · exact enumRefsKids_relevant lang pid addr nk rest _ _ _ r hr
end


theorem filter_anon_true (lang : Lang) (l : List (Tree × Nat)) : l.filter (fun e => true || entryNamed lang e) = l :=
  List.filter_eq_self.mpr fun _ _ => rfl

theorem relevantChildCount_eq (lang : Lang) (c : Tree) (ps : Option Nat) (anon : Bool) (hs : Summarized lang c) (hsh : shapeOK ps c = true) :
    relevantChildCount c anon = ((enumChildren lang c).filter (fun e => anon || entryNamed lang e)).length := by
  have hcnt := summarize_counts lang c ps hs hsh
  obtain ⟨cd, ck⟩ := c
  cases ck with
  | nil => simp [relevantChildCount, Tree.kids, enumChildren, enumKids]
  | cons x xs =>
    cases anon
    · simpa [relevantChildCount, Tree.kids, Tree.data] using hcnt.2.1
    · rw [filter_anon_true]
      simpa [relevantChildCount, Tree.kids, Tree.data] using hcnt.1

def keepR (lang : Lang) (anon : Bool) (r : NodeRef) : Bool := keepA lang anon (r.t, r.alias)

theorem isRelevant_eq {lang : Lang} {c : Tree} {al : Nat} {anon : Bool} :
    isRelevant lang c al anon = ((c.data.visible || al != 0) && keepA lang anon (c, al)) := by
  unfold isRelevant keepA entryNamed
  cases anon with
  | true => simp
  | false =>
    cases (al != 0) with
    | true => simp
    | false => simp

theorem relevant_eq (lang : Lang) (anon : Bool) (nd : NodeRef) : nd.relevant lang anon = (nd.relevant lang true && keepR lang anon nd) :=
  isRelevant_eq

theorem rel_of_hidden (lang : Lang) (anon : Bool) (r : NodeRef) (h : r.relevant lang true = false) : r.relevant lang anon = false := by
  rw [relevant_eq, h, Bool.false_and]

theorem rel_anon_of_rel (lang : Lang) (anon : Bool) (r : NodeRef) (h : r.relevant lang true = true) :
    r.relevant lang anon = (anon || entryNamed lang (r.t, r.alias)) := by
  rw [relevant_eq, h, Bool.true_and]; rfl

theorem leaf_of_not_kept {lang : Lang} {anon : Bool} {c : Tree} {al : Nat} (hv : (c.data.visible || al != 0) = true) (hk : keepA lang anon (c, al) = false)
    (ha : anon = true ∨ anonLeafOK lang c al = true) : c.kids = [] := by
  cases anon with
  | true => exact nomatch hk
  | false =>
    obtain ⟨d, kids⟩ := c
    have h1 := (Bool.and_eq_true_iff.mp (ha.resolve_left Bool.false_ne_true)).1
    simp only [keepA, Bool.false_or, entryNamed, Tree.data] at hk hv
    simp only [hv, hk, Bool.not_false] at h1
    exact List.isEmpty_iff.mp h1

theorem filter_keepR_length (lang : Lang) (anon : Bool) (t : Tree) (start : Length) :
    ((enumRefs lang t start).filter (keepR lang anon)).length = ((enumChildren lang t).filter (keepA lang anon)).length := by
  rw [← enumRefs_proj lang t start, List.filter_map, List.length_map]
  rfl

/-- What a raw child contributes to the children that COUNT for the flag, and how many: a child that counts contributes itself;
a visible one that does not count is a leaf (`anonLeafOK`) and contributes nothing, as its cached count says; a hidden one
contributes its own children that count, as many as its cached `visible_child_count` / `named_child_count` says
(`summarize_counts`). -/
theorem contrib_count {lang : Lang} {anon : Bool} {nd : NodeRef} {ps : Option Nat} (hs : Summarized lang nd.t) (hsh : shapeOK ps nd.t = true)
    (ha : anon = true ∨ anonLeafOK lang nd.t nd.alias = true) :
    ((contribR lang nd).filter (keepR lang anon)) =
        (if nd.relevant lang anon then [nd] else (enumRefs lang nd.t nd.start).filter (keepR lang anon)) ∧
    ((contribR lang nd).filter (keepR lang anon)).length = if nd.relevant lang anon then 1 else nd.relChildCount anon := by
  rw [contribR, relevant_eq lang anon nd]
  cases hv : nd.relevant lang true with
  | true =>
    rw [if_pos rfl, Bool.true_and]
    cases hk : keepR lang anon nd with
    | true => rw [List.filter_cons_of_pos hk]; exact ⟨rfl, rfl⟩
    | false =>
      have hleaf : nd.t.kids = [] := leaf_of_not_kept hv hk ha
      have hnil : enumRefs lang nd.t nd.start = [] := by
        obtain ⟨⟨d, kids⟩, al, id, st⟩ := nd
        cases hleaf
        rw [enumRefs, enumRefsKids]
      rw [List.filter_cons_of_neg (by rw [hk]; exact Bool.false_ne_true), if_neg Bool.false_ne_true, if_neg Bool.false_ne_true, hnil,
        NodeRef.relChildCount, relevantChildCount, hleaf]
      exact ⟨rfl, rfl⟩
  | false =>
    rw [if_neg Bool.false_ne_true, Bool.false_and, if_neg Bool.false_ne_true, if_neg Bool.false_ne_true, filter_keepR_length, NodeRef.relChildCount,
      relevantChildCount_eq lang nd.t ps anon hs hsh]
    exact ⟨rfl, rfl⟩

theorem enumRefs_nil_of_childCount {lang : Lang} {nd : NodeRef} {ps : Option Nat} (hs : Summarized lang nd.t) (hsh : shapeOK ps nd.t = true)
    (hcc : ¬ nd.childCount > 0) : enumRefs lang nd.t nd.start = [] := by
  have h := relevantChildCount_eq lang nd.t ps true hs hsh
  rw [filter_anon_true, show relevantChildCount nd.t true = nd.childCount from rfl, Nat.eq_zero_of_not_pos hcc] at h
  exact List.map_eq_nil_iff.mp ((enumRefs_proj lang nd.t nd.start).trans (List.eq_nil_of_length_eq_zero h.symm))

/-- "The first child that counts and passes the test `p`" at ONE raw child, for any test that a hidden child passes whenever
something inside it does (`first_child_for_byte`: ends after the goal byte; the cursor's `goto_first_child_for_byte/point`:
ends after the goal in bytes and in row/column order): the child is looked at only if it passes itself, and entered only if it
reports children. -/
theorem contrib_find {lang : Lang} {anon : Bool} {nd : NodeRef} {ps : Option Nat} (p : NodeRef → Bool)
    (hin : ∀ r ∈ enumRefs lang nd.t nd.start, p r = true → p nd = true)
    (hs : Summarized lang nd.t) (hsh : shapeOK ps nd.t = true) (ha : anon = true ∨ anonLeafOK lang nd.t nd.alias = true) :
    ((contribR lang nd).filter (keepR lang anon)).find? p =
      if p nd then
        if nd.relevant lang anon then some nd
        else if nd.childCount > 0 then ((enumRefs lang nd.t nd.start).filter (keepR lang anon)).find? p
        else none
      else none := by
  rw [(contrib_count hs hsh ha).1]
  by_cases hrel : nd.relevant lang anon = true
  · rw [if_pos hrel, if_pos hrel, List.find?_singleton]
  · rw [if_neg hrel, if_neg hrel]
    by_cases hpass : p nd = true ∧ nd.childCount > 0
    · rw [if_pos hpass.1, if_pos hpass.2]
    · have : ((enumRefs lang nd.t nd.start).filter (keepR lang anon)).find? p = none := by
        refine List.find?_eq_none.mpr fun r hr hp => ?_
        have hr := (List.mem_filter.mp hr).1
        have hnd := hin r hr hp
        rw [enumRefs_nil_of_childCount hs hsh fun h => hpass ⟨hnd, h⟩] at hr
        exact absurd hr List.not_mem_nil
      rw [this, ite_self, ite_self]

def alOf (lang : Lang) (pid si : Nat) (c : Tree) : Nat := if c.data.extra then 0 else lang.aliasAt pid si
/-- `ts_node__is_relevant(child, anon)` of a raw child in its parent's context. -/
def relA (lang : Lang) (anon : Bool) (pid si : Nat) (c : Tree) : Bool := isRelevant lang c (alOf lang pid si c) anon
def enumChildrenA (lang : Lang) (anon : Bool) (t : Tree) : List (Tree × Nat) := (enumChildren lang t).filter (keepA lang anon)

theorem filter_keep_true {lang : Lang} (l : List (Tree × Nat)) : l.filter (keepA lang true) = l :=
  List.filter_eq_self.mpr (fun _ _ => rfl)

theorem relA_of_vis (lang : Lang) (anon : Bool) (pid si : Nat) (c : Tree) (hv : (c.data.visible || alOf lang pid si c != 0) = true) :
    relA lang anon pid si c = keepA lang anon (c, alOf lang pid si c) := by
  cases anon with
  | true => exact hv
  | false =>
    simp only [relA, isRelevant, keepA, entryNamed, Bool.false_or, Bool.false_eq_true, if_false]
    split
    · rfl
    · next h =>
      rw [Bool.not_eq_true] at h
      rw [h, Bool.or_false] at hv
      rw [hv, Bool.true_and]

theorem relA_of_hidden (lang : Lang) (anon : Bool) (pid si : Nat) (c : Tree) (hv : (c.data.visible || alOf lang pid si c != 0) = false) :
    relA lang anon pid si c = false := by
  rw [Bool.or_eq_false_iff] at hv
  cases anon with
  | true => simp only [relA, isRelevant, if_true, hv.1, hv.2, Bool.or_false]
  | false => simp only [relA, isRelevant, Bool.false_eq_true, if_false, hv.1, hv.2, Bool.false_and]

theorem rcc_pos_iff (lang : Lang) (anon : Bool) (c : Tree) (ps : Option Nat) (hs : Summarized lang c) (hsh : shapeOK ps c = true) :
    relevantChildCount c anon > 0 ↔ enumChildrenA lang anon c ≠ [] := by
  rw [relevantChildCount_eq lang c ps anon hs hsh]
  exact List.length_pos_iff

/-- The premise for the NAMED flag: below these children, an unnamed visible/aliased node is a leaf. -/
def AOK (lang : Lang) (anon : Bool) (kids : List Tree) (pid si : Nat) : Prop := anon = true ∨ anonLeafOKKids lang kids pid si = true

theorem aok_cons (lang : Lang) (anon : Bool) (c : Tree) (rest : List Tree) (pid si : Nat) (h : AOK lang anon (c :: rest) pid si) :
    (anon = true ∨ anonLeafOK lang c (alOf lang pid si c) = true) ∧ AOK lang anon rest pid (if c.data.extra then si else si + 1) := by
  rcases h with h | h
  · exact ⟨Or.inl h, Or.inl h⟩
  · rw [anonLeafOKKids, Bool.and_eq_true] at h
    exact ⟨Or.inr h.1, Or.inr h.2⟩

theorem aok_child (lang : Lang) (anon : Bool) (c : Tree) (al : Nat) (h : anon = true ∨ anonLeafOK lang c al = true) :
    AOK lang anon c.kids c.data.productionId 0 := by
  obtain ⟨d, kids⟩ := c
  refine h.imp_right (fun h => ?_)
  rw [anonLeafOK, Bool.and_eq_true] at h
  exact h.2

theorem aok_of_mem {lang : Lang} {anon : Bool} {kids : List Tree} {pid si : Nat} {c : Tree} (ha : AOK lang anon kids pid si) (h : c ∈ kids) :
    AOK lang anon c.kids c.data.productionId 0 := by
  induction kids generalizing si with
  | nil => exact nomatch h
  | cons x rest ih =>
    obtain ⟨h1, h2⟩ := aok_cons lang anon x rest pid si ha
    rcases List.mem_cons.mp h with h | h
    · exact h ▸ aok_child lang anon x _ h1
    · exact ih h2 h

theorem aok_take {lang : Lang} {anon : Bool} {kids : List Tree} {pid si : Nat} (k : Nat) (ha : AOK lang anon kids pid si) : AOK lang anon (kids.take k) pid si := by
  refine ha.imp_right (fun h => ?_)
  clear ha
  induction kids generalizing si k with
  | nil => rwa [List.take_nil]
  | cons x rest ih =>
    cases k with
    | zero => rfl
    | succ k =>
      rw [anonLeafOKKids, Bool.and_eq_true] at h
      rw [List.take_succ_cons, anonLeafOKKids, Bool.and_eq_true]
      exact ⟨h.1, ih _ h.2⟩

theorem kids_nil_of_anon (lang : Lang) (anon : Bool) (pid si : Nat) (c : Tree)
    (hv : (c.data.visible || alOf lang pid si c != 0) = true) (hr : relA lang anon pid si c = false)
    (ha : anon = true ∨ anonLeafOK lang c (alOf lang pid si c) = true) : c.kids = [] :=
  leaf_of_not_kept hv (relA_of_vis lang anon pid si c hv ▸ hr) ha

/-- What one raw child contributes to the filtered enumeration: itself if it is relevant, its own
filtered enumeration if it is hidden, nothing otherwise (a visible child that does not count has no
children: `kids_nil_of_anon`).  The case distinction is the one of the C scans. -/
theorem enumKids_cons_filterA {lang : Lang} {anon : Bool} {c : Tree} (rest : List Tree) {pid si : Nat} {ps : Option Nat}
    (hs : Summarized lang c) (hsh : shapeOK ps c = true) (ha : anon = true ∨ anonLeafOK lang c (alOf lang pid si c) = true) :
    (enumKids lang pid (c :: rest) si).filter (keepA lang anon) =
      (if relA lang anon pid si c then [(c, alOf lang pid si c)]
       else if relevantChildCount c anon > 0 then enumChildrenA lang anon c else []) ++
        (enumKids lang pid rest (if c.data.extra then si else si + 1)).filter (keepA lang anon) := by
  show ((if c.data.visible || alOf lang pid si c != 0 then [(c, alOf lang pid si c)] else enumChildren lang c) ++ _).filter _ = _
  rw [List.filter_append]
  congr 1
  cases hvis : (c.data.visible || alOf lang pid si c != 0) with
  | true =>
    have hk := relA_of_vis lang anon pid si c hvis
    rw [if_pos rfl]
    cases hrel : relA lang anon pid si c with
    | true => rw [if_pos rfl, List.filter_cons_of_pos (hk ▸ hrel)]; rfl
    | false =>
      have hz : relevantChildCount c anon = 0 := by rw [relevantChildCount, kids_nil_of_anon lang anon pid si c hvis hrel ha]; rfl
      rw [if_neg Bool.false_ne_true, hz, if_neg (Nat.lt_irrefl 0), List.filter_cons_of_neg (by rw [← hk, hrel]; exact Bool.false_ne_true)]
      rfl
  | false =>
    rw [if_neg Bool.false_ne_true, relA_of_hidden lang anon pid si c hvis, if_neg Bool.false_ne_true]
    split
    · rfl
    · next hk =>
      rw [rcc_pos_iff lang anon c ps hs hsh, ne_eq, Decidable.not_not] at hk
      exact hk

theorem aok_drop (lang : Lang) (anon : Bool) : ∀ (kids : List Tree) (pid si k : Nat), AOK lang anon kids pid si →
    AOK lang anon (kids.drop k) pid (siAfter (kids.take k) si)
  | _, _, _, 0, h => h
  | [], _, _, _ + 1, h => h
  | x :: rest, pid, si, k + 1, ha => aok_drop lang anon rest pid _ k (aok_cons lang anon x rest pid si ha).2

theorem vcc_eq_length (lang : Lang) (t : Tree) (ps : Option Nat) (hs : Summarized lang t) (hsh : shapeOK ps t = true) :
    vcc t = (enumChildren lang t).length := by
  obtain ⟨d, kids⟩ := t
  have hc := (summarize_counts lang (.mk d kids) ps hs hsh).1
  unfold vcc
  cases kids with
  | nil => simp [Tree.kids, enumChildren, enumKids]
  | cons a b => simpa [Tree.kids] using hc

theorem enumChildren_nil_of_vcc (lang : Lang) (t : Tree) (ps : Option Nat) (hs : Summarized lang t) (hsh : shapeOK ps t = true)
    (hv : ¬ vcc t > 0) : enumChildren lang t = [] :=
  List.eq_nil_of_length_eq_zero (by rw [← vcc_eq_length lang t ps hs hsh]; omega)

theorem enum_ne_nil_of_vcc (lang : Lang) (t : Tree) (ps : Option Nat) (hs : Summarized lang t) (hsh : shapeOK ps t = true)
    (hv : vcc t > 0) : enumChildren lang t ≠ [] := by
  intro h0
  rw [vcc_eq_length lang t ps hs hsh, h0] at hv
  exact absurd hv (Nat.lt_irrefl 0)

theorem vcc_eq_childCount (n : NodeRef) : vcc n.t = n.childCount := by
  unfold vcc NodeRef.childCount
  cases n.t.kids <;> simp

/-- `enumKids` tests the alias an extra cannot have; the cursor tests `extra` first. -/
theorem vis_alias (c : Tree) (a : Nat) :
    (c.data.visible || (if c.data.extra then 0 else a) != 0) = (c.data.visible || (!c.data.extra && a != 0)) := by
  by_cases hx : c.data.extra = true <;> simp [hx]

/-- The first raw child (from a list of remaining children, with structural index `si`) that the
cursor would stop at: visible/aliased (`true`) or hidden with visible children (`false`). -/
def firstRel (lang : Lang) (pid : Nat) : List Tree → Nat → Option (Tree × Nat × Bool)
  | [], _ => none
  | c :: rest, si =>
    let vis := c.data.visible || (!c.data.extra && lang.aliasAt pid si != 0)
    if vis then some (c, si, true)
    else if vcc c > 0 then some (c, si, false)
    else firstRel lang pid rest (if c.data.extra then si else si + 1)

/-- The LAST raw child (of the remaining ones) the cursor would stop at. -/
def lastRel (lang : Lang) (pid : Nat) : List Tree → Nat → Option (Tree × Nat × Bool)
  | [], _ => none
  | c :: rest, si =>
    match lastRel lang pid rest (if c.data.extra then si else si + 1) with
    | some r => some r
    | none =>
      if c.data.visible || (!c.data.extra && lang.aliasAt pid si != 0) then some (c, si, true)
      else if vcc c > 0 then some (c, si, false)
      else none

/-- What one raw child contributes to `firstRel` / `lastRel`. -/
def relStep (lang : Lang) (pid si : Nat) (c : Tree) : Option (Tree × Nat × Bool) :=
  if c.data.visible || (!c.data.extra && lang.aliasAt pid si != 0) then some (c, si, true)
  else if vcc c > 0 then some (c, si, false)
  else none

theorem firstRel_cons (lang : Lang) (pid : Nat) (c : Tree) (rest : List Tree) (si : Nat) :
    firstRel lang pid (c :: rest) si = (relStep lang pid si c).or (firstRel lang pid rest (if c.data.extra then si else si + 1)) := by
  rw [firstRel, relStep, apply_ite (Option.or · _), apply_ite (Option.or · _)]
  rfl

theorem lastRel_cons (lang : Lang) (pid : Nat) (c : Tree) (rest : List Tree) (si : Nat) :
    lastRel lang pid (c :: rest) si = (lastRel lang pid rest (if c.data.extra then si else si + 1)).or (relStep lang pid si c) := by
  rw [lastRel]
  cases lastRel lang pid rest _ <;> rfl

theorem relStep_some (lang : Lang) (pid si : Nat) (c x : Tree) (si' : Nat) (b : Bool) (h : relStep lang pid si c = some (x, si', b)) :
    x = c ∧ (b = false → vcc c > 0) := by
  unfold relStep at h
  split at h
  · simp only [Option.some.injEq, Prod.mk.injEq] at h
    exact ⟨h.1.symm, fun hb => by simp [hb] at h⟩
  · split at h
    · simp only [Option.some.injEq, Prod.mk.injEq] at h
      exact ⟨h.1.symm, fun _ => by assumption⟩
    · simp at h

theorem firstRel_eq (lang : Lang) (pid : Nat) : ∀ (ks : List Tree) (si : Nat),
    firstRel lang pid ks si = (withSi ks si).findSome? fun x => relStep lang pid x.2 x.1
  | [], _ => rfl
  | c :: rest, si => by
    rw [firstRel_cons, withSi, List.findSome?_cons, firstRel_eq lang pid rest]
    cases relStep lang pid si c <;> rfl

theorem lastRel_eq (lang : Lang) (pid : Nat) : ∀ (ks : List Tree) (si : Nat),
    lastRel lang pid ks si = (withSi ks si).reverse.findSome? fun x => relStep lang pid x.2 x.1
  | [], _ => rfl
  | c :: rest, si => by
    rw [lastRel_cons, withSi, List.reverse_cons, List.findSome?_append, lastRel_eq lang pid rest, List.findSome?_cons]
    cases relStep lang pid si c <;> rfl

end TsVerif.C06
