import TsVerif.C06.NodeNav
/-!
# C06 — ports of the field functions of node.c

`ts_node_field_name_for_child` / `ts_node_field_name_for_named_child` (`fieldNameForChildPort`) and
`ts_node_child_by_field_id` (`childByFieldIdPort`), over the iterator steps `rawChildren` of `NodeNav.lean`.  Only the
judge and the field theorems (`FieldProps.lean`, `FieldNamed.lean`, `FieldWitness.lean`) use them.
-/
namespace TsVerif.C06
open TsGen TsVerif TsVerif.C02

/-- `ts_node_field_name_for_child` / `_for_named_child` (result: field id, `none` = NULL).
`iterator.structural_child_index - 1` is computed as the C code does, also for extra children. -/
def fieldNameForChildPort (lang : Lang) (fuel : Nat) (self : NodeRef) (childIndex : Nat) (anon : Bool) : Option Nat :=
  let rec go (f : Nat) (result : NodeRef) (childIndex : Nat) (inherited : Option Nat) : Option Nat :=
    match f with
    | 0 => none
    | f + 1 =>
      let rec scan : List RawChild → Nat → Option Nat
        | [], _ => none
        | rc :: rest, index =>
          let child := rc.node
          -- structural_child_index after the step, minus one (wraps for an extra first child)
          let siAfter := if child.t.data.extra then rc.si else rc.si + 1
          let sidx := if siAfter == 0 then u32maxN else siAfter - 1
          if child.relevant lang anon then
            if index == childIndex then
              if child.t.data.extra then none
              else match fieldFromLanguage lang result sidx with
                | some fn => some fn
                | none => inherited
            else scan rest (index + 1)
          else
            let gi := childIndex - index
            let gc := child.relChildCount anon
            if gi < gc then
              let inherited := match fieldFromLanguage lang result sidx with
                | some fn => some fn
                | none => inherited
              go f child gi inherited
            else scan rest (index + gc)
      scan (rawChildren lang result) 0
  go fuel self childIndex none
where u32maxN : Nat := 4294967295

/-- `ts_node_child_by_field_id`.  The two trimming loops leave the entries whose id is `fieldId`
(the table is sorted by field id). -/
def childByFieldIdPort (lang : Lang) (fuel : Nat) (self : NodeRef) (fieldId : Nat) : Option NodeRef :=
  match fuel with
  | 0 => none
  | fuel + 1 =>
    if fieldId == 0 || self.childCount == 0 then none else
    let fm := (lang.fieldMap self.t.data.productionId).toList.filter (·.fieldId == fieldId)
    if fm.isEmpty then none else
    let rec scan : List RawChild → List FieldEntry → Option NodeRef
      | [], _ => none
      | _, [] => none
      | rc :: rest, m :: ms =>
        let child := rc.node
        if child.t.data.extra then scan rest (m :: ms)
        else if rc.si < m.childIndex then scan rest (m :: ms)
        else if m.inherited then
          if ms.isEmpty then childByFieldIdPort lang fuel child fieldId     -- tail call `goto recur`
          else
            match childByFieldIdPort lang fuel child fieldId with
            | some r => some r
            | none => scan rest ms
        else if child.relevant lang true then some child
        else if child.childCount > 0 then nodeChild lang true child.t child.start 0
        else scan rest ms
    scan (rawChildren lang self) fm

end TsVerif.C06
