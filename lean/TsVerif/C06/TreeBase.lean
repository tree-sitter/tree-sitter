import TsVerif.C02.Props
import TsVerif.C06.NodeNav
/-!
# C06 — trees, summaries and the enumeration of visible children: what every later file uses

No cursor and no `TSNode` search here: membership and `take` / `drop` for `SummarizedL` / `shapeOKL`, `Tree.size` of children
(the fuel of the searches), the demo trees `cwRoot` and `pvRoot`, and
`flatten`'s records against the chained enumeration `enumF`.
-/
open TsGen TsVerif TsVerif.C02 TsVerif.C06
namespace TsVerif.C06

theorem kids_mk (d : NodeData) (k : List Tree) : (Tree.mk d k).kids = k := rfl

theorem tree_size_pos : ∀ t : Tree, t.size ≥ 1
  | .mk d kids => by unfold Tree.size; omega

theorem tree_size_kids (t : Tree) : t.size = 1 + Tree.sizeList t.kids := by
  obtain ⟨d, k⟩ := t; simp [Tree.size, kids_mk]

theorem sizeList_mem : ∀ (kids : List Tree) (c : Tree), c ∈ kids → c.size ≤ Tree.sizeList kids
  | [], _, h => by simp at h
  | x :: rest, c, h => by
    simp only [List.mem_cons] at h
    unfold Tree.sizeList
    rcases h with h | h
    · subst h; omega
    · have := sizeList_mem rest c h; omega

/-- Two different children are together smaller than their parent: the fuel of the sibling loops of node.c, which leave one
child and enter another. -/
theorem sizeList_two (kids : List Tree) (k : Nat) (c x : Tree) (hk : kids[k]? = some c) (hx : x ∈ kids.drop (k + 1)) :
    c.size + x.size ≤ Tree.sizeList kids := by
  induction kids generalizing k with
  | nil => simp at hk
  | cons y rest ih =>
    cases k with
    | zero =>
      simp at hk; subst hk
      simp only [List.drop_succ_cons, List.drop_zero] at hx
      have := sizeList_mem rest x hx
      simp only [Tree.sizeList]; omega
    | succ k' =>
      have := ih k' (by simpa using hk) (by simpa using hx)
      simp only [Tree.sizeList]; omega

theorem sizeList_two_take (kids : List Tree) (k : Nat) (c x : Tree) (hk : kids[k]? = some c) (hx : x ∈ kids.take k) :
    c.size + x.size ≤ Tree.sizeList kids := by
  induction kids generalizing k with
  | nil => simp at hk
  | cons y rest ih =>
    cases k with
    | zero => simp at hx
    | succ k' =>
      simp only [List.take_succ_cons, List.mem_cons] at hx
      simp only [Tree.sizeList]
      rcases hx with hx | hx
      · subst hx
        have := sizeList_mem rest c (List.mem_of_getElem? (by simpa using hk))
        omega
      · have := ih k' (by simpa using hk) hx
        omega

theorem summarizedL_kids (lang : Lang) (t : Tree) (h : Summarized lang t) : SummarizedL lang t.kids := by
  obtain ⟨d, k⟩ := t
  exact ((summarized_mk lang d k).mp h).2.2

theorem shapeOKL_kids (ps : Option Nat) (t : Tree) (h : shapeOK ps t = true) : shapeOKL (some t.data.symbol) t.kids = true := by
  obtain ⟨d, k⟩ := t
  exact shapeOK_kids h

theorem enumChildren_eq (lang : Lang) (t : Tree) : enumChildren lang t = enumKids lang t.data.productionId t.kids 0 := by
  obtain ⟨d, k⟩ := t; simp [enumChildren, data_mk, kids_mk]

theorem drop_eq_cons {α : Type} (l : List α) (i : Nat) (c : α) (h : l[i]? = some c) : l.drop i = c :: l.drop (i + 1) := by
  obtain ⟨hi, rfl⟩ := List.getElem?_eq_some_iff.mp h
  exact List.drop_eq_getElem_cons hi

theorem lt_of_getElem?_some {α : Type} (l : List α) (i : Nat) (c : α) (h : l[i]? = some c) : i < l.length :=
  (List.getElem?_eq_some_iff.mp h).1

theorem getElem?_of_drop {α : Type} {l : List α} {k : Nat} {c : α} {rest : List α} (h : l.drop k = c :: rest) :
    l[k]? = some c ∧ l.drop (k + 1) = rest := by
  constructor
  · rw [← Nat.add_zero k, ← List.getElem?_drop, h]
    rfl
  · rw [← List.drop_drop, h]
    rfl

theorem take_succ_of_getElem? {α : Type} (l : List α) (i : Nat) (c : α) (h : l[i]? = some c) :
    l.take (i + 1) = l.take i ++ [c] := by
  rw [List.take_add_one, h]; rfl

theorem siAfter_append : ∀ (a b : List Tree) (si : Nat), siAfter (a ++ b) si = siAfter b (siAfter a si)
  | [], _, _ => rfl
  | c :: a, b, si => by simp only [List.cons_append, siAfter]; exact siAfter_append a b _

theorem enumKids_append (lang : Lang) (pid : Nat) : ∀ (a b : List Tree) (si : Nat),
    enumKids lang pid (a ++ b) si = enumKids lang pid a si ++ enumKids lang pid b (siAfter a si)
  | [], b, si => by simp [enumKids, siAfter]
  | c :: a, b, si => by
    simp only [List.cons_append, enumKids, siAfter]
    rw [enumKids_append lang pid a b, List.append_assoc]

mutual
  theorem enumF_proj (lang : Lang) : ∀ (t : Tree) (outer : List (List Nat)),
      (enumF lang t outer).map (fun x => (x.1, x.2.1)) = enumChildren lang t
    | .mk d kids, outer => by unfold enumF enumChildren; exact enumKidsF_proj lang d.productionId kids 0 outer
  theorem enumKidsF_proj (lang : Lang) (pid : Nat) : ∀ (kids : List Tree) (si : Nat) (outer : List (List Nat)),
      (enumKidsF lang pid kids si outer).map (fun x => (x.1, x.2.1)) = enumKids lang pid kids si
    | [], _, _ => by simp [enumKidsF, enumKids]
    | c :: rest, si, outer => by
      unfold enumKidsF enumKids
      simp only [List.map_append]
      rw [enumKidsF_proj lang pid rest]
      by_cases h : (c.data.visible || (if c.data.extra then 0 else lang.aliasAt pid si) != 0) = true
      · simp [h]
      · simp only [h, Bool.false_eq_true, if_false]
        rw [enumF_proj lang c]
end

mutual
  theorem flattenAt_fields (lang : Lang) : ∀ (t : Tree) (pos : Length) (al id : Nat) (chain : List (List Nat)),
      (flattenAt lang t pos al id chain).map (fun v => (v.info.raw, v.info.alias, v.info.fields)) =
        (if t.data.visible || al != 0 then [(t, al, chain)] else enumF lang t chain)
    | .mk d kids, pos, al, id, chain => by
      unfold flattenAt enumF
      simp only [Tree.data]
      by_cases h : (d.visible || al != 0) = true
      · simp [h, VTree.info]
      · simp only [h, Bool.false_eq_true, if_false]
        exact flattenKids_fields lang kids pos d.productionId 0 0 d.addr kids.length chain
  theorem flattenKids_fields (lang : Lang) : ∀ (kids : List Tree) (cur : Length) (pid si i addr n : Nat)
      (outer : List (List Nat)),
      (flattenKids lang kids cur pid si i addr n outer).map (fun v => (v.info.raw, v.info.alias, v.info.fields)) =
        enumKidsF lang pid kids si outer
    | [], _, _, _, _, _, _, _ => by simp [flattenKids, enumKidsF]
    | c :: rest, cur, pid, si, i, addr, n, outer => by
      unfold flattenKids enumKidsF
      simp only [List.map_append]
      rw [flattenAt_fields lang c, flattenKids_fields lang rest]
end

/-- The children `flatten` gives a visible node built from the raw subtree `t` (second component of
`flattenAt`: `flattenKids t.kids pos pid 0 0 addr n []`) are, as (raw subtree, alias) pairs, exactly
`enumChildren t` — the list `node_nav_flat_spec` splits. -/
theorem flat_children_are_enum (lang : Lang) (t : Tree) (pos : Length) (outer : List (List Nat)) :
    (flattenKids lang t.kids pos t.data.productionId 0 0 t.data.addr t.kids.length outer).map
        (fun v => (v.info.raw, v.info.alias)) = enumChildren lang t := by
  have h1 := flattenKids_fields lang t.kids pos t.data.productionId 0 0 t.data.addr t.kids.length outer
  have h2 := enumKidsF_proj lang t.data.productionId t.kids 0 outer
  rw [enumChildren_eq, ← h2, ← h1, List.map_map]
  rfl

theorem enumF_eq {lang : Lang} {t : Tree} {outer : List (List Nat)} : enumF lang t outer = enumKidsF lang t.data.productionId t.kids 0 outer := by
  cases t
  rw [enumF]
  rfl

def cwLeaf : Tree := C02.demoLeaf 0 1
def cwHidden : Tree := C02.newNode C02.demoLang 3 [cwLeaf, cwLeaf] 0
/-- root(visible) → [leaf a, hidden h → [leaf b, leaf c], leaf d] built by the C02 port. -/
def cwRoot : Tree := C02.newNode C02.demoLang 2 [cwLeaf, cwHidden, cwLeaf] 0

theorem or_of_ne_none {α : Type} (a b : Option α) (h : a ≠ none) : a.or b = a := by
  cases a <;> simp_all

def atAddr (t : Tree) (a : Nat) : Tree := match t with | .mk d k => .mk { d with addr := a } k

def pvV : Tree := atAddr (C02.newNode C02.demoLang 2 [cwLeaf] 0) 3000
def pvH : Tree := atAddr (C02.newNode C02.demoLang 3 [pvV, cwLeaf] 0) 2000
/-- root(visible, @1000) → [leaf a, hidden h(@2000) → [rule v(@3000) → [leaf b], leaf c], leaf d] -/
def pvRoot : NodeRef := { t := atAddr (C02.newNode C02.demoLang 2 [cwLeaf, pvH, cwLeaf] 0) 1000, alias := 0, id := 1, start := length_zero }

theorem leaf_summarized (lang : Lang) (d : NodeData) (h : LeafOK d) : Summarized lang (.mk d []) :=
  (summarized_mk lang d []).mpr ⟨fun _ => h, fun h => absurd rfl h, summarizedL_nil lang⟩
theorem node_summarized (lang : Lang) (d : NodeData) (c : Tree) (rest : List Tree) (h : NodeOK lang d (c :: rest))
    (hk : SummarizedL lang (c :: rest)) : Summarized lang (.mk d (c :: rest)) :=
  (summarized_mk lang d _).mpr ⟨fun h => absurd h (List.cons_ne_nil _ _), fun _ => h, hk⟩
theorem cwLeaf_summarized : Summarized C02.demoLang cwLeaf := leaf_summarized _ _ (by unfold LeafOK; decide)
theorem pvRoot_summarized : Summarized C02.demoLang pvRoot.t := by
  have hl := cwLeaf_summarized
  have hv : Summarized C02.demoLang pvV := node_summarized _ _ _ _ (by unfold NodeOK; decide) (by simp [summarizedL_iff, hl])
  have hh : Summarized C02.demoLang pvH := node_summarized _ _ _ _ (by unfold NodeOK; decide) (by simp [summarizedL_iff, hv, hl])
  exact node_summarized _ _ _ _ (by unfold NodeOK; decide) (by simp [summarizedL_iff, hl, hh])
theorem pvRoot_sized : Sized pvRoot.t := sized_of_summarized C02.demoLang _ pvRoot_summarized
theorem pvRoot_shape : shapeOK none pvRoot.t = true := by decide

/-- the leaf `b` below the visible rule `v` below the hidden `h` -/
def pvB : NodeRef := { t := cwLeaf, alias := 0, id := 2992, start := ⟨1, ⟨0, 1⟩⟩ }
/-- the leaf `c` directly below the hidden `h` -/
def pvC : NodeRef := { t := cwLeaf, alias := 0, id := 1992, start := ⟨2, ⟨0, 2⟩⟩ }

/-- `demoLang` with two fields: production 1 (`rule`) gives field 1 to child 0 directly and INHERITS
field 2 from its hidden child 1; production 2 (`_hidden`) gives field 2 to its child 0. -/
def fldLang : Lang :=
  { C02.demoLang with fieldCount := 2, productionIdCount := 3
                      fieldMaps := #[#[], #[⟨1, 0, false⟩, ⟨2, 1, true⟩], #[⟨2, 0, false⟩]] }
def fldLeaf : Tree := C02.newLeaf fldLang 1 length_zero ⟨1, ⟨0, 1⟩⟩ 1 1 false false false
def fldHidden : Tree := atAddr (C02.newNode fldLang 3 [fldLeaf] 2) 2000
def fldRoot : Tree := atAddr (C02.newNode fldLang 2 [fldLeaf, fldHidden] 1) 1000

theorem fldRoot_summarized : Summarized fldLang fldRoot := by
  have hl : Summarized fldLang fldLeaf := leaf_summarized _ _ (by unfold LeafOK; decide)
  have hh : Summarized fldLang fldHidden := node_summarized _ _ _ _ (by unfold NodeOK; decide) ((summarizedL_cons _ _ _).mpr ⟨hl, summarizedL_nil _⟩)
  exact node_summarized _ _ _ _ (by unfold NodeOK; decide) ((summarizedL_cons _ _ _).mpr ⟨hl, (summarizedL_cons _ _ _).mpr ⟨hh, summarizedL_nil _⟩⟩)

end TsVerif.C06
