import TsVerif.C06.FlatProps
import TsVerif.C06.SiblingZw
/-!
C06: the node.c searches by position (`SiblingZw.lean`: `node_nav_flat_spec`, `node_nav_flat_spec_empty`) on the judge's
array: `ts_node_parent`, `ts_node_next_sibling`, `ts_node_prev_sibling` return the `TSNode`s of the entry's `parent` field,
`FT.nextSibling`, `FT.prevSibling` (`nav_ft_of_split` of `FlatProps.lean` carries the list statement over to `FT`).
-/
open TsVerif TsVerif.C02 TsGen
namespace TsVerif.C06

/-- The evaluated cross-checks `parentOnPath` = the entry's `parent` field, `head(laterOnPath) =
FT.nextSibling`, `last(earlierOnPath) = FT.prevSibling` as a theorem.  For a relevant NON-EMPTY node
`d` at raw path `p` below the root of a summarized parser-shaped tree (hypotheses of
`node_nav_flat_spec`), let `ft` be the preorder array of `flatten`.  Then there are indices `kP`, `kd`
such that `ft[kP]` is the node built from the raw subtree that the port of `ts_node_parent(d)` returns,
`ft[kd]` is the node built from `d` (same raw subtree and alias), `(ft.node kd).parent = some kP`, and — under
`nsPathOK` / `psPathOK` — the port of `ts_node_next_sibling(d)` / `ts_node_prev_sibling(d)` returns the
(raw subtree, alias) of `FT.nextSibling kd` / `FT.prevSibling kd` (null iff null). -/
theorem nav_ft_spec (lang : Lang) (fuel : Nat) (root d : NodeRef) (p : List Nat) (ps : Option Nat)
    (hp : p ≠ []) (hfp : p.length ≤ fuel) (hsz : root.t.size ≤ fuel + 1)
    (hs : Summarized lang root.t) (hsh : shapeOK ps root.t = true) (hat : nodeAt lang root p = some d)
    (hrel : d.relevant lang true = true) (hne : d.startByte < d.endByte) (hroot : root.id ≠ d.id)
    (hok : pathOK lang d.id root p = true) :
    let ft : FT := flatOf (flatten lang root.t root.id)
    ∃ q kP kd P, q ≠ [] ∧ nodeParent lang fuel root d = some P ∧ nodeAt lang P q = some d ∧
      (ft.node kP).info.raw = P.t ∧ ft.proj kd = (d.t, d.alias) ∧ (ft.node kd).parent = some kP ∧
      (nsPathOK lang d P q = true →
        (nextSiblingPort lang fuel root d true).map (fun r => (r.t, r.alias)) = (ft.nextSibling kd false).map ft.proj) ∧
      (psPathOK lang d P q = true →
        (prevSiblingPort lang fuel root d true).map (fun r => (r.t, r.alias)) = (ft.prevSibling kd false).map ft.proj) := by
  intro ft
  obtain ⟨q, hq, hatq, _, hpar, hsplit, hns, hps⟩ := node_nav_flat_spec lang fuel root d p ps hp hfp hsz hs hsh hat hrel hne hroot hok
  obtain ⟨kP, kd, h1, h2, h3, hnx, hpv⟩ := nav_ft_of_split lang root d p hp hat _ _ hsplit
  exact ⟨q, kP, kd, _, hq, hpar, hatq, h1, h2, h3, fun h => by rw [hns h, hnx], fun h => by rw [hps h, hpv]⟩

/-- The same for a relevant ZERO-WIDTH node (hypotheses of
`node_nav_flat_spec_empty`; sibling parts under `nsPathOK` + `nsZwOK` / `psPathOK` + `psZwOK`). -/
theorem nav_ft_spec_empty (lang : Lang) (fuel : Nat) (root d : NodeRef) (p : List Nat) (ps : Option Nat)
    (hp : p ≠ []) (hfp : p.length ≤ fuel) (hsz : root.t.size ≤ fuel + 1)
    (hs : Summarized lang root.t) (hsh : shapeOK ps root.t = true) (hat : nodeAt lang root p = some d)
    (hrel : d.relevant lang true = true) (hemp : d.startByte = d.endByte) (hroot : root.id ≠ d.id)
    (hok : psPathOK lang d root p = true) :
    let ft : FT := flatOf (flatten lang root.t root.id)
    ∃ q kP kd P, q ≠ [] ∧ nodeParent lang fuel root d = some P ∧ nodeAt lang P q = some d ∧
      (ft.node kP).info.raw = P.t ∧ ft.proj kd = (d.t, d.alias) ∧ (ft.node kd).parent = some kP ∧
      (nsPathOK lang d P q = true → nsZwOK lang d P q = true →
        (nextSiblingPort lang fuel root d true).map (fun r => (r.t, r.alias)) = (ft.nextSibling kd false).map ft.proj) ∧
      (psPathOK lang d P q = true → psZwOK lang fuel d P q = true →
        (prevSiblingPort lang fuel root d true).map (fun r => (r.t, r.alias)) = (ft.prevSibling kd false).map ft.proj) := by
  intro ft
  obtain ⟨q, hq, hatq, _, hpar, hsplit, hns, hps⟩ := node_nav_flat_spec_empty lang fuel root d p ps hp hfp hsz hs hsh hat hrel hemp hroot hok
  obtain ⟨kP, kd, h1, h2, h3, hnx, hpv⟩ := nav_ft_of_split lang root d p hp hat _ _ hsplit
  exact ⟨q, kP, kd, _, hq, hpar, hatq, h1, h2, h3, fun h h' => by rw [hns h h', hnx], fun h h' => by rw [hps h h', hpv]⟩

/-- The hypotheses of `nav_ft_spec` hold for the leaf `c` below the hidden `h`. -/
example := nav_ft_spec C02.demoLang 8 pvRoot pvC [1, 1] none (by simp) (by simp) (by decide +kernel)
  pvRoot_summarized pvRoot_shape rfl (by decide +kernel) (by decide +kernel) (by decide +kernel) (by decide +kernel)

end TsVerif.C06
