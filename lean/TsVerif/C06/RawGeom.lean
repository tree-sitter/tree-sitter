import TsVerif.C06.TreeBase
import TsVerif.C06.Enum
/-!
C06, node.c: the geometry of `rawChildren` (the steps of `ts_node_child_iterator_next`) and of `enumRefs` — order and nesting of the
positions in bytes and as full `Length`s, indices, `take` / `drop`, slot ids, and the layout predicates of the sibling searches
read on the iterator's elements.  Every search of node.c and of the cursor's `goto_first_child_for_byte` rests on these.
-/
open TsVerif.C02 TsGen

namespace TsVerif.C06

theorem go_getElem_zero (lang : Lang) (n : NodeRef) (pid nk : Nat) (c : Tree) (rest : List Tree) (pos : Length) (si k : Nat) :
    rawChildren.go lang n pid nk (c :: rest) pos si k =
      { node := { t := c, alias := (if c.data.extra then 0 else lang.aliasAt pid si), id := slotId n.t.data.addr nk k,
                  start := (if k > 0 then length_add pos c.data.padding else pos) },
        posAfter := length_add (if k > 0 then length_add pos c.data.padding else pos) c.data.size, si := si, k := k } ::
      rawChildren.go lang n pid nk rest (length_add (if k > 0 then length_add pos c.data.padding else pos) c.data.size)
        (if c.data.extra then si else si + 1) (k + 1) := by
  rw [rawChildren.go]

theorem go_elem (lang : Lang) (n : NodeRef) (pid nk : Nat) : ∀ (kids : List Tree) (pos : Length) (si k j : Nat) (rc : RawChild),
    (rawChildren.go lang n pid nk kids pos si k)[j]? = some rc →
    pos.bytes ≤ rc.node.start.bytes ∧ rc.posAfter.bytes = rc.node.start.bytes + rc.node.t.data.size.bytes ∧
    kids[j]? = some rc.node.t
  | [], _, _, _, _, _, h => by simp [rawChildren.go] at h
  | c :: rest, pos, si, k, j, rc, h => by
    rw [go_getElem_zero] at h
    cases j with
    | zero =>
      simp only [List.getElem?_cons_zero, Option.some.injEq] at h
      subst h
      refine ⟨?_, by simp [length_add_bytes], by simp⟩
      simp only
      split <;> simp [length_add_bytes]
    | succ j' =>
      simp only [List.getElem?_cons_succ] at h
      have ih := go_elem lang n pid nk rest _ _ _ j' rc h
      refine ⟨?_, ih.2.1, by simpa using ih.2.2⟩
      have := ih.1
      by_cases hk : k > 0 <;> simp only [hk, if_true, if_false, length_add_bytes] at this <;> omega

def lle (a b : Length) : Prop := a.bytes ≤ b.bytes ∧ point_lte a.extent b.extent = true

theorem lle_refl {a : Length} : lle a a := ⟨Nat.le_refl _, point_lte_refl _⟩
theorem lle_trans {a b c : Length} (h1 : lle a b) (h2 : lle b c) : lle a c :=
  ⟨Nat.le_trans h1.1 h2.1, point_lte_trans h1.2 h2.2⟩
theorem lle_add {a b : Length} : lle a (length_add a b) := ⟨length_add_bytes a b ▸ Nat.le_add_right _ _, point_lte_add _ _⟩

/-- End of a `TSNode` as a full position. -/
def NodeRef.endLen (r : NodeRef) : Length := length_add r.start r.t.data.size

theorem go_start_ge (lang : Lang) (n : NodeRef) (pid nk : Nat) : ∀ (kids : List Tree) (pos : Length) (si k : Nat),
    ∀ x ∈ rawChildren.go lang n pid nk kids pos si k, lle pos x.node.start
  | [], _, _, _, _, hx => by rw [rawChildren.go] at hx; exact absurd hx List.not_mem_nil
  | c :: rest, pos, si, k, x, hx => by
    rw [go_getElem_zero] at hx
    have hcs : lle pos (if k > 0 then length_add pos c.data.padding else pos) := by
      split
      · exact lle_add
      · exact lle_refl
    rcases List.mem_cons.mp hx with rfl | hx
    · exact hcs
    · exact lle_trans (lle_trans hcs lle_add) (go_start_ge lang n pid nk rest _ _ _ x hx)

theorem go_pairwise (lang : Lang) (n : NodeRef) (pid nk : Nat) : ∀ (kids : List Tree) (pos : Length) (si k : Nat),
    (rawChildren.go lang n pid nk kids pos si k).Pairwise (fun a b => lle a.node.endLen b.node.start)
  | [], _, _, _ => by
    rw [rawChildren.go]
    exact List.Pairwise.nil
  | c :: rest, pos, si, k => by
    rw [go_getElem_zero]
    exact List.pairwise_cons.mpr ⟨fun x hx => go_start_ge lang n pid nk rest _ _ _ x hx, go_pairwise lang n pid nk rest _ _ _⟩

theorem go_ordered (lang : Lang) (n : NodeRef) (pid nk : Nat) : ∀ (kids : List Tree) (pos : Length) (si k i j : Nat) (ri rj : RawChild),
    i < j → (rawChildren.go lang n pid nk kids pos si k)[i]? = some ri →
    (rawChildren.go lang n pid nk kids pos si k)[j]? = some rj → ri.posAfter.bytes ≤ rj.node.start.bytes := by
  intro kids pos si k i j ri rj hij hi hj
  have h1 := (go_elem lang n pid nk kids pos si k i ri hi).2.1
  obtain ⟨hi', rfl⟩ := List.getElem?_eq_some_iff.mp hi
  obtain ⟨hj', rfl⟩ := List.getElem?_eq_some_iff.mp hj
  have h2 := (List.pairwise_iff_getElem.mp (go_pairwise lang n pid nk kids pos si k) i j hi' hj' hij).1
  rw [NodeRef.endLen, length_add_bytes] at h2
  omega

theorem raw_ordered (lang : Lang) (n : NodeRef) (i j : Nat) (ri rj : RawChild) (hij : i < j)
    (hi : (rawChildren lang n)[i]? = some ri) (hj : (rawChildren lang n)[j]? = some rj) :
    ri.posAfter.bytes ≤ rj.node.startByte ∧ ri.node.startByte ≤ ri.posAfter.bytes := by
  simp only [rawChildren] at hi hj
  have h1 := go_ordered lang _ _ _ _ _ _ _ i j ri rj hij hi hj
  have h2 := (go_elem lang _ _ _ _ _ _ _ i ri hi).2.1
  simp only [NodeRef.startByte]
  omega

/-- End of the layout of `kids` started at byte `p` (child index `k`). -/
def layEnd : List Tree → Nat → Nat → Nat
  | [], p, _ => p
  | c :: rest, p, k => layEnd rest ((if k > 0 then p + c.data.padding.bytes else p) + c.data.size.bytes) (k + 1)

theorem layEnd_ge : ∀ (kids : List Tree) (p k : Nat), p ≤ layEnd kids p k
  | [], _, _ => Nat.le_refl _
  | c :: rest, p, k => by
    unfold layEnd
    have := layEnd_ge rest ((if k > 0 then p + c.data.padding.bytes else p) + c.data.size.bytes) (k + 1)
    by_cases hk : k > 0 <;> simp only [hk, if_true, if_false] at this ⊢ <;> omega

theorem layEnd_pos : ∀ (kids : List Tree) (p k : Nat), k > 0 → layEnd kids p k = p + sumBytes kids
  | [], _, _, _ => by simp [layEnd, sumBytes]
  | c :: rest, p, k, hk => by
    unfold layEnd
    simp only [hk, if_true]
    rw [layEnd_pos rest _ (k + 1) (by omega)]
    simp only [sumBytes, Tree.totalBytes]; omega

theorem layEnd_kidsSize (c : Tree) (rest : List Tree) (p : Nat) :
    layEnd (c :: rest) p 0 = p + (kidsSize (c :: rest)).bytes := by
  unfold layEnd
  rw [kidsSize, restSize_bytes, layEnd_pos _ _ _ (by omega)]
  simp only [Nat.lt_irrefl, if_false, gt_iff_lt]
  omega

theorem go_below_end (lang : Lang) (n : NodeRef) (pid nk : Nat) : ∀ (kids : List Tree) (pos : Length) (si k j : Nat) (rc : RawChild),
    (rawChildren.go lang n pid nk kids pos si k)[j]? = some rc → rc.posAfter.bytes ≤ layEnd kids pos.bytes k
  | [], _, _, _, _, _, h => by simp [rawChildren.go] at h
  | c :: rest, pos, si, k, j, rc, h => by
    rw [go_getElem_zero] at h
    unfold layEnd
    cases j with
    | zero =>
      simp only [List.getElem?_cons_zero, Option.some.injEq] at h
      subst h
      simpa only [length_add_bytes, apply_ite Length.bytes] using
        layEnd_ge rest ((if k > 0 then pos.bytes + c.data.padding.bytes else pos.bytes) + c.data.size.bytes) (k + 1)
    | succ j' =>
      simp only [List.getElem?_cons_succ] at h
      simpa only [length_add_bytes, apply_ite Length.bytes] using go_below_end lang n pid nk rest _ _ _ j' rc h

theorem sized_kids {t : Tree} (hs : Sized t) : SizedL t.kids := by
  obtain ⟨d, kids⟩ := t
  exact ((sized_mk d kids).mp hs).2

theorem raw_child_nested (lang : Lang) (n : NodeRef) (hs : Sized n.t) (j : Nat) (rc : RawChild)
    (h : (rawChildren lang n)[j]? = some rc) :
    n.startByte ≤ rc.node.startByte ∧ rc.node.endByte ≤ n.endByte ∧ rc.posAfter.bytes = rc.node.endByte ∧ Sized rc.node.t := by
  obtain ⟨t, al, id, st⟩ := n
  obtain ⟨d, kids⟩ := t
  simp only [rawChildren, kids_mk, data_mk] at h
  have he := go_elem lang _ _ _ kids st 0 0 j rc h
  have hb := go_below_end lang _ _ _ kids st 0 0 j rc h
  rw [sized_mk] at hs
  simp only [NodeRef.startByte, NodeRef.endByte, data_mk]
  refine ⟨he.1, ?_, he.2.1, (sizedL_iff kids).mp hs.2 _ (List.mem_of_getElem? he.2.2)⟩
  cases kids with
  | nil => simp at he
  | cons c rest =>
    have hl := layEnd_kidsSize c rest st.bytes
    rw [(hs.1 (by simp)).2]
    omega

theorem go_length (lang : Lang) (n : NodeRef) (pid nk : Nat) : ∀ (kids : List Tree) (pos : Length) (si k : Nat),
    (rawChildren.go lang n pid nk kids pos si k).length = kids.length
  | [], _, _, _ => by simp [rawChildren.go]
  | c :: rest, pos, si, k => by rw [go_getElem_zero]; simp [go_length lang n pid nk rest]

theorem rawChildren_length (lang : Lang) (n : NodeRef) : (rawChildren lang n).length = n.t.kids.length := by
  simp only [rawChildren]; exact go_length lang n _ _ _ _ _ _

theorem go_si (lang : Lang) (n : NodeRef) (pid nk : Nat) : ∀ (kids : List Tree) (pos : Length) (si k j : Nat) (r : RawChild),
    (rawChildren.go lang n pid nk kids pos si k)[j]? = some r →
    r.si = siAfter (kids.take j) si ∧ r.node.alias = (if r.node.t.data.extra then 0 else lang.aliasAt pid r.si)
  | [], _, _, _, _, _, h => by simp [rawChildren.go] at h
  | c :: rest, pos, si, k, j, r, h => by
    rw [go_getElem_zero] at h
    cases j with
    | zero =>
      simp only [List.getElem?_cons_zero, Option.some.injEq] at h
      subst h
      simp [siAfter]
    | succ j' =>
      simp only [List.getElem?_cons_succ] at h
      have := go_si lang n pid nk rest _ _ _ j' r h
      simpa [siAfter] using this

theorem go_drop (lang : Lang) (n : NodeRef) (pid nk : Nat) : ∀ (kids : List Tree) (pos : Length) (si k j : Nat) (rc : RawChild),
    (rawChildren.go lang n pid nk kids pos si k)[j]? = some rc →
    (rawChildren.go lang n pid nk kids pos si k).drop (j + 1) =
      rawChildren.go lang n pid nk (kids.drop (j + 1)) rc.posAfter (if rc.node.t.data.extra then rc.si else rc.si + 1) (rc.k + 1)
  | [], _, _, _, _, _, h => by simp [rawChildren.go] at h
  | c :: rest, pos, si, k, j, rc, h => by
    rw [go_getElem_zero] at h ⊢
    cases j with
    | zero =>
      simp only [List.getElem?_cons_zero, Option.some.injEq] at h
      subst h
      simp
    | succ j' =>
      simp only [List.getElem?_cons_succ] at h
      simpa using go_drop lang n pid nk rest _ _ _ j' rc h

theorem go_take (lang : Lang) (n : NodeRef) (pid nk : Nat) : ∀ (kids : List Tree) (pos : Length) (si k j : Nat),
    (rawChildren.go lang n pid nk kids pos si k).take j = rawChildren.go lang n pid nk (kids.take j) pos si k
  | _, _, _, _, 0 => by simp [rawChildren.go]
  | [], _, _, _, _ + 1 => by simp [rawChildren.go]
  | c :: rest, pos, si, k, j + 1 => by
    rw [go_getElem_zero, List.take_succ_cons, List.take_succ_cons, go_getElem_zero, go_take lang n pid nk rest]

theorem go_ids (lang : Lang) (n : NodeRef) (pid nk sid : Nat) : ∀ (kids : List Tree) (pos : Length) (si k : Nat),
    noIdInL sid n.t.data.addr nk kids k = true → ∀ (j : Nat) (r : RawChild),
    (rawChildren.go lang n pid nk kids pos si k)[j]? = some r → r.node.id ≠ sid ∧ noIdIn sid r.node.t = true
  | [], _, _, _, _, _, _, h => by simp [rawChildren.go] at h
  | c :: rest, pos, si, k, ha, j, r, h => by
    rw [go_getElem_zero] at h
    unfold noIdInL at ha
    simp only [Bool.and_eq_true, bne_iff_ne, ne_eq] at ha
    cases j with
    | zero =>
      simp only [List.getElem?_cons_zero, Option.some.injEq] at h
      subst h
      exact ⟨ha.1.1, ha.1.2⟩
    | succ j' =>
      simp only [List.getElem?_cons_succ] at h
      exact go_ids lang n pid nk sid rest _ _ (k + 1) ha.2 j' r h

theorem noIdInL_of_noIdIn (sid : Nat) (t : Tree) (h : noIdIn sid t = true) :
    noIdInL sid t.data.addr t.kids.length t.kids 0 = true := by
  obtain ⟨d, kids⟩ := t
  unfold noIdIn at h
  simpa [data_mk, kids_mk] using h

theorem go_mem_kid (lang : Lang) (n : NodeRef) (pid nk : Nat) (kids : List Tree) (pos : Length) (si k : Nat) (rc : RawChild)
    (h : rc ∈ rawChildren.go lang n pid nk kids pos si k) : rc.node.t ∈ kids := by
  obtain ⟨j, hj⟩ := List.mem_iff_getElem?.mp h
  exact List.mem_of_getElem? (go_elem lang n pid nk kids pos si k j rc hj).2.2

theorem raw_mem_kid (lang : Lang) (n : NodeRef) (rc : RawChild) (h : rc ∈ rawChildren lang n) : rc.node.t ∈ n.t.kids :=
  go_mem_kid lang n _ _ _ _ _ _ rc h

theorem raw_child_ok (lang : Lang) (n : NodeRef) (ps : Option Nat) (hs : Summarized lang n.t) (hsh : shapeOK ps n.t = true)
    (k : Nat) (rc : RawChild) (hk : (rawChildren lang n)[k]? = some rc) :
    Summarized lang rc.node.t ∧ shapeOK (some n.t.data.symbol) rc.node.t = true :=
  have hmem := raw_mem_kid lang n rc (List.mem_of_getElem? hk)
  ⟨summarized_of_mem lang _ _ (summarizedL_kids lang n.t hs) hmem, shapeOK_of_mem _ _ _ (shapeOKL_kids ps n.t hsh) hmem⟩

theorem raw_take (lang : Lang) (n : NodeRef) (k : Nat) :
    (rawChildren lang n).take k =
      rawChildren.go lang n n.t.data.productionId n.t.kids.length (n.t.kids.take k) n.start 0 0 :=
  go_take lang n _ _ _ _ _ _ k

/-- The start of child `k` as `ts_node_child_iterator_next` computes it (`k > 0`: after its padding) and as the
predicates over the layout write it (`first`). -/
theorem go_start_bytes (k : Nat) (pos pad : Length) :
    (if k > 0 then length_add pos pad else pos).bytes = if k = 0 then pos.bytes else pos.bytes + pad.bytes := by
  cases k <;> simp [length_add_bytes]

theorem go_after (lang : Lang) (n : NodeRef) (pid nk tgt : Nat) : ∀ (kids : List Tree) (pos : Length) (si k : Nat),
    endsAfterL tgt kids pos.bytes (decide (k = 0)) = true → ∀ (j : Nat) (r : RawChild),
    (rawChildren.go lang n pid nk kids pos si k)[j]? = some r →
    tgt < r.posAfter.bytes ∧ endsAfterL tgt r.node.t.kids r.node.start.bytes true = true
  | [], _, _, _, _, _, _, h => by simp [rawChildren.go] at h
  | c :: rest, pos, si, k, ha, j, r, h => by
    rw [go_getElem_zero] at h
    unfold endsAfterL at ha
    simp only [Bool.and_eq_true] at ha
    cases j with
    | zero =>
      simp only [List.getElem?_cons_zero, Option.some.injEq] at h
      subst h
      obtain ⟨d, ck⟩ := c
      have h1 := ha.1
      unfold endsAfter at h1
      simp only [Bool.and_eq_true, decide_eq_true_eq, data_mk] at h1
      simpa only [kids_mk, data_mk, length_add_bytes, go_start_bytes] using h1
    | succ j' =>
      simp only [List.getElem?_cons_succ] at h
      refine go_after lang n pid nk tgt rest _ _ (k + 1) ?_ j' r h
      simpa [length_add_bytes, go_start_bytes] using ha.2

theorem raw_mem_props (lang : Lang) (n : NodeRef) (tgt : Nat) (rc : RawChild) (h : rc ∈ rawChildren lang n)
    (hne : endsAfterL tgt n.t.kids n.start.bytes true = true) :
    n.startByte ≤ rc.node.startByte ∧ tgt < rc.posAfter.bytes ∧ rc.node.t ∈ n.t.kids ∧
      endsAfterL tgt rc.node.t.kids rc.node.start.bytes true = true := by
  obtain ⟨j, hj⟩ := List.mem_iff_getElem?.mp h
  have ha := go_after lang n _ _ tgt _ _ _ 0 hne j rc hj
  exact ⟨(go_elem lang _ _ _ _ _ _ _ j rc hj).1, ha.1, raw_mem_kid lang n rc h, ha.2⟩

theorem posStop_of_pass (fuel : Nat) (self : NodeRef) (t : Tree) (e : Nat) (h : posPass fuel self t e = true) :
    posStop fuel self t e = false := by
  simp only [posPass, Bool.or_eq_true, Bool.and_eq_true, decide_eq_true_eq, beq_iff_eq, Bool.not_eq_true'] at h
  simp only [posStop, Bool.or_eq_false_iff, decide_eq_false_iff_not, Bool.and_eq_false_iff, beq_eq_false_iff_ne, ne_eq]
  rcases h with h | ⟨⟨h1, h2⟩, h3⟩
  · exact ⟨by omega, Or.inl (by omega)⟩
  · refine ⟨by omega, Or.inr ?_⟩
    simp [h2, h3]

theorem go_pass (lang : Lang) (n : NodeRef) (pid nk fuel : Nat) (self : NodeRef) : ∀ (kids : List Tree) (pos : Length) (si k : Nat),
    passInL fuel self kids pos.bytes (decide (k = 0)) = true → ∀ (j : Nat) (r : RawChild),
    (rawChildren.go lang n pid nk kids pos si k)[j]? = some r →
    posPass fuel self r.node.t r.posAfter.bytes = true ∧ passInL fuel self r.node.t.kids r.node.start.bytes true = true
  | [], _, _, _, _, _, _, h => by simp [rawChildren.go] at h
  | c :: rest, pos, si, k, ha, j, r, h => by
    rw [go_getElem_zero] at h
    unfold passInL at ha
    simp only [Bool.and_eq_true] at ha
    cases j with
    | zero =>
      simp only [List.getElem?_cons_zero, Option.some.injEq] at h
      subst h
      obtain ⟨d, ck⟩ := c
      have h1 := ha.1
      unfold passIn at h1
      simp only [Bool.and_eq_true, data_mk] at h1
      simpa only [kids_mk, data_mk, length_add_bytes, go_start_bytes, decide_eq_true_eq] using h1
    | succ j' =>
      simp only [List.getElem?_cons_succ] at h
      refine go_pass lang n pid nk fuel self rest _ _ (k + 1) ?_ j' r h
      simpa [length_add_bytes, go_start_bytes] using ha.2

mutual
  theorem passIn_of_lt (fuel : Nat) (self : NodeRef) : ∀ (t : Tree) (st : Nat), Sized t → st + t.data.size.bytes < self.endByte →
      passIn fuel self t st = true
    | .mk d kids, st, hs, h => by
      unfold passIn
      unfold Sized at hs
      simp only [data_mk] at h
      simp only [Bool.and_eq_true]
      refine ⟨by simp [posPass, h], ?_⟩
      cases kids with
      | nil => unfold passInL; rfl
      | cons c rest =>
        have := passInL_of_lt fuel self (c :: rest) st 0 hs.2 (by rw [layEnd_kidsSize, ← (hs.1 (by simp)).2]; exact h)
        simpa using this
  theorem passInL_of_lt (fuel : Nat) (self : NodeRef) : ∀ (kids : List Tree) (pos k : Nat), SizedL kids →
      layEnd kids pos k < self.endByte → passInL fuel self kids pos (decide (k = 0)) = true
    | [], _, _, _, _ => by unfold passInL; rfl
    | c :: rest, pos, k, hs, h => by
      unfold SizedL at hs
      unfold layEnd at h
      unfold passInL
      have hmono := layEnd_ge rest ((if k > 0 then pos + c.data.padding.bytes else pos) + c.data.size.bytes) (k + 1)
      have hst : (if decide (k = 0) = true then pos else pos + c.data.padding.bytes) = (if k > 0 then pos + c.data.padding.bytes else pos) := by
        cases k <;> simp
      simp only [hst, Bool.and_eq_true]
      refine ⟨passIn_of_lt fuel self c _ hs.1 (by omega), ?_⟩
      have := passInL_of_lt fuel self rest ((if k > 0 then pos + c.data.padding.bytes else pos) + c.data.size.bytes) (k + 1) hs.2 h
      simpa using this
end

theorem sizedL_take (kids : List Tree) (j : Nat) (h : SizedL kids) : SizedL (kids.take j) :=
  (sizedL_iff _).mpr fun c hc => (sizedL_iff kids).mp h c (List.mem_of_mem_take hc)

theorem layEnd_take_le (lang : Lang) (n : NodeRef) (pid nk : Nat) : ∀ (kids : List Tree) (pos : Length) (si k j : Nat) (rc : RawChild),
    (rawChildren.go lang n pid nk kids pos si k)[j]? = some rc → layEnd (kids.take j) pos.bytes k ≤ rc.node.start.bytes
  | [], _, _, _, _, _, h => by simp [rawChildren.go] at h
  | c :: rest, pos, si, k, j, rc, h => by
    cases j with
    | zero =>
      simpa [layEnd] using (go_elem lang n pid nk (c :: rest) pos si k 0 rc h).1
    | succ j' =>
      rw [go_getElem_zero] at h
      simp only [List.getElem?_cons_succ] at h
      simpa only [List.take_succ_cons, layEnd, length_add_bytes, apply_ite Length.bytes] using
        layEnd_take_le lang n pid nk rest _ _ _ j' rc h

/-- Position after laying the children out the way the node.c iterator does (the first child's padding is the
node's own and is not added). -/
def layEndL : List Tree → Length → Nat → Length
  | [], pos, _ => pos
  | c :: rest, pos, k => layEndL rest (length_add (if k > 0 then length_add pos c.data.padding else pos) c.data.size) (k + 1)

theorem layEndL_ge : ∀ (kids : List Tree) (pos : Length) (k : Nat), lle pos (layEndL kids pos k)
  | [], _, _ => lle_refl
  | c :: rest, pos, k => by
    unfold layEndL
    refine lle_trans ?_ (layEndL_ge rest _ (k + 1))
    split
    · exact lle_trans lle_add lle_add
    · exact lle_add

theorem layEndL_pos : ∀ (kids : List Tree) (pos : Length) (k : Nat), k > 0 → layEndL kids pos k = layoutEnd kids pos
  | [], _, _, _ => rfl
  | c :: rest, pos, k, hk => by
    unfold layEndL layoutEnd
    rw [if_pos hk, layEndL_pos rest _ (k + 1) (Nat.succ_pos k), length_add_assoc]
    rfl

theorem mem_ite_singleton {α : Type} {b : Prop} [Decidable b] {a x : α} {l : List α} (h : x ∈ if b then [a] else l) :
    x = a ∨ x ∈ l := by
  split at h
  · exact Or.inl (List.mem_singleton.mp h)
  · exact Or.inr h

mutual
  theorem enumRefs_withinL (lang : Lang) : ∀ (t : Tree) (start : Length), Sized t → ∀ r ∈ enumRefs lang t start,
      lle r.endLen (length_add start t.data.size)
    | .mk d kids, start, hs, r, hr => by
      have := enumRefsKids_withinL lang d.productionId d.addr kids.length kids start 0 0 hs.2 r hr
      cases kids with
      | nil => exact absurd hr List.not_mem_nil
      | cons c rest =>
        rw [data_mk, (hs.1 (List.cons_ne_nil _ _)).2, kidsSize]
        unfold layEndL at this
        rw [if_neg (Nat.lt_irrefl 0), layEndL_pos _ _ _ (Nat.succ_pos 0), layoutEnd_restSize] at this
        exact this
  theorem enumRefsKids_withinL (lang : Lang) (pid addr nk : Nat) : ∀ (kids : List Tree) (pos : Length) (si k : Nat),
      SizedL kids → ∀ r ∈ enumRefsKids lang pid addr nk kids pos si k, lle r.endLen (layEndL kids pos k)
    | [], _, _, _, _, r, hr => absurd hr List.not_mem_nil
    | c :: rest, pos, si, k, hs, r, hr => by
      unfold enumRefsKids at hr
      unfold layEndL
      rcases List.mem_append.mp hr with hr | hr
      · refine lle_trans ?_ (layEndL_ge rest _ (k + 1))
        rcases mem_ite_singleton hr with rfl | hr
        · exact lle_refl
        · exact enumRefs_withinL lang c _ hs.1 r hr
      · exact enumRefsKids_withinL lang pid addr nk rest _ _ _ hs.2 r hr
end

theorem layEndL_bytes : ∀ (kids : List Tree) (pos : Length) (k : Nat), (layEndL kids pos k).bytes = layEnd kids pos.bytes k
  | [], _, _ => rfl
  | c :: rest, pos, k => by
    rw [layEndL, layEnd, layEndL_bytes rest, length_add_bytes]
    split <;> simp only [length_add_bytes]

theorem enumRefs_within (lang : Lang) : ∀ (t : Tree) (start : Length), Sized t → ∀ r ∈ enumRefs lang t start,
    r.endByte ≤ start.bytes + t.data.size.bytes := by
  intro t start hs r hr
  have := (enumRefs_withinL lang t start hs r hr).1
  rwa [NodeRef.endLen, length_add_bytes, length_add_bytes] at this

theorem enumRefsKids_within (lang : Lang) (pid addr nk : Nat) : ∀ (kids : List Tree) (pos : Length) (si k : Nat),
    SizedL kids → ∀ r ∈ enumRefsKids lang pid addr nk kids pos si k, r.endByte ≤ layEnd kids pos.bytes k := by
  intro kids pos si k hs r hr
  have := (enumRefsKids_withinL lang pid addr nk kids pos si k hs r hr).1
  rwa [layEndL_bytes, NodeRef.endLen, length_add_bytes] at this

theorem find_append_or {α : Type} (p : α → Bool) (a b : List α) : (a ++ b).find? p = (a.find? p).or (b.find? p) :=
  List.find?_append

theorem find_none_of_all {α : Type} (p : α → Bool) (l : List α) (h : ∀ x ∈ l, p x = false) : l.find? p = none :=
  List.find?_eq_none.mpr fun x hx => by simp [h x hx]

theorem raw_child_size (lang : Lang) (n : NodeRef) (rc : RawChild) (h : rc ∈ rawChildren lang n) : rc.node.t.size < n.t.size := by
  have := sizeList_mem _ _ (go_mem_kid lang n _ _ _ _ _ _ rc h)
  have := tree_size_kids n.t
  omega

theorem go_posAfter_is_end (lang : Lang) (n : NodeRef) (pid nk : Nat) : ∀ (kids : List Tree) (pos : Length) (si k : Nat) (rc : RawChild),
    rc ∈ rawChildren.go lang n pid nk kids pos si k → rc.posAfter = length_add rc.node.start rc.node.t.data.size
  | [], _, _, _, _, h => by simp [rawChildren.go] at h
  | c :: rest, pos, si, k, rc, h => by
    rw [go_getElem_zero] at h
    simp only [List.mem_cons] at h
    rcases h with h | h
    · subst h; rfl
    · exact go_posAfter_is_end lang n pid nk rest _ _ _ rc h

/-- A list of raw children laid out one after the other, each over a `Sized` subtree, the iterator's position after a child
being the child's end: what an induction over the raw children of a node needs of the suffix still to be scanned. -/
def Laid (raws : List RawChild) : Prop :=
  raws.Pairwise (fun a b => lle a.node.endLen b.node.start) ∧ ∀ rc ∈ raws, Sized rc.node.t ∧ rc.posAfter = rc.node.endLen

theorem go_laid (lang : Lang) (n : NodeRef) (pid nk : Nat) (kids : List Tree) (pos : Length) (si k : Nat) (hs : SizedL kids) :
    Laid (rawChildren.go lang n pid nk kids pos si k) :=
  ⟨go_pairwise lang n pid nk kids pos si k, fun rc hrc =>
    ⟨(sizedL_iff kids).mp hs _ (go_mem_kid lang n pid nk kids pos si k rc hrc), go_posAfter_is_end lang n pid nk kids pos si k rc hrc⟩⟩

theorem raw_laid (lang : Lang) (n : NodeRef) (hs : Sized n.t) : Laid (rawChildren lang n) :=
  go_laid lang n _ _ _ _ _ _ (sized_kids hs)

theorem enumRefs_start (lang : Lang) (t : Tree) (start : Length) : ∀ r ∈ enumRefs lang t start, lle start r.start ∧ r.t.size < t.size :=
  fun r hr => enumRefs_induct lang (fun n r => lle n.start r.start ∧ r.t.size < n.t.size)
    (fun n rc hrc _ => ⟨go_start_ge lang n _ _ _ _ _ _ rc hrc, raw_child_size lang n rc hrc⟩)
    (fun n rc _ hrc _ ih => ⟨lle_trans (go_start_ge lang n _ _ _ _ _ _ rc hrc) ih.1, Nat.lt_trans ih.2 (raw_child_size lang n rc hrc)⟩)
    t 0 0 start r hr

theorem enumRefs_sized (lang : Lang) (t : Tree) (start : Length) (hs : Sized t) : ∀ r ∈ enumRefs lang t start, Sized r.t :=
  fun r hr => enumRefs_induct lang (fun n r => Sized n.t → Sized r.t)
    (fun n rc hrc _ hs => ((raw_laid lang n hs).2 rc hrc).1) (fun n rc _ hrc _ ih hs => ih ((raw_laid lang n hs).2 rc hrc).1)
    t 0 0 start r hr hs

theorem enumRefs_props (lang : Lang) : ∀ (t : Tree) (start : Length), Sized t → ∀ r ∈ enumRefs lang t start,
    start.bytes ≤ r.startByte ∧ r.t.size < t.size ∧ Sized r.t :=
  fun t start hs r hr => ⟨(enumRefs_start lang t start r hr).1.1, (enumRefs_start lang t start r hr).2, enumRefs_sized lang t start hs r hr⟩

theorem enumRefsKids_start (lang : Lang) (pid addr nk : Nat) : ∀ (kids : List Tree) (pos : Length) (si k : Nat),
    ∀ r ∈ enumRefsKids lang pid addr nk kids pos si k, lle pos r.start
  | [], _, _, _, r, hr => by rw [enumRefsKids] at hr; exact absurd hr List.not_mem_nil
  | c :: rest, pos, si, k, r, hr => by
    rw [enumRefsKids] at hr
    have hcs : lle pos (if k > 0 then length_add pos c.data.padding else pos) := by
      split
      · exact lle_add
      · exact lle_refl
    rcases List.mem_append.mp hr with hr | hr
    · rcases mem_ite_singleton hr with rfl | hr
      · exact hcs
      · exact lle_trans hcs (enumRefs_start lang c _ r hr).1
    · exact lle_trans (lle_trans hcs lle_add) (enumRefsKids_start lang pid addr nk rest _ _ _ r hr)

theorem contribR_inside (lang : Lang) (nd : NodeRef) (hs : Sized nd.t) : ∀ r ∈ contribR lang nd,
    lle nd.start r.start ∧ lle r.endLen nd.endLen := by
  intro r hr
  rcases mem_ite_singleton hr with rfl | hr
  · exact ⟨lle_refl, lle_refl⟩
  · exact ⟨(enumRefs_start lang _ _ r hr).1, enumRefs_withinL lang _ _ hs r hr⟩

theorem from_child_start_ge (lang : Lang) (pid addr nk : Nat) (nd : NodeRef) (rest : List Tree) (si k : Nat) :
    ∀ r ∈ contribR lang nd ++ enumRefsKids lang pid addr nk rest (length_add nd.start nd.t.data.size) si k, lle nd.start r.start := by
  intro r hr
  rcases List.mem_append.mp hr with hr | hr
  · rcases mem_ite_singleton hr with rfl | hr
    · exact lle_refl
    · exact (enumRefs_start lang _ _ r hr).1
  · exact lle_trans lle_add (enumRefsKids_start lang pid addr nk rest _ _ _ r hr)

example : (enumRefs C02.demoLang pvRoot.t pvRoot.start).map (·.id) = [976, 1984, 1992, 992] := by decide

end TsVerif.C06
