import TsVerif.C06.Props
import TsVerif.C06.RawGeom
import TsVerif.C06.NodeFields
/-!
# C06 — `ts_node_field_name_for_child` / `ts_node_field_name_for_named_child`

One C function with `include_anonymous` true / false.  For `false` a child counts when it is named (alias metadata
first), and a child that does not count is entered when its cached `named_child_count` exceeds the remaining index.
For every language and every summarized parser-shaped subtree in which hidden extras have no visible children
(`hiddenExtraOK`) and — named variant — visible nodes that are not named have no children (`anonLeafOK`: the C code
would otherwise descend INTO a visible anonymous node by its `named_child_count`), the port returns the field the
chain of the `i`-th child that counts shows.
-/
namespace TsVerif.C06
open TsGen TsVerif TsVerif.C02

theorem fieldFromLanguage_eq (lang : Lang) (n : NodeRef) (si : Nat) :
    fieldFromLanguage lang n si = (directFields lang n.t.data.productionId si).head? := by
  unfold fieldFromLanguage directFields
  rw [← List.head?_filter]
  cases ((lang.fieldMap n.t.data.productionId).toList.filter fun m => !m.inherited && m.childIndex == si) <;> rfl

/-- What `field_name_for_child` reports for the `i`-th entry of the chained enumeration. -/
def fieldAt (l : List (Tree × Nat × List (List Nat))) (i : Nat) : Option Nat :=
  (l[i]?).bind fun x => chainField x.2.2

/-- `keepF lang false`: the enumerated child counts for `ts_node_field_name_for_named_child`. -/
def nmF (lang : Lang) (x : Tree × Nat × List (List Nat)) : Bool := entryNamed lang (x.1, x.2.1)

/-- Does the enumerated child (with its chain) count for the flag `include_anonymous`? -/
def keepF (lang : Lang) (anon : Bool) (x : Tree × Nat × List (List Nat)) : Bool := keepA lang anon (x.1, x.2.1)

section
variable {lang : Lang} {anon : Bool} {result : NodeRef} {c : Tree} {inh : Option Nat} {rest : List RawChild}
  {al id ci index si k f : Nat} {st pa : Length}

/-- The child asked for, or one that counts before it; else a child that holds the one asked for (`result = child; goto recur`),
or one that ends before it.  The structural index handed to the field map is `si` unless the child is an extra. -/
theorem fnScan_cons :
    fieldNameForChildPort.go.scan lang anon result ci inh f (⟨⟨c, al, id, st⟩, pa, si, k⟩ :: rest) index =
      (if isRelevant lang c al anon then
         (if index == ci then (if c.data.extra then none else firstSome (fieldFromLanguage lang result si) inh)
          else fieldNameForChildPort.go.scan lang anon result ci inh f rest (index + 1))
       else if ci - index < relevantChildCount c anon then
         fieldNameForChildPort.go lang anon f ⟨c, al, id, st⟩ (ci - index)
           (firstSome (fieldFromLanguage lang result
             (if c.data.extra then (if si == 0 then fieldNameForChildPort.u32maxN else si - 1) else si)) inh)
       else fieldNameForChildPort.go.scan lang anon result ci inh f rest (index + relevantChildCount c anon)) := by
  rw [fieldNameForChildPort.go.scan]
  cases c.data.extra with
  | true => rfl
  | false => rfl

end

section
variable {lang : Lang} {anon : Bool} {c : Tree} {ps : Option Nat} {al si : Nat}

theorem filter_enumF_length (hs : Summarized lang c) (hsh : shapeOK ps c = true) (chain : List (List Nat)) :
    ((enumF lang c chain).filter (keepF lang anon)).length = relevantChildCount c anon := by
  rw [relevantChildCount_eq lang c ps anon hs hsh, ← enumF_proj lang c chain, List.filter_map, List.length_map]
  rfl

theorem hiddenExtraOK_elim (h : hiddenExtraOK lang c al = true) :
    (c.data.extra = true → (c.data.visible || al != 0) = false → vcc c = 0) ∧
      hiddenExtraOKKids lang c.kids c.data.productionId 0 = true := by
  obtain ⟨d, kids⟩ := c
  rw [hiddenExtraOK, Bool.and_eq_true] at h
  refine ⟨fun hx hv => ?_, h.2⟩
  have h1 := h.1
  rw [data_mk] at hx hv
  rw [hx, hv] at h1
  exact of_decide_eq_true h1

end

/-- The scan over the raw children from `ks` on, `index ≤ ci` children that count already passed; `ih` is `fn_go_spec_flag` at the
fuel `f`, used for a hidden child that holds the child asked for.  The trap: such a child is ENTERED with the structural index of
`fnScan_cons`, which wraps for an extra first child; `hiddenExtraOK` shows that a hidden child that is entered is not an extra, so
the wrapped index never reaches the field map. -/
theorem fn_scan_spec (lang : Lang) (anon : Bool) (f : Nat) (result : NodeRef) (ci : Nat) (outer : List (List Nat))
    (ih : ∀ (result : NodeRef) (ci : Nat) (outer : List (List Nat)) (ps : Option Nat), Summarized lang result.t →
      shapeOK ps result.t = true → hiddenExtraOKKids lang result.t.kids result.t.data.productionId 0 = true →
      (anon = true ∨ anonLeafOKKids lang result.t.kids result.t.data.productionId 0 = true) → result.t.size ≤ f →
      fieldNameForChildPort.go lang anon f result ci (chainField outer) =
        fieldAt ((enumF lang result.t outer).filter (keepF lang anon)) ci) :
    ∀ (ks : List Tree) (pos : Length) (si k index : Nat), index ≤ ci → SummarizedL lang ks →
    shapeOKL (some result.t.data.symbol) ks = true → hiddenExtraOKKids lang ks result.t.data.productionId si = true →
    (anon = true ∨ anonLeafOKKids lang ks result.t.data.productionId si = true) → Tree.sizeList ks ≤ f →
    fieldNameForChildPort.go.scan lang anon result ci (chainField outer) f
        (rawChildren.go lang result result.t.data.productionId result.t.kids.length ks pos si k) index =
      fieldAt ((enumKidsF lang result.t.data.productionId ks si outer).filter (keepF lang anon)) (ci - index) := by
  intro ks
  induction ks with
  | nil =>
    intro _ _ _ _ _ _ _ _ _ _
    rw [rawChildren.go, fieldNameForChildPort.go.scan, enumKidsF]
    rfl
  | cons c ks ihs =>
    intro pos si k index hidx hs hsh hx ha hsz
    rw [SummarizedL] at hs
    rw [shapeOKL, Bool.and_eq_true] at hsh
    rw [hiddenExtraOKKids, Bool.and_eq_true] at hx
    rw [Tree.sizeList] at hsz
    have hszr : Tree.sizeList ks ≤ f := Nat.le_trans (Nat.le_add_left _ _) hsz
    obtain ⟨hac, har⟩ := aok_cons lang anon c ks _ si ha
    unfold alOf at hac
    have hlen := filter_enumF_length (anon := anon) hs.1 hsh.1
      (if c.data.extra then [] else directFields lang result.t.data.productionId si :: outer)
    rw [go_getElem_zero, fnScan_cons, enumKidsF, List.filter_append]
    generalize (if c.data.extra then 0 else lang.aliasAt result.t.data.productionId si) = al at hac hx ⊢
    rw [isRelevant_eq]
    by_cases hv : (c.data.visible || al != 0) = true
    · rw [hv, Bool.true_and, if_pos rfl]
      by_cases hk : keepA lang anon (c, al) = true
      · -- a child that counts: it is listed
        rw [if_pos hk, List.filter_cons_of_pos (p := keepF lang anon) (a := (c, al, _)) hk, List.filter_nil, List.singleton_append]
        by_cases hi : index = ci
        · -- the child asked for: its own slot (`ts_node__field_name_from_language`), else what was inherited
          rw [hi, if_pos (beq_self_eq_true ci), Nat.sub_self]
          cases c.data.extra with
          | true => rfl
          | false => exact ((chainField_cons _ _).trans (by rw [fieldFromLanguage_eq]; rfl)).symm
        · have hlt := Nat.lt_of_le_of_ne hidx hi
          rw [if_neg (by simpa using hi), ihs _ _ _ (index + 1) hlt hs.2 hsh.2 hx.2 har hszr,
            Nat.sub_add_eq, ← Nat.sub_one_add_one (Nat.ne_of_gt (Nat.sub_pos_of_lt hlt))]
          rfl
      · -- visible (or aliased) but not counting: listed, filtered out; a leaf by `anonLeafOK`, so it is not entered
        have hgc : relevantChildCount c anon = 0 := by
          rw [relevantChildCount, leaf_of_not_kept hv ((Bool.not_eq_true _).mp hk) hac]
          rfl
        rw [if_neg hk, hgc, if_neg (Nat.not_lt_zero _), List.filter_cons_of_neg (p := keepF lang anon) (a := (c, al, _)) hk,
          List.filter_nil, List.nil_append]
        exact ihs _ _ _ _ hidx hs.2 hsh.2 hx.2 har hszr
    · -- a hidden child: entered if it holds the child asked for, else all its children that count are passed
      rw [(Bool.not_eq_true _).mp hv, Bool.false_and, if_neg Bool.false_ne_true, if_neg Bool.false_ne_true]
      by_cases hin : ci - index < relevantChildCount c anon
      · obtain ⟨hx0, hxc⟩ := hiddenExtraOK_elim hx.1
        have hnx : c.data.extra = false := (Bool.not_eq_true _).mp fun hce => by
          rw [relevantChildCount_eq lang c _ anon hs.1 hsh.1, enumChildren_nil_of_vcc lang c _ hs.1 hsh.1
            (by rw [hx0 hce ((Bool.not_eq_true _).mp hv)]; exact Nat.lt_irrefl 0)] at hin
          exact absurd hin (Nat.not_lt_zero _)
        rw [if_pos hin, fieldAt, List.getElem?_append_left (by rw [hlen]; exact hin)]
        rw [hnx] at hlen ⊢
        have := ih ⟨c, al, slotId result.t.data.addr result.t.kids.length k, if k > 0 then length_add pos c.data.padding else pos⟩ (ci - index)
          (directFields lang result.t.data.productionId si :: outer) _ hs.1 hsh.1 hxc (aok_child lang anon c al hac)
          (Nat.le_trans (Nat.le_add_right _ _) hsz)
        rw [chainField_cons, ← fieldFromLanguage_eq] at this
        exact this
      · rw [if_neg hin, ihs _ _ _ _ (Nat.add_le_of_le_sub' hidx (Nat.le_of_not_lt hin)) hs.2 hsh.2 hx.2 har hszr, fieldAt, fieldAt,
          List.getElem?_append_right (by rw [hlen]; exact Nat.le_of_not_lt hin), hlen, Nat.sub_add_eq]

/-- The port of `ts_node_field_name_for_child` (`anon = true`) / `_for_named_child` (`anon = false`) below `result`, with
`chainField outer` inherited so far: the field of the `ci`-th child that counts for the flag, in the chained enumeration. -/
theorem fn_go_spec_flag (lang : Lang) (anon : Bool) : ∀ (f : Nat) (result : NodeRef) (ci : Nat) (outer : List (List Nat)) (ps : Option Nat),
    Summarized lang result.t → shapeOK ps result.t = true →
    hiddenExtraOKKids lang result.t.kids result.t.data.productionId 0 = true →
    (anon = true ∨ anonLeafOKKids lang result.t.kids result.t.data.productionId 0 = true) → result.t.size ≤ f →
    fieldNameForChildPort.go lang anon f result ci (chainField outer) =
      fieldAt ((enumF lang result.t outer).filter (keepF lang anon)) ci := by
  intro f
  induction f with
  | zero =>
    intro result _ _ _ _ _ _ _ hsz
    exact absurd (Nat.le_trans (tree_size_pos result.t) hsz) (Nat.lt_irrefl 0)
  | succ f ih =>
    intro result ci outer ps hs hsh hx ha hsz
    rw [tree_size_kids] at hsz
    rw [fieldNameForChildPort.go, enumF_eq]
    exact fn_scan_spec lang anon f result ci outer ih _ _ 0 0 0 (Nat.zero_le _) (summarizedL_kids lang _ hs) (shapeOKL_kids ps _ hsh) hx ha (by omega)

theorem fn_go_spec_named (lang : Lang) : ∀ (f : Nat) (result : NodeRef) (ci : Nat) (outer : List (List Nat)) (ps : Option Nat),
    Summarized lang result.t → shapeOK ps result.t = true →
    hiddenExtraOKKids lang result.t.kids result.t.data.productionId 0 = true →
    anonLeafOKKids lang result.t.kids result.t.data.productionId 0 = true → result.t.size ≤ f →
    fieldNameForChildPort.go lang false f result ci (chainField outer) =
      fieldAt ((enumF lang result.t outer).filter (nmF lang)) ci :=
  fun f result ci outer ps hs hsh hx ha hsz => fn_go_spec_flag lang false f result ci outer ps hs hsh hx (Or.inr ha) hsz

/-- For every summarized parser-shaped subtree in which hidden extras have no
visible children and visible unnamed nodes are leaves, the port of `ts_node_field_name_for_named_child(self, i)`
returns the field the chain of the `i`-th NAMED child shows (`chainField`), the chains being exactly the `fields`
that `flatten` records for the children of the node (`flattenKids_fields`). -/
theorem field_name_for_named_child_spec (lang : Lang) (self : NodeRef) (i fuel : Nat) (ps : Option Nat)
    (hs : Summarized lang self.t) (hsh : shapeOK ps self.t = true)
    (hx : hiddenExtraOKKids lang self.t.kids self.t.data.productionId 0 = true)
    (ha : anonLeafOKKids lang self.t.kids self.t.data.productionId 0 = true) (hf : self.t.size ≤ fuel) :
    fieldNameForChildPort lang fuel self i false = fieldAt ((enumF lang self.t []).filter (nmF lang)) i :=
  fn_go_spec_named lang fuel self i [] ps hs hsh hx ha hf

theorem fn_go_spec (lang : Lang) : ∀ (f : Nat) (result : NodeRef) (ci : Nat) (outer : List (List Nat)) (ps : Option Nat),
    Summarized lang result.t → shapeOK ps result.t = true →
    hiddenExtraOKKids lang result.t.kids result.t.data.productionId 0 = true → result.t.size ≤ f →
    fieldNameForChildPort.go lang true f result ci (chainField outer) = fieldAt (enumF lang result.t outer) ci := by
  intro f result ci outer ps hs hsh hx hsz
  have := fn_go_spec_flag lang true f result ci outer ps hs hsh hx (Or.inl rfl) hsz
  rwa [(List.filter_eq_self (p := keepF lang true)).mpr (fun _ _ => rfl)] at this

/-- For every summarized parser-shaped subtree in which hidden extras
have no visible children, the port of `ts_node_field_name_for_child(self, i)` returns the field the
chain of the `i`-th child shows (`chainField`), where the chains are exactly the `fields` that
`flatten` records for the children of the node (`flattenKids_fields`). -/
theorem field_name_for_child_spec (lang : Lang) (self : NodeRef) (i fuel : Nat) (ps : Option Nat)
    (hs : Summarized lang self.t) (hsh : shapeOK ps self.t = true)
    (hx : hiddenExtraOKKids lang self.t.kids self.t.data.productionId 0 = true) (hf : self.t.size ≤ fuel) :
    fieldNameForChildPort lang fuel self i true = fieldAt (enumF lang self.t []) i :=
  fn_go_spec lang fuel self i [] ps hs hsh hx hf

example : hiddenExtraOKKids fldLang fldRoot.kids fldRoot.data.productionId 0 = true ∧
    anonLeafOKKids fldLang fldRoot.kids fldRoot.data.productionId 0 = true := by decide
/-- named child 1 of the root is the token inside the hidden node: its field is the inherited field 2 -/
example : fieldNameForChildPort fldLang 4 ⟨fldRoot, 0, 1, length_zero⟩ 1 false = some 2 := by
  rw [field_name_for_named_child_spec fldLang ⟨fldRoot, 0, 1, length_zero⟩ 1 4 none fldRoot_summarized (by decide) (by decide) (by decide) (by decide)]
  decide

end TsVerif.C06
