import TsVerif.C06.NodePaths
/-!
C06, node.c: `ts_node_prev_sibling` / `ts_node_prev_named_sibling` in ONE development, parametric in
`include_anonymous` (`anon`).  For `anon = false` the relevant nodes are the NAMED ones, the search
descends by `named_child_count`, and the hypothesis `anonLeafOK` (a visible or aliased node that is not
named has no children — as in `named_child_spec`; evaluated on every real tree) is needed because the C
code also descends into visible anonymous nodes.
-/
open TsVerif.C02 TsGen

namespace TsVerif.C06

variable {lang : Lang} {anon : Bool} {fuel : Nat} {self : NodeRef}

/-- On the tree side, what `earlier_child` holds after a scan over these raw children: the last one that is relevant (`true`) or
is not but has children that count (`false`). -/
def lastRelA (lang : Lang) (anon : Bool) (pid : Nat) : List Tree → Nat → Option (Tree × Nat × Bool)
  | [], _ => none
  | c :: rest, si =>
    match lastRelA lang anon pid rest (if c.data.extra then si else si + 1) with
    | some r => some r
    | none =>
      if relA lang anon pid si c then some (c, si, true)
      else if relevantChildCount c anon > 0 then some (c, si, false)
      else none

/-- What a scan remembers of one raw child: the child if it is relevant, the child marked "descend"
if it has relevant children, nothing otherwise. -/
def relStepA (lang : Lang) (anon : Bool) (pid si : Nat) (c : Tree) : Option (Tree × Nat × Bool) :=
  if relA lang anon pid si c then some (c, si, true) else if relevantChildCount c anon > 0 then some (c, si, false) else none

theorem lastRelA_cons (pid : Nat) (c : Tree) (rest : List Tree) (si : Nat) :
    lastRelA lang anon pid (c :: rest) si = (lastRelA lang anon pid rest (if c.data.extra then si else si + 1)).or (relStepA lang anon pid si c) := by
  rw [lastRelA]
  cases lastRelA lang anon pid rest _ <;> rfl

theorem lastRelA_mem {pid : Nat} {c : Tree} {si' : Nat} {kids : List Tree} {si : Nat}
    (h : lastRelA lang anon pid kids si = some (c, si', false)) : c ∈ kids ∧ relevantChildCount c anon > 0 := by
  induction kids generalizing si with
  | nil => exact nomatch h
  | cons x rest ih =>
    rw [lastRelA_cons, Option.or_eq_some_iff, relStepA] at h
    rcases h with h | ⟨_, h⟩
    · exact ⟨List.mem_cons_of_mem _ (ih h).1, (ih h).2⟩
    · split at h
      · cases h
      · split at h
        · next hk =>
          cases h
          exact ⟨List.mem_cons_self, hk⟩
        · cases h

theorem enumKids_lastA (lang : Lang) (anon : Bool) : ∀ (kids : List Tree) (pid si : Nat) (ps : Option Nat),
    SummarizedL lang kids → shapeOKL ps kids = true → AOK lang anon kids pid si →
    ((enumKids lang pid kids si).filter (keepA lang anon)).getLast? =
      match lastRelA lang anon pid kids si with
      | none => none
      | some (c, si', true) => some (c, alOf lang pid si' c)
      | some (c, _, false) => (enumChildrenA lang anon c).getLast? := by
  intro kids pid
  induction kids with
  | nil => intro _ _ _ _ _; rfl
  | cons c rest ih =>
    intro si ps hs hsh ha
    rw [SummarizedL] at hs
    rw [shapeOKL, Bool.and_eq_true] at hsh
    obtain ⟨hac, har⟩ := aok_cons lang anon c rest pid si ha
    rw [enumKids_cons_filterA rest hs.1 hsh.1 hac, List.getLast?_append, ih _ ps hs.2 hsh.2 har, lastRelA]
    rcases hr : lastRelA lang anon pid rest (if c.data.extra then si else si + 1) with _ | ⟨c', si', _ | _⟩
    · by_cases hrel : relA lang anon pid si c = true
      · rw [if_pos hrel, if_pos hrel]
        rfl
      · rw [if_neg hrel, if_neg hrel]
        by_cases hk : relevantChildCount c anon > 0
        · rw [if_pos hk, if_pos hk]
          rfl
        · rw [if_neg hk, if_neg hk]
          rfl
    · have hm := lastRelA_mem hr
      exact or_of_ne_none _ _ (fun h => (rcc_pos_iff lang anon c' ps (summarized_of_mem lang rest c' hs.2 hm.1)
        (shapeOK_of_mem rest ps c' hsh.2 hm.1)).mp hm.2 (List.getLast?_eq_none_iff.mp h))
    · rfl

/-- What a scan remembers of one raw child it passes over (`earlier_child` of `ts_node__prev_sibling`; the forward scan stops at
the first child for which this is not `e`): the child itself if it is relevant (`true`), the child marked "descend" if it is not
but has children that count (`false`), else what was remembered before (`e`). -/
def earlierStepA (lang : Lang) (anon : Bool) (rc : RawChild) (e : Option (NodeRef × Bool)) : Option (NodeRef × Bool) :=
  if rc.node.relevant lang anon then some (rc.node, true)
  else if rc.node.relChildCount anon > 0 then some (rc.node, false)
  else e

theorem earlierStepA_or (rc : RawChild) (e : Option (NodeRef × Bool)) :
    earlierStepA lang anon rc e = (earlierStepA lang anon rc none).or e := by
  rw [earlierStepA, earlierStepA, apply_ite (Option.or · e), apply_ite (Option.or · e)]
  rfl

theorem earlierStepA_some {rc : RawChild} {r : NodeRef} {b : Bool}
    (h : earlierStepA lang anon rc none = some (r, b)) : rc.node = r ∧ (b = false → r.relChildCount anon > 0) := by
  rw [earlierStepA] at h
  by_cases hr : rc.node.relevant lang anon = true
  · rw [if_pos hr] at h
    cases h
    exact ⟨rfl, fun hb => nomatch hb⟩
  · rw [if_neg hr] at h
    by_cases hk : rc.node.relChildCount anon > 0
    · rw [if_pos hk] at h
      cases h
      exact ⟨rfl, fun _ => hk⟩
    · rw [if_neg hk] at h
      cases h

theorem earlierStepA_map (rc : RawChild) (pid si : Nat) (hal : rc.node.alias = alOf lang pid si rc.node.t) :
    (earlierStepA lang anon rc none).map (fun r => (r.1.t, r.1.alias, r.2)) =
      (relStepA lang anon pid si rc.node.t).map (fun r => (r.1, alOf lang pid r.2.1 r.1, r.2.2)) := by
  have hrel : rc.node.relevant lang anon = relA lang anon pid si rc.node.t := by rw [NodeRef.relevant, hal, relA]
  rw [earlierStepA, relStepA, hrel, apply_ite (Option.map _), apply_ite (Option.map _), apply_ite (Option.map _), apply_ite (Option.map _)]
  simp only [Option.map_some, Option.map_none, hal]
  rfl

abbrev psScanA (lang : Lang) (fuel : Nat) (self : NodeRef) (anon : Bool) :=
  prevSiblingPort.scan lang fuel self anon (self.t.totalBytes == 0) self.endByte
abbrev psGoA (lang : Lang) (fuel : Nat) (self : NodeRef) (anon : Bool) :=
  prevSiblingPort.go lang fuel self anon (self.t.totalBytes == 0) self.endByte

theorem psScanA_nil (lang : Lang) (fuel : Nat) (self : NodeRef) (anon : Bool) (e : Option (NodeRef × Bool)) :
    psScanA lang fuel self anon [] e = (false, none, e) := rfl

/-- The child scan / outer loop of `ts_node__prev_sibling(self, anon)` with the flag `self_is_empty` left open (`se`): the port
runs them with `se = (self.t.totalBytes == 0)` (`psScanA`, `psGoA`); the statements about a scan with `se = false` on ANY `self`
(`psScan`, SiblingTrue) are about a scan the port would not run on a `self` without bytes. -/
abbrev psScanGA (lang : Lang) (fuel : Nat) (self : NodeRef) (anon se : Bool) := prevSiblingPort.scan lang fuel self anon se self.endByte
abbrev psGoGA (lang : Lang) (fuel : Nat) (self : NodeRef) (anon se : Bool) := prevSiblingPort.go lang fuel self anon se self.endByte

/-- The scan stops at a child with subtree `t` ending at byte `e` as "the child containing the target"
(`posStop` with the flag open). -/
def psStop (fuel : Nat) (self : NodeRef) (se : Bool) (t : Tree) (e : Nat) : Bool :=
  decide (e > self.endByte) || (e == self.endByte && (!se || hasTrailingEmptyDescendant fuel t self.t))

theorem posStop_eq (fuel : Nat) (self : NodeRef) (t : Tree) (e : Nat) :
    posStop fuel self t e = psStop fuel self (self.t.totalBytes == 0) t e := rfl

theorem ite_bor {α : Type} (a b : Bool) (x y : α) :
    (if (a || b) = true then x else y) = if a = true then x else if b = true then x else y := by
  cases a <;> rfl

theorem psScanGA_cons (lang : Lang) (fuel : Nat) (self : NodeRef) (anon se : Bool) (rc : RawChild) (rest : List RawChild)
    (e : Option (NodeRef × Bool)) :
    psScanGA lang fuel self anon se (rc :: rest) e =
      (if rc.node.id == self.id then (false, some rc.node, e)
       else if psStop fuel self se rc.node.t rc.posAfter.bytes then (true, some rc.node, e)
       else psScanGA lang fuel self anon se rest (earlierStepA lang anon rc e)) := by
  show prevSiblingPort.scan lang fuel self anon se self.endByte (rc :: rest) e = _
  rw [prevSiblingPort.scan, psStop, ite_bor, earlierStepA, apply_ite (psScanGA lang fuel self anon se rest),
    apply_ite (psScanGA lang fuel self anon se rest)]
  simp only [decide_eq_true_eq]

theorem psScanA_cons (lang : Lang) (fuel : Nat) (self : NodeRef) (anon : Bool) (rc : RawChild) (rest : List RawChild) (e : Option (NodeRef × Bool)) :
    psScanA lang fuel self anon (rc :: rest) e =
      (if rc.node.id == self.id then (false, some rc.node, e)
       else if posStop fuel self rc.node.t rc.posAfter.bytes then (true, some rc.node, e)
       else psScanA lang fuel self anon rest (earlierStepA lang anon rc e)) := by
  rw [posStop_eq]
  exact psScanGA_cons lang fuel self anon _ rc rest e

/-- The last child that is relevant (`true`) or not relevant with children that count (`false`). -/
def lastEarlierRefA (lang : Lang) (anon : Bool) : List RawChild → Option (NodeRef × Bool)
  | [] => none
  | rc :: rest =>
    match lastEarlierRefA lang anon rest with
    | some r => some r
    | none =>
      if rc.node.relevant lang anon then some (rc.node, true)
      else if rc.node.relChildCount anon > 0 then some (rc.node, false)
      else none

theorem lastEarlierRefA_cons (rc : RawChild) (rest : List RawChild) :
    lastEarlierRefA lang anon (rc :: rest) = (lastEarlierRefA lang anon rest).or (earlierStepA lang anon rc none) := by
  rw [lastEarlierRefA]
  cases lastEarlierRefA lang anon rest <;> rfl

theorem psScanGA_before (se : Bool) (L M : List RawChild) (e : Option (NodeRef × Bool))
    (h : ∀ rc ∈ L, rc.node.id ≠ self.id ∧ psStop fuel self se rc.node.t rc.posAfter.bytes = false) :
    psScanGA lang fuel self anon se (L ++ M) e = psScanGA lang fuel self anon se M ((lastEarlierRefA lang anon L).or e) := by
  induction L generalizing e with
  | nil => rfl
  | cons rc rest ih =>
    have h0 := h rc List.mem_cons_self
    rw [List.cons_append, psScanGA_cons, if_neg (by rw [beq_iff_eq]; exact h0.1), h0.2, if_neg Bool.false_ne_true,
      ih _ (fun r hr => h r (List.mem_cons_of_mem _ hr)), lastEarlierRefA_cons, Option.or_assoc, ← earlierStepA_or]

theorem lastEarlierRefA_mem {L : List RawChild} {r : NodeRef} {b : Bool}
    (h : lastEarlierRefA lang anon L = some (r, b)) : (∃ rc ∈ L, rc.node = r) ∧ (b = false → r.relChildCount anon > 0) := by
  induction L with
  | nil => exact nomatch h
  | cons rc rest ih =>
    rw [lastEarlierRefA_cons, Option.or_eq_some_iff] at h
    rcases h with h | ⟨_, h⟩
    · obtain ⟨⟨x, hx, hxr⟩, hb⟩ := ih h
      exact ⟨⟨x, List.mem_cons_of_mem _ hx, hxr⟩, hb⟩
    · have := earlierStepA_some h
      exact ⟨⟨rc, List.mem_cons_self, this.1⟩, this.2⟩

theorem lastEarlierRefA_go (lang : Lang) (anon : Bool) (n : NodeRef) (nk : Nat) : ∀ (kids : List Tree) (pos : Length) (si k : Nat),
    (lastEarlierRefA lang anon (rawChildren.go lang n n.t.data.productionId nk kids pos si k)).map (fun r => (r.1.t, r.1.alias, r.2)) =
      (lastRelA lang anon n.t.data.productionId kids si).map (fun r => (r.1, alOf lang n.t.data.productionId r.2.1 r.1, r.2.2)) := by
  intro kids
  induction kids with
  | nil => intro _ _ _; rfl
  | cons c rest ih =>
    intro pos si k
    rw [go_getElem_zero, lastEarlierRefA_cons, lastRelA_cons, Option.map_or, Option.map_or, ih]
    exact congrArg (Option.or _) (earlierStepA_map _ _ si rfl)

/-- The body of the outer loop as a function of the scan's result, so that one unfolding of the loop (`psGoGA_succ`) leaves a
`match` the level lemmas can rewrite with what they know of the scan. -/
def psNextGA (lang : Lang) (fuel : Nat) (self : NodeRef) (anon se : Bool) (f : Nat) (earlierNode : Option (NodeRef × Bool)) :
    Bool → Option NodeRef → Option (NodeRef × Bool) → Option NodeRef
  | true, stop, ech => psGoGA lang fuel self anon se f stop (ech.or earlierNode)
  | false, _, some (ec, true) => some ec
  | false, _, some (ec, false) => psGoGA lang fuel self anon se f (some ec) earlierNode
  | false, _, none =>
    match earlierNode with
    | some (en, true) => some en
    | some (en, false) => psGoGA lang fuel self anon se f (some en) none
    | none => none

theorem psGoGA_succ {se : Bool} {f : Nat} {node : NodeRef} {en : Option (NodeRef × Bool)}
    {found : Bool} {stop : Option NodeRef} {ech : Option (NodeRef × Bool)}
    (h : psScanGA lang fuel self anon se (rawChildren lang node) none = (found, stop, ech)) :
    psGoGA lang fuel self anon se (f + 1) (some node) en = psNextGA lang fuel self anon se f en found stop ech := by
  simp only [psGoGA, prevSiblingPort.go]
  simp only [psScanGA] at h
  rw [h]
  cases found
  · rcases ech with _ | ⟨lc, _ | _⟩ <;> rfl
  · cases ech <;> rfl

/-- What a remembered earlier node stands for: itself if relevant, else the last of its children that count. -/
def resolveEarlierA (lang : Lang) (anon : Bool) : Option (NodeRef × Bool) → Option (Tree × Nat)
  | none => none
  | some (en, true) => some (en.t, en.alias)
  | some (en, false) => (enumChildrenA lang anon en.t).getLast?

/-- A remembered earlier node that is not relevant can be descended into (`psA_descend`): summarized and parser-shaped, no raw
node inside has the id of `self`, the scan passes over every raw node inside (`passInL`), it has children that count, and
(named flag) `anonLeafOK` holds below it. -/
def EarlierGoodA (lang : Lang) (fuel : Nat) (self : NodeRef) (anon : Bool) : Option (NodeRef × Bool) → Prop
  | some (en, false) => (∃ ps, shapeOK ps en.t = true) ∧ Summarized lang en.t ∧ noIdIn self.id en.t = true ∧
      passInL fuel self en.t.kids en.start.bytes true = true ∧ relevantChildCount en.t anon > 0 ∧
      AOK lang anon en.t.kids en.t.data.productionId 0
  | _ => True

theorem resolveEarlierA_ne_none {l : NodeRef × Bool}
    (hg : EarlierGoodA lang fuel self anon (some l)) : resolveEarlierA lang anon (some l) ≠ none := by
  rcases l with ⟨ln, _ | _⟩
  · obtain ⟨⟨ps, hsh⟩, hs, _, _, hv, _⟩ := hg
    exact fun h => (rcc_pos_iff lang anon ln.t ps hs hsh).mp hv (List.getLast?_eq_none_iff.mp h)
  · exact fun h => nomatch h

theorem resolveEarlierA_or {e : Option (NodeRef × Bool)} (en : Option (NodeRef × Bool))
    (hg : EarlierGoodA lang fuel self anon e) :
    resolveEarlierA lang anon (e.or en) = (resolveEarlierA lang anon e).or (resolveEarlierA lang anon en) := by
  cases e with
  | none => rfl
  | some l => exact (or_of_ne_none _ _ (resolveEarlierA_ne_none hg)).symm

theorem or_rec {α : Type} {P : Option α → Prop} {e en : Option α} (he : P e) (hen : P en) : P (e.or en) := by
  cases e with
  | none => exact hen
  | some l => exact he

/-- The fuel a remembered candidate will need (either direction): the size of a remembered node that is not relevant — its
descent enters it — and 0 for a relevant one or none. -/
def laterNeed : Option (NodeRef × Bool) → Nat
  | some (ln, false) => ln.t.size
  | _ => 0

theorem laterNeed_lt {l : Option (NodeRef × Bool)} {c : Tree} {kids : List Tree} (hc : c ∈ kids)
    (hx : ∀ lc, l = some (lc, false) → c.size + lc.t.size ≤ Tree.sizeList kids) : c.size + laterNeed l ≤ Tree.sizeList kids := by
  rcases l with _ | ⟨lc, _ | _⟩
  · exact sizeList_mem kids c hc
  · exact hx lc rfl
  · exact sizeList_mem kids c hc

/-- The fuel left below a level: the path's child together with the level's candidate is smaller than
the node, and the remembered node was accounted for. -/
theorem fuel_below {a b c d f : Nat} (h1 : a + b < c) (h2 : c + d ≤ f) :
    ∃ f', f = f' + 1 ∧ (a + b ≤ f' ∧ a + d ≤ f') ∧ b ≤ f' ∧ d ≤ f' := by
  cases f with
  | zero => omega
  | succ f =>
    have h : a + b ≤ f ∧ a + d ≤ f := by omega
    exact ⟨f, rfl, h, Nat.le_trans (Nat.le_add_left _ _) h.1, Nat.le_trans (Nat.le_add_left _ _) h.2⟩

/-- What a remembered node stands for (`resolveEarlierA` with `getLast?`, `resolveLaterA` with `head?`), in
terms of the raw child it came from (the shape of `lastEarlierRefA_go` / `firstLaterRefA_go`). -/
theorem resolve_of_map (pick : List (Tree × Nat) → Option (Tree × Nat)) {pid : Nat} {x : Option (NodeRef × Bool)} {y : Option (Tree × Nat × Bool)} :
    x.map (fun r => (r.1.t, r.1.alias, r.2)) = y.map (fun r => (r.1, alOf lang pid r.2.1 r.1, r.2.2)) →
    (match x with
      | none => none
      | some (n, true) => some (n.t, n.alias)
      | some (n, false) => pick (enumChildrenA lang anon n.t)) =
      match y with
      | none => none
      | some (c, si', true) => some (c, alOf lang pid si' c)
      | some (c, _, false) => pick (enumChildrenA lang anon c) := by
  intro h
  rcases x with _ | ⟨⟨t, al, id, st⟩, b⟩ <;> rcases y with _ | ⟨c, si', b'⟩
  · rfl
  · exact nomatch h
  · exact nomatch h
  · cases h
    cases b <;> rfl

theorem enumChildrenA_eq (t : Tree) :
    enumChildrenA lang anon t = (enumKids lang t.data.productionId t.kids 0).filter (keepA lang anon) := by
  rw [enumChildrenA, enumChildren_eq]

theorem psGA_part (n : NodeRef) (kids : List Tree) (pos : Length) (si k : Nat) (ps : Option Nat)
    (hs : SummarizedL lang kids) (hsh : shapeOKL ps kids = true) (ha : AOK lang anon kids n.t.data.productionId si)
    (L : List RawChild) (hL : L = rawChildren.go lang n n.t.data.productionId n.t.kids.length kids pos si k) :
    resolveEarlierA lang anon (lastEarlierRefA lang anon L) = ((enumKids lang n.t.data.productionId kids si).filter (keepA lang anon)).getLast? ∧
    (∀ ec b, lastEarlierRefA lang anon L = some (ec, b) → ∃ rc ∈ L, rc.node = ec ∧ ec.t ∈ kids ∧
      (b = false → (∃ ps, shapeOK ps ec.t = true) ∧ Summarized lang ec.t ∧ relevantChildCount ec.t anon > 0 ∧
        AOK lang anon ec.t.kids ec.t.data.productionId 0)) := by
  refine ⟨?_, fun ec b hfl => ?_⟩
  · rw [enumKids_lastA lang anon kids _ si ps hs hsh ha]
    exact resolve_of_map List.getLast? (hL ▸ lastEarlierRefA_go lang anon n _ kids pos si k)
  · obtain ⟨⟨x, hx, rfl⟩, hpos⟩ := lastEarlierRefA_mem hfl
    have hm : x.node.t ∈ kids := go_mem_kid lang n _ _ _ _ _ _ x (hL ▸ hx)
    exact ⟨x, hx, rfl, hm, fun hb => ⟨⟨_, shapeOK_of_mem _ _ _ hsh hm⟩, summarized_of_mem lang _ _ hs hm, hpos hb, aok_of_mem ha hm⟩⟩

theorem psA_part (lang : Lang) (fuel : Nat) (self n : NodeRef) (anon : Bool) (kids : List Tree) (ps : Option Nat)
    (hsub : ∀ c ∈ kids, c ∈ n.t.kids) (hs : SummarizedL lang kids) (hsh : shapeOKL ps kids = true)
    (hid : noIdInL self.id n.t.data.addr n.t.kids.length kids 0 = true)
    (hpass : passInL fuel self kids n.start.bytes true = true) (ha : AOK lang anon kids n.t.data.productionId 0)
    (L : List RawChild) (hL : L = rawChildren.go lang n n.t.data.productionId n.t.kids.length kids n.start 0 0) :
    (∀ r ∈ L, (r.node.id ≠ self.id ∧ posPass fuel self r.node.t r.posAfter.bytes = true)) ∧
    resolveEarlierA lang anon (lastEarlierRefA lang anon L) = ((enumKids lang n.t.data.productionId kids 0).filter (keepA lang anon)).getLast? ∧
    EarlierGoodA lang fuel self anon (lastEarlierRefA lang anon L) ∧
    (∀ ec b, lastEarlierRefA lang anon L = some (ec, b) → ec.t ∈ kids) := by
  have hel : ∀ r ∈ L, (r.node.id ≠ self.id ∧ posPass fuel self r.node.t r.posAfter.bytes = true) ∧
      noIdIn self.id r.node.t = true ∧ passInL fuel self r.node.t.kids r.node.start.bytes true = true := by
    intro r hr
    obtain ⟨j, hj⟩ := List.mem_iff_getElem?.mp (hL ▸ hr)
    have hi := go_ids lang n _ _ self.id _ _ _ 0 hid j r hj
    have hp := go_pass lang n _ _ fuel self _ _ _ 0 hpass j r hj
    exact ⟨⟨hi.1, hp.1⟩, hi.2, hp.2⟩
  obtain ⟨hres, hmem⟩ := psGA_part n kids n.start 0 0 ps hs hsh ha L hL
  refine ⟨fun r hr => (hel r hr).1, hres, ?_, fun ec b h => (hmem ec b h).choose_spec.2.2.1⟩
  rcases hfl : lastEarlierRefA lang anon L with _ | ⟨r, _ | _⟩
  · trivial
  · obtain ⟨x, hx, rfl, _, hg⟩ := hmem r false hfl
    obtain ⟨h1, h2, h3, h4⟩ := hg rfl
    exact ⟨h1, h2, (hel x hx).2.1, (hel x hx).2.2, h3, h4⟩
  · trivial

/-- The candidate of one level of the outer loop: the scan over the children of `n` before the
path's child `rc` passes them all and remembers `e`, which stands for the last counted node among
their enumeration and can be descended into within the fuel left below `n`. -/
theorem psA_at {n : NodeRef} {k : Nat} {rc : RawChild} {ps : Option Nat}
    (hk : (rawChildren lang n)[k]? = some rc) (hs : Summarized lang n.t) (hsh : shapeOK ps n.t = true)
    (hid : noIdInL self.id n.t.data.addr n.t.kids.length (n.t.kids.take k) 0 = true)
    (hpass : passInL fuel self (n.t.kids.take k) n.start.bytes true = true) (ha : AOK lang anon n.t.kids n.t.data.productionId 0) :
    ∃ e, psScanA lang fuel self anon (rawChildren lang n) none = psScanA lang fuel self anon ((rawChildren lang n).drop k) e ∧
      resolveEarlierA lang anon e = ((enumKids lang n.t.data.productionId (n.t.kids.take k) 0).filter (keepA lang anon)).getLast? ∧
      EarlierGoodA lang fuel self anon e ∧ rc.node.t.size + laterNeed e < n.t.size := by
  obtain ⟨hall, hres, heg, hemem⟩ := psA_part lang fuel self n anon (n.t.kids.take k) (some n.t.data.symbol) (fun c hc => List.mem_of_mem_take hc)
    (summarizedL_take lang _ k (summarizedL_kids lang n.t hs)) (shapeOKL_take _ _ k (shapeOKL_kids ps n.t hsh)) hid hpass
    (aok_take k ha) ((rawChildren lang n).take k) (go_take lang n _ _ _ _ _ _ k)
  refine ⟨_, ?_, hres, heg, ?_⟩
  · have := psScanGA_before (lang := lang) (anon := anon) _ _ ((rawChildren lang n).drop k) none
      (fun r hr => ⟨(hall r hr).1, posStop_eq fuel self _ _ ▸ posStop_of_pass fuel self _ _ (hall r hr).2⟩)
    rwa [List.take_append_drop, Option.or_none] at this
  · have hkid := (go_elem lang _ _ _ _ _ _ _ k rc hk).2.2
    rw [tree_size_kids n.t, Nat.add_comm 1, Nat.lt_succ_iff]
    exact laterNeed_lt (List.mem_of_getElem? hkid) (fun lc hl => sizeList_two_take n.t.kids k rc.node.t lc.t hkid (hemem lc false hl))

/-- Descending into a remembered earlier node that is not relevant, below which the scan passes over everything (`Q`: any
property that says so and that the raw children inherit — `go_passed` for the port's flag, `raw_before` of SiblingTrue for
`se = false`): the search returns the LAST element of its filtered enumeration. -/
theorem psGA_descend (se : Bool) (en : Option (NodeRef × Bool)) (Q : NodeRef → Prop)
    (hQ : ∀ n, Summarized lang n.t → Q n → ∀ rc ∈ rawChildren lang n,
      (rc.node.id ≠ self.id ∧ psStop fuel self se rc.node.t rc.posAfter.bytes = false) ∧ Q rc.node) :
    ∀ (f : Nat) (ec : NodeRef) (ps : Option Nat), ec.t.size ≤ f → Summarized lang ec.t → shapeOK ps ec.t = true → Q ec →
    relevantChildCount ec.t anon > 0 → AOK lang anon ec.t.kids ec.t.data.productionId 0 →
    (psGoGA lang fuel self anon se f (some ec) en).map (fun r => (r.t, r.alias)) = (enumChildrenA lang anon ec.t).getLast? := by
  intro f
  induction f with
  | zero => intro ec _ hf; exact absurd (tree_size_pos ec.t) (by omega)
  | succ f ih =>
    intro ec ps hf hs hsh hq hv ha
    have hall := hQ ec hs hq
    obtain ⟨hres, hmem⟩ := psGA_part ec ec.t.kids ec.start 0 0 (some ec.t.data.symbol) (summarizedL_kids lang ec.t hs)
      (shapeOKL_kids ps ec.t hsh) ha (rawChildren lang ec) rfl
    have hsc := psScanGA_before (lang := lang) (anon := anon) se (rawChildren lang ec) [] none (fun rc hrc => (hall rc hrc).1)
    rw [List.append_nil, Option.or_none] at hsc
    rw [psGoGA_succ hsc, enumChildrenA_eq, ← hres]
    rcases hfl : lastEarlierRefA lang anon (rawChildren lang ec) with _ | ⟨r, _ | _⟩
    · rw [hfl] at hres
      exact absurd (List.getLast?_eq_none_iff.mp hres.symm) (enumChildrenA_eq ec.t ▸ (rcc_pos_iff lang anon ec.t ps hs hsh).mp hv)
    · obtain ⟨rc, hrc, rfl, hm, hgood⟩ := hmem r false hfl
      obtain ⟨⟨ps', hsh'⟩, hs', hv', ha'⟩ := hgood rfl
      have hk := tree_size_kids ec.t
      have := sizeList_mem _ _ hm
      exact ih rc.node ps' (by omega) hs' hsh' (hall rc hrc).2 hv' ha'
    · rfl

theorem go_passed (lang : Lang) (n : NodeRef) (nk fuel : Nat) (self : NodeRef) (kids : List Tree) (pos : Length) (si k : Nat)
    (hid : noIdInL self.id n.t.data.addr nk kids k = true) (hp : passInL fuel self kids pos.bytes (decide (k = 0)) = true) :
    ∀ rc ∈ rawChildren.go lang n n.t.data.productionId nk kids pos si k,
      (rc.node.id ≠ self.id ∧ psStop fuel self (self.t.totalBytes == 0) rc.node.t rc.posAfter.bytes = false) ∧
      noIdIn self.id rc.node.t = true ∧ passInL fuel self rc.node.t.kids rc.node.start.bytes true = true := by
  intro rc hrc
  obtain ⟨j, hj⟩ := List.mem_iff_getElem?.mp hrc
  have hi := go_ids lang n _ _ self.id _ _ _ k hid j rc hj
  have hp := go_pass lang n _ _ fuel self _ _ _ k hp j rc hj
  exact ⟨⟨hi.1, posStop_eq fuel self _ _ ▸ posStop_of_pass fuel self _ _ hp.1⟩, hi.2, hp.2⟩

theorem psA_descend (lang : Lang) (fuel : Nat) (self : NodeRef) (anon : Bool) (en : Option (NodeRef × Bool)) :
    ∀ (f : Nat) (ec : NodeRef) (ps : Option Nat), ec.t.size ≤ f → Summarized lang ec.t → shapeOK ps ec.t = true →
    noIdIn self.id ec.t = true → passInL fuel self ec.t.kids ec.start.bytes true = true → relevantChildCount ec.t anon > 0 →
    AOK lang anon ec.t.kids ec.t.data.productionId 0 →
    (psGoA lang fuel self anon f (some ec) en).map (fun r => (r.t, r.alias)) = (enumChildrenA lang anon ec.t).getLast? :=
  fun f ec ps hf hs hsh hid hpass hv ha =>
    psGA_descend _ en (fun n => noIdIn self.id n.t = true ∧ passInL fuel self n.t.kids n.start.bytes true = true)
      (fun n _ h => go_passed lang n _ fuel self _ _ 0 0 (noIdInL_of_noIdIn self.id n.t h.1) h.2) f ec ps hf hs hsh ⟨hid, hpass⟩ hv ha

theorem psNextA_false {f : Nat} {stop : Option NodeRef}
    {e en : Option (NodeRef × Bool)} (he : EarlierGoodA lang fuel self anon e) (hen : EarlierGoodA lang fuel self anon en)
    (hfe : laterNeed e ≤ f) (hfn : laterNeed en ≤ f) :
    (psNextGA lang fuel self anon (self.t.totalBytes == 0) f en false stop e).map (fun r => (r.t, r.alias)) =
      (resolveEarlierA lang anon e).or (resolveEarlierA lang anon en) := by
  have hdesc : ∀ (rem : Option (NodeRef × Bool)) {c : NodeRef}, EarlierGoodA lang fuel self anon (some (c, false)) → c.t.size ≤ f →
      (psGoA lang fuel self anon f (some c) rem).map (fun r => (r.t, r.alias)) = (enumChildrenA lang anon c.t).getLast? := by
    intro rem c hg hf
    obtain ⟨⟨ps, hsh⟩, hs, hid, hpass, hv, ha⟩ := hg
    exact psA_descend lang fuel self anon rem f c ps hf hs hsh hid hpass hv ha
  rcases e with _ | ⟨lc, _ | _⟩
  · rcases en with _ | ⟨ln, _ | _⟩
    · rfl
    · exact hdesc none hen hfn
    · rfl
  · rw [or_of_ne_none _ _ (resolveEarlierA_ne_none he)]
    exact hdesc en he hfe
  · rfl

theorem child_ok {n : NodeRef} {k : Nat} {rc : RawChild} {ps : Option Nat} (hk : (rawChildren lang n)[k]? = some rc)
    (hs : Summarized lang n.t) (hsh : shapeOK ps n.t = true) (ha : AOK lang anon n.t.kids n.t.data.productionId 0) :
    Summarized lang rc.node.t ∧ shapeOK (some n.t.data.symbol) rc.node.t = true ∧
      AOK lang anon rc.node.t.kids rc.node.t.data.productionId 0 := by
  have hm : rc.node.t ∈ n.t.kids := List.mem_of_getElem? (go_elem lang _ _ _ _ _ _ _ k rc hk).2.2
  exact ⟨summarized_of_mem lang _ _ (summarizedL_kids lang n.t hs) hm, shapeOK_of_mem _ _ _ (shapeOKL_kids ps n.t hsh) hm, aok_of_mem ha hm⟩

/-- The outer loop of `ts_node__prev_sibling(self, anon)` along the path `n ⟶ self`.  Invariant: the answer is the last counted node
of this level's part of `earlierOnPath` and below, else what the remembered node `en` stands for (`resolveEarlierA`); `en` stays
usable (`EarlierGoodA`), and the fuel covers the node plus a remembered hidden candidate (`n.t.size + laterNeed en ≤ f`,
carried down by `fuel_below`: the path's child and the level's candidate are two different children, `sizeList_two_take`). -/
theorem psA_levels (lang : Lang) (fuel : Nat) (self : NodeRef) (anon : Bool) :
    ∀ (q : List Nat) (f : Nat) (n : NodeRef) (en : Option (NodeRef × Bool)) (ps : Option Nat), q ≠ [] →
    n.t.size + laterNeed en ≤ f → Summarized lang n.t → shapeOK ps n.t = true → nodeAt lang n q = some self →
    psPathOK lang self n q = true → psZwOK lang fuel self n q = true → AOK lang anon n.t.kids n.t.data.productionId 0 →
    EarlierGoodA lang fuel self anon en →
    (psGoA lang fuel self anon f (some n) en).map (fun r => (r.t, r.alias)) =
      (((earlierOnPath lang n q).filter (keepA lang anon)).getLast?).or (resolveEarlierA lang anon en) := by
  intro q
  induction q with
  | nil => intro _ _ _ _ h; exact absurd rfl h
  | cons k rest ih =>
    intro f n en ps _ hf hs hsh hat hok hzw ha hg
    obtain ⟨rc, hk, hat'⟩ := nodeAt_cons lang n self k rest hat
    unfold psPathOK at hok
    unfold psZwOK at hzw
    rw [hk, Bool.and_eq_true] at hok hzw
    obtain ⟨e, hscan, hres, heg, hsz⟩ := psA_at hk hs hsh hok.1 hzw.1 ha
    unfold earlierOnPath
    rw [hk, List.filter_append, List.getLast?_append, Option.or_assoc, ← hres]
    obtain ⟨f, rfl, hfu, hfe, hfn⟩ := fuel_below hsz hf
    show (psGoGA lang fuel self anon _ (f + 1) (some n) en).map _ = _
    cases rest with
    | nil =>
      -- the path's child is `self`: the scan stops there without a containing child
      rw [psGoGA_succ (hscan.trans (by rw [drop_eq_cons _ k rc hk, psScanA_cons, if_pos (by rw [Option.some.inj hat', beq_self_eq_true])]))]
      exact psNextA_false heg hg hfe hfn
    | cons k' rest' =>
      -- a proper ancestor: the scan stops at it as the child containing the target
      have hok2 := Bool.and_eq_true_iff.mp hok.2
      have hzw2 := Bool.and_eq_true_iff.mp hzw.2
      obtain ⟨hsc, hshc, hac⟩ := child_ok hk hs hsh ha
      rw [psGoGA_succ (hscan.trans (by rw [drop_eq_cons _ k rc hk, psScanA_cons, if_neg (fun h => bne_iff_ne.mp hok2.1 (beq_iff_eq.mp h)), if_pos hzw2.1]))]
      show (psGoA lang fuel self anon f (some rc.node) (e.or en)).map _ = _
      rw [ih f rc.node (e.or en) _ (List.cons_ne_nil _ _) (or_rec (P := fun x => _ + laterNeed x ≤ _) hfu.1 hfu.2) hsc hshc hat' hok2.2 hzw2.2 hac
        (or_rec heg hg), resolveEarlierA_or en heg]

/-- `ts_node_prev_sibling` (`anon = true`) and `ts_node_prev_named_sibling`
(`anon = false`), for ANY `self`: with `P` = what `ts_node_parent(self)` returns and `q` a raw path
`P ⟶ self`, under `psPathOK`, `psZwOK` and — for the named flag — `anonLeafOK` below `P`, the port
returns the LAST element of `earlierOnPath P q` that counts for the flag (all of them, or the named
ones), null iff there is none.  One `fuel` bounds three things: the loop of `ts_node_parent`, this loop (`hf`: the port starts it
with `fuel + 1`), and the recursion of `ts_subtree_has_trailing_empty_descendant` inside the scan — `psZwOK` speaks of that
bounded test; with `fuel` at least the depth of the tree it is the C function. -/
theorem prev_sibling_spec_anon (lang : Lang) (fuel : Nat) (root self P : NodeRef) (q : List Nat) (ps : Option Nat) (anon : Bool)
    (hpar : nodeParent lang fuel root self = some P) (hq : q ≠ []) (hf : P.t.size ≤ fuel + 1)
    (hs : Summarized lang P.t) (hsh : shapeOK ps P.t = true) (hat : nodeAt lang P q = some self)
    (hok : psPathOK lang self P q = true) (hzw : psZwOK lang fuel self P q = true)
    (ha : anon = true ∨ anonLeafOKKids lang P.t.kids P.t.data.productionId 0 = true) :
    (prevSiblingPort lang fuel root self anon).map (fun r => (r.t, r.alias)) =
      ((earlierOnPath lang P q).filter (keepA lang anon)).getLast? := by
  unfold prevSiblingPort
  simp only [hpar]
  have := psA_levels lang fuel self anon q (fuel + 1) P none ps hq (by simp only [laterNeed]; omega) hs hsh hat hok hzw ha trivial
  simpa [resolveEarlierA] using this

/-- For a NON-EMPTY `self` the position hypothesis `psZwOK` of `prev_sibling_spec_anon`
is a consequence of the layout (`Sized`): everything before `self` ends before `self` ends, and every
ancestor ends at or after it while `self` has bytes. -/
theorem psZwOK_of_nonempty (lang : Lang) (fuel : Nat) (self : NodeRef) (hne : self.startByte < self.endByte) :
    ∀ (q : List Nat) (n : NodeRef), Sized n.t → nodeAt lang n q = some self → psZwOK lang fuel self n q = true
  | [], _, _, _ => rfl
  | k :: rest, n, hs, hat => by
    obtain ⟨rc, hk, hat'⟩ := nodeAt_cons lang n self k rest hat
    have hn := raw_child_nested lang n hs k rc hk
    have hd := nodeAt_nested lang rest rc.node self hn.2.2.2 hat'
    simp only [psZwOK, hk, Bool.and_eq_true]
    have hle := layEnd_take_le lang n _ _ _ _ _ _ k rc hk
    refine ⟨?_, ?_⟩
    · have := passInL_of_lt fuel self (n.t.kids.take k) n.start.bytes 0
        (sizedL_take _ k (sized_kids hs))
        (by simp only [NodeRef.startByte] at hd hne; omega)
      simpa using this
    · cases rest with
      | nil => simp
      | cons k' rest' =>
        simp only [List.isEmpty_cons, Bool.false_or, Bool.and_eq_true]
        refine ⟨?_, psZwOK_of_nonempty lang fuel self hne (k' :: rest') rc.node hn.2.2.2 hat'⟩
        simp only [posStop, Bool.or_eq_true, decide_eq_true_eq, Bool.and_eq_true, beq_iff_eq, Bool.not_eq_true', beq_eq_false_iff_ne, ne_eq]
        by_cases hgt : rc.posAfter.bytes > self.endByte
        · exact Or.inl hgt
        · refine Or.inr ⟨by omega, Or.inl ?_⟩
          simp only [Tree.totalBytes, NodeRef.startByte, NodeRef.endByte] at hne ⊢
          omega

end TsVerif.C06
