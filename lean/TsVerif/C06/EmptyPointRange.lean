import TsVerif.C06.EmptyRange
/-!
# C06 — the EMPTY POINT-range case of `ts_node_(named_)descendant_for_point_range` at port level

What `EmptyRange.lean` does for bytes, as far as it is proved for points:

* `posAfter_is_end` — the iterator position after a raw child IS that child's end (start + size as `Length`s, so in
  bytes and in row/column), hence the tests below are tests on the child's own start / end point;
* `descendant_for_empty_point_range_port` — for EVERY tree, point and flag, without hypothesis, the port of
  `ts_node_(named_)descendant_for_point_range(self, x, x)` is the plain raw search `dfrIdealEP`.  This is how the C code
  behaves for an empty range at a node boundary: of two adjacent raw children meeting at `x` the LATER
  one is entered (the earlier one ends at `x`, not after it, and is passed over), and a zero-width raw child sitting at
  `x` — hidden or not — is taken before the later one (finding 6: a hidden empty leaf shadows a visible sibling).

OPEN (full statement, not proved): under the point analogue `emptyOKP` of `emptyOK` (H2/H4 of `NodeNav.lean` with the
row/column order) the port = `TSNode` of `FT.descendantForPoints 0 x x nm`:
  `∀ lang nm root rootId ps fuel x, Summarized lang root → shapeOK ps root → let ft := flatOf (flatten lang root rootId);
     root.size ≤ fuel → emptyOKP lang x root (refOf (ft.node 0).info).start = true →
     descendantForPointRangePort lang fuel (refOf (ft.node 0).info) x x (!nm) =
       (ft.descendantForPoints 0 x x nm).map (fun j => refOf (ft.node j).info)`
(the form of the proved `*_ft_spec`).
The link `dfrIdealEP` = search over the VISIBLE children needs the point versions of `dfrHE`/`vgoE_eq_dfr`; the run-time
judge keeps comparing these answers with `flatten`.
-/
namespace TsVerif.C06
open TsGen TsVerif TsVerif.C02

/-- A raw child the scan of an EMPTY range at point `x` does not pass over: it ends after `x` in row/column order, or it
is a zero-width child sitting at `x` (`isEmpty ? end < x : end ≤ x` is the C test for passing over).  Stated on the iterator's
position `rc.posAfter`, as the C scan reads it (so `dfrPScanE_eq` needs no hypothesis); `selE` (bytes) is stated on the
`TSNode`. -/
def selEP (x : TSPoint) (rc : RawChild) : Bool :=
  point_gt rc.posAfter.extent x || (point_eq rc.node.start.extent rc.posAfter.extent && point_eq rc.posAfter.extent x)

/-- The plain raw search for the empty point range `[x, x]`: first raw child the scan does not pass over; stop if it
starts after `x`, else go on inside it; answer the last node on the chain that counts for the flag. -/
def dfrIdealEP (lang : Lang) (anon : Bool) (x : TSPoint) : Nat → NodeRef → NodeRef → NodeRef
  | 0, _, last => last
  | f + 1, node, last =>
    match (rawChildren lang node).find? (selEP x) with
    | none => last
    | some rc => if point_lt x rc.node.start.extent then last
                 else dfrIdealEP lang anon x f rc.node (if rc.node.relevant lang anon then rc.node else last)

theorem posAfter_is_end (lang : Lang) (node : NodeRef) (rc : RawChild) (h : rc ∈ rawChildren lang node) :
    rc.posAfter.extent = point_add rc.node.start.extent rc.node.t.data.size.extent := by
  have := go_posAfter_is_end lang node node.t.data.productionId node.t.kids.length node.t.kids node.start 0 0 rc h
  rw [this]; rfl

theorem pgt_or_eq (a x : TSPoint) : (point_gt a x || point_eq a x) = !point_lt a x := by
  rw [Bool.eq_iff_iff]
  simp only [point_gt, point_eq, point_lt, Bool.or_eq_true, decide_eq_true_eq, Bool.not_eq_true', decide_eq_false_iff_not]
  omega

theorem pgt_not_lte (a x : TSPoint) : point_gt a x = !point_lte a x := by
  rw [point_gt_eq, point_lte_eq_not_lt, Bool.not_not]

/-- For `rs = re = x` a raw child is NOT passed over by the two `continue` tests of the C scan iff `selEP` holds of it. -/
theorem selEP_eq (x : TSPoint) (rc : RawChild) :
    selEP x rc = !(point_lt rc.posAfter.extent x ||
      (if point_eq rc.node.start.extent rc.posAfter.extent then point_lt rc.posAfter.extent x else point_lte rc.posAfter.extent x)) := by
  unfold selEP
  cases point_eq rc.node.start.extent rc.posAfter.extent with
  | true => simp only [Bool.true_and, pgt_or_eq, if_true, Bool.or_self]
  | false =>
    simp only [Bool.false_and, Bool.or_false, pgt_not_lte, Bool.false_eq_true, if_false]
    cases h : point_lt rc.posAfter.extent x with
    | false => rfl
    | true =>
      have : point_lte rc.posAfter.extent x = true := by
        simp only [point_lt, point_lte, decide_eq_true_eq] at *; omega
      rw [this]; rfl

/-- The C scan (three tests) for `rs = re = x` in row/column order: the first raw child that is not passed over ends the
scan.  No hypothesis on the list. -/
theorem dfrPScanE_eq (x : TSPoint) : ∀ (L : List RawChild),
    dfrPScan x x L = (match L.find? (selEP x) with
                      | none => none
                      | some rc => if point_lt x rc.node.start.extent then none else some rc.node)
  | [] => by simp [dfrPScan, descendantForPointRangePort.scan]
  | rc :: rest => by
    rw [dfrPScan_cons, List.find?_cons, selEP_eq, dfrPScanE_eq x rest]
    generalize (if point_eq rc.node.start.extent rc.posAfter.extent = true then point_lt rc.posAfter.extent x
      else point_lte rc.posAfter.extent x) = b
    cases point_lt rc.posAfter.extent x with
    | true => rfl
    | false =>
      cases b with
      | true => rfl
      | false => rfl

theorem dfrGoEP_eq (lang : Lang) (anon : Bool) (x : TSPoint) : ∀ (f : Nat) (node last : NodeRef),
    descendantForPointRangePort.go lang x x anon f node last = dfrIdealEP lang anon x f node last
  | 0, _, _ => rfl
  | f + 1, node, last => by
    simp only [descendantForPointRangePort.go, dfrIdealEP]
    have := dfrPScanE_eq x (rawChildren lang node)
    simp only [dfrPScan] at this
    rw [this]
    cases (rawChildren lang node).find? (selEP x) with
    | none => rfl
    | some rc =>
      simp only
      by_cases hlt : point_lt x rc.node.start.extent = true
      · simp [hlt]
      · simp only [hlt, if_false, Bool.false_eq_true]; exact dfrGoEP_eq lang anon x f rc.node _

/-- For every tree, every point `x` and either flag — no hypothesis — the
port of `ts_node_(named_)descendant_for_point_range(self, x, x)` is the plain raw search `dfrIdealEP`. -/
theorem descendant_for_empty_point_range_port (lang : Lang) (fuel : Nat) (self : NodeRef) (x : TSPoint) (anon : Bool) :
    descendantForPointRangePort lang fuel self x x anon = some (dfrIdealEP lang anon x fuel self self) := by
  unfold descendantForPointRangePort
  have : point_gt x x = false := by rw [point_gt_eq, point_lt_irrefl]
  simp only [this, Bool.false_eq_true, if_false]
  rw [dfrGoEP_eq lang anon x]

def stepEP (x : TSPoint) (L : List RawChild) : Option NodeRef :=
  match L.find? (selEP x) with
  | none => none
  | some rc => if point_lt x rc.node.start.extent then none else some rc.node

/-- The behaviour at a node boundary, one level: if every raw child before
`b` ends at or before `x` without being a zero-width child at `x` (in particular: the NON-EMPTY left neighbour `a` that
ends exactly at `x`), and `b` starts at or before `x` and ends after `x`, the scan for the empty range `[x, x]` enters `b` —
the LATER of the two children meeting at `x`.  And if instead a zero-width child `z` sits at `x` after such a prefix, the
scan takes `z`, whatever follows (hidden `z`: finding 6).
`_partial`: one level of the search; the full statement (port = `FT.descendantForPoints 0 x x nm` under `emptyOKP`) is
OPEN, see the file header. -/
theorem dfrIdealEP_boundary_partial (x : TSPoint) (pre post : List RawChild) (b : RawChild)
    (hpre : ∀ a ∈ pre, point_lte a.posAfter.extent x = true ∧
              (point_eq a.node.start.extent a.posAfter.extent = true → point_lt a.posAfter.extent x = true))
    (hb : (point_lte b.node.start.extent x = true ∧ point_gt b.posAfter.extent x = true) ∨
          (point_eq b.node.start.extent b.posAfter.extent = true ∧ point_eq b.posAfter.extent x = true)) :
    dfrPScan x x (pre ++ b :: post) = some b.node ∧ stepEP x (pre ++ b :: post) = some b.node := by
  have hstep : stepEP x (pre ++ b :: post) = some b.node := by
    unfold stepEP
    have hnone : pre.find? (selEP x) = none := by
      apply List.find?_eq_none.mpr
      intro a ha
      have := hpre a ha
      simp only [point_lte, point_lt, point_eq, decide_eq_true_eq] at this
      simp only [selEP, point_gt, point_eq, Bool.or_eq_true, Bool.and_eq_true, decide_eq_true_eq, not_or, not_and]
      omega
    have hsel : selEP x b = true := by
      simp only [selEP, Bool.or_eq_true, Bool.and_eq_true]
      rcases hb with hb | hb
      · exact Or.inl hb.2
      · exact Or.inr hb
    have hnlt : point_lt x b.node.start.extent = false := by
      simp only [point_lte, point_gt, point_eq, decide_eq_true_eq] at hb
      simp only [point_lt, decide_eq_false_iff_not]
      omega
    rw [List.find?_append, hnone]
    simp [hsel, hnlt]
  refine ⟨?_, hstep⟩
  rw [dfrPScanE_eq]
  exact hstep

/-- The point `xp` and the byte `xb` are the same position as far as the raw nodes below `node` can tell: every raw node
(to depth `f`) answers the two questions the empty-range scan asks — "not passed over?" and "starts after the position?" —
alike in bytes and in row/column order.  Holds when `xp` is the point of byte `xb` in a text whose node boundaries have
consistent byte / point positions.  Decidable; NOT evaluated at run time (the judge compares the point answers with
`flatten` directly). -/
def agreeEP (lang : Lang) (xb : Nat) (xp : TSPoint) : Nat → NodeRef → Bool
  | 0, _ => true
  | f + 1, node => (rawChildren lang node).all (fun rc =>
      (selEP xp rc == selE xb rc.node) && (point_lt xp rc.node.start.extent == decide (xb < rc.node.startByte)) &&
      agreeEP lang xb xp f rc.node)

theorem dfrIdealEP_eq_bytes (lang : Lang) (anon : Bool) (xb : Nat) (xp : TSPoint) : ∀ (f : Nat) (node last : NodeRef),
    agreeEP lang xb xp f node = true → dfrIdealEP lang anon xp f node last = dfrIdealE lang anon xb f node last
  | 0, _, _, _ => rfl
  | f + 1, node, last, h => by
    simp only [agreeEP, List.all_eq_true, Bool.and_eq_true, beq_iff_eq] at h
    simp only [dfrIdealEP, dfrIdealE]
    have hfind : (rawChildren lang node).find? (selEP xp) = (rawChildren lang node).find? (fun rc => selE xb rc.node) :=
      find_congr_mem _ _ _ (fun rc hrc => (h rc hrc).1.1)
    rw [hfind]
    cases hf : (rawChildren lang node).find? (fun rc => selE xb rc.node) with
    | none => rfl
    | some rc =>
      have hrc := h rc (List.mem_of_find?_eq_some hf)
      simp only
      rw [hrc.1.2]
      by_cases hlt : xb < rc.node.startByte
      · simp [hlt]
      · simp only [hlt, decide_false, Bool.false_eq_true, if_false]
        exact dfrIdealEP_eq_bytes lang anon xb xp f rc.node _ hrc.2

/-- Where point `xp` and byte `xb` name the same position for the raw tree
(`agreeEP`), `ts_node_(named_)descendant_for_point_range(self, xp, xp)` and `ts_node_(named_)descendant_for_byte_range(self, xb, xb)`
return the same node (ports; every tree, either flag). -/
theorem empty_point_range_eq_byte_range (lang : Lang) (fuel : Nat) (self : NodeRef) (xb : Nat) (xp : TSPoint) (anon : Bool)
    (hag : agreeEP lang xb xp fuel self = true) :
    descendantForPointRangePort lang fuel self xp xp anon = descendantForByteRangePort lang fuel self xb xb anon := by
  rw [descendant_for_empty_point_range_port, descendant_for_empty_byte_range_port,
      dfrIdealEP_eq_bytes lang anon xb xp fuel self self hag]

/-- The empty POINT range on the ordered tree, via the byte search:
root summarized and parser-shaped, `xp` / `xb` the same position (`agreeEP`), the exact hypothesis `emptyOK lang xb root` of
the byte theorem: the port of `ts_node_(named_)descendant_for_point_range(root, xp, xp)` returns the `TSNode` of the entry
`FT.descendantForBytes 0 xb xb nm` designates.
`_partial`: the right-hand side is the BYTE search of `FT` at the corresponding byte, not `FT.descendantForPoints 0 xp xp nm`,
and `agreeEP` is an extra hypothesis; the full statement is OPEN (file header). -/
theorem descendant_for_empty_point_range_ft_spec_partial (lang : Lang) (nm : Bool) (root : Tree) (rootId : Nat) (ps : Option Nat)
    (fuel xb : Nat) (xp : TSPoint) (hs : Summarized lang root) (hsh : shapeOK ps root = true) :
    let ft : FT := flatOf (flatten lang root rootId)
    root.size ≤ fuel → emptyOK lang xb root (refOf (ft.node 0).info).start = true →
    agreeEP lang xb xp fuel (refOf (ft.node 0).info) = true →
    descendantForPointRangePort lang fuel (refOf (ft.node 0).info) xp xp (!nm) =
      (ft.descendantForBytes 0 xb xb nm).map (fun j => refOf (ft.node j).info) := by
  intro ft hfuel hok hag
  rw [empty_point_range_eq_byte_range lang fuel _ xb xp (!nm) hag]
  exact descendant_for_empty_byte_range_ft_spec lang nm root rootId ps fuel xb hs hsh hfuel hok

-- the empty range at the boundary between `a` (0..1) and the hidden `h` (1..3): the LATER child is entered
example : (descendantForPointRangePort C02.demoLang 8 pvRoot ⟨0, 1⟩ ⟨0, 1⟩ true).map (·.id) =
    (descendantForPointRangePort C02.demoLang 8 pvRoot ⟨0, 1⟩ ⟨0, 2⟩ true).map (·.id) := by
  rw [descendant_for_empty_point_range_port C02.demoLang 8 pvRoot ⟨0, 1⟩ true,
      descendant_for_point_range_spec_partial C02.demoLang 8 pvRoot ⟨0, 1⟩ ⟨0, 2⟩ true (by decide +kernel)]
  decide +kernel
example : (descendantForPointRangePort C02.demoLang 8 pvRoot ⟨0, 1⟩ ⟨0, 1⟩ true).map (·.id) = some 2992 := by
  rw [descendant_for_empty_point_range_port C02.demoLang 8 pvRoot ⟨0, 1⟩ true]
  decide +kernel
-- past the end of the tree nothing is selected: the receiver itself
example : (descendantForPointRangePort C02.demoLang 8 pvRoot ⟨0, 9⟩ ⟨0, 9⟩ false).map (·.id) = some 1 := by
  rw [descendant_for_empty_point_range_port C02.demoLang 8 pvRoot ⟨0, 9⟩ false]
  decide +kernel
-- byte 1 and point (0, 1) are the same position of the demo tree; the transfer theorems apply
example : agreeEP C02.demoLang 1 ⟨0, 1⟩ 8 pvRoot = true := by decide +kernel
example := descendant_for_empty_point_range_ft_spec_partial C02.demoLang false pvRoot.t pvRoot.id none 8 1 ⟨0, 1⟩
  pvRoot_summarized pvRoot_shape (by decide +kernel) (by rw [ft_node_zero]; decide +kernel) (by rw [ft_node_zero]; decide +kernel)

end TsVerif.C06
