import TsVerif.C06.RawGeom
/-!
C06, node.c: the ports of the range searches (`ts_node_(named_)descendant_for_{byte,point}_range`) for a NON-EMPTY range are
plain raw searches.

The three tests of the C scan (two `continue`s, one `break`) select the first raw child that spans the
range, because the iterator's positions are ordered (`StartsFrom`); no hypothesis on the tree.
The POINT variants: the proof is the byte proof with the order replaced: the iterator's positions are monotone in
row/column order too (`ple_add`: `a ≤ a + b`).
-/
open TsVerif TsVerif.C02 TsGen

namespace TsVerif.C06

abbrev dfrScan (rs re : Nat) := descendantForByteRangePort.scan rs re

theorem dfrScan_cons (rs re : Nat) (rc : RawChild) (rest : List RawChild) :
    dfrScan rs re (rc :: rest) =
      (if rc.posAfter.bytes < re then dfrScan rs re rest
       else if (if (rc.node.startByte == rc.posAfter.bytes) = true then rc.posAfter.bytes < rs else rc.posAfter.bytes ≤ rs) then dfrScan rs re rest
       else if rs < rc.node.startByte then none
       else some rc.node) := by
  simp only [dfrScan, descendantForByteRangePort.scan]

def StartsFrom : Nat → List RawChild → Prop
  | _, [] => True
  | p, rc :: rest => p ≤ rc.node.startByte ∧ rc.node.startByte ≤ rc.posAfter.bytes ∧ StartsFrom rc.posAfter.bytes rest

theorem go_startsFrom (lang : Lang) (n : NodeRef) (pid nk : Nat) : ∀ (kids : List Tree) (pos : Length) (si k : Nat),
    StartsFrom pos.bytes (rawChildren.go lang n pid nk kids pos si k)
  | [], _, _, _ => by simp [rawChildren.go, StartsFrom]
  | c :: rest, pos, si, k => by
    rw [go_getElem_zero]
    unfold StartsFrom
    refine ⟨?_, ?_, go_startsFrom lang n pid nk rest _ _ _⟩
    · simp only [NodeRef.startByte]; split <;> simp [length_add_bytes]
    · simp only [NodeRef.startByte, length_add_bytes]; omega

theorem startsFrom_ge : ∀ (L : List RawChild) (p : Nat), StartsFrom p L → ∀ x ∈ L, p ≤ x.node.startByte
  | [], _, _, _, hx => by simp at hx
  | rc :: rest, p, h, x, hx => by
    unfold StartsFrom at h
    simp only [List.mem_cons] at hx
    rcases hx with hx | hx
    · subst hx; exact h.1
    · have := startsFrom_ge rest _ h.2.2 x hx; omega

theorem dfr_scan_eq (rs re : Nat) (hr : rs < re) : ∀ (L : List RawChild) (p : Nat), StartsFrom p L →
    dfrScan rs re L = (L.find? (spans rs re)).map (·.node)
  | [], _, _ => by simp [dfrScan, descendantForByteRangePort.scan]
  | rc :: rest, p, h => by
    unfold StartsFrom at h
    rw [dfrScan_cons, List.find?_cons]
    by_cases h1 : rc.posAfter.bytes < re
    · have : spans rs re rc = false := by simp [spans]; intro _; omega
      simp only [h1, if_true, this]
      exact dfr_scan_eq rs re hr rest _ h.2.2
    · simp only [h1, if_false]
      have h2 : ¬ (if (rc.node.startByte == rc.posAfter.bytes) = true then rc.posAfter.bytes < rs else rc.posAfter.bytes ≤ rs) := by
        split <;> omega
      simp only [h2, if_false]
      by_cases h3 : rs < rc.node.startByte
      · have hsp : spans rs re rc = false := by simp [spans]; omega
        simp only [h3, if_true, hsp]
        rw [find_none_of_all]
        · rfl
        · intro x hx
          have := startsFrom_ge rest _ h.2.2 x hx
          simp only [spans, Bool.and_eq_false_iff, decide_eq_false_iff_not]
          left; omega
      · have hsp : spans rs re rc = true := by simp [spans]; omega
        simp [h3, hsp]

theorem dfrGoA_eq (lang : Lang) (anon : Bool) (rs re : Nat) (hr : rs < re) : ∀ (f : Nat) (node last : NodeRef),
    descendantForByteRangePort.go lang rs re anon f node last = dfrIdealA lang anon rs re f node last
  | 0, _, _ => rfl
  | f + 1, node, last => by
    simp only [descendantForByteRangePort.go, dfrIdealA]
    have := dfr_scan_eq rs re hr (rawChildren lang node) node.start.bytes (go_startsFrom lang node _ _ _ _ _ _)
    simp only [dfrScan] at this
    rw [this]
    cases (rawChildren lang node).find? (spans rs re) with
    | none => rfl
    | some rc => simp only [Option.map_some]; exact dfrGoA_eq lang anon rs re hr f rc.node _

/-- For a NON-EMPTY byte range and either `include_anonymous` the port of
`ts_node_(named_)descendant_for_byte_range(self, rs, re)` is the plain search `dfrIdealA`: follow the first raw child that spans
the range while there is one; answer the last node on the way that counts for the flag (`self` if none).  Every tree. -/
theorem descendant_for_byte_range_spec_anon (lang : Lang) (fuel : Nat) (self : NodeRef) (rs re : Nat) (anon : Bool) (hr : rs < re) :
    descendantForByteRangePort lang fuel self rs re anon = some (dfrIdealA lang anon rs re fuel self self) := by
  unfold descendantForByteRangePort
  have : ¬ (rs > re) := by omega
  simp only [this, if_false]
  rw [dfrGoA_eq lang anon rs re hr]

theorem dfrIdeal_eq_A (lang : Lang) (rs re : Nat) : dfrIdeal lang rs re = dfrIdealA lang true rs re := by
  funext f node last
  induction f generalizing node last with
  | zero => rfl
  | succ f ih => rw [dfrIdeal, dfrIdealA]; simp only [ih]

theorem dfrGo_eq (lang : Lang) (rs re : Nat) (hr : rs < re) : ∀ (f : Nat) (node last : NodeRef),
    descendantForByteRangePort.go lang rs re true f node last = dfrIdeal lang rs re f node last :=
  fun f node last => by rw [dfrIdeal_eq_A]; exact dfrGoA_eq lang true rs re hr f node last

/-- For a NON-EMPTY byte range the port of
`ts_node_descendant_for_byte_range(self, rs, re)` is the plain search `dfrIdeal`: follow the first
raw child that spans the range (start ≤ rs and re ≤ end) as long as there is one, and answer the last
relevant node on the way (`self` if none).  For every tree — no hypothesis on the tree is needed,
the order of the iterator's positions is enough; the empty-range case is where finding
`C06-descendant-range-zero-width` lives. -/
theorem descendant_for_byte_range_spec_partial (lang : Lang) (fuel : Nat) (self : NodeRef) (rs re : Nat) (hr : rs < re) :
    descendantForByteRangePort lang fuel self rs re true = some (dfrIdeal lang rs re fuel self self) := by
  rw [dfrIdeal_eq_A]; exact descendant_for_byte_range_spec_anon lang fuel self rs re true hr

/-- On the demo tree, range [1,2]: root ⟶ hidden `h` [1,3] ⟶ `v` [1,2] ⟶ leaf `b` [1,2]; the
deepest relevant node spanning the range is `b` (slot id 2992). -/
example : (descendantForByteRangePort C02.demoLang 8 pvRoot 1 2 true).map (·.id) = some 2992 := by
  rw [descendant_for_byte_range_spec_partial C02.demoLang 8 pvRoot 1 2 (by decide)]
  decide

theorem ple_add (a b : TSPoint) : point_lte a (point_add a b) = true := point_lte_add a b

def StartsFromP : TSPoint → List RawChild → Prop
  | _, [] => True
  | p, rc :: rest => point_lte p rc.node.start.extent = true ∧ point_lte rc.node.start.extent rc.posAfter.extent = true ∧ StartsFromP rc.posAfter.extent rest

theorem length_add_extent (a b : Length) : (length_add a b).extent = point_add a.extent b.extent := rfl

theorem go_startsFromP (lang : Lang) (n : NodeRef) (pid nk : Nat) : ∀ (kids : List Tree) (pos : Length) (si k : Nat),
    StartsFromP pos.extent (rawChildren.go lang n pid nk kids pos si k)
  | [], _, _, _ => by simp [rawChildren.go, StartsFromP]
  | c :: rest, pos, si, k => by
    rw [go_getElem_zero]
    unfold StartsFromP
    refine ⟨?_, ?_, go_startsFromP lang n pid nk rest _ _ _⟩
    · show point_lte pos.extent (if k > 0 then length_add pos c.data.padding else pos).extent = true
      by_cases hk : k > 0
      · simp only [hk, if_true, length_add_extent]; exact ple_add _ _
      · simp only [hk, if_false]; exact point_lte_refl _
    · show point_lte (if k > 0 then length_add pos c.data.padding else pos).extent
        (length_add (if k > 0 then length_add pos c.data.padding else pos) c.data.size).extent = true
      rw [length_add_extent]; exact ple_add _ _

theorem startsFromP_ge : ∀ (L : List RawChild) (p : TSPoint), StartsFromP p L → ∀ x ∈ L, point_lte p x.node.start.extent = true
  | [], _, _, _, hx => by simp at hx
  | rc :: rest, p, h, x, hx => by
    unfold StartsFromP at h
    simp only [List.mem_cons] at hx
    rcases hx with hx | hx
    · subst hx; exact h.1
    · exact point_lte_trans (point_lte_trans h.1 h.2.1) (startsFromP_ge rest _ h.2.2 x hx)

abbrev dfrPScan (rs re : TSPoint) := descendantForPointRangePort.scan rs re

theorem dfrPScan_cons (rs re : TSPoint) (rc : RawChild) (rest : List RawChild) :
    dfrPScan rs re (rc :: rest) =
      (if point_lt rc.posAfter.extent re then dfrPScan rs re rest
       else if (if point_eq rc.node.start.extent rc.posAfter.extent then point_lt rc.posAfter.extent rs else point_lte rc.posAfter.extent rs) then dfrPScan rs re rest
       else if point_lt rs rc.node.start.extent then none
       else some rc.node) := by
  simp only [dfrPScan, descendantForPointRangePort.scan]

theorem not_ple_of_plt (a b : TSPoint) (h : point_lt a b = true) : point_lte b a = false ∧ point_lt b a = false := by
  have := point_lte_of_lt h
  rw [point_lte_eq_not_lt] at this ⊢
  rw [h]
  exact ⟨rfl, by simpa using this⟩

theorem ple_of_not_plt (a b : TSPoint) (h : point_lt a b = false) : point_lte b a = true := by
  rw [point_lte_eq_not_lt, h]; rfl

theorem dfrP_scan_eq (rs re : TSPoint) (hr : point_lt rs re = true) : ∀ (L : List RawChild) (p : TSPoint), StartsFromP p L →
    dfrPScan rs re L = (L.find? (spansP rs re)).map (·.node)
  | [], _, _ => by simp [dfrPScan, descendantForPointRangePort.scan]
  | rc :: rest, p, h => by
    unfold StartsFromP at h
    rw [dfrPScan_cons, List.find?_cons]
    cases h1 : point_lt rc.posAfter.extent re with
    | true =>
      -- ends before the range ends: passed over, and it does not span
      rw [if_pos rfl, show spansP rs re rc = false by simp [spansP, (not_ple_of_plt _ _ h1).1]]
      exact dfrP_scan_eq rs re hr rest _ h.2.2
    | false =>
      -- the range ends inside or at its end, so the range starts before its end: not passed over
      have hend := point_lt_of_lt_of_lte hr (ple_of_not_plt _ _ h1)
      have h2 : ¬ ((if point_eq rc.node.start.extent rc.posAfter.extent = true then point_lt rc.posAfter.extent rs
          else point_lte rc.posAfter.extent rs) = true) := by
        split <;> simp [(not_ple_of_plt _ _ hend).1, (not_ple_of_plt _ _ hend).2]
      rw [if_neg (by simp), if_neg h2]
      cases h3 : point_lt rs rc.node.start.extent with
      | true =>
        -- starts after the range starts: the scan breaks, and nothing later spans either
        rw [if_pos rfl, show spansP rs re rc = false by simp [spansP, (not_ple_of_plt _ _ h3).1], find_none_of_all]
        · rfl
        · intro x hx
          have := point_lt_of_lt_of_lte h3 (point_lte_trans h.2.1 (startsFromP_ge rest _ h.2.2 x hx))
          simp [spansP, (not_ple_of_plt _ _ this).1]
      | false =>
        rw [if_neg (by simp), show spansP rs re rc = true by simp [spansP, ple_of_not_plt _ _ h3, ple_of_not_plt _ _ h1]]
        rfl

theorem dfrGoP_eq (lang : Lang) (anon : Bool) (rs re : TSPoint) (hr : point_lt rs re = true) : ∀ (f : Nat) (node last : NodeRef),
    descendantForPointRangePort.go lang rs re anon f node last = dfrIdealP lang anon rs re f node last
  | 0, _, _ => rfl
  | f + 1, node, last => by
    simp only [descendantForPointRangePort.go, dfrIdealP]
    have := dfrP_scan_eq rs re hr (rawChildren lang node) node.start.extent (go_startsFromP lang node _ _ _ _ _ _)
    simp only [dfrPScan] at this
    rw [this]
    cases (rawChildren lang node).find? (spansP rs re) with
    | none => rfl
    | some rc => simp only [Option.map_some]; exact dfrGoP_eq lang anon rs re hr f rc.node _

/-- The same for `ts_node_(named_)descendant_for_point_range` and `rs < re` in
row/column order: the port is the plain search `dfrIdealP` (first raw child spanning the range in that order).  Every tree. -/
theorem descendant_for_point_range_spec_partial (lang : Lang) (fuel : Nat) (self : NodeRef) (rs re : TSPoint) (anon : Bool)
    (hr : point_lt rs re = true) :
    descendantForPointRangePort lang fuel self rs re anon = some (dfrIdealP lang anon rs re fuel self self) := by
  unfold descendantForPointRangePort
  have : point_gt rs re = false := by rw [point_gt_eq]; exact (not_ple_of_plt rs re hr).2
  simp only [this, Bool.false_eq_true, if_false]
  rw [dfrGoP_eq lang anon rs re hr]

example : (descendantForByteRangePort C02.demoLang 8 pvRoot 1 2 false).map (·.id) = some 2992 := by
  rw [descendant_for_byte_range_spec_anon C02.demoLang 8 pvRoot 1 2 false (by decide)]
  decide
example : (descendantForPointRangePort C02.demoLang 8 pvRoot ⟨0, 1⟩ ⟨0, 2⟩ true).map (·.id) = some 2992 := by
  rw [descendant_for_point_range_spec_partial C02.demoLang 8 pvRoot ⟨0, 1⟩ ⟨0, 2⟩ true (by decide)]
  decide

end TsVerif.C06
