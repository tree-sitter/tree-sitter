import TsVerif.C06.RangeFlat
/-!
# C06 — the EMPTY-range case of `ts_node_(named_)descendant_for_byte_range` (finding 6): the exact hypothesis

For a non-empty range the port is the search on the ordered tree without any hypothesis on the tree
(`descendant_for_byte_range_spec_anon`, `named_descendant_for_byte_range_ft_spec`).  For an EMPTY range `[x, x]` it is
not (finding 6: a hidden zero-width leaf shadows a visible zero-width sibling).  Here:

* `descendant_for_empty_byte_range_port` — without any hypothesis the port is the plain raw search `dfrIdealE`;
* `dfrHE` / `descendant_for_empty_byte_range_ft_spec` — under the decidable hypothesis `emptyOK` (NodeNav.lean)
  the raw search is the search over the VISIBLE children (`vgoE`), for either flag; hence = `FT.descendantForBytes 0 x x nm`.

The main theorem is again `ft_search_spec` on `descend`; on its path are `dfrHE` / `dfrHLE` (one level, under `emptyOK`),
`emptyOK_sel` and `vgoE_eq_dfr`, stated in the vocabulary of the searches written out (as in `RangeFlat.lean`) and unwrapped
where they are used.

`emptyOK` is evaluated with the conclusion on every empty-range question from the root (figures: `notes/C06.md`).
-/
namespace TsVerif.C06
open TsGen TsVerif TsVerif.C02

/-- For `rs = re = x` a raw child is NOT passed over by the two `continue` tests of the C scan iff `selE` holds of it. -/
theorem selE_iff (x : Nat) (rc : RawChild) (hp : rc.posAfter.bytes = rc.node.endByte) :
    selE x rc.node = true ↔ ¬ rc.posAfter.bytes < x ∧
      ¬ (if (rc.node.startByte == rc.posAfter.bytes) = true then rc.posAfter.bytes < x else rc.posAfter.bytes ≤ x) := by
  simp only [selE, hp, Bool.or_eq_true, Bool.and_eq_true, decide_eq_true_eq, beq_iff_eq]
  split <;> omega

/-- The C scan (three tests) for `rs = re = x`: the first raw child that is not passed over ends the scan. -/
theorem dfrScanE_eq (x : Nat) : ∀ (L : List RawChild), (∀ rc ∈ L, rc.posAfter.bytes = rc.node.endByte) →
    dfrScan x x L = (match L.find? (fun rc => selE x rc.node) with
                     | none => none
                     | some rc => if x < rc.node.startByte then none else some rc.node)
  | [], _ => by simp [dfrScan, descendantForByteRangePort.scan]
  | rc :: rest, h => by
    rw [dfrScan_cons, List.find?_cons, dfrScanE_eq x rest (fun r hr => h r (List.mem_cons_of_mem _ hr))]
    have hs := selE_iff x rc (h rc List.mem_cons_self)
    by_cases h1 : rc.posAfter.bytes < x
    · rw [if_pos h1, Bool.eq_false_iff.mpr (fun hc => (hs.mp hc).1 h1)]
    · rw [if_neg h1]
      by_cases h2 : (if (rc.node.startByte == rc.posAfter.bytes) = true then rc.posAfter.bytes < x else rc.posAfter.bytes ≤ x)
      · rw [if_pos h2, Bool.eq_false_iff.mpr (fun hc => (hs.mp hc).2 h2)]
      · rw [if_neg h2, hs.mpr ⟨h1, h2⟩]

theorem dfrGoE_eq (lang : Lang) (anon : Bool) (x : Nat) : ∀ (f : Nat) (node last : NodeRef),
    descendantForByteRangePort.go lang x x anon f node last = dfrIdealE lang anon x f node last
  | 0, _, _ => rfl
  | f + 1, node, last => by
    simp only [descendantForByteRangePort.go, dfrIdealE]
    have := dfrScanE_eq x (rawChildren lang node) (fun rc hrc => by rw [go_posAfter_is_end lang node _ _ _ _ _ _ rc hrc, length_add_bytes]; rfl)
    simp only [dfrScan] at this
    rw [this]
    cases (rawChildren lang node).find? (fun rc => selE x rc.node) with
    | none => rfl
    | some rc =>
      simp only
      by_cases hlt : x < rc.node.startByte
      · simp [hlt]
      · simp only [hlt, if_false]; exact dfrGoE_eq lang anon x f rc.node _

/-- For every tree, every byte `x` and either flag — no hypothesis — the port
of `ts_node_(named_)descendant_for_byte_range(self, x, x)` is the plain raw search `dfrIdealE`. -/
theorem descendant_for_empty_byte_range_port (lang : Lang) (fuel : Nat) (self : NodeRef) (x : Nat) (anon : Bool) :
    descendantForByteRangePort lang fuel self x x anon = some (dfrIdealE lang anon x fuel self self) := by
  unfold descendantForByteRangePort
  simp only [Nat.lt_irrefl, gt_iff_lt, if_false]
  rw [dfrGoE_eq lang anon x]

mutual
  theorem firstSelE_eq (lang : Lang) (x : Nat) : ∀ (t : Tree) (start : Length),
      firstSelE lang x t start = (enumRefs lang t start).find? (selE x)
    | .mk d kids, start => by
      unfold firstSelE enumRefs
      exact firstSelEKids_eq lang x d.productionId d.addr kids.length kids start 0 0
  theorem firstSelEKids_eq (lang : Lang) (x pid addr nk : Nat) : ∀ (kids : List Tree) (pos : Length) (si k : Nat),
      firstSelEKids lang x pid addr nk kids pos si k = (enumRefsKids lang pid addr nk kids pos si k).find? (selE x)
    | [], _, _, _ => by simp [firstSelEKids, enumRefsKids]
    | c :: rest, pos, si, k => by
      unfold firstSelEKids enumRefsKids
      simp only [find_append_or]
      rw [firstSelEKids_eq lang x pid addr nk rest]
      generalize (if k > 0 then length_add pos c.data.padding else pos) = cstart
      generalize (if c.data.extra = true then 0 else lang.aliasAt pid si) = al
      by_cases hrel : ({ t := c, alias := al, id := slotId addr nk k, start := cstart } : NodeRef).relevant lang true = true
      · simp only [hrel, if_true, List.find?_cons, List.find?_nil]
        cases selE x { t := c, alias := al, id := slotId addr nk k, start := cstart } <;> simp
      · simp only [hrel, if_false, Bool.false_eq_true]
        rw [firstSelE_eq lang x c cstart]
        cases (enumRefs lang c cstart).find? (selE x) <;> simp
end

def vgoE (lang : Lang) (anon : Bool) (x : Nat) : Nat → NodeRef → NodeRef → NodeRef
  | 0, _, last => last
  | f + 1, self, last =>
    match (enumRefs lang self.t self.start).find? (selE x) with
    | none => last
    | some r => if x < r.startByte then last else vgoE lang anon x f r (if r.relevant lang anon then r else last)

theorem vgoE_eq_descend (lang : Lang) (anon : Bool) (x : Nat) : ∀ (f : Nat) (self last : NodeRef),
    vgoE lang anon x f self last = descend (fun r => r.relevant lang anon) (vnext lang (selE x) (afterB x)) f self last
  | 0, _, _ => rfl
  | f + 1, self, last => by
    rw [vgoE]
    simp only [vgoE_eq_descend lang anon x f]
    unfold vnext
    rw [descend_pick_succ]
    simp only [afterB, decide_eq_true_eq]
    cases (enumRefs lang self.t self.start).find? (selE x) <;> rfl

theorem dfrIdealE_eq_descend (lang : Lang) (anon : Bool) (x : Nat) :
    dfrIdealE lang anon x = descend (fun r => r.relevant lang anon) (rnext lang (fun rc => selE x rc.node) (afterB x)) := by
  funext f node last
  induction f generalizing node last with
  | zero => rfl
  | succ f ih =>
    rw [dfrIdealE, descend_rnext_succ]
    unfold scanRaw pickIn
    cases (rawChildren lang node).find? (fun rc => selE x rc.node) with
    | none => rfl
    | some rc =>
      simp only [Option.bind_some, afterB, decide_eq_true_eq]
      split
      · rfl
      · exact ih rc.node _

def dfrLE (lang : Lang) (anon : Bool) (x f : Nat) (last : NodeRef) (raws : List RawChild) : NodeRef :=
  match raws.find? (fun rc => selE x rc.node) with
  | none => last
  | some rc => if x < rc.node.startByte then last else dfrIdealE lang anon x f rc.node (if rc.node.relevant lang anon then rc.node else last)
def dfrRE (lang : Lang) (anon : Bool) (x : Nat) (last : NodeRef) (refs : List NodeRef) : NodeRef :=
  match refs.find? (selE x) with
  | none => last
  | some r => if x < r.startByte then last else dfrIdealE lang anon x r.t.size r (if r.relevant lang anon then r else last)

theorem dfrLE_eq_scanRaw (lang : Lang) (anon : Bool) (x f : Nat) (last : NodeRef) (raws : List RawChild) :
    dfrLE lang anon x f last raws =
      scanRaw (dfrIdealE lang anon x) (keepIf fun r => r.relevant lang anon) (fun rc => selE x rc.node) (afterB x) f last raws := by
  rw [scanRaw_eq]
  simp only [afterB, decide_eq_true_eq]
  rfl

theorem dfrRE_eq_scanVis (lang : Lang) (anon : Bool) (x : Nat) (last : NodeRef) (refs : List NodeRef) :
    dfrRE lang anon x last refs =
      scanVis (dfrIdealE lang anon x) (keepIf fun r => r.relevant lang anon) (selE x) (afterB x) last refs := by
  rw [scanVis_eq]
  simp only [afterB, decide_eq_true_eq]
  rfl

theorem afterB_from (lang : Lang) (x pid addr nk : Nat) (nd : NodeRef) (rest : List Tree) (si k : Nat) (h : afterB x nd = true) :
    ∀ r ∈ contribR lang nd ++ enumRefsKids lang pid addr nk rest (length_add nd.start nd.t.data.size) si k, afterB x r = true := by
  intro r hr
  have := (from_child_start_ge lang pid addr nk nd rest si k r hr).1
  simp only [afterB, decide_eq_true_eq] at h ⊢
  exact Nat.lt_of_lt_of_le h this

/-- `emptyOKKids` read at its first child `nd`: if the scan enters `nd` its subtree satisfies `emptyOK`, and if `nd` is hidden
and offers nothing at `x` nothing later is entered (H4); if the scan passes over `nd`, a hidden `nd` offers nothing at `x`
(H2) and the later children satisfy `emptyOKKids`. -/
theorem emptyOKKids_cons (lang : Lang) (x pid addr nk : Nat) (c : Tree) (rest : List Tree) (pos : Length) (si k : Nat)
    (hok : emptyOKKids lang x pid addr nk (c :: rest) pos si k = true) :
    let cstart := if k > 0 then length_add pos c.data.padding else pos
    let nd : NodeRef := { t := c, alias := (if c.data.extra then 0 else lang.aliasAt pid si), id := slotId addr nk k, start := cstart }
    let si' := if c.data.extra then si else si + 1
    (selE x nd = true → ¬ x < nd.startByte → emptyOK lang x c cstart = true ∧
      (nd.relevant lang true = false → (enumRefs lang c cstart).find? (selE x) = none →
        pickIn (selE x) (afterB x) (enumRefsKids lang pid addr nk rest (length_add cstart c.data.size) si' (k + 1)) = none)) ∧
    (selE x nd = false → (nd.relevant lang true = false → (enumRefs lang c cstart).find? (selE x) = none) ∧
      emptyOKKids lang x pid addr nk rest (length_add cstart c.data.size) si' (k + 1) = true) := by
  unfold emptyOKKids at hok
  simp only [firstSelE_eq, firstSelEKids_eq] at hok
  intro c0 n0 s0
  simp only [c0, n0, s0]
  generalize (if k > 0 then length_add pos c.data.padding else pos) = cstart at hok ⊢
  generalize (if c.data.extra = true then 0 else lang.aliasAt pid si) = al at hok ⊢
  generalize (if c.data.extra = true then si else si + 1) = si' at hok ⊢
  generalize ({ t := c, alias := al, id := slotId addr nk k, start := cstart } : NodeRef) = nd at hok ⊢
  refine ⟨fun hsel hlt => ?_, fun hsel => ?_⟩
  · simp only [show selE x nd = true from hsel, if_true, show ¬ x < nd.startByte from hlt, if_false] at hok
    cases hrel : nd.relevant lang true with
    | true => exact ⟨by simpa [hrel] using hok, fun h => absurd h (by simp)⟩
    | false =>
      simp only [show nd.relevant lang true = false from hrel, Bool.false_eq_true, if_false, Bool.and_eq_true] at hok
      refine ⟨hok.1, fun _ hnone => ?_⟩
      have h2 := hok.2
      rw [hnone] at h2
      unfold pickIn
      cases hfr : (enumRefsKids lang pid addr nk rest (length_add cstart c.data.size) si' (k + 1)).find? (selE x) with
      | none => rfl
      | some r =>
        rw [show List.find? (selE x) (enumRefsKids lang pid addr nk rest (length_add cstart c.data.size) si' (k + 1)) = some r from hfr] at h2
        simp only [Option.isSome_none, Bool.false_or] at h2
        simp only [Option.bind_some, afterB, h2, if_true]
  · simp only [show selE x nd = false from hsel, Bool.false_eq_true, if_false, Bool.and_eq_true, Bool.or_eq_true] at hok
    refine ⟨fun hrel => ?_, hok.2⟩
    rcases hok.1 with h | h
    · rw [hrel] at h; exact absurd h (by simp)
    · simpa using h
mutual
  theorem dfrHE (lang : Lang) (anon : Bool) (x : Nat) : ∀ (t : Tree) (al id : Nat) (start : Length) (last : NodeRef) (f : Nat),
      t.size ≤ f → Sized t → emptyOK lang x t start = true →
      dfrIdealE lang anon x f ⟨t, al, id, start⟩ last = dfrRE lang anon x last (enumRefs lang t start)
    | .mk d kids, al, id, start, last, f, hf, hs, hok => by
      obtain ⟨f', rfl⟩ : ∃ y, f = y + 1 := ⟨f - 1, by simp only [Tree.size] at hf; omega⟩
      unfold emptyOK at hok
      simp only [Tree.size] at hf
      have := dfrHLE lang anon x kids ⟨.mk d kids, al, id, start⟩ d.productionId kids.length start 0 0 last f' (by omega) (sized_kids hs) hok
      rw [dfrLE_eq_scanRaw] at this
      rw [dfrIdealE_eq_descend, descend_rnext_succ, ← dfrIdealE_eq_descend]
      exact this
  theorem dfrHLE (lang : Lang) (anon : Bool) (x : Nat) : ∀ (kids : List Tree) (n : NodeRef) (pid nk : Nat) (pos : Length) (si k : Nat)
      (last : NodeRef) (f : Nat), Tree.sizeList kids ≤ f → SizedL kids →
      emptyOKKids lang x pid n.t.data.addr nk kids pos si k = true →
      dfrLE lang anon x f last (rawChildren.go lang n pid nk kids pos si k) =
        dfrRE lang anon x last (enumRefsKids lang pid n.t.data.addr nk kids pos si k)
    | [], _, _, _, _, _, _, _, _, _, _, _ => by simp [rawChildren.go, enumRefsKids, dfrLE, dfrRE]
    | c :: rest, n, pid, nk, pos, si, k, last, f, hf, hs, hok => by
      unfold SizedL at hs
      simp only [Tree.sizeList] at hf
      rw [go_getElem_zero, dfrLE_eq_scanRaw, dfrRE_eq_scanVis]
      unfold enumRefsKids
      have hread := emptyOKKids_cons lang x pid n.t.data.addr nk c rest pos si k hok
      simp only at hread ⊢
      generalize (if k > 0 then length_add pos c.data.padding else pos) = cstart at hread ⊢
      generalize (if c.data.extra = true then 0 else lang.aliasAt pid si) = al at hread ⊢
      generalize (if c.data.extra = true then si else si + 1) = si' at hread ⊢
      generalize hnode : ({ t := c, alias := al, id := slotId n.t.data.addr nk k, start := cstart } : NodeRef) = node at hread ⊢
      have hnt : node.t = c := by rw [← hnode]
      have hfrom := afterB_from lang x pid n.t.data.addr nk node rest si' (k + 1)
      rw [contribR, hnt, show node.start = cstart by rw [← hnode]] at hfrom
      refine scan_step _ _ _ _ _ _ _ f last _ _ _ _ (node.relevant lang true) ?_ (fun h1 h2 => ⟨h1, h2⟩) (fun _ h => h) hfrom
        (fun hsel => Or.inl fun r hr => ?_) (fun hrel hsel hlt hnone => (hread.1 hsel (by simpa [afterB] using hlt)).2 hrel (by simpa [hrel] using hnone)) ?_
      · -- a visible child is entered by both; a hidden one the raw search enters satisfies `emptyOK` itself
        cases hrel : node.relevant lang true with
        | true =>
          rw [if_pos rfl]
          refine ⟨rfl, rfl, ?_⟩
          rw [dfrIdealE_eq_descend]
          exact raw_fuel lang _ _ _ node f node.t.size _ (by rw [hnt]; omega) (Nat.le_refl _)
        | false =>
          simp only [Bool.false_eq_true, if_false, keepIf, rel_of_hidden lang anon node hrel, true_and]
          intro hsel hlt
          have := dfrHE lang anon x c al (slotId n.t.data.addr nk k) cstart last f (by omega) hs.1
            (hread.1 hsel (by simpa [afterB] using hlt)).1
          rw [hnode, dfrRE_eq_scanVis] at this
          exact this
      · -- (H2) a child the scan passes over offers nothing visible at `x`
        split at hr
        · rw [List.mem_singleton.mp hr]; exact hsel
        · cases hr' : selE x r with
          | false => rfl
          | true => exact absurd hr' (List.find?_eq_none.mp ((hread.2 hsel).1 (Bool.eq_false_iff.mpr ‹_›)) r hr)
      · intro hsel
        have := dfrHLE lang anon x rest n pid nk (length_add cstart c.data.size) si' (k + 1) last f (by omega) hs.2 (hread.2 hsel).2
        rw [dfrLE_eq_scanRaw, dfrRE_eq_scanVis] at this
        exact this
end

mutual
  /-- The visible node the search enters satisfies `emptyOK` again: the invariant `vis_eq_raw` asks for. -/
  theorem emptyOK_sel (lang : Lang) (x : Nat) : ∀ (t : Tree) (start : Length) (r : NodeRef), Sized t →
      emptyOK lang x t start = true → (enumRefs lang t start).find? (selE x) = some r → ¬ (x < r.startByte) →
      emptyOK lang x r.t r.start = true
    | .mk d kids, start, r, hs, hok, hf, hx => by
      unfold emptyOK at hok
      unfold enumRefs at hf
      exact emptyOKKids_sel lang x d.productionId d.addr kids.length kids start 0 0 r (sized_kids hs) hok hf hx
  theorem emptyOKKids_sel (lang : Lang) (x pid addr nk : Nat) : ∀ (kids : List Tree) (pos : Length) (si k : Nat) (r : NodeRef), SizedL kids →
      emptyOKKids lang x pid addr nk kids pos si k = true →
      (enumRefsKids lang pid addr nk kids pos si k).find? (selE x) = some r → ¬ (x < r.startByte) →
      emptyOK lang x r.t r.start = true
    | [], _, _, _, r, _, _, hf, _ => by simp [enumRefsKids] at hf
    | c :: rest, pos, si, k, r, hs, hok, hf, hx => by
      unfold SizedL at hs
      unfold enumRefsKids at hf
      have hread := emptyOKKids_cons lang x pid addr nk c rest pos si k hok
      simp only at hread hf
      generalize (if k > 0 then length_add pos c.data.padding else pos) = cstart at hread hf
      generalize (if c.data.extra = true then 0 else lang.aliasAt pid si) = al at hread hf
      generalize (if c.data.extra = true then si else si + 1) = si' at hread hf
      generalize hnode : ({ t := c, alias := al, id := slotId addr nk k, start := cstart } : NodeRef) = node at hread hf
      have hfrom := afterB_from lang x pid addr nk node rest si' (k + 1)
      rw [contribR, show node.t = c by rw [← hnode], show node.start = cstart by rw [← hnode]] at hfrom
      have hmem := List.mem_of_find?_eq_some hf
      rw [find_append_or] at hf
      cases hsel : selE x node with
      | false =>
        -- the scan passes over this child: `r` is found later
        have hnone : (if node.relevant lang true = true then [node] else enumRefs lang c cstart).find? (selE x) = none := by
          split
          · simp [hsel]
          · exact (hread.2 hsel).1 (Bool.eq_false_iff.mpr ‹_›)
        rw [hnone, Option.none_or] at hf
        exact emptyOKKids_sel lang x pid addr nk rest _ si' (k + 1) r hs.2 (hread.2 hsel).2 hf hx
      | true =>
        by_cases hlt : x < node.startByte
        · -- everything from this child on starts after `x`
          exact absurd (by simpa [afterB] using hfrom (by simpa [afterB] using hlt) r hmem) hx
        · obtain ⟨hokc, hlater⟩ := hread.1 hsel hlt
          cases hrel : node.relevant lang true with
          | true =>
            simp only [hrel, if_true, List.find?_cons, hsel, Option.some_or, Option.some.injEq] at hf
            rw [← hf, ← hnode]
            exact hokc
          | false =>
            simp only [hrel, Bool.false_eq_true, if_false] at hf
            cases hfc : (enumRefs lang c cstart).find? (selE x) with
            | some r' =>
              rw [hfc, Option.some_or, Option.some.injEq] at hf
              exact hf ▸ emptyOK_sel lang x c cstart r' hs.1 hokc hfc (hf ▸ hx)
            | none =>
              rw [hfc, Option.none_or] at hf
              have := hlater hrel hfc
              simp only [pickIn, hf, Option.bind_some, afterB] at this
              exact absurd (by simpa using this) hx
end

theorem vgoE_eq_dfr (lang : Lang) (anon : Bool) (x : Nat) : ∀ (m : Nat) (self last : NodeRef) (F : Nat),
    self.t.size ≤ m → self.t.size ≤ F → Sized self.t → emptyOK lang x self.t self.start = true →
    vgoE lang anon x F self last = dfrIdealE lang anon x F self last := by
  intro _ self last F _ hF hs hok
  rw [vgoE_eq_descend, dfrIdealE_eq_descend]
  refine vis_eq_raw lang _ _ _ _ _ (fun n => emptyOK lang x n.t n.start = true) (fun n last f hi hf hs => ?_)
    (fun n r hi hs hr => ?_) F self last hok hF hs
  · have := dfrHE lang anon x n.t n.alias n.id n.start last f hf hs hi
    rw [dfrRE_eq_scanVis, dfrIdealE_eq_descend] at this
    exact this
  · obtain ⟨h1, h2⟩ := pickIn_mem hr
    exact emptyOK_sel lang x n.t n.start r hs hi h1 (by simpa [afterB] using h2)

theorem ft_tests_empty {lang : Lang} {ft : FT} (nm : Bool) (x : Nat) {info : VInfo} {kids : List VTree} {k : Nat}
    {par : Option Nat} {dep : Nat} (hg : GoodAt ft.toList (.mk info kids) k par dep) (hq : QQ lang (.mk info kids)) :
    ∀ j ∈ ft.kidsOf k, (selFB ft x x j = selE x (refOf (ft.node j).info) ∧
      decide (x < ft.sb j) = afterB x (refOf (ft.node j).info)) ∧
      (!nm || ft.named j) = (refOf (ft.node j).info).relevant lang (!nm) := by
  intro j hj
  obtain ⟨h1, h2⟩ := (ft_kids_refs lang ft info kids k par dep hg hq).2 j hj
  refine ⟨⟨?_, by rw [h2]; rfl⟩, ft_keep_flag nm hg hq hj⟩
  rw [Bool.eq_iff_iff]
  simp only [selFB, selE, ← h1, ← h2, Bool.and_eq_true, Bool.or_eq_true, decide_eq_true_eq, beq_iff_eq]
  split <;> simp only [decide_eq_true_eq] <;> omega

theorem ftgo_stepE (lang : Lang) (ft : FT) (nm : Bool) (x : Nat) (info : VInfo) (kids : List VTree) (k : Nat)
    (par : Option Nat) (dep : Nat) (hg : GoodAt ft.toList (.mk info kids) k par dep) (hq : QQ lang (.mk info kids)) (f last : Nat) :
    (∃ c vi vk, FT.descendantForBytes.go ft x x nm (f + 1) k last =
          FT.descendantForBytes.go ft x x nm f c (if !nm || ft.named c then c else last) ∧
        GoodAt ft.toList (.mk vi vk) c (some k) (dep + 1) ∧ QQ lang (.mk vi vk) ∧ (.mk vi vk) ∈ kids ∧
        (enumRefs lang info.raw info.start).find? (selE x) = some (refOf vi) ∧ ¬ (x < (refOf vi).startByte)) ∨
    (FT.descendantForBytes.go ft x x nm (f + 1) k last = last ∧
      (match (enumRefs lang info.raw info.start).find? (selE x) with
       | none => True
       | some r => x < r.startByte)) := by
  obtain ⟨hmap, hgood⟩ := ft_scan_step _ _ (selE x) (afterB x) hg hq (fun j hj => (ft_tests_empty nm x hg hq j hj).1)
  simp only [ftgo_eq_descend]
  cases hn : fnext ft (selFB ft x x) (fun c => decide (x < ft.sb c)) k with
  | some c =>
    obtain ⟨vi, vk, hgc, hqc, hmem, hfind, hst⟩ := hgood c hn
    exact Or.inl ⟨c, vi, vk, descend_some hn f last, hgc, hqc, hmem, hfind, by simpa [afterB] using hst⟩
  | none =>
    rw [hn] at hmap
    refine Or.inr ⟨descend_none hn _, ?_⟩
    cases hf : (enumRefs lang info.raw info.start).find? (selE x) with
    | none => trivial
    | some r => simpa [afterB] using pickIn_stop_of_none hmap.symm hf

theorem ftgo_eq_vgoE (lang : Lang) (ft : FT) (nm : Bool) (x : Nat) : ∀ (f : Nat) (info : VInfo) (kids : List VTree) (k : Nat)
    (par : Option Nat) (dep : Nat), GoodAt ft.toList (.mk info kids) k par dep → QQ lang (.mk info kids) → ∀ (last : Nat),
    refOf (ft.node (FT.descendantForBytes.go ft x x nm f k last)).info =
      vgoE lang (!nm) x f (refOf info) (refOf (ft.node last).info) := by
  intro f info kids k par dep hg hq last
  rw [ftgo_eq_descend, vgoE_eq_descend]
  exact ft_descend_vis _ _ _ _ _ _ (ft_tests_empty nm x) f hg hq last

/-- For either flag (`nm = true`: the NAMED function), root summarized
and parser-shaped, `ft` the preorder array of `flatten`, ANY byte `x` and fuel covering the raw tree: under the exact
hypothesis `emptyOK lang x root` the port of `ts_node_(named_)descendant_for_byte_range(root, x, x)` — the EMPTY range —
returns exactly the `TSNode` of the entry `FT.descendantForBytes 0 x x nm` designates.  Where `emptyOK` fails the two
really differ on every explored tree (finding 6). -/
theorem descendant_for_empty_byte_range_ft_spec (lang : Lang) (nm : Bool) (root : Tree) (rootId : Nat) (ps : Option Nat) (fuel x : Nat)
    (hs : Summarized lang root) (hsh : shapeOK ps root = true) :
    let ft : FT := flatOf (flatten lang root rootId)
    root.size ≤ fuel → emptyOK lang x root (refOf (ft.node 0).info).start = true →
    descendantForByteRangePort lang fuel (refOf (ft.node 0).info) x x (!nm) =
      (ft.descendantForBytes 0 x x nm).map (fun j => refOf (ft.node j).info) := by
  intro ft hfuel hok
  have ht := ft_root_t lang root rootId
  rw [descendant_for_empty_byte_range_port lang fuel _ x (!nm)]
  simp only [FT.descendantForBytes, Nat.lt_irrefl, gt_iff_lt, if_false, Option.map_some, Option.some.injEq]
  rw [ftgo_eq_descend, dfrIdealE_eq_descend]
  refine ft_search_spec lang root rootId ps hs hsh _ _ _ _ (selE x) (afterB x) _ _ fuel hfuel (ft_tests_empty nm x) (fun F hF => ?_)
  have := vgoE_eq_dfr lang (!nm) x root.size (refOf (ft.node 0).info) (refOf (ft.node 0).info) F (by rw [ht]; exact Nat.le_refl _)
    (by rw [ht]; exact hF) (by rw [ht]; exact sized_of_summarized lang root hs) (by rw [ht]; exact hok)
  rw [vgoE_eq_descend, dfrIdealE_eq_descend] at this
  exact this

/-- Non-vacuity: the hypotheses hold on the demo tree (both flags, the empty range at byte 1). -/
example : emptyOK C02.demoLang 1 pvRoot.t pvRoot.start = true := by decide
example := descendant_for_empty_byte_range_ft_spec C02.demoLang false pvRoot.t pvRoot.id none 8 1 pvRoot_summarized pvRoot_shape (by decide)
  (by rw [ft_node_zero]; decide)

end TsVerif.C06
