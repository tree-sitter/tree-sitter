import TsVerif.C06.FlatProps
import TsVerif.C06.NavVariants
/-!
# C06 — the `FT` link of the byte-range search, either flag

`ts_node_descendant_for_byte_range` and `ts_node_named_descendant_for_byte_range` follow the SAME chain of nodes and differ
only in which node of the chain they remember (`last`).

The main theorem, `named_descendant_for_byte_range_ft_spec` (EITHER flag; `nm = false` is `descendant_for_byte_range_ft_spec`,
`RangeFlatAll.lean`), is `ft_search_spec` (FlatProps) and is proved on `descend` alone.  The other statements give the same
result link by link on the searches written out as recursive functions: `dfrIdealA` is the function the driver evaluates against
the port and against `FT`, `vgoA` is `FT.descendantForBytes.go` moved to `TSNode`s, so each link can be read and audited (each
has its `#print axioms` line) without `descend`, `rnext`, `vnext`, `fnext`.  Nothing else rests on them.  (Key to the letters:
head of `RangeSearch.lean`.)
-/
namespace TsVerif.C06
open TsGen TsVerif TsVerif.C02

def reachB (re : Nat) (r : NodeRef) : Bool := decide (r.endByte ≥ re)
def afterB (rs : Nat) (r : NodeRef) : Bool := decide (rs < r.startByte)

theorem monotone_bytes (rs re : Nat) (hr : rs < re) : Monotone (spans rs re) (reachB re) (afterB rs) where
  sel rc hpa := by
    rw [Bool.eq_iff_iff]
    simp only [spans, reachB, afterB, hpa, Bool.and_eq_true, Bool.not_eq_true', decide_eq_true_eq, decide_eq_false_iff_not]
    simp only [NodeRef.endLen, length_add_bytes, NodeRef.endByte, NodeRef.startByte]
    omega
  inside n r h1 h2 := by
    have a := h1.1
    have b := h2.1
    simp only [NodeRef.endLen, length_add_bytes] at b
    simp only [reachB, afterB, decide_eq_true_eq]
    simp only [NodeRef.endByte, NodeRef.startByte]
    exact ⟨fun h => by omega, fun h => by omega⟩
  after n r h1 h := by
    have a := h1.1
    simp only [NodeRef.endLen, length_add_bytes] at a
    simp only [reachB, afterB, decide_eq_true_eq] at h ⊢
    simp only [NodeRef.endByte, NodeRef.startByte] at h ⊢
    omega

/-- The test `FT.descendantForBytes` selects a child with. -/
def selFB (ft : FT) (s e : Nat) (c : Nat) : Bool :=
  decide (ft.eb c ≥ e) && (if ft.sb c == ft.eb c then decide (ft.eb c ≥ s) else decide (ft.eb c > s))

theorem ftgo_eq_descend (ft : FT) (s e : Nat) (nm : Bool) : ∀ (f cur last : Nat),
    FT.descendantForBytes.go ft s e nm f cur last =
      descend (fun c => !nm || ft.named c) (fnext ft (selFB ft s e) (fun c => decide (s < ft.sb c))) f cur last
  | 0, _, _ => rfl
  | f + 1, cur, last => by
    rw [FT.descendantForBytes.go,
      show (fun c => decide (ft.eb c ≥ e) && (if ft.sb c == ft.eb c then decide (ft.eb c ≥ s) else decide (ft.eb c > s))) = selFB ft s e
        from rfl]
    simp only [ftgo_eq_descend ft s e nm f]
    unfold fnext
    rw [descend_pick_succ]
    simp only [decide_eq_true_eq]
    cases (ft.kidsOf cur).find? (selFB ft s e) <;> rfl

theorem ft_tests_bytes (ft : FT) (rs re : Nat) (hr : rs < re) (j : Nat) (g : NodeRef) (he : ft.eb j = g.endByte)
    (hb : ft.sb j = g.startByte) : selFB ft rs re j = reachB re g ∧ decide (rs < ft.sb j) = afterB rs g := by
  refine ⟨?_, by rw [hb]; rfl⟩
  unfold selFB reachB
  rw [he]
  by_cases h1 : g.endByte ≥ re
  · simp only [h1, decide_true, Bool.true_and, show g.endByte ≥ rs by omega, show g.endByte > rs by omega, ite_self]
  · simp only [h1, decide_false, Bool.false_and]

/-- The search on `TSNode`s for either flag.  Its test `endByte ≥ re` is `selFB` for a NON-EMPTY range: the zero-width clause of
`FT.descendantForBytes` cannot apply there (`ft_tests_bytes`). -/
def vgoA (lang : Lang) (anon : Bool) (rs re : Nat) : Nat → NodeRef → NodeRef → NodeRef
  | 0, _, last => last
  | f + 1, self, last =>
    match (enumRefs lang self.t self.start).find? (fun r => decide (r.endByte ≥ re)) with
    | none => last
    | some r => if rs < r.startByte then last else vgoA lang anon rs re f r (if r.relevant lang anon then r else last)

theorem vgoA_eq_descend (lang : Lang) (anon : Bool) (rs re : Nat) : ∀ (f : Nat) (self last : NodeRef),
    vgoA lang anon rs re f self last = descend (fun r => r.relevant lang anon) (vnext lang (reachB re) (afterB rs)) f self last
  | 0, _, _ => rfl
  | f + 1, self, last => by
    rw [vgoA, show (fun r : NodeRef => decide (r.endByte ≥ re)) = reachB re from rfl]
    simp only [vgoA_eq_descend lang anon rs re f]
    unfold vnext
    rw [descend_pick_succ]
    simp only [afterB, decide_eq_true_eq]
    cases (enumRefs lang self.t self.start).find? (reachB re) <;> rfl

theorem dfrIdealA_eq_descend (lang : Lang) (anon : Bool) (rs re : Nat) :
    dfrIdealA lang anon rs re = descend (fun r => r.relevant lang anon) (rnext lang (spans rs re) fun _ => false) := by
  funext f node last
  induction f generalizing node last with
  | zero => rfl
  | succ f ih =>
    rw [dfrIdealA, descend_rnext_succ]
    unfold scanRaw pickIn
    cases (rawChildren lang node).find? (spans rs re) with
    | none => rfl
    | some rc => exact ih rc.node _

theorem dfrHA (lang : Lang) (anon : Bool) (rs re : Nat) (hr : rs < re) (t : Tree) (al id : Nat) (start : Length) (last : NodeRef)
    (f : Nat) (hf : t.size ≤ f) (hs : Sized t) :
    dfrIdealA lang anon rs re f ⟨t, al, id, start⟩ last =
      scanVis (dfrIdealA lang anon rs re) (keepIf fun r => r.relevant lang anon) (reachB re) (afterB rs) last (enumRefs lang t start) := by
  rw [dfrIdealA_eq_descend]
  exact raw_vis (rel_of_hidden lang anon) (monotone_bytes rs re hr) f ⟨t, al, id, start⟩ last hf hs

theorem vgoA_eq_dfr (lang : Lang) (anon : Bool) (rs re : Nat) (hr : rs < re) : ∀ (m : Nat) (self last : NodeRef) (F : Nat),
    self.t.size ≤ m → self.t.size ≤ F → Sized self.t → vgoA lang anon rs re F self last = dfrIdealA lang anon rs re F self last := by
  intro m self last F hm hF hs
  rw [vgoA_eq_descend, dfrIdealA_eq_descend]
  exact vis_eq_raw_mono (rel_of_hidden lang anon) (monotone_bytes rs re hr) last hF hs

theorem ft_keep_flag {lang : Lang} {ft : FT} (nm : Bool) {info : VInfo} {kids : List VTree} {k : Nat} {par : Option Nat} {dep : Nat}
    (hg : GoodAt ft.toList (.mk info kids) k par dep) (hq : QQ lang (.mk info kids)) {j : Nat} (hj : j ∈ ft.kidsOf k) :
    (!nm || ft.named j) = (refOf (ft.node j).info).relevant lang (!nm) := by
  have hrefs := (ft_kids_refs lang ft info kids k par dep hg hq).1
  rw [rel_anon_of_rel lang (!nm) _ (enumRefs_relevant lang info.raw info.start _ (by rw [← hrefs]; exact List.mem_map_of_mem hj)),
    ft_kid_named hg hq hj]
  rfl

theorem ft_tests_flag {lang : Lang} {ft : FT} (nm : Bool) {rs re : Nat} (hr : rs < re) {info : VInfo} {kids : List VTree} {k : Nat}
    {par : Option Nat} {dep : Nat} (hg : GoodAt ft.toList (.mk info kids) k par dep) (hq : QQ lang (.mk info kids)) :
    ∀ j ∈ ft.kidsOf k, (selFB ft rs re j = reachB re (refOf (ft.node j).info) ∧
      decide (rs < ft.sb j) = afterB rs (refOf (ft.node j).info)) ∧
      (!nm || ft.named j) = (refOf (ft.node j).info).relevant lang (!nm) := by
  intro j hj
  have hpos := (ft_kids_refs lang ft info kids k par dep hg hq).2 j hj
  exact ⟨ft_tests_bytes ft rs re hr j _ hpos.1 hpos.2, ft_keep_flag nm hg hq hj⟩

theorem ftgo_stepA (lang : Lang) (ft : FT) (nm : Bool) (rs re : Nat) (hr : rs < re) (info : VInfo) (kids : List VTree) (k : Nat)
    (par : Option Nat) (dep : Nat) (hg : GoodAt ft.toList (.mk info kids) k par dep) (hq : QQ lang (.mk info kids)) (f last : Nat) :
    (∃ c vi vk, FT.descendantForBytes.go ft rs re nm (f + 1) k last =
          FT.descendantForBytes.go ft rs re nm f c (if !nm || ft.named c then c else last) ∧
        GoodAt ft.toList (.mk vi vk) c (some k) (dep + 1) ∧ QQ lang (.mk vi vk) ∧ (.mk vi vk) ∈ kids ∧
        (enumRefs lang info.raw info.start).find? (fun r => decide (r.endByte ≥ re)) = some (refOf vi) ∧ ¬ (rs < (refOf vi).startByte)) ∨
    (FT.descendantForBytes.go ft rs re nm (f + 1) k last = last ∧
      (match (enumRefs lang info.raw info.start).find? (fun r => decide (r.endByte ≥ re)) with
       | none => True
       | some r => rs < r.startByte)) := by
  obtain ⟨hmap, hgood⟩ := ft_scan_step _ _ (reachB re) (afterB rs) hg hq (fun j hj => (ft_tests_flag nm hr hg hq j hj).1)
  simp only [ftgo_eq_descend]
  cases hn : fnext ft (selFB ft rs re) (fun c => decide (rs < ft.sb c)) k with
  | some c =>
    obtain ⟨vi, vk, hgc, hqc, hmem, hfind, hst⟩ := hgood c hn
    exact Or.inl ⟨c, vi, vk, descend_some hn f last, hgc, hqc, hmem, hfind, by simpa [afterB] using hst⟩
  | none =>
    rw [hn] at hmap
    refine Or.inr ⟨descend_none hn _, ?_⟩
    cases hf : (enumRefs lang info.raw info.start).find? (fun r => decide (r.endByte ≥ re)) with
    | none => trivial
    | some r => simpa [afterB] using pickIn_stop_of_none hmap.symm hf

theorem ftgo_fuelA (lang : Lang) (ft : FT) (nm : Bool) (rs re : Nat) : ∀ (n : Nat) (info : VInfo) (kids : List VTree) (k : Nat)
    (par : Option Nat) (dep : Nat), GoodAt ft.toList (.mk info kids) k par dep → vsize (.mk info kids) ≤ n →
    ∀ (f1 f2 last : Nat), vsize (.mk info kids) ≤ f1 → vsize (.mk info kids) ≤ f2 →
    FT.descendantForBytes.go ft rs re nm f1 k last = FT.descendantForBytes.go ft rs re nm f2 k last := by
  intro _ info kids k par dep hg _ f1 f2 last h1 h2
  rw [ftgo_eq_descend, ftgo_eq_descend]
  exact ft_descend_fuel _ _ _ hg f1 f2 last h1 h2

theorem ftgo_eq_vgoA (lang : Lang) (ft : FT) (nm : Bool) (rs re : Nat) (hr : rs < re) : ∀ (f : Nat) (info : VInfo) (kids : List VTree) (k : Nat)
    (par : Option Nat) (dep : Nat), GoodAt ft.toList (.mk info kids) k par dep → QQ lang (.mk info kids) → ∀ (last : Nat),
    refOf (ft.node (FT.descendantForBytes.go ft rs re nm f k last)).info =
      vgoA lang (!nm) rs re f (refOf info) (refOf (ft.node last).info) := by
  intro f info kids k par dep hg hq last
  rw [ftgo_eq_descend, vgoA_eq_descend]
  exact ft_descend_vis _ _ _ _ _ _ (ft_tests_flag nm hr) f hg hq last

/-- For either flag (`nm = true`: the NAMED function), root summarized
and parser-shaped, `ft` the preorder array of `flatten`, a NON-EMPTY byte range and fuel covering the raw tree: the
port of `ts_node_(named_)descendant_for_byte_range(root, rs, re)` returns exactly the `TSNode` of the entry
`FT.descendantForBytes 0 rs re nm` designates.  (`nm = false` is `descendant_for_byte_range_ft_spec`.) -/
theorem named_descendant_for_byte_range_ft_spec (lang : Lang) (nm : Bool) (root : Tree) (rootId : Nat) (ps : Option Nat) (fuel rs re : Nat)
    (hs : Summarized lang root) (hsh : shapeOK ps root = true) (hr : rs < re) :
    let ft : FT := flatOf (flatten lang root rootId)
    root.size ≤ fuel →
    descendantForByteRangePort lang fuel (refOf (ft.node 0).info) rs re (!nm) =
      (ft.descendantForBytes 0 rs re nm).map (fun j => refOf (ft.node j).info) := by
  intro ft hfuel
  have ht := ft_root_t lang root rootId
  rw [descendant_for_byte_range_spec_anon lang fuel _ rs re (!nm) hr]
  simp only [FT.descendantForBytes, show ¬ rs > re by omega, if_false, Option.map_some, Option.some.injEq]
  rw [ftgo_eq_descend, dfrIdealA_eq_descend]
  refine ft_search_spec lang root rootId ps hs hsh _ _ _ _ (reachB re) (afterB rs) _ _ fuel hfuel (ft_tests_flag nm hr) (fun F hF => ?_)
  exact vis_eq_raw_mono (rel_of_hidden lang (!nm)) (monotone_bytes rs re hr) _ (by rw [ht]; exact hF)
    (by rw [ht]; exact sized_of_summarized lang root hs)

/-- Non-vacuity: the hypotheses hold on the demo tree (named flag, range [1, 2]). -/
example := named_descendant_for_byte_range_ft_spec C02.demoLang true pvRoot.t pvRoot.id none 8 1 2 pvRoot_summarized pvRoot_shape (by decide) (by decide)

end TsVerif.C06
