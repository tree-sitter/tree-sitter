import TsVerif.C06.CursorProps
/-!
# C06 — the cursor's descendant index and `ts_tree_cursor_goto_descendant`

`descendant_index_spec`: one level of the index the cursor reports, counted by enumeration (`preCount`).  `goto_descendant_spec`:
the port ascends to an entry that contains the goal (`ascend_spec`), and `visible_descendant_count` is the total the iterator
accumulates (`vdc_eq_descBefore`).
-/
open TsGen TsVerif TsVerif.C02 TsVerif.C06
namespace TsVerif.C06

/-- Number of visible nodes in the subtrees of the raw children `kids`, counted by enumeration. -/
def preCount (lang : Lang) (pid : Nat) : List Tree → Nat → Nat
  | [], _ => 0
  | c :: rest, si =>
    (countDesc lang c + (if (c.data.visible || (!c.data.extra && lang.aliasAt pid si != 0)) then 1 else 0)) +
      preCount lang pid rest (if c.data.extra then si else si + 1)

theorem descBefore_eq_preCount (lang : Lang) (pid : Nat) : ∀ (kids : List Tree) (si : Nat) (ps : Option Nat),
    SummarizedL lang kids → shapeOKL ps kids = true → descBefore lang pid kids si = preCount lang pid kids si
  | [], _, _, _, _ => rfl
  | c :: rest, si, ps, hs, hsh => by
    rw [summarizedL_cons] at hs
    have hsh := shapeOKL_cons hsh
    simp only [descBefore, preCount]
    rw [descBefore_eq_preCount lang pid rest _ ps hs.2 hsh.2]
    have hcnt := (summarize_counts lang c ps hs.1 hsh.1).2.2
    have hv : vdc c = countDesc lang c := by
      unfold vdc
      split
      · obtain ⟨cd, ck⟩ := c
        simp only [Tree.kids] at *
        have : ck = [] := by simpa using ‹ck.isEmpty = true›
        subst this
        simp [countDesc, countDescKids]
      · exact hcnt
    rw [hv]

/-- Under the stack invariant and the summaries, the descendant index the
cursor reports for an entry is the descendant index of the entry below it, plus one if that entry
is a visible node, plus the number of visible nodes (counted by enumeration) in the subtrees of the
raw siblings before it (one level; summed along the stack this is the preorder position among the visible nodes of the
cursor's root, which no theorem states). -/
theorem descendant_index_spec (lang : Lang) (e p : Entry) (rest : List Entry) (ps : Option Nat)
    (h : CursorInv lang (e :: p :: rest)) (hs : Summarized lang p.t) (hsh : shapeOK ps p.t = true) :
    e.descIdx = p.descIdx + (if isEntryVisible lang p rest.head? then 1 else 0) +
      preCount lang p.t.data.productionId (p.t.kids.take e.childIndex) 0 := by
  obtain ⟨⟨_, _, hd⟩, _⟩ := h
  rw [hd]
  rw [descBefore_eq_preCount lang _ _ 0 _ (summarizedL_take lang _ _ (summarizedL_kids lang p.t hs))
    (shapeOKL_take _ _ _ (shapeOKL_kids ps p.t hsh))]

/-- The entry's subtree contains the visible node with preorder index `goal`. -/
def Contains (lang : Lang) (goal : Nat) (e : Entry) (p? : Option Entry) : Prop :=
  e.descIdx ≤ goal ∧ goal < e.descIdx + (if isEntryVisible lang e p? then 1 else 0) + vdc e.t

/-- `goto_descendant`'s scan: among the remaining children the first whose cumulative count passes
the goal contains the goal. -/
theorem gdScan_spec (lang : Lang) (goal base : Nat) : ∀ (fuel : Nat) (it : Iter), IterOK lang base it →
    it.descIdx ≤ goal →
    goal < it.descIdx + descBefore lang it.parent.data.productionId (it.parent.kids.drop it.childIndex) it.si →
    it.parent.kids.length - it.childIndex < fuel →
    ∃ e vis, gotoDescendant.scan lang goal fuel it = some (e, vis) ∧ EntryOK lang it.parent base e ∧
      vis = (e.t.data.visible || (!e.t.data.extra && lang.aliasAt it.parent.data.productionId e.si != 0)) ∧
      e.descIdx ≤ goal ∧ goal < e.descIdx + (if vis then 1 else 0) + vdc e.t := by
  intro fuel
  induction fuel with
  | zero => intro it _ _ _ hf; omega
  | succ fuel ih =>
    intro it hok hle hlt hf
    cases hc : it.parent.kids[it.childIndex]? with
    | none =>
      rw [List.drop_eq_nil_of_le (List.getElem?_eq_none_iff.mp hc)] at hlt
      simp only [descBefore] at hlt
      omega
    | some c =>
      rw [drop_eq_cons _ _ _ hc] at hlt
      simp only [descBefore] at hlt
      have hd : (nextIter lang it c).descIdx = it.descIdx + vdc c + (if visOf lang it c then 1 else 0) := rfl
      unfold visOf at hd
      unfold gotoDescendant.scan
      rw [iterNext_some lang it c hok.1 hc]
      simp only
      by_cases hgt : (nextIter lang it c).descIdx > goal
      · rw [if_pos hgt]
        refine ⟨entryOf it c, visOf lang it c, rfl, entryOf_ok lang base it c hok hc, rfl, hle, ?_⟩
        show goal < it.descIdx + (if visOf lang it c then 1 else 0) + vdc c
        unfold visOf
        omega
      · rw [if_neg hgt]
        have hlen := lt_of_getElem?_some _ _ _ hc
        exact ih (nextIter lang it c) (nextIter_ok lang base it c hok hc) (by omega)
          (by simp only [nextIter_parent, nextIter_childIndex, nextIter_si]; omega)
          (by simp only [nextIter_parent, nextIter_childIndex]; omega)

/-- What one child adds to the parent's `visible_descendant_count` is what the cursor's iterator adds
to its descendant index while passing it.  `aliasedAt` of the summary also asks for a non-zero symbol, which the iterator does
not test; they agree by the clause of `shapeOK` that symbol 0 occurs only on extras. -/
theorem childCounts_desc (lang : Lang) (pid si : Nat) (c : Tree) (ps : Option Nat)
    (hs : Summarized lang c) (hsh : shapeOK ps c = true) :
    (childCounts lang pid si c).2.2 =
      vdc c + (if (c.data.visible || (!c.data.extra && lang.aliasAt pid si != 0)) then 1 else 0) := by
  obtain ⟨cd, ck⟩ := c
  rw [summarized_mk] at hs
  have hend : cd.symbol = 0 → cd.extra = true := shapeOK_end hsh
  have hleaf : ck = [] → cd.visibleDescendantCount = 0 := fun h => (hs.1 h).2.2.2
  unfold childCounts aliasedAt vdc
  simp only [Tree.data, Tree.kids]
  by_cases hx : cd.extra = true
  · by_cases hv : cd.visible = true
    · cases ck with
      | nil => simp [hx, hv, hleaf rfl]
      | cons a b => simp [hx, hv]
    · cases ck with
      | nil => simp [hx, hv, hleaf rfl]
      | cons a b => simp [hx, hv]
  · have hs0 : cd.symbol ≠ 0 := fun h => hx (hend h)
    by_cases ha : lang.aliasAt pid si = 0
    · by_cases hv : cd.visible = true
      · cases ck with
        | nil => simp [hx, hv, ha, hleaf rfl]
        | cons a b => simp [hx, hv, ha]
      · cases ck with
        | nil => simp [hx, hv, ha, hleaf rfl]
        | cons a b => simp [hx, hv, ha]
    · cases ck with
      | nil => simp [hx, ha, hs0, hleaf rfl]
      | cons a b => simp [hx, ha, hs0]

theorem sumSI_desc (lang : Lang) (pid : Nat) : ∀ (kids : List Tree) (si : Nat) (ps : Option Nat),
    SummarizedL lang kids → shapeOKL ps kids = true →
    sumSI (fun si c => (childCounts lang pid si c).2.2) kids si = descBefore lang pid kids si
  | [], _, _, _, _ => rfl
  | c :: rest, si, ps, hs, hsh => by
    rw [summarizedL_cons] at hs
    have hsh := shapeOKL_cons hsh
    simp only [sumSI, descBefore]
    rw [childCounts_desc lang pid si c ps hs.1 hsh.1, sumSI_desc lang pid rest _ ps hs.2 hsh.2]

theorem vdc_eq_descBefore (lang : Lang) (t : Tree) (ps : Option Nat) (hs : Summarized lang t) (hsh : shapeOK ps t = true) :
    vdc t = descBefore lang t.data.productionId t.kids 0 := by
  obtain ⟨d, kids⟩ := t
  have hcnt := (summarized_node_counts lang d kids hs).2.2
  unfold vdc
  simp only [Tree.kids, Tree.data]
  cases hk : kids with
  | nil => simp [descBefore]
  | cons c rest =>
    rw [← hk]
    have : kids.isEmpty = false := by simp [hk]
    simp only [this, Bool.false_eq_true, if_false]
    rw [hcnt, sumSI_desc lang d.productionId kids 0 (some d.symbol) ((summarized_mk lang d kids).mp hs).2.2 (shapeOK_kids hsh)]


theorem gdDescend_spec (lang : Lang) (goal : Nat) : ∀ (fuel : Nat) (top : Entry) (rest : List Entry) (ps : Option Nat),
    CursorInv lang (top :: rest) → Summarized lang top.t → shapeOK ps top.t = true →
    Contains lang goal top rest.head? → top.t.size ≤ fuel →
    CursorInv lang (gotoDescendant.descend lang goal fuel (top :: rest)) ∧
    ∃ e r, gotoDescendant.descend lang goal fuel (top :: rest) = e :: r ∧ e.descIdx = goal ∧
      isEntryVisible lang e r.head? = true := by
  intro fuel
  induction fuel with
  | zero =>
    intro top _ _ _ _ _ _ hsz
    have := tree_size_pos top.t
    omega
  | succ fuel ih =>
    intro top rest ps hinv hs hsh hcont hsz
    obtain ⟨hle, hlt⟩ := hcont
    unfold gotoDescendant.descend
    simp only
    -- the answer is `top` itself exactly when it is visible with index `goal`
    have hself : top.descIdx + (if isEntryVisible lang top rest.head? then 1 else 0) > goal →
        CursorInv lang (top :: rest) ∧ ∃ e r, top :: rest = e :: r ∧ e.descIdx = goal ∧ isEntryVisible lang e r.head? = true := by
      intro hgt
      cases hv : isEntryVisible lang top rest.head? <;> simp only [hv, if_true, Bool.false_eq_true, if_false] at hgt
      · omega
      · exact ⟨hinv, top, rest, rfl, by omega, hv⟩
    by_cases hempty : top.t.kids.isEmpty = true
    · -- a leaf: `vdc = 0`, so it is the goal itself; its iterator is invalid and hands out nothing
      have hvdc : vdc top.t = 0 := by simp [vdc, hempty]
      have hd0 : (iterateChildren lang top rest.head?).descIdx = 0 := by simp [iterateChildren, hempty]
      rw [hvdc] at hlt
      rw [hd0, if_neg (Nat.not_lt_zero goal)]
      unfold gotoDescendant.scan
      rw [iterateChildren_invalid lang top rest.head? hempty]
      exact hself (by omega)
    · have hne := eq_false_of_ne_true hempty
      have hitok := iterateChildren_ok lang top rest.head? hne
      rw [iterateChildren_of_ne lang top rest.head? hne] at hitok ⊢
      simp only
      by_cases hgt : top.descIdx + (if isEntryVisible lang top rest.head? then 1 else 0) > goal
      · rw [if_pos hgt]
        exact hself hgt
      · rw [if_neg hgt]
        have htot := vdc_eq_descBefore lang top.t ps hs hsh
        obtain ⟨e, vis, hscan, heok, hvis, hele, helt⟩ := gdScan_spec lang goal _ (top.t.kids.length + 1) _ hitok
          (Nat.le_of_not_gt hgt) (by show goal < _ + descBefore lang _ (top.t.kids.drop 0) 0; rw [List.drop_zero, ← htot]; omega)
          (by show top.t.kids.length - 0 < _; omega)
        rw [hscan]
        simp only
        have hev : isEntryVisible lang e (some top) = vis := by
          rw [isEntryVisible_eq, hvis]; rfl
        by_cases hstop : (vis && e.descIdx == goal) = true
        · simp only [hstop, if_true]
          simp only [Bool.and_eq_true, beq_iff_eq] at hstop
          refine ⟨⟨heok, hinv⟩, e, top :: rest, rfl, hstop.2, ?_⟩
          simp only [List.head?_cons]
          rw [hev]; exact hstop.1
        · simp only [hstop, Bool.false_eq_true, if_false]
          have hmem := List.mem_of_getElem? heok.1
          have hsz' : e.t.size ≤ fuel := by
            have := sizeList_mem top.t.kids e.t hmem
            have := tree_size_kids top.t
            omega
          exact ih e (top :: rest) (some top.t.data.symbol) ⟨heok, hinv⟩
            (summarized_of_mem lang _ e.t (summarizedL_kids lang top.t hs) hmem)
            (shapeOK_of_mem _ _ e.t (shapeOKL_kids ps top.t hsh) hmem)
            ⟨hele, by simp only [List.head?_cons, hev]; exact helt⟩ hsz'

/-- The cursor's root subtree contains the goal. -/
def bottomContains (lang : Lang) (goal : Nat) : List Entry → Prop
  | [] => False
  | [e] => Contains lang goal e none
  | _ :: p :: rest => bottomContains lang goal (p :: rest)

theorem ascend_spec (lang : Lang) (goal : Nat) : ∀ (stack : List Entry), CursorInv lang stack → StackOK lang stack →
    bottomContains lang goal stack →
    CursorInv lang (gotoDescendant.ascend lang goal stack) ∧ StackOK lang (gotoDescendant.ascend lang goal stack) ∧
    ∃ e r, gotoDescendant.ascend lang goal stack = e :: r ∧ Contains lang goal e r.head?
  | [], h, _, _ => by simp [CursorInv] at h
  | [e], hinv, hok, hb => by
    unfold gotoDescendant.ascend
    simp only [List.isEmpty_nil, if_true, ite_self]
    exact ⟨hinv, hok, e, [], rfl, hb⟩
  | e :: p :: rest, hinv, hok, hb => by
    unfold gotoDescendant.ascend
    simp only
    by_cases hc : (decide (e.descIdx ≤ goal) && decide (e.descIdx + (if isEntryVisible lang e (p :: rest).head? then 1 else 0) + vdc e.t > goal)) = true
    · simp only [hc, if_true]
      simp only [Bool.and_eq_true, decide_eq_true_eq] at hc
      exact ⟨hinv, hok, e, p :: rest, rfl, hc.1, hc.2⟩
    · simp only [hc, Bool.false_eq_true, if_false, List.isEmpty_cons]
      exact ascend_spec lang goal (p :: rest) hinv.2 (by unfold StackOK at hok; exact hok.2.2.2) hb

/-- On a cursor satisfying the invariant over summarized parser-shaped
subtrees, whose root subtree contains the visible node with preorder index `goal`, the port of
`ts_tree_cursor_goto_descendant(goal)` ends on a VISIBLE entry whose descendant index is `goal`,
and the stack invariant still holds. -/
theorem goto_descendant_spec (lang : Lang) (goal : Nat) (c : Cursor)
    (hinv : CursorInv lang c.stack) (hok : StackOK lang c.stack) (hb : bottomContains lang goal c.stack) :
    CursorInv lang (gotoDescendant lang goal c).stack ∧
    ∃ e r, (gotoDescendant lang goal c).stack = e :: r ∧ e.descIdx = goal ∧ isEntryVisible lang e r.head? = true := by
  obtain ⟨hinv', hok', e, r, hst, hcont⟩ := ascend_spec lang goal c.stack hinv hok hb
  unfold gotoDescendant
  simp only
  rw [hst]
  have hcb : (decide (e.descIdx ≤ goal) && decide (e.descIdx + (if isEntryVisible lang e r.head? then 1 else 0) + vdc e.t > goal)) = true := by
    simp only [Bool.and_eq_true, decide_eq_true_eq]
    exact ⟨hcont.1, hcont.2⟩
  simp only [hcb, Bool.not_true, Bool.false_eq_true, if_false]
  rw [hst] at hinv' hok'
  have hok'' := hok'
  unfold StackOK at hok''
  obtain ⟨hs, ⟨ps, hsh⟩, _, _⟩ := hok''
  exact gdDescend_spec lang goal (topSize (e :: r)) e r ps hinv' hs hsh hcont (by simp [topSize])

end TsVerif.C06
