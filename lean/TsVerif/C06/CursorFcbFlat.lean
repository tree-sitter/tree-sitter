import TsVerif.C06.CursorIter
import TsVerif.C06.FlatProps
/-!
# C06 — `cfcIdeal` is the search on the ordered tree (`FT.cursorFirstChildFor`)

`cursor_first_child_for_spec` (CursorFcb.lean) shows that without a dead end the port of
`ts_tree_cursor_goto_first_child_for_byte/point` is the plain search `cfcIdeal`.  This file proves the remaining
link: `cfcIdeal` — a walk with cursor iterators, counting skipped hidden children by their cached
`visible_child_count` — finds exactly the FIRST of the node's visible children (`enumRefs`, the `TSNode`s
`ts_node_child` hands out, which are the children `flatten` gives the node) whose end lies after the goal in bytes
AND in row/column order, together with its index in that list (`firstAt`).  The scan of one level is
`cfcScanIdeal_flat`: a visible child is one element of the list, a hidden one stands for the list of its own visible
children (`firstAt_append`), which all end inside it and number `vcc`.
-/
namespace TsVerif.C06
open TsGen TsVerif TsVerif.C02

/-- "ends after the goal": in bytes and in row/column order (the test of `goto_first_child_for_byte_and_point`). -/
def goalAfter (gb : Nat) (gp : TSPoint) (l : Length) : Bool := l.bytes > gb && point_gt l.extent gp

theorem goalAfter_mono (gb : Nat) (gp : TSPoint) (a b : Length) (h : lle a b) (hb : goalAfter gb gp b = false) :
    goalAfter gb gp a = false := by
  obtain ⟨h1, h2⟩ := h
  simp only [goalAfter, Bool.and_eq_false_iff, decide_eq_false_iff_not, point_gt, point_lte, decide_eq_true_eq] at *
  exact hb.imp (fun _ => by omega) fun _ => by omega

/-- What is compared: the index, and the entry / `TSNode` found (subtree, slot id, start position). -/
def projE (r : Nat × List Entry) : Nat × Option (Tree × Nat × Length) := (r.1, r.2.head?.map fun e => (e.t, e.id, e.pos))
def pickR (refs : List NodeRef) (idx i : Nat) : Nat × Option (Tree × Nat × Length) :=
  (idx + i, (refs[i]?).map fun r => (r.t, r.id, r.start))

/-- The first `TSNode` of `l` that satisfies `p`, with its index counted from `idx`. -/
def firstAt (p : NodeRef → Bool) (l : List NodeRef) (idx : Nat) : Option (Nat × Option (Tree × Nat × Length)) :=
  (l.findIdx? p).map (pickR l idx)

section
variable {p : NodeRef → Bool} {l : List NodeRef} {idx : Nat}

theorem firstAt_cons {r : NodeRef} :
    firstAt p (r :: l) idx = if p r = true then some (idx, some (r.t, r.id, r.start)) else firstAt p l (idx + 1) := by
  unfold firstAt
  rw [List.findIdx?_cons]
  split
  · rfl
  · rw [Option.map_map]
    congr 1
    funext i
    simp only [Function.comp, pickR, List.getElem?_cons_succ, Nat.add_assoc, Nat.add_comm 1 i]

theorem firstAt_none (h : ∀ x ∈ l, p x = false) : firstAt p l idx = none := by
  unfold firstAt
  rw [List.findIdx?_eq_none_iff.mpr h]
  rfl

theorem firstAt_append : ∀ {a b : List NodeRef} {idx : Nat},
    firstAt p (a ++ b) idx = (firstAt p a idx).or (firstAt p b (idx + a.length))
  | [], _, _ => rfl
  | r :: a, b, idx => by
    rw [List.cons_append, firstAt_cons, firstAt_cons, firstAt_append (a := a), List.length_cons, Nat.add_assoc, Nat.add_comm 1]
    split
    · rfl
    · rfl

end

theorem enumRefs_eq (lang : Lang) (t : Tree) (start : Length) :
    enumRefs lang t start = enumRefsKids lang t.data.productionId t.data.addr t.kids.length t.kids start 0 0 := by
  obtain ⟨d, k⟩ := t
  rw [enumRefs]
  rfl

theorem vcc_eq_refs (lang : Lang) (t : Tree) (start : Length) (ps : Option Nat) (hs : Summarized lang t) (hsh : shapeOK ps t = true) :
    vcc t = (enumRefs lang t start).length := by
  rw [← List.length_map (f := fun r => (r.t, r.alias)), enumRefs_proj]
  exact vcc_eq_length lang t ps hs hsh

theorem visOf_eq_relevant (lang : Lang) (it : Iter) (c : Tree) (id : Nat) (start : Length) :
    visOf lang it c =
      NodeRef.relevant lang ⟨c, if c.data.extra then 0 else lang.aliasAt it.parent.data.productionId it.si, id, start⟩ true :=
  (vis_alias c _).symm

section
variable {lang : Lang} {gb : Nat} {gp : TSPoint} {inner : List Entry → Nat → Option (Nat × List Entry)} {st : List Entry}
  {fuel f : Nat} {it : Iter} {idx : Nat} {ps : Option Nat}

theorem cfcScanIdeal_none (h : iterNext lang it = none) :
    cfcScanIdeal lang gb gp inner st fuel it idx = none := by
  cases fuel with
  | zero => rfl
  | succ fuel =>
    unfold cfcScanIdeal
    rw [h]

theorem cfcScanIdeal_some {c : Tree} (hv : it.valid = true) (hc : it.parent.kids[it.childIndex]? = some c) :
    cfcScanIdeal lang gb gp inner st (fuel + 1) it idx =
      if visOf lang it c = true then
        if goalAfter gb gp (length_add it.pos c.data.size) = true then some (idx, entryOf it c :: st)
        else cfcScanIdeal lang gb gp inner st fuel (nextIter lang it c) (idx + 1)
      else
        (if goalAfter gb gp (length_add it.pos c.data.size) = true ∧ vcc c > 0 then inner (entryOf it c :: st) idx else none).or
          (cfcScanIdeal lang gb gp inner st fuel (nextIter lang it c) (idx + vcc c)) := by
  conv => lhs; unfold cfcScanIdeal
  rw [iterNext_some lang it c hv hc]
  show (if goalAfter gb gp (length_add it.pos c.data.size) = true then _ else _) = _
  rw [show (entryOf it c).t = c from rfl]
  cases visOf lang it c with
  | true => rfl
  | false =>
    simp only [Bool.false_eq_true, if_false]
    by_cases hg : goalAfter gb gp (length_add it.pos c.data.size) = true
    · by_cases hv0 : vcc c > 0
      · rw [if_pos hg, if_pos hv0, if_pos ⟨hg, hv0⟩]
        cases inner (entryOf it c :: st) idx with
        | none => rfl
        | some r => rfl
      · rw [if_pos hg, if_neg hv0, if_neg (fun h => hv0 h.2), Nat.eq_zero_of_not_pos hv0]
        rfl
    · rw [if_neg hg, if_neg (fun h => hg h.1)]
      rfl

/-- One level of `cfcIdeal_flat`.  The third hypothesis ties the two position systems: the cursor's iterator stands at the
START of the child it is about to hand out, `enumRefsKids` (node.c's iterator) at the END of the previous one, `pos`. -/
theorem cfcScanIdeal_flat
    (ih : ∀ (e : Entry) (idx : Nat), Summarized lang e.t → shapeOK ps e.t = true → e.t.size ≤ f →
      (cfcIdeal lang gb gp f (e :: st) idx).map projE =
        firstAt (fun r => goalAfter gb gp r.endLen) (enumRefs lang e.t e.pos) idx)
    (ks : List Tree) : ∀ (it : Iter) (pos : Length) {idx : Nat},
    it.valid = true → it.parent.kids.drop it.childIndex = ks →
    (∀ c r, ks = c :: r → it.pos = if it.childIndex > 0 then length_add pos c.data.padding else pos) →
    SummarizedL lang ks → shapeOKL ps ks = true → Tree.sizeList ks ≤ f →
    (cfcScanIdeal lang gb gp (cfcIdeal lang gb gp f) st (ks.length + 1) it idx).map projE =
      firstAt (fun r => goalAfter gb gp r.endLen)
        (enumRefsKids lang it.parent.data.productionId it.parent.data.addr it.parent.kids.length ks pos it.si it.childIndex)
        idx := by
  induction ks with
  | nil =>
    intro it _ _ _ hdrop _ _ _ _
    rw [cfcScanIdeal_none (iterNext_none lang it (List.getElem?_eq_none_iff.mpr (List.drop_eq_nil_iff.mp hdrop)))]
    rfl
  | cons c r hrec =>
    intro it pos idx hv hdrop hpos hs hsh hsz
    obtain ⟨hc, hdrop'⟩ := getElem?_of_drop hdrop
    replace hsh := Bool.and_eq_true_iff.mp hsh
    have hnext := fun i => hrec (nextIter lang it c) (length_add it.pos c.data.size) (idx := i) hv hdrop'
      (by
        intro c2 r2 hr
        have h2 := (getElem?_of_drop (hr ▸ hdrop')).1
        simp only [nextIter, h2, Nat.succ_pos, if_true, gt_iff_lt])
      hs.2 hsh.2 (Nat.le_trans (Nat.le_add_left _ _) hsz)
    rw [enumRefsKids, ← hpos c r rfl, ← visOf_eq_relevant lang it c, List.length_cons,
      cfcScanIdeal_some hv hc]
    cases visOf lang it c with
    | true =>
      rw [if_pos rfl, if_pos rfl, List.singleton_append, firstAt_cons]
      by_cases hg : goalAfter gb gp (length_add it.pos c.data.size) = true
      · rw [if_pos hg]
        exact (if_pos hg).symm
      · rw [if_neg hg]
        exact (hnext (idx + 1)).trans (if_neg hg).symm
    | false =>
      rw [if_neg Bool.false_ne_true, if_neg Bool.false_ne_true, Option.map_or, firstAt_append,
        ← vcc_eq_refs lang c it.pos ps hs.1 hsh.1, hnext (idx + vcc c)]
      refine congrArg (Option.or · _) ?_
      by_cases hin : goalAfter gb gp (length_add it.pos c.data.size) = true ∧ vcc c > 0
      · rw [if_pos hin]
        exact ih (entryOf it c) idx hs.1 hsh.1 (Nat.le_trans (Nat.le_add_right _ _) hsz)
      · -- not entered: its visible children end inside it, or there are none
        rw [if_neg hin]
        refine (firstAt_none fun x hx => ?_).symm
        by_cases hg : goalAfter gb gp (length_add it.pos c.data.size) = true
        · exact absurd ⟨hg, vcc_eq_refs lang c it.pos ps hs.1 hsh.1 ▸ List.length_pos_of_mem hx⟩ hin
        · exact goalAfter_mono gb gp _ _ (enumRefs_withinL lang c it.pos (sized_of_summarized lang c hs.1) x hx)
            ((Bool.not_eq_true _).mp hg)

end

/-- For every language, goal, stack `top :: rest` whose top subtree is summarized and
parser-shaped: the plain search `cfcIdeal` from that stack returns the index (counted from `idx`) and the entry
(subtree, slot id, position) of the FIRST element of `enumRefs lang top.t top.pos` — the visible children of the
node as `TSNode`s — whose end lies after the goal in bytes and in row/column order; nothing iff there is none. -/
theorem cfcIdeal_flat (lang : Lang) (gb : Nat) (gp : TSPoint) : ∀ (f : Nat) (top : Entry) (rest : List Entry) (idx : Nat) (ps : Option Nat),
    Summarized lang top.t → shapeOK ps top.t = true → top.t.size ≤ f →
    (cfcIdeal lang gb gp f (top :: rest) idx).map projE =
      ((enumRefs lang top.t top.pos).findIdx? (fun r => goalAfter gb gp r.endLen)).map (pickR (enumRefs lang top.t top.pos) idx) := by
  intro f
  induction f with
  | zero =>
    intro top _ _ _ _ _ hsz
    exact absurd (Nat.le_trans (tree_size_pos top.t) hsz) (Nat.not_succ_le_zero 0)
  | succ f ihf =>
    intro top rest idx ps hs hsh hsz
    rw [cfcIdeal, enumRefs_eq]
    by_cases hne : top.t.kids.isEmpty = true
    · rw [cfcScanIdeal_none (iterateChildren_invalid lang top rest.head? hne), List.isEmpty_iff.mp hne]
      rfl
    · unfold iterateChildren
      rw [if_neg hne]
      rw [tree_size_kids, Nat.add_comm 1] at hsz
      exact cfcScanIdeal_flat (fun e i => ihf e (top :: rest) i (some top.t.data.symbol)) top.t.kids _ top.pos rfl rfl
        (fun _ _ _ => rfl)
        (summarizedL_kids lang top.t hs) (shapeOKL_kids ps top.t hsh) (Nat.le_of_succ_le_succ hsz)

theorem findIdx_congr_mem {α : Type} {p q : α → Bool} : ∀ {l : List α}, (∀ x ∈ l, p x = q x) → l.findIdx? p = l.findIdx? q
  | [], _ => rfl
  | a :: l, h => by
    simp only [List.findIdx?_cons, h a (by simp), findIdx_congr_mem (l := l) fun x hx => h x (by simp [hx])]

/-- The evaluated cross-check `cfcIdeal = FT.cursorFirstChildFor` as a theorem,
in the form the driver evaluates it: for EVERY entry `k` of the preorder array of `flatten` (root summarized and
parser-shaped), every goal byte / point and every cursor stack whose top entry is that node (same raw subtree, same
start position — a hypothesis: no theorem says that the moves of the cursor keep `Entry.pos` right), the plain search `cfcIdeal` returns the index and the node id that `FT.cursorFirstChildFor k`
designates — nothing iff nothing.  With `cursor_first_child_for_spec` (port = `cfcIdeal` without a dead end):
`ts_tree_cursor_goto_first_child_for_byte/point` = the first child of the ordered tree ending after the goal. -/
theorem cursor_first_child_for_ft_spec (lang : Lang) (root : Tree) (rootId : Nat) (ps : Option Nat) (fuel k gb : Nat) (gp : TSPoint)
    (hs : Summarized lang root) (hsh : shapeOK ps root = true) :
    let ft : FT := flatOf (flatten lang root rootId)
    k < ft.size → ∀ (top : Entry) (rest : List Entry), top.t = (ft.node k).info.raw → top.pos = (ft.node k).info.start →
    top.t.size ≤ fuel →
    (cfcIdeal lang gb gp fuel (top :: rest) 0).map (fun r => (r.1, r.2.head?.map (·.id))) =
      (ft.cursorFirstChildFor k gb gp).map (fun ij => (ij.1, some (ft.node ij.2).info.id)) := by
  intro ft hk top rest ht hp hf
  obtain ⟨info, kids, par, dep, hg, hq⟩ := ft_all_good lang root rootId ps hs hsh k hk
  simp only [good_node ft info kids k par dep hg] at ht hp
  obtain ⟨hrefs, _⟩ := ft_kids_refs lang ft info kids k par dep hg hq
  have hstop := ft_kids_stop lang ft info kids k par dep hg hq
  obtain ⟨_, hsv, psv, hshv⟩ := hq
  have hflat := cfcIdeal_flat lang gb gp fuel top rest 0 psv (ht ▸ hsv) (ht ▸ hshv) hf
  -- the children of entry `k` stand for `enumRefs`, and the two tests agree on them
  rw [ht, hp, ← hrefs, List.findIdx?_map, findIdx_congr_mem (q := fun j => decide (ft.eb j > gb) && point_gt (ft.ep j) gp)
    fun j hj => by simp only [Function.comp, goalAfter, FT.eb, FT.ep, hstop j hj]] at hflat
  have hl : (fun r : Nat × List Entry => (r.1, r.2.head?.map (·.id))) =
      (fun (x : Nat × Option (Tree × Nat × Length)) => (x.1, x.2.map (·.2.1))) ∘ projE := by
    funext r
    simp only [projE, Function.comp, Option.map_map]
    rfl
  rw [hl, ← Option.map_map, hflat]
  unfold FT.cursorFirstChildFor
  simp only
  cases hfi : (ft.kidsOf k).findIdx? (fun j => decide (ft.eb j > gb) && point_gt (ft.ep j) gp) with
  | none => rfl
  | some i =>
    have hlt := (List.findIdx?_eq_some_iff_findIdx_eq.mp hfi).1
    simp only [Option.map_some, pickR, Nat.zero_add, List.getElem?_map, List.getElem?_eq_getElem hlt, List.getD_eq_getElem?_getD,
      Option.getD_some, refOf]

/-! ## Non-vacuity: `cwRoot` = rule[tok, _hidden[tok, tok], tok] (4 visible children of one byte each) -/

def cffTop : Entry := { t := cwRoot, id := 1, pos := length_zero }

example : (enumRefs C02.demoLang cwRoot length_zero).map (·.endLen.bytes) = [1, 2, 3, 4] := by decide
/-- goal byte 1: the first child ending after byte 1 is child 1 — the first token INSIDE the hidden node -/
example : (cfcIdeal C02.demoLang 1 POINT_ZERO 7 [cffTop] 0).map (fun r => (r.1, r.2.length)) = some (1, 3) := by decide
example : ((enumRefs C02.demoLang cwRoot length_zero).findIdx? (fun r => goalAfter 1 POINT_ZERO r.endLen)) = some 1 := by decide

end TsVerif.C06
