import TsVerif.C06.Sexp
import TsVerif.C06.Enum
/-!
# C06 — Node and cursor navigation agree with the tree's structure

Property text (properties.jsonl): *On any tree, every way of reaching a node gives the same node
and the same facts: child by index, named child, parent, next/previous (named) sibling, child by
field, field name of a child, first child for a byte, smallest descendant for a byte or point
range, child-containing-descendant, and the cursor moves (first/last child, next/previous
sibling, parent, goto-descendant, first-child-for-byte/point, depth, descendant index, field) are
all consistent with the single ordered tree obtained by a depth-first walk.  The node's
S-expression is the rendering of that same tree.*

Spec: `flatten lang root` (Model.lean) — the ordered tree of visible nodes; `enumChildren` (C02)
is its child list on raw subtrees.  Code-shaped models: `nodeChild` (port of `ts_node__child`),
`Cursor.lean` (port of tree_cursor.c with the three departures of the reverse iterator as
`Quirks`).  `Summarized`/`shapeOK` are C02's predicates (checked on every real tree).

Clause → theorem.  P = proved ∀-theorem over the code-shaped port (every port is tied to the real API
by correspondence on every answer); P(h) = proved under decidable hypotheses h that are EVALUATED together with the conclusion on every
real tree (nodes failing h are counted as outside and coincide with the known findings F1–F11 of notes/C06.md); J = decided by the Lean
judge against `flatten` on every node of every explored tree, not proved.  All P/P(h) about node.c assume `Summarized` + `shapeOK` of
C02 (evaluated on every tree by ./check C02).  "Same node" is stated as: same raw subtree and alias (and slot id / position where
`TSNode`s are compared exactly).

* "the single ordered tree obtained by a depth-first walk" .... the spec `flatten`; P: `flatten_hered` (at every node its children are
  `enumChildren` of the raw subtree), `flattenKids_refs` (they ARE the `TSNode`s `ts_node_child` hands out), `number_spec` / `flatOf_spec` /
  `flatOf_good` / `ft_child_spec` (the judge's preorder array is that tree).  That the CURSOR's depth-first walk visits exactly the
  preorder of `flatten` is J (`walk`), with P for each single move (below)
* child by index ............................... P(h=∅): `child_spec`; with slot id and position, either flag: `nodeChild_refs`; child count `child_count_spec`
* named child .................................. P(h): `named_child_spec`, h = `anonLeafOK`
* parent ....................................... P(h): `parent_spec_partial` (non-empty node, h = `pathOK`: slot id unique along the search),
  `parent_spec_empty` (zero-width node, h = `psPathOK`); every relevant node of every real tree is inside; on `FT`: `nav_ft_spec(_empty)`
* next / previous sibling ...................... P(h): `next_sibling_spec_anon`, `prev_sibling_spec_anon` with `anon = true` (narrower:
  `next_sibling_spec_partial`, `next_sibling_spec_empty`, `prev_sibling_spec_partial`, `prev_sibling_spec_general`); h next = `nsPathOK` (no
  zero-width raw node follows at the node's end — fails = F4) + for an empty node `nsZwOKA`; h prev = `psPathOK` + `psZwOK` (fails = F10);
  in list form `node_nav_flat_spec(_empty)`, on `FT` `nav_ft_spec(_empty)`
* next / previous NAMED sibling ................ P(h): the same two theorems with `anon = false`, h additionally `anonLeafOK`; the link to
  `FT.next/prevSibling … namedOnly` is evaluated (0 differences), not proved
* child by field ............................... P(h): `child_by_field_id_spec_partial`, `child_by_field_id_ft_spec`, h = `cbfOK` (+ language
  premise `fieldMapsSorted`); fails below ERROR nodes = F8 and for an inherited entry on a VISIBLE child = F11 (`child_by_field_id_full_false`:
  without `cbfOK` the statement is false).  `child_by_field_name` = id lookup + this: J
* field name of a child ........................ P(h): `field_name_for_child_spec`, h = `hiddenExtraOK`; `field_name_for_named_child_spec`, h additionally `anonLeafOK`
* first child for a byte ....................... P(h): `first_child_for_byte_spec_anon` (both flags), `…_flat_spec_anon`, `…_ft_spec_anon`,
  h = `ndeNodeA` (no dead-end descent; fails = F5) and for the named flag `anonLeafOK`
* smallest descendant for a byte or point range  P for NON-EMPTY ranges, no hypothesis on the tree: `descendant_for_byte_range_spec_anon`,
  `descendant_for_point_range_spec_partial` (both flags); on `FT`: `descendant_for_byte_range_ft_spec`, `named_descendant_for_byte_range_ft_spec`,
  `descendant_for_point_range_ft_spec` (all four functions).  EMPTY byte ranges: P(h = `emptyOK`, exact on the data; fails = F6): `descendant_for_empty_byte_range_port`,
  `descendant_for_empty_byte_range_ft_spec` (`EmptyRange.lean`).  EMPTY point ranges: port = plain raw search, no hypothesis:
  `descendant_for_empty_point_range_port`, boundary rule `dfrIdealEP_boundary_partial`; on `FT` only via the byte search under `agreeEP`:
  `descendant_for_empty_point_range_ft_spec_partial` (`EmptyPointRange.lean`; = `FT.descendantForPoints` OPEN, J).  Receiver other than the root: the theorems hold for every receiver, the `FT` link is for the root
* child-containing-descendant .................. P(h): `child_with_descendant_spec_partial`, `child_with_descendant_spec_empty` (h as for parent)
* cursor first / last child .................... P: `cursor_first_child_spec`, `cursor_last_child_spec`; = node API `cursor_node_agree_first`
* cursor next sibling .......................... P(h): `cursor_next_sibling_spec`, `cursor_next_sibling_index_spec`, `cursor_node_agree_next`,
  h = `StackOK` / `IdxOK`, which `CursorInv` implies (`cursorInv_idx`, `cursorInv_linked`) and every move preserves
  (`gotoChild_preserves_inv`, `gotoNextSibling_preserves_inv`, `gotoPreviousSibling_preserves_inv`)
* cursor previous sibling ...................... P(h): `cursor_prev_sibling_spec` for the REPAIRED iterator (F1–F3 fixed in /repo;
  `iterPrev_undoes_iterNext`, `iterPrev_int8_stops`, `int8_witness` document the old defects), h = `CursorInv`, < 2³² children
* cursor parent ................................ P: `goto_parent_spec` (every stack), `goto_parent_undoes_child`, `next_sibling_keeps_parent`,
  `gotoParent_preserves_inv`; = `ts_node_parent`'s `parentOnPath`: P(h) `cursor_parent_is_parentOnPath_inv`, h = `CursorInv` (evaluated on every cursor)
* goto-descendant .............................. P(h): `goto_descendant_spec`, h = `CursorInv`
* cursor first-child-for-byte / -point ......... P(h): `cursor_first_child_for_spec` (file CursorFcb.lean), h = no dead end (`ndeCur`; fails = F9);
  `cfcIdeal_flat`, `cursor_first_child_for_ft_spec`: the plain search = first child of the ordered tree ending after the goal, with its index
* depth ........................................ P: `depth_spec`, `depth_child`, `depth_parent`; P(h = `StackOK`) `next_sibling_depth`
* descendant index ............................. P(h): `descendant_index_spec`, h = `CursorInv`
* field (cursor) ............................... P: `cursor_field_spec`
* "the node's S-expression is the rendering of that same tree" .. P(h): `sexp_spec`, h = `sexpOK` (fails with a hidden MISSING node = F7)
* positions / kind / flags of a node ........... J here; the geometry is C02's (`rowcol_by_newlines`, `spans_nested`)

Weak spots found on re-reading the statements against the English: (1) "same node" is (raw subtree, alias) in the sibling / parent /
field theorems, not the slot id — two structurally equal siblings are identified; the slot id is covered by correspondence and by
the exact-`TSNode` theorems (`flattenKids_refs`, `first_child_for_byte_ft_spec`, `descendant_for_byte_range_ft_spec`).  (2) The
node.c theorems quantify over raw paths below the receiver; that every node the API can return lies on such a path is by
construction of `flat_node_exists`, not a theorem about `TSNode` values coming from elsewhere (e.g. after `ts_node_edit`).  (3) Every
hypothesis h is about the particular tree, not derived from "the tree came out of the parser".  (4) "trees after edits and
re-parses", "cursors rooted at inner nodes" of the quantifier are covered by exploration (J), the theorems are per tree.
-/
namespace TsVerif.C06
open TsGen TsVerif TsVerif.C02

mutual
  /-- `ts_node__child(self, i, include_anonymous)` for either flag returns the `i`-th `TSNode` — subtree, alias, slot id and
  position — of the visible children that count for the flag (`enumRefs` filtered by `keepR`); for `include_anonymous = false`
  in trees whose unnamed visible nodes are leaves (`anonLeafOK`: the C code would descend into such a node through its
  `named_child_count`).  At each raw child the index is compared with what that child contributes (`contrib_count`). -/
  theorem nodeChild_refs (lang : Lang) (anon : Bool) : ∀ (t : Tree) (ps : Option Nat) (start : Length) (i : Nat),
      Summarized lang t → shapeOK ps t = true → (anon = true ∨ anonLeafOKKids lang t.kids t.data.productionId 0 = true) →
      nodeChild lang anon t start i = ((enumRefs lang t start).filter (keepR lang anon))[i]?
    | .mk d kids, ps, start, i, hs, hsh, hok => by
      rw [nodeChild, enumRefs]
      exact nodeChildKids_refs lang anon kids d.productionId d.addr kids.length start 0 0 i (some d.symbol)
        ((summarized_mk lang d kids).mp hs).2.2 (shapeOK_kids hsh) hok
  theorem nodeChildKids_refs (lang : Lang) (anon : Bool) : ∀ (kids : List Tree) (pid addr n : Nat) (pos : Length) (si k i : Nat)
      (ps : Option Nat), SummarizedL lang kids → shapeOKL ps kids = true → (anon = true ∨ anonLeafOKKids lang kids pid si = true) →
      nodeChildKids lang anon pid addr n kids pos si k i = ((enumRefsKids lang pid addr n kids pos si k).filter (keepR lang anon))[i]?
    | [], _, _, _, _, _, _, _, _, _, _, _ => by rw [nodeChildKids, enumRefsKids]; rfl
    | c :: rest, pid, addr, n, pos, si, k, i, ps, hs, hsh, hok => by
      rw [summarizedL_cons] at hs
      have hsh := shapeOKL_cons hsh
      obtain ⟨hac, har⟩ := aok_cons lang anon c rest pid si hok
      unfold alOf at hac
      have ihr := fun i' => nodeChildKids_refs lang anon rest pid addr n (length_add (if k > 0 then length_add pos c.data.padding else pos) c.data.size)
        (if c.data.extra then si else si + 1) (k + 1) i' ps hs.2 hsh.2 har
      rw [nodeChildKids, enumRefsKids, List.filter_append]
      generalize (if c.data.extra then 0 else lang.aliasAt pid si) = al at hac ⊢
      generalize (if k > 0 then length_add pos c.data.padding else pos) = cstart at ihr ⊢
      obtain ⟨hl, hn⟩ := contrib_count (nd := ⟨c, al, slotId addr n k, cstart⟩) hs.1 hsh.1 hac
      show (if isRelevant lang c al anon = true then _ else _) = (List.filter (keepR lang anon) (contribR lang ⟨c, al, slotId addr n k, cstart⟩) ++ _)[i]?
      rw [List.getElem?_append, hn, hl, show NodeRef.relevant lang ⟨c, al, slotId addr n k, cstart⟩ anon = isRelevant lang c al anon from rfl]
      by_cases hrel : isRelevant lang c al anon = true
      · rw [if_pos hrel, if_pos hrel, if_pos hrel]
        by_cases hi : i = 0
        · rw [if_pos hi, hi, if_pos Nat.one_pos]; rfl
        · rw [if_neg hi, if_neg (show ¬ i < 1 by omega), ihr]
      · rw [if_neg hrel, if_neg hrel, if_neg hrel]
        show (if i < relevantChildCount c anon then _ else _) = (if i < relevantChildCount c anon then _ else _)
        by_cases hi : i < relevantChildCount c anon
        · rw [if_pos hi, if_pos hi]
          exact nodeChild_refs lang anon c ps _ i hs.1 hsh.1 (aok_child lang anon c al hac)
        · rw [if_neg hi, if_neg hi, ihr]
          rfl
end

theorem refs_getElem_proj (lang : Lang) (anon : Bool) (l : List NodeRef) (i : Nat) :
    (((l.filter (keepR lang anon))[i]?).map fun r => (r.t, r.alias)) =
      ((l.map fun r => (r.t, r.alias)).filter (fun e => anon || entryNamed lang e))[i]? := by
  rw [← List.getElem?_map, List.filter_map]
  rfl

theorem nodeChild_flag (lang : Lang) (anon : Bool) (t : Tree) (ps : Option Nat) (start : Length) (i : Nat)
    (hs : Summarized lang t) (hsh : shapeOK ps t = true) (hok : anon = true ∨ anonLeafOKKids lang t.kids t.data.productionId 0 = true) :
    (nodeChild lang anon t start i).map (fun r => (r.t, r.alias)) =
      ((enumChildren lang t).filter (fun e => anon || entryNamed lang e))[i]? := by
  rw [nodeChild_refs lang anon t ps start i hs hsh hok, refs_getElem_proj, enumRefs_proj]

theorem nodeChildKids_flag (lang : Lang) (anon : Bool) (kids : List Tree) (pid addr n : Nat) (pos : Length) (si k i : Nat)
    (ps : Option Nat) (hs : SummarizedL lang kids) (hsh : shapeOKL ps kids = true) (hok : anon = true ∨ anonLeafOKKids lang kids pid si = true) :
    (nodeChildKids lang anon pid addr n kids pos si k i).map (fun r => (r.t, r.alias)) =
      ((enumKids lang pid kids si).filter (fun e => anon || entryNamed lang e))[i]? := by
  rw [nodeChildKids_refs lang anon kids pid addr n pos si k i ps hs hsh hok, refs_getElem_proj, enumRefsKids_proj]

/-- For every language, every summarized parser-shaped tree, every start position
and every index, the port of `ts_node__child(self, i, include_anonymous = true)` returns the
i-th entry (subtree and alias) of the enumeration of visible children, and null exactly beyond
its end. -/
theorem child_spec (lang : Lang) : ∀ (t : Tree) (ps : Option Nat) (start : Length) (i : Nat),
    Summarized lang t → shapeOK ps t = true →
    (nodeChild lang true t start i).map (fun r => (r.t, r.alias)) = (enumChildren lang t)[i]? := by
  intro t ps start i hs hsh
  simpa only [filter_anon_true] using nodeChild_flag lang true t ps start i hs hsh (Or.inl rfl)

theorem child_kids_spec (lang : Lang) : ∀ (kids : List Tree) (pid addr n : Nat) (pos : Length) (si k i : Nat)
    (ps : Option Nat), SummarizedL lang kids → shapeOKL ps kids = true →
    (nodeChildKids lang true pid addr n kids pos si k i).map (fun r => (r.t, r.alias)) = (enumKids lang pid kids si)[i]? := by
  intro kids pid addr n pos si k i ps hs hsh
  simpa only [filter_anon_true] using nodeChildKids_flag lang true kids pid addr n pos si k i ps hs hsh (Or.inl rfl)

/-- The port of `ts_node__child(self, i, include_anonymous = false)` returns the
i-th NAMED entry of the enumeration of visible children, for all summarized parser-shaped trees
in which unnamed visible nodes are leaves (`anonLeafOK`, evaluated on every real tree). -/
theorem named_child_spec (lang : Lang) : ∀ (t : Tree) (ps : Option Nat) (start : Length) (i : Nat),
    Summarized lang t → shapeOK ps t = true → anonLeafOKKids lang t.kids t.data.productionId 0 = true →
    (nodeChild lang false t start i).map (fun r => (r.t, r.alias)) =
      ((enumChildren lang t).filter (entryNamed lang))[i]? :=
  fun t ps start i hs hsh hok => nodeChild_flag lang false t ps start i hs hsh (Or.inr hok)

theorem named_kids_spec (lang : Lang) : ∀ (kids : List Tree) (pid addr n : Nat) (pos : Length) (si k i : Nat)
    (ps : Option Nat), SummarizedL lang kids → shapeOKL ps kids = true → anonLeafOKKids lang kids pid si = true →
    (nodeChildKids lang false pid addr n kids pos si k i).map (fun r => (r.t, r.alias)) =
      ((enumKids lang pid kids si).filter (entryNamed lang))[i]? :=
  fun kids pid addr n pos si k i ps hs hsh hok => nodeChildKids_flag lang false kids pid addr n pos si k i ps hs hsh (Or.inr hok)

mutual
  theorem flattenAt_length (lang : Lang) : ∀ (t : Tree) (pos : Length) (al id : Nat) (chain : List (List Nat)),
      (flattenAt lang t pos al id chain).length = if t.data.visible || al != 0 then 1 else (enumChildren lang t).length
    | .mk d kids, pos, al, id, chain => by
      unfold flattenAt enumChildren
      simp only [Tree.data]
      by_cases h : (d.visible || al != 0) = true
      · simp [h]
      · simp only [h, if_false, Bool.false_eq_true]
        exact flattenKids_length lang kids pos d.productionId 0 0 d.addr kids.length chain
  theorem flattenKids_length (lang : Lang) : ∀ (kids : List Tree) (cur : Length) (pid si i addr n : Nat)
      (outer : List (List Nat)),
      (flattenKids lang kids cur pid si i addr n outer).length = (enumKids lang pid kids si).length
    | [], _, _, _, _, _, _, _ => by simp [flattenKids, enumKids]
    | c :: rest, cur, pid, si, i, addr, n, outer => by
      unfold flattenKids enumKids
      simp only [List.length_append]
      rw [flattenAt_length lang c, flattenKids_length lang rest]
      by_cases h : (c.data.visible || (if c.data.extra then 0 else lang.aliasAt pid si) != 0) = true <;> simp [h]
end

/-- In a summarized parser-shaped tree the advertised child count of the root
node (`ts_node_child_count`) is the number of children of the node in the ordered tree. -/
theorem child_count_spec (lang : Lang) (t : Tree) (rootId : Nat)
    (hs : Summarized lang t) (hsh : shapeOK none t = true) :
    t.data.visibleChildCount = (flatten lang t rootId).kids.length := by
  have h := (summarize_counts lang t none hs hsh).1
  obtain ⟨d, kids⟩ := t
  unfold flatten
  simp only [VTree.kids]
  rw [flattenKids_length]
  simpa [enumChildren, Tree.data] using h

theorem renderList_append (lang : Lang) : ∀ (a b : List VTree), renderList lang (a ++ b) = renderList lang a ++ renderList lang b
  | [], b => by simp [renderList]
  | x :: a, b => by
    simp only [List.cons_append, renderList]
    rw [renderList_append lang a b, String.append_assoc]

theorem chainField_cons (l : List Nat) (outer : List (List Nat)) :
    chainField (l :: outer) = firstSome l.head? (chainField outer) := by
  cases l with
  | nil => simp [chainField, List.find?, firstSome]
  | cons x xs => simp [chainField, List.find?, firstSome]

mutual
  /-- The writer on a NON-root frame (`ts_subtree__write_to_string` called for a child) prints what `flatten` gives that child:
  `al` is the alias the parent assigns, the writer's `alias_is_named` is `al != 0 && named`, its `field_name` is `chainField chain`.
  Of `sexpOK`: a hidden node must not be MISSING (the writer prints it, `flatten` does not know it); a visible node the writer does
  not print (unnamed, not MISSING) must be a leaf, because the writer would print its children in its place under ITS field. -/
  theorem write_spec (lang : Lang) : ∀ (t : Tree) (pos : Length) (al id : Nat) (chain : List (List Nat)),
      sexpOK lang t al = true →
      writeNode lang t al (al != 0 && (lang.symMeta al).named) (chainField chain) false =
        renderList lang (flattenAt lang t pos al id chain)
    | .mk d kids, pos, al, id, chain, hok => by
      unfold sexpOK at hok
      simp only [Bool.and_eq_true] at hok
      unfold writeNode flattenAt
      by_cases hv : (d.visible || al != 0) = true
      · simp only [hv, if_true] at hok ⊢
        have hk := writeKids_spec lang kids pos d.productionId 0 0 d.addr kids.length [] hok.2
        simp only [renderList, renderInner, String.append_empty]
        have hnone : chainField ([] : List (List Nat)) = none := by simp [chainField]
        rw [hnone] at hk
        have hvis : (d.isMissing || if (al != 0) = true then al != 0 && (lang.symMeta al).named else d.visible && d.named)
            = (d.isMissing || if (al != 0) = true then (lang.symMeta al).named else d.named) := by
          by_cases ha : (al != 0) = true
          · simp [ha]
          · have hdv : d.visible = true := (Bool.or_eq_true _ _ ▸ hv).resolve_right ha
            simp [ha, hdv]
        rw [hvis]
        by_cases hp : (d.isMissing || if (al != 0) = true then (lang.symMeta al).named else d.named) = true
        · simp only [hp, if_true, Bool.not_false]
          rw [hk]
          simp only [renderOpen, Tree.data, Tree.kids]
          by_cases ha : (al != 0) = true <;> simp [ha, String.append_assoc]
        · simp only [hp, if_false, Bool.false_eq_true]
          have hke : kids = [] := by
            have := hok.1
            simp only [Bool.or_eq_true, hp] at this
            simpa using this
          subst hke
          simp [writeKids, flattenKids, renderList]
      · simp only [hv, if_false, Bool.false_eq_true] at hok ⊢
        have hk := writeKids_spec lang kids pos d.productionId 0 0 d.addr kids.length chain hok.2
        simp only [Bool.or_eq_true, not_or, Bool.not_eq_true] at hv
        have hm : d.isMissing = false := by simpa using hok.1
        have ha : (al != 0) = false := hv.2
        simp only [hm, ha, hv.1, Bool.false_or, Bool.false_and, if_false, Bool.false_eq_true, String.append_empty]
        simpa using hk
  theorem writeKids_spec (lang : Lang) : ∀ (kids : List Tree) (cur : Length) (pid si i addr n : Nat)
      (outer : List (List Nat)), sexpOKKids lang kids pid si = true →
      writeKids lang kids pid si (chainField outer) = renderList lang (flattenKids lang kids cur pid si i addr n outer)
    | [], _, _, _, _, _, _, _, _ => by simp [writeKids, flattenKids, renderList]
    | c :: rest, cur, pid, si, i, addr, n, outer, hok => by
      unfold sexpOKKids at hok
      simp only [Bool.and_eq_true] at hok
      unfold writeKids flattenKids
      rw [renderList_append]
      by_cases hx : c.data.extra = true
      · simp only [hx, if_true] at hok ⊢
        have h1 := write_spec lang c cur 0 (slotId addr n i) [] hok.1
        have h2 := writeKids_spec lang rest (length_add cur c.totalSize) pid si (i + 1) addr n outer hok.2
        simp only [chainField, List.find?, Option.bind] at h1
        rw [← h1, ← h2]; rfl
      · simp only [hx, if_false, Bool.false_eq_true] at hok ⊢
        have h1 := write_spec lang c cur (lang.aliasAt pid si) (slotId addr n i) (directFields lang pid si :: outer) hok.1
        have h2 := writeKids_spec lang rest (length_add cur c.totalSize) pid (si + 1) (i + 1) addr n outer hok.2
        rw [chainField_cons] at h1
        simp only [directField]
        rw [h1, h2]
end

/-- "the node's S-expression is the rendering of that same tree" — for every
language whose symbol 0 (`end`) is hidden, and every tree in which hidden nodes are not MISSING and
unprinted visible nodes are leaves (`sexpOKKids`, evaluated on every explored real tree), the port
of `ts_node_string(root)` equals `render (flatten root)`. -/
theorem sexp_spec (lang : Lang) (root : Tree) (rootId : Nat) (hend : (lang.symMeta 0).visible = false)
    (hok : sexpOKKids lang root.kids root.data.productionId 0 = true) :
    nodeString lang root 0 =
      render lang (flatten lang root rootId) (root.data.isMissing || (root.data.visible && root.data.named)) := by
  obtain ⟨d, kids⟩ := root
  have hk := writeKids_spec lang kids length_zero d.productionId 0 0 d.addr kids.length [] hok
  rw [show chainField ([] : List (List Nat)) = none from rfl] at hk
  rw [nodeString, writeNode, flatten, render, ← hk]
  simp only [bne_self_eq_false, Bool.false_eq_true, if_false, Tree.data, Bool.not_true]
  by_cases hp : (d.isMissing || (d.visible && d.named)) = true
  · simp only [hp, if_true, renderOpen, Tree.data, Tree.kids, hend, Bool.false_or, Bool.or_self, String.empty_append]
    rfl
  · simp only [hp, if_false, Bool.false_eq_true, if_true, String.append_empty]
    cases kids with
    | nil => simp [writeKids]
    | cons a b => simp [String.append_assoc]

end TsVerif.C06
