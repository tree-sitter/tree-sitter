import TsVerif.C06.RawGeom
/-!
C06, node.c: paths of raw child indices below a node (`nodeAt`) — the first relevant node on a path and what follows it
(`relSplit`), the nearest relevant ancestor (`parentOnPath`), and the children of the flattened tree around the end of a path
(`path_siblings_split`: `earlierOnPath ++ self :: laterOnPath`).  No port is unfolded here.
-/
open TsVerif.C02 TsGen

namespace TsVerif.C06

theorem nodeAt_cons (lang : Lang) (n d : NodeRef) (k : Nat) (rest : List Nat) (h : nodeAt lang n (k :: rest) = some d) :
    ∃ rc, (rawChildren lang n)[k]? = some rc ∧ nodeAt lang rc.node rest = some d := by
  simp only [nodeAt, rawChildAt] at h
  cases hk : (rawChildren lang n)[k]? with
  | none => simp [hk] at h
  | some rc => exact ⟨rc, rfl, by simpa [hk] using h⟩

theorem nodeAt_nested (lang : Lang) : ∀ (path : List Nat) (n d : NodeRef), Sized n.t → nodeAt lang n path = some d →
    n.startByte ≤ d.startByte ∧ d.endByte ≤ n.endByte ∧ Sized d.t
  | [], n, d, hs, h => by simp [nodeAt] at h; subst h; exact ⟨Nat.le_refl _, Nat.le_refl _, hs⟩
  | k :: rest, n, d, hs, h => by
    obtain ⟨rc, hk, h'⟩ := nodeAt_cons lang n d k rest h
    have hn := raw_child_nested lang n hs k rc hk
    have ih := nodeAt_nested lang rest rc.node d hn.2.2.2 h'
    exact ⟨by omega, by omega, ih.2.2⟩

theorem nodeAt_append (lang : Lang) : ∀ (a b : List Nat) (n m : NodeRef), nodeAt lang n a = some m →
    nodeAt lang n (a ++ b) = nodeAt lang m b
  | [], _, _, _, h => by simp [nodeAt] at h; subst h; rfl
  | k :: a, b, n, m, h => by
    simp only [nodeAt, List.cons_append] at h ⊢
    cases hk : rawChildAt lang n k with
    | none => simp [hk] at h
    | some c => simp only [hk] at h ⊢; exact nodeAt_append lang a b c m h

theorem nodeAt_summarized (lang : Lang) : ∀ (pre : List Nat) (n P : NodeRef) (ps : Option Nat), nodeAt lang n pre = some P →
    Summarized lang n.t → shapeOK ps n.t = true →
    Summarized lang P.t ∧ (∃ ps', shapeOK ps' P.t = true) ∧ P.t.size ≤ n.t.size
  | [], n, P, ps, h, hs, hsh => by
    simp only [nodeAt, Option.some.injEq] at h; subst h; exact ⟨hs, ⟨ps, hsh⟩, Nat.le_refl _⟩
  | k :: pre, n, P, ps, h, hs, hsh => by
    obtain ⟨rc, hk, hat'⟩ := nodeAt_cons lang n P k pre h
    obtain ⟨hsc, hshc⟩ := raw_child_ok lang n ps hs hsh k rc hk
    have ih := nodeAt_summarized lang pre rc.node P _ hat' hsc hshc
    have := sizeList_mem _ _ (raw_mem_kid lang n rc (List.mem_of_getElem? hk))
    have := tree_size_kids n.t
    exact ⟨ih.1, ih.2.1, by omega⟩

/-- The C loop of `ts_node_child_with_descendant` steps over a child whose `ts_node_child_count` is 0; an ancestor of a relevant node
never reports 0: it has a visible child, so its cached count is positive (`ancestor_child_count_pos`). -/
theorem enum_nonempty_of_path (lang : Lang) (d : NodeRef) (hrel : d.relevant lang true = true) :
    ∀ (rest : List Nat) (c : NodeRef), rest ≠ [] → nodeAt lang c rest = some d → enumChildren lang c.t ≠ []
  | [], _, h, _ => absurd rfl h
  | k :: rest', c, _, hat => by
    obtain ⟨rc, hk, hat'⟩ := nodeAt_cons lang c d k rest' hat
    have he := go_elem lang _ _ _ _ _ _ _ k rc hk
    have hsi := go_si lang _ _ _ _ _ _ _ k rc hk
    have hsplit : c.t.kids = c.t.kids.take k ++ rc.node.t :: c.t.kids.drop (k + 1) := by
      rw [← drop_eq_cons _ k _ he.2.2, List.take_append_drop]
    rw [enumChildren_eq, hsplit, enumKids_append]
    intro h0
    have h1 := (List.append_eq_nil_iff.mp h0).2
    unfold enumKids at h1
    have h2 := (List.append_eq_nil_iff.mp h1).1
    rw [← hsi.1] at h2
    have halias : (if rc.node.t.data.extra = true then 0 else lang.aliasAt c.t.data.productionId rc.si) = rc.node.alias := hsi.2.symm
    simp only [halias] at h2
    cases rest' with
    | nil =>
      simp only [nodeAt, Option.some.injEq] at hat'
      subst hat'
      simp only [NodeRef.relevant, isRelevant, if_true] at hrel
      simp [hrel] at h2
    | cons k'' r'' =>
      by_cases hv : (rc.node.t.data.visible || rc.node.alias != 0) = true
      · simp [hv] at h2
      · simp only [hv, if_false, Bool.false_eq_true] at h2
        exact enum_nonempty_of_path lang d hrel (k'' :: r'') rc.node (by simp) hat' h2

theorem ancestor_child_count_pos (lang : Lang) (d c : NodeRef) (rest : List Nat) (ps : Option Nat)
    (hrel : d.relevant lang true = true) (hr : rest ≠ []) (hat : nodeAt lang c rest = some d)
    (hs : Summarized lang c.t) (hsh : shapeOK ps c.t = true) : c.childCount > 0 := by
  rw [← vcc_eq_childCount]
  exact Decidable.by_contra fun hv =>
    enum_nonempty_of_path lang d hrel rest c hr hat (enumChildren_nil_of_vcc lang c.t ps hs hsh hv)

theorem firstRelevant_eq_split (lang : Lang) : ∀ (p : List Nat) (n : NodeRef),
    firstRelevantOnPath lang n p = (relSplit lang n p).map (·.1)
  | [], _ => rfl
  | k :: rest, n => by
    simp only [firstRelevantOnPath, relSplit]
    cases rawChildAt lang n k with
    | none => rfl
    | some c =>
      simp only
      split
      · rfl
      · exact firstRelevant_eq_split lang rest c

theorem parentOnPath_split (lang : Lang) : ∀ (p : List Nat) (n best : NodeRef),
    parentOnPath lang best n p =
      (match relSplit lang n p with
       | none => best
       | some (c, rest) => if rest.isEmpty then best else parentOnPath lang c c rest)
  | [], _, _ => rfl
  | [k], n, best => by
    simp only [parentOnPath, relSplit]
    cases rawChildAt lang n k <;> simp
  | k :: k' :: rest, n, best => by
    simp only [parentOnPath, relSplit]
    cases rawChildAt lang n k with
    | none => rfl
    | some c =>
      simp only [List.isEmpty_cons, Bool.false_or]
      cases hr : c.relevant lang true with
      | true => simp
      | false =>
        simp only [Bool.false_eq_true, if_false]
        exact parentOnPath_split lang (k' :: rest) c best

theorem relSplit_hidden (lang : Lang) : ∀ (p : List Nat) (n c : NodeRef) (rest : List Nat),
    relSplit lang n p = some (c, rest) →
    ∃ pre, p = pre ++ rest ∧ pre ≠ [] ∧ nodeAt lang n pre = some c ∧ hiddenPath lang n pre = true ∧
      (rest ≠ [] → c.relevant lang true = true)
  | [], _, _, _, h => by simp [relSplit] at h
  | k :: tl, n, c, rest, h => by
    cases hk : rawChildAt lang n k with
    | none => simp [relSplit, hk] at h
    | some c0 =>
      cases tl with
      | nil =>
        simp only [relSplit, hk, List.isEmpty_nil, Bool.true_or, if_true, Option.some.injEq, Prod.mk.injEq] at h
        obtain ⟨rfl, rfl⟩ := h
        exact ⟨[k], by simp, by simp, by simp [nodeAt, hk], by simp [hiddenPath, hk], fun hne => absurd rfl hne⟩
      | cons k' tl' =>
        rw [relSplit] at h
        simp only [hk, List.isEmpty_cons, Bool.false_or] at h
        cases hr : c0.relevant lang true with
        | true =>
          simp only [hr, if_true, Option.some.injEq, Prod.mk.injEq] at h
          obtain ⟨rfl, rfl⟩ := h
          exact ⟨[k], by simp, by simp, by simp [nodeAt, hk], by simp [hiddenPath, hk], fun _ => hr⟩
        | false =>
          simp only [hr, Bool.false_eq_true, if_false] at h
          obtain ⟨pre, hp, hpne, hat, hhid, hrl⟩ := relSplit_hidden lang (k' :: tl') c0 c rest h
          refine ⟨k :: pre, by simp [hp], by simp, by simp [nodeAt, hk, hat], ?_, hrl⟩
          cases pre with
          | nil => exact absurd rfl hpne
          | cons a b => rw [hiddenPath]; simp [hk, hr, hhid]

theorem relSplit_some (lang : Lang) (d : NodeRef) : ∀ (p : List Nat) (n : NodeRef), p ≠ [] → nodeAt lang n p = some d →
    ∃ c rest, relSplit lang n p = some (c, rest)
  | [], _, h, _ => absurd rfl h
  | k :: tl, n, _, hat => by
    simp only [nodeAt] at hat
    simp only [relSplit]
    cases hk : rawChildAt lang n k with
    | none => simp [hk] at hat
    | some c0 =>
      simp only [hk] at hat ⊢
      by_cases hc : (tl.isEmpty || c0.relevant lang true) = true
      · exact ⟨c0, tl, by simp [hc]⟩
      · simp only [hc, if_false, Bool.false_eq_true]
        have hte : tl ≠ [] := by intro h0; subst h0; simp at hc
        exact relSplit_some lang d tl c0 hte hat

theorem firstRelevantOnPath_some (lang : Lang) (d : NodeRef) : ∀ (p : List Nat) (n : NodeRef), p ≠ [] →
    nodeAt lang n p = some d → ∃ r, firstRelevantOnPath lang n p = some r := by
  intro p n hp hat
  obtain ⟨c, rest, h⟩ := relSplit_some lang d p n hp hat
  exact ⟨c, by rw [firstRelevant_eq_split, h]; rfl⟩

/-- `relSplit` keeps the path facts, for any predicate `OK` on paths that is handed down along the path together with
"the child's id is not that of `d`" (`pathOK`, `psPathOK`). -/
theorem relSplit_inv_of (lang : Lang) (d : NodeRef) (OK : NodeRef → List Nat → Prop)
    (hstep : ∀ n k k' rest c, rawChildAt lang n k = some c → OK n (k :: k' :: rest) → c.id ≠ d.id ∧ OK c (k' :: rest)) :
    ∀ (p : List Nat) (n c : NodeRef) (rest : List Nat) (ps : Option Nat),
    relSplit lang n p = some (c, rest) → nodeAt lang n p = some d → OK n p →
    Summarized lang n.t → shapeOK ps n.t = true →
    nodeAt lang c rest = some d ∧ (rest ≠ [] → c.id ≠ d.id ∧ OK c rest) ∧
      (Summarized lang c.t ∧ ∃ ps', shapeOK ps' c.t = true) ∧ rest.length < p.length := by
  intro p
  induction p with
  | nil => intro _ _ _ _ h; simp [relSplit] at h
  | cons k tl ih0 =>
    intro n c rest ps h hat hok hs hsh
    obtain ⟨rc, hk, hat'⟩ := nodeAt_cons lang n d k tl hat
    have hc0 : rawChildAt lang n k = some rc.node := by simp [rawChildAt, hk]
    simp only [relSplit, hc0] at h
    have hsz := raw_child_ok lang n ps hs hsh k rc hk
    cases tl with
    | nil =>
      simp only [List.isEmpty_nil, Bool.true_or, if_true, Option.some.injEq, Prod.mk.injEq] at h
      obtain ⟨rfl, rfl⟩ := h
      exact ⟨hat', fun hne => absurd rfl hne, ⟨hsz.1, _, hsz.2⟩, by simp⟩
    | cons k' tl' =>
      have hst := hstep n k k' tl' rc.node hc0 hok
      simp only [List.isEmpty_cons, Bool.false_or] at h
      by_cases hc : rc.node.relevant lang true = true
      · simp only [hc, if_true, Option.some.injEq, Prod.mk.injEq] at h
        obtain ⟨rfl, rfl⟩ := h
        exact ⟨hat', fun _ => hst, ⟨hsz.1, _, hsz.2⟩, by simp⟩
      · simp only [hc, if_false, Bool.false_eq_true] at h
        have ih := ih0 rc.node c rest _ h hat' hst.2 hsz.1 hsz.2
        exact ⟨ih.1, ih.2.1, ih.2.2.1, by have := ih.2.2.2; simp at this ⊢; omega⟩

theorem pathOK_step (lang : Lang) (dId : Nat) (n : NodeRef) (k k' : Nat) (rest : List Nat) (c : NodeRef)
    (hc : rawChildAt lang n k = some c) (h : pathOK lang dId n (k :: k' :: rest) = true) :
    c.id ≠ dId ∧ pathOK lang dId c (k' :: rest) = true := by
  rw [pathOK, Bool.and_eq_true] at h
  simpa [hc] using h.2

theorem psPathOK_step (lang : Lang) (d : NodeRef) (n : NodeRef) (k k' : Nat) (rest : List Nat) (c : NodeRef)
    (hc : rawChildAt lang n k = some c) (h : psPathOK lang d n (k :: k' :: rest) = true) :
    c.id ≠ d.id ∧ psPathOK lang d c (k' :: rest) = true := by
  rw [psPathOK] at h
  simp only [rawChildAt] at hc
  cases hk : (rawChildren lang n)[k]? with
  | none => simp [hk] at hc
  | some rc =>
    simp only [hk, Option.map_some, Option.some.injEq] at hc
    subst hc
    rw [Bool.and_eq_true] at h
    simpa [hk] using h.2

theorem relSplit_inv (lang : Lang) (d : NodeRef) : ∀ (p : List Nat) (n c : NodeRef) (rest : List Nat) (ps : Option Nat),
    relSplit lang n p = some (c, rest) → nodeAt lang n p = some d → pathOK lang d.id n p = true →
    Summarized lang n.t → shapeOK ps n.t = true →
    nodeAt lang c rest = some d ∧ (rest ≠ [] → c.id ≠ d.id ∧ pathOK lang d.id c rest = true) ∧
      (Summarized lang c.t ∧ ∃ ps', shapeOK ps' c.t = true) ∧ rest.length < p.length :=
  relSplit_inv_of lang d (fun n p => pathOK lang d.id n p = true) (pathOK_step lang d.id)

theorem relSplit_inv_ps (lang : Lang) (d : NodeRef) : ∀ (p : List Nat) (n c : NodeRef) (rest : List Nat) (ps : Option Nat),
    relSplit lang n p = some (c, rest) → nodeAt lang n p = some d → psPathOK lang d n p = true →
    Summarized lang n.t → shapeOK ps n.t = true →
    nodeAt lang c rest = some d ∧ (rest ≠ [] → c.id ≠ d.id ∧ psPathOK lang d c rest = true) ∧
      (Summarized lang c.t ∧ ∃ ps', shapeOK ps' c.t = true) ∧ rest.length < p.length :=
  relSplit_inv_of lang d (fun n p => psPathOK lang d n p = true) (psPathOK_step lang d)

/-- `parentOnPath` (what `parent_spec_partial` shows `ts_node_parent` returns)
is a node `P` on the path, relevant or the start node itself, from which `d` is reached through
hidden nodes only — so by `path_siblings_split` `d` is one of the children of `P` in the flattened
tree: `P` is the parent of `d` there. -/
theorem parent_path_spec (lang : Lang) (d : NodeRef) : ∀ (m : Nat) (p : List Nat) (n : NodeRef), p.length ≤ m → p ≠ [] →
    nodeAt lang n p = some d →
    ∃ pre q, p = pre ++ q ∧ q ≠ [] ∧ nodeAt lang n pre = some (parentOnPath lang n n p) ∧
      nodeAt lang (parentOnPath lang n n p) q = some d ∧ hiddenPath lang (parentOnPath lang n n p) q = true ∧
      (pre = [] ∨ (parentOnPath lang n n p).relevant lang true = true) := by
  intro m
  induction m with
  | zero =>
    intro p _ hm hp
    cases p with
    | nil => exact absurd rfl hp
    | cons _ _ => simp at hm
  | succ m ih =>
    intro p n hm hp hat
    obtain ⟨c, rest, hsp⟩ := relSplit_some lang d p n hp hat
    obtain ⟨pre, hpp, hpne, hatc, hhid, hrl⟩ := relSplit_hidden lang p n c rest hsp
    rw [parentOnPath_split, hsp]
    simp only
    have hatd : nodeAt lang c rest = some d := by
      rw [hpp, nodeAt_append lang pre rest n c hatc] at hat; exact hat
    cases rest with
    | nil =>
      simp only [List.isEmpty_nil, if_true]
      simp only [nodeAt, Option.some.injEq] at hatd
      subst hatd
      refine ⟨[], p, by simp, hp, by simp [nodeAt], hat, ?_, Or.inl rfl⟩
      rw [hpp]; simpa using hhid
    | cons k' rest' =>
      simp only [List.isEmpty_cons, Bool.false_eq_true, if_false]
      have hlen : (k' :: rest').length ≤ m := by
        have : p.length = pre.length + (k' :: rest').length := by rw [hpp]; simp
        have : pre.length > 0 := List.length_pos_iff.mpr hpne
        omega
      obtain ⟨pre2, q, hp2, hq, hat2, hatq, hhq, hor⟩ := ih (k' :: rest') c hlen (by simp) hatd
      refine ⟨pre ++ pre2, q, by rw [hpp, hp2]; simp, hq, ?_, hatq, hhq, Or.inr ?_⟩
      · rw [nodeAt_append lang pre pre2 n c hatc]; exact hat2
      · rcases hor with h0 | h1
        · subst h0
          simp only [nodeAt, Option.some.injEq] at hat2
          rw [← hat2]; exact hrl (by simp)
        · exact h1

/-- If `self` is relevant and reached from `n` through hidden nodes only,
the visible children of `n` (the children `flatten` gives it, `flattenKids_length`/`child_spec`)
are `earlierOnPath ++ self :: laterOnPath`: `self` IS a child of `n` in the flattened tree, preceded
and followed by exactly the lists the sibling theorems speak about. -/
theorem path_siblings_split (lang : Lang) (self : NodeRef) (hrel : self.relevant lang true = true) :
    ∀ (q : List Nat) (n : NodeRef), q ≠ [] → nodeAt lang n q = some self → hiddenPath lang n q = true →
    enumChildren lang n.t = earlierOnPath lang n q ++ (self.t, self.alias) :: laterOnPath lang n q := by
  intro q
  induction q with
  | nil => intro _ h; exact absurd rfl h
  | cons k rest ih =>
    intro n _ hat hh
    obtain ⟨rc, hk, hat'⟩ := nodeAt_cons lang n self k rest hat
    have he := go_elem lang _ _ _ _ _ _ _ k rc hk
    have hsi := go_si lang _ _ _ _ _ _ _ k rc hk
    have hsplit : n.t.kids = n.t.kids.take k ++ rc.node.t :: n.t.kids.drop (k + 1) := by
      rw [← drop_eq_cons _ k _ he.2.2, List.take_append_drop]
    simp only [hiddenPath, rawChildAt, hk, Option.map_some] at hh
    simp only [earlierOnPath, laterOnPath, hk]
    rw [enumChildren_eq]
    conv => lhs; rw [hsplit]
    rw [enumKids_append, ← hsi.1]
    conv => lhs; rhs; unfold enumKids
    have halias : (if rc.node.t.data.extra = true then 0 else lang.aliasAt n.t.data.productionId rc.si) = rc.node.alias := hsi.2.symm
    simp only [halias]
    cases rest with
    | nil =>
      simp only [nodeAt, Option.some.injEq] at hat'
      subst hat'
      simp only [NodeRef.relevant, isRelevant, if_true] at hrel
      simp [hrel, earlierOnPath, laterOnPath]
    | cons k' rest' =>
      simp only [List.isEmpty_cons, Bool.false_or, Bool.and_eq_true, Bool.not_eq_true'] at hh
      have hv : (rc.node.t.data.visible || rc.node.alias != 0) = false := by
        have := hh.1; simpa [NodeRef.relevant, isRelevant] using this
      simp only [hv, Bool.false_eq_true, if_false]
      rw [ih rc.node (by simp) hat' hh.2]
      simp [List.append_assoc]

theorem split_neighbours {α : Type} (a b : List α) (x : α) :
    (a ++ x :: b)[a.length]? = some x ∧ (a ++ x :: b)[a.length + 1]? = b.head? ∧
    (a.getLast? = if a.length = 0 then none else (a ++ x :: b)[a.length - 1]?) := by
  refine ⟨by simp, ?_, ?_⟩
  · rw [List.getElem?_append_right (by omega)]
    cases b <;> simp
  · cases hl : a.length with
    | zero => have : a = [] := List.eq_nil_of_length_eq_zero hl; subst this; simp
    | succ m =>
      simp only [Nat.add_one_ne_zero, if_false, Nat.add_sub_cancel]
      rw [List.getElem?_append_left (by omega), List.getLast?_eq_getElem?, hl]
      simp

/-- A subtree that ends where `self` ends has nothing after `self` at any level of the path: `nsPathOK` makes every later raw sibling
end strictly after `self`, nesting makes it end inside `c` (case (a) of `nsA_levels`). -/
theorem laterOnPath_tight (lang : Lang) (self : NodeRef) : ∀ (q : List Nat) (c : NodeRef), Sized c.t →
    nodeAt lang c q = some self → c.endByte ≤ self.endByte → nsPathOK lang self c q = true → laterOnPath lang c q = [] := by
  intro q
  induction q with
  | nil => intros; rfl
  | cons k rest ih =>
    intro c hs hat hend hok
    obtain ⟨rc, hk, hat'⟩ := nodeAt_cons lang c self k rest hat
    simp only [nsPathOK, hk, Bool.and_eq_true] at hok
    simp only [laterOnPath, hk]
    have hn := raw_child_nested lang c hs k rc hk
    have hd := nodeAt_nested lang rest rc.node self hn.2.2.2 hat'
    have hnil : c.t.kids.drop (k + 1) = [] := by
      cases Nat.lt_or_ge (k + 1) c.t.kids.length with
      | inr h => exact List.drop_eq_nil_of_le h
      | inl h =>
        have hlen := rawChildren_length lang c
        cases hrx : (rawChildren lang c)[k + 1]? with
        | none => have := List.getElem?_eq_none_iff.mp hrx; omega
        | some rx =>
          have hnx := raw_child_nested lang c hs (k + 1) rx hrx
          have hdrop := go_drop lang c _ _ _ _ _ _ k rc hk
          have hrx0 : ((rawChildren lang c).drop (k + 1))[0]? = some rx := by rw [List.getElem?_drop]; simpa using hrx
          simp only [rawChildren] at hrx0
          rw [hdrop] at hrx0
          have ha := go_after lang c _ _ self.endByte _ _ _ (rc.k + 1) (by simpa using hok.1) 0 rx hrx0
          simp only [NodeRef.startByte, NodeRef.endByte] at *
          omega
    rw [hnil]
    simp only [enumKids, List.append_nil]
    cases rest with
    | nil => rfl
    | cons k' rest' =>
      simp only [List.isEmpty_cons, Bool.false_or, Bool.and_eq_true] at hok
      exact ih rc.node hn.2.2.2 hat' (by omega) hok.2.2

end TsVerif.C06
