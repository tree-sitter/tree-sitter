import TsVerif.C06.SiblingTrue
import TsVerif.C06.NavFt
import TsVerif.C06.NamedFcb
import TsVerif.C06.CursorFcb
import TsVerif.C06.CursorDesc
import TsVerif.C06.FieldWitness
import TsVerif.C06.CursorParent
import TsVerif.C06.CursorFcbFlat
import TsVerif.C06.FieldNamed
import TsVerif.C06.RangeFlatAll
import TsVerif.C06.RangeFlatP
import TsVerif.C06.EmptyPointRange
#print axioms TsVerif.C06.child_spec
#print axioms TsVerif.C06.flattenKids_length
#print axioms TsVerif.C06.child_count_spec
#print axioms TsVerif.C06.iterPrev_int8_stops
#print axioms TsVerif.C06.iterPrev_fixed_steps
#print axioms TsVerif.C06.iterPrev_undoes_iterNext
#print axioms TsVerif.C06.int8_witness
#print axioms TsVerif.C06.write_spec
#print axioms TsVerif.C06.sexp_spec
#print axioms TsVerif.C06.named_child_spec
#print axioms TsVerif.C06.cursor_first_child_spec
#print axioms TsVerif.C06.sibling_internal_spec
#print axioms TsVerif.C06.cursor_next_sibling_spec
#print axioms TsVerif.C06.later_siblings_split
#print axioms TsVerif.C06.cursor_next_sibling_index_spec
#print axioms TsVerif.C06.cursor_node_agree_first
#print axioms TsVerif.C06.cursor_node_agree_next
#print axioms TsVerif.C06.cursor_field_spec
#print axioms TsVerif.C06.cursor_last_child_spec
#print axioms TsVerif.C06.gotoChild_preserves_inv
#print axioms TsVerif.C06.gotoNextSibling_preserves_inv
#print axioms TsVerif.C06.descendant_index_spec
#print axioms TsVerif.C06.prevScan_spec
#print axioms TsVerif.C06.cursor_prev_sibling_spec
#print axioms TsVerif.C06.gotoPreviousSibling_preserves_inv
#print axioms TsVerif.C06.goto_descendant_spec
#print axioms TsVerif.C06.flattenKids_fields
#print axioms TsVerif.C06.field_name_for_child_spec
#print axioms TsVerif.C06.raw_child_nested
#print axioms TsVerif.C06.child_with_descendant_spec_partial
#print axioms TsVerif.C06.parent_spec_partial
#print axioms TsVerif.C06.ns_descend
#print axioms TsVerif.C06.ns_levels
#print axioms TsVerif.C06.next_sibling_spec_partial
#print axioms TsVerif.C06.next_sibling_spec_from_root
#print axioms TsVerif.C06.ps_descend
#print axioms TsVerif.C06.ps_levels
#print axioms TsVerif.C06.prev_sibling_spec_partial
#print axioms TsVerif.C06.prev_sibling_spec_from_root
#print axioms TsVerif.C06.fcb_loop_some
#print axioms TsVerif.C06.first_child_for_byte_spec_partial
#print axioms TsVerif.C06.dfr_scan_eq
#print axioms TsVerif.C06.descendant_for_byte_range_spec_partial
#print axioms TsVerif.C06.enum_nonempty_of_path
#print axioms TsVerif.C06.ancestor_child_count_pos
#print axioms TsVerif.C06.path_siblings_split
#print axioms TsVerif.C06.parent_path_spec
#print axioms TsVerif.C06.node_nav_flat_spec
#print axioms TsVerif.C06.flat_children_are_enum
#print axioms TsVerif.C06.enumRefs_proj
#print axioms TsVerif.C06.fcbNode_eq_find
#print axioms TsVerif.C06.first_child_for_byte_flat_spec
#print axioms TsVerif.C06.cwd_empty_none
#print axioms TsVerif.C06.child_with_descendant_spec_empty
#print axioms TsVerif.C06.parent_spec_empty
#print axioms TsVerif.C06.psZ_descend
#print axioms TsVerif.C06.psZ_levels
#print axioms TsVerif.C06.prev_sibling_spec_general
#print axioms TsVerif.C06.nsE_descend
#print axioms TsVerif.C06.nsE_levels
#print axioms TsVerif.C06.next_sibling_spec_empty
#print axioms TsVerif.C06.node_nav_flat_spec_empty
#print axioms TsVerif.C06.descendant_for_byte_range_spec_anon
#print axioms TsVerif.C06.dfrP_scan_eq
#print axioms TsVerif.C06.descendant_for_point_range_spec_partial
#print axioms TsVerif.C06.first_child_for_byte_spec_anon
#print axioms TsVerif.C06.number_spec
#print axioms TsVerif.C06.flatOf_spec
#print axioms TsVerif.C06.flatOf_good
#print axioms TsVerif.C06.ft_child_spec
#print axioms TsVerif.C06.ft_neighbours
#print axioms TsVerif.C06.flatten_hered
#print axioms TsVerif.C06.flat_node_exists
#print axioms TsVerif.C06.nav_ft_spec
#print axioms TsVerif.C06.nav_ft_spec_empty
#print axioms TsVerif.C06.ft_all_good
#print axioms TsVerif.C06.flattenKids_refs
#print axioms TsVerif.C06.first_child_for_byte_ft_spec
#print axioms TsVerif.C06.ftgo_eq_vgo
#print axioms TsVerif.C06.dfrH
#print axioms TsVerif.C06.vgo_eq_dfr
#print axioms TsVerif.C06.descendant_for_byte_range_ft_spec
#print axioms TsVerif.C06.direct_iff
#print axioms TsVerif.C06.cbf_scan_spec
#print axioms TsVerif.C06.child_by_field_id_spec_partial
#print axioms TsVerif.C06.child_by_field_id_ft_spec
#print axioms TsVerif.C06.psZwOK_of_nonempty
#print axioms TsVerif.C06.prev_sibling_spec_of_general
#print axioms TsVerif.C06.enumKids_lastA
#print axioms TsVerif.C06.psA_descend
#print axioms TsVerif.C06.psA_levels
#print axioms TsVerif.C06.prev_sibling_spec_anon
#print axioms TsVerif.C06.enumKids_headA
#print axioms TsVerif.C06.nsA_descend
#print axioms TsVerif.C06.nsA_levels
#print axioms TsVerif.C06.next_sibling_spec_anon
#print axioms TsVerif.C06.fcbNodeA_eq_find
#print axioms TsVerif.C06.first_child_for_byte_flat_spec_anon
#print axioms TsVerif.C06.first_child_for_byte_ft_spec_anon
#print axioms TsVerif.C06.cfc_scan_spec
#print axioms TsVerif.C06.cfc_go_spec
#print axioms TsVerif.C06.cursor_first_child_for_spec
#print axioms TsVerif.C06.nest_port
#print axioms TsVerif.C06.child_by_field_id_full_false
#print axioms TsVerif.C06.goto_parent_spec
#print axioms TsVerif.C06.gotoChild_shape
#print axioms TsVerif.C06.goto_parent_undoes_child
#print axioms TsVerif.C06.gotoParent_topVisible
#print axioms TsVerif.C06.depth_spec
#print axioms TsVerif.C06.depth_child
#print axioms TsVerif.C06.depth_parent
#print axioms TsVerif.C06.gotoParent_preserves_inv
#print axioms TsVerif.C06.parentOnPath_chain
#print axioms TsVerif.C06.parentGo_chain
#print axioms TsVerif.C06.cursor_parent_is_parentOnPath
#print axioms TsVerif.C06.cursor_parent_is_parentOnPath_inv
#print axioms TsVerif.C06.next_internal_shape
#print axioms TsVerif.C06.next_sibling_keeps_parent
#print axioms TsVerif.C06.next_sibling_depth
#print axioms TsVerif.C06.enumRefs_withinL
#print axioms TsVerif.C06.cfcIdeal_flat
#print axioms TsVerif.C06.cursor_first_child_for_ft_spec
#print axioms TsVerif.C06.fn_go_spec_named
#print axioms TsVerif.C06.field_name_for_named_child_spec
#print axioms TsVerif.C06.dfrHA
#print axioms TsVerif.C06.vgoA_eq_dfr
#print axioms TsVerif.C06.ftgo_eq_vgoA
#print axioms TsVerif.C06.named_descendant_for_byte_range_ft_spec
#print axioms TsVerif.C06.dfrHP
#print axioms TsVerif.C06.vgoP_eq_dfr
#print axioms TsVerif.C06.ftgo_eq_vgoP
#print axioms TsVerif.C06.descendant_for_point_range_ft_spec
#print axioms TsVerif.C06.dfrScanE_eq
#print axioms TsVerif.C06.descendant_for_empty_byte_range_port
#print axioms TsVerif.C06.firstSelE_eq
#print axioms TsVerif.C06.dfrHE
#print axioms TsVerif.C06.emptyOK_sel
#print axioms TsVerif.C06.vgoE_eq_dfr
#print axioms TsVerif.C06.ftgo_eq_vgoE
#print axioms TsVerif.C06.descendant_for_empty_byte_range_ft_spec
#print axioms TsVerif.C06.posAfter_is_end
#print axioms TsVerif.C06.dfrPScanE_eq
#print axioms TsVerif.C06.descendant_for_empty_point_range_port
#print axioms TsVerif.C06.dfrIdealEP_boundary_partial
#print axioms TsVerif.C06.dfrIdealEP_eq_bytes
#print axioms TsVerif.C06.empty_point_range_eq_byte_range
#print axioms TsVerif.C06.descendant_for_empty_point_range_ft_spec_partial
