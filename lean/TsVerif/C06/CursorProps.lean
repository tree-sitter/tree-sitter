import TsVerif.C06.Props
import TsVerif.C06.CursorIter
/-!
# C06 — cursor walk theorems

Clause "cursor moves are consistent with the single ordered tree".  The right-hand sides are lists built from the STACK out of
`enumChildren` / `enumKids`: `topNode`, `laterSiblings`, `earlierSiblings`, `ancEnum`, `stackChain`, `descBefore`.  `enumChildren` is what
`flatten` gives a node (`flat_children_are_enum`), and `cursor_node_agree_first/_next` tie two moves to `ts_node_child`.
Bridges to the path lists of the node.c theorems (`laterOnPath`, `earlierOnPath`) and to `FT` exist only for goto_parent
(`cursor_parent_is_parentOnPath`, CursorParent.lean) and goto_first_child_for_byte (`cursor_first_child_for_ft_spec`, CursorFcbFlat.lean).

Every scan of a child iterator is `find? stops` of its run and one level of a walk is a step equation with three outcomes
(CursorRun.lean); here the stop of a scan is tied to `firstRel` / `lastRel`, its meaning in the enumeration is `enumKids_end`, and
the entry pushed carries the forward iterator's bookkeeping (`kidsFrom_ok`).
-/
open TsGen TsVerif TsVerif.C02 TsVerif.C06
namespace TsVerif.C06

def relOf (lang : Lang) (last : Bool) (pid : Nat) (kids : List Tree) (si : Nat) : Option (Tree × Nat × Bool) :=
  if last then lastRel lang pid kids si else firstRel lang pid kids si
def endOf {α : Type} (last : Bool) (l : List α) : Option α := if last then l.getLast? else l.head?

theorem endOf_eq_none {α : Type} (last : Bool) (l : List α) (h : endOf last l = none) : l = [] := by
  cases last
  · exact List.head?_eq_none_iff.mp h
  · exact List.getLast?_eq_none_iff.mp h

theorem relOf_eq (lang : Lang) (last : Bool) (pid : Nat) (kids : List Tree) (si : Nat) :
    relOf lang last pid kids si =
      (if last then (withSi kids si).reverse else withSi kids si).findSome? fun x => relStep lang pid x.2 x.1 := by
  cases last
  · exact firstRel_eq lang pid kids si
  · exact lastRel_eq lang pid kids si

theorem relOf_some (lang : Lang) (last : Bool) (pid : Nat) (kids : List Tree) (si : Nat) (c : Tree) (si' : Nat) (b : Bool)
    (h : relOf lang last pid kids si = some (c, si', b)) : c ∈ kids ∧ (b = false → vcc c > 0) := by
  rw [relOf_eq] at h
  obtain ⟨x, hx, hr⟩ := List.exists_of_findSome?_eq_some h
  obtain ⟨rfl, hv⟩ := relStep_some lang pid x.2 x.1 c si' b hr
  refine ⟨mem_withSi (si := si) ?_, hv⟩
  cases last
  · exact hx
  · exact List.mem_reverse.mp hx

/-- The node a stop of a scan stands for: the child itself if it is visible, else the first / last of its visible children. -/
def stopMeaning (lang : Lang) (last : Bool) (pid : Nat) (r : Tree × Nat × Bool) : Option (Tree × Nat) :=
  if r.2.2 then some (r.1, if r.1.data.extra then 0 else lang.aliasAt pid r.2.1) else endOf last (enumChildren lang r.1)

theorem end_contrib (lang : Lang) (last : Bool) (pid si : Nat) (c : Tree) (ps : Option Nat)
    (hs : Summarized lang c) (hsh : shapeOK ps c = true) :
    endOf last (contribOf lang pid (c, si)) = (relStep lang pid si c).bind (stopMeaning lang last pid) ∧
    (relStep lang pid si c ≠ none → endOf last (contribOf lang pid (c, si)) ≠ none) := by
  unfold contribOf relStep
  simp only [vis_alias]
  by_cases hvis : (c.data.visible || (!c.data.extra && lang.aliasAt pid si != 0)) = true
  · simp only [hvis, if_true, Option.bind_some, stopMeaning]
    cases last <;> exact ⟨rfl, fun _ h => nomatch h⟩
  · simp only [hvis, Bool.false_eq_true, if_false]
    by_cases hk : vcc c > 0
    · simp only [hk, if_true, Option.bind_some, stopMeaning, Bool.false_eq_true, if_false, true_and]
      exact fun _ h => enum_ne_nil_of_vcc lang c ps hs hsh hk (endOf_eq_none last _ h)
    · simp only [hk, if_false, Option.bind_none, enumChildren_nil_of_vcc lang c ps hs hsh hk]
      cases last <;> exact ⟨rfl, fun h => absurd rfl h⟩

theorem enumKids_end (lang : Lang) (last : Bool) (kids : List Tree) (pid si : Nat) (ps : Option Nat)
    (hs : ∀ c ∈ kids, Summarized lang c) (hsh : ∀ c ∈ kids, shapeOK ps c = true) :
    endOf last (enumKids lang pid kids si) = (relOf lang last pid kids si).bind (stopMeaning lang last pid) := by
  rw [enumKids_eq, relOf_eq]
  exact end_flatMap last (contribOf lang pid) (fun x => relStep lang pid x.2 x.1) (stopMeaning lang last pid) _ fun x hx =>
    end_contrib lang last pid x.2 x.1 ps (hs _ (mem_withSi hx)) (hsh _ (mem_withSi hx))

theorem enumKids_head (lang : Lang) : ∀ (kids : List Tree) (pid si : Nat) (ps : Option Nat),
    SummarizedL lang kids → shapeOKL ps kids = true →
    (enumKids lang pid kids si).head? =
      match firstRel lang pid kids si with
      | none => none
      | some (c, si', true) => some (c, if c.data.extra then 0 else lang.aliasAt pid si')
      | some (c, _, false) => (enumChildren lang c).head? := by
  intro kids pid si ps hs hsh
  refine (enumKids_end lang false kids pid si ps (summarized_of_mem lang kids · hs) (shapeOK_of_mem kids ps · hsh)).trans ?_
  show (firstRel lang pid kids si).bind _ = _
  cases firstRel lang pid kids si with
  | none => rfl
  | some r => obtain ⟨c, si', b⟩ := r; cases b <;> rfl

def entryAlias (lang : Lang) (e p : Entry) : Nat := if e.t.data.extra then 0 else lang.aliasAt p.t.data.productionId e.si

/-- The node the cursor shows: subtree of the top entry and the alias its parent entry gives it. -/
def topNode (lang : Lang) : List Entry → Option (Tree × Nat)
  | e :: p :: _ => some (e.t, if e.t.data.extra then 0 else lang.aliasAt p.t.data.productionId e.si)
  | _ => none

theorem enumKids_last (lang : Lang) : ∀ (kids : List Tree) (pid si : Nat) (ps : Option Nat),
    SummarizedL lang kids → shapeOKL ps kids = true →
    (enumKids lang pid kids si).getLast? =
      match lastRel lang pid kids si with
      | none => none
      | some (c, si', true) => some (c, if c.data.extra then 0 else lang.aliasAt pid si')
      | some (c, _, false) => (enumChildren lang c).getLast? := by
  intro kids pid si ps hs hsh
  refine (enumKids_end lang true kids pid si ps (summarized_of_mem lang kids · hs) (shapeOK_of_mem kids ps · hsh)).trans ?_
  show (lastRel lang pid kids si).bind _ = _
  cases lastRel lang pid kids si with
  | none => rfl
  | some r => obtain ⟨c, si', b⟩ := r; cases b <;> rfl

/-- What the theorems need of a cursor stack: every entry's subtree is summarized and
parser-shaped (`∃ ps`: an entry does not record its parent's symbol), and every entry is the child of the entry below it at its
recorded index. -/
def StackOK (lang : Lang) : List Entry → Prop
  | [] => True
  | e :: rest =>
    Summarized lang e.t ∧ (∃ ps, shapeOK ps e.t = true) ∧
    (match rest with
     | p :: _ => p.t.kids[e.childIndex]? = some e.t
     | [] => True) ∧ StackOK lang rest

/-- The invariant of a whole cursor stack: the root entry has descendant index 0, and every other
entry is the child of the entry below it at its recorded raw index, with the structural index and
the descendant index the forward iterator would give it. -/
def CursorInv (lang : Lang) : List Entry → Prop
  | [] => False
  | [root] => root.descIdx = 0
  | e :: p :: rest =>
    EntryOK lang p.t (p.descIdx + (if isEntryVisible lang p rest.head? then 1 else 0)) e ∧ CursorInv lang (p :: rest)

/-- The structural-index invariant of a cursor stack: every entry records the number of non-extra
raw siblings before it. -/
def IdxOK : List Entry → Prop
  | e :: p :: rest => e.si = siAfter (p.t.kids.take e.childIndex) 0 ∧ IdxOK (p :: rest)
  | _ => True

/-- Linkage + structural indices of a stack, top first (what `CursorInv` says without the descendant indices). -/
def Linked : List Entry → Prop
  | e :: p :: rest => (p.t.kids[e.childIndex]? = some e.t ∧ e.si = siAfter (p.t.kids.take e.childIndex) 0) ∧ Linked (p :: rest)
  | _ => True

theorem linked_of_inv (lang : Lang) : ∀ (stack : List Entry), CursorInv lang stack → Linked stack
  | [], _ => trivial
  | [_], _ => trivial
  | e :: p :: rest, h => by
    unfold CursorInv at h
    exact ⟨⟨h.1.1, h.1.2.1⟩, linked_of_inv lang (p :: rest) h.2⟩

theorem cursorInv_idx (lang : Lang) : ∀ (stack : List Entry), CursorInv lang stack → IdxOK stack
  | [], h => by simp [CursorInv] at h
  | [_], _ => by simp [IdxOK]
  | e :: p :: rest, h => by
    unfold IdxOK
    exact ⟨h.1.2.1, cursorInv_idx lang (p :: rest) h.2⟩

theorem cursorInv_linked (lang : Lang) : ∀ (stack : List Entry), CursorInv lang stack →
    match stack with
    | e :: p :: _ => p.t.kids[e.childIndex]? = some e.t
    | _ => True
  | [], _ => trivial
  | [_], _ => trivial
  | _ :: _ :: _, h => h.1.1

theorem cursorInv_tail (lang : Lang) : ∀ (e : Entry) (rest : List Entry), rest ≠ [] → CursorInv lang (e :: rest) → CursorInv lang rest
  | _, [], h, _ => absurd rfl h
  | _, p :: r, _, hi => by unfold CursorInv at hi; exact hi.2

theorem cursorInv_suffix (lang : Lang) : ∀ (hs st : List Entry), st ≠ [] → CursorInv lang (hs ++ st) → CursorInv lang st
  | [], _, _, h => h
  | h :: hs, st, hne, hi => by
    have : hs ++ st ≠ [] := by simp [hne]
    exact cursorInv_suffix lang hs st hne (cursorInv_tail lang h (hs ++ st) this hi)

section
variable {lang : Lang} {last : Bool} {top : Entry} {p? : Option Entry} {x : Entry × Bool}

theorem childStop_mem (h : childStop lang last top p? = some x) :
    x ∈ kidsFrom lang top.t top.t.kids top.pos 0 0 (top.descIdx + (if isEntryVisible lang top p? then 1 else 0)) ∧
      stops x = true := by
  unfold childStop at h
  rw [run_children] at h
  cases last
  · exact ⟨List.mem_of_find?_eq_some h, List.find?_some h⟩
  · exact ⟨List.mem_reverse.mp (List.mem_of_find?_eq_some h), List.find?_some h⟩

theorem childStop_vis (h : childStop lang last top p? = some x) : x.2 = isEntryVisible lang x.1 (some top) :=
  kidsFrom_vis lang top _ _ _ _ _ x (childStop_mem h).1

end

theorem childStop_rel (lang : Lang) (last : Bool) (top : Entry) (p? : Option Entry) :
    (childStop lang last top p?).map stopKey = relOf lang last top.t.data.productionId top.t.kids 0 := by
  unfold childStop relOf
  rw [run_children]
  cases last
  · exact kidsFrom_firstRel lang top.t _ _ _ _ _
  · exact kidsFrom_lastRel lang top.t _ _ _ _ _

/-- `goto_first_child` (`last = false`) / `goto_last_child` succeed exactly when the node has a visible child and then
show the first / last element of `enumChildren`, descending through hidden nodes by their cached `visible_child_count`. -/
theorem cursor_child_spec (lang : Lang) (last : Bool) : ∀ (fuel : Nat) (top : Entry) (rest : List Entry) (ps : Option Nat),
    Summarized lang top.t → shapeOK ps top.t = true → top.t.size ≤ fuel →
    ((gotoChild lang last fuel (top :: rest)).1 = true →
        topNode lang (gotoChild lang last fuel (top :: rest)).2 = endOf last (enumChildren lang top.t)) ∧
    ((gotoChild lang last fuel (top :: rest)).1 = false → enumChildren lang top.t = [])
  | 0, top, _, _, _, _, hsz => by
    have := tree_size_pos top.t
    omega
  | fuel + 1, top, rest, ps, hs, hsh, hsz => by
    have hsk := summarizedL_kids lang top.t hs
    have hshk := shapeOKL_kids ps top.t hsh
    have hend := enumKids_end lang last top.t.kids top.t.data.productionId 0 _ (summarized_of_mem lang _ · hsk) (shapeOK_of_mem _ _ · hshk)
    rw [← enumChildren_eq, ← childStop_rel lang last top rest.head?] at hend
    rw [gotoChild_step]
    cases hst : childStop lang last top rest.head? with
    | none =>
      rw [hst] at hend
      exact ⟨fun h => Bool.noConfusion h, fun _ => endOf_eq_none last _ hend⟩
    | some x =>
      rw [hst] at hend
      have hmem := kidsFrom_mem lang top.t _ _ _ _ _ x (childStop_mem hst).1
      have hstop := (childStop_mem hst).2
      obtain ⟨x, b⟩ := x
      rw [hend]
      cases b
      · -- a hidden child with visible children is entered, and the descent succeeds
        have hsc := summarized_of_mem lang _ x.t hsk hmem
        have hshc := shapeOK_of_mem _ _ x.t hshk hmem
        have hv : vcc x.t > 0 := by simpa [stops] using hstop
        have := sizeList_mem _ x.t hmem
        have := tree_size_kids top.t
        have ih := cursor_child_spec lang last fuel x (top :: rest) _ hsc hshc (by omega)
        exact ⟨ih.1, fun hf => absurd (ih.2 hf) (enum_ne_nil_of_vcc lang x.t _ hsc hshc hv)⟩
      · exact ⟨fun _ => rfl, fun h => Bool.noConfusion h⟩

theorem cursor_first_child_spec (lang : Lang) : ∀ (fuel : Nat) (top : Entry) (rest : List Entry) (ps : Option Nat),
    Summarized lang top.t → shapeOK ps top.t = true → top.t.size ≤ fuel →
    ((gotoChild lang false fuel (top :: rest)).1 = true →
        topNode lang (gotoChild lang false fuel (top :: rest)).2 = (enumChildren lang top.t).head?) ∧
    ((gotoChild lang false fuel (top :: rest)).1 = false → enumChildren lang top.t = []) :=
  cursor_child_spec lang false

/-- The port of `ts_tree_cursor_goto_last_child` succeeds exactly when the
node has a visible child and then shows the LAST element of `enumChildren`. -/
theorem cursor_last_child_spec (lang : Lang) : ∀ (fuel : Nat) (top : Entry) (rest : List Entry) (ps : Option Nat),
    Summarized lang top.t → shapeOK ps top.t = true → top.t.size ≤ fuel →
    ((gotoChild lang true fuel (top :: rest)).1 = true →
        topNode lang (gotoChild lang true fuel (top :: rest)).2 = (enumChildren lang top.t).getLast?) ∧
    ((gotoChild lang true fuel (top :: rest)).1 = false → enumChildren lang top.t = []) :=
  cursor_child_spec lang true

theorem gotoChild_of_vcc (lang : Lang) (last : Bool) (e : Entry) (st : List Entry) (ps : Option Nat)
    (hs : Summarized lang e.t) (hsh : shapeOK ps e.t = true) (hv : vcc e.t > 0) :
    (gotoChild lang last (topSize (e :: st)) (e :: st)).1 = true ∧
    topNode lang (gotoChild lang last (topSize (e :: st)) (e :: st)).2 = endOf last (enumChildren lang e.t) := by
  have hfc := cursor_child_spec lang last (topSize (e :: st)) e st ps hs hsh (by simp [topSize])
  cases hb : (gotoChild lang last (topSize (e :: st)) (e :: st)).1 with
  | true => exact ⟨rfl, hfc.1 hb⟩
  | false => exact absurd (hfc.2 hb) (enum_ne_nil_of_vcc lang e.t ps hs hsh hv)

/-- Visible nodes that follow entry `e` among the raw children of its parent entry `p`. -/
def laterInParent (lang : Lang) (e p : Entry) : List (Tree × Nat) :=
  enumKids lang p.t.data.productionId (p.t.kids.drop (e.childIndex + 1)) (if e.t.data.extra then e.si else e.si + 1)

/-- The siblings that follow the cursor's node in the ordered tree: what follows it in its raw
parent, then — as long as the ancestors passed are hidden — what follows each of them. -/
def laterSiblings (lang : Lang) : Bool → List Entry → List (Tree × Nat)
  | first, e :: p :: rest =>
    if !first && visEntry lang e p then []
    else laterInParent lang e p ++ laterSiblings lang false (p :: rest)
  | _, _ => []

/-- The two length hypotheses of the sibling searches (`first`: the stack searched is still the cursor's whole stack of `n`
entries): `gotoSiblingInternal`'s test for stopping at a visible ancestor is the test of `laterSiblings` / `earlierSiblings`. -/
theorem stop_test (first vis : Bool) (len n : Nat) (hf1 : first = true → len = n) (hf2 : first = false → len < n) :
    (vis && decide (len < n)) = (!first && vis) ∧ len ≤ n := by
  cases first
  · simp [hf2 rfl, Nat.le_of_lt (hf2 rfl)]
  · simp [hf1 rfl]

theorem childStop_ok {lang : Lang} {last : Bool} {top : Entry} {p? : Option Entry} {x : Entry × Bool}
    (h : childStop lang last top p? = some x) :
    EntryOK lang top.t (top.descIdx + (if isEntryVisible lang top p? then 1 else 0)) x.1 := by
  exact kidsFrom_ok lang _ top.t _ _ 0 0 _ rfl rfl (by simp [descBefore]) x (childStop_mem h).1

/-- `goto_first_child` / `goto_last_child` keep the stack invariant. -/
theorem gotoChild_preserves_inv (lang : Lang) (last : Bool) : ∀ (fuel : Nat) (stack : List Entry),
    CursorInv lang stack → CursorInv lang (gotoChild lang last fuel stack).2 := by
  intro fuel
  induction fuel with
  | zero => intro stack h; simpa [gotoChild] using h
  | succ fuel ih =>
    intro stack h
    cases stack with
    | nil => simpa [gotoChild] using h
    | cons top rest =>
    rw [gotoChild_step]
    cases hs : childStop lang last top rest.head? with
    | none => exact h
    | some x =>
      have hx := childStop_ok hs
      obtain ⟨x, b⟩ := x
      cases b
      · exact ih _ ⟨hx, h⟩
      · exact ⟨hx, h⟩

/-- Visible nodes that precede entry `e` among the raw children of its parent entry `p`. -/
def earlierInParent (lang : Lang) (e p : Entry) : List (Tree × Nat) :=
  enumKids lang p.t.data.productionId (p.t.kids.take e.childIndex) 0

/-- The siblings that precede the cursor's node in the ordered tree (in document order). -/
def earlierSiblings (lang : Lang) : Bool → List Entry → List (Tree × Nat)
  | first, e :: p :: rest =>
    if !first && visEntry lang e p then []
    else earlierSiblings lang false (p :: rest) ++ earlierInParent lang e p
  | _, _ => []

/-! ### goto_next_sibling and goto_previous_sibling: one walk, two directions

`ts_tree_cursor_goto_sibling_internal` is one function with the iterator step as a parameter; so are its theorems.
`back = false` is `ts_tree_cursor_child_iterator_next`, `back = true` the repaired `…_previous`; `sibsOf back first` is
`earlierSiblings` / `laterSiblings` with their flag `first` (the top entry is the node itself, every entry below it an ancestor,
at which a visible one ends the list). -/

def advOf (lang : Lang) : Bool → Iter → Option (Entry × Bool × Iter)
  | true => iterPrev lang Quirks.none
  | false => iterNext lang

/-- The raw children of `p` ahead of its child `e` in a direction, and the structural index their enumeration starts with. -/
def aheadKids : Bool → Entry → Entry → List Tree × Nat
  | true, e, p => (p.t.kids.take e.childIndex, 0)
  | false, e, p => (p.t.kids.drop (e.childIndex + 1), if e.t.data.extra then e.si else e.si + 1)

def sibsOf (lang : Lang) : Bool → Bool → List Entry → List (Tree × Nat)
  | true => earlierSiblings lang
  | false => laterSiblings lang

/-- The node a result of `gotoSiblingInternal` stands for: the entry on top, or — after a hidden step — the child of it
that the following goto_first_child / goto_last_child reaches. -/
def shownBy (lang : Lang) (back : Bool) : Step × List Entry → Option (Tree × Nat)
  | (.visible, st) => topNode lang st
  | (.hidden, e :: _) => endOf back (enumChildren lang e.t)
  | _ => none

theorem sibsOf_cons (lang : Lang) (back first : Bool) (e p : Entry) (rest : List Entry) :
    endOf back (sibsOf lang back first (e :: p :: rest)) =
      if (!first && visEntry lang e p) = true then none
      else (endOf back (enumKids lang p.t.data.productionId (aheadKids back e p).1 (aheadKids back e p).2)).or
        (endOf back (sibsOf lang back false (p :: rest))) := by
  by_cases hstop : (!first && visEntry lang e p) = true
  · rw [if_pos hstop]
    cases back <;> simp only [sibsOf, laterSiblings, earlierSiblings, hstop, if_true] <;> rfl
  · rw [if_neg hstop]
    cases back <;> simp only [sibsOf, laterSiblings, earlierSiblings, hstop, Bool.false_eq_true, if_false]
    · exact List.head?_append
    · exact List.getLast?_append

/-- What a direction contributes at one level: the re-visited entry is recognised, the scan stops where `firstRel` /
`lastRel` of the children ahead says, and the entry it stops at carries the bookkeeping of the forward iterator.  Going back
this needs `EntryOK` of the entry left (hence `CursorInv` in the theorems): the reverse iterator finds the structural and
descendant indices by subtracting from those it starts with; going forward the linkage is enough. -/
structure DirFacts (lang : Lang) (back : Bool) (e p : Entry) (rest : List Entry) (base : Nat) : Prop where
  vis : (revisit lang (advOf lang back) e p rest).1 = visEntry lang e p
  rel : (sibStop lang (advOf lang back) e p rest).map stopKey =
    relOf lang back p.t.data.productionId (aheadKids back e p).1 (aheadKids back e p).2
  ok : EntryOK lang p.t base e → ∀ x, sibStop lang (advOf lang back) e p rest = some x → EntryOK lang p.t base x.1

theorem sibStop_next (lang : Lang) (e p : Entry) (rest : List Entry) (hchild : p.t.kids[e.childIndex]? = some e.t) :
    (revisit lang (iterNext lang) e p rest).1 = visEntry lang e p ∧
    sibStop lang (iterNext lang) e p rest =
      (kidsFrom lang p.t (p.t.kids.drop (e.childIndex + 1)) (nextIter lang (siblingIter lang e p rest.head?) e.t).pos
        (e.childIndex + 1) (if e.t.data.extra then e.si else e.si + 1)
        (nextIter lang (siblingIter lang e p rest.head?) e.t).descIdx).find? stops := by
  have hlt := lt_of_getElem?_some _ _ _ hchild
  have hnext := iterNext_some lang (siblingIter lang e p rest.head?) e.t (siblingIter_valid lang e p _ _ hchild)
    (by rw [siblingIter_parent]; exact hchild)
  simp only [sibStop, revisit, hnext, run_full lang (p.t.kids.length + 2) (nextIter lang (siblingIter lang e p rest.head?) e.t)
    (siblingIter_valid lang e p _ _ hchild) (by simp only [nextIter_parent, nextIter_childIndex, siblingIter_parent]; omega)]
  refine ⟨visOf_eq lang _ e p (siblingIter_parent lang e p _) rfl, ?_⟩
  unfold ahead
  rw [nextIter_parent, siblingIter_parent]
  rfl

theorem dirFacts_next (lang : Lang) (e p : Entry) (rest : List Entry) (base : Nat) (hchild : p.t.kids[e.childIndex]? = some e.t) :
    DirFacts lang false e p rest base := by
  obtain ⟨hvis, hstop⟩ := sibStop_next lang e p rest hchild
  refine ⟨hvis, ?_, fun hok x hx => ?_⟩
  · exact (congrArg (Option.map stopKey) hstop).trans (kidsFrom_firstRel lang p.t _ _ _ _ _)
  · obtain ⟨_, hsi, hd⟩ := nextIter_ok lang base _ e.t (siblingIter_ok lang e p rest.head? base hok)
      (by rw [siblingIter_parent]; exact hchild)
    rw [nextIter_parent, siblingIter_parent] at hsi hd
    exact kidsFrom_ok lang base p.t _ _ _ _ _ rfl hsi hd x (List.mem_of_find?_eq_some (hstop ▸ hx))

theorem dirFacts_prev (lang : Lang) (e p : Entry) (rest : List Entry) (base : Nat) (hok : EntryOK lang p.t base e)
    (hn : p.t.kids.length ≤ u32max) : DirFacts lang true e p rest base := by
  have hchild := hok.1
  have hlt := lt_of_getElem?_some _ _ _ hchild
  have hpar := siblingIter_parent lang e p rest.head?
  have hprev := iterPrev_some lang (siblingIter lang e p rest.head?) e.t (siblingIter_valid lang e p _ _ hchild)
    (by rw [hpar]; exact hchild) (by rw [hpar]; exact hn)
  have hfrom := prevScan_from lang base (siblingIter lang e p rest.head?) e.t (p.t.kids.length + 2)
    (siblingIter_ok lang e p rest.head? base hok) (by rw [hpar]; exact hlt) (by rw [hpar]; exact hn)
    (by rw [siblingIter_childIndex]; omega)
  rw [scanSiblings_run, bestOf_stepOf, hpar] at hfrom
  have hstop : sibStop lang (advOf lang true) e p rest =
      (run (iterPrev lang Quirks.none) (p.t.kids.length + 2) (prevIter lang (siblingIter lang e p rest.head?) e.t)).find? stops := by
    simp only [sibStop, revisit, advOf, hprev]
  refine ⟨?_, ?_, fun _ x hx => ?_⟩
  · simp only [revisit, advOf, hprev]
    exact visOf_eq lang _ e p hpar rfl
  · rw [hstop]; exact hfrom.1
  · rw [hstop] at hx
    refine hfrom.2 x.1 ?_
    rw [hx]
    obtain ⟨x, b⟩ := x
    cases b <;> rfl

theorem sibling_dir_inv (lang : Lang) (back : Bool) (n : Nat) : ∀ (stack : List Entry),
    CursorInv lang stack → (back = true → ∀ e ∈ stack, e.t.kids.length ≤ u32max) →
    (gotoSiblingInternal lang (advOf lang back) n stack).1 ≠ Step.none →
    CursorInv lang (gotoSiblingInternal lang (advOf lang back) n stack).2 := by
  intro stack
  induction stack with
  | nil => intro h; simp [CursorInv] at h
  | cons e tl ih =>
    intro h hsmall hne
    cases tl with
    | nil => simp [gotoSiblingInternal] at hne
    | cons p rest =>
    obtain ⟨hent, hrest⟩ := h
    have hf : DirFacts lang back e p rest (p.descIdx + (if isEntryVisible lang p rest.head? then 1 else 0)) := by
      cases back
      · exact dirFacts_next lang e p rest _ hent.1
      · exact dirFacts_prev lang e p rest _ hent (hsmall rfl p (by simp))
    rw [gotoSiblingInternal_step] at hne ⊢
    split at hne
    · exact absurd rfl hne
    · rw [if_neg ‹_›]
      cases hs : sibStop lang (advOf lang back) e p rest with
      | none =>
        rw [hs] at hne
        exact ih hrest (fun hb x hx => hsmall hb x (List.mem_cons_of_mem _ hx)) hne
      | some x =>
        have hx := hf.ok hent x hs
        obtain ⟨x, b⟩ := x
        cases b <;> exact ⟨hx, hrest⟩

/-- What `gotoSiblingInternal` shows in direction `back` is the first (last) of the later (earlier) siblings: per level the
stop of the scan stands for the end of that level's part of the list (`enumKids_end`), and the levels combine by `Option.or`
on both sides.  A hidden entry it stops at has visible children. -/
theorem sibling_dir_spec (lang : Lang) (back : Bool) (n : Nat) : ∀ (stack : List Entry) (first : Bool),
    StackOK lang stack → (back = true → CursorInv lang stack ∧ ∀ e ∈ stack, e.t.kids.length ≤ u32max) →
    (first = true → stack.length = n) → (first = false → stack.length < n) →
    shownBy lang back (gotoSiblingInternal lang (advOf lang back) n stack) = endOf back (sibsOf lang back first stack) ∧
    ((gotoSiblingInternal lang (advOf lang back) n stack).1 = Step.hidden →
      ∃ e st', (gotoSiblingInternal lang (advOf lang back) n stack).2 = e :: st' ∧ vcc e.t > 0 ∧
        Summarized lang e.t ∧ ∃ ps, shapeOK ps e.t = true) := by
  intro stack
  induction stack with
  | nil => intro first _ _ _ _; cases back <;> simp [gotoSiblingInternal, shownBy, sibsOf, laterSiblings, earlierSiblings, endOf]
  | cons e tl ih =>
    intro first hok hb hf1 hf2
    cases tl with
    | nil => cases back <;> simp [gotoSiblingInternal, shownBy, sibsOf, laterSiblings, earlierSiblings, endOf]
    | cons p rest =>
    obtain ⟨_, _, hchild, hokp⟩ := hok
    have ⟨hsp, ⟨psp, hshp⟩, _⟩ := hokp
    obtain ⟨htest, hle⟩ := stop_test first (visEntry lang e p) (rest.length + 2) n hf1 hf2
    have hrec := ih false hokp
      (fun h => ⟨(hb h).1.2, fun x hx => (hb h).2 x (List.mem_cons_of_mem _ hx)⟩)
      (fun h => by simp at h) (fun _ => by simp only [List.length_cons]; omega)
    have hf : DirFacts lang back e p rest (p.descIdx + (if isEntryVisible lang p rest.head? then 1 else 0)) := by
      cases back
      · exact dirFacts_next lang e p rest _ hchild
      · exact dirFacts_prev lang e p rest _ (hb rfl).1.1 ((hb rfl).2 p (by simp))
    rw [gotoSiblingInternal_step, sibsOf_cons, hf.vis, htest]
    by_cases hbreak : (!first && visEntry lang e p) = true
    · rw [if_pos hbreak, if_pos hbreak]
      exact ⟨rfl, fun h => by simp at h⟩
    · rw [if_neg hbreak, if_neg hbreak]
      have hkid : ∀ c ∈ (aheadKids back e p).1, Summarized lang c ∧ shapeOK (some p.t.data.symbol) c = true := by
        intro c hc
        have hm : c ∈ p.t.kids := by
          cases back
          · exact List.mem_of_mem_drop hc
          · exact List.mem_of_mem_take hc
        exact ⟨summarized_of_mem lang _ c (summarizedL_kids lang p.t hsp) hm, shapeOK_of_mem _ _ c (shapeOKL_kids psp p.t hshp) hm⟩
      rw [enumKids_end lang back _ p.t.data.productionId _ (some p.t.data.symbol) (fun c hc => (hkid c hc).1) (fun c hc => (hkid c hc).2),
        ← hf.rel]
      cases hs : sibStop lang (advOf lang back) e p rest with
      | none => exact hrec
      | some x =>
        have ⟨hmem0, hvc0⟩ := relOf_some lang back _ _ _ _ _ _ (hs ▸ hf.rel).symm
        obtain ⟨x, b⟩ := x
        cases b with
        | true => exact ⟨rfl, fun h => by simp at h⟩
        | false =>
          obtain ⟨hsc, hshc⟩ := hkid _ hmem0
          refine ⟨?_, fun _ => ⟨x, _, rfl, hvc0 rfl, hsc, ⟨_, hshc⟩⟩⟩
          simp only [shownBy, Option.map_some, stopKey, Option.bind_some, stopMeaning, Bool.false_eq_true, if_false]
          cases hy : endOf back (enumChildren lang x.t) with
          | none => exact absurd (endOf_eq_none back _ hy) (enum_ne_nil_of_vcc lang x.t _ hsc hshc (hvc0 rfl))
          | some y => rfl

/-- The same as three implications: at `back = false` / `true` these are `sibling_internal_spec` / `prev_internal_spec`. -/
theorem sibling_dir_spec3 (lang : Lang) (back : Bool) (n : Nat) (stack : List Entry) (first : Bool)
    (hok : StackOK lang stack) (hb : back = true → CursorInv lang stack ∧ ∀ e ∈ stack, e.t.kids.length ≤ u32max)
    (hf1 : first = true → stack.length = n) (hf2 : first = false → stack.length < n) :
    ((gotoSiblingInternal lang (advOf lang back) n stack).1 = Step.visible →
        topNode lang (gotoSiblingInternal lang (advOf lang back) n stack).2 = endOf back (sibsOf lang back first stack)) ∧
    ((gotoSiblingInternal lang (advOf lang back) n stack).1 = Step.hidden →
        ∃ e st', (gotoSiblingInternal lang (advOf lang back) n stack).2 = e :: st' ∧ vcc e.t > 0 ∧
          Summarized lang e.t ∧ (∃ ps, shapeOK ps e.t = true) ∧
          endOf back (enumChildren lang e.t) = endOf back (sibsOf lang back first stack)) ∧
    ((gotoSiblingInternal lang (advOf lang back) n stack).1 = Step.none → sibsOf lang back first stack = []) := by
  obtain ⟨hshow, hhid⟩ := sibling_dir_spec lang back n stack first hok hb hf1 hf2
  generalize gotoSiblingInternal lang (advOf lang back) n stack = r at hshow hhid ⊢
  obtain ⟨step, st⟩ := r
  refine ⟨fun h => ?_, fun h => ?_, fun h => ?_⟩
  · cases h; exact hshow
  · cases h
    obtain ⟨e, st', rfl, h1, h2, h3⟩ := hhid rfl
    exact ⟨e, st', rfl, h1, h2, h3, hshow⟩
  · cases h; exact endOf_eq_none back _ hshow.symm

theorem sibling_internal_spec (lang : Lang) (initialSize : Nat) : ∀ (stack : List Entry) (first : Bool),
    StackOK lang stack → (first = true → stack.length = initialSize) → (first = false → stack.length < initialSize) →
    ((gotoSiblingInternal lang (iterNext lang) initialSize stack).1 = Step.visible →
        topNode lang (gotoSiblingInternal lang (iterNext lang) initialSize stack).2 = (laterSiblings lang first stack).head?) ∧
    ((gotoSiblingInternal lang (iterNext lang) initialSize stack).1 = Step.hidden →
        ∃ e st', (gotoSiblingInternal lang (iterNext lang) initialSize stack).2 = e :: st' ∧ vcc e.t > 0 ∧
          Summarized lang e.t ∧ (∃ ps, shapeOK ps e.t = true) ∧
          (enumChildren lang e.t).head? = (laterSiblings lang first stack).head?) ∧
    ((gotoSiblingInternal lang (iterNext lang) initialSize stack).1 = Step.none → laterSiblings lang first stack = []) := by
  exact fun stack first hok => sibling_dir_spec3 lang false initialSize stack first hok (fun h => nomatch h)

/-- For every cursor whose stack is well formed over summarized
parser-shaped subtrees, the port of `ts_tree_cursor_goto_next_sibling` succeeds exactly when a
later sibling exists in the ordered tree (`laterSiblings`: what follows the node in its raw
parent, then what follows each hidden ancestor), and then shows exactly the first of them. -/
theorem cursor_next_sibling_spec (lang : Lang) (c : Cursor) (hok : StackOK lang c.stack) :
    ((gotoNextSibling lang c).1 = true →
        topNode lang (gotoNextSibling lang c).2.stack = (laterSiblings lang true c.stack).head?) ∧
    ((gotoNextSibling lang c).1 = false → laterSiblings lang true c.stack = []) := by
  have h := sibling_internal_spec lang c.stack.length c.stack true hok (fun _ => rfl) (fun h => by simp at h)
  unfold gotoNextSibling
  generalize hr : gotoSiblingInternal lang (iterNext lang) c.stack.length c.stack = r at h
  obtain ⟨step, st⟩ := r
  simp only at h
  cases step with
  | visible =>
    simp only
    exact ⟨fun _ => h.1 rfl, fun hf => by simp at hf⟩
  | none =>
    simp only
    exact ⟨fun hf => by simp at hf, fun _ => h.2.2 rfl⟩
  | hidden =>
    simp only
    obtain ⟨e, st', hst, hv, hs, ⟨ps, hsh⟩, hhead⟩ := h.2.1 rfl
    subst hst
    exact ⟨fun _ => (gotoChild_of_vcc lang false e st' ps hs hsh hv).2.trans hhead, fun hf => by simp at hf⟩

/-- What entry `e` (child of entry `p`) contributes to the enumeration of `p`'s visible children. -/
def contrib (lang : Lang) (e p : Entry) : List (Tree × Nat) :=
  if e.t.data.visible || (if e.t.data.extra then 0 else lang.aliasAt p.t.data.productionId e.si) != 0
  then [(e.t, (if e.t.data.extra then 0 else lang.aliasAt p.t.data.productionId e.si))] else enumChildren lang e.t

theorem enum_split_level (lang : Lang) (e p : Entry)
    (hchild : p.t.kids[e.childIndex]? = some e.t) (hsi : e.si = siAfter (p.t.kids.take e.childIndex) 0) :
    enumChildren lang p.t =
      enumKids lang p.t.data.productionId (p.t.kids.take e.childIndex) 0 ++ contrib lang e p ++ laterInParent lang e p := by
  cases hp : p.t with
  | mk pd pkids =>
  rw [hp] at hchild hsi
  simp only [kids_mk, data_mk] at hchild hsi ⊢
  unfold enumChildren
  have hsplit : pkids = pkids.take e.childIndex ++ e.t :: pkids.drop (e.childIndex + 1) := by
    rw [← drop_eq_cons _ _ _ hchild, List.take_append_drop]
  conv => lhs; rw [hsplit]
  rw [enumKids_append, ← hsi]
  unfold laterInParent contrib
  simp only [hp, kids_mk, data_mk]
  conv => lhs; rw [enumKids]
  simp only [List.append_assoc]

/-- The enumeration of the children of the nearest visible ancestor (the bottom entry counts as
visible: it is the cursor's root). -/
def ancEnum (lang : Lang) : List Entry → List (Tree × Nat)
  | [] => []
  | [p] => enumChildren lang p.t
  | p :: p' :: rest => if visEntry lang p p' then enumChildren lang p.t else ancEnum lang (p' :: rest)

theorem siblings_split (lang : Lang) : ∀ (rest : List Entry) (e p : Entry),
    StackOK lang (e :: p :: rest) → IdxOK (e :: p :: rest) →
    ancEnum lang (p :: rest) =
      earlierSiblings lang true (e :: p :: rest) ++ contrib lang e p ++ laterSiblings lang true (e :: p :: rest)
  | [], e, p, hok, hidx => by
    unfold StackOK at hok
    unfold IdxOK at hidx
    simp only [ancEnum, laterSiblings, earlierSiblings, earlierInParent, Bool.not_true, Bool.false_and, Bool.false_eq_true,
      if_false, List.append_nil, List.nil_append]
    exact enum_split_level lang e p hok.2.2.1 hidx.1
  | p' :: rest, e, p, hok, hidx => by
    have hok' := hok
    unfold StackOK at hok'
    have hidx' := hidx
    unfold IdxOK at hidx'
    have hlevel := enum_split_level lang e p hok'.2.2.1 hidx'.1
    have hb := siblings_split lang rest p p' hok'.2.2.2 hidx'.2
    by_cases hv : visEntry lang p p' = true
    · simp only [ancEnum, hv, if_true, laterSiblings, earlierSiblings, earlierInParent, Bool.not_true, Bool.false_and,
        Bool.false_eq_true, if_false, Bool.not_false, Bool.true_and, List.append_nil, List.nil_append]
      exact hlevel
    · have hv' := eq_false_of_ne_true hv
      have hcp : contrib lang p p' = enumChildren lang p.t := by
        unfold contrib
        rw [← visEntry_eq, hv']
        simp
      have hl : laterSiblings lang true (e :: p :: p' :: rest) =
          laterInParent lang e p ++ laterSiblings lang true (p :: p' :: rest) := by
        simp [laterSiblings, hv']
      have he : earlierSiblings lang true (e :: p :: p' :: rest) =
          earlierSiblings lang true (p :: p' :: rest) ++ earlierInParent lang e p := by
        simp [earlierSiblings, hv']
      rw [hl, he]
      simp only [ancEnum, hv', Bool.false_eq_true, if_false]
      rw [hb, hcp, hlevel]
      simp only [earlierInParent, List.append_assoc]

/-- For a well-linked stack with the structural-index invariant, the
enumeration of the children of the nearest visible ancestor is
`before ++ (what the current entry contributes) ++ laterSiblings`. -/
theorem later_siblings_split (lang : Lang) : ∀ (rest : List Entry) (e p : Entry),
    StackOK lang (e :: p :: rest) → IdxOK (e :: p :: rest) →
    ∃ before, ancEnum lang (p :: rest) = before ++ contrib lang e p ++ laterSiblings lang true (e :: p :: rest) :=
  fun rest e p hok hidx => ⟨_, siblings_split lang rest e p hok hidx⟩

/-- "nextSibling n = (siblingsOf n)[idx n + 1]?": when the cursor
shows a visible node, the children of its nearest visible ancestor are
`before ++ node :: laterSiblings`, so `goto_next_sibling` moves to the element with index
`before.length + 1` of the sibling list and fails exactly when there is none. -/
theorem cursor_next_sibling_index_spec (lang : Lang) (c : Cursor) (e p : Entry) (rest : List Entry)
    (hst : c.stack = e :: p :: rest) (hok : StackOK lang c.stack) (hidx : IdxOK c.stack)
    (hvis : visEntry lang e p = true) :
    ∃ before,
      ancEnum lang (p :: rest) =
        before ++ (e.t, (if e.t.data.extra then 0 else lang.aliasAt p.t.data.productionId e.si)) :: laterSiblings lang true c.stack ∧
      ((gotoNextSibling lang c).1 = true →
        topNode lang (gotoNextSibling lang c).2.stack = (ancEnum lang (p :: rest))[before.length + 1]?) ∧
      ((gotoNextSibling lang c).1 = false → (ancEnum lang (p :: rest))[before.length + 1]? = none) := by
  rw [hst] at hok hidx
  obtain ⟨before, hb⟩ := later_siblings_split lang rest e p hok hidx
  have hc : contrib lang e p = [(e.t, (if e.t.data.extra then 0 else lang.aliasAt p.t.data.productionId e.si))] := by
    unfold contrib
    rw [← visEntry_eq, hvis]
    simp
  rw [hc] at hb
  have hspec := cursor_next_sibling_spec lang c (by rw [hst]; exact hok)
  refine ⟨before, by rw [hb, hst]; simp, ?_, ?_⟩
  · intro h
    rw [hspec.1 h, hb, ← hst]
    simp [List.getElem?_append_right, List.head?_eq_getElem?]
  · intro h
    rw [hb, ← hst, hspec.2 h]
    simp

/-- `goto_first_child` of a cursor and `ts_node_child(node, 0)` reach the
same (subtree, alias), for every summarized parser-shaped subtree. -/
theorem cursor_node_agree_first (lang : Lang) (top : Entry) (rest : List Entry) (ps : Option Nat)
    (hs : Summarized lang top.t) (hsh : shapeOK ps top.t = true) :
    (if (gotoChild lang false (topSize (top :: rest)) (top :: rest)).1
      then topNode lang (gotoChild lang false (topSize (top :: rest)) (top :: rest)).2 else none) =
    (nodeChild lang true top.t top.pos 0).map (fun r => (r.t, r.alias)) := by
  have hc := cursor_first_child_spec lang (topSize (top :: rest)) top rest ps hs hsh (by simp [topSize])
  rw [child_spec lang top.t ps top.pos 0 hs hsh]
  cases hb : (gotoChild lang false (topSize (top :: rest)) (top :: rest)).1 with
  | true => simp only [if_true]; rw [hc.1 hb]; simp [List.head?_eq_getElem?]
  | false => simp [hc.2 hb]

/-- When the cursor shows the child with index `before.length` of a
VISIBLE parent entry (or of the cursor's root), `goto_next_sibling` reaches the same
(subtree, alias) as `ts_node_child(parent, before.length + 1)`. -/
theorem cursor_node_agree_next (lang : Lang) (c : Cursor) (e p : Entry) (rest : List Entry) (ps : Option Nat)
    (hst : c.stack = e :: p :: rest) (hok : StackOK lang c.stack) (hidx : IdxOK c.stack)
    (hvis : visEntry lang e p = true)
    (hpv : match rest with | p' :: _ => visEntry lang p p' = true | [] => True)
    (hsh : shapeOK ps p.t = true) :
    ∃ i, (enumChildren lang p.t)[i]? = some (e.t, (if e.t.data.extra then 0 else lang.aliasAt p.t.data.productionId e.si)) ∧
      (if (gotoNextSibling lang c).1 then topNode lang (gotoNextSibling lang c).2.stack else none) =
        (nodeChild lang true p.t p.pos (i + 1)).map (fun r => (r.t, r.alias)) := by
  obtain ⟨before, hb, h1, h2⟩ := cursor_next_sibling_index_spec lang c e p rest hst hok hidx hvis
  have hanc : ancEnum lang (p :: rest) = enumChildren lang p.t := by
    cases rest with
    | nil => rfl
    | cons p' r => simp only [ancEnum]; simp only at hpv; simp [hpv]
  have hsp : Summarized lang p.t := by
    rw [hst] at hok
    unfold StackOK at hok
    have := hok.2.2.2
    unfold StackOK at this
    exact this.1
  refine ⟨before.length, ?_, ?_⟩
  · rw [← hanc, hb]; simp
  · rw [child_spec lang p.t ps p.pos (before.length + 1) hsp hsh, ← hanc]
    cases hbn : (gotoNextSibling lang c).1 with
    | true => simp only [if_true]; exact h1 hbn
    | false => simp only [Bool.false_eq_true, if_false]; exact (h2 hbn).symm

/-- The field chain of the cursor's node, built from the stack exactly as `flattenKids` builds the
`fields` of a node of `flatten`: the node's own structural slot, then the slots of its hidden
ancestors up to (excluding) the nearest visible one; an extra entry cuts the chain. -/
def stackChain (lang : Lang) : List Entry → List (List Nat)
  | e :: p :: rest =>
    if e.t.data.extra then []
    else directFields lang p.t.data.productionId e.si ::
      (match rest with
       | p' :: _ => if visEntry lang p p' then [] else stackChain lang (p :: rest)
       | [] => [])
  | _ => []

/-- The loop of `ts_tree_cursor_current_field_id`: its `!isTop && visible → 0` is `stackChain`'s cut at the nearest visible
ancestor, and a level without a direct field entry falls through to the level below, as `chainField` skips an empty level. -/
theorem currentFieldId_go_spec (lang : Lang) : ∀ (stack : List Entry) (isTop : Bool),
    currentFieldId.go lang isTop stack =
      match stack with
      | e :: p :: _ => if !isTop && visEntry lang e p then 0 else (chainField (stackChain lang stack)).getD 0
      | _ => 0
  | [], _ => by simp [currentFieldId.go]
  | [_], _ => by simp [currentFieldId.go]
  | e :: p :: rest, isTop => by
    unfold currentFieldId.go
    rw [isEntryVisible_eq]
    by_cases hstop : (!isTop && visEntry lang e p) = true
    · simp [hstop]
    · have hstop' := eq_false_of_ne_true hstop
      simp only [hstop', Bool.false_eq_true, if_false]
      by_cases hx : e.t.data.extra = true
      · simp [hx, stackChain, chainField]
      · have hx' := eq_false_of_ne_true hx
        simp only [hx', Bool.false_eq_true, if_false]
        rw [← List.head?_filter]
        unfold stackChain
        simp only [hx', Bool.false_eq_true, if_false]
        rw [chainField_cons]
        unfold directFields
        cases hf : ((lang.fieldMap p.t.data.productionId).toList.filter fun m => !m.inherited && m.childIndex == e.si) with
        | cons m ms => simp [firstSome]
        | nil =>
          simp only [List.head?_nil, List.map_nil, firstSome]
          rw [currentFieldId_go_spec lang (p :: rest) false]
          cases rest with
          | nil => simp [chainField]
          | cons p' r =>
            simp only [Bool.not_false, Bool.true_and]
            by_cases hv : visEntry lang p p' = true
            · simp [hv, chainField]
            · have hv' := eq_false_of_ne_true hv
              simp [hv']

/-- The port of `ts_tree_cursor_current_field_id` returns the field that the
field chain of the node shows (`chainField`, which `render` applies to the `fields` of a node of `flatten`):
the first field of the innermost level that has one; none for extras and for the cursor's root. -/
theorem cursor_field_spec (lang : Lang) (c : Cursor) :
    currentFieldId lang c = (chainField (stackChain lang c.stack)).getD 0 := by
  unfold currentFieldId
  rw [currentFieldId_go_spec]
  cases hs : c.stack with
  | nil => simp [stackChain, chainField]
  | cons e r =>
    cases r with
    | nil => simp [stackChain, chainField]
    | cons p rest => simp

theorem sibling_internal_preserves_inv (lang : Lang) (initialSize : Nat) : ∀ (stack : List Entry),
    CursorInv lang stack →
    (gotoSiblingInternal lang (iterNext lang) initialSize stack).1 ≠ Step.none →
    CursorInv lang (gotoSiblingInternal lang (iterNext lang) initialSize stack).2 := by
  exact fun stack h => sibling_dir_inv lang false initialSize stack h (fun hb => nomatch hb)

/-- `goto_next_sibling` keeps the stack invariant (a failed move
leaves the cursor unchanged). -/
theorem gotoNextSibling_preserves_inv (lang : Lang) (c : Cursor) (h : CursorInv lang c.stack) :
    CursorInv lang (gotoNextSibling lang c).2.stack := by
  unfold gotoNextSibling
  have hs := sibling_internal_preserves_inv lang c.stack.length c.stack h
  generalize hr : gotoSiblingInternal lang (iterNext lang) c.stack.length c.stack = r at hs
  obtain ⟨step, st⟩ := r
  cases step with
  | none => simpa using h
  | visible => simpa using hs (by simp)
  | hidden =>
    simp only
    exact gotoChild_preserves_inv lang false _ st (hs (by simp))

theorem prev_internal_spec (lang : Lang) (initialSize : Nat) : ∀ (stack : List Entry) (first : Bool),
    StackOK lang stack → CursorInv lang stack → (∀ e ∈ stack, e.t.kids.length ≤ u32max) →
    (first = true → stack.length = initialSize) → (first = false → stack.length < initialSize) →
    ((gotoSiblingInternal lang (iterPrev lang Quirks.none) initialSize stack).1 = Step.visible →
        topNode lang (gotoSiblingInternal lang (iterPrev lang Quirks.none) initialSize stack).2 =
          (earlierSiblings lang first stack).getLast?) ∧
    ((gotoSiblingInternal lang (iterPrev lang Quirks.none) initialSize stack).1 = Step.hidden →
        ∃ e st', (gotoSiblingInternal lang (iterPrev lang Quirks.none) initialSize stack).2 = e :: st' ∧ vcc e.t > 0 ∧
          Summarized lang e.t ∧ (∃ ps, shapeOK ps e.t = true) ∧
          (enumChildren lang e.t).getLast? = (earlierSiblings lang first stack).getLast?) ∧
    ((gotoSiblingInternal lang (iterPrev lang Quirks.none) initialSize stack).1 = Step.none →
        earlierSiblings lang first stack = []) := by
  exact fun stack first hok hinv hsmall => sibling_dir_spec3 lang true initialSize stack first hok (fun _ => ⟨hinv, hsmall⟩)

theorem topNode_pos_irrelevant (lang : Lang) (top parent : Entry) (rest : List Entry) (p : Length) :
    topNode lang ({ top with pos := p } :: parent :: rest) = topNode lang (top :: parent :: rest) := rfl

/-- For the reverse iterator without its three departures (`Quirks.none`), on every cursor stack that satisfies `StackOK`
(summarized parser-shaped subtrees) and the invariant `CursorInv`, with fewer than 2³² children per node, the port
of `ts_tree_cursor_goto_previous_sibling` succeeds exactly when an earlier sibling exists in the
ordered tree and then shows the LAST of the earlier siblings. -/
theorem cursor_prev_sibling_spec (lang : Lang) (c : Cursor) (hok : StackOK lang c.stack) (hinv : CursorInv lang c.stack)
    (hsmall : ∀ e ∈ c.stack, e.t.kids.length ≤ u32max) :
    ((gotoPreviousSibling lang Quirks.none c).1 = true →
        topNode lang (gotoPreviousSibling lang Quirks.none c).2.stack = (earlierSiblings lang true c.stack).getLast?) ∧
    ((gotoPreviousSibling lang Quirks.none c).1 = false → earlierSiblings lang true c.stack = []) := by
  have h := prev_internal_spec lang c.stack.length c.stack true hok hinv hsmall (fun _ => rfl) (fun h => by simp at h)
  unfold gotoPreviousSibling
  generalize hr : gotoSiblingInternal lang (iterPrev lang Quirks.none) c.stack.length c.stack = r at h
  obtain ⟨step, st⟩ := r
  simp only at h
  cases step with
  | none =>
    simp only
    exact ⟨fun hf => by simp at hf, fun _ => h.2.2 rfl⟩
  | visible =>
    simp only
    refine ⟨fun _ => ?_, fun hf => by simp at hf⟩
    -- the position repair does not change the node shown
    simp only [show (Step.visible == Step.hidden) = false from rfl, Bool.false_eq_true, if_false]
    split
    · split <;> exact h.1 rfl
    · exact h.1 rfl
  | hidden =>
    simp only
    obtain ⟨e, st', hst, hv, hs, ⟨ps, hsh⟩, hlast⟩ := h.2.1 rfl
    subst hst
    refine ⟨fun _ => ?_, fun hf => by simp at hf⟩
    simp only [show (Step.hidden == Step.hidden) = true from rfl, if_true]
    -- after the position repair the top entry has the same subtree; descend to its last child
    have key : ∀ (e' : Entry), e'.t = e.t →
        topNode lang (gotoChild lang true (topSize (e' :: st')) (e' :: st')).2 = (earlierSiblings lang true c.stack).getLast? := by
      intro e' ht
      rw [← hlast, ← ht]
      exact (gotoChild_of_vcc lang true e' st' ps (ht ▸ hs) (ht ▸ hsh) (ht ▸ hv)).2
    cases st' with
    | nil => exact key e rfl
    | cons parent rest => simp only; split <;> exact key _ rfl

theorem prev_internal_preserves_inv (lang : Lang) (initialSize : Nat) : ∀ (stack : List Entry),
    CursorInv lang stack → (∀ e ∈ stack, e.t.kids.length ≤ u32max) →
    (gotoSiblingInternal lang (iterPrev lang Quirks.none) initialSize stack).1 ≠ Step.none →
    CursorInv lang (gotoSiblingInternal lang (iterPrev lang Quirks.none) initialSize stack).2 := by
  exact fun stack h hs => sibling_dir_inv lang true initialSize stack h (fun _ => hs)

/-- The repaired `goto_previous_sibling` keeps the stack
invariant (the position repair only touches `pos`; a hidden step is followed by goto_last_child). -/
theorem gotoPreviousSibling_preserves_inv (lang : Lang) (c : Cursor) (h : CursorInv lang c.stack)
    (hsmall : ∀ e ∈ c.stack, e.t.kids.length ≤ u32max) :
    CursorInv lang (gotoPreviousSibling lang Quirks.none c).2.stack := by
  unfold gotoPreviousSibling
  have hs := prev_internal_preserves_inv lang c.stack.length c.stack h hsmall
  generalize hr : gotoSiblingInternal lang (iterPrev lang Quirks.none) c.stack.length c.stack = r at hs
  obtain ⟨step, st⟩ := r
  have posfix : ∀ (st : List Entry), CursorInv lang st →
      CursorInv lang (match st with
        | top :: parent :: rest =>
          if length_is_undefined top.pos then { top with pos := recomputePosition parent top.childIndex } :: parent :: rest
          else st
        | _ => st) := by
    intro st hst
    cases st with
    | nil => exact hst
    | cons top r1 =>
      cases r1 with
      | nil => exact hst
      | cons parent rest =>
        simp only
        split
        · exact ⟨hst.1, hst.2⟩
        · exact hst
  cases step with
  | none => simpa using h
  | visible =>
    simp only [show (Step.visible == Step.hidden) = false from rfl, Bool.false_eq_true, if_false]
    exact posfix st (hs (by simp))
  | hidden =>
    simp only [show (Step.hidden == Step.hidden) = true from rfl, if_true]
    exact gotoChild_preserves_inv lang true _ _ (posfix st (hs (by simp)))

theorem match_firstSome (o b : Option Nat) : (match o with | some fn => some fn | none => b) = firstSome o b := by
  cases o <;> rfl

example : (enumChildren C02.demoLang cwRoot).length = 4 := by decide
example : (gotoChild C02.demoLang false 10 [{ t := cwRoot, id := 0, pos := length_zero }]).1 = true := by decide
example : shapeOK none cwRoot = true := by decide

end TsVerif.C06
