import TsVerif.C06.NodePaths
/-!
C06, node.c navigation by search: `ts_node_child_with_descendant`, `ts_node_parent` (along the paths of NodePaths.lean) and
`ts_node__first_child_for_byte`, over the geometry of RawGeom.lean.

The searches find a node again by its BYTE RANGE (and its id), scanning the raw children.  The zero-width case is where they can take
a wrong turn, so every theorem says which width of the target it covers and under which decidable hypothesis; `parentHyp`
(NodeNav.lean) evaluates every hypothesis on every real tree.
-/
open TsVerif.C02 TsGen

namespace TsVerif.C06

theorem cwd_unfold (lang : Lang) (fuel : Nat) (self : NodeRef) (dId dStart dEnd : Nat) :
    childWithDescendant lang (fuel + 1) self dId dStart dEnd =
      (match childWithDescendant.inner lang dId dStart dEnd fuel (dStart == dEnd) (rawChildren lang self) with
       | some (some r, _) => some r
       | some (none, some s) => if s.relevant lang true then some s else childWithDescendant lang fuel s dId dStart dEnd
       | _ => none) := by
  rw [childWithDescendant]; rfl

theorem inner_nil (lang : Lang) (fuel dId dStart dEnd : Nat) (e : Bool) :
    childWithDescendant.inner lang dId dStart dEnd fuel e [] = some (none, none) := by
  rw [childWithDescendant.inner]

theorem inner_cons (lang : Lang) (fuel dId dStart dEnd : Nat) (e : Bool) (rc : RawChild) (rest : List RawChild) :
    childWithDescendant.inner lang dId dStart dEnd fuel e (rc :: rest) =
      (if rc.node.startByte > dStart then some (none, none)
       else if rc.node.id == dId then some (some rc.node, none)
       else
         match (if e && decide (rc.posAfter.bytes ≥ dEnd) && decide (rc.node.childCount > 0) then
                  (match childWithDescendant lang fuel rc.node dId dStart dEnd with
                   | some child => some (if rc.node.relevant lang true then rc.node else child)
                   | none => none)
                else none) with
         | some r => some (some r, none)
         | none =>
           if (if e then decide (rc.posAfter.bytes ≤ dEnd) else decide (rc.posAfter.bytes < dEnd)) || rc.node.childCount == 0
           then childWithDescendant.inner lang dId dStart dEnd fuel e rest else some (none, some rc.node)) := by
  rw [childWithDescendant.inner]
  rfl

theorem inner_cons_ne (lang : Lang) (fuel dId dStart dEnd : Nat) (rc : RawChild) (rest : List RawChild) :
    childWithDescendant.inner lang dId dStart dEnd fuel false (rc :: rest) =
      (if rc.node.startByte > dStart then some (none, none)
       else if rc.node.id == dId then some (some rc.node, none)
       else if decide (rc.posAfter.bytes < dEnd) || rc.node.childCount == 0
       then childWithDescendant.inner lang dId dStart dEnd fuel false rest else some (none, some rc.node)) := by
  rw [inner_cons]
  simp

theorem inner_cons_empty (lang : Lang) (fuel dId x : Nat) (rc : RawChild) (rest : List RawChild) :
    childWithDescendant.inner lang dId x x fuel true (rc :: rest) =
      (if rc.node.startByte > x then some (none, none)
       else if rc.node.id == dId then some (some rc.node, none)
       else
         match (if decide (rc.posAfter.bytes ≥ x) && decide (rc.node.childCount > 0) then
                  (match childWithDescendant lang fuel rc.node dId x x with
                   | some child => some (if rc.node.relevant lang true then rc.node else child)
                   | none => none)
                else none) with
         | some r => some (some r, none)
         | none =>
           if decide (rc.posAfter.bytes ≤ x) || rc.node.childCount == 0
           then childWithDescendant.inner lang dId x x fuel true rest else some (none, some rc.node)) := by
  rw [inner_cons]
  rfl

theorem inner_skip (lang : Lang) (fuel dId dStart dEnd : Nat) (hne : dStart < dEnd) :
    ∀ (k : Nat) (L : List RawChild) (rc : RawChild), L[k]? = some rc → rc.node.startByte ≤ dStart →
    (∀ i ri, i < k → L[i]? = some ri → ri.posAfter.bytes ≤ rc.node.startByte ∧ ri.node.startByte ≤ ri.posAfter.bytes) →
    ((L.take k).all (fun r => r.node.id != dId)) = true →
    childWithDescendant.inner lang dId dStart dEnd fuel false L =
      childWithDescendant.inner lang dId dStart dEnd fuel false (L.drop k)
  | 0, _, _, _, _, _, _ => by simp
  | k + 1, [], _, h, _, _, _ => by simp at h
  | k + 1, r0 :: rest, rc, h, hst, hord, hid => by
    have h0 := hord 0 r0 (by omega) (by simp)
    simp only [List.take_succ_cons, List.all_cons, Bool.and_eq_true, bne_iff_ne, ne_eq] at hid
    rw [inner_cons_ne]
    have h1 : ¬ (r0.node.startByte > dStart) := by omega
    have h2 : (r0.node.id == dId) = false := by simpa using hid.1
    have h3 : decide (r0.posAfter.bytes < dEnd) = true := by simp; omega
    simp only [h1, if_false, h2, h3, Bool.true_or, if_true, List.drop_succ_cons, Bool.false_eq_true]
    exact inner_skip lang fuel dId dStart dEnd hne k rest rc (by simpa using h) hst
      (fun i ri hi hri => hord (i + 1) ri (by omega) (by simpa using hri)) hid.2

theorem inner_skip_empty (lang : Lang) (fuel dId x : Nat) :
    ∀ (k : Nat) (L : List RawChild), (∀ i ri, i < k → L[i]? = some ri →
      ri.node.id ≠ dId ∧ ri.posAfter.bytes ≤ x ∧ ri.node.startByte ≤ x ∧
      childWithDescendant lang fuel ri.node dId x x = none) →
    childWithDescendant.inner lang dId x x fuel true L = childWithDescendant.inner lang dId x x fuel true (L.drop k)
  | 0, _, _ => by simp
  | k + 1, [], _ => by simp
  | k + 1, r0 :: rest, h => by
    have h0 := h 0 r0 (by omega) (by simp)
    rw [inner_cons_empty]
    have h1 : ¬ (r0.node.startByte > x) := by omega
    have h2 : (r0.node.id == dId) = false := by simpa using h0.1
    have h3 : decide (r0.posAfter.bytes ≤ x) = true := by simp; omega
    simp only [h1, if_false, h2, h0.2.2.2, ite_self, h3, Bool.true_or, if_true, Bool.false_eq_true, List.drop_succ_cons]
    exact inner_skip_empty lang fuel dId x k rest (fun i ri hi hri => h (i + 1) ri (by omega) (by simpa using hri))

/-- Inside a subtree that ends at or before `x` every child ends at or before `x`, so the scan for an empty target at `x` runs to the
end of every child list; only an id match could stop it. -/
theorem cwd_empty_none (lang : Lang) (dId x : Nat) : ∀ (fuel : Nat) (self : NodeRef), Sized self.t → self.endByte ≤ x →
    noIdIn dId self.t = true → childWithDescendant lang fuel self dId x x = none
  | 0, _, _, _, _ => by rw [childWithDescendant]
  | f + 1, self, hs, hend, hid => by
    rw [cwd_unfold, beq_self_eq_true]
    have hidL := noIdInL_of_noIdIn dId self.t hid
    have key : ∀ (L : List RawChild), (∀ rc ∈ L, rc ∈ rawChildren lang self) →
        childWithDescendant.inner lang dId x x f true L = some (none, none) := by
      intro L
      induction L with
      | nil => intro _; exact inner_nil lang f dId x x true
      | cons rc rest ih =>
        intro hmem
        have hrc := hmem rc (by simp)
        obtain ⟨j, hj⟩ := List.mem_iff_getElem?.mp hrc
        have hn := raw_child_nested lang self hs j rc hj
        have hi := go_ids lang self _ _ dId _ _ _ 0 hidL j rc hj
        rw [inner_cons_empty]
        by_cases h1 : rc.node.startByte > x
        · simp [h1]
        · have h2 : (rc.node.id == dId) = false := by simpa using hi.1
          have hrec := cwd_empty_none lang dId x f rc.node hn.2.2.2 (by omega) hi.2
          have h3 : decide (rc.posAfter.bytes ≤ x) = true := by simp; omega
          simp only [h1, if_false, h2, hrec, ite_self, h3, Bool.true_or, if_true, Bool.false_eq_true]
          exact ih (fun r hr => hmem r (by simp [hr]))
    rw [key _ (fun _ h => h)]

/-- The id hypothesis of `ts_node_child_with_descendant` by the width of the descendant: unique along the search (`pathOK`)
for a non-empty one; for an empty one also absent INSIDE the earlier siblings along the path (`psPathOK`), which the C code
searches too. -/
def cwdOK (lang : Lang) (d n : NodeRef) (p : List Nat) : Prop :=
  (d.startByte < d.endByte ∧ pathOK lang d.id n p = true) ∨ (d.startByte = d.endByte ∧ psPathOK lang d n p = true)

/-- `ts_node_child_with_descendant(self, d)` for a relevant descendant `d` of ANY width reached from `self` by a path of raw
child indices: the first relevant node on that path below `self` (or `d` itself at its end).  The widths differ only in how
the children before the path's child are passed over (`inner_skip`, `inner_skip_empty`). -/
theorem child_with_descendant_spec (lang : Lang) :
    ∀ (path : List Nat) (fuel : Nat) (self d : NodeRef) (ps : Option Nat), path ≠ [] → path.length ≤ fuel →
    Summarized lang self.t → shapeOK ps self.t = true → nodeAt lang self path = some d → d.relevant lang true = true →
    cwdOK lang d self path →
    childWithDescendant lang fuel self d.id d.startByte d.endByte = firstRelevantOnPath lang self path := by
  intro path
  induction path with
  | nil => intro _ _ _ _ h; exact absurd rfl h
  | cons k rest ih =>
    intro fuel self d ps _ hf hsum hsh hat hdrel hw
    obtain ⟨f, rfl⟩ : ∃ f', fuel = f' + 1 := ⟨fuel - 1, by simp at hf; omega⟩
    have hs := sized_of_summarized lang self.t hsum
    obtain ⟨rc, hk, hat'⟩ := nodeAt_cons lang self d k rest hat
    have hn := raw_child_nested lang self hs k rc hk
    have hd := nodeAt_nested lang rest rc.node d hn.2.2.2 hat'
    simp only [firstRelevantOnPath, rawChildAt, hk, Option.map_some]
    rw [cwd_unfold]
    -- the children before the path's child are passed over; below it the hypothesis holds again
    have hskip : childWithDescendant.inner lang d.id d.startByte d.endByte f (d.startByte == d.endByte) (rawChildren lang self) =
          childWithDescendant.inner lang d.id d.startByte d.endByte f (d.startByte == d.endByte) (rc :: (rawChildren lang self).drop (k + 1)) ∧
        (rest ≠ [] → rc.node.id ≠ d.id ∧ cwdOK lang d rc.node rest) := by
      rw [← drop_eq_cons _ k rc hk]
      rcases hw with ⟨hne, hok⟩ | ⟨hemp, hok⟩
      · simp only [pathOK, rawChildAt, hk, Option.map_some, Bool.and_eq_true] at hok
        rw [show (d.startByte == d.endByte) = false by simp; omega]
        refine ⟨inner_skip lang f d.id d.startByte d.endByte hne k _ rc hk hd.1
          (fun i ri hi hri => raw_ordered lang self i k ri rc hi hri hk) hok.1, fun hr => ?_⟩
        obtain ⟨k', rest', rfl⟩ := List.exists_cons_of_ne_nil hr
        simp only [List.isEmpty_cons, Bool.false_or, Bool.and_eq_true, bne_iff_ne, ne_eq] at hok
        exact ⟨hok.2.1, Or.inl ⟨hne, hok.2.2⟩⟩
      · simp only [psPathOK, hk, Bool.and_eq_true] at hok
        rw [← hemp, beq_self_eq_true]
        refine ⟨inner_skip_empty lang f d.id d.startByte k _ (fun i ri hi hri => ?_), fun hr => ?_⟩
        · -- an earlier sibling ends where `d` lies at the latest, and the search inside it finds nothing
          have ho := raw_ordered lang self i k ri rc hi hri hk
          have hni := raw_child_nested lang self hs i ri hri
          have hti : ((rawChildren lang self).take k)[i]? = some ri := by rw [List.getElem?_take]; simp [hi, hri]
          rw [raw_take] at hti
          have hids := go_ids lang self _ _ d.id _ _ _ 0 hok.1 i ri hti
          exact ⟨hids.1, by omega, by omega, cwd_empty_none lang d.id d.startByte f ri.node hni.2.2.2 (by omega) hids.2⟩
        · obtain ⟨k', rest', rfl⟩ := List.exists_cons_of_ne_nil hr
          simp only [List.isEmpty_cons, Bool.false_or, Bool.and_eq_true, bne_iff_ne, ne_eq] at hok
          exact ⟨hok.2.1, Or.inr ⟨hemp, hok.2.2⟩⟩
    rw [hskip.1, inner_cons]
    have h1 : ¬ (rc.node.startByte > d.startByte) := by omega
    simp only [h1, if_false]
    cases rest with
    | nil =>
      simp only [nodeAt, Option.some.injEq] at hat'
      subst hat'
      simp
    | cons k' rest' =>
      -- a proper ancestor: not the descendant, it has visible children, and the search below it is the induction hypothesis
      obtain ⟨hid, hw'⟩ := hskip.2 (List.cons_ne_nil _ _)
      have h2 : (rc.node.id == d.id) = false := by simpa using hid
      obtain ⟨hsc, hshc⟩ := raw_child_ok lang self ps hsum hsh k rc hk
      have hcc := ancestor_child_count_pos lang d rc.node (k' :: rest') _ hdrel (by simp) hat' hsc hshc
      have ih := ih f rc.node d _ (by simp) (by simp at hf ⊢; omega) hsc hshc hat' hdrel hw'
      obtain ⟨r, hr⟩ := firstRelevantOnPath_some lang d (k' :: rest') rc.node (by simp) hat'
      have hpos : d.endByte ≤ rc.posAfter.bytes ∧ 0 < rc.node.childCount := ⟨by omega, hcc⟩
      have hcc0 : (rc.node.childCount == 0) = false := by simp; omega
      simp only [h2, Bool.false_eq_true, if_false, ih, hr, List.isEmpty_cons, Bool.false_or]
      cases he : (d.startByte == d.endByte) <;> cases hrel : rc.node.relevant lang true <;>
        simp [hrel, hpos, hcc0, ih, hr, Nat.not_lt.mpr hpos.1]

/-- For a NON-EMPTY descendant `d` reached from `self`
by a path of raw child indices, `ts_node_child_with_descendant(self, d)` returns the first
relevant node on that path below `self` (or `d` itself at the end of the path). -/
theorem child_with_descendant_spec_partial (lang : Lang) :
    ∀ (path : List Nat) (fuel : Nat) (self d : NodeRef) (ps : Option Nat), path ≠ [] → path.length ≤ fuel →
    Summarized lang self.t → shapeOK ps self.t = true → nodeAt lang self path = some d → d.relevant lang true = true →
    d.startByte < d.endByte → pathOK lang d.id self path = true →
    childWithDescendant lang fuel self d.id d.startByte d.endByte = firstRelevantOnPath lang self path :=
  fun path fuel self d ps hp hf hs hsh hat hrel hne hok =>
    child_with_descendant_spec lang path fuel self d ps hp hf hs hsh hat hrel (Or.inl ⟨hne, hok⟩)

/-- The zero-width case of `child_with_descendant_spec_partial`:
for a relevant EMPTY node `d` the same conclusion holds under the stronger id hypothesis `psPathOK`
(the slot id of `d` occurs neither on the path nor anywhere INSIDE the earlier siblings along it):
the C code also searches the subtrees of earlier siblings that end where `d` lies, and the only thing
that can stop it there is an id match. -/
theorem child_with_descendant_spec_empty (lang : Lang) :
    ∀ (path : List Nat) (fuel : Nat) (self d : NodeRef) (ps : Option Nat), path ≠ [] → path.length ≤ fuel →
    Summarized lang self.t → shapeOK ps self.t = true → nodeAt lang self path = some d → d.relevant lang true = true →
    d.startByte = d.endByte → psPathOK lang d self path = true →
    childWithDescendant lang fuel self d.id d.startByte d.endByte = firstRelevantOnPath lang self path :=
  fun path fuel self d ps hp hf hs hsh hat hrel hemp hok =>
    child_with_descendant_spec lang path fuel self d ps hp hf hs hsh hat hrel (Or.inr ⟨hemp, hok⟩)

theorem cwdOK_step (lang : Lang) (d n : NodeRef) (k k' : Nat) (rest : List Nat) (c : NodeRef)
    (hc : rawChildAt lang n k = some c) (h : cwdOK lang d n (k :: k' :: rest)) : c.id ≠ d.id ∧ cwdOK lang d c (k' :: rest) := by
  rcases h with ⟨hne, hok⟩ | ⟨hemp, hok⟩
  · exact ⟨(pathOK_step lang d.id n k k' rest c hc hok).1, Or.inl ⟨hne, (pathOK_step lang d.id n k k' rest c hc hok).2⟩⟩
  · exact ⟨(psPathOK_step lang d n k k' rest c hc hok).1, Or.inr ⟨hemp, (psPathOK_step lang d n k k' rest c hc hok).2⟩⟩

/-- `ts_node_parent(d)` for a relevant node `d` of ANY width at `path` below `root`: the nearest relevant proper ancestor on
the path (`root` if none), under `cwdOK`. -/
theorem parent_spec (lang : Lang) (fuel : Nat) (root d : NodeRef) (path : List Nat) (ps : Option Nat)
    (hp : path ≠ []) (hf : path.length ≤ fuel) (hs : Summarized lang root.t) (hsh : shapeOK ps root.t = true)
    (hat : nodeAt lang root path = some d) (hrel : d.relevant lang true = true) (hroot : root.id ≠ d.id) (hok : cwdOK lang d root path) :
    nodeParent lang fuel root d = some (parentOnPath lang root root path) := by
  have key : ∀ (f : Nat) (p : List Nat) (n : NodeRef) (ps : Option Nat), p ≠ [] → p.length ≤ f → p.length ≤ fuel →
      Summarized lang n.t → shapeOK ps n.t = true → nodeAt lang n p = some d → cwdOK lang d n p →
      nodeParent.go lang fuel d f n = parentOnPath lang n n p := by
    intro f
    induction f with
    | zero =>
      intro p n _ hp hf
      cases p with
      | nil => exact absurd rfl hp
      | cons _ _ => simp at hf
    | succ f ih =>
      intro p n ps hp hf hfu hs hsh hat hok
      rw [nodeParent.go, child_with_descendant_spec lang p fuel n d ps hp hfu hs hsh hat hrel hok, firstRelevant_eq_split, parentOnPath_split]
      cases hsp : relSplit lang n p with
      | none => rfl
      | some cr =>
        obtain ⟨c, rest⟩ := cr
        have hi := relSplit_inv_of lang d (cwdOK lang d) (cwdOK_step lang d) p n c rest ps hsp hat hok hs hsh
        simp only [Option.map_some]
        cases rest with
        | nil =>
          have : c = d := by simpa [nodeAt] using hi.1
          subst this
          simp
        | cons k' rest' =>
          have h2 := hi.2.1 (by simp)
          have : (c.id == d.id) = false := by simpa using h2.1
          simp only [this, Bool.false_eq_true, if_false, List.isEmpty_cons]
          obtain ⟨hsc, ps', hshc⟩ := hi.2.2.1
          have hlt := hi.2.2.2
          exact ih (k' :: rest') c ps' (by simp) (by omega) (by omega) hsc hshc hi.1 h2.2
  unfold nodeParent
  have : (root.id == d.id) = false := by simpa using hroot
  simp only [this, Bool.false_eq_true, if_false]
  rw [key fuel path root ps hp hf hf hs hsh hat hok]

/-- For a relevant NON-EMPTY node `d` at `path` below `root` (`path ≠ []`)
in a summarized parser-shaped tree, `ts_node_parent(d)` is the nearest relevant proper ancestor on the
path (`root` if none). -/
theorem parent_spec_partial (lang : Lang) (fuel : Nat) (root d : NodeRef) (path : List Nat) (ps : Option Nat)
    (hp : path ≠ []) (hf : path.length ≤ fuel) (hs : Summarized lang root.t) (hsh : shapeOK ps root.t = true)
    (hat : nodeAt lang root path = some d) (hrel : d.relevant lang true = true)
    (hne : d.startByte < d.endByte) (hroot : root.id ≠ d.id) (hok : pathOK lang d.id root path = true) :
    nodeParent lang fuel root d = some (parentOnPath lang root root path) :=
  parent_spec lang fuel root d path ps hp hf hs hsh hat hrel hroot (Or.inl ⟨hne, hok⟩)

/-- `ts_node_parent` of a relevant EMPTY node: the nearest relevant proper
ancestor on the path, under `psPathOK` (slot id of `d` unique on the path and inside the earlier
siblings along it).  With `parent_spec_partial` this covers every relevant node. -/
theorem parent_spec_empty (lang : Lang) (fuel : Nat) (root d : NodeRef) (path : List Nat) (ps : Option Nat)
    (hp : path ≠ []) (hf : path.length ≤ fuel) (hs : Summarized lang root.t) (hsh : shapeOK ps root.t = true)
    (hat : nodeAt lang root path = some d) (hrel : d.relevant lang true = true)
    (hemp : d.startByte = d.endByte) (hroot : root.id ≠ d.id) (hok : psPathOK lang d root path = true) :
    nodeParent lang fuel root d = some (parentOnPath lang root root path) :=
  parent_spec lang fuel root d path ps hp hf hs hsh hat hrel hroot (Or.inr ⟨hemp, hok⟩)

/-- The hypotheses of `parent_spec_partial` are satisfiable, and the theorem computes: the parent
of `b` is `v` (id 1984 = slot 0 of `h`), the parent of `c` — whose raw parent `h` is hidden — is
the root. -/
example : (nodeParent C02.demoLang 3 pvRoot pvB).map (·.id) = some 1984 := by
  rw [parent_spec_partial C02.demoLang 3 pvRoot pvB [1, 0, 0] none (by simp) (by simp) pvRoot_summarized pvRoot_shape rfl
    (by decide) (by decide) (by decide) (by decide)]
  decide
example : (nodeParent C02.demoLang 2 pvRoot pvC).map (·.id) = some 1 := by
  rw [parent_spec_partial C02.demoLang 2 pvRoot pvC [1, 1] none (by simp) (by simp) pvRoot_summarized pvRoot_shape rfl
    (by decide) (by decide) (by decide) (by decide)]
  decide
example : (childWithDescendant C02.demoLang 3 pvRoot pvB.id pvB.startByte pvB.endByte).map (·.id) = some 1984 := by
  rw [child_with_descendant_spec_partial C02.demoLang [1, 0, 0] 3 pvRoot pvB none (by simp) (by simp) pvRoot_summarized
    pvRoot_shape rfl (by decide) (by decide) (by decide)]
  decide

abbrev fcbLoopA (lang : Lang) (anon : Bool) (goal : Nat) := firstChildForBytePort.loop lang goal anon

theorem fcbNodeA_eq (lang : Lang) (anon : Bool) (goal : Nat) (t : Tree) (start : Length) :
    fcbNodeA lang anon goal t start = fcbKidsA lang anon goal t.data.productionId t.data.addr t.kids.length t.kids start 0 0 := by
  obtain ⟨d, k⟩ := t; simp [fcbNodeA, data_mk, kids_mk]
theorem ndeNodeA_eq (lang : Lang) (anon : Bool) (goal : Nat) (t : Tree) (start : Length) :
    ndeNodeA lang anon goal t start = ndeKidsA lang anon goal t.data.productionId t.data.addr t.kids.length t.kids start 0 0 := by
  obtain ⟨d, k⟩ := t; simp [ndeNodeA, data_mk, kids_mk]

theorem fcbLoopA_cons (lang : Lang) (anon : Bool) (goal f : Nat) (rc : RawChild) (rest : List RawChild) (saved : Option (List RawChild)) :
    fcbLoopA lang anon goal (f + 1) (rc :: rest) saved =
      (if rc.node.endByte > goal then
        (if rc.node.relevant lang anon then some rc.node
         else if rc.node.childCount > 0 then
           fcbLoopA lang anon goal f (rawChildren lang rc.node) (if rc.k + 1 < rc.node.t.kids.length then some rest else saved)
         else fcbLoopA lang anon goal f rest saved)
       else fcbLoopA lang anon goal f rest saved) := rfl

/-- Under `ndeKidsA` every descent into a hidden child finds something, so the saved iterator is read only where the plain recursion
finds nothing: the loop returns what the plain recursion returns, given fuel for the children when it finds something and nothing
saved when it does not. -/
theorem fcbA_loop (lang : Lang) (anon : Bool) (goal : Nat) : ∀ (f : Nat) (n : NodeRef) (kids : List Tree) (pos : Length) (si k : Nat)
    (saved : Option (List RawChild)),
    ndeKidsA lang anon goal n.t.data.productionId n.t.data.addr n.t.kids.length kids pos si k = true →
    (fcbKidsA lang anon goal n.t.data.productionId n.t.data.addr n.t.kids.length kids pos si k ≠ none → Tree.sizeList kids < f) →
    (fcbKidsA lang anon goal n.t.data.productionId n.t.data.addr n.t.kids.length kids pos si k = none → saved = none) →
    fcbLoopA lang anon goal f (rawChildren.go lang n n.t.data.productionId n.t.kids.length kids pos si k) saved =
      fcbKidsA lang anon goal n.t.data.productionId n.t.data.addr n.t.kids.length kids pos si k := by
  intro f
  induction f with
  | zero =>
    intro n kids pos si k saved _ hb _
    cases hk : fcbKidsA lang anon goal n.t.data.productionId n.t.data.addr n.t.kids.length kids pos si k with
    | none => rfl
    | some r => exact absurd (hb (hk ▸ fun h => nomatch h)) (Nat.not_lt_zero _)
  | succ f ih =>
    intro n kids pos si k saved hnde hb hs
    cases kids with
    | nil =>
      rw [hs (by rw [fcbKidsA])]
      simp [rawChildren.go, fcbLoopA, firstChildForBytePort.loop, fcbKidsA]
    | cons c rest =>
    rw [go_getElem_zero, fcbLoopA_cons]
    unfold fcbKidsA at hb hs ⊢
    unfold ndeKidsA at hnde
    simp only at hnde hb hs ⊢
    simp only [Tree.sizeList] at hb
    have hcs := tree_size_kids c
    have hpos := tree_size_pos c
    generalize (if k > 0 then length_add pos c.data.padding else pos) = cstart at hnde hb hs ⊢
    generalize (if c.data.extra = true then 0 else lang.aliasAt n.t.data.productionId si) = al at hnde hb hs ⊢
    generalize (if c.data.extra = true then si else si + 1) = si' at hnde hb hs ⊢
    by_cases hend : ({ t := c, alias := al, id := slotId n.t.data.addr n.t.kids.length k, start := cstart } : NodeRef).endByte > goal
    · simp only [hend, if_true] at hnde hb hs ⊢
      by_cases hrel : ({ t := c, alias := al, id := slotId n.t.data.addr n.t.kids.length k, start := cstart } : NodeRef).relevant lang anon = true
      · simp only [hrel, if_true]
      · simp only [hrel, if_false, Bool.false_eq_true] at hnde hb hs ⊢
        by_cases hcc : ({ t := c, alias := al, id := slotId n.t.data.addr n.t.kids.length k, start := cstart } : NodeRef).childCount > 0
        · -- a hidden child is entered: by `ndeKidsA` the search inside succeeds
          simp only [hcc, if_true, Bool.and_eq_true] at hnde hb hs ⊢
          obtain ⟨r', hr'⟩ := Option.isSome_iff_exists.mp hnde.1
          rw [hr'] at hb ⊢
          rw [fcbNodeA_eq] at hr'
          have hn2 := hnde.2
          rw [ndeNodeA_eq] at hn2
          have hlt := hb (fun h => nomatch h)
          exact (ih ⟨c, al, slotId n.t.data.addr n.t.kids.length k, cstart⟩ c.kids cstart 0 0 _ hn2 (fun _ => by omega)
            (fun h0 => nomatch hr'.symm.trans h0)).trans hr'
        · simp only [hcc, if_false] at hnde hb hs ⊢
          exact ih n rest _ _ _ saved hnde (fun h => by have := hb h; omega) hs
    · simp only [hend, if_false] at hnde hb hs ⊢
      exact ih n rest _ _ _ saved hnde (fun h => by have := hb h; omega) hs

theorem fcbA_loop_some (lang : Lang) (anon : Bool) (goal : Nat) : ∀ (f : Nat) (n : NodeRef) (kids : List Tree) (pos : Length) (si k : Nat)
    (saved : Option (List RawChild)) (r : NodeRef), Tree.sizeList kids < f →
    ndeKidsA lang anon goal n.t.data.productionId n.t.data.addr n.t.kids.length kids pos si k = true →
    fcbKidsA lang anon goal n.t.data.productionId n.t.data.addr n.t.kids.length kids pos si k = some r →
    fcbLoopA lang anon goal f (rawChildren.go lang n n.t.data.productionId n.t.kids.length kids pos si k) saved = some r :=
  fun f n kids pos si k saved _ hf hnde h =>
    (fcbA_loop lang anon goal f n kids pos si k saved hnde (fun _ => hf) (fun h0 => nomatch h.symm.trans h0)).trans h

theorem fcbA_loop_none (lang : Lang) (anon : Bool) (goal : Nat) : ∀ (f : Nat) (n : NodeRef) (kids : List Tree) (pos : Length) (si k : Nat),
    ndeKidsA lang anon goal n.t.data.productionId n.t.data.addr n.t.kids.length kids pos si k = true →
    fcbKidsA lang anon goal n.t.data.productionId n.t.data.addr n.t.kids.length kids pos si k = none →
    fcbLoopA lang anon goal f (rawChildren.go lang n n.t.data.productionId n.t.kids.length kids pos si k) none = none :=
  fun f n kids pos si k hnde h =>
    (fcbA_loop lang anon goal f n kids pos si k none hnde (fun h0 => absurd h h0) (fun _ => rfl)).trans h

/-- `ts_node_first_child_for_byte` (`anon = true`) and
`ts_node_first_named_child_for_byte` (`anon = false`): if the search meets no dead end (`ndeNodeA`), the
port returns what the plain recursion `fcbNodeA` returns — the first RELEVANT child in order (hidden
children, and for the named variant also visible anonymous ones with children, replaced by theirs)
that ends after `goal`.  `2 * fuel + 4` is the fuel the port starts its loop with (every raw node is entered and left at most once). -/
theorem first_child_for_byte_spec_anon (lang : Lang) (anon : Bool) (fuel : Nat) (self : NodeRef) (goal : Nat)
    (hf : self.t.size ≤ 2 * fuel + 4) (hnde : ndeNodeA lang anon goal self.t self.start = true) :
    firstChildForBytePort lang fuel self goal anon = fcbNodeA lang anon goal self.t self.start := by
  unfold firstChildForBytePort
  rw [ndeNodeA_eq] at hnde
  rw [fcbNodeA_eq]
  have hk := tree_size_kids self.t
  cases h : fcbKidsA lang anon goal self.t.data.productionId self.t.data.addr self.t.kids.length self.t.kids self.start 0 0 with
  | none => exact fcbA_loop_none lang anon goal _ self _ _ 0 0 hnde h
  | some r => exact fcbA_loop_some lang anon goal _ self _ _ 0 0 none r (by omega) hnde h

abbrev fcbLoop (lang : Lang) (goal : Nat) := firstChildForBytePort.loop lang goal true

mutual
  theorem fcbNodeA_true (lang : Lang) (goal : Nat) : ∀ (t : Tree) (start : Length), fcbNodeA lang true goal t start = fcbNode lang goal t start
    | .mk d kids, start => by rw [fcbNodeA, fcbNode, fcbKidsA_true]
  theorem fcbKidsA_true (lang : Lang) (goal pid addr nk : Nat) : ∀ (kids : List Tree) (pos : Length) (si k : Nat),
      fcbKidsA lang true goal pid addr nk kids pos si k = fcbKids lang goal pid addr nk kids pos si k
    | [], _, _, _ => by rw [fcbKidsA, fcbKids]
    | c :: rest, pos, si, k => by rw [fcbKidsA, fcbKids, fcbKidsA_true lang goal pid addr nk rest, fcbNodeA_true lang goal c]
end

mutual
  theorem ndeNodeA_true (lang : Lang) (goal : Nat) : ∀ (t : Tree) (start : Length), ndeNodeA lang true goal t start = ndeNode lang goal t start
    | .mk d kids, start => by rw [ndeNodeA, ndeNode, ndeKidsA_true]
  theorem ndeKidsA_true (lang : Lang) (goal pid addr nk : Nat) : ∀ (kids : List Tree) (pos : Length) (si k : Nat),
      ndeKidsA lang true goal pid addr nk kids pos si k = ndeKids lang goal pid addr nk kids pos si k
    | [], _, _, _ => by rw [ndeKidsA, ndeKids]
    | c :: rest, pos, si, k => by
      rw [ndeKidsA, ndeKids, ndeKidsA_true lang goal pid addr nk rest, fcbNodeA_true lang goal c, ndeNodeA_true lang goal c]
end

theorem fcbLoop_cons (lang : Lang) (goal f : Nat) (rc : RawChild) (rest : List RawChild) (saved : Option (List RawChild)) :
    fcbLoop lang goal (f + 1) (rc :: rest) saved =
      (if rc.node.endByte > goal then
        (if rc.node.relevant lang true then some rc.node
         else if rc.node.childCount > 0 then
           fcbLoop lang goal f (rawChildren lang rc.node) (if rc.k + 1 < rc.node.t.kids.length then some rest else saved)
         else fcbLoop lang goal f rest saved)
       else fcbLoop lang goal f rest saved) := rfl

theorem fcb_loop_some (lang : Lang) (goal : Nat) : ∀ (f : Nat) (n : NodeRef) (kids : List Tree) (pos : Length) (si k : Nat)
    (saved : Option (List RawChild)) (r : NodeRef), Tree.sizeList kids < f →
    ndeKids lang goal n.t.data.productionId n.t.data.addr n.t.kids.length kids pos si k = true →
    fcbKids lang goal n.t.data.productionId n.t.data.addr n.t.kids.length kids pos si k = some r →
    fcbLoop lang goal f (rawChildren.go lang n n.t.data.productionId n.t.kids.length kids pos si k) saved = some r := by
  intro f n kids pos si k saved r hf hnde h
  rw [← ndeKidsA_true] at hnde
  rw [← fcbKidsA_true] at h
  exact fcbA_loop_some lang true goal f n kids pos si k saved r hf hnde h

theorem fcb_loop_none (lang : Lang) (goal : Nat) : ∀ (f : Nat) (n : NodeRef) (kids : List Tree) (pos : Length) (si k : Nat),
    ndeKids lang goal n.t.data.productionId n.t.data.addr n.t.kids.length kids pos si k = true →
    fcbKids lang goal n.t.data.productionId n.t.data.addr n.t.kids.length kids pos si k = none →
    fcbLoop lang goal f (rawChildren.go lang n n.t.data.productionId n.t.kids.length kids pos si k) none = none := by
  intro f n kids pos si k hnde h
  rw [← ndeKidsA_true] at hnde
  rw [← fcbKidsA_true] at h
  exact fcbA_loop_none lang true goal f n kids pos si k hnde h

/-- If the search never runs into a dead end (`ndeNode`:
every hidden child it enters contains a visible child ending after `goal`), the port of
`ts_node_first_child_for_byte(self, goal)` returns what the plain recursive search `fcbNode` returns:
the first visible child, in order, that ends after `goal`. -/
theorem first_child_for_byte_spec_partial (lang : Lang) (fuel : Nat) (self : NodeRef) (goal : Nat)
    (hf : self.t.size ≤ 2 * fuel + 4) (hnde : ndeNode lang goal self.t self.start = true) :
    firstChildForBytePort lang fuel self goal true = fcbNode lang goal self.t self.start := by
  rw [← ndeNodeA_true] at hnde
  rw [← fcbNodeA_true]
  exact first_child_for_byte_spec_anon lang true fuel self goal hf hnde

/-- On the demo tree, goal byte 1: the leaf `a` ends at 1, the hidden `h` ends after it and is
entered, its first child `v` (slot id 1984) ends at 2 — no dead end, and the theorem computes. -/
example : (firstChildForBytePort C02.demoLang 8 pvRoot 1 true).map (·.id) = some 1984 := by
  rw [first_child_for_byte_spec_partial C02.demoLang 8 pvRoot 1 (by decide) (by decide)]
  decide
example : (firstChildForBytePort C02.demoLang 8 pvRoot 1 false).map (·.id) = some 1984 := by
  rw [first_child_for_byte_spec_anon C02.demoLang false 8 pvRoot 1 (by decide) (by decide)]
  decide

end TsVerif.C06
