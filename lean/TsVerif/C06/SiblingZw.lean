import TsVerif.C06.NodeProps
import TsVerif.C06.SiblingNamedNext
/-!
C06, node.c: `ts_node_next_sibling` / `ts_node_prev_sibling` (`include_anonymous = true`), every width of `self`, as the
`anon = true` readings of `next_sibling_spec_anon` / `prev_sibling_spec_anon` (SiblingNamedNext / SiblingNamed), and both searches,
with `parent_spec_partial` / `parent_spec_empty`, in the semantics of the flattened tree (`node_nav_flat_spec`, `node_nav_flat_spec_empty`).
All hypotheses and conclusions are evaluated on every relevant node of every real tree (`siblingHyp`).
-/
open TsVerif.C02 TsGen

namespace TsVerif.C06

/-- Let `P` be what `ts_node_parent(self)` returns (see
`parent_spec_partial`) and `q ≠ []` a path of raw child indices `P ⟶ self`.  If `self` is NON-EMPTY,
the subtree of `P` is summarized and parser-shaped, and `nsPathOK` holds (no zero-width raw node
among the later siblings of `self` and of its ancestors below `P`, nor inside them; no ancestor on the
path is the same subtree as `self`), then the port of `ts_node_next_sibling(self)` returns the first
element of `laterOnPath P q` — the visible nodes after `self` among its raw siblings (hidden ones
replaced by their visible children), then after each ancestor below `P` — and null iff that list is
empty. -/
theorem next_sibling_spec_partial (lang : Lang) (fuel : Nat) (root self P : NodeRef) (q : List Nat) (ps : Option Nat)
    (hpar : nodeParent lang fuel root self = some P) (hq : q ≠ []) (hf : P.t.size ≤ fuel + 1)
    (hs : Summarized lang P.t) (hsh : shapeOK ps P.t = true) (hat : nodeAt lang P q = some self)
    (hself : self.startByte < self.endByte) (hok : nsPathOK lang self P q = true) :
    (nextSiblingPort lang fuel root self true).map (fun r => (r.t, r.alias)) = (laterOnPath lang P q).head? := by
  simpa only [filter_keep_true] using next_sibling_spec_anon lang fuel root self P q ps true hpar hq hf hs hsh hat hok
    (fun h => absurd h (Nat.ne_of_lt hself)) (Or.inl rfl)

/-- The same with the parent given by `parent_spec_partial`: everything in terms of paths from the root. -/
theorem next_sibling_spec_from_root (lang : Lang) (fuel : Nat) (root self : NodeRef) (path q : List Nat) (psr ps : Option Nat)
    (hp : path ≠ []) (hfp : path.length ≤ fuel) (hsr : Summarized lang root.t) (hshr : shapeOK psr root.t = true)
    (hatr : nodeAt lang root path = some self) (hrel : self.relevant lang true = true)
    (hself : self.startByte < self.endByte) (hroot : root.id ≠ self.id) (hokp : pathOK lang self.id root path = true)
    (hq : q ≠ []) (hf : (parentOnPath lang root root path).t.size ≤ fuel + 1)
    (hs : Summarized lang (parentOnPath lang root root path).t) (hsh : shapeOK ps (parentOnPath lang root root path).t = true)
    (hat : nodeAt lang (parentOnPath lang root root path) q = some self)
    (hok : nsPathOK lang self (parentOnPath lang root root path) q = true) :
    (nextSiblingPort lang fuel root self true).map (fun r => (r.t, r.alias)) =
      (laterOnPath lang (parentOnPath lang root root path) q).head? :=
  next_sibling_spec_partial lang fuel root self _ q ps
    (parent_spec_partial lang fuel root self path psr hp hfp hsr hshr hatr hrel hself hroot hokp) hq hf hs hsh hat hself hok

/-- the visible rule `v` (first child of the hidden `h`) -/
def pvVRef : NodeRef := { t := pvV, alias := 0, id := 1984, start := ⟨1, ⟨0, 1⟩⟩ }

/-- All hypotheses hold on the demo tree and the theorem computes: the next sibling of `v` (child
of the hidden `h`) is the leaf `c` that follows it inside `h`; the next sibling of `c` — the LAST
child of `h`, which therefore ends where `h` ends — is the leaf `d` that follows `h` in the root. -/
example : (nextSiblingPort C02.demoLang 8 pvRoot pvVRef true).map (fun r => (r.t, r.alias)) = some (cwLeaf, 0) := by
  rw [next_sibling_spec_from_root C02.demoLang 8 pvRoot pvVRef [1, 0] [1, 0] none none (by simp) (by simp) pvRoot_summarized pvRoot_shape rfl (by decide)
    (by decide) (by decide) (by decide) (by simp) (by decide) pvRoot_summarized pvRoot_shape rfl (by decide)]
  rfl
example : (nextSiblingPort C02.demoLang 8 pvRoot pvC true).map (fun r => (r.t, r.alias)) = some (cwLeaf, 0) := by
  rw [next_sibling_spec_from_root C02.demoLang 8 pvRoot pvC [1, 1] [1, 1] none none (by simp) (by simp) pvRoot_summarized pvRoot_shape rfl (by decide)
    (by decide) (by decide) (by decide) (by simp) (by decide) pvRoot_summarized pvRoot_shape rfl (by decide)]
  rfl
example : laterOnPath C02.demoLang pvRoot [1, 0] = [(cwLeaf, 0), (cwLeaf, 0)] := rfl

/-- `ts_node_prev_sibling(self)` for ANY `self`, zero-width or not.
Let `P` be what `ts_node_parent(self)` returns and `q ≠ []` a path of raw child indices `P ⟶ self`.
If the subtree of `P` is summarized and parser-shaped, `psPathOK` holds (the slot id of `self` does
not occur among or inside the earlier siblings along the path, nor on the path) and `psZwOK` holds
(the scan passes over every raw node before `self` along the path and stops at every ancestor — for
a `self` without bytes: `ts_subtree_has_trailing_empty_descendant(·, self)` is true for the ancestors
that end where `self` lies and false for the earlier nodes that end there), then the port returns
the LAST element of `earlierOnPath P q`, and null iff that list is empty. -/
theorem prev_sibling_spec_general (lang : Lang) (fuel : Nat) (root self P : NodeRef) (q : List Nat) (ps : Option Nat)
    (hpar : nodeParent lang fuel root self = some P) (hq : q ≠ []) (hf : P.t.size ≤ fuel + 1)
    (hs : Summarized lang P.t) (hsh : shapeOK ps P.t = true) (hat : nodeAt lang P q = some self)
    (hok : psPathOK lang self P q = true) (hzw : psZwOK lang fuel self P q = true) :
    (prevSiblingPort lang fuel root self true).map (fun r => (r.t, r.alias)) = (earlierOnPath lang P q).getLast? := by
  simpa only [filter_keep_true] using
    prev_sibling_spec_anon lang fuel root self P q ps true hpar hq hf hs hsh hat hok hzw (Or.inl rfl)

/-- Let `P` be what `ts_node_parent(self)` returns and `q ≠ []` a path
of raw child indices `P ⟶ self`.  If `self` is NON-EMPTY, the subtree of `P` is summarized and
parser-shaped, and `psPathOK` holds (the slot id of `self` does not occur among the earlier siblings
along the path, inside them, or on the path itself), then the port of `ts_node_prev_sibling(self)`
returns the LAST element of `earlierOnPath P q` — the visible nodes before `self` in `P`, hidden
nodes replaced by their visible children — and null iff that list is empty.  No zero-width
hypothesis about OTHER nodes is needed: only `self` must be non-empty (finding
`C06-prev-sibling-zero-width` is about an empty `self`). -/
theorem prev_sibling_spec_partial (lang : Lang) (fuel : Nat) (root self P : NodeRef) (q : List Nat) (ps : Option Nat)
    (hpar : nodeParent lang fuel root self = some P) (hq : q ≠ []) (hf : P.t.size ≤ fuel + 1)
    (hs : Summarized lang P.t) (hsh : shapeOK ps P.t = true) (hat : nodeAt lang P q = some self)
    (hself : self.startByte < self.endByte) (hok : psPathOK lang self P q = true) :
    (prevSiblingPort lang fuel root self true).map (fun r => (r.t, r.alias)) = (earlierOnPath lang P q).getLast? :=
  prev_sibling_spec_general lang fuel root self P q ps hpar hq hf hs hsh hat hok
    (psZwOK_of_nonempty lang fuel self hself q P (sized_of_summarized lang P.t hs) hat)

theorem prev_sibling_spec_from_root (lang : Lang) (fuel : Nat) (root self : NodeRef) (path q : List Nat) (psr ps : Option Nat)
    (hp : path ≠ []) (hfp : path.length ≤ fuel) (hsr : Summarized lang root.t) (hshr : shapeOK psr root.t = true)
    (hatr : nodeAt lang root path = some self) (hrel : self.relevant lang true = true)
    (hself : self.startByte < self.endByte) (hroot : root.id ≠ self.id) (hokp : pathOK lang self.id root path = true)
    (hq : q ≠ []) (hf : (parentOnPath lang root root path).t.size ≤ fuel + 1)
    (hs : Summarized lang (parentOnPath lang root root path).t) (hsh : shapeOK ps (parentOnPath lang root root path).t = true)
    (hat : nodeAt lang (parentOnPath lang root root path) q = some self)
    (hok : psPathOK lang self (parentOnPath lang root root path) q = true) :
    (prevSiblingPort lang fuel root self true).map (fun r => (r.t, r.alias)) =
      (earlierOnPath lang (parentOnPath lang root root path) q).getLast? :=
  prev_sibling_spec_partial lang fuel root self _ q ps
    (parent_spec_partial lang fuel root self path psr hp hfp hsr hshr hatr hrel hself hroot hokp) hq hf hs hsh hat hself hok

/-- On the demo tree: the previous sibling of `c` (second child of the hidden `h`) is `v`; the
previous sibling of `v` (FIRST child of `h`) is the leaf `a` that precedes `h` in the root. -/
example : (prevSiblingPort C02.demoLang 8 pvRoot pvC true).map (fun r => (r.t, r.alias)) = some (pvV, 0) := by
  rw [prev_sibling_spec_from_root C02.demoLang 8 pvRoot pvC [1, 1] [1, 1] none none (by simp) (by simp) pvRoot_summarized pvRoot_shape rfl (by decide)
    (by decide) (by decide) (by decide) (by simp) (by decide) pvRoot_summarized pvRoot_shape rfl (by decide)]
  rfl
example : (prevSiblingPort C02.demoLang 8 pvRoot pvVRef true).map (fun r => (r.t, r.alias)) = some (cwLeaf, 0) := by
  rw [prev_sibling_spec_from_root C02.demoLang 8 pvRoot pvVRef [1, 0] [1, 0] none none (by simp) (by simp) pvRoot_summarized pvRoot_shape rfl (by decide)
    (by decide) (by decide) (by decide) (by simp) (by decide) pvRoot_summarized pvRoot_shape rfl (by decide)]
  rfl

/-- The position-based searches of node.c in the semantics of the flattened
tree.  For a relevant NON-EMPTY node `d` at a raw path `p` below the root of a summarized
parser-shaped tree (`pathOK`: its slot id is unique along the search), let `P` be `parentOnPath`.
Then there is a path `q` from `P` to `d` through hidden nodes only such that
* `ts_node_parent(d)` returns `P`;
* the visible children of `P` — the children `flatten` gives `P` — are
  `earlierOnPath P q ++ d :: laterOnPath P q`, i.e. `d` is child number `(earlierOnPath P q).length`
  of `P` in the flattened tree (so `P` is its parent there);
* if no zero-width raw node sits where `d` ends (`nsPathOK`), `ts_node_next_sibling(d)` is the head of
  `laterOnPath P q`, the element after `d` in that list, null if `d` is the last;
* if `d`'s slot id does not occur in the earlier siblings (`psPathOK`), `ts_node_prev_sibling(d)` is
  the last element of `earlierOnPath P q` (the PREVIOUS element), null if `d` is the first. -/
theorem node_nav_flat_spec (lang : Lang) (fuel : Nat) (root d : NodeRef) (p : List Nat) (ps : Option Nat)
    (hp : p ≠ []) (hfp : p.length ≤ fuel) (hsz : root.t.size ≤ fuel + 1)
    (hs : Summarized lang root.t) (hsh : shapeOK ps root.t = true) (hat : nodeAt lang root p = some d)
    (hrel : d.relevant lang true = true) (hne : d.startByte < d.endByte) (hroot : root.id ≠ d.id)
    (hok : pathOK lang d.id root p = true) :
    ∃ q, q ≠ [] ∧ nodeAt lang (parentOnPath lang root root p) q = some d ∧
      hiddenPath lang (parentOnPath lang root root p) q = true ∧
      nodeParent lang fuel root d = some (parentOnPath lang root root p) ∧
      enumChildren lang (parentOnPath lang root root p).t =
        earlierOnPath lang (parentOnPath lang root root p) q ++ (d.t, d.alias) :: laterOnPath lang (parentOnPath lang root root p) q ∧
      (nsPathOK lang d (parentOnPath lang root root p) q = true →
        (nextSiblingPort lang fuel root d true).map (fun r => (r.t, r.alias)) =
          (laterOnPath lang (parentOnPath lang root root p) q).head?) ∧
      (psPathOK lang d (parentOnPath lang root root p) q = true →
        (prevSiblingPort lang fuel root d true).map (fun r => (r.t, r.alias)) =
          (earlierOnPath lang (parentOnPath lang root root p) q).getLast?) := by
  obtain ⟨pre, q, hpq, hq, hatP, hatq, hhid, _⟩ := parent_path_spec lang d p.length p root (Nat.le_refl _) hp hat
  have hpar := parent_spec_partial lang fuel root d p ps hp hfp hs hsh hat hrel hne hroot hok
  obtain ⟨hsP, ⟨psP, hshP⟩, hszP⟩ := nodeAt_summarized lang pre root _ ps hatP hs hsh
  refine ⟨q, hq, hatq, hhid, hpar, path_siblings_split lang d hrel q _ hq hatq hhid, ?_, ?_⟩
  · intro hns
    exact next_sibling_spec_partial lang fuel root d _ q psP hpar hq (by omega) hsP hshP hatq hne hns
  · intro hps
    exact prev_sibling_spec_partial lang fuel root d _ q psP hpar hq (by omega) hsP hshP hatq hne hps

/-- On the demo tree all hypotheses of `node_nav_flat_spec` hold for `c` (second child of the hidden
`h`): its parent is the root, and the root's flattened children are `[a, v, c, d]` with `c` third. -/
example : ∃ q, q ≠ [] ∧ nodeAt C02.demoLang (parentOnPath C02.demoLang pvRoot pvRoot [1, 1]) q = some pvC ∧
    enumChildren C02.demoLang (parentOnPath C02.demoLang pvRoot pvRoot [1, 1]).t =
      earlierOnPath C02.demoLang (parentOnPath C02.demoLang pvRoot pvRoot [1, 1]) q ++ (pvC.t, pvC.alias) ::
        laterOnPath C02.demoLang (parentOnPath C02.demoLang pvRoot pvRoot [1, 1]) q := by
  obtain ⟨q, h1, h2, _, _, h5, _, _⟩ := node_nav_flat_spec C02.demoLang 8 pvRoot pvC [1, 1] none (by simp) (by simp) (by decide)
    pvRoot_summarized pvRoot_shape rfl (by decide) (by decide) (by decide) (by decide)
  exact ⟨q, h1, h2, h5⟩
example : earlierOnPath C02.demoLang pvRoot [1, 1] = [(cwLeaf, 0), (pvV, 0)] ∧
    laterOnPath C02.demoLang pvRoot [1, 1] = [(cwLeaf, 0)] ∧ hiddenPath C02.demoLang pvRoot [1, 1] = true := ⟨rfl, rfl, rfl⟩

/-- The statement of `prev_sibling_spec_partial` under a second name: of the hypotheses of `prev_sibling_spec_general` only the
slot-id hypothesis `psPathOK` remains for a non-empty `self`. -/
theorem prev_sibling_spec_of_general (lang : Lang) (fuel : Nat) (root self P : NodeRef) (q : List Nat) (ps : Option Nat)
    (hpar : nodeParent lang fuel root self = some P) (hq : q ≠ []) (hf : P.t.size ≤ fuel + 1)
    (hs : Summarized lang P.t) (hsh : shapeOK ps P.t = true) (hat : nodeAt lang P q = some self)
    (hself : self.startByte < self.endByte) (hok : psPathOK lang self P q = true) :
    (prevSiblingPort lang fuel root self true).map (fun r => (r.t, r.alias)) = (earlierOnPath lang P q).getLast? :=
  prev_sibling_spec_partial lang fuel root self P q ps hpar hq hf hs hsh hat hself hok

/-- For `include_anonymous = true` the extra hypothesis of the flag-generic theorem is `nsZwOK`: a proper ancestor of a
relevant node reports a positive child count, so the scan never passes it over. -/
theorem nsZwOKA_of (lang : Lang) (self : NodeRef) (hrel : self.relevant lang true = true) :
    ∀ (q : List Nat) (n : NodeRef) (ps : Option Nat), Summarized lang n.t → shapeOK ps n.t = true → nodeAt lang n q = some self →
    nsZwOK lang self n q = true → nsZwOKA lang true self n q = true := by
  intro q
  induction q with
  | nil => intros; rfl
  | cons k rest ih =>
    intro n ps hs hsh hat h
    obtain ⟨rc, hk, hat'⟩ := nodeAt_cons lang n self k rest hat
    rw [nsZwOK] at h
    rw [nsZwOKA]
    simp only [hk] at h ⊢
    cases rest with
    | nil => rfl
    | cons k' rest' =>
      simp only [List.isEmpty_cons, Bool.false_or, Bool.and_eq_true] at h ⊢
      obtain ⟨hsc, hshc⟩ := raw_child_ok lang n ps hs hsh k rc hk
      refine ⟨?_, ih rc.node _ hsc hshc hat' h.2⟩
      have hcc : rc.node.relChildCount true > 0 := ancestor_child_count_pos lang self rc.node (k' :: rest') _ hrel (by simp) hat' hsc hshc
      have hne : (rc.node.relChildCount true == 0) = false := by simp; omega
      simpa only [hne, filter_keep_true, Bool.false_eq_true, if_false] using h.1

/-- `ts_node_next_sibling(self)` for a relevant EMPTY `self`.  Let `P` be
what `ts_node_parent(self)` returns and `q ≠ []` a path of raw child indices `P ⟶ self`.  If the
subtree of `P` is summarized and parser-shaped, `nsPathOK` holds (no zero-width raw node among or
inside the later siblings along the path sits where `self` lies; no ancestor is the same subtree) and
`nsZwOK` holds (an ancestor below `P` that STARTS where `self` lies and extends beyond it is hidden
and has something visible after `self` inside it, unless nothing visible follows that ancestor at
its own level), then the port returns the head of `laterOnPath P q`, null iff it is empty. -/
theorem next_sibling_spec_empty (lang : Lang) (fuel : Nat) (root self P : NodeRef) (q : List Nat) (ps : Option Nat)
    (hpar : nodeParent lang fuel root self = some P) (hq : q ≠ []) (hf : P.t.size ≤ fuel + 1)
    (hs : Summarized lang P.t) (hsh : shapeOK ps P.t = true) (hat : nodeAt lang P q = some self)
    (hrel : self.relevant lang true = true) (hemp : self.startByte = self.endByte)
    (hok : nsPathOK lang self P q = true) (hzw : nsZwOK lang self P q = true) :
    (nextSiblingPort lang fuel root self true).map (fun r => (r.t, r.alias)) = (laterOnPath lang P q).head? := by
  simpa only [filter_keep_true] using next_sibling_spec_anon lang fuel root self P q ps true hpar hq hf hs hsh hat hok
    (fun _ => nsZwOKA_of lang self hrel q P ps hs hsh hat hzw) (Or.inl rfl)

/-- The zero-width case of `node_nav_flat_spec`: for a relevant EMPTY
node `d` at a raw path `p` below the root of a summarized parser-shaped tree, with `psPathOK` along
`p` (hypothesis of `parent_spec_empty`), let `P` be `parentOnPath`.  Then there is a path `q` from
`P` to `d` through hidden nodes only such that `ts_node_parent(d)` returns `P`; the children of `P`
in the flattened tree are `earlierOnPath P q ++ d :: laterOnPath P q`; under `nsPathOK` + `nsZwOK`
`ts_node_next_sibling(d)` is the NEXT element of that list, and under `psPathOK` + `psZwOK` (along
`q`) `ts_node_prev_sibling(d)` is the PREVIOUS one (null at the ends). -/
theorem node_nav_flat_spec_empty (lang : Lang) (fuel : Nat) (root d : NodeRef) (p : List Nat) (ps : Option Nat)
    (hp : p ≠ []) (hfp : p.length ≤ fuel) (hsz : root.t.size ≤ fuel + 1)
    (hs : Summarized lang root.t) (hsh : shapeOK ps root.t = true) (hat : nodeAt lang root p = some d)
    (hrel : d.relevant lang true = true) (hemp : d.startByte = d.endByte) (hroot : root.id ≠ d.id)
    (hok : psPathOK lang d root p = true) :
    ∃ q, q ≠ [] ∧ nodeAt lang (parentOnPath lang root root p) q = some d ∧
      hiddenPath lang (parentOnPath lang root root p) q = true ∧
      nodeParent lang fuel root d = some (parentOnPath lang root root p) ∧
      enumChildren lang (parentOnPath lang root root p).t =
        earlierOnPath lang (parentOnPath lang root root p) q ++ (d.t, d.alias) :: laterOnPath lang (parentOnPath lang root root p) q ∧
      (nsPathOK lang d (parentOnPath lang root root p) q = true → nsZwOK lang d (parentOnPath lang root root p) q = true →
        (nextSiblingPort lang fuel root d true).map (fun r => (r.t, r.alias)) =
          (laterOnPath lang (parentOnPath lang root root p) q).head?) ∧
      (psPathOK lang d (parentOnPath lang root root p) q = true → psZwOK lang fuel d (parentOnPath lang root root p) q = true →
        (prevSiblingPort lang fuel root d true).map (fun r => (r.t, r.alias)) =
          (earlierOnPath lang (parentOnPath lang root root p) q).getLast?) := by
  obtain ⟨pre, q, hpq, hq, hatP, hatq, hhid, _⟩ := parent_path_spec lang d p.length p root (Nat.le_refl _) hp hat
  have hpar := parent_spec_empty lang fuel root d p ps hp hfp hs hsh hat hrel hemp hroot hok
  obtain ⟨hsP, ⟨psP, hshP⟩, hszP⟩ := nodeAt_summarized lang pre root _ ps hatP hs hsh
  refine ⟨q, hq, hatq, hhid, hpar, path_siblings_split lang d hrel q _ hq hatq hhid, ?_, ?_⟩
  · intro hns hzw
    exact next_sibling_spec_empty lang fuel root d _ q psP hpar hq (by omega) hsP hshP hatq hrel hemp hns hzw
  · intro hps hzw
    exact prev_sibling_spec_general lang fuel root d _ q psP hpar hq (by omega) hsP hshP hatq hps hzw

/-- an empty MISSING token (no padding, no bytes) -/
def zwM : Tree := C02.newMissingLeaf C02.demoLang 1 0 length_zero 0
/-- root(visible, @1000) → [leaf a, hidden h(@2000) → [MISSING m, leaf c], leaf d]: `m` lies at byte 1,
where the hidden `h` STARTS (for the strict test of an empty `self`, `h` is a "later child", not the child containing the target). -/
def zwH : Tree := atAddr (C02.newNode C02.demoLang 3 [zwM, cwLeaf] 0) 2000
def zwRoot : NodeRef := { t := atAddr (C02.newNode C02.demoLang 2 [cwLeaf, zwH, cwLeaf] 0) 1000, alias := 0, id := 1, start := length_zero }
def zwMRef : NodeRef := { t := zwM, alias := 0, id := 1984, start := ⟨1, ⟨0, 1⟩⟩ }

theorem zwRoot_summarized : Summarized C02.demoLang zwRoot.t := by
  have hl := cwLeaf_summarized
  have hm : Summarized C02.demoLang zwM := leaf_summarized _ _ (by unfold LeafOK; decide)
  have hh : Summarized C02.demoLang zwH := node_summarized _ _ _ _ (by unfold NodeOK; decide) (by simp [summarizedL_iff, hm, hl])
  exact node_summarized _ _ _ _ (by unfold NodeOK; decide) (by simp [summarizedL_iff, hl, hh])
theorem zwRoot_shape : shapeOK none zwRoot.t = true := by decide

example : nodeAt C02.demoLang zwRoot [1, 0] = some zwMRef := rfl
example : zwMRef.startByte = zwMRef.endByte ∧ zwMRef.t.totalBytes = 0 := by decide

/-- All hypotheses of the two sibling theorems (and of `parent_spec_empty`) hold for the MISSING node
`m` along the path `[1, 0]` from its parent (the root), and the theorems compute: its next sibling
is the leaf `c` that follows it inside the hidden `h`, its previous sibling the leaf `a` before `h`
(which ends exactly where `m` lies: `ts_subtree_has_trailing_empty_descendant(a, m)` is false). -/
example : (nextSiblingPort C02.demoLang 8 zwRoot zwMRef true).map (fun r => (r.t, r.alias)) = some (cwLeaf, 0) := by
  rw [next_sibling_spec_empty C02.demoLang 8 zwRoot zwMRef zwRoot [1, 0] none
    (parent_spec_empty C02.demoLang 8 zwRoot zwMRef [1, 0] none (by simp) (by simp) zwRoot_summarized zwRoot_shape rfl
      (by decide) (by decide) (by decide) (by decide))
    (by simp) (by decide) zwRoot_summarized zwRoot_shape rfl (by decide) (by decide) (by decide) (by decide)]
  rfl
example : (prevSiblingPort C02.demoLang 8 zwRoot zwMRef true).map (fun r => (r.t, r.alias)) = some (cwLeaf, 0) := by
  rw [prev_sibling_spec_general C02.demoLang 8 zwRoot zwMRef zwRoot [1, 0] none
    (parent_spec_empty C02.demoLang 8 zwRoot zwMRef [1, 0] none (by simp) (by simp) zwRoot_summarized zwRoot_shape rfl
      (by decide) (by decide) (by decide) (by decide))
    (by simp) (by decide) zwRoot_summarized zwRoot_shape rfl (by decide) (by decide)]
  rfl
example : nsZwOK C02.demoLang zwMRef zwRoot [1, 0] = true ∧ psZwOK C02.demoLang 8 zwMRef zwRoot [1, 0] = true := by decide
example : laterOnPath C02.demoLang zwRoot [1, 0] = [(cwLeaf, 0), (cwLeaf, 0)] ∧ earlierOnPath C02.demoLang zwRoot [1, 0] = [(cwLeaf, 0)] := ⟨rfl, rfl⟩
/-- `psZwOK` is a real restriction: for the hidden `h` REBUILT so that `m` is its LAST child (`[c, m]`),
`h` ends where `m` lies and the test on `h` must be TRUE; below a second hidden level whose path child
is non-empty it is false (`ts_subtree_has_trailing_empty_descendant` stops at the first non-empty child
from the right), and the theorem does not apply. -/
example : hasTrailingEmptyDescendant 8 (C02.newNode C02.demoLang 3 [cwLeaf, zwM] 0) zwM = true ∧
    hasTrailingEmptyDescendant 8 (C02.newNode C02.demoLang 3 [C02.newNode C02.demoLang 3 [cwLeaf, zwM] 0] 0) zwM = false := by decide

end TsVerif.C06
