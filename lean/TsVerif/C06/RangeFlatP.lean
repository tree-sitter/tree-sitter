import TsVerif.C06.RangeFlat
/-!
# C06 — the `FT` link of the POINT-range search (both flags)

`descendant_for_point_range_spec_partial` (NavVariants.lean): for `rs < re` in row/column order the port of
`ts_node_(named_)descendant_for_point_range` is the plain raw search `dfrIdealP`.  Here the remaining link,
`descendant_for_point_range_ft_spec`: `dfrIdealP` = `FT.descendantForPoints`, by `ft_search_spec` — the tests `reachesP` /
`afterP` are monotone in the order of positions, and the geometry (`Laid`, `contribR_inside`, RawGeom.lean) is stated for
bytes and row/column at once.  The other statements mirror the link-by-link statements of the byte files (key to the letters:
head of `RangeSearch.lean`); the main theorem does not pass through them.
-/
namespace TsVerif.C06
open TsGen TsVerif TsVerif.C02

abbrev NodeRef.sP (r : NodeRef) : TSPoint := r.start.extent
abbrev NodeRef.eP (r : NodeRef) : TSPoint := r.endLen.extent

theorem sP_le_eP (r : NodeRef) : point_lte r.sP r.eP = true := by
  simp only [NodeRef.sP, NodeRef.eP, NodeRef.endLen, length_add_extent]; exact point_lte_add _ _

def reachesP (re : TSPoint) (r : NodeRef) : Bool := !point_lt r.eP re

def afterP (rs : TSPoint) (r : NodeRef) : Bool := point_lt rs r.sP

/-- The search over the visible children in row/column order: `vgoA` with the tests `reachesP` / `afterP`. -/
def vgoP (lang : Lang) (anon : Bool) (rs re : TSPoint) : Nat → NodeRef → NodeRef → NodeRef
  | 0, _, last => last
  | f + 1, self, last =>
    match (enumRefs lang self.t self.start).find? (reachesP re) with
    | none => last
    | some r => if point_lt rs r.sP then last else vgoP lang anon rs re f r (if r.relevant lang anon then r else last)

theorem vgoP_eq_descend (lang : Lang) (anon : Bool) (rs re : TSPoint) : ∀ (f : Nat) (self last : NodeRef),
    vgoP lang anon rs re f self last = descend (fun r => r.relevant lang anon) (vnext lang (reachesP re) (afterP rs)) f self last
  | 0, _, _ => rfl
  | f + 1, self, last => by
    rw [vgoP]
    simp only [vgoP_eq_descend lang anon rs re f]
    unfold vnext
    rw [descend_pick_succ]
    cases (enumRefs lang self.t self.start).find? (reachesP re) <;> rfl

theorem dfrIdealP_eq_descend (lang : Lang) (anon : Bool) (rs re : TSPoint) :
    dfrIdealP lang anon rs re = descend (fun r => r.relevant lang anon) (rnext lang (spansP rs re) fun _ => false) := by
  funext f node last
  induction f generalizing node last with
  | zero => rfl
  | succ f ih =>
    rw [dfrIdealP, descend_rnext_succ]
    unfold scanRaw pickIn
    cases (rawChildren lang node).find? (spansP rs re) with
    | none => rfl
    | some rc => exact ih rc.node _

def dfrLP (lang : Lang) (anon : Bool) (rs re : TSPoint) (f : Nat) (last : NodeRef) (raws : List RawChild) : NodeRef :=
  match raws.find? (spansP rs re) with
  | none => last
  | some rc => dfrIdealP lang anon rs re f rc.node (if rc.node.relevant lang anon then rc.node else last)
def dfrRP (lang : Lang) (anon : Bool) (rs re : TSPoint) (last : NodeRef) (refs : List NodeRef) : NodeRef :=
  match refs.find? (reachesP re) with
  | none => last
  | some r => if point_lt rs r.sP then last else dfrIdealP lang anon rs re r.t.size r (if r.relevant lang anon then r else last)

theorem dfrLP_eq_scanRaw (lang : Lang) (anon : Bool) (rs re : TSPoint) (f : Nat) (last : NodeRef) (raws : List RawChild) :
    dfrLP lang anon rs re f last raws =
      scanRaw (dfrIdealP lang anon rs re) (keepIf fun r => r.relevant lang anon) (spansP rs re) (fun _ => false) f last raws := by
  rw [scanRaw_eq]
  rfl

theorem dfrRP_eq_scanVis (lang : Lang) (anon : Bool) (rs re : TSPoint) (last : NodeRef) (refs : List NodeRef) :
    dfrRP lang anon rs re last refs =
      scanVis (dfrIdealP lang anon rs re) (keepIf fun r => r.relevant lang anon) (reachesP re) (afterP rs) last refs := by
  rw [scanVis_eq]
  rfl

theorem plt_of_chain (rs re a b : TSPoint) (hr : point_lt rs re = true) (h1 : point_lt a re = false) (h2 : point_lte a b = true) :
    point_lt rs b = true ∧ point_lt b re = false := by
  simp only [point_lt, point_lte, decide_eq_true_eq, decide_eq_false_iff_not] at *
  omega

theorem dfr_stepP (lang : Lang) (anon : Bool) (rs re : TSPoint) (f : Nat) (hr : point_lt rs re = true) (last : NodeRef) (rc : RawChild) (raws : List RawChild)
    (cpart refs : List NodeRef) (hpa : rc.posAfter.extent = rc.node.eP)
    (hX : if rc.node.relevant lang true then
            cpart = [rc.node] ∧ ∀ l, dfrIdealP lang anon rs re f rc.node l = dfrIdealP lang anon rs re rc.node.t.size rc.node l
          else dfrIdealP lang anon rs re f rc.node last = dfrRP lang anon rs re last cpart)
    (hIH : dfrLP lang anon rs re f last raws = dfrRP lang anon rs re last refs)
    (hF1 : ∀ r ∈ refs, point_lte rc.node.eP r.sP = true)
    (hF2 : ∀ r ∈ cpart, point_lte rc.node.sP r.sP = true ∧ point_lte r.eP rc.node.eP = true)
    (hF3 : ∀ x ∈ raws, point_lte rc.node.eP x.node.sP = true) :
    dfrLP lang anon rs re f last (rc :: raws) = dfrRP lang anon rs re last (cpart ++ refs) := by
  have hse := sP_le_eP rc.node
  have haft : afterP rs rc.node = true ∨ reachesP re rc.node = true → ∀ b : TSPoint, point_lte rc.node.eP b = true →
      point_lt rs b = true := fun h b hb => by
    rcases h with h | h
    · exact point_lt_of_lt_of_lte (point_lt_of_lt_of_lte h hse) hb
    · exact (plt_of_chain rs re _ _ hr (by simpa [reachesP] using h) hb).1
  rw [dfrLP_eq_scanRaw, dfrRP_eq_scanVis]
  refine mono_step _ _ _ _ _ _ f last rc raws cpart refs (rc.node.relevant lang true) ?_
    (by rw [← dfrLP_eq_scanRaw, ← dfrRP_eq_scanVis]; exact hIH) ?_ (fun r hr' => ⟨fun h => point_lt_of_lt_of_lte h (hF2 r hr').1, fun h => ?_⟩)
    (fun h r hr' => haft h _ (hF1 r hr')) (fun h x hx => ?_)
  · cases hrel : rc.node.relevant lang true with
    | true =>
      rw [hrel, if_pos rfl] at hX
      rw [if_pos rfl]
      exact ⟨hX.1, rfl, hX.2 _⟩
    | false =>
      simp only [hrel, Bool.false_eq_true, if_false, keepIf, rel_of_hidden lang anon rc.node hrel, true_and] at hX ⊢
      rw [hX, dfrRP_eq_scanVis]
  · rw [spansP, hpa, point_lte_eq_not_lt, point_lte_eq_not_lt, Bool.and_comm]; rfl
  · have := (plt_of_chain rs re _ _ hr (by simpa [reachesP] using h) (hF2 r hr').2).2
    rw [reachesP, this]; rfl
  · rw [spansP, point_lte_eq_not_lt, show point_lt rs x.node.start.extent = true from haft h _ (hF3 x hx)]
    rfl

theorem enumRefs_propsP (lang : Lang) : ∀ (t : Tree) (start : Length), ∀ r ∈ enumRefs lang t start, point_lte start.extent r.sP = true :=
  fun t start r hr => (enumRefs_start lang t start r hr).1.2

theorem monotone_points (rs re : TSPoint) (hr : point_lt rs re = true) : Monotone (spansP rs re) (reachesP re) (afterP rs) where
  sel rc hpa := by
    rw [spansP, hpa, point_lte_eq_not_lt, point_lte_eq_not_lt, Bool.and_comm]
    rfl
  inside n r h1 h2 := by
    refine ⟨fun h => point_lt_of_lt_of_lte h h1.2, fun h => ?_⟩
    have : point_lt n.eP re = false := (plt_of_chain rs re _ _ hr (by simpa [reachesP] using h) h2.2).2
    rw [reachesP, this]
    rfl
  after n r h1 h := by
    rcases h with h | h
    · exact point_lt_of_lt_of_lte (point_lt_of_lt_of_lte h (sP_le_eP n)) h1.2
    · exact (plt_of_chain rs re _ _ hr (by simpa [reachesP] using h) h1.2).1

theorem dfrHP (lang : Lang) (anon : Bool) (rs re : TSPoint) (hr : point_lt rs re = true) : ∀ (t : Tree) (al id : Nat) (start : Length) (last : NodeRef) (f : Nat),
    t.size ≤ f → Sized t →
    dfrIdealP lang anon rs re f ⟨t, al, id, start⟩ last = dfrRP lang anon rs re last (enumRefs lang t start) := by
  intro t al id start last f hf hs
  rw [dfrRP_eq_scanVis, dfrIdealP_eq_descend]
  exact raw_vis (rel_of_hidden lang anon) (monotone_points rs re hr) f ⟨t, al, id, start⟩ last hf hs

theorem dfrHLP (lang : Lang) (anon : Bool) (rs re : TSPoint) (hr : point_lt rs re = true) : ∀ (kids : List Tree) (n : NodeRef) (pid nk : Nat) (pos : Length) (si k : Nat)
    (last : NodeRef) (f : Nat), Tree.sizeList kids ≤ f → SizedL kids →
    dfrLP lang anon rs re f last (rawChildren.go lang n pid nk kids pos si k) =
      dfrRP lang anon rs re last (enumRefsKids lang pid n.t.data.addr nk kids pos si k) := by
  intro kids n pid nk pos si k last f hf hs
  rw [dfrLP_eq_scanRaw, dfrRP_eq_scanVis, dfrIdealP_eq_descend]
  exact raw_vis_kids (rel_of_hidden lang anon) (monotone_points rs re hr) kids n pid nk pos si k last f hf hs

theorem vgoP_eq_dfr (lang : Lang) (anon : Bool) (rs re : TSPoint) (hr : point_lt rs re = true) : ∀ (m : Nat) (self last : NodeRef) (F : Nat),
    self.t.size ≤ m → self.t.size ≤ F → Sized self.t → vgoP lang anon rs re F self last = dfrIdealP lang anon rs re F self last := by
  intro m self last F hm hF hs
  rw [vgoP_eq_descend, dfrIdealP_eq_descend]
  exact vis_eq_raw_mono (rel_of_hidden lang anon) (monotone_points rs re hr) last hF hs

/-- The test `FT.descendantForPoints` selects a child with. -/
def selFP (ft : FT) (s e : TSPoint) (c : Nat) : Bool :=
  !point_lt (ft.ep c) e && (if point_eq (ft.sp c) (ft.ep c) then !point_lt (ft.ep c) s else !point_lte (ft.ep c) s)

theorem ftgoP_eq_descend (ft : FT) (s e : TSPoint) (nm : Bool) : ∀ (f cur last : Nat),
    FT.descendantForPoints.go ft s e nm f cur last =
      descend (fun c => !nm || ft.named c) (fnext ft (selFP ft s e) (fun c => point_lt s (ft.sp c))) f cur last
  | 0, _, _ => rfl
  | f + 1, cur, last => by
    rw [FT.descendantForPoints.go,
      show (fun c => !point_lt (ft.ep c) e &&
          (if point_eq (ft.sp c) (ft.ep c) then !point_lt (ft.ep c) s else !point_lte (ft.ep c) s)) = selFP ft s e from rfl]
    simp only [ftgoP_eq_descend ft s e nm f]
    unfold fnext
    rw [descend_pick_succ]
    cases (ft.kidsOf cur).find? (selFP ft s e) <;> rfl

theorem ft_tests_points {lang : Lang} {ft : FT} (nm : Bool) {rs re : TSPoint} (hr : point_lt rs re = true) {info : VInfo}
    {kids : List VTree} {k : Nat} {par : Option Nat} {dep : Nat} (hg : GoodAt ft.toList (.mk info kids) k par dep)
    (hq : QQ lang (.mk info kids)) :
    ∀ j ∈ ft.kidsOf k, (selFP ft rs re j = reachesP re (refOf (ft.node j).info) ∧
      point_lt rs (ft.sp j) = afterP rs (refOf (ft.node j).info)) ∧
      (!nm || ft.named j) = (refOf (ft.node j).info).relevant lang (!nm) := by
  intro j hj
  have hep : ft.ep j = (refOf (ft.node j).info).eP := by
    simp only [FT.ep, NodeRef.eP, ft_kids_stop lang ft info kids k par dep hg hq j hj]
  refine ⟨⟨?_, rfl⟩, ft_keep_flag nm hg hq hj⟩
  rw [selFP, reachesP, ← hep]
  cases h1 : point_lt (ft.ep j) re with
  | true => rfl
  | false =>
    have h2 : point_lt (ft.ep j) rs = false ∧ point_lte (ft.ep j) rs = false := by
      simp only [point_lt, point_lte, decide_eq_true_eq, decide_eq_false_iff_not] at *
      omega
    simp only [h2.1, h2.2, Bool.not_false, ite_self, Bool.and_self]

theorem ftgo_stepP (lang : Lang) (ft : FT) (nm : Bool) (rs re : TSPoint) (hr : point_lt rs re = true) (info : VInfo) (kids : List VTree) (k : Nat)
    (par : Option Nat) (dep : Nat) (hg : GoodAt ft.toList (.mk info kids) k par dep) (hq : QQ lang (.mk info kids)) (f last : Nat) :
    (∃ c vi vk, FT.descendantForPoints.go ft rs re nm (f + 1) k last =
          FT.descendantForPoints.go ft rs re nm f c (if !nm || ft.named c then c else last) ∧
        GoodAt ft.toList (.mk vi vk) c (some k) (dep + 1) ∧ QQ lang (.mk vi vk) ∧ (.mk vi vk) ∈ kids ∧
        (enumRefs lang info.raw info.start).find? (reachesP re) = some (refOf vi) ∧ point_lt rs (refOf vi).sP = false) ∨
    (FT.descendantForPoints.go ft rs re nm (f + 1) k last = last ∧
      (match (enumRefs lang info.raw info.start).find? (reachesP re) with
       | none => True
       | some r => point_lt rs r.sP = true)) := by
  obtain ⟨hmap, hgood⟩ := ft_scan_step _ _ (reachesP re) (afterP rs) hg hq (fun j hj => (ft_tests_points nm hr hg hq j hj).1)
  simp only [ftgoP_eq_descend]
  cases hn : fnext ft (selFP ft rs re) (fun c => point_lt rs (ft.sp c)) k with
  | some c =>
    obtain ⟨vi, vk, hgc, hqc, hmem, hfind, hst⟩ := hgood c hn
    exact Or.inl ⟨c, vi, vk, descend_some hn f last, hgc, hqc, hmem, hfind, hst⟩
  | none =>
    rw [hn] at hmap
    refine Or.inr ⟨descend_none hn _, ?_⟩
    cases hf : (enumRefs lang info.raw info.start).find? (reachesP re) with
    | none => trivial
    | some r => exact pickIn_stop_of_none (stop := afterP rs) hmap.symm hf

theorem ftgo_eq_vgoP (lang : Lang) (ft : FT) (nm : Bool) (rs re : TSPoint) (hr : point_lt rs re = true) : ∀ (f : Nat) (info : VInfo) (kids : List VTree) (k : Nat)
    (par : Option Nat) (dep : Nat), GoodAt ft.toList (.mk info kids) k par dep → QQ lang (.mk info kids) → ∀ (last : Nat),
    refOf (ft.node (FT.descendantForPoints.go ft rs re nm f k last)).info =
      vgoP lang (!nm) rs re f (refOf info) (refOf (ft.node last).info) := by
  intro f info kids k par dep hg hq last
  rw [ftgoP_eq_descend, vgoP_eq_descend]
  exact ft_descend_vis _ _ _ _ _ _ (ft_tests_points nm hr) f hg hq last

/-- For either flag (`nm = true`: the NAMED function), root summarized and
parser-shaped, `ft` the preorder array of `flatten`, a point range with `rs < re` in row/column order and fuel covering
the raw tree: the port of `ts_node_(named_)descendant_for_point_range(root, rs, re)` returns exactly the `TSNode` of
the entry `FT.descendantForPoints 0 rs re nm` designates. -/
theorem descendant_for_point_range_ft_spec (lang : Lang) (nm : Bool) (root : Tree) (rootId : Nat) (ps : Option Nat) (fuel : Nat) (rs re : TSPoint)
    (hs : Summarized lang root) (hsh : shapeOK ps root = true) (hr : point_lt rs re = true) :
    let ft : FT := flatOf (flatten lang root rootId)
    root.size ≤ fuel →
    descendantForPointRangePort lang fuel (refOf (ft.node 0).info) rs re (!nm) =
      (ft.descendantForPoints 0 rs re nm).map (fun j => refOf (ft.node j).info) := by
  intro ft hfuel
  have ht := ft_root_t lang root rootId
  have hng : point_gt rs re = false := by rw [point_gt_eq]; exact (not_ple_of_plt rs re hr).2
  rw [descendant_for_point_range_spec_partial lang fuel _ rs re (!nm) hr]
  simp only [FT.descendantForPoints, hng, Bool.false_eq_true, if_false, Option.map_some, Option.some.injEq]
  rw [ftgoP_eq_descend, dfrIdealP_eq_descend]
  refine ft_search_spec lang root rootId ps hs hsh _ _ _ _ (reachesP re) (afterP rs) _ _ fuel hfuel (ft_tests_points nm hr) (fun F hF => ?_)
  exact vis_eq_raw_mono (rel_of_hidden lang (!nm)) (monotone_points rs re hr) _ (by rw [ht]; exact hF)
    (by rw [ht]; exact sized_of_summarized lang root hs)

/-- Non-vacuity: the hypotheses hold on the demo tree (both flags, point range (0,1)–(0,2)). -/
example := descendant_for_point_range_ft_spec C02.demoLang false pvRoot.t pvRoot.id none 8 ⟨0, 1⟩ ⟨0, 2⟩ pvRoot_summarized pvRoot_shape (by decide) (by decide)
example := descendant_for_point_range_ft_spec C02.demoLang true pvRoot.t pvRoot.id none 8 ⟨0, 1⟩ ⟨0, 2⟩ pvRoot_summarized pvRoot_shape (by decide) (by decide)

end TsVerif.C06
