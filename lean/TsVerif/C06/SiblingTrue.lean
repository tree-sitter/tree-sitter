import TsVerif.C06.SiblingZw
/-!
C06, node.c: the sibling searches at `include_anonymous = true` in the vocabulary of the cursor theorems (`relStep`, `firstRel`,
`lastRel` of Enum.lean; the cached `visible_child_count` `vcc`).  Every theorem here is an instance of a lemma of SiblingNamed /
SiblingNamedNext: the scans of those with the emptiness flag open (`nsScanGA_*`, `psScanGA_*`, `psGA_part`, `psGA_descend`), or
`nsA_*` / `psA_*` at `anon = true`.  A scan with the flag `false` on an empty `self` is one the port would not run; that is why
`nsScan_*`, `psScan_before`, `ps_descend`, `ps_earlier_part` read the open-flag lemmas and not the port's.
-/
open TsVerif.C02 TsGen

namespace TsVerif.C06

/-- The child scan of `ts_node__next_sibling(self, true)` for a non-empty `self` (`nsScanGA` with the flags `true`, `false`). -/
abbrev nsScan (lang : Lang) (self : NodeRef) := nextSiblingPort.scan lang self true self.endByte self.startByte false
abbrev nsGo (lang : Lang) (self : NodeRef) := nextSiblingPort.go lang self true self.endByte self.startByte false

theorem nsScan_nil (lang : Lang) (self : NodeRef) (cct : Option NodeRef) : nsScan lang self [] cct = (cct, none) := rfl

theorem nsScan_skip (lang : Lang) (self : NodeRef) (cct : Option NodeRef) :
    ∀ (k : Nat) (L : List RawChild), (∀ i ri, i < k → L[i]? = some ri → ri.posAfter.bytes ≤ self.endByte) →
    nsScan lang self L cct = nsScan lang self (L.drop k) cct :=
  nsScanGA_skip false cct

/-- `earlierStepA` at `anon = true`, by the cached `visible_child_count`. -/
def earlierStep (lang : Lang) (rc : RawChild) (e : Option (NodeRef × Bool)) : Option (NodeRef × Bool) :=
  if rc.node.relevant lang true then some (rc.node, true)
  else if rc.node.childCount > 0 then some (rc.node, false)
  else e

/-- `firstLaterRefA` at `anon = true` (`firstLaterRefA_true`). -/
def firstLaterRef (lang : Lang) : List RawChild → Option (NodeRef × Bool)
  | [] => none
  | rc :: rest =>
    if rc.node.relevant lang true then some (rc.node, true)
    else if rc.node.childCount > 0 then some (rc.node, false)
    else firstLaterRef lang rest

theorem firstLaterRefA_true (lang : Lang) : ∀ (L : List RawChild), firstLaterRefA lang true L = firstLaterRef lang L
  | [] => rfl
  | rc :: rest => by rw [firstLaterRefA, firstLaterRef, firstLaterRefA_true lang rest]; rfl

theorem nsScan_later (lang : Lang) (self : NodeRef) (cct : Option NodeRef) :
    ∀ (L : List RawChild), (∀ rc ∈ L, self.endByte < rc.posAfter.bytes ∧ self.startByte < rc.node.startByte) →
    nsScan lang self L cct = (cct, firstLaterRef lang L) :=
  fun L h => (nsScanGA_later false cct L (fun rc hrc => ⟨(h rc hrc).1, decide_eq_false (Nat.not_le.mpr (h rc hrc).2)⟩)).trans
    (congrArg (Prod.mk cct) (firstLaterRefA_true lang L))

theorem vcc_eq_rcc (t : Tree) : vcc t = relevantChildCount t true := by
  obtain ⟨d, kids⟩ := t
  cases kids <;> rfl

theorem relStepA_true (lang : Lang) (pid si : Nat) (c : Tree) : relStepA lang true pid si c = relStep lang pid si c := by
  rw [relStepA, relStep, ← vcc_eq_rcc, ← vis_alias]
  rfl

theorem firstRelA_true (lang : Lang) (pid : Nat) : ∀ (kids : List Tree) (si : Nat), firstRelA lang true pid kids si = firstRel lang pid kids si
  | [], _ => rfl
  | c :: rest, si => by rw [firstRelA_cons, firstRel_cons, relStepA_true, firstRelA_true lang pid rest]

theorem lastRelA_true (lang : Lang) (pid : Nat) : ∀ (kids : List Tree) (si : Nat), lastRelA lang true pid kids si = lastRel lang pid kids si
  | [], _ => rfl
  | c :: rest, si => by rw [lastRelA_cons, lastRel_cons, relStepA_true, lastRelA_true lang pid rest]

theorem firstLaterRef_mem (lang : Lang) : ∀ (L : List RawChild) (r : NodeRef) (b : Bool),
    firstLaterRef lang L = some (r, b) → ∃ rc ∈ L, rc.node = r :=
  fun L _ _ h => (firstLaterRefA_mem (firstLaterRefA_true lang L ▸ h)).1

theorem firstLaterRef_go (lang : Lang) (n : NodeRef) (nk : Nat) : ∀ (kids : List Tree) (pos : Length) (si k : Nat),
    (firstLaterRef lang (rawChildren.go lang n n.t.data.productionId nk kids pos si k)).map (fun r => (r.1.t, r.1.alias, r.2)) =
      (firstRel lang n.t.data.productionId kids si).map
        (fun r => (r.1, (if r.1.data.extra then 0 else lang.aliasAt n.t.data.productionId r.2.1), r.2.2)) := by
  intro kids pos si k
  rw [← firstLaterRefA_true, ← firstRelA_true]
  exact firstLaterRefA_go lang true n nk kids pos si k

/-- `resolveLaterA` at `anon = true` (`resolveLaterA_true`). -/
def resolveLater (lang : Lang) : Option (NodeRef × Bool) → Option (Tree × Nat)
  | none => none
  | some (ln, true) => some (ln.t, ln.alias)
  | some (ln, false) => (enumChildren lang ln.t).head?

theorem ns_descend (lang : Lang) (self : NodeRef) (later : Option (NodeRef × Bool)) (hself : self.startByte < self.endByte) :
    ∀ (fuel : Nat) (lc : NodeRef) (ps : Option Nat), lc.t.size ≤ fuel → Summarized lang lc.t → shapeOK ps lc.t = true →
    endsAfterL self.endByte lc.t.kids lc.start.bytes true = true → self.endByte ≤ lc.startByte → vcc lc.t > 0 →
    (nsGo lang self fuel (some lc) later).map (fun r => (r.t, r.alias)) = (enumChildren lang lc.t).head? := by
  intro fuel lc ps hf hs hsh hne hpos hv
  have he : (self.startByte == self.endByte) = false := by simp; omega
  have := nsA_descend lang self true later fuel lc ps hf hs hsh hne hpos (vcc_eq_rcc lc.t ▸ hv) (Or.inl rfl)
  simpa only [nsGoA, he, enumChildrenA, filter_keep_true] using this

/-- `LaterGoodA` at `anon = true` (`laterGoodA_true`). -/
def LaterGood (lang : Lang) (self : NodeRef) : Option (NodeRef × Bool) → Prop
  | some (ln, false) => (∃ ps, shapeOK ps ln.t = true) ∧ Summarized lang ln.t ∧ endsAfterL self.endByte ln.t.kids ln.start.bytes true = true ∧
      self.endByte ≤ ln.startByte ∧ vcc ln.t > 0
  | _ => True

theorem resolveLaterA_true (lang : Lang) (l : Option (NodeRef × Bool)) : resolveLaterA lang true l = resolveLater lang l := by
  rcases l with _ | ⟨n, _ | _⟩
  · rfl
  · exact congrArg List.head? (filter_keep_true _)
  · rfl

theorem laterGoodA_true (lang : Lang) (self : NodeRef) (l : Option (NodeRef × Bool)) :
    LaterGoodA lang self true l ↔ LaterGood lang self l := by
  rcases l with _ | ⟨n, _ | _⟩
  · exact Iff.rfl
  · exact ⟨fun ⟨h1, h2, h3, h4, h5, _⟩ => ⟨h1, h2, h3, h4, vcc_eq_rcc n.t ▸ h5⟩,
      fun ⟨h1, h2, h3, h4, h5⟩ => ⟨h1, h2, h3, h4, vcc_eq_rcc n.t ▸ h5, Or.inl rfl⟩⟩
  · exact Iff.rfl

theorem resolve_ne_none (lang : Lang) (self : NodeRef) (l : NodeRef × Bool) (hg : LaterGood lang self (some l)) :
    resolveLater lang (some l) ≠ none :=
  resolveLaterA_true lang (some l) ▸ resolveLaterA_ne_none ((laterGoodA_true lang self (some l)).mpr hg)

theorem later_part_props (lang : Lang) (self n : NodeRef) (k : Nat) (rc : RawChild) (ps : Option Nat)
    (hk : (rawChildren lang n)[k]? = some rc) (hs : Summarized lang n.t) (hsh : shapeOK ps n.t = true)
    (hne : endsAfterL self.endByte (n.t.kids.drop (k + 1)) rc.posAfter.bytes false = true) (hend : self.endByte ≤ rc.posAfter.bytes) :
    (∀ r ∈ (rawChildren lang n).drop (k + 1), self.endByte ≤ r.node.startByte ∧ self.endByte < r.posAfter.bytes) ∧
    resolveLater lang (firstLaterRef lang ((rawChildren lang n).drop (k + 1))) =
      (enumKids lang n.t.data.productionId (n.t.kids.drop (k + 1)) (if rc.node.t.data.extra then rc.si else rc.si + 1)).head? ∧
    LaterGood lang self (firstLaterRef lang ((rawChildren lang n).drop (k + 1))) ∧
    (∀ lc b, firstLaterRef lang ((rawChildren lang n).drop (k + 1)) = some (lc, b) → lc.t ∈ n.t.kids.drop (k + 1)) := by
  obtain ⟨h1, h2, h3, h4⟩ := nsA_part lang self n true (n.t.kids.drop (k + 1)) rc.posAfter
    (if rc.node.t.data.extra then rc.si else rc.si + 1) (rc.k + 1) _
    (summarizedL_drop lang _ (k + 1) (summarizedL_kids lang n.t hs)) (shapeOKL_drop _ _ (k + 1) (shapeOKL_kids ps n.t hsh))
    (by simpa using hne) hend (Or.inl rfl) _ (go_drop lang n _ _ _ _ _ _ k rc hk)
  rw [firstLaterRefA_true, resolveLaterA_true, filter_keep_true] at h2
  rw [firstLaterRefA_true] at h3 h4
  exact ⟨fun r hr => ⟨(h1 r hr).2, (h1 r hr).1⟩, h2, (laterGoodA_true lang self _).mp h3, h4⟩

theorem ns_later_part (lang : Lang) (self n : NodeRef) (k : Nat) (rc : RawChild) (ps : Option Nat)
    (hk : (rawChildren lang n)[k]? = some rc) (hs : Summarized lang n.t) (hsh : shapeOK ps n.t = true)
    (hne : endsAfterL self.endByte (n.t.kids.drop (k + 1)) rc.posAfter.bytes false = true) (hend : self.endByte ≤ rc.posAfter.bytes)
    (hself : self.startByte < self.endByte) :
    (∀ cct, nsScan lang self ((rawChildren lang n).drop (k + 1)) cct = (cct, firstLaterRef lang ((rawChildren lang n).drop (k + 1)))) ∧
    resolveLater lang (firstLaterRef lang ((rawChildren lang n).drop (k + 1))) =
      (enumKids lang n.t.data.productionId (n.t.kids.drop (k + 1)) (if rc.node.t.data.extra then rc.si else rc.si + 1)).head? ∧
    LaterGood lang self (firstLaterRef lang ((rawChildren lang n).drop (k + 1))) ∧
    (∀ lc b, firstLaterRef lang ((rawChildren lang n).drop (k + 1)) = some (lc, b) → lc.t ∈ n.t.kids.drop (k + 1)) := by
  obtain ⟨hel, h2, h3, h4⟩ := later_part_props lang self n k rc ps hk hs hsh hne hend
  exact ⟨fun cct => nsScan_later lang self cct _ (fun r hr => by have := hel r hr; omega), h2, h3, h4⟩

/-- `nsA_levels` at `anon = true` for a non-empty `self`. -/
theorem ns_levels (lang : Lang) (self : NodeRef) (hself : self.startByte < self.endByte) :
    ∀ (q : List Nat) (f : Nat) (n : NodeRef) (later : Option (NodeRef × Bool)) (ps : Option Nat), q ≠ [] →
    n.t.size + laterNeed later ≤ f → Summarized lang n.t → shapeOK ps n.t = true → nodeAt lang n q = some self →
    nsPathOK lang self n q = true → LaterGood lang self later →
    (nsGo lang self f (some n) later).map (fun r => (r.t, r.alias)) =
      ((laterOnPath lang n q).head?).or (resolveLater lang later) := by
  intro q f n later ps hq hf hs hsh hat hok hg
  have he : (self.startByte == self.endByte) = false := by simp; omega
  have := nsA_levels lang self true q f n later ps hq hf hs hsh hat hok (fun h => absurd h (Nat.ne_of_lt hself)) (Or.inl rfl)
    ((laterGoodA_true lang self later).mpr hg)
  simpa only [nsGoA, he, filter_keep_true, resolveLaterA_true] using this

/-- The child scan / outer loop of `ts_node__prev_sibling(self, true)` for a non-empty `self` (`psScanGA`, `psGoGA` with the flags
`true`, `false`). -/
abbrev psScan (lang : Lang) (fuel : Nat) (self : NodeRef) := prevSiblingPort.scan lang fuel self true false self.endByte
abbrev psGo (lang : Lang) (fuel : Nat) (self : NodeRef) := prevSiblingPort.go lang fuel self true false self.endByte

/-- The child scan / outer loop of `ts_node__prev_sibling(self, true)` as the port runs them. -/
abbrev psScanZ (lang : Lang) (fuel : Nat) (self : NodeRef) :=
  prevSiblingPort.scan lang fuel self true (self.t.totalBytes == 0) self.endByte
abbrev psGoZ (lang : Lang) (fuel : Nat) (self : NodeRef) :=
  prevSiblingPort.go lang fuel self true (self.t.totalBytes == 0) self.endByte

theorem psScan_nil (lang : Lang) (fuel : Nat) (self : NodeRef) (e : Option (NodeRef × Bool)) :
    psScan lang fuel self [] e = (false, none, e) := rfl

theorem psScanZ_nil (lang : Lang) (fuel : Nat) (self : NodeRef) (e : Option (NodeRef × Bool)) :
    psScanZ lang fuel self [] e = (false, none, e) := rfl

theorem psStop_of_lt (fuel : Nat) (self : NodeRef) (se : Bool) (t : Tree) (e : Nat) (h : e < self.endByte) :
    psStop fuel self se t e = false := by
  simp only [psStop, Bool.or_eq_false_iff, decide_eq_false_iff_not, Bool.and_eq_false_iff, beq_eq_false_iff_ne]
  omega

theorem psScanZ_cons (lang : Lang) (fuel : Nat) (self : NodeRef) (rc : RawChild) (rest : List RawChild) (e : Option (NodeRef × Bool)) :
    psScanZ lang fuel self (rc :: rest) e =
      (if rc.node.id == self.id then (false, some rc.node, e)
       else if posStop fuel self rc.node.t rc.posAfter.bytes then (true, some rc.node, e)
       else psScanZ lang fuel self rest (earlierStep lang rc e)) := by
  rw [posStop_eq]
  exact psScanGA_cons lang fuel self true _ rc rest e

/-- `lastEarlierRefA` at `anon = true` (`lastEarlierRefA_true`). -/
def lastEarlierRef (lang : Lang) : List RawChild → Option (NodeRef × Bool)
  | [] => none
  | rc :: rest =>
    match lastEarlierRef lang rest with
    | some r => some r
    | none =>
      if rc.node.relevant lang true then some (rc.node, true)
      else if rc.node.childCount > 0 then some (rc.node, false)
      else none

theorem lastEarlierRef_cons (lang : Lang) (rc : RawChild) (rest : List RawChild) :
    lastEarlierRef lang (rc :: rest) = (lastEarlierRef lang rest).or (earlierStep lang rc none) := by
  rw [lastEarlierRef]
  cases lastEarlierRef lang rest <;> simp [earlierStep]

theorem lastEarlierRefA_true (lang : Lang) : ∀ (L : List RawChild), lastEarlierRefA lang true L = lastEarlierRef lang L
  | [] => rfl
  | rc :: rest => by rw [lastEarlierRefA, lastEarlierRef, lastEarlierRefA_true lang rest]; rfl

theorem psScan_before (lang : Lang) (fuel : Nat) (self : NodeRef) :
    ∀ (L M : List RawChild) (e : Option (NodeRef × Bool)),
    (∀ rc ∈ L, rc.node.id ≠ self.id ∧ rc.posAfter.bytes < self.endByte) →
    psScan lang fuel self (L ++ M) e = psScan lang fuel self M ((lastEarlierRef lang L).or e) :=
  fun L M e h => lastEarlierRefA_true lang L ▸ psScanGA_before (lang := lang) (anon := true) false L M e
    (fun rc hrc => ⟨(h rc hrc).1, psStop_of_lt fuel self _ _ _ (h rc hrc).2⟩)

theorem psScanZ_before (lang : Lang) (fuel : Nat) (self : NodeRef) :
    ∀ (L M : List RawChild) (e : Option (NodeRef × Bool)),
    (∀ rc ∈ L, rc.node.id ≠ self.id ∧ posPass fuel self rc.node.t rc.posAfter.bytes = true) →
    psScanZ lang fuel self (L ++ M) e = psScanZ lang fuel self M ((lastEarlierRef lang L).or e) :=
  fun L M e h => lastEarlierRefA_true lang L ▸ psScanGA_before (lang := lang) (anon := true) _ L M e
    (fun rc hrc => ⟨(h rc hrc).1, posStop_eq fuel self _ _ ▸ posStop_of_pass fuel self _ _ (h rc hrc).2⟩)

theorem lastEarlierRef_mem (lang : Lang) : ∀ (L : List RawChild) (r : NodeRef) (b : Bool),
    lastEarlierRef lang L = some (r, b) → ∃ rc ∈ L, rc.node = r :=
  fun L _ _ h => (lastEarlierRefA_mem (lastEarlierRefA_true lang L ▸ h)).1

theorem lastEarlierRef_go (lang : Lang) (n : NodeRef) (nk : Nat) : ∀ (kids : List Tree) (pos : Length) (si k : Nat),
    (lastEarlierRef lang (rawChildren.go lang n n.t.data.productionId nk kids pos si k)).map (fun r => (r.1.t, r.1.alias, r.2)) =
      (lastRel lang n.t.data.productionId kids si).map
        (fun r => (r.1, (if r.1.data.extra then 0 else lang.aliasAt n.t.data.productionId r.2.1), r.2.2)) := by
  intro kids pos si k
  rw [← lastEarlierRefA_true, ← lastRelA_true]
  exact lastEarlierRefA_go lang true n nk kids pos si k

/-- `resolveEarlierA` at `anon = true` (`resolveEarlierA_true`). -/
def resolveEarlier (lang : Lang) : Option (NodeRef × Bool) → Option (Tree × Nat)
  | none => none
  | some (en, true) => some (en.t, en.alias)
  | some (en, false) => (enumChildren lang en.t).getLast?

theorem resolveEarlierA_true (lang : Lang) (en : Option (NodeRef × Bool)) : resolveEarlierA lang true en = resolveEarlier lang en := by
  rcases en with _ | ⟨n, _ | _⟩
  · rfl
  · exact congrArg List.getLast? (filter_keep_true _)
  · rfl

/-- `psGA_part` for the first `k` raw children of `n` at `include_anonymous = true`. -/
theorem ps_take_part (lang : Lang) (n : NodeRef) (k : Nat) (ps : Option Nat) (hs : Summarized lang n.t) (hsh : shapeOK ps n.t = true) :
    resolveEarlier lang (lastEarlierRef lang ((rawChildren lang n).take k)) =
      (enumKids lang n.t.data.productionId (n.t.kids.take k) 0).getLast? ∧
    (∀ ec b, lastEarlierRef lang ((rawChildren lang n).take k) = some (ec, b) → ∃ rc ∈ (rawChildren lang n).take k,
      rc.node = ec ∧ ec.t ∈ n.t.kids.take k ∧
      (b = false → (∃ ps, shapeOK ps ec.t = true) ∧ Summarized lang ec.t ∧ vcc ec.t > 0)) := by
  obtain ⟨h1, h2⟩ := psGA_part (lang := lang) (anon := true) n (n.t.kids.take k) n.start 0 0 (some n.t.data.symbol)
    (summarizedL_take lang _ k (summarizedL_kids lang n.t hs)) (shapeOKL_take _ _ k (shapeOKL_kids ps n.t hsh)) (Or.inl rfl)
    ((rawChildren lang n).take k) (go_take lang n _ _ _ _ _ _ k)
  rw [lastEarlierRefA_true, resolveEarlierA_true, filter_keep_true] at h1
  refine ⟨h1, fun ec b h => ?_⟩
  obtain ⟨rc, hrc, hn, hm, hg⟩ := h2 ec b (lastEarlierRefA_true lang _ ▸ h)
  exact ⟨rc, hrc, hn, hm, fun hb => ⟨(hg hb).1, (hg hb).2.1, vcc_eq_rcc ec.t ▸ (hg hb).2.2.1⟩⟩

theorem psZ_descend (lang : Lang) (fuel : Nat) (self : NodeRef) (en : Option (NodeRef × Bool)) :
    ∀ (f : Nat) (ec : NodeRef) (ps : Option Nat), ec.t.size ≤ f → Summarized lang ec.t → shapeOK ps ec.t = true →
    noIdIn self.id ec.t = true → passInL fuel self ec.t.kids ec.start.bytes true = true → vcc ec.t > 0 →
    (psGoZ lang fuel self f (some ec) en).map (fun r => (r.t, r.alias)) = (enumChildren lang ec.t).getLast? :=
  fun f ec ps hf hs hsh hid hpass hv =>
    (psA_descend lang fuel self true en f ec ps hf hs hsh hid hpass (vcc_eq_rcc ec.t ▸ hv) (Or.inl rfl)).trans
      (congrArg List.getLast? (filter_keep_true _))

/-- `EarlierGoodA` at `anon = true` (`earlierGoodA_of_Z`). -/
def EarlierGoodZ (lang : Lang) (fuel : Nat) (self : NodeRef) : Option (NodeRef × Bool) → Prop
  | some (en, false) => (∃ ps, shapeOK ps en.t = true) ∧ Summarized lang en.t ∧ noIdIn self.id en.t = true ∧
      passInL fuel self en.t.kids en.start.bytes true = true ∧ vcc en.t > 0
  | _ => True

theorem psZ_earlier_part (lang : Lang) (fuel : Nat) (self n : NodeRef) (k : Nat) (ps : Option Nat)
    (hs : Summarized lang n.t) (hsh : shapeOK ps n.t = true)
    (hid : noIdInL self.id n.t.data.addr n.t.kids.length (n.t.kids.take k) 0 = true)
    (hpass : passInL fuel self (n.t.kids.take k) n.start.bytes true = true) :
    (∀ M e, psScanZ lang fuel self ((rawChildren lang n).take k ++ M) e =
        psScanZ lang fuel self M ((lastEarlierRef lang ((rawChildren lang n).take k)).or e)) ∧
    resolveEarlier lang (lastEarlierRef lang ((rawChildren lang n).take k)) =
      (enumKids lang n.t.data.productionId (n.t.kids.take k) 0).getLast? ∧
    EarlierGoodZ lang fuel self (lastEarlierRef lang ((rawChildren lang n).take k)) ∧
    (∀ ec b, lastEarlierRef lang ((rawChildren lang n).take k) = some (ec, b) → ec.t ∈ n.t.kids.take k) := by
  have hall := go_passed lang n _ fuel self _ _ 0 0 hid hpass
  rw [← raw_take] at hall
  obtain ⟨h1, h2⟩ := ps_take_part lang n k ps hs hsh
  refine ⟨fun M e => lastEarlierRefA_true lang _ ▸ psScanGA_before (lang := lang) (anon := true) _ _ M e (fun rc hrc => (hall rc hrc).1),
    h1, ?_, fun ec b h => (h2 ec b h).choose_spec.2.2.1⟩
  rcases hfl : lastEarlierRef lang ((rawChildren lang n).take k) with _ | ⟨r, _ | _⟩
  · trivial
  · obtain ⟨rc, hrc, rfl, _, hg⟩ := h2 r false hfl
    obtain ⟨hshr, hsr, hv⟩ := hg rfl
    exact ⟨hshr, hsr, (hall rc hrc).2.1, (hall rc hrc).2.2, hv⟩
  · trivial

theorem earlierGoodA_of_Z (lang : Lang) (fuel : Nat) (self : NodeRef) (en : Option (NodeRef × Bool)) (h : EarlierGoodZ lang fuel self en) :
    EarlierGoodA lang fuel self true en := by
  rcases en with _ | ⟨n, _ | _⟩
  · trivial
  · obtain ⟨h1, h2, h3, h4, h5⟩ := h
    exact ⟨h1, h2, h3, h4, vcc_eq_rcc n.t ▸ h5, Or.inl rfl⟩
  · trivial

/-- `psA_levels` at `anon = true`. -/
theorem psZ_levels (lang : Lang) (fuel : Nat) (self : NodeRef) :
    ∀ (q : List Nat) (f : Nat) (n : NodeRef) (en : Option (NodeRef × Bool)) (ps : Option Nat), q ≠ [] →
    n.t.size + laterNeed en ≤ f → Summarized lang n.t → shapeOK ps n.t = true → nodeAt lang n q = some self →
    psPathOK lang self n q = true → psZwOK lang fuel self n q = true → EarlierGoodZ lang fuel self en →
    (psGoZ lang fuel self f (some n) en).map (fun r => (r.t, r.alias)) =
      ((earlierOnPath lang n q).getLast?).or (resolveEarlier lang en) := by
  intro q f n en ps hq hf hs hsh hat hok hzw hg
  have := psA_levels lang fuel self true q f n en ps hq hf hs hsh hat hok hzw (Or.inl rfl) (earlierGoodA_of_Z lang fuel self en hg)
  rwa [filter_keep_true, resolveEarlierA_true] at this

/-- `EarlierGoodZ` with "ends before `self` ends" in place of `passInL` (for the scan with the flag `false`, `ps_descend`). -/
def EarlierGood (lang : Lang) (self : NodeRef) : Option (NodeRef × Bool) → Prop
  | some (en, false) => (∃ ps, shapeOK ps en.t = true) ∧ Summarized lang en.t ∧ noIdIn self.id en.t = true ∧
      en.endByte < self.endByte ∧ vcc en.t > 0
  | _ => True

theorem raw_before (lang : Lang) (fuel : Nat) (self : NodeRef) (se : Bool) (n : NodeRef) (hs : Summarized lang n.t)
    (h : noIdIn self.id n.t = true ∧ n.endByte < self.endByte) :
    ∀ rc ∈ rawChildren lang n, (rc.node.id ≠ self.id ∧ psStop fuel self se rc.node.t rc.posAfter.bytes = false) ∧
      noIdIn self.id rc.node.t = true ∧ rc.node.endByte < self.endByte := by
  intro rc hrc
  obtain ⟨j, hj⟩ := List.mem_iff_getElem?.mp hrc
  have hn := raw_child_nested lang n (sized_of_summarized lang n.t hs) j rc hj
  have hi := go_ids lang n _ _ self.id _ _ _ 0 (noIdInL_of_noIdIn self.id n.t h.1) j rc hj
  exact ⟨⟨hi.1, psStop_of_lt fuel self se _ _ (by omega)⟩, hi.2, by omega⟩

theorem ps_descend (lang : Lang) (fuel : Nat) (self : NodeRef) (en : Option (NodeRef × Bool)) :
    ∀ (f : Nat) (ec : NodeRef) (ps : Option Nat), ec.t.size ≤ f → Summarized lang ec.t → shapeOK ps ec.t = true →
    noIdIn self.id ec.t = true → ec.endByte < self.endByte → vcc ec.t > 0 →
    (psGo lang fuel self f (some ec) en).map (fun r => (r.t, r.alias)) = (enumChildren lang ec.t).getLast? :=
  fun f ec ps hf hs hsh hid hend hv =>
    (psGA_descend (anon := true) false en (fun n => noIdIn self.id n.t = true ∧ n.endByte < self.endByte)
      (raw_before lang fuel self false) f ec ps hf hs hsh ⟨hid, hend⟩ (vcc_eq_rcc ec.t ▸ hv) (Or.inl rfl)).trans
      (congrArg List.getLast? (filter_keep_true _))

theorem ps_earlier_part (lang : Lang) (fuel : Nat) (self n : NodeRef) (k : Nat) (rc : RawChild) (ps : Option Nat)
    (hk : (rawChildren lang n)[k]? = some rc) (hs : Summarized lang n.t) (hsh : shapeOK ps n.t = true)
    (hid : noIdInL self.id n.t.data.addr n.t.kids.length (n.t.kids.take k) 0 = true)
    (hstart : rc.node.startByte < self.endByte) :
    (∀ M e, psScan lang fuel self ((rawChildren lang n).take k ++ M) e =
        psScan lang fuel self M ((lastEarlierRef lang ((rawChildren lang n).take k)).or e)) ∧
    resolveEarlier lang (lastEarlierRef lang ((rawChildren lang n).take k)) =
      (enumKids lang n.t.data.productionId (n.t.kids.take k) 0).getLast? ∧
    EarlierGood lang self (lastEarlierRef lang ((rawChildren lang n).take k)) ∧
    (∀ ec b, lastEarlierRef lang ((rawChildren lang n).take k) = some (ec, b) → ec.t ∈ n.t.kids.take k) := by
  have hsz := sized_of_summarized lang n.t hs
  have hall : ∀ r ∈ (rawChildren lang n).take k, (r.node.id ≠ self.id ∧ r.posAfter.bytes < self.endByte) ∧
      noIdIn self.id r.node.t = true ∧ r.node.endByte < self.endByte := by
    intro r hr
    obtain ⟨j, hj⟩ := List.mem_iff_getElem?.mp hr
    have hj' := hj
    rw [List.getElem?_take] at hj'
    split at hj'
    · rename_i hjk
      have ho := raw_ordered lang n j k r rc hjk hj' hk
      have hn := raw_child_nested lang n hsz j r hj'
      rw [raw_take] at hj
      have hi := go_ids lang n _ _ self.id _ _ _ 0 hid j r hj
      exact ⟨⟨hi.1, by omega⟩, hi.2, by omega⟩
    · simp at hj'
  obtain ⟨h1, h2⟩ := ps_take_part lang n k ps hs hsh
  refine ⟨fun M e => psScan_before lang fuel self _ M e (fun r hr => (hall r hr).1), h1, ?_, fun ec b h => (h2 ec b h).choose_spec.2.2.1⟩
  rcases hfl : lastEarlierRef lang ((rawChildren lang n).take k) with _ | ⟨r, _ | _⟩
  · trivial
  · obtain ⟨x, hx, rfl, _, hg⟩ := h2 r false hfl
    obtain ⟨hshr, hsr, hv⟩ := hg rfl
    exact ⟨hshr, hsr, (hall x hx).2.1, (hall x hx).2.2, hv⟩
  · trivial

/-- `psZ_levels` for a non-empty `self`, where `psZwOK` holds by the layout and the port's flag is `false`. -/
theorem ps_levels (lang : Lang) (fuel : Nat) (self : NodeRef) (hself : self.startByte < self.endByte) :
    ∀ (q : List Nat) (f : Nat) (n : NodeRef) (en : Option (NodeRef × Bool)) (ps : Option Nat), q ≠ [] →
    n.t.size + laterNeed en ≤ f → Summarized lang n.t → shapeOK ps n.t = true → nodeAt lang n q = some self →
    psPathOK lang self n q = true → EarlierGood lang self en →
    (psGo lang fuel self f (some n) en).map (fun r => (r.t, r.alias)) =
      ((earlierOnPath lang n q).getLast?).or (resolveEarlier lang en) := by
  intro q f n en ps hq hf hs hsh hat hok hg
  have he : (self.t.totalBytes == 0) = false := by
    simp only [NodeRef.startByte, NodeRef.endByte] at hself
    simp [Tree.totalBytes]; omega
  have hgz : EarlierGoodZ lang fuel self en := by
    rcases en with _ | ⟨e, _ | _⟩
    · trivial
    · obtain ⟨hsh', hs', hid', hend', hv'⟩ := hg
      have := passIn_of_lt fuel self e.t e.start.bytes (sized_of_summarized lang _ hs') hend'
      obtain ⟨⟨d, kids⟩, al, id, st⟩ := e
      rw [passIn, Bool.and_eq_true] at this
      exact ⟨hsh', hs', hid', this.2, hv'⟩
    · trivial
  have := psZ_levels lang fuel self q f n en ps hq hf hs hsh hat hok
    (psZwOK_of_nonempty lang fuel self hself q n (sized_of_summarized lang n.t hs) hat) hgz
  simpa only [psGoZ, he] using this

/-- The child scan / outer loop of `ts_node__next_sibling(self, true)` for an empty `self`
(`is_empty = true`: a child contains the target only if it starts STRICTLY before it). -/
abbrev nsScanE (lang : Lang) (self : NodeRef) := nextSiblingPort.scan lang self true self.endByte self.startByte true
abbrev nsGoE (lang : Lang) (self : NodeRef) := nextSiblingPort.go lang self true self.endByte self.startByte true

theorem nsScanE_cons (lang : Lang) (self : NodeRef) (rc : RawChild) (rest : List RawChild) (cct : Option NodeRef) :
    nsScanE lang self (rc :: rest) cct =
      (if rc.posAfter.bytes ≤ self.endByte then nsScanE lang self rest cct
       else if rc.node.startByte < self.startByte then nsScanE lang self rest (if samePtr rc.node self then cct else some rc.node)
       else if rc.node.relevant lang true then (cct, some (rc.node, true))
       else if rc.node.childCount > 0 then (cct, some (rc.node, false))
       else nsScanE lang self rest cct) := by
  rw [nsScanE, nextSiblingPort.scan]
  rfl

theorem nsScanE_later (lang : Lang) (self : NodeRef) (cct : Option NodeRef) :
    ∀ (L : List RawChild), (∀ rc ∈ L, self.endByte < rc.posAfter.bytes ∧ self.startByte ≤ rc.node.startByte) →
    nsScanE lang self L cct = (cct, firstLaterRef lang L) :=
  fun L h => (nsScanGA_later true cct L (fun rc hrc => ⟨(h rc hrc).1, decide_eq_false (Nat.not_lt.mpr (h rc hrc).2)⟩)).trans
    (congrArg (Prod.mk cct) (firstLaterRefA_true lang L))

theorem nsE_descend (lang : Lang) (self : NodeRef) (later : Option (NodeRef × Bool)) (hemp : self.startByte = self.endByte) :
    ∀ (fuel : Nat) (lc : NodeRef) (ps : Option Nat), lc.t.size ≤ fuel → Summarized lang lc.t → shapeOK ps lc.t = true →
    endsAfterL self.endByte lc.t.kids lc.start.bytes true = true → self.endByte ≤ lc.startByte → vcc lc.t > 0 →
    (nsGoE lang self fuel (some lc) later).map (fun r => (r.t, r.alias)) = (enumChildren lang lc.t).head? := by
  intro fuel lc ps hf hs hsh hne hpos hv
  have he : (self.startByte == self.endByte) = true := by simp [hemp]
  have := nsA_descend lang self true later fuel lc ps hf hs hsh hne hpos (vcc_eq_rcc lc.t ▸ hv) (Or.inl rfl)
  simpa only [nsGoA, he, enumChildrenA, filter_keep_true] using this

/-- `nsA_levels` at `anon = true` for an EMPTY `self`, `nsZwOK` giving the generic hypothesis (`nsZwOKA_of`). -/
theorem nsE_levels (lang : Lang) (self : NodeRef) (hemp : self.startByte = self.endByte) (hrel : self.relevant lang true = true) :
    ∀ (q : List Nat) (f : Nat) (n : NodeRef) (later : Option (NodeRef × Bool)) (ps : Option Nat), q ≠ [] →
    n.t.size + laterNeed later ≤ f → Summarized lang n.t → shapeOK ps n.t = true → nodeAt lang n q = some self →
    nsPathOK lang self n q = true → nsZwOK lang self n q = true → LaterGood lang self later →
    (nsGoE lang self f (some n) later).map (fun r => (r.t, r.alias)) =
      ((laterOnPath lang n q).head?).or (resolveLater lang later) := by
  intro q f n later ps hq hf hs hsh hat hok hzw hg
  have he : (self.startByte == self.endByte) = true := by simp [hemp]
  have := nsA_levels lang self true q f n later ps hq hf hs hsh hat hok (fun _ => nsZwOKA_of lang self hrel q n ps hs hsh hat hzw)
    (Or.inl rfl) ((laterGoodA_true lang self later).mpr hg)
  simpa only [nsGoA, he, filter_keep_true, resolveLaterA_true] using this

end TsVerif.C06
