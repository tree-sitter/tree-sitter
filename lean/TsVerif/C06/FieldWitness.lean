import TsVerif.C06.FieldProps
/-!
# C06 — witnesses about `ts_node_child_by_field_id` outside the premise `cbfOK` (finding 11)

`child_by_field_id_spec_partial` needs the premise `cbfOK`, one clause of which is "an INHERITED field-map entry
points at a hidden child only".  That clause is not a convenience of the proof: without it the statement is FALSE
for the unchanged code.  The generator emits an inherited entry for every position of a hidden rule that can carry
the field, and eliminates the unit reduction from that hidden rule to a visible alternative; the runtime then finds
a VISIBLE child at the position of an inherited entry and searches inside it (`self = child; goto recur`), returning
a grandchild.  Real instance: private grammar `zoo/twofld/nest`, `route ( a ) > [ ] > 1 ;`
(`known_findings/C06.json`: child-by-field-enters-visible-child).  Below the same situation on the model.
-/
namespace TsVerif.C06
open TsGen TsVerif TsVerif.C02

/-- `demoLang` with one field: production 1 (the outer `rule`) INHERITS field 1 from its child 0; production 2
(the inner `rule`, a visible node) gives field 1 to its own child 0 directly. -/
def nestLang : Lang :=
  { C02.demoLang with fieldCount := 1, productionIdCount := 3
                      fieldMaps := #[#[], #[⟨1, 0, true⟩], #[⟨1, 0, false⟩]] }
def nestLeaf : Tree := C02.newLeaf nestLang 1 length_zero ⟨1, ⟨0, 1⟩⟩ 1 1 false false false
/-- the VISIBLE alternative sitting where the production expects the hidden rule -/
def nestInner : Tree := atAddr (C02.newNode nestLang 2 [nestLeaf] 2) 2000
def nestOuter : Tree := atAddr (C02.newNode nestLang 2 [nestInner] 1) 1000

theorem nestInner_summarized : Summarized nestLang nestInner := by
  have hl : Summarized nestLang nestLeaf := leaf_summarized _ _ (by unfold LeafOK; decide)
  exact node_summarized _ _ _ _ (by unfold NodeOK; decide) ((summarizedL_cons _ _ _).mpr ⟨hl, summarizedL_nil _⟩)

theorem nestOuter_summarized : Summarized nestLang nestOuter :=
  node_summarized _ _ _ _ (by unfold NodeOK; decide) ((summarizedL_cons _ _ _).mpr ⟨nestInner_summarized, summarizedL_nil _⟩)

/-- The only child of `nestOuter` is the visible `nestInner`, and it carries no field there: the flattened tree,
`field_name_for_child`, the cursor and the S-expression show `nestOuter` without any `f`-child … -/
example : (enumChildren nestLang nestOuter).map (fun x => (x.1.data, x.2)) = [(nestInner.data, 0)] ∧ (cbfSpec nestLang 1 nestOuter).isSome = false := by decide

/-- … but the port of the unchanged `ts_node_child_by_field_id` follows the inherited entry INTO the visible child:
its answer for `nestOuter` is the answer for `nestInner` (one step of the scan, then `child_by_field_id_spec_partial`
for the inner node, where `cbfOK` holds) — the leaf, a grandchild of `nestOuter`. -/
theorem nest_port : (childByFieldIdPort nestLang 4 ⟨nestOuter, 0, 1, length_zero⟩ 1).map (fun r => (r.t, r.alias)) = cbfSpec nestLang 1 nestInner := by
  obtain ⟨al, id, st, pa, hraw⟩ : ∃ al id st pa, rawChildren nestLang ⟨nestOuter, 0, 1, length_zero⟩ = [⟨⟨nestInner, al, id, st⟩, pa, 0, 0⟩] :=
    ⟨_, _, _, _, rfl⟩
  rw [cbf_unfold, if_neg (by decide), if_neg (by decide), hraw, show fieldEntries nestLang nestOuter.data.productionId 1 = [⟨1, 0, true⟩] by decide,
    cbfScan_entry (nd := ⟨nestInner, al, id, st⟩) (show nestInner.data.extra = false by decide) (Nat.lt_irrefl 0), if_pos rfl, childByFieldIdPort.scan,
    Option.or_none]
  exact child_by_field_id_spec_partial nestLang 1 (by decide) 3 nestInner al id st none (by decide) nestInner_summarized (by decide) (by decide)

example : ((cbfSpec nestLang 1 nestInner).map fun x => (x.1.data, x.2)) = some (nestLeaf.data, 0) := by decide

/-- **The full clause is false for the unchanged code** (finding 11): `child_by_field_id_spec_partial` WITHOUT the
premise `cbfOK` does not hold — on a summarized, parser-shaped tree of a language with sorted field maps the port
returns a node although no child of the receiver carries the field. -/
theorem child_by_field_id_full_false :
    ¬ ∀ (lang : Lang) (f : Nat), f ≠ 0 → fieldMapsSorted lang = true → ∀ (fuel : Nat) (t : Tree) (al id : Nat) (st : Length) (ps : Option Nat),
        t.size ≤ fuel → Summarized lang t → shapeOK ps t = true →
        (childByFieldIdPort lang fuel ⟨t, al, id, st⟩ f).map (fun r => (r.t, r.alias)) = cbfSpec lang f t := by
  intro h
  have := h nestLang 1 (by decide) (by decide) 4 nestOuter 0 1 length_zero none (by decide) nestOuter_summarized (by decide)
  rw [nest_port] at this
  have h2 := congrArg Option.isSome this
  revert h2
  decide

/-- The witness lies outside the theorem exactly by the clause in question. -/
example : cbfOK nestLang 1 nestOuter = false ∧ fieldMapsSorted nestLang = true := by decide

end TsVerif.C06

