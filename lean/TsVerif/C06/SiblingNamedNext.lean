import TsVerif.C06.SiblingNamed
/-!
C06, node.c: `ts_node_next_sibling` / `ts_node_next_named_sibling` in ONE development, parametric in
`include_anonymous` and covering EMPTY and non-empty `self` (`next_sibling_spec_anon`).
-/
open TsVerif.C02 TsGen

namespace TsVerif.C06

variable {lang : Lang} {anon : Bool} {fuel : Nat} {self : NodeRef}

/-- The FIRST raw child the search would stop at, for either flag. -/
def firstRelA (lang : Lang) (anon : Bool) (pid : Nat) : List Tree → Nat → Option (Tree × Nat × Bool)
  | [], _ => none
  | c :: rest, si =>
    if relA lang anon pid si c then some (c, si, true)
    else if relevantChildCount c anon > 0 then some (c, si, false)
    else firstRelA lang anon pid rest (if c.data.extra then si else si + 1)

theorem firstRelA_cons (pid : Nat) (c : Tree) (rest : List Tree) (si : Nat) :
    firstRelA lang anon pid (c :: rest) si = (relStepA lang anon pid si c).or (firstRelA lang anon pid rest (if c.data.extra then si else si + 1)) := by
  rw [firstRelA, relStepA, apply_ite (Option.or · _), apply_ite (Option.or · _)]
  rfl

theorem enumKids_headA (lang : Lang) (anon : Bool) : ∀ (kids : List Tree) (pid si : Nat) (ps : Option Nat),
    SummarizedL lang kids → shapeOKL ps kids = true → AOK lang anon kids pid si →
    ((enumKids lang pid kids si).filter (keepA lang anon)).head? =
      match firstRelA lang anon pid kids si with
      | none => none
      | some (c, si', true) => some (c, alOf lang pid si' c)
      | some (c, _, false) => (enumChildrenA lang anon c).head? := by
  intro kids pid
  induction kids with
  | nil => intro _ _ _ _ _; rfl
  | cons c rest ih =>
    intro si ps hs hsh ha
    rw [SummarizedL] at hs
    rw [shapeOKL, Bool.and_eq_true] at hsh
    obtain ⟨hac, har⟩ := aok_cons lang anon c rest pid si ha
    rw [enumKids_cons_filterA rest hs.1 hsh.1 hac, List.head?_append, ih _ ps hs.2 hsh.2 har, firstRelA]
    by_cases hrel : relA lang anon pid si c = true
    · rw [if_pos hrel, if_pos hrel]
      rfl
    · rw [if_neg hrel, if_neg hrel]
      by_cases hk : relevantChildCount c anon > 0
      · rw [if_pos hk, if_pos hk]
        exact or_of_ne_none _ _ (fun h => (rcc_pos_iff lang anon c ps hs.1 hsh.1).mp hk (List.head?_eq_none_iff.mp h))
      · rw [if_neg hk, if_neg hk]
        rfl

abbrev nsScanA (lang : Lang) (self : NodeRef) (anon : Bool) :=
  nextSiblingPort.scan lang self anon self.endByte self.startByte (self.startByte == self.endByte)
abbrev nsGoA (lang : Lang) (self : NodeRef) (anon : Bool) :=
  nextSiblingPort.go lang self anon self.endByte self.startByte (self.startByte == self.endByte)

/-- `contains_target` of the C scan. -/
def containsT (self : NodeRef) (rc : RawChild) : Bool :=
  if self.startByte == self.endByte then decide (rc.node.startByte < self.startByte) else decide (rc.node.startByte ≤ self.startByte)

theorem containsT_of_after (self : NodeRef) (rc : RawChild) (h : self.endByte ≤ rc.node.startByte) :
    containsT self rc = false := by
  have hle : self.startByte ≤ self.endByte := Nat.le_add_right _ _
  rw [containsT]
  cases he : self.startByte == self.endByte with
  | true => exact decide_eq_false (by have := beq_iff_eq.mp he; omega)
  | false => exact decide_eq_false (by have := beq_eq_false_iff_ne.mp he; omega)

theorem empty_of_not_containsT (self : NodeRef) (rc : RawChild) (h : containsT self rc = false) (hst : rc.node.startByte ≤ self.startByte) :
    self.startByte = self.endByte ∧ rc.node.startByte = self.startByte := by
  rw [containsT] at h
  cases he : self.startByte == self.endByte with
  | true =>
    rw [he, if_pos rfl, decide_eq_false_iff_not] at h
    exact ⟨beq_iff_eq.mp he, by omega⟩
  | false =>
    rw [he, if_neg Bool.false_ne_true, decide_eq_false_iff_not] at h
    exact absurd hst h

/-- The child scan of `ts_node__next_sibling(self, anon)` with the flag `is_empty` left open (`e`): the port runs it with
`e = (self.startByte == self.endByte)` (`nsScanA`); `nsScan` (SiblingTrue) is `e = false`, `nsScanE` is `e = true`, on ANY `self`.
For `e = true` a child contains the target only if it starts STRICTLY before it. -/
abbrev nsScanGA (lang : Lang) (self : NodeRef) (anon e : Bool) := nextSiblingPort.scan lang self anon self.endByte self.startByte e

/-- `contains_target` of the C scan with `is_empty` open; `containsT` is `e := (self.startByte == self.endByte)`. -/
def containsG (e : Bool) (self : NodeRef) (rc : RawChild) : Bool :=
  if e then decide (rc.node.startByte < self.startByte) else decide (rc.node.startByte ≤ self.startByte)

theorem containsT_eq (self : NodeRef) (rc : RawChild) : containsT self rc = containsG (self.startByte == self.endByte) self rc := rfl

theorem containsG_iff (e : Bool) (self : NodeRef) (rc : RawChild) :
    containsG e self rc = true ↔ if e = true then rc.node.startByte < self.startByte else rc.node.startByte ≤ self.startByte := by
  cases e <;> exact decide_eq_true_iff

theorem nsScanGA_cons (lang : Lang) (self : NodeRef) (anon e : Bool) (rc : RawChild) (rest : List RawChild) (cct : Option NodeRef) :
    nsScanGA lang self anon e (rc :: rest) cct =
      (if rc.posAfter.bytes ≤ self.endByte then nsScanGA lang self anon e rest cct
       else if containsG e self rc then nsScanGA lang self anon e rest (if samePtr rc.node self then cct else some rc.node)
       else if rc.node.relevant lang anon then (cct, some (rc.node, true))
       else if rc.node.relChildCount anon > 0 then (cct, some (rc.node, false))
       else nsScanGA lang self anon e rest cct) := by
  rw [nsScanGA, nextSiblingPort.scan]
  exact ite_congr rfl (fun _ => rfl) (fun _ => ite_congr (propext (containsG_iff e self rc).symm) (fun _ => rfl) (fun _ => rfl))

theorem nsScanA_cons (lang : Lang) (self : NodeRef) (anon : Bool) (rc : RawChild) (rest : List RawChild) (cct : Option NodeRef) :
    nsScanA lang self anon (rc :: rest) cct =
      (if rc.posAfter.bytes ≤ self.endByte then nsScanA lang self anon rest cct
       else if containsT self rc then nsScanA lang self anon rest (if samePtr rc.node self then cct else some rc.node)
       else if rc.node.relevant lang anon then (cct, some (rc.node, true))
       else if rc.node.relChildCount anon > 0 then (cct, some (rc.node, false))
       else nsScanA lang self anon rest cct) := by
  rw [containsT_eq]
  exact nsScanGA_cons lang self anon _ rc rest cct

theorem nsScanGA_skip (e : Bool) (cct : Option NodeRef) (k : Nat) (L : List RawChild)
    (h : ∀ i ri, i < k → L[i]? = some ri → ri.posAfter.bytes ≤ self.endByte) :
    nsScanGA lang self anon e L cct = nsScanGA lang self anon e (L.drop k) cct := by
  induction k generalizing L with
  | zero => rfl
  | succ k ih =>
    cases L with
    | nil => rfl
    | cons r0 rest =>
      rw [nsScanGA_cons, if_pos (h 0 r0 (Nat.succ_pos k) rfl), List.drop_succ_cons]
      exact ih rest (fun i ri hi hri => h (i + 1) ri (Nat.succ_lt_succ hi) hri)

/-- The first child that is relevant (`true`) or not relevant with children that count (`false`). -/
def firstLaterRefA (lang : Lang) (anon : Bool) : List RawChild → Option (NodeRef × Bool)
  | [] => none
  | rc :: rest =>
    if rc.node.relevant lang anon then some (rc.node, true)
    else if rc.node.relChildCount anon > 0 then some (rc.node, false)
    else firstLaterRefA lang anon rest

theorem firstLaterRefA_cons (rc : RawChild) (rest : List RawChild) :
    firstLaterRefA lang anon (rc :: rest) = (earlierStepA lang anon rc none).or (firstLaterRefA lang anon rest) := by
  rw [firstLaterRefA, earlierStepA, apply_ite (Option.or · _), apply_ite (Option.or · _)]
  rfl

theorem nsScanGA_later (e : Bool) (cct : Option NodeRef) (L : List RawChild)
    (h : ∀ rc ∈ L, self.endByte < rc.posAfter.bytes ∧ containsG e self rc = false) :
    nsScanGA lang self anon e L cct = (cct, firstLaterRefA lang anon L) := by
  induction L with
  | nil => rfl
  | cons rc rest ih =>
    have h0 := h rc List.mem_cons_self
    rw [nsScanGA_cons, if_neg (Nat.not_le.mpr h0.1), h0.2, if_neg Bool.false_ne_true,
      ih (fun r hr => h r (List.mem_cons_of_mem _ hr)), firstLaterRefA, apply_ite (Prod.mk cct), apply_ite (Prod.mk cct)]

theorem nsScanA_later (lang : Lang) (self : NodeRef) (anon : Bool) (cct : Option NodeRef) :
    ∀ (L : List RawChild), (∀ rc ∈ L, self.endByte < rc.posAfter.bytes ∧ self.endByte ≤ rc.node.startByte) →
    nsScanA lang self anon L cct = (cct, firstLaterRefA lang anon L) :=
  fun L h => nsScanGA_later _ cct L (fun rc hrc => ⟨(h rc hrc).1, containsT_eq self rc ▸ containsT_of_after self rc (h rc hrc).2⟩)

theorem firstLaterRefA_mem {L : List RawChild} {r : NodeRef} {b : Bool}
    (h : firstLaterRefA lang anon L = some (r, b)) : (∃ rc ∈ L, rc.node = r) ∧ (b = false → r.relChildCount anon > 0) := by
  induction L with
  | nil => exact nomatch h
  | cons rc rest ih =>
    rw [firstLaterRefA_cons, Option.or_eq_some_iff] at h
    rcases h with h | ⟨_, h⟩
    · have := earlierStepA_some h
      exact ⟨⟨rc, List.mem_cons_self, this.1⟩, this.2⟩
    · obtain ⟨⟨x, hx, hxr⟩, hb⟩ := ih h
      exact ⟨⟨x, List.mem_cons_of_mem _ hx, hxr⟩, hb⟩

theorem firstLaterRefA_go (lang : Lang) (anon : Bool) (n : NodeRef) (nk : Nat) : ∀ (kids : List Tree) (pos : Length) (si k : Nat),
    (firstLaterRefA lang anon (rawChildren.go lang n n.t.data.productionId nk kids pos si k)).map (fun r => (r.1.t, r.1.alias, r.2)) =
      (firstRelA lang anon n.t.data.productionId kids si).map (fun r => (r.1, alOf lang n.t.data.productionId r.2.1 r.1, r.2.2)) := by
  intro kids
  induction kids with
  | nil => intro _ _ _; rfl
  | cons c rest ih =>
    intro pos si k
    rw [go_getElem_zero, firstLaterRefA_cons, firstRelA_cons, Option.map_or, Option.map_or, ih]
    exact congrArg (Option.or · _) (earlierStepA_map _ _ si rfl)

/-- The body of the outer loop as a function of the scan's result (`nsGoA_succ`), as `psNextGA` for the backward search. -/
def nsNextA (lang : Lang) (self : NodeRef) (anon : Bool) (f : Nat) (later : Option (NodeRef × Bool)) :
    Option NodeRef → Option (NodeRef × Bool) → Option NodeRef
  | some c, laterChild => nsGoA lang self anon f (some c) (laterChild.or later)
  | none, some (lc, true) => some lc
  | none, some (lc, false) => nsGoA lang self anon f (some lc) later
  | none, none =>
    match later with
    | some (ln, true) => some ln
    | some (ln, false) => nsGoA lang self anon f (some ln) later
    | none => none

theorem nsGoA_succ {f : Nat} {node : NodeRef} {later : Option (NodeRef × Bool)}
    {cct : Option NodeRef} {lch : Option (NodeRef × Bool)} (h : nsScanA lang self anon (rawChildren lang node) none = (cct, lch)) :
    nsGoA lang self anon (f + 1) (some node) later = nsNextA lang self anon f later cct lch := by
  simp only [nsGoA, nextSiblingPort.go]
  simp only [nsScanA] at h
  rw [h]
  cases cct
  · rcases lch with _ | ⟨lc, _ | _⟩ <;> rfl
  · cases lch <;> rfl

/-- What a remembered later node stands for: itself if relevant, else the first of its children that count. -/
def resolveLaterA (lang : Lang) (anon : Bool) : Option (NodeRef × Bool) → Option (Tree × Nat)
  | none => none
  | some (ln, true) => some (ln.t, ln.alias)
  | some (ln, false) => (enumChildrenA lang anon ln.t).head?

/-- A remembered later node that is not relevant can be descended into (`nsA_descend`): summarized and parser-shaped, every raw
node inside ends after the end of `self` (`endsAfterL`), it starts at or after that end, it has children that count, and (named
flag) `anonLeafOK` holds below it. -/
def LaterGoodA (lang : Lang) (self : NodeRef) (anon : Bool) : Option (NodeRef × Bool) → Prop
  | some (ln, false) => (∃ ps, shapeOK ps ln.t = true) ∧ Summarized lang ln.t ∧
      endsAfterL self.endByte ln.t.kids ln.start.bytes true = true ∧ self.endByte ≤ ln.startByte ∧
      relevantChildCount ln.t anon > 0 ∧ AOK lang anon ln.t.kids ln.t.data.productionId 0
  | _ => True

theorem resolveLaterA_ne_none {l : NodeRef × Bool} (hg : LaterGoodA lang self anon (some l)) :
    resolveLaterA lang anon (some l) ≠ none := by
  rcases l with ⟨ln, _ | _⟩
  · obtain ⟨⟨ps, hsh⟩, hs, _, _, hv, _⟩ := hg
    exact fun h => (rcc_pos_iff lang anon ln.t ps hs hsh).mp hv (List.head?_eq_none_iff.mp h)
  · exact fun h => nomatch h

theorem resolveLaterA_or {l : Option (NodeRef × Bool)} (later : Option (NodeRef × Bool)) (hg : LaterGoodA lang self anon l) :
    resolveLaterA lang anon (l.or later) = (resolveLaterA lang anon l).or (resolveLaterA lang anon later) := by
  cases l with
  | none => rfl
  | some l => exact (or_of_ne_none _ _ (resolveLaterA_ne_none hg)).symm

theorem nsA_part (lang : Lang) (self n : NodeRef) (anon : Bool) (kids : List Tree) (pos : Length) (si k : Nat) (ps : Option Nat)
    (hs : SummarizedL lang kids) (hsh : shapeOKL ps kids = true)
    (hne : endsAfterL self.endByte kids pos.bytes (decide (k = 0)) = true) (hpos : self.endByte ≤ pos.bytes)
    (ha : AOK lang anon kids n.t.data.productionId si)
    (L : List RawChild) (hL : L = rawChildren.go lang n n.t.data.productionId n.t.kids.length kids pos si k) :
    (∀ r ∈ L, self.endByte < r.posAfter.bytes ∧ self.endByte ≤ r.node.startByte) ∧
    resolveLaterA lang anon (firstLaterRefA lang anon L) = ((enumKids lang n.t.data.productionId kids si).filter (keepA lang anon)).head? ∧
    LaterGoodA lang self anon (firstLaterRefA lang anon L) ∧
    (∀ lc b, firstLaterRefA lang anon L = some (lc, b) → lc.t ∈ kids) := by
  have hel : ∀ r ∈ L, (self.endByte < r.posAfter.bytes ∧ self.endByte ≤ r.node.startByte) ∧
      r.node.t ∈ kids ∧ endsAfterL self.endByte r.node.t.kids r.node.start.bytes true = true := by
    intro r hr
    obtain ⟨j, hj⟩ := List.mem_iff_getElem?.mp (hL ▸ hr)
    have he := go_elem lang _ _ _ _ _ _ _ j r hj
    have hga := go_after lang n _ _ self.endByte _ _ _ k hne j r hj
    exact ⟨⟨hga.1, Nat.le_trans hpos he.1⟩, List.mem_of_getElem? he.2.2, hga.2⟩
  refine ⟨fun r hr => (hel r hr).1, ?_, ?_, fun lc b hfl => ?_⟩
  · rw [enumKids_headA lang anon kids _ si ps hs hsh ha]
    exact resolve_of_map List.head? (hL ▸ firstLaterRefA_go lang anon n _ kids pos si k)
  · rcases hfl : firstLaterRefA lang anon L with _ | ⟨r, _ | _⟩
    · trivial
    · obtain ⟨⟨x, hx, rfl⟩, hpos⟩ := firstLaterRefA_mem hfl
      have hp := hel x hx
      exact ⟨⟨_, shapeOK_of_mem _ _ _ hsh hp.2.1⟩, summarized_of_mem lang _ _ hs hp.2.1, hp.2.2, hp.1.2, hpos rfl, aok_of_mem ha hp.2.1⟩
    · trivial
  · obtain ⟨⟨x, hx, rfl⟩, _⟩ := firstLaterRefA_mem hfl
    exact (hel x hx).2.1

theorem nsA_descend_good (later : Option (NodeRef × Bool)) {f : Nat} {lc : NodeRef}
    (hg : LaterGoodA lang self anon (some (lc, false))) (hf : lc.t.size ≤ f) :
    (nsGoA lang self anon f (some lc) later).map (fun r => (r.t, r.alias)) = (enumChildrenA lang anon lc.t).head? := by
  induction f generalizing lc with
  | zero => exact absurd (tree_size_pos lc.t) (by omega)
  | succ f ih =>
    obtain ⟨⟨ps, hsh⟩, hs, hne, hpos, hv, ha⟩ := hg
    obtain ⟨hall, hres, hgood, hmem⟩ := nsA_part lang self lc anon lc.t.kids lc.start 0 0 (some lc.t.data.symbol)
      (summarizedL_kids lang lc.t hs) (shapeOKL_kids ps lc.t hsh) hne hpos ha (rawChildren lang lc) rfl
    rw [nsGoA_succ (nsScanA_later lang self anon none (rawChildren lang lc) hall), enumChildrenA_eq, ← hres]
    rcases hfl : firstLaterRefA lang anon (rawChildren lang lc) with _ | ⟨r, _ | _⟩
    · rw [hfl] at hres
      exact absurd (List.head?_eq_none_iff.mp hres.symm) (enumChildrenA_eq lc.t ▸ (rcc_pos_iff lang anon lc.t ps hs hsh).mp hv)
    · have hm := sizeList_mem _ _ (hmem r false hfl)
      have hk := tree_size_kids lc.t
      exact ih (hfl ▸ hgood) (by omega)
    · rfl

theorem nsA_descend (lang : Lang) (self : NodeRef) (anon : Bool) (later : Option (NodeRef × Bool)) :
    ∀ (f : Nat) (lc : NodeRef) (ps : Option Nat), lc.t.size ≤ f → Summarized lang lc.t → shapeOK ps lc.t = true →
    endsAfterL self.endByte lc.t.kids lc.start.bytes true = true → self.endByte ≤ lc.startByte → relevantChildCount lc.t anon > 0 →
    AOK lang anon lc.t.kids lc.t.data.productionId 0 →
    (nsGoA lang self anon f (some lc) later).map (fun r => (r.t, r.alias)) = (enumChildrenA lang anon lc.t).head? :=
  fun _ _ ps hf hs hsh hne hpos hv ha => nsA_descend_good later ⟨⟨ps, hsh⟩, hs, hne, hpos, hv, ha⟩ hf

theorem nsNextA_none {f : Nat} {l later : Option (NodeRef × Bool)}
    (hl : LaterGoodA lang self anon l) (hlater : LaterGoodA lang self anon later) (hfl : laterNeed l ≤ f) (hfn : laterNeed later ≤ f) :
    (nsNextA lang self anon f later none l).map (fun r => (r.t, r.alias)) =
      (resolveLaterA lang anon l).or (resolveLaterA lang anon later) := by
  rcases l with _ | ⟨lc, _ | _⟩
  · rcases later with _ | ⟨ln, _ | _⟩
    · rfl
    · exact nsA_descend_good _ hlater hfn
    · rfl
  · rw [or_of_ne_none _ _ (resolveLaterA_ne_none hl)]
    exact nsA_descend_good later hl hfl
  · rfl

theorem aok_go_drop {n : NodeRef} {pid nk : Nat} {kids : List Tree} {pos : Length} {si k j : Nat} {rc : RawChild}
    (h : (rawChildren.go lang n pid nk kids pos si k)[j]? = some rc) (ha : AOK lang anon kids pid si) :
    AOK lang anon (kids.drop (j + 1)) pid (if rc.node.t.data.extra then rc.si else rc.si + 1) := by
  have := aok_drop lang anon kids pid si (j + 1) ha
  rwa [List.take_succ, (go_elem lang _ _ _ _ _ _ _ j rc h).2.2, siAfter_append, ← (go_si lang _ _ _ _ _ _ _ j rc h).1] at this

/-- One level of the outer loop: the scan over the children of `n` passes those before the path's
child `rc`, treats `rc` by the tests of the C scan, and over the children after `rc` finds `l`, which
stands for the first counted node of their enumeration and can be descended into within the fuel
left below `n`. -/
theorem nsA_at {n : NodeRef} {k : Nat} {rc : RawChild} {ps : Option Nat}
    (hk : (rawChildren lang n)[k]? = some rc) (hs : Summarized lang n.t) (hsh : shapeOK ps n.t = true)
    (hne : endsAfterL self.endByte (n.t.kids.drop (k + 1)) rc.posAfter.bytes false = true)
    (hst : rc.node.startByte ≤ self.endByte) (hend : self.endByte ≤ rc.posAfter.bytes)
    (ha : AOK lang anon n.t.kids n.t.data.productionId 0) :
    ∃ l, nsScanA lang self anon (rawChildren lang n) none =
        (if rc.posAfter.bytes ≤ self.endByte then (none, l)
         else if containsT self rc then (if samePtr rc.node self then none else some rc.node, l)
         else if rc.node.relevant lang anon then (none, some (rc.node, true))
         else if rc.node.relChildCount anon > 0 then (none, some (rc.node, false))
         else (none, l)) ∧
      resolveLaterA lang anon l = ((enumKids lang n.t.data.productionId (n.t.kids.drop (k + 1))
        (if rc.node.t.data.extra then rc.si else rc.si + 1)).filter (keepA lang anon)).head? ∧
      LaterGoodA lang self anon l ∧ rc.node.t.size + laterNeed l < n.t.size := by
  obtain ⟨hel, hres, hlg, hlmem⟩ := nsA_part lang self n anon (n.t.kids.drop (k + 1)) rc.posAfter
    (if rc.node.t.data.extra then rc.si else rc.si + 1) (rc.k + 1) (some n.t.data.symbol)
    (summarizedL_drop lang _ (k + 1) (summarizedL_kids lang n.t hs)) (shapeOKL_drop _ _ (k + 1) (shapeOKL_kids ps n.t hsh))
    hne hend (aok_go_drop hk ha) ((rawChildren lang n).drop (k + 1)) (go_drop lang n _ _ _ _ _ _ k rc hk)
  refine ⟨_, ?_, hres, hlg, ?_⟩
  · refine (nsScanGA_skip _ none k _ (fun i ri hi hri => Nat.le_trans (raw_ordered lang n i k ri rc hi hri hk).1 hst)).trans ?_
    show nsScanA lang self anon _ none = _
    rw [drop_eq_cons _ k rc hk, nsScanA_cons, nsScanA_later lang self anon none _ hel, nsScanA_later lang self anon _ _ hel]
  · have hkid := (go_elem lang _ _ _ _ _ _ _ k rc hk).2.2
    rw [tree_size_kids n.t, Nat.add_comm 1, Nat.lt_succ_iff]
    exact laterNeed_lt (List.mem_of_getElem? hkid) (fun lc hl => sizeList_two n.t.kids k rc.node.t lc.t hkid (hlmem lc false hl))

/-- `nsZwOKA` read at one level of the path: it holds below, and a proper ancestor `rc` that starts
where the EMPTY `self` lies and extends beyond it is not relevant; if the scan passes it over nothing
that counts follows `self` inside it, otherwise something does, or nothing that counts follows `rc`
at its own level. -/
theorem nsZwOKA_cons {n : NodeRef} {k k' : Nat} {rest' : List Nat} {rc : RawChild}
    (hk : (rawChildren lang n)[k]? = some rc) (h : nsZwOKA lang anon self n (k :: k' :: rest') = true) :
    nsZwOKA lang anon self rc.node (k' :: rest') = true ∧
    (rc.node.startByte = self.startByte → self.endByte < rc.posAfter.bytes → rc.node.relevant lang anon = false ∧
      (rc.node.relChildCount anon = 0 → (laterOnPath lang rc.node (k' :: rest')).filter (keepA lang anon) = []) ∧
      (0 < rc.node.relChildCount anon → (laterOnPath lang rc.node (k' :: rest')).filter (keepA lang anon) ≠ [] ∨
        (enumKids lang n.t.data.productionId (n.t.kids.drop (k + 1)) (if rc.node.t.data.extra then rc.si else rc.si + 1)).filter (keepA lang anon) = [])) := by
  unfold nsZwOKA at h
  rw [hk] at h
  have h' := Bool.and_eq_true_iff.mp h
  refine ⟨h'.2, fun hst hlt => ?_⟩
  have h1 := h'.1
  rw [if_pos (by rw [Bool.and_eq_true]; exact ⟨beq_iff_eq.mpr hst, decide_eq_true hlt⟩), Bool.and_eq_true, Bool.not_eq_true'] at h1
  refine ⟨h1.1, fun hm => ?_, fun hm => ?_⟩
  · have h2 := h1.2
    rw [if_pos (beq_iff_eq.mpr hm)] at h2
    exact List.isEmpty_iff.mp h2
  · have h2 := h1.2
    rw [if_neg (fun h0 => Nat.ne_of_gt hm (beq_iff_eq.mp h0)), Bool.or_eq_true, Bool.not_eq_true', List.isEmpty_iff] at h2
    exact h2.imp (fun hx h0 => by rw [h0] at hx; exact nomatch hx) id

/-- The outer loop of `ts_node__next_sibling(self, anon)` along the path `n ⟶ self`, any width.  Invariant: the answer is the first
counted node of `laterOnPath` from this level down, else what the remembered node `later` stands for (`resolveLaterA`); `later`
stays usable (`LaterGoodA`), and the fuel covers the node plus a remembered hidden candidate (`n.t.size + laterNeed later ≤ f`,
carried down by `fuel_below`: the path's child and the level's candidate are two different children, `sizeList_two`). -/
theorem nsA_levels (lang : Lang) (self : NodeRef) (anon : Bool) :
    ∀ (q : List Nat) (f : Nat) (n : NodeRef) (later : Option (NodeRef × Bool)) (ps : Option Nat), q ≠ [] →
    n.t.size + laterNeed later ≤ f → Summarized lang n.t → shapeOK ps n.t = true → nodeAt lang n q = some self →
    nsPathOK lang self n q = true → (self.startByte = self.endByte → nsZwOKA lang anon self n q = true) →
    AOK lang anon n.t.kids n.t.data.productionId 0 → LaterGoodA lang self anon later →
    (nsGoA lang self anon f (some n) later).map (fun r => (r.t, r.alias)) =
      (((laterOnPath lang n q).filter (keepA lang anon)).head?).or (resolveLaterA lang anon later) := by
  intro q
  induction q with
  | nil => intro _ _ _ _ h; exact absurd rfl h
  | cons k rest ih =>
    intro f n later ps _ hf hs hsh hat hok hzw ha hg
    obtain ⟨rc, hk, hat'⟩ := nodeAt_cons lang n self k rest hat
    have hn := raw_child_nested lang n (sized_of_summarized lang n.t hs) k rc hk
    have hd := nodeAt_nested lang rest rc.node self hn.2.2.2 hat'
    unfold nsPathOK at hok
    rw [hk, Bool.and_eq_true] at hok
    obtain ⟨l, hscan, hres, hlg, hsz⟩ := nsA_at hk hs hsh hok.1
      (Nat.le_trans hd.1 (Nat.le_add_right _ _)) (hn.2.2.1 ▸ hd.2.1) ha
    unfold laterOnPath
    rw [hk]
    dsimp only
    rw [List.filter_append, List.head?_append, Option.or_assoc, ← hres]
    obtain ⟨f, rfl, hfu, hfl, hfn⟩ := fuel_below hsz hf
    -- the common ending: nothing that counts follows `self` below `rc`, and the scan yields no containing child
    have hfinish : ∀ {X : List (Tree × Nat)}, X = [] → nsScanA lang self anon (rawChildren lang n) none = (none, l) →
        (nsGoA lang self anon (f + 1) (some n) later).map (fun r => (r.t, r.alias)) =
          X.head?.or ((resolveLaterA lang anon l).or (resolveLaterA lang anon later)) := by
      intro X hA hsc
      rw [nsGoA_succ hsc, hA]
      exact nsNextA_none hlg hg hfl hfn
    by_cases htight : rc.posAfter.bytes ≤ self.endByte
    · -- (a) the path's child ends where self ends: passed over, nothing follows self below it
      refine hfinish ?_ (by rw [hscan, if_pos htight])
      cases rest with
      | nil => rfl
      | cons k' rest' =>
        rw [laterOnPath_tight lang self (k' :: rest') rc.node hn.2.2.2 hat' (hn.2.2.1 ▸ htight) (Bool.and_eq_true_iff.mp hok.2).2]
        rfl
    · cases rest with
      | nil => exact absurd (by rw [hn.2.2.1, Option.some.inj hat']; exact Nat.le_refl _) htight
      | cons k' rest' =>
        have hok2 := Bool.and_eq_true_iff.mp hok.2
        obtain ⟨hsc, hshc, hac⟩ := child_ok hk hs hsh ha
        -- the search continues below `rc` with `later'` remembered
        have hdown := fun later' hg' hf' => ih f rc.node later' _ (List.cons_ne_nil _ _) hf' hsc hshc hat' hok2.2
          (fun he => (nsZwOKA_cons hk (hzw he)).1) hac hg'
        cases hct : containsT self rc with
        | true =>
          -- (b) the path's child contains the target
          rw [nsGoA_succ (hscan.trans (by rw [if_neg htight, hct, if_pos rfl, Eq.mp (Bool.not_eq_true' _) hok2.1, if_neg Bool.false_ne_true]))]
          show (nsGoA lang self anon f (some rc.node) (l.or later)).map _ = _
          rw [hdown _ (or_rec hlg hg) (or_rec (P := fun x => _ + laterNeed x ≤ _) hfu.1 hfu.2), resolveLaterA_or later hlg]
        | false =>
          -- (c) self is EMPTY and the path's child starts where it lies and extends beyond it
          obtain ⟨hemp, hst⟩ := empty_of_not_containsT self rc hct hd.1
          obtain ⟨hnrel, hzero, hpos⟩ := (nsZwOKA_cons hk (hzw hemp)).2 hst (Nat.lt_of_not_le htight)
          by_cases hrc0 : rc.node.relChildCount anon = 0
          · -- the scan passes the child over: nothing that counts follows self inside it
            refine hfinish (hzero hrc0) ?_
            rw [hscan, if_neg htight, hct, if_neg Bool.false_ne_true, hnrel, if_neg Bool.false_ne_true, hrc0, if_neg (Nat.lt_irrefl 0)]
          · -- the scan takes the child as the later child and the search goes on inside it
            rw [nsGoA_succ (hscan.trans (by rw [if_neg htight, hct, if_neg Bool.false_ne_true, hnrel, if_neg Bool.false_ne_true, if_pos (Nat.pos_of_ne_zero hrc0)]))]
            show (nsGoA lang self anon f (some rc.node) later).map _ = _
            rw [hdown later hg hfu.2]
            rcases hpos (Nat.pos_of_ne_zero hrc0) with hx | hx
            · have hnn : ((laterOnPath lang rc.node (k' :: rest')).filter (keepA lang anon)).head? ≠ none :=
                fun h0 => hx (List.head?_eq_none_iff.mp h0)
              rw [or_of_ne_none _ _ hnn, or_of_ne_none _ _ hnn]
            · rw [hres, hx]
              rfl

/-- `ts_node_next_sibling` (`anon = true`) and `ts_node_next_named_sibling`
(`anon = false`), for ANY `self` (empty or not): with `P` = what `ts_node_parent(self)` returns and `q` a
raw path `P ⟶ self`, under `nsPathOK` (no zero-width raw node follows at the end of `self`), for an
EMPTY `self` also `nsZwOKA`, and — for the named flag — `anonLeafOK` below `P`, the port returns the
FIRST element of `laterOnPath P q` that counts for the flag, null iff there is none.  (`hf`: the port starts its loop with
`fuel + 1`.) -/
theorem next_sibling_spec_anon (lang : Lang) (fuel : Nat) (root self P : NodeRef) (q : List Nat) (ps : Option Nat) (anon : Bool)
    (hpar : nodeParent lang fuel root self = some P) (hq : q ≠ []) (hf : P.t.size ≤ fuel + 1)
    (hs : Summarized lang P.t) (hsh : shapeOK ps P.t = true) (hat : nodeAt lang P q = some self)
    (hok : nsPathOK lang self P q = true) (hzw : self.startByte = self.endByte → nsZwOKA lang anon self P q = true)
    (ha : anon = true ∨ anonLeafOKKids lang P.t.kids P.t.data.productionId 0 = true) :
    (nextSiblingPort lang fuel root self anon).map (fun r => (r.t, r.alias)) =
      ((laterOnPath lang P q).filter (keepA lang anon)).head? := by
  unfold nextSiblingPort
  simp only [hpar]
  have := nsA_levels lang self anon q (fuel + 1) P none ps hq (by simp only [laterNeed]; omega) hs hsh hat hok hzw ha trivial
  simpa [resolveLaterA] using this

end TsVerif.C06
