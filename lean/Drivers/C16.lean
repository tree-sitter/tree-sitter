import Lean.Data.Json
import Std.Data.HashMap
import TsVerif.Common.IO
import TsVerif.Common.Tree
import TsVerif.C16.Judge
import TsVerif.C16.NodeTypes
import TsVerif.C16.Names
import TsVerif.C16.DeriveExec
import TsVerif.C16.Inline
import TsVerif.C16.DriverTie
/-!
Driver for C16.  Input = explorer ops (spec / nodetypes / Rust-API answers) followed by the output of
the C unit (table dumps, answers of the real C functions, real parse trees).  Output: one line per
language `L-<id> …` and one per tree `<case> …`.
-/
open TsVerif TsVerif.C16 Lean

def strOfHex (h : String) : String :=
  if h == "-" then "" else
  let bytes := (unhexBytes h).map (fun n => UInt8.ofNat n)
  match String.fromUTF8? (ByteArray.mk bytes.toArray) with
  | some s => s
  | none => "�" ++ h

def bytesOfHex (h : String) : List Nat := if h == "-" then [] else unhexBytes h

def nats (ws : List String) : Array Nat := (ws.map natOf).toArray

/-- "a:b:c" → [a,b,c] -/
def colon (w : String) : List Nat := (w.splitOn ":").map natOf

-- node-types.json → NodeTypes -------------------------------------------------------------------

def jStr (j : Json) (k : String) : String := ((j.getObjVal? k).toOption.bind (·.getStr?.toOption)).getD ""
def jBool (j : Json) (k : String) : Bool := ((j.getObjVal? k).toOption.bind (·.getBool?.toOption)).getD false
def jArr (j : Json) (k : String) : Option (Array Json) := (j.getObjVal? k).toOption.bind (·.getArr?.toOption)

def typeRefOf (j : Json) : TypeRef := { kind := jStr j "type", named := jBool j "named" }
def specOf (j : Json) : ChildSpec :=
  { required := jBool j "required", multiple := jBool j "multiple",
    types := ((jArr j "types").getD #[]).toList.map typeRefOf }

def entryOf (j : Json) : Entry :=
  let fields : List (String × ChildSpec) := match (j.getObjVal? "fields").toOption with
    | some (.obj kvs) => kvs.foldl (fun acc k v => acc ++ [(k, specOf v)]) []
    | _ => []
  { ty := typeRefOf j, fields := fields,
    children := (j.getObjVal? "children").toOption.map specOf,
    subtypes := (jArr j "subtypes").map (fun a => a.toList.map typeRefOf),
    extra := jBool j "extra", root := jBool j "root" }

def parseNodeTypes (text : String) : Option NodeTypes :=
  match Json.parse text with
  | .ok (.arr xs) => some (xs.toList.map entryOf)
  | _ => none

-- state ------------------------------------------------------------------------------------------

structure LangInfo where
  L : Lang := default
  aliasCount : Nat := 0
  fieldCount : Nat := 0
  smallLen : Nat := 0
  nt : Option NodeTypes := none
  rla : Array (List Nat) := #[]
  rrt : Array (Nat × Bool × Bool × Bool × Nat × List Nat) := #[]   -- id vis named sup back name
  rfld : Array (Nat × Nat) := #[]
  rout : String := ""
  nz : Array (List (Nat × Nat)) := #[]
  la : Array (List Yield) := #[]
  laEnd : Array Nat := #[]
  syms : Array (SymInfo × Nat) := #[]       -- with the real symbol_for_name answer
  probes : Array (Bool × List Nat × Nat) := #[]
  flds : Array (List Nat × Nat) := #[]      -- name, real field_id_for_name answer
  sups : Array (Nat × List Nat) := #[]      -- supertype symbol, runtime subtypes (ts_language_subtypes)
  names : Array (List Nat) := #[]
  gsyms : Array (Bool × Nat × Char × String) := #[]          -- is_rule, var, visibility, name
  gprods : Array (Nat × List Derive.Step) := #[]             -- (var, production)
  groots : List Nat := []
  reds : Array (Nat × Nat × List (Nat × Nat)) := #[]        -- reduce actions: symbol, child count, own fields (child index, field id)
  pas : Array (Nat × List C03.Action) := #[]                  -- action index ↦ decoded actions
  lexModes : Array Nat := #[]
  ginl : List Nat := []
  gextra : List Nat := []
  gorig : Nat := 0
  gskip : String := ""
  deriving Inhabited

structure Flat where
  depth : Nat
  ty : TypeRef
  extra : Bool
  fields : List String

structure St where
  langs : Std.HashMap String LangInfo := {}
  cur : String := ""
  exact : Bool := false
  -- current tree
  tcase : String := ""
  tlang : String := ""
  flat : Array Flat := #[]
  accs : List (Nat × Nat × Nat) := []
  accn : Array (Nat × List Nat) := #[]

def St.upd (s : St) (id : String) (f : LangInfo → LangInfo) : St :=
  { s with langs := s.langs.insert id (f (s.langs.getD id {})) }

partial def buildKids (xs : Array Flat) (i depth : Nat) (acc : Array VT) : Array VT × Nat :=
  if h : i < xs.size then
    let x := xs[i]
    if x.depth == depth then
      let (kids, j) := buildKids xs (i + 1) (depth + 1) #[]
      buildKids xs j depth (acc.push (.node x.ty x.extra x.fields kids.toList))
    else (acc, i)
  else (acc, i)

def firstFail {α} (xs : List α) (f : α → Option String) : Option String :=
  xs.findSome? f

def showName (bs : List Nat) : String := strOfHex (String.join (bs.map (fun b => (String.singleton (Nat.digitChar (b / 16))) ++ String.singleton (Nat.digitChar (b % 16)))))

/-- `Closed` on real data: G = the grammar's productions (flattened by the explorer), I = the real
node-types.json for every visible rule (type lists expanded through `subtypes`) + the least
information of the hidden rules.  Returns "ok …", "FAIL …" or "SKIP …". -/
def evalModelClosed (li : LangInfo) : String :=
  if li.gskip != "" then s!"SKIP {li.gskip}" else
  match li.nt with
  | none => "SKIP no-node-types"
  | some nt =>
    if li.gsyms.isEmpty then "SKIP no-productions" else
    let tyOf (vis : Char) (name : String) : Option TypeRef :=
      if vis == 'n' then some ⟨name, true⟩ else if vis == 'a' then some ⟨name, false⟩ else none
    let syms : List Derive.SymKind := li.gsyms.toList.map (fun (isRule, var, vis, name) =>
      if isRule then .rule var (tyOf vis name) else .token (tyOf vis name))
    let nvars := (li.gsyms.toList.filter (·.1)).length
    let prods : List (List (List Derive.Step)) := (List.range nvars).map (fun v =>
      (li.gprods.toList.filter (·.1 == v)).map (·.2))
    let G0 : Derive.Grammar := { syms := syms, prods := prods }
    -- process_inlines: substitution rounds of the Lean model (theorem `inline_round`) until no reference is left
    match Derive.inlineRounds li.ginl 20000 6 G0 with
    | none => "SKIP inlining-too-large-or-recursive"
    | some G =>
    let varSyms := li.gsyms.toList.filter (·.1)
    let expand (ts : List TypeRef) : List TypeRef := (closure nt (closureFuel nt) ts).getD ts
    -- every anonymous kind of the grammar (anonymous children without a field are not described by the file)
    let anon : List TypeRef := (li.gsyms.toList.filterMap (fun (_, _, vis, name) => if vis == 'a' then some (⟨name, false⟩ : TypeRef) else none)) ++
      (li.gprods.toList.flatMap (fun (_, p) => p.filterMap (fun s => match s.alias with | some a => if a.named then none else some a | none => none)))
    let hidden : List Nat := (List.range nvars).filter (fun v => match varSyms[v]? with | some (_, _, vis, _) => vis == 'h' | none => true)
    let init : Derive.InfoF := (List.range nvars).map (fun v =>
      match varSyms[v]? with
      | some (_, _, vis, name) =>
        if vis == 'h' then { childMin := 2, plainMin := 2, fields := (Derive.fieldUniverse G []).eraseDups.map (fun f => (f, [], 0, 2)) } else
        match nt.find? (fun e => e.ty == (⟨name, vis == 'n'⟩ : TypeRef)) with
        | none => {}
        | some e =>
          let fields := e.fields.map (fun (f, sp) => (f, expand sp.types, (if sp.multiple then 2 else 1), (if sp.required then 1 else 0)))
          let plain := match e.children with | some sp => expand sp.types | none => []
          { children := (fields.flatMap (·.2.1)) ++ plain ++ anon, childMax := 2, childMin := 0, fields := fields,
            plain := plain,
            plainMax := (match e.children with | some sp => if sp.multiple then 2 else 1 | none => 0),
            plainMin := (match e.children with | some sp => if sp.required then 1 else 0 | none => 0) }
      | none => {})
    let F := Derive.fieldUniverse G init
    let I := Derive.iterate G F hidden (4 * nvars + 16) init
    -- only the variables the file has to describe (start rule, extras, referenced ones) and the hidden ones are checked
    let checked : List Nat := (List.range nvars).filter (fun v => li.groots.contains v)
    let Gc : Derive.Grammar := { G with prods := (List.range nvars).map (fun v => if checked.contains v then G.prodsOf v else []) }
    -- extras: every visible extra of the grammar is marked `extra: true` in the file
    let extraBad := li.gextra.findSome? (fun sid => match li.gsyms[sid]? with
      | some (_, _, vis, name) => match tyOf vis name with
        | some ty => if nt.any (fun e => e.ty == ty && e.extra) then none else some name
        | none => none
      | none => none)
    -- correspondence of the flattened + inlined productions with the REAL ones: for every named rule the set of
    -- (child count, own field by child index) of its model productions = that of the real reduce actions
    let insertSorted (x : Nat × String) (l : List (Nat × String)) : List (Nat × String) :=
      let (a, b) := l.span (fun y => y.1 < x.1 || (y.1 == x.1 && y.2 < x.2)); a ++ x :: b
    let sortF (l : List (Nat × String)) : List (Nat × String) := l.foldr insertSorted []
    let fieldName (fid : Nat) : String := match li.flds[fid - 1]? with | some (bs, _) => showName bs | none => s!"?{fid}"
    let shapeBad := (List.range nvars).findSome? (fun v => match varSyms[v]? with
      | some (_, _, vis, name) =>
        if vis != 'n' || v ≥ li.gorig || li.ginl.contains v then none else
        -- the non-terminal symbol with the rule's name; when a default alias publishes ANOTHER rule under the same name
        -- (two candidates) the rule is not compared
        let cands := (List.range li.L.symbolCount).filter (fun i => i ≥ li.L.tokenCount && (match li.syms[i]? with
          | some (si, _) => si.named && si.visible && showName si.name == name | none => false))
        let ids := if cands.length == 1 then cands else []
        let real := (li.reds.toList.filter (fun (sy, _, _) => ids.contains sy)).map (fun (_, cc, fs) => (cc, sortF (fs.map (fun (i, fid) => (i, fieldName fid)))))
        let model := (G.prodsOf v).map (fun p => (p.length, sortF (p.zipIdx.filterMap (fun (st, i) => st.field.map (fun f => (i, f))))))
        if ids.isEmpty then none else
        match real.find? (fun r => !model.contains r) with
        | some r => some s!"{name}/real-production-not-in-model:{r.1}:{r.2.map (fun (i, f) => s!"{i}.{f}")}"
        | none => match model.find? (fun m => !real.contains m) with
          | some m => some s!"{name}/model-production-not-real:{m.1}:{m.2.map (fun (i, f) => s!"{i}.{f}")}"
          | none => none
      | none => none)
    let shapeVars := ((List.range nvars).filter (fun v => match varSyms[v]? with
      | some (_, _, vis, name) => vis == 'n' && v < li.gorig && !li.ginl.contains v &&
          ((List.range li.L.symbolCount).filter (fun i => i ≥ li.L.tokenCount && (match li.syms[i]? with
            | some (si, _) => si.named && si.visible && showName si.name == name | none => false))).length == 1
      | none => false)).length
    -- every kind the (inlined) productions of a described rule can show is a kind of the language's symbol table
    let kindBad : Option TypeRef := checked.findSome? (fun v => (G.prodsOf v).findSome? (fun p => p.findSome? (fun st =>
      match Derive.visTy G st with
      | some ty => if li.syms.any (fun (si, _) => si.visible && si.named == ty.named && showName si.name == ty.kind) then none else some ty
      | none => none)))
    match kindBad with
    | some ty => s!"FAIL var={ty.kind.replace " " "_"}/derivable-kind-without-symbol prod=0"
    | none =>
    match shapeBad with
    | some what => s!"FAIL var={what.replace " " ""} prod=shape"
    | none =>
    match extraBad with
    | some name => s!"FAIL var={name}/extra-flag prod=0"
    | none =>
    if Derive.closedB Gc I then s!"ok vars={nvars} hidden={hidden.length} prods={li.gprods.size} inlined={li.ginl.length} prods_after={G.prods.foldl (fun a ps => a + ps.length) 0} extras={li.gextra.length} reds={li.reds.size} shapevars={shapeVars}"
    else match Derive.firstOpen Gc I with
      | some (v, i) =>
        let name := match varSyms[v]? with | some (_, _, vis, name) => s!"{name}/{vis}" | none => "?"
        s!"FAIL var={name} prod={i}"
      | none => "FAIL"

/-- language-level evaluation, printed at `endlang` -/
def evalLang (exact : Bool) (id : String) (li : LangInfo) : String :=
  let L := li.L
  let wf := tableWF L
  let states := List.range L.stateCount
  -- correspondence: ports vs real functions, all states
  let corrLa := firstFail states (fun s =>
    if modelYields L s == li.la.getD s [] then none else some s!"state={s}")
  let corrLookup := firstFail states (fun s =>
    if modelNonzero L s == li.nz.getD s [] then none else some s!"state={s}")
  -- judge on the real outputs
  let judgeLa := firstFail states (fun s =>
    if !judgeLookahead (li.la.getD s []) (li.nz.getD s []) then some s!"iterator-vs-table state={s}"
    else if li.laEnd.getD s 1 != 0 then some s!"iterator-restarts state={s}"
    else if (li.rla.getD s []) != (li.la.getD s []).map (·.1) then some s!"rust-iterator state={s}"
    else none)
  -- how the real function treats proper prefixes of "ERROR" is observed, not read off the source:
  -- the probe `ER` (named) answers 65535 exactly when the comparison is by prefix
  let exact := exact || !(li.probes.any (fun (named, name, r) => named && name == [69, 82] && r == errorSym))
  let T : SymTab := { exactError := exact, syms := li.syms.toList.map (·.1), fieldNames := li.flds.toList.map (·.1) }
  let corrNames :=
    (firstFail li.syms.toList (fun (si, real) =>
      if symbolForName T si.name si.named == real then none else some s!"symbol_for_name {showName si.name}")).orElse fun _ =>
    (firstFail li.probes.toList (fun (named, name, real) =>
      if symbolForName T name named == real then none else some s!"probe {showName name}")).orElse fun _ =>
    (firstFail li.flds.toList (fun (name, real) =>
      if fieldIdForName T name == real then none else some s!"field_id_for_name {showName name}"))
  let judgeNames :=
    (firstFail li.syms.toList (fun (si, real) =>
      if si.hasKind && real != si.pub && !(si.named && isErrorPrefix si.name && real == errorSym && !exact) then
        some s!"symbol-roundtrip kind={showName si.name} named={si.named} got={real} want={si.pub}" else none)).orElse fun _ =>
    (firstFail li.syms.toList (fun (si, real) =>
      if si.hasKind && real != si.pub then some s!"symbol-roundtrip-error-prefix kind={showName si.name} named={si.named} got={real} want={si.pub}" else none)).orElse fun _ =>
    (if pubConsistent T then none else some "public-symbol-map-inconsistent").orElse fun _ =>
    (if decide T.fieldNames.Nodup then none else some "duplicate-field-name").orElse fun _ =>
    (firstFail (List.range li.flds.size) (fun i =>
      if (li.flds.getD i ([], 0)).2 == i + 1 then none else some s!"field-roundtrip id={i + 1}")).orElse fun _ =>
    (firstFail li.rrt.toList (fun (k, vis, _named, sup, back, name) =>
      let si := (li.syms.getD k (default, 0)).1
      if (vis || sup) && back != si.pub && !(isErrorPrefix name && back == errorSym) then some s!"rust-kind-roundtrip id={k} kind={showName name} got={back} want={si.pub}"
      else if name != si.name then some s!"rust-kind-name id={k}" else none)).orElse fun _ =>
    (firstFail li.rfld.toList (fun (f, back) => if f == back then none else some s!"rust-field-roundtrip id={f}")).orElse fun _ =>
    (if li.rout == "0 0" || li.rout == "" then none else some s!"out-of-range-id-has-name {li.rout}")
  let refOf (sym : Nat) : TypeRef :=
    let si := (li.syms.getD sym (default, 0)).1
    { kind := showName si.name, named := si.named }
  let judgeSup := match li.nt with
    | none => none
    | some nt => firstFail li.sups.toList (fun (sym, subs) =>
        if subtypesAgree nt (refOf sym) (subs.map refOf) then none else some s!"subtypes-of {(refOf sym).kind}")
  -- the decoded table the C03 driver reads (cells: real ts_language_lookup values, action lists: real parse_actions)
  let paSize := li.pas.foldl (fun m (i, _) => max m (i + 1)) 0
  let paArr : Array (List C03.Action) := li.pas.foldl (fun a (i, as) => a.set! i as) (Array.replicate paSize [])
  let actRows : Array (List (Nat × List C03.Action)) := states.toArray.map (fun s => ((li.nz.getD s []).filter (fun (sym, _) => sym < L.tokenCount)).map (fun (sym, v) => (sym, paArr.getD v [])))
  let tbl : C03.Table := { symbolCount := L.symbolCount, tokenCount := L.tokenCount, stateCount := L.stateCount, lexState := li.lexModes, acts := actRows }
  let judgeActs : Option String :=
    if li.pas.isEmpty then some "no-action-dump"
    else if !actsAgree L tbl then some "decoded-cell-without-raw-entry"
    else if !cellsHaveActions L tbl then some "listed-terminal-without-actions"
    else none
  let actCells := (tbl.acts.toList.map List.length).foldl (· + ·) 0
  -- ts_language_symbol_type (through the Rust binding's three questions) vs the port on the dumped metadata
  let corrSymType := firstFail li.rrt.toList (fun (k, vis, named, sup, _, _) =>
    if kindFlags (li.syms.getD k (default, 0)).1 == (vis, named, sup) then none else some s!"symbol_type id={k}")
  -- every kind a node can carry has an entry in node-types.json, and every entry is such a kind
  let bytesOf (x : String) : List Nat := x.toUTF8.toList.map (·.toNat)
  let inlinedNames : List (List Nat) := li.ginl.filterMap (fun v => ((li.gsyms.toList.filter (·.1))[v]?).map (fun (_, _, _, name) => bytesOf name))
  let judgeListed : Option String := match li.nt with
    | none => none
    | some nt =>
      let entries := nt.map (fun e => (bytesOf e.ty.kind, e.ty.named, e.subtypes.isSome))
      if kindsListed T inlinedNames entries then none else
        match T.syms.find? (fun sy => sy.visible && !inlinedNames.contains sy.name && !entries.any (fun e => e.1 == sy.name && e.2.1 == sy.named && !e.2.2)) with
        | some sy => some s!"kind-without-entry kind={showName sy.name} named={sy.named}"
        | none => some "supertype-without-entry"
  let spurious := match li.nt with
    | some nt => (spuriousEntries T (nt.map (fun (e : Entry) => (bytesOf e.ty.kind, e.ty.named, e.subtypes.isSome)))).length
    | none => 0
  let modelNames := namesRoundTrip T
  let ntwf := match li.nt with | some nt => if ntWF nt then "ok" else "FAIL" | none => "MISSING"
  let r (o : Option String) := match o with | none => "ok" | some m => "FAIL " ++ m
  let total := (li.la.toList.map List.length).foldl (· + ·) 0
  s!"L-{id} tablewf={if wf then "ok" else "FAIL"} corr_la={r corrLa} corr_lookup={r corrLookup} corr_names={r corrNames} " ++
  s!"model_closed={evalModelClosed li} " ++
  s!"judge_la={r judgeLa} judge_names={r judgeNames} judge_sup={r judgeSup} judge_listed={r judgeListed} spurious_entries={spurious} corr_symtype={r corrSymType} judge_acts={r judgeActs} actcells={actCells} supertypes={li.sups.size} model_names={modelNames} ntwf={ntwf} states={L.stateCount} large={L.largeStateCount} " ++
  s!"symbols={L.symbolCount} aliases={li.aliasCount} fields={li.fieldCount} listed={total} entries={(li.nt.getD []).length}"

def viaSuper (nt : NodeTypes) : VT → Nat
  | .node ty _ _ kids =>
    match nt.find? (fun e => e.ty == ty) with
    | none => 0
    | some e => (kids.filter (fun k => !k.extra && (
        k.fields.any (fun f => (e.fields.any (fun fs => fs.1 == f && !fs.2.types.contains k.ty))) ||
        (k.fields.isEmpty && k.ty.named && (match e.children with | some sp => !sp.types.contains k.ty | none => false))))).length

partial def sumTree (f : VT → Nat) : VT → Nat
  | .node ty e fl kids => f (.node ty e fl kids) + (kids.map (sumTree f)).foldl (· + ·) 0

def evalTree (s : St) (stats : String) : String :=
  match s.langs.get? s.tlang with
  | none => s!"{s.tcase} judge=NOLANG"
  | some li =>
    let (roots, _) := buildKids s.flat 0 0 #[]
    match roots.toList, li.nt with
    | [root], some nt =>
      let ok := checkConforms nt root
      let j := if ok then "ok" else match firstBad nt [] root with
        | some (path, ty) =>
          let reason := if nt.any (fun e => e.ty == ty) then "entry-mismatch" else "unlisted-type"
          s!"FAIL node-types reason={reason} type={ty.kind} tnamed={ty.named} path={path}"
        | none => "FAIL node-types"
      let acc1 := firstFail s.accs (fun (st, sym, leaf) =>
        if listed li.la st sym then none else some s!"state={st} sym={sym} leaf={leaf}")
      let acc2 := firstFail s.accn.toList (fun (st, name) =>
        if listedName li.la li.names st name then none else some s!"state={st} name={showName name}")
      let acc := match acc1.orElse (fun _ => acc2) with | none => "ok" | some m => "FAIL not-listed " ++ m
      let vs := sumTree (viaSuper nt) root
      let j := if j != "ok" then j
        else if !rootMarked nt root then s!"FAIL node-types reason=root-not-marked type={root.ty.kind} tnamed={root.ty.named} path=[]"
        else match extraUnmarked nt root with
          | some ty => s!"FAIL node-types reason=extra-not-marked type={ty.kind} tnamed={ty.named} path=[]"
          | none => "ok"
      s!"{s.tcase} judge={j} acc={acc} accpairs={s.accs.length + s.accn.size} viasuper={vs} {stats}"
    | _, none => s!"{s.tcase} judge=NONODETYPES"
    | _, _ => s!"{s.tcase} judge=BADTREE"

def step (s : St) (line : String) : IO St := do
  let ws := line.splitOn " "
  match ws with
  | ["cfg", "errormode", m] => return { s with exact := m == "exact" }
  | ["gsym", id, _, kind, var, vis, name] =>
    return s.upd id (fun li => { li with gsyms := li.gsyms.push (kind == "R", natOf var, vis.toList.headD 'h', strOfHex name) })
  | ["gprod", id, var, steps] =>
    let ps : List Derive.Step := if steps == "-" then [] else (steps.splitOn ";").map (fun w => match w.splitOn "," with
      | [sy, f, ak, an] => { sym := natOf sy, field := (if f == "-" then none else some (strOfHex f)),
                             alias := (if ak == "-" then none else some ⟨strOfHex an, ak == "n"⟩) }
      | _ => default)
    return s.upd id (fun li => { li with gprods := li.gprods.push (natOf var, ps) })
  | ["gend", id, roots] => return s.upd id (fun li => { li with groots := (roots.splitOn ",").map natOf })
  | ["ginl", id, vs] => return s.upd id (fun li => { li with ginl := if vs == "-" then [] else (vs.splitOn ",").map natOf })
  | ["gorig", id, n] => return s.upd id (fun li => { li with gorig := natOf n })
  | ["gextra", id, vs] => return s.upd id (fun li => { li with gextra := if vs == "-" then [] else (vs.splitOn ",").map natOf })
  | ["gskip", id, why] => return s.upd id (fun li => { li with gskip := why })
  | ["nodetypes", id, h] =>
    return s.upd id (fun li => { li with nt := parseNodeTypes (strOfHex h) })
  | ["rla", id, st, syms] =>
    let l := if syms == "-" then [] else (syms.splitOn ",").map natOf
    return s.upd id (fun li => { li with rla := (li.rla.setIfInBounds (natOf st) l |> fun a => if a.size ≤ natOf st then a.push l else a) })
  | ["rrt", id, k, vis, named, sup, back, name] =>
    return s.upd id (fun li => { li with rrt := li.rrt.push (natOf k, vis == "1", named == "1", sup == "1", natOf back, bytesOfHex name) })
  | ["rfld", id, f, back, _] => return s.upd id (fun li => { li with rfld := li.rfld.push (natOf f, natOf back) })
  | ["rout", id, a, b] => return s.upd id (fun li => { li with rout := a ++ " " ++ b })
  | ["lang", id, sc, ac, tc, stc, lsc, fc, sl, _kct] =>
    let lang : Lang := { symbolCount := natOf sc, tokenCount := natOf tc, stateCount := natOf stc, largeStateCount := natOf lsc, parseTable := #[], smallTable := #[], smallMap := #[], actionCounts := #[] }
    let s := s.upd id (fun li => { li with aliasCount := natOf ac, fieldCount := natOf fc, smallLen := natOf sl, L := lang })
    return { s with cur := id }
  | "pt" :: rest => return s.upd s.cur (fun li => { li with L := { li.L with parseTable := nats rest } })
  | "spt" :: rest => return s.upd s.cur (fun li => { li with L := { li.L with smallTable := nats rest } })
  | "spm" :: rest => return s.upd s.cur (fun li => { li with L := { li.L with smallMap := nats rest } })
  | "ac" :: rest => return s.upd s.cur (fun li => { li with L := { li.L with actionCounts := nats rest } })
  | "nz" :: _ :: rest =>
    let l := rest.map (fun w => match colon w with | [a, b] => (a, b) | _ => (0, 0))
    return s.upd s.cur (fun li => { li with nz := li.nz.push l })
  | "la" :: _ :: rest =>
    let ys : List Yield := (rest.filter (fun w => !w.startsWith "end:")).map (fun w => match colon w with | [a, b, c, d] => (a, b, c, d) | _ => (0, 0, 0, 0))
    let e := match rest.find? (fun w => w.startsWith "end:") with | some w => natOf (w.drop 4).toString | none => 1
    return s.upd s.cur (fun li => { li with la := li.la.push ys, laEnd := li.laEnd.push e })
  | ["sym", _, vis, named, sup, pub, name, sfn] =>
    let nm := if name == "?" then [] else bytesOfHex name
    return s.upd s.cur (fun li => { li with
      syms := li.syms.push ({ name := nm, visible := vis == "1", named := named == "1", supertype := sup == "1", pub := natOf pub }, natOf sfn),
      names := li.names.push nm })
  | ["probe", named, name, r] => return s.upd s.cur (fun li => { li with probes := li.probes.push (named == "1", bytesOfHex name, natOf r) })
  | ["sup", sym, subs] =>
    let l := if subs == "-" then [] else (subs.splitOn ",").map natOf
    return s.upd s.cur (fun li => { li with sups := li.sups.push (natOf sym, l) })
  | "pa" :: idx :: rest => return s.upd s.cur (fun li => { li with pas := li.pas.push (natOf idx, rest.filterMap C03.parseAction) })
  | "lm" :: rest => return s.upd s.cur (fun li => { li with lexModes := (rest.map natOf).toArray })
  | "red" :: sym :: cc :: _ :: "f" :: rest =>
    let fs := (rest.takeWhile (· != "a")).map (fun w => match colon w with | [a, b] => (a, b) | _ => (0, 0))
    return s.upd s.cur (fun li => { li with reds := li.reds.push (natOf sym, natOf cc, fs) })
  | ["fld", _, name, r] => return s.upd s.cur (fun li => { li with flds := li.flds.push (bytesOfHex name, natOf r) })
  | ["endlang", id] =>
    IO.println (evalLang s.exact id (s.langs.getD id {}))
    return s
  | "tree" :: cid :: lang :: status :: _ =>
    if status != "ok" then IO.println s!"{cid} skipped={status}"
    return { s with tcase := cid, tlang := lang, flat := #[], accs := [], accn := #[] }
  | ["v", depth, _sym, named, extra, kind, fields] =>
    let fl := if fields == "-" then [] else (fields.splitOn ",").map strOfHex
    return { s with flat := s.flat.push { depth := natOf depth, ty := { kind := strOfHex kind, named := named == "1" }, extra := extra == "1", fields := fl } }
  | "accs" :: rest =>
    return { s with accs := rest.filterMap (fun w => match colon w with | [a, b, c] => some (a, b, c) | _ => none) }
  | ["accn", st, name] => return { s with accn := s.accn.push (natOf st, bytesOfHex name) }
  | "endtree" :: _ :: stats =>
    IO.println (evalTree s (" ".intercalate stats))
    return { s with flat := #[], accs := [], accn := #[] }
  | _ => return s

def main : IO Unit := do
  let _ ← foldLines (← IO.getStdin) ({} : St) step
