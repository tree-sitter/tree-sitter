import Std.Data.HashMap
import TsVerif.Common.IO
import TsVerif.C12.Judge
import TsVerif.C12.Shape
/-!
Driver for C12.  Input: `thr <lang> <size> <lexed_ppm> <bytes_ppm> <fresh_ppm> <freshvis_ppm>` lines, then cases
(measurements of the real runtime + dumps before the edit / after `ts_tree_edit` / after the
re-parse), then `finish`.  Output per case

`<id> judge=<ok|FAIL msg> marks=<ok|skipped|FAIL msg> lexed_ppm=.. bytes_ppm=.. fresh_ppm=.. tokens=.. nodes=.. heap=.. shared=.. marked=.. depth=..`

and per (language, edit position) one line `growth-<lang>-<where> judge=<ok|FAIL msg> …`.
-/
open TsVerif TsVerif.C12 TsGen

structure St where
  thr : Std.HashMap (String × Nat) Thresholds := {}
  series : Std.HashMap (String × String) (Array (Nat × Measured)) := {}
  keys : Array (String × String) := #[]
  noGrowth : Array String := #[]
  mode : Nat := 0
  id : String := ""
  lang : String := ""
  size : Nat := 0
  wher : String := ""
  start : Nat := 0
  oldEnd : Nat := 0
  newEnd : Nat := 0
  meas : Std.HashMap String Nat := {}
  before : Array String := #[]
  edited : Array String := #[]
  new : Array String := #[]

def runCase (s : St) : String × Option Measured :=
  match parseDump s.edited.toList, parseDump s.new.toList with
  | some ed, some nw =>
    let g := fun k => (s.meas.get? k).getD 0
    let sh := shareStats ed.root nw.root
    let m : Measured := { lexedPpm := ppm (g "lexed") (g "tokens"), bytesPpm := ppm (g "bytes_served") (g "doc_bytes")
                          freshPpm := ppm (sh.heap - sh.shared) sh.heap
                          freshVisPpm := ppm (sh.visHeap - sh.visShared) sh.visHeap }
    let (marks, mk) := match parseDump s.before.toList with
      | some bf =>
        let r := marksOk s.start s.oldEnd bf.root ed.root
        ((match r.fail with | none => "ok" | some msg => "FAIL " ++ msg), r)
      | none => ("skipped", ({} : Marks))
    -- the global marking bound of `marked_total_bound_partial`, its hypotheses evaluated on the real tree
    let (glob, globS) := match parseDump s.before.toList with
      | some bf =>
        let t := bf.root
        let h := height t
        let w := s.oldEnd - s.start
        let reach := reachTotal t s.start s.oldEnd h
        let bound := (h + 1) * (w + maxLa t + 2) + zerosTotal t h
        let r := (marksOk s.start s.oldEnd bf.root ed.root).marked
        let msg :=
          if !tiles t then "FAIL tiling obligation: some inner node's bytes are not the sum of its children's"
          else if noCol t && r > reach then s!"FAIL {r} marked nodes but only {reach} nodes reach the edit"
          else if reach > bound then s!"FAIL {reach} reaching nodes exceed the proved bound {bound}"
          else "ok"
        -- `edit_candidates_total_bound` (Props.lean) decided on the real dumps: premises on the tree
        -- before the edit, counts on the real output of `ts_tree_edit`
        let prem := clean t && noCol t && tiles t && decide (s.start ≤ s.oldEnd)
        let tipsB := w + maxLa t + 2 + zeros t
        let cDesc := desc ed.root
        let cTips := tips ed.root
        let cFront := front ed.root
        let candB := 1 + tipsB * (h + 1) * maxFan t
        let msg :=
          if msg != "ok" then msg
          else if prem && cTips > tipsB then s!"FAIL {cTips} marked paths exceed the proved bound {tipsB} (tips_bound)"
          else if prem && cDesc > tipsB * (h + 1) then s!"FAIL {cDesc} descended marked nodes exceed the proved bound {tipsB * (h + 1)}"
          else if prem && cFront > candB then s!"FAIL {cFront} reuse candidates exceed the proved bound {candB}"
          else if height ed.root != h || maxFan ed.root != maxFan t then "FAIL ts_tree_edit changed the shape of the tree (edit_shape)"
          else "ok"
        (s!"tiles={if tiles t then 1 else 0} height={h} max_la={maxLa t} zero_width={zerosTotal t h} reach={reach} bound={bound} cand_prem={if prem then 1 else 0} desc={cDesc} tips={cTips} cand={cFront} tips_bound={tipsB} cand_bound={candB} fanout={maxFan t}", msg)
      | none => ("tiles=- reach=- bound=-", "skipped")
    -- `reparse_work_bound_partial` on the real re-parse: uncovered nodes of the NEW tree vs the bound
    let work := if s.size ≤ 20000 then
        let oldA := collectAddrs ed.root {}
        let sh : Tree → Bool := fun t => t.data.addr != 0 && oldA.contains t.data.addr
        let t := nw.root
        let h := height t
        let unc := uncoveredTotal sh t h
        let stray := strayTotal sh t s.start s.newEnd h
        let bound := (h + 1) * ((s.newEnd - s.start) + maxLa t + 2) + zerosTotal t h
        s!"uncovered={unc} stray={stray} work_bound={bound} work_ok={if tiles t && unc ≤ bound + stray then 1 else 0}"
      else "uncovered=- stray=- work_bound=- work_ok=-"
    let bal := balanced nw.root
    let balS := match bal.fail with | none => "ok" | some m => "FAIL " ++ m
    let j := match s.thr.get? (s.lang, s.size) with
      | none => s!"FAIL no threshold committed for {s.lang} at {s.size} tokens"
      | some thr =>
        match judgeCase thr m (g "incr_error" == 1) (g "scratch_error" == 1) (g "same_sexp" == 1) (g "lexed") with
        | some msg => "FAIL " ++ msg
        | none => if marks.startsWith "FAIL" then "FAIL marking: " ++ (marks.drop 5).toString
                  else if balS.startsWith "FAIL" then "FAIL not balanced: " ++ (balS.drop 5).toString
                  else if globS.startsWith "FAIL" then "FAIL global marking bound: " ++ (globS.drop 5).toString
                  else if (work.splitOn "work_ok=0").length > 1 then "FAIL re-parse work bound: uncovered nodes exceed bound + stray (or the new tree does not tile)" else "ok"
    (s!"{s.id} judge={j} marks={marks} lexed_ppm={m.lexedPpm} bytes_ppm={m.bytesPpm} fresh_ppm={m.freshPpm} freshvis_ppm={m.freshVisPpm} tokens={g "tokens"} lexed={g "lexed"} nodes={sh.nodes} heap={sh.heap} shared={sh.shared} vis_heap={sh.visHeap} vis_shared={sh.visShared} marked={mk.marked} max_marked_kids={mk.maxMarkedKids} depth={mk.maxDepth} chains={bal.chains} chain_max_elems={bal.maxElems} chain_max_height={bal.maxHeight} balance_slack={bal.worstSlack} {glob} {work}", some m)
  | _, _ => (s!"{s.id} judge=BADINPUT unreadable dump", none)

def growthLines (s : St) : Array String := Id.run do
  let mut out := #[]
  for key in s.keys do
    if s.noGrowth.contains key.1 then continue
    let ser := ((s.series.get? key).getD #[]).qsort (fun a b => a.1 < b.1)
    if ser.size < 2 then
      out := out.push s!"growth-{key.1}-{key.2} judge=FAIL fewer than two sizes measured"
      continue
    let (n0, m0) := ser[0]!
    let mut bad := ""
    for (n, m) in ser.toList.drop 1 do
      if !growthOk m0.lexedPpm m.lexedPpm then bad := s!"lexed fraction grows from {m0.lexedPpm} ppm at {n0} tokens to {m.lexedPpm} ppm at {n}"
      else if !growthOk m0.bytesPpm m.bytesPpm then bad := s!"requested-bytes fraction grows from {m0.bytesPpm} ppm at {n0} tokens to {m.bytesPpm} ppm at {n}"
      else if !growthOk m0.freshPpm m.freshPpm then bad := s!"fresh-node fraction grows from {m0.freshPpm} ppm at {n0} tokens to {m.freshPpm} ppm at {n}"
      else if !growthOk m0.freshVisPpm m.freshVisPpm then bad := s!"fresh visible-node fraction grows from {m0.freshVisPpm} ppm at {n0} tokens to {m.freshVisPpm} ppm at {n}"
    let last := ser[ser.size - 1]!
    out := out.push s!"growth-{key.1}-{key.2} judge={if bad.isEmpty then "ok" else "FAIL " ++ bad} sizes={ser.size} lexed_small={m0.lexedPpm} lexed_big={last.2.lexedPpm} bytes_small={m0.bytesPpm} bytes_big={last.2.bytesPpm} fresh_small={m0.freshPpm} fresh_big={last.2.freshPpm} freshvis_small={m0.freshVisPpm} freshvis_big={last.2.freshVisPpm}"
  return out

def step (s : St) (line : String) : IO St := do
  if line.isEmpty then return s
  match s.mode with
  | 1 => if line == "end" then return { s with mode := 0 } else return { s with before := s.before.push line }
  | 2 => if line == "end" then return { s with mode := 0 } else return { s with edited := s.edited.push line }
  | 3 => if line == "end" then return { s with mode := 0 } else return { s with new := s.new.push line }
  | _ =>
    match line.splitOn " " with
    | ["thr", lang, size, a, b, c, d] =>
      return { s with thr := s.thr.insert (lang, natOf size) { lexed := natOf a, bytes := natOf b, fresh := natOf c, freshVis := natOf d } }
    | ["nogrowth", lang] => return { s with noGrowth := s.noGrowth.push lang }
    | ["case", id] => return { s with id := id, before := #[], edited := #[], new := #[], meas := {} }
    | ["lang", l] => return { s with lang := l }
    | ["size", n] => return { s with size := natOf n }
    | ["where", w] => return { s with wher := w }
    | "edit" :: sb :: oeb :: neb :: _ => return { s with start := natOf sb, oldEnd := natOf oeb, newEnd := natOf neb }
    | "measure" :: kvs =>
      let m := kvs.foldl (fun (m : Std.HashMap String Nat) kv =>
        match kv.splitOn "=" with
        | [k, v] => m.insert k (natOf v)
        | _ => m) {}
      return { s with meas := m }
    | ["before"] => return { s with mode := 1 }
    | ["edited"] => return { s with mode := 2 }
    | ["new"] => return { s with mode := 3 }
    | ["run"] =>
      let (line, m) := runCase s
      IO.println line
      match m with
      | some m =>
        let key := (s.lang, s.wher)
        let keys := if s.series.contains key then s.keys else s.keys.push key
        return { s with keys := keys, series := s.series.insert key (((s.series.get? key).getD #[]).push (s.size, m)),
                        before := #[], edited := #[], new := #[] }
      | none => return s
    | ["finish"] =>
      for l in growthLines s do IO.println l
      return s
    | _ => return s

def main : IO Unit := do
  let _ ← foldLines (← IO.getStdin) ({} : St) step
