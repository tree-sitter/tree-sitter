import TsVerif.Common.IO
import TsVerif.Common.Tree
import TsVerif.C17.Judge
import TsVerif.C17.Merge
import TsVerif.C17.MergeMulti
import TsVerif.C17.Intersect
import TsVerif.C17.Locals
import TsVerif.C17.Full
import TsVerif.C17.StackSpec
import TsVerif.C17.Premises
import TsVerif.C17.Lines
/-!
Driver for C17.  Reads the case stream written by `harness/src/bin/c17` and prints one line per case:

* `run lossy`  → `<id> kind=L corr=<orig|fixed|both|NEITHER> spec=<ok|DIFF> judge=<ok|FAIL> cause=<…>`
  (`corr`: which port of `LossyUtf8` reproduces the implementation; `spec`: `lossySpec` vs
  `String::from_utf8_lossy`; `judge`: implementation = `lossySpec`);
* `run render` → `<id> kind=R corr=… wf=<0|1> judge=<ok|FAIL|panic> cause=<…>`;
* `run merge`  → `<id> kind=M corr=<ok|DIFF> wf=<ok|FAIL> capsin= capsok= ncaps= depth= err=`
  (`mergeLayer` on the layer's capture list vs the real single-layer event stream);
* `run mmerge` → `<id> kind=N corr=<ok|DIFF> fin=<0|1> wf= nlayers= maxlayerdepth= ncaps= depth= err=`
  (`mergeLayers` on all layers' raw captures vs the real multi-layer event stream, no locals);
* `run hl`     → `<id> kind=H corr=… wf=<ok|FAIL> inj=<ok|FAIL> html=<ok|FAIL|panic> loc=<ok|FAIL> cause=<…>
                  nsp=<spans> ninj=<injections> depth=<max nesting> err=<…>`.
-/
open TsVerif TsVerif.C17

structure St where
  id : String := ""
  bytes : Bytes := []
  impl : Bytes := []
  std : Bytes := []
  src : Bytes := []
  evs : List Ev := []
  crh : Option Nat := none
  html : Option Bytes := some []
  lines : List Nat := []
  err : String := "-"
  capirc : String := "-"
  attrMode : Nat := 0
  fixFinal : Bool := true
  fixTrunc : Bool := true
  initInsert : Bool := false
  fixCRCR : Bool := false
  langof : List Nat := []
  injs : List Inj := []
  locals : List (Nat × Nat × Nat × Nat) := []
  caps : List Cap := []
  defs : Array LayerDef := #[]
  top : List Nat := []
  lcaps : List LCap := []
  fdefs : Array Full.FDef := #[]
  fnews : Array Full.NewEntry := #[]
  irTotal : Nat := 0
  irBad : Nat := 0
  irReal : Nat := 0

def unhx (s : String) : Bytes := if s == "-" then [] else unhexBytes s

def parseEv (t : String) : Option Ev :=
  if t == "E" then some .stop
  else if t.startsWith "H" then some (.start (natOf (t.drop 1).toString))
  else if t.startsWith "S" then
    match ((t.drop 1).toString).splitOn "-" with
    | [a, b] => some (.source (natOf a) (natOf b))
    | _ => none
  else none

def parseEvs (s : String) : List Ev :=
  if s == "-" then [] else (s.splitOn ",").filterMap parseEv

def parseNats (s : String) : List Nat :=
  if s == "-" then [] else (s.splitOn ",").map natOf

def parseRanges (s : String) : List (Nat × Nat) :=
  (s.splitOn ",").filterMap fun t => match t.splitOn "-" with
    | [a, b] => some (natOf a, natOf b)
    | _ => none

def parseQuads (s : String) : List (Nat × Nat × Nat × Nat) :=
  (s.splitOn ",").filterMap fun t => match t.splitOn "-" with
    | [a, b, c, d] => some (natOf a, natOf b, natOf c, natOf d)
    | _ => none

/-- The attribute callbacks of the harness (`attr_bytes`): 0 `class=c<h>`, 1 with quotes and `&`,
2 empty, 3 contains `>` (outside the contract `hattr`). -/
def attrOfMode (mode h : Nat) : Bytes :=
  let str : String :=
    if mode == 1 then "class=\"h" ++ toString h ++ "\" data-q='a&b'"
    else if mode == 2 then ""
    else if mode == 3 then "x>y" ++ toString h
    else "class=c" ++ toString h
  str.toUTF8.toList.map (·.toNat)

/-- The port of `LossyUtf8` that the probed implementation follows (`probe lossy` line of the
explorer: one bit per repaired defect). -/
def decOf (s : St) : Bytes → Bytes := lossyV s.fixFinal s.fixTrunc

def runLossy (s : St) : String :=
  let m := decide (decOf s s.bytes = s.impl)
  let spec := lossySpec s.bytes
  let specOk := decide (spec = s.std)
  let jOk := decide (s.impl = spec)
  let cause := if jOk then "-" else if m && tailLoss s.bytes then
      (if endsTruncated s.bytes then "lossy-chunk-end-truncated" else "lossy-chunk-end-invalid") else "other"
  s!"{s.id} kind=L corr={if m then "ok" else "DIFF"} spec={if specOk then "ok" else "DIFF"} judge={if jOk then "ok" else "FAIL"} cause={cause} loss={tailLoss s.bytes}"

def chunksOf (evs : List Ev) (src : Bytes) : List Bytes :=
  evs.filterMap fun | .source a b => some (sliceT src a b) | _ => none

/-- Compare the model renderer (with the probed decoder) with the implementation's html and line offsets. -/
def corrRender (s : St) : String × Bool :=
  let cfg : RCfg := { attr := attrOfMode s.attrMode, crh := s.crh, crcr := s.fixCRCR }
  match s.html with
  | none =>
    (if (render lossy cfg s.evs s.src).isNone then "ok" else "DIFF-model-does-not-panic", true)
  | some html =>
    let same (r : Option RState) : Bool := match r with
      | some st => decide (st.html = html) && decide (st.lineOffsets = s.lines)
      | none => false
    (if same (render (decOf s) cfg s.evs s.src) then "ok" else "DIFF", false)

def htmlJudge (s : St) : String × String :=
  match s.html with
  | none => ("panic", "-")
  | some html =>
    if judgeHtml lossySpec s.evs s.src html then ("ok", "-")
    else
      let chunks := chunksOf s.evs s.src
      let cause :=
        if judgeHtml (decOf s) s.evs s.src html && chunks.any tailLoss then
          (if chunks.any endsTruncated then "lossy-chunk-end-truncated" else "lossy-chunk-end-invalid")
        else "other"
      ("FAIL", cause)

/-- The per-line judge on the real html + `line_offsets`; also: does the decoded text contain CRLF,
is a carriage-return highlight configured, number of lines. -/
def linesJudge (s : St) (balanced : Bool) : String :=
  match s.html with
  | none => "lines=panic crlf=0 crhset=0 nlines=0"
  | some html =>
    let cfg : RCfg := { attr := attrOfMode s.attrMode, crh := s.crh, crcr := s.fixCRCR }
    let j := if s.attrMode == 3 then "skip" else judgeLines lossySpec cfg balanced s.evs s.src html s.lines
    let d := decoded lossySpec s.evs s.src
    let rec hasCRLF : Bytes → Bool
      | 13 :: 10 :: _ => true
      | _ :: r => hasCRLF r
      | [] => false
    s!"lines={j} crlf={if hasCRLF d then 1 else 0} cr={if d.any (· == 13) then 1 else 0} crhset={if s.crh.isSome then 1 else 0} nlines={s.lines.length}"

def runRender (s : St) : String :=
  let (corr, _) := corrRender s
  -- an attribute callback that writes `>` is outside the renderer's contract: correspondence only
  let (j, cause) := if s.attrMode == 3 then ("skip", "-") else htmlJudge s
  let wf := wellFormed s.src.length s.evs
  s!"{s.id} kind=R attr={s.attrMode} corr={corr} wf={if wf then 1 else 0} judge={j} cause={cause} capirc={s.capirc} {linesJudge s wf}"

def maxDepth (evs : List Ev) : Nat :=
  (evs.foldl (fun (p : Nat × Nat) ev => match ev with
    | .start _ => (p.1 + 1, max p.2 (p.1 + 1))
    | .stop => (p.1 - 1, p.2)
    | _ => p) (0, 0)).2

def runHl (s : St) : String :=
  let (corr, _) := corrRender s
  let (j, cause) := htmlJudge s
  let wf := judgeEvents s.src.length s.evs
  let langOf := fun h => s.langof.getD h 0
  let inj := judgeInjected langOf s.injs s.evs
  let loc := judgeLocals s.locals s.evs
  let ok (b : Bool) := if b then "ok" else "FAIL"
  -- is the chunk-wise normalisation also the normalisation of the whole source? (cf. `normalize_whole`)
  let whole := decide (textOf lossySpec s.evs s.src = (lossySpec s.src).filter (· ≠ 13))
  let bnd := (chunksOf s.evs s.src).all fun c => !endsTruncated c
  s!"{s.id} kind=H whole={if whole then 1 else 0} charbnd={if bnd then 1 else 0} corr={corr} wf={ok wf} inj={ok inj} html={j} loc={ok loc} cause={cause} nsp={(spans s.evs).length} ninj={s.injs.length} nloc={s.locals.length} depth={maxDepth s.evs} err={s.err} {linesJudge s wf}"

def parseCaps (s : String) : List Cap :=
  if s == "-" then [] else (s.splitOn ",").filterMap fun t => match t.splitOn "-" with
    | [a, b, h] => some { s := natOf a, e := natOf b, h := if h == "n" then none else some (natOf h) }
    | _ => none

def parseRCaps (s : String) : List RCap :=
  if s == "-" then [] else (s.splitOn ",").filterMap fun t => match t.splitOn "-" with
    | [a, b, nd, k] =>
      let kind : RKind :=
        if k == "n" then .hl none
        else if k.startsWith "I" then
          let r := (k.drop 1).toString
          .inj (if r == "" then [] else (r.splitOn "+").map natOf)
        else .hl (some (natOf k))
      some { s := natOf a, e := natOf b, node := natOf nd, kind := kind }
    | _ => none

def parseRg (t : String) : Option Rg :=
  match t.splitOn "-" with
  | [a, b] => some (natOf a, natOf b)
  | _ => none

def parseRgs (s : String) : List Rg := if s == "-" then [] else (s.splitOn ",").filterMap parseRg

def parseINodes (s : String) : List INode :=
  (s.splitOn ";").filterMap fun t =>
    match (t.splitOn ":").filterMap parseRg with
    | nd :: ch => some { s := nd.1, e := nd.2, children := ch }
    | [] => none

/-- one `ir` line: does the port of `intersect_ranges` give the ranges the harness used? -/
def irEqual (incl parents nodes result : String) : Bool :=
  decide (intersectRanges (parseRgs parents) (parseINodes nodes) (incl == "1") = parseRgs result)

def parseLKind (k : String) : LKind :=
  let body := (k.drop 1).toString
  let fs := body.splitOn ":"
  if k.startsWith "S" then .scope (body == "1")
  else if k.startsWith "D" then
    match fs with
    | [a, b, c] => .defn (natOf a) (natOf b) (c == "1")
    | _ => .other
  else if k.startsWith "R" then
    match fs with
    | [a, c] => .ref (natOf a) (c == "1")
    | _ => .other
  else if k.startsWith "H" then
    match fs with
    | [h, nl] => .hl (if h == "n" then none else some (natOf h)) (nl == "1")
    | _ => .other
  else .other

def parseLCaps (s : String) : List LCap :=
  if s == "-" then [] else (s.splitOn ",").filterMap fun t => match t.splitOn "-" with
    | [a, b, nd, k] => some { s := natOf a, e := natOf b, node := natOf nd, kind := parseLKind k }
    | _ => none

/-- `run lmerge`: the locals model (one layer) against the real event stream. -/
def runLMerge (s : St) : String :=
  let n := s.src.length
  let m := mergeLocals n s.lcaps
  let corr := if decide (m = s.evs) then "ok" else "DIFF"
  let wf := judgeEvents n s.evs
  let nref := (s.lcaps.filter fun c => match c.kind with | .ref _ _ => true | _ => false).length
  let ndef := (s.lcaps.filter fun c => match c.kind with | .defn _ _ _ => true | _ => false).length
  s!"{s.id} kind=K corr={corr} wf={if wf then "ok" else "FAIL"} ncaps={s.lcaps.length} ndef={ndef} nref={nref} depth={maxDepth s.evs} err={s.err}"

def parseTilde (t : String) : Option Rg :=
  match t.splitOn "~" with
  | [a, b] => some (natOf a, natOf b)
  | _ => none

def parseIProp (t : String) : Full.IProp :=
  if t.startsWith "L" then .lang (natOf (t.drop 1).toString)
  else if t == "S" then .self
  else if t == "P" then .parent
  else if t == "C" then .inclChildren
  else .other

def parseFKind (k : String) : Full.FKind :=
  if k.startsWith "I" then
    match ((k.drop 1).toString).splitOn ";" with
    | [lc, ct, pr] =>
      let content : Option INode :=
        if ct == "n" then none else
          match (ct.splitOn ":").filterMap parseTilde with
          | nd :: ch => some { s := nd.1, e := nd.2, children := ch }
          | [] => none
      .inj { langCap := if lc == "n" then none else some (natOf lc), content := content,
             props := if pr == "_" then [] else (pr.splitOn ".").map parseIProp }
    | _ => .other
  else
    match parseLKind k with
    | .scope i => .scope i
    | .defn a b c => .defn a b c
    | .ref a b => .ref a b
    | .hl h nl => .hl h nl
    | .other => .other

def parseFCaps (s : String) : List Full.FCap :=
  if s == "-" then [] else (s.splitOn ",").filterMap fun t => match t.splitOn "-" with
    | [a, b, nd, k] => some { s := natOf a, e := natOf b, node := natOf nd, kind := parseFKind k }
    | _ => none

/-- `run fmerge`: the end-to-end model (layers + locals + model-driven injection) vs the real stream. -/
def runFMerge (s : St) (root : Nat) (top : List Nat) : String :=
  let n := s.src.length
  let cx : Full.Ctx := { defs := s.fdefs.toList, news := s.fnews.toList, nKnown := 3, rootLang := root, initInsert := s.initInsert }
  -- is the initial layer vector of the UNCHANGED set-up (one `sort_layers`) ordered by `sort_key`?
  let init0 := Full.sortLayers (Full.initLayers { cx with initInsert := false } top)
  let keys := init0.map Full.sortKey
  let rec ordered : List (Option Key) → Bool
    | some a :: some b :: r => !keyLt b a && ordered (some b :: r)
    | [some _] => true
    | [] => true
    | _ => false
  let initSorted := ordered keys
  let stk := judgeStacks cx.defs s.evs
  let cause := if stk.startsWith "FAIL" && !initSorted then "initial-layers-unsorted" else "-"
  let (m, fin) := Full.mergeFull cx top n
  let corr := if decide (m = s.evs) then "ok" else "DIFF"
  let wf := judgeEvents n s.evs
  let ninj := (cx.defs.map fun d => (d.caps.filter fun c => match c.kind with | .inj _ => true | _ => false).length).sum
  let nloc := (cx.defs.map fun d => (d.caps.filter fun c => match c.kind with | .ref _ _ => true | .defn _ _ _ => true | _ => false).length).sum
  s!"{s.id} kind=F corr={corr} defsin={if Full.defsIn n cx then 1 else 0} refsup={if Full.refsUp cx then 1 else 0} fin={if fin then 1 else 0} wf={if wf then "ok" else "FAIL"} stack={stk} cause={cause} initsorted={if initSorted then 1 else 0} nlayers={cx.defs.length} ninj={ninj} nloc={nloc} depth={maxDepth s.evs} err={s.err}"

/-- Bool version of `DefsNice` (hypothesis of `merge_events_in_place`), evaluated on the real layer data. -/
def defsNiceB (defs : List LayerDef) : Bool :=
  (defs.all fun d => capsOkR d.caps) &&
  defs.all fun d => d.caps.all fun c =>
    match c.kind with
    | .inj ids => ids.all fun j => match defs[j]? with
      | some d' => d'.caps.all fun c' => c.s ≤ c'.s
      | none => true
    | _ => true

/-- The whole run of the repaired model with the global stack of open span ends kept by stack
discipline (`ghostStep`): true iff no End ever finds a wrong top and the stack is empty at the end. -/
def runGhost (defs : List LayerDef) (n : Nat) : Nat → MSt → List Nat → Bool
  | 0, _, _ => false
  | f + 1, st, G =>
    match stepM defs n st with
    | .done _ => G.isEmpty
    | .more evs st' =>
      match ghostStep st evs G with
      | none => false
      | some G' => runGhost defs n f st' G'

/-- `run mmerge`: the multi-layer merge model against the real event stream. -/
def runMMerge (s : St) : String :=
  let n := s.src.length
  let defs := s.defs.toList
  -- the set-up of `Highlighter::highlight` that the probe of the real code found
  let (m, fin) := if s.initInsert then mergeLayersR defs s.top n else mergeLayers defs s.top n
  let corr := if decide (m = s.evs) then "ok" else "DIFF"
  let wf := judgeEvents n s.evs
  let maxd := defs.foldl (fun a d => max a d.depth) 0
  s!"{s.id} kind=N corr={corr} defsin={if defsIn n defs then 1 else 0} refsup={if refsUp defs then 1 else 0} fin={if fin then 1 else 0} wf={if wf then "ok" else "FAIL"} nlayers={defs.length} maxlayerdepth={maxd} defsnice={if defsNiceB defs then 1 else 0} static={if noInj defs then 1 else 0} crossnice={if crossNice defs then 1 else 0} crosslam={if crossLam defs then 1 else 0} staticnice={if staticNice defs then 1 else 0} defsniced={if defsNiceD defs then 1 else 0} closure={if closureNodup defs s.top then 1 else 0} injtie={if injTieOkP defs then 1 else 0} dynnice={if dynNice defs s.top then 1 else 0} ghost={if runGhost defs n (sumW (layerW defs) (initLayersR defs s.top) + 1) { layers := initLayersR defs s.top } [] then 1 else 0} ncaps={totalCaps defs} depth={maxDepth s.evs} ir={s.irTotal} irreal={s.irReal} irbad={s.irBad} err={s.err}"

/-- `run merge`: the single-layer merge model against the real event stream. -/
def runMerge (s : St) : String :=
  let n := s.src.length
  let m := mergeLayer n s.caps
  let corr := if decide (m = s.evs) then "ok" else "DIFF"
  let wf := judgeEvents n s.evs
  s!"{s.id} kind=M corr={corr} wf={if wf then "ok" else "FAIL"} capsin={capsIn n s.caps} capsok={capsOk n s.caps} ncaps={s.caps.length} depth={maxDepth s.evs} err={s.err}"

def step (s : St) (line : String) : IO St := do
  match line.splitOn " " with
  | ["case", id] => return { id := id, fixFinal := s.fixFinal, fixTrunc := s.fixTrunc, initInsert := s.initInsert, fixCRCR := s.fixCRCR }
  | ["probe", "crcr", b] =>
    IO.println s!"probe kind=X crcr={b}"
    return { s with fixCRCR := b == "1" }
  | ["probe", "initorder", b] =>
    IO.println s!"probe kind=W initinsert={b}"
    return { s with initInsert := b == "1" }
  | ["probe", "lossy", ff, ft, raw] =>
    -- one probe per repaired defect: 1 = the fix is in effect, 0 = the old behaviour, anything else = neither
    IO.println s!"probe kind=V fixfinal={ff} fixtrunc={ft} raw={raw}"
    return { s with fixFinal := ff != "0", fixTrunc := ft != "0" }
  | ["bytes", h] => return { s with bytes := unhx h }
  | ["impl", h] => return { s with impl := unhx h }
  | ["std", h] => return { s with std := unhx h }
  | ["src", h] => return { s with src := unhx h }
  | ["evs", e] => return { s with evs := parseEvs e }
  | ["crh", c] => return { s with crh := if c == "-" then none else some (natOf c) }
  | ["html", h] => return { s with html := if h == "PANIC" then none else some (unhx h) }
  | ["lines", l] => return { s with lines := parseNats l }
  | ["error", e] => return { s with err := e }
  | ["langof", l] => return { s with langof := parseNats l }
  | ["inj", l, r] => return { s with injs := s.injs ++ [{ lang := natOf l, ranges := parseRanges r }] }
  | ["locals", p] => return { s with locals := parseQuads p }
  | ["attr", m] => return { s with attrMode := natOf m }
  | ["outcome", o, expect] =>
    -- a step of a history run with a cancellation flag
    let n := s.src.length
    let okStream := if o == "completed" then judgeEvents n s.evs else judgePrefix n s.evs
    let ignored := expect.startsWith "k" && o == "completed" && s.evs.length > natOf (expect.drop 1).toString + 300
    let okOutcome := (o == "cancelled" || o == "completed") && !(expect == "cancel" && o != "cancelled") && !ignored
    let clause := if !okOutcome then "cancel-outcome" else if !okStream then (if o == "completed" then "events-wellformed" else "cancelled-prefix") else "-"
    IO.println s!"{s.id} kind=P outcome={o} expect={expect} judge={if okStream && okOutcome then "ok" else "FAIL"} clause={clause} nev={s.evs.length}"
    return s
  | ["capirc", c] => return { s with capirc := c }
  | ["capierr", name, got, want] =>
    IO.println s!"{s.id} kind=E name={name} got={got} want={want} judge={if got == want then "ok" else "FAIL"}"
    return s
  | ["run", "lossy"] => IO.println (runLossy s); return s
  | ["run", "render"] => IO.println (runRender s); return s
  | ["run", "hl"] => IO.println (runHl s); return s
  | ["caps", c] => return { s with caps := parseCaps c }
  | ["run", "merge"] => IO.println (runMerge s); return s
  | ["layer", _, d, c] => return { s with defs := s.defs.push { depth := natOf d, caps := parseRCaps c } }
  | ["top", t] => return { s with top := parseNats t }
  | ["lcaps", c] => return { s with lcaps := parseLCaps c }
  | ["fdef", _, lang, d, rs, c] =>
    return { s with fdefs := s.fdefs.push { lang := natOf lang, depth := natOf d, ranges := parseRgs rs, caps := parseFCaps c } }
  | ["fnew", lang, d, rs, ids] =>
    return { s with fnews := s.fnews.push { lang := natOf lang, depth := natOf d, ranges := parseRgs rs, ids := parseNats ids } }
  | ["ftop", root, t] => IO.println (runFMerge s (natOf root) (parseNats t)); return s
  | ["run", "lmerge"] => IO.println (runLMerge s); return s
  | ["ir", incl, ps, ns, res, real] =>
    -- with the re-export hook: the REAL private intersect_ranges' answer as well
    let ok := irEqual incl ps ns res && irEqual incl ps ns real
    return { s with irTotal := s.irTotal + 1, irReal := s.irReal + 1, irBad := s.irBad + (if ok then 0 else 1) }
  | ["ir", incl, ps, ns, res] =>
    return { s with irTotal := s.irTotal + 1, irBad := s.irBad + (if irEqual incl ps ns res then 0 else 1) }
  | ["run", "mmerge"] => IO.println (runMMerge s); return s
  | _ => return s

def main : IO Unit := do
  let _ ← foldLines (← IO.getStdin) ({} : St) step
